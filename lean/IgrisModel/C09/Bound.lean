/-
  C09 — the 16-bit count as an explicit hypothesis: `WF` split into
  `Typed` (v is a value of the C++ type: shape, scalar widths, map order — no
  length limit) and `Counts16` (every string/buffer and every container, at every
  nesting level, has at most 65535 bytes/elements).  With it the witness map `bigMap`
  that leaves the bound, and the recursive wire `layout` that `encodeA` equals inside it.
-/
import IgrisModel.C09.Order
namespace Igris.C09
open Igris.Proto

mutual
/-- `v` is a value of C++ type `ty`, whatever its size: scalars fit their width,
containers have the right shape, map entries are in strict key order -/
def Typed : Ty → Val → Prop
  | .sc k, v => ∃ n, v = .sc n ∧ n < 2 ^ (8 * k.width)
  | .str, v => ∃ bs, v = .bytes bs
  | .buf, v => ∃ bs, v = .bytes bs
  | .vec t, v => ∃ vs, v = .list vs ∧ ∀ x ∈ vs, Typed t x
  | .pair a b, v => ∃ x y, v = .list [x, y] ∧ Typed a x ∧ Typed b y
  | .tuple ts, v => ∃ vs, v = .list vs ∧ Typeds ts vs
  | .map k t, v => ∃ kvs, v = .list kvs ∧
      (∀ kv ∈ kvs, ∃ x y, kv = .list [x, y] ∧ Typed k x ∧ Typed t y) ∧ kvs.Pairwise (keyOrdered k)
  | .struct fs, v => ∃ vs, v = .list vs ∧ Typeds fs vs
def Typeds : List Ty → List Val → Prop
  | [], vs => vs = []
  | t :: ts, vs => ∃ x xs, vs = x :: xs ∧ Typed t x ∧ Typeds ts xs
end

mutual
/-- THE 16-BIT BOUND: every string / buffer inside `v` has at most 65535 bytes and
every vector / map inside `v` at most 65535 elements (at every nesting level) -/
def Counts16 : Ty → Val → Prop
  | .sc _, _ => True
  | .str, v => v.bs.length ≤ 65535
  | .buf, v => v.bs.length ≤ 65535
  | .vec t, v => v.items.length ≤ 65535 ∧ ∀ x ∈ v.items, Counts16 t x
  | .pair a b, v => Counts16 a v.fst ∧ Counts16 b v.snd
  | .tuple ts, v => Counts16s ts v.items
  | .map k t, v => v.items.length ≤ 65535 ∧ ∀ kv ∈ v.items, Counts16 k kv.fst ∧ Counts16 t kv.snd
  | .struct fs, v => Counts16s fs v.items
def Counts16s : List Ty → List Val → Prop
  | [], _ => True
  | t :: ts, vs => Counts16 t (vs.headD default) ∧ Counts16s ts vs.tail
end

theorem counts16_vec_length {t : Ty} {vs : List Val} (h : Counts16 (.vec t) (.list vs)) : vs.length ≤ 65535 := by
  simp only [Counts16] at h; exact h.1

theorem counts16_map_length {k t : Ty} {kvs : List Val} (h : Counts16 (.map k t) (.list kvs)) :
    kvs.length ≤ 65535 := by
  simp only [Counts16] at h; exact h.1

mutual
/- in each case the induction hypothesis rewrites `WF` of the components; what is left regroups a conjunction -/
theorem wf_iff : ∀ (ty : Ty) (v : Val), WF ty v ↔ Typed ty v ∧ Counts16 ty v
  | .sc k, v => by simp only [WF, Typed, Counts16, and_true]
  | .str, v | .buf, v => by
    simp only [WF, Typed, Counts16]
    constructor
    · rintro ⟨bs, rfl, h⟩; exact ⟨⟨bs, rfl⟩, h⟩
    · rintro ⟨⟨bs, rfl⟩, h⟩; exact ⟨bs, rfl, h⟩
  | .vec t, v => by
    simp only [WF, Typed, Counts16, wf_iff t]
    constructor
    · rintro ⟨vs, rfl, hl, h⟩; exact ⟨⟨vs, rfl, fun x hx => (h x hx).1⟩, hl, fun x hx => (h x hx).2⟩
    · rintro ⟨⟨vs, rfl, h⟩, hl, hc⟩; exact ⟨vs, rfl, hl, fun x hx => ⟨h x hx, hc x hx⟩⟩
  | .pair a b, v => by
    simp only [WF, Typed, Counts16, wf_iff a, wf_iff b]
    constructor
    · rintro ⟨x, y, rfl, ⟨hx, cx⟩, hy, cy⟩; exact ⟨⟨x, y, rfl, hx, hy⟩, cx, cy⟩
    · rintro ⟨⟨x, y, rfl, hx, hy⟩, cx, cy⟩; exact ⟨x, y, rfl, ⟨hx, cx⟩, hy, cy⟩
  | .tuple ts, v | .struct ts, v => by
    simp only [WF, Typed, Counts16, wfs_iff ts]
    constructor
    · rintro ⟨vs, rfl, h, c⟩; exact ⟨⟨vs, rfl, h⟩, c⟩
    · rintro ⟨⟨vs, rfl, h⟩, c⟩; exact ⟨vs, rfl, h, c⟩
  | .map k t, v => by
    simp only [WF, Typed, Counts16, wf_iff k, wf_iff t]
    constructor
    · rintro ⟨kvs, rfl, hl, h, hord⟩
      refine ⟨⟨kvs, rfl, fun kv hkv => ?_, hord⟩, hl, fun kv hkv => ?_⟩
      · obtain ⟨x, y, rfl, hx, hy⟩ := h kv hkv; exact ⟨x, y, rfl, hx.1, hy.1⟩
      · obtain ⟨x, y, rfl, hx, hy⟩ := h kv hkv; exact ⟨hx.2, hy.2⟩
    · rintro ⟨⟨kvs, rfl, h, hord⟩, hl, hc⟩
      refine ⟨kvs, rfl, hl, fun kv hkv => ?_, hord⟩
      obtain ⟨x, y, rfl, hx, hy⟩ := h kv hkv
      exact ⟨x, y, rfl, ⟨hx, (hc _ hkv).1⟩, hy, (hc _ hkv).2⟩
theorem wfs_iff : ∀ (ts : List Ty) (vs : List Val), WFs ts vs ↔ Typeds ts vs ∧ Counts16s ts vs
  | [], vs => by simp only [WFs, Typeds, Counts16s, and_true]
  | t :: ts, vs => by
    simp only [WFs, Typeds, Counts16s, wf_iff t, wfs_iff ts]
    constructor
    · rintro ⟨x, xs, rfl, ⟨hx, cx⟩, hxs, cxs⟩; exact ⟨⟨x, xs, rfl, hx, hxs⟩, cx, cxs⟩
    · rintro ⟨⟨x, xs, rfl, hx, hxs⟩, cx, cxs⟩; exact ⟨x, xs, rfl, ⟨hx, cx⟩, hxs, cxs⟩
end

theorem wf_of_typed (ty : Ty) (v : Val) (h : Typed ty v) (c : Counts16 ty v) : WF ty v := (wf_iff ty v).2 ⟨h, c⟩

theorem wfs_of_typed : ∀ (ts : List Ty) (vs : List Val), Typeds ts vs → Counts16s ts vs → WFs ts vs :=
  fun ts vs h c => (wfs_iff ts vs).2 ⟨h, c⟩

theorem typed_of_wf (ty : Ty) (v : Val) (h : WF ty v) : Typed ty v := ((wf_iff ty v).1 h).1

theorem typeds_of_wfs : ∀ (ts : List Ty) (vs : List Val), WFs ts vs → Typeds ts vs ∧ Counts16s ts vs :=
  fun ts vs => (wfs_iff ts vs).1

/-! ### 65536 entries with `uint16_t` keys 0, 1, …, 65535 -/

def bigMap (n : Nat) : List Val := (List.range n).map fun i => Val.list [.sc i, .sc 0]

theorem bigMap_length (n : Nat) : (bigMap n).length = n := by simp [bigMap]

theorem bigMap_entries (n : Nat) (hn : n ≤ 65536) :
    ∀ kv ∈ bigMap n, ∃ x y, kv = .list [x, y] ∧ WF (.sc .u16) x ∧ WF (.sc .u8) y := by
  intro kv hkv
  simp only [bigMap, List.mem_map, List.mem_range] at hkv
  obtain ⟨i, hi, rfl⟩ := hkv
  refine ⟨.sc i, .sc 0, rfl, ?_, ?_⟩
  · simp only [WF]; exact ⟨i, rfl, by simp [Sc.width]; omega⟩
  · simp only [WF]; exact ⟨0, rfl, by simp [Sc.width]⟩

theorem bigMap_ordered (n : Nat) : (bigMap n).Pairwise (keyOrdered (.sc .u16)) := by
  unfold bigMap
  rw [List.pairwise_map]
  refine List.Pairwise.imp ?_ (List.pairwise_lt_range (n := n))
  intro i j hij0
  have hij : i < j := hij0
  have h1 : keyLt (.sc .u16) (Val.sc i) (Val.sc j) = true := by
    simp [keyLt, scLt, Sc.isFloat, Sc.signed, Val.bits, hij]
  have h2 : keyLt (.sc .u16) (Val.sc j) (Val.sc i) = false := by
    simp only [keyLt, scLt, Sc.isFloat, Sc.signed, Val.bits, Bool.false_eq_true, if_false]
    exact decide_eq_false (by omega)
  exact ⟨h1, h2, by simp [keyClean, isNaN], by simp [keyClean, isNaN]⟩

mutual
/-- THE DOCUMENTED WIRE FORMAT, written without reference to the code (no
`uint16_t` conversions, no `dump_data`): scalars as `sizeof` little-endian
bytes; string/buffer = 2-byte length, then the bytes; vector = 2-byte count,
then the elements; map = 2-byte count, then key, value, key, value …; pair /
tuple / user type = the members in declaration order -/
def layout : Ty → Val → List Byte
  | .sc k, v => leBytes k.width v.bits
  | .str, v => leBytes 2 v.bs.length ++ v.bs
  | .buf, v => leBytes 2 v.bs.length ++ v.bs
  | .vec t, v => leBytes 2 v.items.length ++ v.items.flatMap (layout t)
  | .pair a b, v => layout a v.fst ++ layout b v.snd
  | .tuple ts, v => layoutFields ts v.items
  | .map k t, v => leBytes 2 v.items.length ++ v.items.flatMap (fun kv => layout k kv.fst ++ layout t kv.snd)
  | .struct fs, v => layoutFields fs v.items
def layoutFields : List Ty → List Val → List Byte
  | [], _ => []
  | t :: ts, vs => layout t (vs.headD default) ++ layoutFields ts vs.tail
end

mutual
/-- the conversions to `uint16_t` in the writer are the identity on a value inside the 16-bit bound; nothing
else separates `encodeA` from the layout -/
theorem encodeA_eq_layout_of_counts16 : ∀ (ty : Ty) (v : Val), Counts16 ty v → encodeA ty v = layout ty v
  | .sc k, v, _ => by simp [encodeA, layout, dumpScalar_eq]
  | .str, v, h | .buf, v, h => by
    simp only [Counts16] at h; simp [encodeA, layout, dumpBuffer_eq _ h]
  | .vec t, v, h => by
    simp only [Counts16] at h
    have := flatMap_congr_mem (encodeA t) (layout t) v.items
      (fun x hx => encodeA_eq_layout_of_counts16 t x (h.2 x hx))
    simp [encodeA, layout, dumpScalar_eq, u16_of_le h.1, Sc.width, this]
  | .pair a b, v, h => by
    simp only [Counts16] at h
    simp [encodeA, layout, encodeA_eq_layout_of_counts16 a _ h.1, encodeA_eq_layout_of_counts16 b _ h.2]
  | .tuple ts, v, h | .struct ts, v, h => by
    simp only [Counts16] at h; simp [encodeA, layout, encodeFieldsA_eq_layout_of_counts16 ts _ h]
  | .map k t, v, h => by
    simp only [Counts16] at h
    have := flatMap_congr_mem (fun kv => encodeA k kv.fst ++ encodeA t kv.snd)
      (fun kv => layout k kv.fst ++ layout t kv.snd) v.items (fun kv hkv => by
        simp only [encodeA_eq_layout_of_counts16 k _ (h.2 kv hkv).1,
          encodeA_eq_layout_of_counts16 t _ (h.2 kv hkv).2])
    simp [encodeA, layout, dumpScalar_eq, u16_of_le h.1, Sc.width, this]
theorem encodeFieldsA_eq_layout_of_counts16 : ∀ (ts : List Ty) (vs : List Val), Counts16s ts vs →
    encodeFieldsA ts vs = layoutFields ts vs
  | [], _, _ => by simp [encodeFieldsA, layoutFields]
  | t :: ts, vs, h => by
    simp only [Counts16s] at h
    simp only [encodeFieldsA, layoutFields, encodeA_eq_layout_of_counts16 t _ h.1,
      encodeFieldsA_eq_layout_of_counts16 ts _ h.2]
end

theorem encodeA_eq_layout (ty : Ty) (v : Val) (h : WF ty v) : encodeA ty v = layout ty v :=
  encodeA_eq_layout_of_counts16 ty v ((wf_iff ty v).1 h).2

theorem encodeFieldsA_eq_layout : ∀ (ts : List Ty) (vs : List Val), WFs ts vs →
    encodeFieldsA ts vs = layoutFields ts vs :=
  fun ts vs h => encodeFieldsA_eq_layout_of_counts16 ts vs ((wfs_iff ts vs).1 h).2

end Igris.C09
