/-
  C09 — the bounded readers.
    `decodeA` = strict reader (the archive reader before the fix), `decodeB` = archive
    reader after `fix: binary_buffer_reader never reads beyond _end`, `decodeS` = storage
    reader; the first two are the same composition over different `load` primitives
    (equations in Lemmas.lean), so each relation between them (`Safe`, `Mono`, `ZeroExt`)
    is proved for `pureD`, `bindD` and the loads, and follows for every type by `readers_rel`.
-/
import IgrisModel.C09.Framing
namespace Igris.C09
open Igris.Proto

/-! ### Safe: never faults, ends inside the input -/

theorem safe_loadDataB (sz : Nat) : Safe (fun rem => loadDataB rem sz) := safe_loadS (u16 sz)

theorem safe_view (n : Nat) : Safe (fun rem : List Byte => some (rem.take (u16 n), rem.drop (u16 n))) :=
  safe_drop (fun rem => rem.take (u16 n)) (u16 n)

theorem safe_decodeB (ty : Ty) : Safe (decodeB ty) :=
  readers_rel closed_safe safe_loadDataB ty (Or.inr safe_view)

theorem safe_decodeFieldsB : ∀ (ts : List Ty), Safe (decodeFieldsB ts) := fun ts =>
  readersFields_rel closed_safe safe_loadDataB ts (Or.inr safe_view)

/-! ### Mono: where the strict reader succeeds, the bounded reader returns the same -/

def Mono {α : Type} (f g : Dec α) : Prop := ∀ rem x r, f rem = some (x, r) → g rem = some (x, r)

theorem closed_mono : Closed @Mono where
  pure := fun _ _ _ _ e => e
  bind := fun h1 h2 rem b r e => by
    obtain ⟨a, r1, e1, e2⟩ := bindD_some e
    rw [bindD_intro (h1 _ _ _ e1)]; exact h2 a _ _ _ e2

theorem mono_loadData (sz : Nat) : Mono (fun rem => loadData rem sz) (fun rem => loadDataB rem sz) := by
  intro rem bs r e
  obtain ⟨hn, rfl, rfl⟩ := readN_some _ _ _ _ e
  show loadS rem (u16 sz) = _
  rw [loadS_eq]
  have : u16 sz - rem.length = 0 := by omega
  simp [this]

theorem mono_view (n : Nat) :
    Mono (fun rem => loadData rem n) (fun rem : List Byte => some (rem.take (u16 n), rem.drop (u16 n))) := by
  intro rem bs r e
  obtain ⟨_, rfl, rfl⟩ := readN_some _ _ _ _ e
  rfl

theorem mono_decode (ty : Ty) : Mono (decodeA ty) (decodeB ty) :=
  readers_rel closed_mono mono_loadData ty (Or.inr mono_view)

theorem mono_decodeFields (ts : List Ty) : Mono (decodeFieldsA ts) (decodeFieldsB ts) :=
  readersFields_rel closed_mono mono_loadData ts (Or.inr mono_view)

/-! ### ZeroExt: the bounded decode is the strict decode of the zero-extended input -/

def zeros (n : Nat) : List Byte := List.replicate n 0#8

theorem zeros_add (a b : Nat) : zeros a ++ zeros b = zeros (a + b) := by
  simp [zeros, List.replicate_append_replicate]

/-- `g` (bounded) on `rem` returns what `f` (strict) returns on `rem` followed by
`pad` zero bytes, for a suitable `pad` that is 0 unless `g` used up `rem`; whatever
follows (`y`) is left in the stream by `f` -/
def ZeroExt {α : Type} (f g : Dec α) : Prop :=
  ∀ rem v r, g rem = some (v, r) → r.length ≤ rem.length ∧
    ∃ pad, (pad = 0 ∨ r = []) ∧ ∀ y, f (rem ++ zeros pad ++ y) = some (v, r ++ y)

theorem closed_ze : Closed @ZeroExt where
  pure := fun x rem v r e => by
    simp only [pureD, Option.some.injEq, Prod.mk.injEq] at e
    obtain ⟨rfl, rfl⟩ := e
    exact ⟨Nat.le_refl _, 0, Or.inl rfl, fun y => by simp [pureD, zeros]⟩
  -- if the first step already needed padding it used up the input, so the second step sees nothing but padding;
  -- otherwise only the second step is padded
  bind := fun {_ _ f1 _ _ _} h1 h2 rem b r2 e => by
    obtain ⟨a, r1, e1, e2⟩ := bindD_some e
    obtain ⟨l1, p1, hp1, z1⟩ := h1 rem a r1 e1
    obtain ⟨l2, p2, hp2, z2⟩ := h2 a r1 b r2 e2
    refine ⟨by omega, ?_⟩
    rcases hp1 with rfl | rfl
    · refine ⟨p2, hp2, fun y => ?_⟩
      have : f1 (rem ++ (zeros p2 ++ y)) = some (a, r1 ++ (zeros p2 ++ y)) := by
        simpa [zeros] using z1 (zeros p2 ++ y)
      rw [List.append_assoc, bindD_intro this, ← List.append_assoc]; exact z2 y
    · have hr2 : r2 = [] := List.eq_nil_of_length_eq_zero (by simpa using l2)
      refine ⟨p1 + p2, Or.inr hr2, fun y => ?_⟩
      have := z1 (zeros p2 ++ y)
      rw [← zeros_add, List.append_assoc, List.append_assoc, ← List.append_assoc rem, bindD_intro this]
      simpa using z2 y

theorem ze_loadData (sz : Nat) : ZeroExt (fun rem => loadData rem sz) (fun rem => loadDataB rem sz) := by
  intro rem bs r e
  have e' : loadS rem (u16 sz) = some (bs, r) := e
  rw [loadS_eq] at e'
  simp only [Option.some.injEq, Prod.mk.injEq] at e'
  obtain ⟨rfl, rfl⟩ := e'
  refine ⟨by simp, ?_⟩
  by_cases hn : u16 sz ≤ rem.length
  · refine ⟨0, Or.inl rfl, fun y => ?_⟩
    have h0 : u16 sz - rem.length = 0 := by omega
    show readN (u16 sz) (rem ++ zeros 0 ++ y) = _
    rw [readN_of_le _ _ (by simp [zeros]; omega)]
    simp [zeros, h0, List.take_append_of_le_length hn, List.drop_append_of_le_length hn]
  · have hl : rem.length ≤ u16 sz := by omega
    refine ⟨u16 sz - rem.length, Or.inr (List.drop_of_length_le hl), fun y => ?_⟩
    show readN (u16 sz) (rem ++ zeros (u16 sz - rem.length) ++ y) = _
    have hlen : (rem ++ zeros (u16 sz - rem.length)).length = u16 sz := by simp [zeros]; omega
    rw [readN_append_of_length _ y hlen, List.take_of_length_le hl, List.drop_of_length_le hl]
    rfl

/-- `ZeroExt` fails between the copying load of `igris::buffer` and the view (the view is cut, not zero-filled) -/
theorem ze_decode : ∀ (ty : Ty), ty.noView = true → ZeroExt (decodeA ty) (decodeB ty) := fun ty hn =>
  readers_rel closed_ze ze_loadData ty (Or.inl hn)

theorem ze_decodeFields : ∀ (ts : List Ty), noViews ts = true → ZeroExt (decodeFieldsA ts) (decodeFieldsB ts) :=
  fun ts hn => readersFields_rel closed_ze ze_loadData ts (Or.inl hn)

/-! ### the storage reader is the bounded reader on the types it accepts -/

theorem loadS_eq_loadDataB (rem : List Byte) (n : Nat) (h : n ≤ 65535) : loadS rem n = loadDataB rem n := by
  simp [loadDataB, u16_of_le h]

mutual
theorem decodeS_eq_decodeB : ∀ (ty : Ty), ty.supportedS = true → decodeS ty = decodeB ty
  | .sc k, _ => by
    funext rem
    have := width_le k
    simp only [decodeS, decodeB, loadScalarB, ← loadS_eq_loadDataB rem k.width (by omega)]
    cases loadS rem k.width with
    | none => rfl
    | some p => rfl
  | .vec t, h => by
    simp only [Ty.supportedS] at h
    funext rem
    have e : loadDataB rem (Sc.width .u16) = loadS rem 2 := (loadS_eq_loadDataB rem 2 (by decide)).symm
    simp only [decodeS, decodeB, loadScalarB, e, decodeS_eq_decodeB t h]
    cases h1 : loadS rem 2 with
    | none => rfl
    | some p => rfl
  | .struct fs, h => by
    simp only [Ty.supportedS] at h
    funext rem
    simp only [decodeS, decodeB, decodeFieldsS_eq_decodeFieldsB fs h]
  | .str, h | .buf, h | .pair _ _, h | .tuple _, h | .map _ _, h => by
    simp [Ty.supportedS] at h
theorem decodeFieldsS_eq_decodeFieldsB : ∀ (ts : List Ty), supportedSs ts = true → decodeFieldsS ts = decodeFieldsB ts
  | [], _ => by funext rem; simp [decodeFieldsS, decodeFieldsB]
  | t :: ts, h => by
    simp only [supportedSs, Bool.and_eq_true] at h
    funext rem
    simp only [decodeFieldsS, decodeFieldsB, decodeS_eq_decodeB t h.1, decodeFieldsS_eq_decodeFieldsB ts h.2]
end

theorem rtS (ty : Ty) (v : Val) (rest : List Byte) (hs : ty.supportedS = true) (h : WF ty v) :
    decodeS ty (encodeS ty v ++ rest) = some (v, rest) := by
  rw [decodeS_eq_decodeB ty hs, encS_eq_encA ty v hs]; exact mono_decode ty _ _ _ (rtA ty v rest h)

mutual
theorem noView_of_supportedS : ∀ (ty : Ty), ty.supportedS = true → ty.noView = true
  | .sc _, _ => rfl
  | .vec t, h => by simp only [Ty.supportedS] at h; simp only [Ty.noView]; exact noView_of_supportedS t h
  | .struct fs, h => by simp only [Ty.supportedS] at h; simp only [Ty.noView]; exact noViews_of_supportedSs fs h
  | .str, h | .buf, h | .pair _ _, h | .tuple _, h | .map _ _, h => by
    simp [Ty.supportedS] at h
theorem noViews_of_supportedSs : ∀ (ts : List Ty), supportedSs ts = true → noViews ts = true
  | [], _ => rfl
  | t :: ts, h => by
    simp only [supportedSs, Bool.and_eq_true] at h
    simp only [noViews, Bool.and_eq_true]
    exact ⟨noView_of_supportedS t h.1, noViews_of_supportedSs ts h.2⟩
end

/-! ### the storage reader with its `size_t` cursor

The invariant of `deserialize_buffer_storage` is `cursor ≤ size` with sizes below 2^64; under it the cursor model at
cursor `c` of `data` does what the remaining-bytes model does on `data.drop c`. -/

theorem subSize_of_le {a b : Nat} (h : b ≤ a) (ha : a < 2 ^ 64) : subSize a b = a - b := by
  have hb : b < 2 ^ 64 := Nat.lt_of_le_of_lt h ha
  unfold subSize
  rw [Nat.mod_eq_of_lt ha, Nat.mod_eq_of_lt hb, ← Nat.add_sub_assoc (Nat.le_of_lt hb), Nat.add_comm a,
    Nat.add_sub_assoc h, Nat.add_mod_left]
  exact Nat.mod_eq_of_lt (Nat.lt_of_le_of_lt (Nat.sub_le a b) ha)

theorem store_load_at (data : List Byte) (c size : Nat) (hc : c ≤ data.length) (hl : data.length < 2 ^ 64) :
    ∃ bs c', (Store.mk data c).load size = some (bs, ⟨data, c'⟩) ∧ c ≤ c' ∧ c' ≤ data.length ∧
      loadS (data.drop c) size = some (bs, data.drop c') := by
  -- under the invariant the subtraction does not wrap: both models clamp to the same `n` and copy the same bytes
  have hlen : min size (subSize data.length c) = ((data.drop c).take size).length := by
    rw [subSize_of_le hc hl, List.length_take, List.length_drop]
  have hle : ((data.drop c).take size).length ≤ (data.drop c).length := by
    rw [List.length_take]; exact Nat.min_le_right _ _
  generalize hn : ((data.drop c).take size).length = n at hlen hle
  have hn' : c + n ≤ data.length := by rw [List.length_drop] at hle; omega
  refine ⟨(data.drop c).take n ++ List.replicate (size - n) 0#8, c + n, ?_, Nat.le_add_right _ _, hn', ?_⟩
  · simp only [Store.load, hlen, readN_of_le _ _ hle, Nat.mod_eq_of_lt (Nat.lt_of_le_of_lt hn' hl)]
  · simp only [loadS, hn, readN_of_le _ _ hle, List.drop_drop]

def Sim {α : Type} (f : Store → Option (α × Store)) (g : Dec α) : Prop :=
  ∀ (data : List Byte) (c : Nat), c ≤ data.length → data.length < 2 ^ 64 →
    ∃ x c', c' ≤ data.length ∧ f ⟨data, c⟩ = some (x, ⟨data, c'⟩) ∧ g (data.drop c) = some (x, data.drop c')

theorem sim_repeat {α : Type} {f : Store → Option (α × Store)} {g : Dec α} (h : Sim f g) :
    ∀ n, Sim (repeatC f n) (repeatN g n)
  | 0 => fun _ c hc _ => ⟨[], c, hc, rfl, rfl⟩
  | n + 1 => fun data c hc hl => by
    obtain ⟨x, c1, hc1, e1, e2⟩ := h data c hc hl
    obtain ⟨xs, c2, hc2, e3, e4⟩ := sim_repeat h n data c1 hc1 hl
    exact ⟨x :: xs, c2, hc2, by simp [repeatC, e1, e3], by simp [repeatN, e2, e4]⟩

mutual
theorem sim_decodeC : ∀ (ty : Ty), Sim (decodeC ty) (decodeS ty)
  | .sc k => fun data c hc hl => by
    obtain ⟨bs, c1, e1, _, hc1, e2⟩ := store_load_at data c k.width hc hl
    exact ⟨.sc (leVal bs), c1, hc1, by simp [decodeC, e1], by simp [decodeS, e2]⟩
  | .vec t => fun data c hc hl => by
    obtain ⟨bs, c1, e1, _, hc1, e2⟩ := store_load_at data c 2 hc hl
    obtain ⟨xs, c2, hc2, e3, e4⟩ := sim_repeat (sim_decodeC t) (leVal bs) data c1 hc1 hl
    exact ⟨.list xs, c2, hc2, by simp [decodeC, e1, e3], by simp [decodeS, e2, e4]⟩
  | .struct fs => fun data c hc hl => by
    obtain ⟨xs, c1, hc1, e1, e2⟩ := sim_decodeFieldsC fs data c hc hl
    exact ⟨.list xs, c1, hc1, by simp [decodeC, e1], by simp [decodeS, e2]⟩
  | .str | .buf | .pair _ _ | .tuple _ | .map _ _ =>
    fun _ c hc _ => ⟨default, c, hc, by simp [decodeC], by simp [decodeS]⟩
theorem sim_decodeFieldsC : ∀ (ts : List Ty), Sim (decodeFieldsC ts) (decodeFieldsS ts)
  | [] => fun _ c hc _ => ⟨[], c, hc, by simp [decodeFieldsC], by simp [decodeFieldsS]⟩
  | t :: ts => fun data c hc hl => by
    obtain ⟨x, c1, hc1, e1, e2⟩ := sim_decodeC t data c hc hl
    obtain ⟨xs, c2, hc2, e3, e4⟩ := sim_decodeFieldsC ts data c1 hc1 hl
    exact ⟨x :: xs, c2, hc2, by simp [decodeFieldsC, e1, e3], by simp [decodeFieldsS, e2, e4]⟩
end

/-! ### the capped loads and the raw array over the bounded reader -/

theorem skipA_some {rem r : List Byte} {n : Nat} (h : skipA rem n = some r) : r = skipB rem n := by
  simp only [skipA] at h
  cases h1 : readN n rem with
  | none => simp [h1] at h
  | some p =>
    obtain ⟨bs, r'⟩ := p
    simp only [h1, Option.some.injEq] at h
    obtain ⟨_, _, e⟩ := readN_some _ _ _ _ h1
    rw [← h, e]; rfl

theorem loadWritableB_of_loadWritable (rem : List Byte) (cap : Nat) (x r : List Byte)
    (h : loadWritable rem cap = some (x, r)) : loadWritableB rem cap = some (x, r) := by
  simp only [loadWritable] at h
  simp only [loadWritableB]
  cases h1 : loadScalar .u16 rem with
  | none => simp [h1] at h
  | some p1 =>
    obtain ⟨len, r1⟩ := p1
    simp only [h1] at h
    rw [rel_loadScalar closed_mono mono_loadData _ _ _ _ h1]
    simp only []
    cases h2 : loadData r1 (if cap < len then cap else len) with
    | none => simp [h2] at h
    | some p2 =>
      obtain ⟨bs, r2⟩ := p2
      simp only [h2] at h
      have h2' : loadDataB r1 (if cap < len then cap else len) = some (bs, r2) := mono_loadData _ _ _ _ h2
      rw [h2']
      simp only []
      cases h3 : skipA r2 (len - if cap < len then cap else len) with
      | none => simp [h3] at h
      | some r3 =>
        simp only [h3, Option.some.injEq, Prod.mk.injEq] at h
        rw [← skipA_some h3, h.1, h.2]

theorem loadCharArrB_eq (rem : List Byte) (maxsz : Nat) :
    loadCharArrB rem maxsz = loadWritableB rem (u16 maxsz) := rfl

theorem loadCharArrB_of_loadCharArr (rem : List Byte) (maxsz : Nat) (x r : List Byte)
    (h : loadCharArr rem maxsz = some (x, r)) : loadCharArrB rem maxsz = some (x, r) := by
  rw [loadCharArr_eq] at h
  rw [loadCharArrB_eq]
  exact loadWritableB_of_loadWritable rem (u16 maxsz) x r h

theorem loadWritableB_total (input : List Byte) (cap : Nat) :
    ∃ got c, c ≤ input.length ∧ loadWritableB input cap = some (got, input.drop c) ∧ got.length ≤ cap := by
  obtain ⟨len, c1, hc1, e1⟩ := rel_loadScalar closed_safe safe_loadDataB .u16 input
  obtain ⟨bs, c2, hc2, e2⟩ := safe_loadDataB (if cap < len then cap else len) (input.drop c1)
  have hl := (loadDataB_spec _ _ _ _ e2).2.1
  refine ⟨bs, min (c1 + c2 + (len - if cap < len then cap else len)) input.length, Nat.min_le_right _ _, ?_, ?_⟩
  · simp only [loadWritableB, e1, e2, skipB, List.drop_drop]
    rw [← List.drop_eq_drop_min]
  · rw [hl]; exact Nat.le_trans (u16_le_self _) (by split <;> omega)

theorem decodeDataB_of_decodeData (k : Sc) (n : Nat) (rem : List Byte) (x : List Val) (r : List Byte)
    (h : decodeData k n rem = some (x, r)) : decodeDataB k n rem = some (x, r) := by
  simp only [decodeData] at h
  simp only [decodeDataB]
  cases h1 : loadData rem (n * k.width) with
  | none => simp [h1] at h
  | some p1 =>
    obtain ⟨bs, r1⟩ := p1
    simp only [h1] at h
    have : loadDataB rem (n * k.width) = some (bs, r1) := mono_loadData _ _ _ _ h1
    rw [this]
    exact h

end Igris.C09
