/-
  C09 — where the archive reader stands in the stream after a read: the decoders are local (no look-ahead; the
  value and the consumption depend on the consumed bytes only).  Then the round trips of the operations beside
  `Ty` (capped loads, the chunking of `archive::data` arrays) and of a vector whose count has wrapped.
-/
import IgrisModel.C09.Lemmas
namespace Igris.C09
open Igris.Proto

/-- whatever follows the consumed bytes (`y`) is left untouched and does not influence the value -/
def Local {α : Type} (f : List Byte → Option (α × List Byte)) : Prop :=
  ∀ rem x r, f rem = some (x, r) → ∃ p, rem = p ++ r ∧ ∀ y, f (p ++ y) = some (x, y)

theorem local_readN (n : Nat) : Local (readN n) := by
  intro rem x r h
  obtain ⟨hn, rfl, rfl⟩ := readN_some n rem x r h
  refine ⟨rem.take n, (List.take_append_drop n rem).symm, fun y => ?_⟩
  exact readN_append_of_length _ y (by rw [List.length_take, Nat.min_eq_left hn])

theorem closed_local : Closed (fun f _ => Local f) where
  pure := fun x rem a r h => by
    simp only [pureD, Option.some.injEq, Prod.mk.injEq] at h
    obtain ⟨rfl, rfl⟩ := h
    exact ⟨[], rfl, fun _ => rfl⟩
  bind := fun hf hg rem b r h => by
    obtain ⟨a, r1, h1, h2⟩ := bindD_some h
    obtain ⟨pa, ea, fa⟩ := hf rem a r1 h1
    obtain ⟨pb, eb, fb⟩ := hg a r1 b r h2
    refine ⟨pa ++ pb, by rw [ea, eb, List.append_assoc], fun y => ?_⟩
    rw [List.append_assoc, bindD_intro (fa _)]; exact fb y

theorem local_loadData (sz : Nat) : Local (fun rem => loadData rem sz) := local_readN (u16 sz)

theorem local_decodeA (ty : Ty) : Local (decodeA ty) :=
  readers_rel closed_local local_loadData ty (Or.inr local_loadData)

theorem local_decodeFieldsA (ts : List Ty) : Local (decodeFieldsA ts) :=
  readersFields_rel closed_local local_loadData ts (Or.inr local_loadData)

theorem dumpCharArr_eq_dumpBuffer (bs : List Byte) : dumpCharArr bs = dumpBuffer bs := by
  simp [dumpCharArr, dumpBuffer, dumpData, u16_u16]

theorem skipA_append (xs rest : List Byte) : skipA (xs ++ rest) xs.length = some rest := by
  simp [skipA, readN_append]

theorem loadData_prefix (bs rest : List Byte) (c : Nat) (hc : c ≤ bs.length) (h : bs.length ≤ 65535) :
    loadData (bs ++ rest) c = some (bs.take c, bs.drop c ++ rest) := by
  rw [loadData, u16_of_le (by omega), readN_of_le c (bs ++ rest) (by simp; omega),
    List.take_append_of_le_length hc, List.drop_append_of_le_length hc]

/-- the repaired load skips what the old one left in the stream -/
theorem loadWritable_dumpBuffer (bs rest : List Byte) (cap : Nat) (h : bs.length ≤ 65535) :
    loadWritable (dumpBuffer bs ++ rest) cap = some (bs.take cap, rest) := by
  unfold loadWritable dumpBuffer
  rw [List.append_assoc, loadScalar_u16 _ _ h]
  simp only [dumpData, u16_of_le h, List.take_length, capped_eq_min]
  have hskip := skipA_append (bs.drop (min cap bs.length)) rest
  rw [List.length_drop] at hskip
  simp only [loadData_prefix bs rest _ (Nat.min_le_right _ _) h, hskip, ← List.take_eq_take_min]

/-- `load(char*, maxsz)` is `load(writable_buffer&)` with the capacity converted to `uint16_t` -/
theorem loadCharArr_eq (rem : List Byte) (maxsz : Nat) : loadCharArr rem maxsz = loadWritable rem (u16 maxsz) := rfl

theorem loadCharArr_dumpCharArr (bs rest : List Byte) (maxsz : Nat) (h : bs.length ≤ 65535) :
    loadCharArr (dumpCharArr bs ++ rest) maxsz = some (bs.take (u16 maxsz), rest) := by
  rw [loadCharArr_eq, dumpCharArr_eq_dumpBuffer]; exact loadWritable_dumpBuffer bs rest _ h

/-- a vector of ANY length: the count is `n mod 65536` but ALL `n` elements are
written; the reader takes the first `n mod 65536` and leaves the others in the stream -/
theorem decodeA_vec_any (t : Ty) (vs : List Val) (rest : List Byte) (hall : ∀ x ∈ vs, WF t x) :
    decodeA (.vec t) (encodeA (.vec t) (.list vs) ++ rest) =
      some (.list (vs.take (u16 vs.length)),
            (vs.drop (u16 vs.length)).flatMap (encodeA t) ++ rest) := by
  simp only [encodeA, decodeA, Val.items, List.append_assoc, loadScalar_u16_any,
    repeatN_flatMap_take (decodeA t) (encodeA t) vs rest _ (u16_le_self _)
      (fun x hx rest => rtA t x rest (hall x (List.mem_of_mem_take hx)))]

/-- a count that wraps to 0: the vector comes back empty, and the value behind it is read from the first
element byte -/
theorem wrap_following (m : Nat) (hm : (m + 1) % 65536 = 0) :
    decodeFieldsA [.vec (.sc .u8), .sc .u8]
        (encodeFieldsA [.vec (.sc .u8), .sc .u8] [.list (List.replicate (m + 1) (.sc 7)), .sc 5]) =
      some ([.list [], .sc 7], List.replicate m 7#8 ++ [5#8]) := by
  have hv := decodeA_vec_any (.sc .u8) (List.replicate (m + 1) (.sc 7)) ([5#8] ++ []) (wf_replicate_u8 _)
  rw [List.length_replicate] at hv
  simp only [u16, hm, List.take_zero, List.drop_zero] at hv
  have e1 : ∀ X : Val, encodeFieldsA [.vec (.sc .u8), .sc .u8] [X, .sc 5] =
      encodeA (.vec (.sc .u8)) X ++ ([5#8] ++ []) := fun _ => rfl
  have e2 : ∀ n, (List.replicate n (Val.sc 7)).flatMap (encodeA (.sc .u8)) = List.replicate n 7#8 := fun n => by
    rw [List.flatMap_replicate]
    exact List.flatten_replicate_singleton
  rw [e1]
  unfold decodeFieldsA
  rw [hv, e2, List.replicate_succ]
  generalize List.replicate m 7#8 = R
  rfl

theorem chunks_flatMap (w : Nat) (vs : List Val) (tail : List Byte)
    (hfit : ∀ v ∈ vs, ∃ n, v = .sc n ∧ n < 2 ^ (8 * w)) :
    chunks w vs.length ((vs.flatMap fun v => leBytes w v.bits) ++ tail) = vs := by
  induction vs with
  | nil => simp [chunks]
  | cons v vs ih =>
    obtain ⟨n, rfl, hn⟩ := hfit v (by simp)
    have hb : (Val.sc n).bits = n := rfl
    simp only [List.length_cons, chunks, List.flatMap_cons, hb, List.append_assoc,
      List.take_left' (leBytes_length w n), List.drop_left' (leBytes_length w n),
      ih (fun x hx => hfit x (by simp [hx])), leVal_leBytes_of_lt _ _ hn]

end Igris.C09
