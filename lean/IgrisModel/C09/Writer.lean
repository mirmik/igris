/-
  C09 — the fixed-buffer writer `binary_buffer_writer` at store level.

  A buffer is split as `pre ++ free` at the write pointer. One `dump_data` call stores the prefix of its
  chunk that fits into `free`; a sequence of calls stores the prefix of the concatenation.
-/
import IgrisModel.C09.Lemmas
namespace Igris.C09
open Igris.Proto

theorem bufw_dumpData_split (pre free dat : List Byte) :
    (BufW.mk (pre ++ free) pre.length).dumpData dat =
      ⟨(pre ++ dat.take free.length) ++ free.drop dat.length, (pre ++ dat.take free.length).length⟩ := by
  simp only [BufW.dumpData, BufW.poke, List.length_append, Nat.add_sub_cancel_left, capped_eq_min,
    List.take_left, List.drop_append, List.length_take, ← List.drop_eq_drop_min]
  rw [Nat.min_comm, ← List.take_eq_take_min, List.drop_eq_nil_of_le (Nat.le_add_right _ _), List.nil_append]

theorem bufw_dumpAll_split : ∀ (cs : List (List Byte)) (pre free : List Byte),
    (BufW.mk (pre ++ free) pre.length).dumpAll cs =
      ⟨(pre ++ cs.flatten.take free.length) ++ free.drop cs.flatten.length,
       (pre ++ cs.flatten.take free.length).length⟩
  | [], pre, free => by simp [BufW.dumpAll]
  | c :: cs, pre, free => by
    rw [BufW.dumpAll, bufw_dumpData_split, bufw_dumpAll_split cs]
    simp only [List.flatten_cons, List.take_append, List.drop_drop, List.length_drop, List.length_append,
      List.append_assoc]

end Igris.C09
