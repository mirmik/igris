/-
  C09 — the key order of `std::map<K, …>` on the whole type universe:
  `keyLt` is a strict weak order on the keys without NaN (asymmetric +
  negatively transitive, hence transitive with a transitive incomparability),
  and `std::map::insert` over ANY wire order of entries yields a map value
  (`Pairwise keyOrdered`).
-/
import IgrisModel.C09.Lemmas
namespace Igris.C09
open Igris.Proto

/-- strict weak order on the values satisfying `P` -/
structure SWO (P : Val → Prop) (lt : Val → Val → Bool) : Prop where
  asym : ∀ a b, P a → P b → lt a b = true → lt b a = false
  neg : ∀ a b c, P a → P b → P c → lt a c = true → lt a b = true ∨ lt b c = true

theorem SWO.irrefl {P lt} (h : SWO P lt) (a : Val) (ha : P a) : lt a a = false := by
  cases e : lt a a with
  | false => rfl
  | true => have := h.asym a a ha ha e; rw [e] at this; exact this

theorem SWO.trans {P lt} (h : SWO P lt) (a b c : Val) (ha : P a) (hb : P b) (hc : P c)
    (h1 : lt a b = true) (h2 : lt b c = true) : lt a c = true := by
  rcases h.neg a c b ha hc hb h1 with h3 | h3
  · exact h3
  · have := h.asym b c hb hc h2; rw [h3] at this; exact absurd this (by simp)

/-- incomparability (= equivalence of keys in a `std::map`) is transitive -/
theorem SWO.equiv_trans {P lt} (h : SWO P lt) (a b c : Val) (ha : P a) (hb : P b) (hc : P c)
    (h1 : lt a b = false) (h2 : lt b a = false) (h3 : lt b c = false) (h4 : lt c b = false) :
    lt a c = false ∧ lt c a = false := by
  constructor
  · cases e : lt a c with
    | false => rfl
    | true => rcases h.neg a b c ha hb hc e with h5 | h5 <;> simp_all
  · cases e : lt c a with
    | false => rfl
    | true => rcases h.neg c b a hc hb ha e with h5 | h5 <;> simp_all

/-- the number a clean scalar is compared by -/
def scOrd (k : Sc) (n : Nat) : Int :=
  if k.isFloat then fOrd k.width n else if k.signed then toInt k.width n else (n : Int)

theorem scLt_eq (k : Sc) (a b : Nat) (ha : isNaN k a = false) (hb : isNaN k b = false) :
    scLt k a b = decide (scOrd k a < scOrd k b) := by
  unfold scLt scOrd
  by_cases hf : k.isFloat = true
  · simp [hf, ha, hb]
  · simp only [hf]
    by_cases hs : k.signed = true
    · simp [hs]
    · simp [hs]

theorem swo_sc (k : Sc) : SWO (fun v => isNaN k v.bits = false) (fun x y => scLt k x.bits y.bits) where
  asym := by
    intro a b ha hb h
    rw [scLt_eq k _ _ ha hb] at h
    rw [scLt_eq k _ _ hb ha]
    simp only [decide_eq_true_eq] at h
    simp only [decide_eq_false_iff_not]
    omega
  neg := by
    intro a b c ha hb hc h
    rw [scLt_eq k _ _ ha hc] at h
    rw [scLt_eq k _ _ ha hb, scLt_eq k _ _ hb hc]
    simp only [decide_eq_true_eq] at h ⊢
    omega

/-! ### lexicographic combinations

`operator<` of `std::string`, `std::pair`, `std::tuple` and `std::lexicographical_compare` all take the same
step: the heads decide unless they are equivalent, then the tails do.  With `p` = "head less", `p'` = "head
greater" and `q` = "tails less" the step is `p || (!p' && q)`; asymmetry and negative transitivity of the
step are proved once, on Booleans. -/

theorem lex2_asym {p q p' q' : Bool} (hp : p = true → p' = false) (hq : q = true → q' = false)
    (h : (p || (!p' && q)) = true) : (p' || (!p && q')) = false := by
  cases p with
  | true => simp [hp rfl]
  | false =>
    simp only [Bool.false_or, Bool.and_eq_true, Bool.not_eq_true'] at h
    simp [h.1, hq h.2]

/-- `a`, `b`, `c` are three heads (`ab` = "a < b" …), `s..` the comparisons of the tails -/
theorem lex2_neg {ac ab bc ba cb ca sac sab sbc : Bool}
    (n1 : ac = true → ab = true ∨ bc = true) (n3 : ba = true → bc = true ∨ ca = true)
    (n4 : cb = true → ca = true ∨ ab = true) (n2 : sac = true → sab = true ∨ sbc = true)
    (h : (ac || (!ca && sac)) = true) : (ab || (!ba && sab)) = true ∨ (bc || (!cb && sbc)) = true := by
  cases ab with
  | true => exact Or.inl rfl
  | false =>
    cases bc with
    | true => exact Or.inr rfl
    | false =>
      -- neither `a < b` nor `b < c`: by negative transitivity no two of the heads are ordered at all,
      -- so all three comparisons are decided by the tails
      have hac : ac = false := Bool.eq_false_iff.2 fun e => by simpa using n1 e
      subst hac
      simp only [Bool.false_or, Bool.and_eq_true, Bool.not_eq_true'] at h
      have hba : ba = false := Bool.eq_false_iff.2 fun e => by simpa [h.1] using n3 e
      have hcb : cb = false := Bool.eq_false_iff.2 fun e => by simpa [h.1] using n4 e
      simpa [hba, hcb] using n2 h.2

theorem swo_pair {P1 P2 : Val → Prop} {l1 l2 : Val → Val → Bool} (h1 : SWO P1 l1) (h2 : SWO P2 l2) :
    SWO (fun v => P1 v.fst ∧ P2 v.snd) (pairLt l1 l2) where
  asym := fun _ _ ha hb h => lex2_asym (h1.asym _ _ ha.1 hb.1) (h2.asym _ _ ha.2 hb.2) h
  neg := fun a b c ha hb hc h =>
    lex2_neg (h1.neg a.fst b.fst c.fst ha.1 hb.1 hc.1) (h1.neg b.fst c.fst a.fst hb.1 hc.1 ha.1)
      (h1.neg c.fst a.fst b.fst hc.1 ha.1 hb.1) (h2.neg a.snd b.snd c.snd ha.2 hb.2 hc.2) h

theorem lexBy_cons (lt : Val → Val → Bool) (a b : Val) (as bs : List Val) :
    lexBy lt (a :: as) (b :: bs) = (lt a b || (!lt b a && lexBy lt as bs)) := by
  simp only [lexBy]; cases lt a b <;> cases lt b a <;> rfl

theorem lexBy_asym {P : Val → Prop} {lt : Val → Val → Bool} (h : SWO P lt) :
    ∀ (xs ys : List Val), (∀ x ∈ xs, P x) → (∀ y ∈ ys, P y) → lexBy lt xs ys = true → lexBy lt ys xs = false
  | _, [], _, _, e => by simp [lexBy] at e
  | [], _ :: _, _, _, _ => by simp [lexBy]
  | x :: xs, y :: ys, hx, hy, e => by
    rw [List.forall_mem_cons] at hx hy
    rw [lexBy_cons] at e ⊢
    exact lex2_asym (h.asym x y hx.1 hy.1) (lexBy_asym h xs ys hx.2 hy.2) e

theorem lexBy_neg {P : Val → Prop} {lt : Val → Val → Bool} (h : SWO P lt) :
    ∀ (xs ys zs : List Val), (∀ x ∈ xs, P x) → (∀ y ∈ ys, P y) → (∀ z ∈ zs, P z) →
      lexBy lt xs zs = true → lexBy lt xs ys = true ∨ lexBy lt ys zs = true
  | _, _, [], _, _, _, e => by simp [lexBy] at e
  | [], [], _ :: _, _, _, _, _ | [], _ :: _, _ :: _, _, _, _, _ | _ :: _, [], _ :: _, _, _, _, _ => by
    simp [lexBy]
  | x :: xs, y :: ys, z :: zs, hx, hy, hz, e => by
    rw [List.forall_mem_cons] at hx hy hz
    rw [lexBy_cons] at e ⊢
    rw [lexBy_cons]
    exact lex2_neg (h.neg x y z hx.1 hy.1 hz.1) (h.neg y z x hy.1 hz.1 hx.1) (h.neg z x y hz.1 hx.1 hy.1)
      (lexBy_neg h xs ys zs hx.2 hy.2 hz.2) e

theorem swo_lex {P : Val → Prop} {lt : Val → Val → Bool} (h : SWO P lt) :
    SWO (fun v => ∀ x ∈ v.items, P x) (fun x y => lexBy lt x.items y.items) where
  asym := fun _ _ ha hb e => lexBy_asym h _ _ ha hb e
  neg := fun _ _ _ ha hb hc e => lexBy_neg h _ _ _ ha hb hc e

/-! ### strings: a `std::string` compares as the vector of its `unsigned char`s -/

theorem bytesLt_eq_lexBy : ∀ a b : List Byte,
    bytesLt a b = lexBy (fun x y => scLt .u8 x.bits y.bits) (a.map fun c => .sc c.toNat) (b.map fun c => .sc c.toNat)
  | [], [] | _ :: _, [] | [], _ :: _ => rfl
  | x :: xs, y :: ys => by
    have e : ∀ a b : Byte, scLt .u8 (Val.sc a.toNat).bits (Val.sc b.toNat).bits = decide (a.toNat < b.toNat) :=
      fun _ _ => rfl
    simp only [bytesLt, List.map_cons, lexBy, bytesLt_eq_lexBy xs ys, e, decide_eq_true_eq]

theorem swo_bytes : SWO (fun _ => True) (fun x y => bytesLt x.bs y.bs) where
  asym := fun _ _ _ _ h => by
    rw [bytesLt_eq_lexBy] at h ⊢
    exact lexBy_asym (swo_sc .u8) _ _ (fun _ _ => rfl) (fun _ _ => rfl) h
  neg := fun _ b _ _ _ _ h => by
    rw [bytesLt_eq_lexBy] at h ⊢
    rw [bytesLt_eq_lexBy]
    exact lexBy_neg (swo_sc .u8) _ (b.bs.map fun c => .sc c.toNat) _ (fun _ _ => rfl) (fun _ _ => rfl)
      (fun _ _ => rfl) h

/-- `SWO` for field lists (the members of a tuple / `std::tie` of a user type) -/
structure SWOs (P : List Val → Prop) (lt : List Val → List Val → Bool) : Prop where
  asym : ∀ a b, P a → P b → lt a b = true → lt b a = false
  neg : ∀ a b c, P a → P b → P c → lt a c = true → lt a b = true ∨ lt b c = true

theorem swo_of_fields {P : List Val → Prop} {lt : List Val → List Val → Bool} (h : SWOs P lt) :
    SWO (fun v => P v.items) (fun x y => lt x.items y.items) where
  asym := fun _ _ ha hb e => h.asym _ _ ha hb e
  neg := fun _ _ _ ha hb hc e => h.neg _ _ _ ha hb hc e

theorem SWO.of_eq {P Q : Val → Prop} {lt lt' : Val → Val → Bool} (h : SWO P lt) (hP : ∀ v, Q v → P v)
    (hlt : ∀ x y, lt' x y = lt x y) : SWO Q lt' where
  asym := fun a b ha hb e => by rw [hlt] at e ⊢; exact h.asym a b (hP a ha) (hP b hb) e
  neg := fun a b c ha hb hc e => by
    rw [hlt] at e ⊢; rw [hlt]; exact h.neg a b c (hP a ha) (hP b hb) (hP c hc) e

mutual
theorem swo_key : ∀ (ty : Ty), SWO (fun v => keyClean ty v = true) (keyLt ty)
  | .sc k => (swo_sc k).of_eq (fun v hv => by simpa [keyClean] using hv) (fun x y => by rw [keyLt])
  | .str | .buf => swo_bytes.of_eq (fun _ _ => trivial) (fun x y => by rw [keyLt])
  | .vec t => (swo_lex (swo_key t)).of_eq (fun v hv => by simpa [keyClean] using hv) (fun x y => by rw [keyLt])
  | .pair a b => (swo_pair (swo_key a) (swo_key b)).of_eq (fun v hv => by simpa [keyClean] using hv)
      (fun x y => by rw [keyLt])
  | .tuple ts | .struct ts => (swo_of_fields (swo_keys ts)).of_eq (fun v hv => by simpa [keyClean] using hv)
      (fun x y => by rw [keyLt])
  | .map k t => (swo_lex (swo_pair (swo_key k) (swo_key t))).of_eq
      (fun v hv => by simpa [keyClean] using hv) (fun x y => by rw [keyLt])
theorem swo_keys : ∀ (ts : List Ty), SWOs (fun vs => keyCleanFields ts vs = true) (keyLtFields ts)
  | [] => ⟨fun _ _ _ _ e => by simp [keyLtFields] at e, fun _ _ _ _ _ _ e => by simp [keyLtFields] at e⟩
  | t :: ts => by
    have h1 := swo_key t
    have h2 := swo_keys ts
    refine ⟨fun a b ha hb e => ?_, fun a b c ha hb hc e => ?_⟩
    · simp only [keyCleanFields, Bool.and_eq_true] at ha hb
      simp only [keyLtFields] at e ⊢
      exact lex2_asym (h1.asym _ _ ha.1 hb.1) (h2.asym _ _ ha.2 hb.2) e
    · simp only [keyCleanFields, Bool.and_eq_true] at ha hb hc
      simp only [keyLtFields] at e ⊢
      exact lex2_neg (h1.neg (a.headD default) (b.headD default) (c.headD default) ha.1 hb.1 hc.1)
        (h1.neg (b.headD default) (c.headD default) (a.headD default) hb.1 hc.1 ha.1)
        (h1.neg (c.headD default) (a.headD default) (b.headD default) hc.1 ha.1 hb.1)
        (h2.neg a.tail b.tail c.tail ha.2 hb.2 hc.2) e
end

/-! ### `std::map::insert` over any wire order yields a map value -/

def CleanKeys (kt : Ty) (kvs : List Val) : Prop := ∀ e ∈ kvs, keyClean kt e.fst = true

theorem mapInsert_mem (kt : Ty) (kv : Val) (m : List Val) : ∀ e ∈ mapInsert kt kv m, e = kv ∨ e ∈ m := by
  intro e he
  rcases mapInsert_cases kt kv m with ⟨h, _⟩ | ⟨l, r, rfl, h, _⟩
  · exact Or.inr (h ▸ he)
  · rw [h, List.mem_append, List.mem_cons] at he
    rw [List.mem_append]; exact or_left_comm.mp he

theorem mapInsert_sorted (kt : Ty) (kv : Val) (m : List Val) (hk : keyClean kt kv.fst = true)
    (hc : CleanKeys kt m) (hs : m.Pairwise (keyOrdered kt)) : (mapInsert kt kv m).Pairwise (keyOrdered kt) := by
  have sw := swo_key kt
  rcases mapInsert_cases kt kv m with ⟨h, _⟩ | ⟨l, r, rfl, h, hl, hr⟩
  · rw [h]; exact hs
  · rw [h]
    rw [List.pairwise_append] at hs ⊢
    have hcl : ∀ e ∈ l, keyClean kt e.fst = true := fun e he => hc e (by simp [he])
    have hcr : ∀ e ∈ r, keyClean kt e.fst = true := fun e he => hc e (by simp [he])
    -- `kv` is below the first entry of `r`, hence below all of them
    have hkr : ∀ b ∈ r, keyOrdered kt kv b := by
      cases r with
      | nil => intro b hb; cases hb
      | cons x r' =>
        have hx := hr x rfl
        intro b hb
        have hlt : keyLt kt kv.fst b.fst = true := by
          rcases List.mem_cons.mp hb with rfl | hb'
          · exact hx
          · exact sw.trans _ _ _ hk (hcr x (by simp)) (hcr b hb) hx ((List.pairwise_cons.mp hs.2.1).1 b hb').1
        exact ⟨hlt, sw.asym _ _ hk (hcr b hb) hlt, hk, hcr b hb⟩
    refine ⟨hs.1, List.pairwise_cons.mpr ⟨hkr, hs.2.1⟩, fun a ha b hb => ?_⟩
    rcases List.mem_cons.mp hb with rfl | hb
    · exact ⟨hl a ha, sw.asym _ _ (hcl a ha) hk (hl a ha), hcl a ha, hk⟩
    · exact hs.2.2 a ha b hb

theorem mapFromList_sorted (kt : Ty) (kvs : List Val) (hk : CleanKeys kt kvs) :
    (mapFromList kt kvs).Pairwise (keyOrdered kt) ∧ ∀ e ∈ mapFromList kt kvs, e ∈ kvs :=
  -- every entry of the map under construction was sent, so its key is clean
  List.foldlRecOn kvs (fun m kv => mapInsert kt kv m)
    (motive := fun m => m.Pairwise (keyOrdered kt) ∧ ∀ e ∈ m, e ∈ kvs) ⟨.nil, fun _ h => nomatch h⟩
    fun m hm x hx =>
      ⟨mapInsert_sorted kt x m (hk x hx) (fun e he => hk e (hm.2 e he)) hm.1,
       fun e he => (mapInsert_mem kt x m e he).elim (fun h => h ▸ hx) (hm.2 e)⟩

theorem mapInsert_length (kt : Ty) (kv : Val) (m : List Val) : (mapInsert kt kv m).length ≤ m.length + 1 := by
  rcases mapInsert_cases kt kv m with ⟨h, _⟩ | ⟨l, r, rfl, h, _⟩
  · rw [h]; exact Nat.le_succ _
  · rw [h, List.length_append, List.length_append, List.length_cons]; exact Nat.le_refl _

theorem foldl_mapInsert_length (kt : Ty) (kvs acc : List Val) :
    (kvs.foldl (fun m kv => mapInsert kt kv m) acc).length ≤ acc.length + kvs.length := by
  induction kvs generalizing acc with
  | nil => simp
  | cons x xs ih =>
    simp only [List.foldl_cons, List.length_cons]
    have := ih (mapInsert kt x acc)
    have := mapInsert_length kt x acc
    omega

theorem mapFromList_length (kt : Ty) (kvs : List Val) : (mapFromList kt kvs).length ≤ kvs.length := by
  have := foldl_mapInsert_length kt kvs []
  simpa [mapFromList] using this

theorem mapInsert_has (kt : Ty) (kv : Val) (m : List Val) :
    ∃ e ∈ mapInsert kt kv m, keyLt kt e.fst kv.fst = false ∧ keyLt kt kv.fst e.fst = false ∨ e = kv := by
  rcases mapInsert_cases kt kv m with ⟨h, e, he, h1, h2⟩ | ⟨l, r, _, h, _⟩
  · exact ⟨e, h.symm ▸ he, Or.inl ⟨h2, h1⟩⟩
  · exact ⟨kv, by rw [h]; simp, Or.inr rfl⟩
end Igris.C09
