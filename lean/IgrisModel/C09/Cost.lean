/-
  C09 — COST MODEL of the bounded archive reader on hostile input: what a decode
  can allocate is bounded by the number of bytes it consumed.

  `vsize v` = number of nodes of the decoded value (one per scalar, per string byte, per
  container / entry node): the memory the C++ object needs, up to a constant factor per node.
  `blank ty` = the size of the value an exhausted input decodes to (all counts zero).
  A count field is 2 bytes: it can announce at most 65535 elements, and it announces none when
  the input is exhausted (missing bytes read as zero).
-/
import IgrisModel.C09.Lemmas
namespace Igris.C09
open Igris.Proto

mutual
def vsize : Val → Nat
  | .sc _ => 1
  | .bytes bs => 1 + bs.length
  | .list vs => 1 + vsizes vs
def vsizes : List Val → Nat
  | [] => 0
  | v :: vs => vsize v + vsizes vs
end

mutual
def blank : Ty → Nat
  | .sc _ => 1
  | .str => 1
  | .buf => 1
  | .vec t => 1 + blank t
  | .pair a b => 1 + blank a + blank b
  | .tuple ts => 1 + blanks ts
  | .map k t => 2 + blank k + blank t
  | .struct fs => 1 + blanks fs
def blanks : List Ty → Nat
  | [] => 0
  | t :: ts => blank t + blanks ts
end

/-- `B` bounds what `f` delivers on an exhausted input; every byte consumed (`c`) may stand for 65535 times as much -/
def Bnd {α : Type} (size : α → Nat) (B : Nat) (f : Dec α) : Prop :=
  ∀ rem x r, f rem = some (x, r) → ∃ c, rem.length = r.length + c ∧ size x ≤ B * (1 + 65535 * c)

/-- `Bnd vsizes B f` written out, for field lists -/
def BndL (B : Nat) (f : List Byte → Option (List Val × List Byte)) : Prop :=
  ∀ rem xs r, f rem = some (xs, r) → ∃ c, rem.length = r.length + c ∧ vsizes xs ≤ B * (1 + 65535 * c)

theorem vsizes_append (xs ys : List Val) : vsizes (xs ++ ys) = vsizes xs + vsizes ys := by
  induction xs with
  | nil => simp [vsizes]
  | cons x xs ih => simp [vsizes, ih]; omega

theorem count_spec (rem : List Byte) (n : Nat) (r : List Byte) (h : loadScalarB .u16 rem = some (n, r)) :
    n ≤ 65535 ∧ ∃ c, rem.length = r.length + c ∧ (n = 0 ∨ 1 ≤ c) := by
  rw [loadScalarB_eq] at h
  obtain ⟨bs, h1, rfl⟩ := mapD_some h
  obtain ⟨rfl, hlen, c, e, _⟩ := loadDataB_spec rem _ bs r h1
  have hlt := leVal_lt bs
  rw [hlen] at hlt
  refine ⟨Nat.le_of_lt_succ hlt, c, e, ?_⟩
  cases rem with
  | nil => left; cases h1; rfl
  | cons b rest =>
    right
    simp only [List.length_cons, List.length_drop, Sc.width, u16, Nat.reduceMod] at e
    omega

/-! ### composition: the constants add up, the consumed bytes add up -/

theorem bnd_arith_two (s1 s2 B1 B2 c1 c2 k : Nat) (h1 : s1 ≤ B1 * (1 + 65535 * c1)) (h2 : s2 ≤ B2 * (1 + 65535 * c2)) :
    k + s1 + s2 ≤ (k + B1 + B2) * (1 + 65535 * (c1 + c2)) := by
  have hx1 : 1 + 65535 * c1 ≤ 1 + 65535 * (c1 + c2) :=
    Nat.add_le_add_left (Nat.mul_le_mul_left _ (Nat.le_add_right _ _)) _
  have hx2 : 1 + 65535 * c2 ≤ 1 + 65535 * (c1 + c2) :=
    Nat.add_le_add_left (Nat.mul_le_mul_left _ (Nat.le_add_left _ _)) _
  rw [Nat.add_mul, Nat.add_mul]
  exact Nat.add_le_add (Nat.add_le_add (Nat.le_mul_of_pos_right k (Nat.le_add_right _ _))
    (Nat.le_trans h1 (Nat.mul_le_mul_left B1 hx1))) (Nat.le_trans h2 (Nat.mul_le_mul_left B2 hx2))

theorem bnd_mapD {α β : Type} {sa : α → Nat} {sb : β → Nat} (m : α → β) (k : Nat) (hm : ∀ a, sb (m a) ≤ k + sa a)
    {B : Nat} {f : Dec α} (hf : Bnd sa B f) : Bnd sb (k + B) (mapD m f) := by
  intro rem b r h
  obtain ⟨a, h1, rfl⟩ := mapD_some h
  obtain ⟨c, e, hb⟩ := hf rem a r h1
  have := bnd_arith_two (sa a) 0 B 0 c 0 k hb (Nat.zero_le _)
  exact ⟨c, e, Nat.le_trans (hm a) (by simpa using this)⟩

theorem bnd_seqD {α β γ : Type} {sa : α → Nat} {sb : β → Nat} {sc : γ → Nat} (c : α → β → γ) (k : Nat)
    (hc : ∀ a b, sc (c a b) ≤ k + sa a + sb b) {B1 B2 : Nat} {f : Dec α} {g : Dec β} (hf : Bnd sa B1 f)
    (hg : Bnd sb B2 g) : Bnd sc (k + B1 + B2) (seqD c f g) := by
  intro rem z r h
  obtain ⟨a, r1, b, h1, h2, rfl⟩ := seqD_some h
  obtain ⟨c1, e1, b1⟩ := hf rem a r1 h1
  obtain ⟨c2, e2, b2⟩ := hg r1 b r h2
  exact ⟨c1 + c2, by omega, Nat.le_trans (hc a b) (bnd_arith_two _ _ _ _ _ _ k b1 b2)⟩

theorem bnd_repeatN {f : Dec Val} {B : Nat} (hf : Bnd vsize B f) :
    ∀ (n : Nat) (rem : List Byte) (xs : List Val) (r : List Byte), repeatN f n rem = some (xs, r) →
      ∃ c, rem.length = r.length + c ∧ vsizes xs ≤ n * B + 65535 * (B * c)
  | 0, rem, xs, r, h => by
    simp only [repeatN, Option.some.injEq, Prod.mk.injEq] at h
    obtain ⟨rfl, rfl⟩ := h
    exact ⟨0, rfl, by simp [vsizes]⟩
  | n + 1, rem, xs, r, h => by
    rw [repeatN_succ] at h
    obtain ⟨x, r1, xs', h1, h2, rfl⟩ := seqD_some h
    obtain ⟨c1, e1, b1⟩ := hf rem x r1 h1
    obtain ⟨c2, e2, b2⟩ := bnd_repeatN hf n r1 xs' r h2
    refine ⟨c1 + c2, by omega, ?_⟩
    rw [Nat.mul_add, Nat.mul_one, Nat.mul_left_comm] at b1
    rw [vsizes, Nat.mul_add, Nat.succ_mul]
    omega

/-- a loop behind its 2-byte count: the count is at most 65535, and it is 0 unless a byte was consumed for it, so
the `n` elements cost no more than `65535 * B` per byte consumed -/
theorem bnd_counted {f : Dec Val} {B : Nat} (hf : Bnd vsize B f) :
    Bnd vsizes B (bindD (loadScalarB .u16) (repeatN f)) := by
  intro rem xs r h
  obtain ⟨n, r1, h1, h2⟩ := bindD_some h
  obtain ⟨hn, c1, e1, hc⟩ := count_spec rem n r1 h1
  obtain ⟨c2, e2, b2⟩ := bnd_repeatN hf n r1 xs r h2
  refine ⟨c1 + c2, by omega, ?_⟩
  rw [Nat.mul_add, Nat.mul_one, Nat.mul_left_comm, Nat.mul_add, Nat.mul_add]
  rcases hc with rfl | hc
  · omega
  · have h3 : n * B ≤ 65535 * B := Nat.mul_le_mul_right B hn
    have h4 : B ≤ B * c1 := Nat.le_mul_of_pos_right B hc
    omega

/-! ### std::map insertion never grows the value beyond what was inserted -/

theorem vsizes_mapInsert (kt : Ty) (kv : Val) (m : List Val) : vsizes (mapInsert kt kv m) ≤ vsize kv + vsizes m := by
  rcases mapInsert_cases kt kv m with ⟨h, _⟩ | ⟨l, r, rfl, h, _⟩
  · rw [h]; exact Nat.le_add_left _ _
  · rw [h, vsizes_append, vsizes_append, vsizes]; omega

theorem vsizes_foldl_mapInsert (kt : Ty) (kvs acc : List Val) :
    vsizes (kvs.foldl (fun m kv => mapInsert kt kv m) acc) ≤ vsizes acc + vsizes kvs := by
  induction kvs generalizing acc with
  | nil => simp [vsizes]
  | cons x xs ih =>
    simp only [List.foldl_cons, vsizes]
    have h1 := ih (mapInsert kt x acc)
    have h2 := vsizes_mapInsert kt x acc
    omega

/-! ### the bound -/

theorem Bnd.mono {α : Type} {size : α → Nat} {B B' : Nat} {f : Dec α} (hf : Bnd size B f) (h : B ≤ B') :
    Bnd size B' f := by
  intro rem x r e
  obtain ⟨c, e1, hb⟩ := hf rem x r e
  exact ⟨c, e1, Nat.le_trans hb (Nat.mul_le_mul_right _ h)⟩

theorem bnd_loadScalarB (k : Sc) : Bnd (fun _ => 0) 0 (loadScalarB k) := by
  intro rem n r h
  rw [loadScalarB_eq] at h
  obtain ⟨bs, h1, _⟩ := mapD_some h
  obtain ⟨_, _, c, e, _⟩ := loadDataB_spec rem k.width bs r h1
  exact ⟨c, e, Nat.zero_le _⟩

theorem bnd_loadStringB : Bnd (fun bs => 1 + bs.length) 1 loadStringB := by
  intro rem bs r h
  rw [loadStringB_eq] at h
  obtain ⟨n, r1, h1, h2⟩ := bindD_some h
  obtain ⟨hn, c1, e1, hc⟩ := count_spec rem n r1 h1
  obtain ⟨_, hlen, c2, e2, _⟩ := loadDataB_spec r1 n bs r h2
  rw [u16_of_le hn] at hlen
  refine ⟨c1 + c2, by omega, ?_⟩
  show 1 + bs.length ≤ _
  omega

/-- a view delivers exactly the bytes it consumes -/
theorem bnd_loadViewB : Bnd (fun bs => 1 + bs.length) 1 loadViewB := by
  intro rem bs r h
  rw [loadViewB_eq] at h
  obtain ⟨n, r1, h1, h2⟩ := bindD_some h
  obtain ⟨_, c1, e1, _⟩ := count_spec rem n r1 h1
  simp only [Option.some.injEq, Prod.mk.injEq] at h2
  obtain ⟨rfl, rfl⟩ := h2
  have hl : (r1.take (u16 n)).length + (r1.drop (u16 n)).length = r1.length := by
    rw [← List.length_append, List.take_append_drop]
  refine ⟨c1 + (r1.take (u16 n)).length, by omega, ?_⟩
  show 1 + (r1.take (u16 n)).length ≤ _
  omega

mutual
theorem bndB : ∀ (ty : Ty), Bnd vsize (blank ty) (decodeB ty)
  | .sc k => by
    rw [decodeB_sc]
    exact (bnd_mapD (sb := vsize) _ 1 (fun _ => Nat.le_refl _) (bnd_loadScalarB k)).mono (by simp [blank])
  | .str => by
    rw [decodeB_str]
    exact (bnd_mapD (sb := vsize) _ 0 (fun _ => by simp [vsize]) bnd_loadStringB).mono (by simp [blank])
  | .buf => by
    rw [decodeB_buf]
    exact (bnd_mapD (sb := vsize) _ 0 (fun _ => by simp [vsize]) bnd_loadViewB).mono (by simp [blank])
  | .vec t => by
    rw [decodeB_vec]
    exact (bnd_mapD (sb := vsize) _ 1 (fun _ => by simp [vsize]) (bnd_counted (bndB t))).mono (by simp [blank])
  | .pair a b => by
    rw [decodeB_pair]
    exact (bnd_seqD (sc := vsize) _ 1 (fun _ _ => by simp [pairV, vsize, vsizes]; omega) (bndB a) (bndB b)).mono
      (by simp [blank])
  | .tuple ts | .struct ts => by
    simp only [decodeB_tuple, decodeB_struct]
    exact (bnd_mapD (sb := vsize) _ 1 (fun _ => by simp [vsize]) (bndFieldsB ts)).mono (by simp [blank])
  | .map k t => by
    -- an entry is a pair node; `std::map::insert` adds nothing to what the entries hold
    have hentry := bnd_seqD (sc := vsize) pairV 1 (fun _ _ => by simp [pairV, vsize, vsizes]; omega) (bndB k) (bndB t)
    rw [decodeB_map]
    exact (bnd_mapD (sb := vsize) _ 1 (fun kvs => by
      have := vsizes_foldl_mapInsert k kvs []
      simp only [vsize, mapFromList, vsizes] at this ⊢; omega) (bnd_counted hentry)).mono (by simp [blank]; omega)
theorem bndFieldsB : ∀ (ts : List Ty), BndL (blanks ts) (decodeFieldsB ts)
  | [] => by
    rw [decodeFieldsB_nil]
    intro rem xs r h
    simp only [pureD, Option.some.injEq, Prod.mk.injEq] at h
    obtain ⟨rfl, rfl⟩ := h
    exact ⟨0, rfl, by simp [vsizes]⟩
  | t :: ts => by
    rw [decodeFieldsB_cons]
    exact (bnd_seqD (sc := vsizes) List.cons 0 (fun _ _ => by simp [vsizes]) (bndB t) (bndFieldsB ts)).mono
      (by simp [blanks])
end

/-! ### the bound is reached: two bytes of input, 65535 elements -/

theorem repeatN_exhausted (n : Nat) :
    repeatN (decodeB (.sc .u8)) n [] = some (List.replicate n (.sc 0), []) := by
  have h0 : decodeB (.sc .u8) [] = some (.sc 0, []) := rfl
  induction n with
  | zero => rfl
  | succ n ih => simp only [repeatN, h0, ih, List.replicate_succ]

theorem vsizes_replicate_sc (n b : Nat) : vsizes (List.replicate n (.sc b)) = n := by
  induction n with
  | zero => rfl
  | succ n ih => simp only [List.replicate_succ, vsizes, vsize, ih]; omega

theorem hostile_count_decode (n : Nat) (input : List Byte) (hc : loadScalarB .u16 input = some (n, [])) :
    decodeB (.vec (.sc .u8)) input = some (.list (List.replicate n (.sc 0)), []) := by
  rw [decodeB, hc]
  simp only [repeatN_exhausted]

end Igris.C09
