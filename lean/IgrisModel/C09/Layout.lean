/-
  C09 — THE DOCUMENTED WIRE FORMAT, written from the format description
  alone.  Nothing of the model's writer is used: no `u16`, no `dumpData`/`dumpScalar`,
  no `leBytes` (the byte image is the closed form "byte i = ⌊n / 256^i⌋ mod 256"),
  no value accessors (the value is taken apart by pattern matching).  Only the
  type/value universe `Ty`/`Val` and the platform's `sizeof` table `Sc.width` are shared.
-/
import IgrisModel.C09.Lemmas
namespace Igris.C09
open Igris.Proto

/-- a `w`-byte unsigned little-endian number: byte `i` is digit `i` of `n` in base 256 -/
def digitsLE (w n : Nat) : List Byte := (List.range w).map fun i => BitVec.ofNat 8 (n / 256 ^ i)

mutual
/-- the format:
  * arithmetic type  — its `sizeof` bytes, least significant first;
  * string / buffer  — 2-byte length, then the bytes;
  * vector           — 2-byte element count, then the elements;
  * map              — 2-byte entry count, then key, value, key, value … in key order;
  * pair / tuple / user type — the members in declaration order, nothing else. -/
def layoutDoc : Ty → Val → List Byte
  | .sc k, .sc n => digitsLE k.width n
  | .str, .bytes bs => digitsLE 2 bs.length ++ bs
  | .buf, .bytes bs => digitsLE 2 bs.length ++ bs
  | .vec t, .list vs => digitsLE 2 vs.length ++ vs.flatMap (layoutDoc t)
  | .pair a b, .list [x, y] => layoutDoc a x ++ layoutDoc b y
  | .tuple ts, .list vs => layoutDocSeq ts vs
  | .map k t, .list kvs => digitsLE 2 kvs.length ++ kvs.flatMap fun kv =>
      match kv with
      | .list [x, y] => layoutDoc k x ++ layoutDoc t y
      | _ => []
  | .struct fs, .list vs => layoutDocSeq fs vs
  | _, _ => []
def layoutDocSeq : List Ty → List Val → List Byte
  | t :: ts, v :: vs => layoutDoc t v ++ layoutDocSeq ts vs
  | _, _ => []
end

theorem digitsLE_eq (w n : Nat) : digitsLE w n = leBytes w n := by
  apply List.ext_getElem?
  intro i
  by_cases h : i < w
  · rw [leBytes_getElem? w n i h]
    simp [digitsLE, h]
  · have h1 : (digitsLE w n)[i]? = none := List.getElem?_eq_none (by simp [digitsLE]; omega)
    have h2 : (leBytes w n)[i]? = none := List.getElem?_eq_none (by simp; omega)
    rw [h1, h2]

mutual
theorem encodeA_eq_layoutDoc : ∀ (ty : Ty) (v : Val), WF ty v → encodeA ty v = layoutDoc ty v
  | .sc k, v, h => by
    simp only [WF] at h; obtain ⟨n, rfl, _⟩ := h
    simp [encodeA, layoutDoc, dumpScalar_eq, digitsLE_eq, Val.bits]
  | .str, v, h | .buf, v, h => by
    simp only [WF] at h; obtain ⟨bs, rfl, hn⟩ := h
    simp [encodeA, layoutDoc, Val.bs, dumpBuffer_eq bs hn, digitsLE_eq]
  | .vec t, v, h => by
    simp only [WF] at h; obtain ⟨vs, rfl, hl, hall⟩ := h
    have := flatMap_congr_mem (encodeA t) (layoutDoc t) vs (fun x hx => encodeA_eq_layoutDoc t x (hall x hx))
    simp [encodeA, layoutDoc, Val.items, dumpScalar_eq, u16_of_le hl, Sc.width, this, digitsLE_eq]
  | .pair a b, v, h => by
    simp only [WF] at h; obtain ⟨x, y, rfl, hx, hy⟩ := h
    simp [encodeA, layoutDoc, Val.fst, Val.snd, Val.items, encodeA_eq_layoutDoc a x hx, encodeA_eq_layoutDoc b y hy]
  | .tuple ts, v, h | .struct ts, v, h => by
    simp only [WF] at h; obtain ⟨vs, rfl, hvs⟩ := h
    simp [encodeA, layoutDoc, Val.items, encodeFieldsA_eq_layoutDoc ts vs hvs]
  | .map k t, v, h => by
    simp only [WF] at h; obtain ⟨kvs, rfl, hl, hall, _⟩ := h
    have := flatMap_congr_mem (fun kv => encodeA k kv.fst ++ encodeA t kv.snd)
      (fun kv => match kv with
        | .list [x, y] => layoutDoc k x ++ layoutDoc t y
        | _ => []) kvs (fun kv hkv => by
        obtain ⟨x, y, rfl, hx, hy⟩ := hall kv hkv
        have e1 : (Val.list [x, y]).fst = x := rfl
        have e2 : (Val.list [x, y]).snd = y := rfl
        simp only [e1, e2, encodeA_eq_layoutDoc k x hx, encodeA_eq_layoutDoc t y hy])
    simp [encodeA, layoutDoc, Val.items, dumpScalar_eq, u16_of_le hl, Sc.width, this, digitsLE_eq]
theorem encodeFieldsA_eq_layoutDoc : ∀ (ts : List Ty) (vs : List Val), WFs ts vs →
    encodeFieldsA ts vs = layoutDocSeq ts vs
  | [], vs, h => by simp only [WFs] at h; subst h; simp [encodeFieldsA, layoutDocSeq]
  | t :: ts, vs, h => by
    simp only [WFs] at h
    obtain ⟨x, xs, rfl, hx, hxs⟩ := h
    simp [encodeFieldsA, layoutDocSeq, encodeA_eq_layoutDoc t x hx, encodeFieldsA_eq_layoutDoc ts xs hxs]
end

end Igris.C09
