/-
  C09 — decoding INTO an object that already holds a value
  (`igris::deserialize(reader, obj)`, `deserializer::operator&(T &obj)`).
-/
import IgrisModel.C09.Bound
import IgrisModel.C09.Framing
namespace Igris.C09
open Igris.Proto

theorem items_list (vs : List Val) : (Val.list vs).items = vs := rfl
theorem bits_sc (n : Nat) : (Val.sc n).bits = n := rfl

/-! ### the repaired code (clear = true) does not look at the destination; neither does the old
code when the destination is a default-constructed object -/

/-- what a container keeps of its old elements -/
theorem kept_nil {c : Bool} {d : Val} {ty : Ty} (h : c = true ∨ d = fresh ty) (hf : (fresh ty).items = []) :
    (if c = true then [] else d.items) = [] := by
  rcases h with rfl | rfl
  · rfl
  · simp [hf]

mutual
theorem decodeInto_eq : ∀ (c : Bool) (ty : Ty) (d : Val), (c = true ∨ d = fresh ty) →
    decodeInto c ty d = decodeB ty
  | c, .sc k, d, _ | c, .str, d, _ | c, .buf, d, _ => by
    funext rem; simp [decodeInto, decodeB]
  | c, .vec t, d, h => by
    funext rem
    simp only [decodeInto, decodeB, decodeInto_eq c t (fresh t) (Or.inr rfl), kept_nil h (by rw [fresh]; rfl),
      List.nil_append]
  | c, .pair a b, d, h => by
    funext rem
    simp only [decodeInto, decodeB, decodeInto_eq c a d.fst (h.imp_right fun e => by rw [e, fresh]; rfl),
      decodeInto_eq c b d.snd (h.imp_right fun e => by rw [e, fresh]; rfl)]
  | c, .tuple ts, d, h | c, .struct ts, d, h => by
    funext rem
    simp only [decodeInto, decodeB, decodeIntoFields_eq c ts d.items (h.imp_right fun e => by rw [e, fresh]; rfl)]
  | c, .map k t, d, h => by
    funext rem
    simp only [decodeInto, decodeB, decodeInto_eq c k (fresh k) (Or.inr rfl),
      decodeInto_eq c t (fresh t) (Or.inr rfl), kept_nil h (by rw [fresh]; rfl), mapFromList]
theorem decodeIntoFields_eq : ∀ (c : Bool) (ts : List Ty) (ds : List Val), (c = true ∨ ds = freshs ts) →
    decodeIntoFields c ts ds = decodeFieldsB ts
  | c, [], ds, _ => by funext rem; simp [decodeIntoFields, decodeFieldsB]
  | c, t :: ts, ds, h => by
    funext rem
    simp only [decodeIntoFields, decodeFieldsB,
      decodeInto_eq c t (ds.headD default) (h.imp_right fun e => by rw [e, freshs]; rfl),
      decodeIntoFields_eq c ts ds.tail (h.imp_right fun e => by rw [e, freshs]; rfl)]
end

theorem loadIntoS_full {n : Nat} (bs rest old : List Byte) (h : bs.length = n) :
    loadIntoS (bs ++ rest) n old = some (bs, rest) := by
  subst h
  unfold loadIntoS
  have hl : ((bs ++ rest).take bs.length).length = bs.length := by simp
  simp only [hl, readN_append, Nat.sub_self, List.take_zero, List.append_nil]

theorem loadIntoS_zero (rem : List Byte) (w : Nat) :
    loadIntoS rem w (leBytes w 0) = loadS rem w := by
  have hz : ∀ w : Nat, leBytes w 0 = List.replicate w 0#8 := by
    intro w
    induction w with
    | zero => rfl
    | succ w ih => simp [leBytes, ih, List.replicate_succ]
  unfold loadIntoS loadS
  simp only [hz]
  cases readN ((rem.take w).length) rem with
  | none => rfl
  | some p =>
    obtain ⟨bs, r⟩ := p
    simp only [List.drop_replicate, List.take_replicate, List.length_take]
    rw [Nat.min_self]

mutual
theorem rtIntoS : ∀ (c : Bool) (ty : Ty) (d v : Val) (rest : List Byte),
    (c = true ∨ d = fresh ty) → ty.supportedS = true → WF ty v →
    decodeIntoS c ty d (encodeS ty v ++ rest) = some (v, rest)
  | c, .sc k, d, v, rest, _, _, h => by
    simp only [WF] at h
    obtain ⟨n, rfl, hn⟩ := h
    simp only [encodeS, decodeIntoS, bits_sc, loadIntoS_full _ rest _ (leBytes_length k.width n),
      leVal_leBytes_of_lt _ _ hn]
  | c, .vec t, d, v, rest, hc, hs, h => by
    simp only [WF] at h
    obtain ⟨vs, rfl, hl, hall⟩ := h
    simp only [Ty.supportedS] at hs
    simp only [encodeS, decodeIntoS, items_list, List.append_assoc, u16_of_le hl, loadS_full _ _ (leBytes_length 2 vs.length),
      leVal_leBytes_of_lt 2 vs.length (by omega),
      repeatN_flatMap (decodeIntoS c t (fresh t)) (encodeS t) vs rest
        (fun x hx rest => rtIntoS c t (fresh t) x rest (Or.inr rfl) hs (hall x hx)),
      kept_nil hc (by rw [fresh]; rfl), List.nil_append]
  | c, .struct fs, d, v, rest, hc, hs, h => by
    simp only [WF] at h
    obtain ⟨vs, rfl, hvs⟩ := h
    simp only [Ty.supportedS] at hs
    simp only [encodeS, decodeIntoS, items_list,
      rtIntoSs c fs d.items vs rest (hc.imp_right fun e => by rw [e, fresh]; rfl) hs hvs]
  | _, .str, _, _, _, _, hs, _ | _, .buf, _, _, _, _, hs, _ | _, .pair _ _, _, _, _, _, hs, _
  | _, .tuple _, _, _, _, _, hs, _ | _, .map _ _, _, _, _, _, hs, _ => by
    simp [Ty.supportedS] at hs
theorem rtIntoSs : ∀ (c : Bool) (ts : List Ty) (ds vs : List Val) (rest : List Byte),
    (c = true ∨ ds = freshs ts) → supportedSs ts = true → WFs ts vs →
    decodeIntoFieldsS c ts ds (encodeFieldsS ts vs ++ rest) = some (vs, rest)
  | c, [], ds, vs, rest, _, _, h => by
    simp only [WFs] at h; subst h
    simp [encodeFieldsS, decodeIntoFieldsS]
  | c, t :: ts, ds, vs, rest, hc, hs, h => by
    simp only [WFs] at h
    obtain ⟨x, xs, rfl, hx, hxs⟩ := h
    simp only [supportedSs, Bool.and_eq_true] at hs
    simp only [encodeFieldsS, decodeIntoFieldsS, List.headD_cons, List.tail_cons, List.append_assoc,
      rtIntoS c t (ds.headD default) x _ (hc.imp_right fun e => by rw [e, freshs]; rfl) hs.1 hx,
      rtIntoSs c ts ds.tail xs rest (hc.imp_right fun e => by rw [e, freshs]; rfl) hs.2 hxs]
end

/-! into a value-initialised object (`T obj{}`) the in-place reader IS `deserialize<T>()`, on every input -/
mutual
theorem decodeIntoS_fresh : ∀ (c : Bool) (ty : Ty), decodeIntoS c ty (fresh ty) = decodeS ty
  | c, .sc k => by
    funext rem
    simp only [decodeIntoS, decodeS, fresh, Val.bits, loadIntoS_zero]
  | c, .vec t => by
    funext rem
    simp only [decodeIntoS, decodeS, decodeIntoS_fresh c t, fresh, Val.items]
    cases loadS rem 2 with
    | none => rfl
    | some p =>
      obtain ⟨bs, r⟩ := p
      simp only
      cases repeatN (decodeS t) (leVal bs) r with
      | none => rfl
      | some q => obtain ⟨xs, r2⟩ := q; cases c <;> simp
  | c, .struct fs => by
    funext rem
    simp only [decodeIntoS, decodeS, fresh, Val.items, decodeIntoFieldsS_fresh c fs]
  | c, .str | c, .buf | c, .pair _ _ | c, .tuple _ | c, .map _ _ => by
    funext rem; simp [decodeIntoS, decodeS]
theorem decodeIntoFieldsS_fresh : ∀ (c : Bool) (ts : List Ty), decodeIntoFieldsS c ts (freshs ts) = decodeFieldsS ts
  | c, [] => by funext rem; simp [decodeIntoFieldsS, decodeFieldsS]
  | c, t :: ts => by
    funext rem
    simp only [decodeIntoFieldsS, decodeFieldsS, freshs, List.headD_cons, List.tail_cons,
      decodeIntoS_fresh c t, decodeIntoFieldsS_fresh c ts]
end

/-! ### the code before the fix: a vector is appended to, a map is inserted into -/

theorem decodeInto_old_vec (t : Ty) (d : Val) (rem : List Byte) :
    decodeInto false (.vec t) d rem =
      match decodeB (.vec t) rem with
      | some (v, r) => some (.list (d.items ++ v.items), r)
      | none => none := by
  have ih := decodeInto_eq false t (fresh t) (Or.inr rfl)
  simp only [decodeInto, decodeB, ih]
  cases loadScalarB .u16 rem with
  | none => rfl
  | some p =>
    obtain ⟨n, r⟩ := p
    simp only
    cases repeatN (decodeB t) n r with
    | none => rfl
    | some q => obtain ⟨xs, r2⟩ := q; simp [Val.items]

theorem decodeInto_old_map (k t : Ty) (d : Val) (input rest r : List Byte) (kvs : List Val) (n : Nat)
    (h1 : loadScalarB .u16 input = some (n, r))
    (h2 : repeatN (fun rem =>
          match decodeB k rem with
          | none => none
          | some (x, r) =>
            match decodeB t r with
            | some (y, r2) => some (Val.list [x, y], r2)
            | none => none) n r = some (kvs, rest)) :
    decodeInto false (.map k t) d input =
      some (.list (kvs.foldl (fun m kv => mapInsert k kv m) d.items), rest) := by
  have hk := decodeInto_eq false k (fresh k) (Or.inr rfl)
  have ht := decodeInto_eq false t (fresh t) (Or.inr rfl)
  simp only [decodeInto, hk, ht, h1]
  -- `h2` spells the entry step with a `match` of its own: it meets the one of `decodeInto` only up to unfolding
  erw [h2]
  simp

/-! `Counts16` as a Boolean function: the domain of the round trip is decidable -/

mutual
def counts16b : Ty → Val → Bool
  | .sc _, _ => true
  | .str, v => decide (v.bs.length ≤ 65535)
  | .buf, v => decide (v.bs.length ≤ 65535)
  | .vec t, v => decide (v.items.length ≤ 65535) && v.items.all (counts16b t)
  | .pair a b, v => counts16b a v.fst && counts16b b v.snd
  | .tuple ts, v => counts16bs ts v.items
  | .map k t, v => decide (v.items.length ≤ 65535) && v.items.all (fun kv => counts16b k kv.fst && counts16b t kv.snd)
  | .struct fs, v => counts16bs fs v.items
def counts16bs : List Ty → List Val → Bool
  | [], _ => true
  | t :: ts, vs => counts16b t (vs.headD default) && counts16bs ts vs.tail
end

mutual
theorem counts16b_iff : ∀ (ty : Ty) (v : Val), counts16b ty v = true ↔ Counts16 ty v
  | .sc _, v | .str, v | .buf, v => by
    simp [counts16b, Counts16]
  | .vec t, v => by
    simp only [counts16b, Counts16, Bool.and_eq_true, decide_eq_true_eq, List.all_eq_true]
    exact and_congr Iff.rfl (forall_congr' fun x => imp_congr Iff.rfl (counts16b_iff t x))
  | .pair a b, v => by
    simp only [counts16b, Counts16, Bool.and_eq_true]
    exact and_congr (counts16b_iff a _) (counts16b_iff b _)
  | .tuple ts, v | .struct ts, v => by simp only [counts16b, Counts16]; exact counts16bs_iff ts _
  | .map k t, v => by
    simp only [counts16b, Counts16, Bool.and_eq_true, decide_eq_true_eq, List.all_eq_true]
    exact and_congr Iff.rfl (forall_congr' fun x => imp_congr Iff.rfl
      (and_congr (counts16b_iff k _) (counts16b_iff t _)))
theorem counts16bs_iff : ∀ (ts : List Ty) (vs : List Val), counts16bs ts vs = true ↔ Counts16s ts vs
  | [], vs => by simp [counts16bs, Counts16s]
  | t :: ts, vs => by
    simp only [counts16bs, Counts16s, Bool.and_eq_true]
    exact and_congr (counts16b_iff t _) (counts16bs_iff ts _)
end

instance (ty : Ty) (v : Val) : Decidable (Counts16 ty v) :=
  decidable_of_iff _ (counts16b_iff ty v)

end Igris.C09
