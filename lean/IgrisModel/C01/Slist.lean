/-
  C01 — singly linked rings (igris/datastruct/slist.h, igris/container/slist.h): the operations on an `SRing`
  and what each of them leaves untouched.
-/
import IgrisModel.C01.Lemmas
namespace Igris.C01

theorem SHeap.set_next (h : SHeap) (a v y : Nat) : (h.set a v).next y = if y = a then v else h.next y := rfl
theorem SHeap.set_next_eq (h : SHeap) (a v : Nat) : (h.set a v).next = upd h.next a v := rfl

/-- a singly linked ring: head, then `xs`, then back to head -/
structure SRing (h : SHeap) (head : Nat) (xs : List Nat) : Prop where
  nodup : (head :: xs).Nodup
  fwd : Seg h.next head xs head

theorem SRing.head_not_mem {h : SHeap} {head : Nat} {xs : List Nat} (r : SRing h head xs) : head ∉ xs :=
  (List.nodup_cons.mp r.nodup).1

theorem slistAdd_next (h : SHeap) (link head y : Nat) :
    (slistAdd h link head).next y = if y = head then link else if y = link then h.next head else h.next y := by
  simp [slistAdd, SHeap.set_next]

theorem slistAdd_frame (h : SHeap) (link head y : Nat) (h1 : y ≠ link) (h2 : y ≠ head) :
    (slistAdd h link head).next y = h.next y := by
  simp [slistAdd_next, h1, h2]

theorem slistAdd_ring (h : SHeap) (link head : Nat) (xs : List Nat) (r : SRing h head xs)
    (hl : link ∉ head :: xs) : SRing (slistAdd h link head) head (link :: xs) :=
  ⟨(List.Perm.swap _ _ _).nodup_iff.mp (List.nodup_cons.mpr ⟨hl, r.nodup⟩),
   Seg_insert_after r.fwd r.head_not_mem hl⟩

theorem SRing.rot {h : SHeap} {a b : Nat} {l1 l2 : List Nat} (r : SRing h a (l1 ++ b :: l2)) :
    SRing h b (l2 ++ a :: l1) :=
  ⟨(rot_perm (a :: l1) l2 b).nodup_iff.mp r.nodup, Seg_rot r.fwd⟩

theorem slistAdd_after (h : SHeap) (link hd p : Nat) (pre post : List Nat)
    (r : SRing h hd (pre ++ p :: post)) (hl : link ∉ hd :: (pre ++ p :: post)) :
    SRing (slistAdd h link p) hd (pre ++ p :: link :: post) := by
  have r2 := slistAdd_ring h link p _ r.rot (fun hm => hl ((rot_perm (hd :: pre) post p).mem_iff.mpr hm))
  have : SRing (slistAdd h link p) p ((link :: post) ++ hd :: pre) := by simpa using r2
  simpa using this.rot

theorem slistPopFirst_ring (h : SHeap) (head x : Nat) (xs : List Nat) (r : SRing h head (x :: xs)) :
    (slistPopFirst h head).2 = some x ∧ SRing (slistPopFirst h head).1 head xs := by
  have hxh : x ≠ head := fun e => r.head_not_mem (by simp [e])
  simp only [slistPopFirst, show h.next head = x from r.fwd.1, hxh, if_false]
  -- head now points at x's successor: x is cut out of the path
  exact ⟨trivial, (List.nodup_cons.mp ((List.Perm.swap _ _ _).nodup_iff.mp r.nodup)).2,
    Seg_cut (pre := []) r.fwd r.nodup⟩

theorem slistPopFirst_empty (h : SHeap) (head : Nat) (r : SRing h head []) :
    slistPopFirst h head = (h, none) := by
  have := r.fwd; simp only [Seg] at this
  simp [slistPopFirst, this]

theorem SRing.congr {h h' : SHeap} {head : Nat} {xs : List Nat} (r : SRing h head xs)
    (e : ∀ y ∈ head :: xs, h'.next y = h.next y) : SRing h' head xs :=
  ⟨r.nodup, (Seg_congr _ _ _ _ _ e).mpr r.fwd⟩

theorem slistInit_ring (h : SHeap) (a : Nat) : SRing (slistInit h a) a [] :=
  ⟨by simp, by simp [Seg, slistInit, SHeap.set_next]⟩

theorem slistPopFirst_frame (h : SHeap) (head y : Nat) (hy : y ≠ head) :
    (slistPopFirst h head).1.next y = h.next y := by
  simp only [slistPopFirst]
  by_cases e : h.next head = head <;> simp [e, SHeap.set_next, hy]

theorem slistUnlinkFrom_absent (h : SHeap) (head n : Nat) :
    ∀ (rest : List Nat) (p fuel : Nat), Seg h.next p rest head → head ∉ rest → rest.length < fuel → n ∉ rest →
      slistUnlinkFrom h head n fuel p = h :=
  Seg.walk (C := fun fuel p rest => n ∉ rest → slistUnlinkFrom h head n fuel p = h)
    (fun f p e _ => by simp [slistUnlinkFrom, e])
    (fun f p x xs e hx ih hn => by
      have hxn : x ≠ n := fun e' => hn (by simp [e'])
      simp only [slistUnlinkFrom, e, hx, hxn, if_false]
      exact ih fun hm => hn (List.mem_cons_of_mem _ hm))

theorem slistUnlinkFrom_present {h : SHeap} {head n : Nat} {pre post : List Nat} (r : SRing h head (pre ++ n :: post))
    (fuel : Nat) (hf : pre.length < fuel) :
    slistUnlinkFrom h head n fuel head = h.set ((head :: pre).getLast (by simp)) (h.next n) := by
  have hn : n ∉ head :: pre := fun hm =>
    (List.nodup_append.mp (show ((head :: pre) ++ n :: post).Nodup from r.nodup)).2.2 n hm n List.mem_cons_self rfl
  have hnh : n ≠ head := fun e => hn (by simp [e])
  -- the search is a walk along `pre` that ends when it reads `n`
  refine Seg.walk (head := n) (C := fun fuel p pre => head ∉ pre →
      slistUnlinkFrom h head n fuel p = h.set ((p :: pre).getLast (by simp)) (h.next n))
    (fun f p e _ => by simp [slistUnlinkFrom, e, hnh])
    (fun f p x xs e hx ih hh => ?_) pre head fuel ((Seg_append _ _ _ _ _ _).mp r.fwd).1
    (fun hm => hn (List.mem_cons_of_mem _ hm)) hf fun hm => r.head_not_mem (List.mem_append_left _ hm)
  have hxh : x ≠ head := fun e' => hh (by simp [e'])
  simp only [slistUnlinkFrom, e, hxh, hx, if_false, List.getLast_cons_cons]
  exact ih fun hm => hh (List.mem_cons_of_mem _ hm)

theorem slistMoveFront_absent (h : SHeap) (head n : Nat) (xs : List Nat) (r : SRing h head xs)
    (hn : n ∉ head :: xs) (fuel : Nat) (hf : xs.length < fuel) :
    SRing (slistMoveFront h fuel n head) head (n :: xs) := by
  unfold slistMoveFront
  rw [slistUnlinkFrom_absent h head n xs head fuel r.fwd r.head_not_mem hf fun hm => hn (by simp [hm])]
  exact slistAdd_ring h n head xs r hn

theorem slistMoveFront_present (h : SHeap) (head n : Nat) (pre post : List Nat)
    (r : SRing h head (pre ++ n :: post)) (fuel : Nat) (hf : pre.length < fuel) :
    SRing (slistMoveFront h fuel n head) head (n :: (pre ++ post)) := by
  unfold slistMoveFront
  rw [slistUnlinkFrom_present r fuel hf]
  have pm : (head :: (pre ++ n :: post)).Perm (n :: head :: (pre ++ post)) :=
    (List.Perm.cons head List.perm_middle).trans (List.Perm.swap _ _ _)
  obtain ⟨hnn, hnd2⟩ := List.nodup_cons.mp (pm.nodup_iff.mp r.nodup)
  have r' : SRing (h.set ((head :: pre).getLast (by simp)) (h.next n)) head (pre ++ post) :=
    ⟨hnd2, Seg_cut r.fwd r.nodup⟩
  exact slistAdd_ring _ n head (pre ++ post) r' hnn

/-- `move_front` writes only `n`, the head and (when `n` is in this list) `n`'s predecessor in this list -/
theorem slistMoveFront_frame (h : SHeap) (head n : Nat) (xs : List Nat) (r : SRing h head xs) (fuel : Nat)
    (hf : xs.length < fuel) (y : Nat) (hy : y ∉ n :: head :: xs) :
    (slistMoveFront h fuel n head).next y = h.next y := by
  simp only [List.mem_cons, not_or] at hy
  unfold slistMoveFront
  by_cases hn : n ∈ xs
  · obtain ⟨pre, post, rfl⟩ := List.append_of_mem hn
    rw [slistUnlinkFrom_present r fuel (by simp at hf; omega)]
    rw [slistAdd_frame _ _ _ _ hy.1 hy.2.1]
    have hm : (head :: pre).getLast (by simp) ∈ head :: pre := List.getLast_mem _
    have : y ≠ (head :: pre).getLast (by simp) := by
      intro e; rw [← e] at hm
      rcases List.mem_cons.mp hm with e1 | e1
      · exact hy.2.1 e1
      · exact hy.2.2 (by simp [e1])
    simp [SHeap.set_next, this]
  · rw [slistUnlinkFrom_absent h head n xs head fuel r.fwd r.head_not_mem hf hn]
    exact slistAdd_frame _ _ _ _ hy.1 hy.2.1

end Igris.C01
