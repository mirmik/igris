/-
  C01 — paths along a successor function `Nat → Nat`: a function updated at one point (`upd`), the path
  predicate `Seg`, iteration (`iterN`).  Nothing here mentions a heap: the doubly linked heap uses these
  facts for `next` and (flipped) for `prev`, the singly linked heap for its `next`, the bounded walks for both.
-/
namespace Igris.C01

def upd (f : Nat → Nat) (a v : Nat) : Nat → Nat := fun x => if x = a then v else f x

theorem upd_same (f : Nat → Nat) (a v : Nat) : upd f a v a = v := if_pos rfl

theorem upd_of_ne {f : Nat → Nat} {a x : Nat} (v : Nat) (h : x ≠ a) : upd f a v x = f x := if_neg h

theorem upd_upd (f : Nat → Nat) (a v w : Nat) : upd (upd f a v) a w = upd f a w := by
  funext x; simp only [upd]; split <;> rfl

theorem upd_comm (f : Nat → Nat) {a b : Nat} (v w : Nat) (h : a ≠ b) :
    upd (upd f a v) b w = upd (upd f b w) a v := by
  funext x; simp only [upd]
  by_cases e : x = b
  · rw [if_pos e, if_neg (e ▸ h.symm), if_pos e]
  · rw [if_neg e, if_neg e]

theorem upd_eq_self {f : Nat → Nat} {a v : Nat} (h : f a = v) : upd f a v = f := by
  funext x; simp only [upd]; split
  · next e => rw [e, h]
  · rfl

/-- following `nx` from `a` visits exactly the nodes `l`, then arrives at `b` -/
def Seg (nx : Nat → Nat) : Nat → List Nat → Nat → Prop
  | a, [], b => nx a = b
  | a, x :: xs, b => nx a = x ∧ Seg nx x xs b

theorem Seg_append (nx : Nat → Nat) (a : Nat) (l1 : List Nat) (x : Nat) (l2 : List Nat) (b : Nat) :
    Seg nx a (l1 ++ x :: l2) b ↔ Seg nx a l1 x ∧ Seg nx x l2 b := by
  induction l1 generalizing a with
  | nil => simp [Seg]
  | cons y ys ih => simp [Seg, ih, and_assoc]

theorem Seg_snoc (nx : Nat → Nat) (a : Nat) (l : List Nat) (x b : Nat) :
    Seg nx a (l ++ [x]) b ↔ Seg nx a l x ∧ nx x = b := by
  rw [Seg_append]; simp [Seg]

theorem Seg_rot {nx : Nat → Nat} {a b : Nat} {l1 l2 : List Nat} (s : Seg nx a (l1 ++ b :: l2) a) :
    Seg nx b (l2 ++ a :: l1) b :=
  have := (Seg_append nx a l1 b l2 a).mp s
  (Seg_append nx b l2 a l1 b).mpr ⟨this.2, this.1⟩

theorem rot_perm (l1 l2 : List Nat) (b : Nat) : (l1 ++ b :: l2).Perm (b :: (l2 ++ l1)) :=
  List.perm_append_comm

theorem perm_cons_cons_erase_erase {α} [BEq α] [LawfulBEq α] {l : List α} {a b : α} (ha : a ∈ l) (hb : b ∈ l)
    (hne : b ≠ a) : l.Perm (a :: b :: (l.erase a).erase b) :=
  (List.perm_cons_erase ha).trans (List.Perm.cons a (List.perm_cons_erase ((List.mem_erase_of_ne hne).mpr hb)))

theorem Seg_congr (nx nx' : Nat → Nat) (a : Nat) (l : List Nat) (b : Nat)
    (h : ∀ y ∈ a :: l, nx' y = nx y) : Seg nx' a l b ↔ Seg nx a l b := by
  induction l generalizing a with
  | nil => simp [Seg, h a (by simp)]
  | cons x xs ih =>
    simp only [Seg, h a (by simp)]
    rw [ih x (fun y hy => h y (List.mem_cons_of_mem _ hy))]

theorem Seg_next_unique {nx nx' : Nat → Nat} : ∀ {l : List Nat} {a b : Nat}, Seg nx a l b → Seg nx' a l b →
    ∀ y ∈ a :: l, nx' y = nx y
  | [], a, b, s1, s2 => List.forall_mem_singleton.mpr (s2.trans s1.symm)
  | x :: xs, a, b, s1, s2 => List.forall_mem_cons.mpr ⟨by rw [s1.1, s2.1], Seg_next_unique s1.2 s2.2⟩

theorem Seg_shift_start (nx nx' : Nat → Nat) (a c : Nat) (l : List Nat) (b : Nat)
    (hs : Seg nx a l b) (hc : nx' c = nx a) (hl : ∀ y ∈ l, nx' y = nx y) : Seg nx' c l b := by
  cases l with
  | nil => simp only [Seg] at hs ⊢; rw [hc, hs]
  | cons x xs =>
    simp only [Seg] at hs ⊢
    exact ⟨by rw [hc, hs.1], (Seg_congr _ _ x xs b hl).mpr hs.2⟩

/-- the two stores of `__dlist_add` / `slist_add` on the `next` field -/
theorem Seg_insert_after {nx : Nat → Nat} {head lnk : Nat} {ys : List Nat} (hs : Seg nx head ys head)
    (hh : head ∉ ys) (hl : lnk ∉ head :: ys) : Seg (upd (upd nx lnk (nx head)) head lnk) head (lnk :: ys) head := by
  have hlh : lnk ≠ head := fun e => hl (by simp [e])
  refine ⟨upd_same _ _ _, Seg_shift_start nx _ head lnk ys head hs ?_ fun y hy => ?_⟩
  · rw [upd_of_ne _ hlh, upd_same]
  · have h1 : y ≠ head := fun e => hh (e ▸ hy)
    have h2 : y ≠ lnk := fun e => hl (by simp [← e, hy])
    rw [upd_of_ne _ h1, upd_of_ne _ h2]

theorem Seg_next_headD {nx : Nat → Nat} {y : Nat} {ys : List Nat} {hd : Nat} (hs : Seg nx y ys hd) :
    nx y = ys.headD hd := by
  cases ys with
  | nil => exact hs
  | cons z zs => exact hs.1

theorem Seg_self_iff {nx : Nat → Nat} {a : Nat} {xs : List Nat} (hs : Seg nx a xs a) (hn : a ∉ xs) :
    nx a = a ↔ xs = [] := by
  cases xs with
  | nil => simp [show nx a = a from hs]
  | cons x xs => simp only [hs.1, reduceCtorEq, iff_false]; exact fun e => hn (by simp [e])

theorem Seg_mem_next (nx : Nat → Nat) (a : Nat) (l : List Nat) (b : Nat) (h : Seg nx a l b) :
    ∀ y ∈ a :: l, nx y ∈ l ++ [b] := by
  induction l generalizing a with
  | nil => intro y hy; simp at hy; subst hy; simp [Seg] at h; simp [h]
  | cons x xs ih =>
    intro y hy
    simp only [Seg] at h
    rcases List.mem_cons.mp hy with rfl | hy
    · simp [h.1]
    · exact List.mem_cons_of_mem _ (ih x h.2 y hy)

theorem Seg_surj (nx : Nat → Nat) (a : Nat) (l : List Nat) (b : Nat) (hs : Seg nx a l b) :
    ∀ y ∈ l ++ [b], ∃ z ∈ a :: l, nx z = y := by
  induction l generalizing a with
  | nil => intro y hy; simp at hy; subst hy; exact ⟨a, by simp, hs⟩
  | cons x xs ih =>
    simp only [Seg] at hs
    intro y hy
    rcases List.mem_cons.mp hy with rfl | hy
    · exact ⟨a, by simp, hs.1⟩
    · obtain ⟨z, hz, e⟩ := ih x hs.2 y hy
      exact ⟨z, List.mem_cons_of_mem _ hz, e⟩

theorem Seg_last (nx : Nat → Nat) (a : Nat) (l : List Nat) (b : Nat) (hs : Seg nx a l b) :
    nx ((a :: l).getLast (by simp)) = b := by
  induction l generalizing a with
  | nil => exact hs
  | cons x xs ih => rw [List.getLast_cons_cons]; exact ih x hs.2

theorem Seg_reverse (nx pv : Nat → Nat) (a : Nat) (l : List Nat) (b : Nat)
    (hs : Seg nx a l b) (hb : ∀ y ∈ a :: l, pv (nx y) = y) : Seg pv b l.reverse a := by
  induction l generalizing a with
  | nil => simp only [Seg] at hs; simp only [List.reverse_nil, Seg]; rw [← hs]; exact hb a (by simp)
  | cons x xs ih =>
    simp only [Seg] at hs
    rw [List.reverse_cons, Seg_snoc]
    refine ⟨ih x hs.2 (fun y hy => hb y (List.mem_cons_of_mem _ hy)), ?_⟩
    rw [← hs.1]; exact hb a (by simp)

theorem Seg_set_last (nx : Nat → Nat) (a : Nat) (l : List Nat) (b c : Nat)
    (hs : Seg nx a l b) (hn : (a :: l).Nodup) :
    Seg (upd nx ((a :: l).getLast (by simp)) c) a l c := by
  induction l generalizing a with
  | nil => simp [Seg, upd]
  | cons x xs ih =>
    simp only [Seg] at hs
    have hne : a ≠ (x :: xs).getLast (by simp) := fun e =>
      (List.nodup_cons.mp hn).1 (e ▸ List.getLast_mem _)
    simp only [Seg, List.getLast_cons_cons]
    exact ⟨by rw [upd_of_ne _ hne, hs.1], ih x hs.2 (List.nodup_cons.mp hn).2⟩

theorem Seg_cut {nx : Nat → Nat} {a n b : Nat} {pre post : List Nat} (hs : Seg nx a (pre ++ n :: post) b)
    (hnd : (a :: (pre ++ n :: post)).Nodup) :
    Seg (upd nx ((a :: pre).getLast (by simp)) (nx n)) a (pre ++ post) b := by
  obtain ⟨s1, s2⟩ := (Seg_append nx a pre n post b).mp hs
  have hnd' : ((a :: pre) ++ n :: post).Nodup := hnd
  have s1' := Seg_set_last nx a pre n (nx n) s1 (List.nodup_append.mp hnd').1
  cases post with
  | nil => rw [List.append_nil, ← show nx n = b from s2]; exact s1'
  | cons y ys =>
    rw [show nx n = y from s2.1] at s1' ⊢
    rw [Seg_append]
    refine ⟨s1', (Seg_congr nx _ y ys b fun z hz => upd_of_ne _ fun e => ?_).mpr s2.2⟩
    exact (List.nodup_append.mp hnd').2.2 z (e ▸ List.getLast_mem _) z (List.mem_cons_of_mem _ hz) rfl

/-- the induction of every bounded walk of the model along a path: the loop has `fuel` iterations left, stands behind
`a` (it reads `nx a`) and meets `head` only at the end; what else a walk needs of the path goes into `C` as a premise -/
theorem Seg.walk {nx : Nat → Nat} {head : Nat} {C : Nat → Nat → List Nat → Prop}
    (nil : ∀ f a, nx a = head → C (f + 1) a [])
    (cons : ∀ f a x xs, nx a = x → x ≠ head → C f x xs → C (f + 1) a (x :: xs)) :
    ∀ (l : List Nat) (a fuel : Nat), Seg nx a l head → head ∉ l → l.length < fuel → C fuel a l
  | _, _, 0, _, _, hf => absurd hf (Nat.not_lt_zero _)
  | [], a, f + 1, hs, _, _ => nil f a hs
  | x :: xs, a, f + 1, hs, hn, hf =>
    cons f a x xs hs.1 (fun e => hn (by simp [e]))
      (Seg.walk nil cons xs x f hs.2 (fun hm => hn (List.mem_cons_of_mem _ hm)) (by simpa using hf))

def iterN (f : Nat → Nat) : Nat → Nat → Nat
  | 0, a => a
  | n + 1, a => iterN f n (f a)

theorem iterN_seg (nx : Nat → Nat) : ∀ (l : List Nat) (a b : Nat), Seg nx a l b →
    ∀ k (hk : k < l.length), iterN nx (k + 1) a = l[k]
  | [], _, _, _, k, hk => absurd hk (Nat.not_lt_zero k)
  | x :: xs, a, b, hs, k, hk => by
    simp only [Seg] at hs
    cases k with
    | zero => simp [iterN, hs.1]
    | succ k =>
      have := iterN_seg nx xs x b hs.2 k (by simpa using hk)
      simp only [iterN] at this ⊢
      rw [hs.1]; simpa using this

theorem iterN_seg_end (nx : Nat → Nat) : ∀ (l : List Nat) (a b : Nat), Seg nx a l b → iterN nx (l.length + 1) a = b
  | [], _, _, hs => hs
  | x :: xs, a, b, hs => by
    show iterN nx (xs.length + 1) (nx a) = b
    rw [hs.1]; exact iterN_seg_end nx xs x b hs.2

theorem iterN_succ_outer (f : Nat → Nat) : ∀ (n a : Nat), iterN f (n + 1) a = f (iterN f n a) := by
  intro n
  induction n with
  | zero => intro a; rfl
  | succ n ih => intro a; simp only [iterN] at ih ⊢; exact ih (f a)

/-- when every node of the orbit `a, f a, …` up to index `k` is pointed back at by its successor and the
orbit does not come back to `a` before index `k + 1`, its first `k + 1` nodes are pairwise different -/
theorem orbit_inj (nx pv : Nat → Nat) (a k : Nat)
    (hb : ∀ j, j ≤ k → pv (nx (iterN nx j a)) = iterN nx j a)
    (hne : ∀ j, j < k → iterN nx (j + 1) a ≠ a) :
    ∀ i j, i < j → j ≤ k → iterN nx i a ≠ iterN nx j a := by
  intro i
  induction i with
  | zero =>
    intro j hij hjk
    cases j with
    | zero => omega
    | succ j => exact fun e => hne j (by omega) e.symm
  | succ i ih =>
    intro j hij hjk e
    cases j with
    | zero => omega
    | succ j =>
      rw [iterN_succ_outer, iterN_succ_outer] at e
      have e2 := congrArg pv e
      rw [hb i (by omega), hb j (by omega)] at e2
      exact ih j (by omega) (by omega) e2

theorem Seg_range' (nx : Nat → Nat) : ∀ (m a b : Nat), (∀ x, a ≤ x → x < a + m → nx x = x + 1) → nx (a + m) = b →
    Seg nx a (List.range' (a + 1) m) b
  | 0, _, _, _, hb => hb
  | m + 1, a, b, h, hb =>
    ⟨h a (Nat.le_refl a) (by omega), Seg_range' nx m (a + 1) b (fun x h1 h2 => h x (by omega) (by omega))
      (by rw [show a + 1 + m = a + (m + 1) by omega]; exact hb)⟩

end Igris.C01
