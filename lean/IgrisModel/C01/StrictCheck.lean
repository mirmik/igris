/-
  C01 — the repaired `dlist_is_correct` / `is_correct()` (one walk testing `it->next->prev == it`) accepts
  exactly the well-formed rings: a closed path on which every successor points back has pairwise different
  nodes (`orbit_inj`).  The closed-form ring `ringHeap n` of the driver is such a path (`ring_heap_is_ring` in
  Props.lean).
-/
import IgrisModel.C01.Walks
namespace Igris.C01

theorem isRing_of_seg_back {h : Heap} {a : Nat} {ys : List Nat} (hs : Seg h.next a ys a) (hnot : a ∉ ys)
    (hb : ∀ y ∈ a :: ys, h.prev (h.next y) = y) : IsRing h a ys := by
  have el : ∀ k (hk : k < ys.length), iterN h.next (k + 1) a = ys[k] := iterN_seg h.next ys a a hs
  have hb' : ∀ j, j ≤ ys.length → h.prev (h.next (iterN h.next j a)) = iterN h.next j a := by
    intro j hj
    cases j with
    | zero => exact hb a (by simp)
    | succ j => rw [el j (by omega)]; exact hb _ (List.mem_cons_of_mem _ (List.getElem_mem _))
  have hne : ∀ j, j < ys.length → iterN h.next (j + 1) a ≠ a := by
    intro j hj e
    rw [el j hj] at e
    exact hnot (e ▸ List.getElem_mem _)
  have inj := orbit_inj h.next h.prev a ys.length hb' hne
  refine ⟨List.nodup_cons.mpr ⟨hnot, ?_⟩, hs, hb⟩
  rw [List.Nodup, List.pairwise_iff_getElem]
  intro i j hi hj hij
  rw [← el i hi, ← el j hj]
  exact inj (i + 1) (j + 1) (by omega) (by omega)

theorem seg_of_isCorrectWalk (h : Heap) (head : Nat) : ∀ (count it : Nat), isCorrectWalk h head count it = true →
    ∃ ys, ys.length < count ∧ Seg h.next it ys head ∧ head ∉ ys ∧ ∀ y ∈ it :: ys, h.prev (h.next y) = y := by
  intro count
  induction count with
  | zero => intro it hw; simp [isCorrectWalk] at hw
  | succ c ih =>
    intro it hw
    unfold isCorrectWalk at hw
    by_cases hb : h.prev (h.next it) = it
    · by_cases hn : h.next it = head
      · exact ⟨[], by simp, by simpa [Seg] using hn, by simp, by simpa using hb⟩
      · simp [hb, hn] at hw
        obtain ⟨ys, hl, hs, hnot, hbk⟩ := ih _ hw
        refine ⟨h.next it :: ys, by simp; omega, ⟨rfl, hs⟩, ?_, ?_⟩
        · simp only [List.mem_cons, not_or]
          exact ⟨fun e => hn e.symm, hnot⟩
        · intro y hy
          simp only [List.mem_cons] at hy
          rcases hy with rfl | hy
          · exact hb
          · exact hbk y (by simpa using hy)
    · simp [hb] at hw

theorem isCorrectWalk_of_seg (h : Heap) (head : Nat) : ∀ (ys : List Nat) (it count : Nat),
    Seg h.next it ys head → head ∉ ys → ys.length < count → (∀ y ∈ it :: ys, h.prev (h.next y) = y) →
    isCorrectWalk h head count it = true :=
  Seg.walk (C := fun count it ys => (∀ y ∈ it :: ys, h.prev (h.next y) = y) → isCorrectWalk h head count it = true)
    (fun f it e hb => by have b0 := hb it List.mem_cons_self; rw [e] at b0; simp [isCorrectWalk, e, b0])
    (fun f it x xs e hx ih hb => by
      have b0 := hb it List.mem_cons_self; rw [e] at b0
      simp only [isCorrectWalk, e, b0, bne_self_eq_false, Bool.false_eq_true, if_false, beq_iff_eq, hx]
      exact ih fun y hy => hb y (List.mem_cons_of_mem _ hy))

theorem isCorrectWalk_iff (h : Heap) (hd count : Nat) :
    isCorrectWalk h hd count hd = true ↔ ∃ xs, xs.length < count ∧ IsRing h hd xs := by
  constructor
  · intro hw
    obtain ⟨ys, hl, hs, hnot, hb⟩ := seg_of_isCorrectWalk h hd count hd hw
    exact ⟨ys, hl, isRing_of_seg_back hs hnot hb⟩
  · rintro ⟨xs, hl, r⟩
    exact isCorrectWalk_of_seg h hd xs hd count r.fwd r.head_not_mem hl r.back

theorem IsRing.length_unique {h : Heap} {hd : Nat} {xs ys : List Nat} (r : IsRing h hd xs) (s : IsRing h hd ys) :
    xs.length = ys.length :=
  (firstHit_of_seg r.fwd r.head_not_mem).unique (firstHit_of_seg s.fwd s.head_not_mem)

/-- on a ring the walk answers whether the ring is shorter than its bound (C: 1000, C++: the model's fuel) -/
theorem isCorrectWalk_on_ring {h : Heap} {hd : Nat} {xs : List Nat} (r : IsRing h hd xs) (count : Nat) :
    isCorrectWalk h hd count hd = decide (xs.length < count) := by
  rw [Bool.eq_iff_iff, decide_eq_true_iff, isCorrectWalk_iff]
  exact ⟨fun ⟨zs, hz, rz⟩ => r.length_unique rz ▸ hz, fun hl => ⟨xs, hl, r⟩⟩

theorem ringHeap_next (n x : Nat) (hx : x < n) : (ringHeap n).next x = if x + 1 < n then x + 1 else 0 := if_pos hx

theorem ringHeap_prev (n x : Nat) (hx : x < n) : (ringHeap n).prev x = if x = 0 then n - 1 else x - 1 := if_pos hx

end Igris.C01
