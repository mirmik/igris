/-
  C01 — step refinement for the dlist operation language: every rule of `AStep` is matched by the heap
  operation (`RingsOK.step`).  Moves, pops, `insert_instead`, splice, `clear` and `move_sorted` are
  compositions of the three primitives of Lemmas.lean with rotations of the ring; each C++ function is
  shown equal, as a heap, to the C function whose assignments it repeats in another order.
-/
import IgrisModel.C01.Enabled
namespace Igris.C01

theorem move_same {h : Heap} {l head : Nat} {pre post : List Nat} {B : Rings}
    (ok : RingsOK h ((l :: (pre ++ head :: post)) :: B)) :
    RingsOK (dlistMove h l head) ((head :: l :: (post ++ pre)) :: B) :=
  (ok.delInit_ne (by simp)).swap.rotN.swap.addNext

theorem moveTail_same {h : Heap} {l head : Nat} {pre post : List Nat} {B : Rings}
    (ok : RingsOK h ((l :: (pre ++ head :: post)) :: B)) :
    RingsOK (dlistMoveTail h l head) ((head :: (post ++ pre ++ [l])) :: B) :=
  (ok.delInit_ne (by simp)).swap.rotN.swap.addPrev

theorem dlistAddNext_self_single {h : Heap} {a : Nat} (r : IsRing h a []) : dlistAddNext h a a = h := by
  have hn := r.next_self
  have hp := r.prev_self
  apply Heap.ext <;>
    simp only [dlistAddNext, dlistAdd, Heap.setNext_next, Heap.setNext_prev, Heap.setPrev_next, Heap.setPrev_prev, hn,
      upd_upd]
  · exact upd_eq_self hn
  · exact upd_eq_self hp

theorem dlistAddPrev_self_single {h : Heap} {a : Nat} (r : IsRing h a []) : dlistAddPrev h a a = h :=
  congrArg Heap.flip (dlistAddNext_self_single r.flip)

/-- a move of a node onto itself ends with the node alone, as the unlink left it -/
theorem RingsOK.reinsert_self {g : Heap} {a : Nat} {C : Rings} (ok : RingsOK g ([a] :: C)) :
    RingsOK (dlistAddNext g a a) ([a] :: C) ∧ RingsOK (dlistAddPrev g a a) ([a] :: C) := by
  rw [dlistAddNext_self_single ok.head_ring, dlistAddPrev_self_single ok.head_ring]; exact ⟨ok, ok⟩

theorem insertInstead_free_ok {h : Heap} {iter instead : Nat} {ys : List Nat} {B : Rings}
    (ok : RingsOK h ((instead :: ys) :: B)) (hf : Free ((instead :: ys) :: B) iter) :
    RingsOK (dlistInsertInstead h iter instead) ([instead] :: (iter :: ys) :: B) := by
  have h1 := (ok.addPrevFree hf).delInit_ne (by simp)
  unfold dlistInsertInstead
  exact h1.swap.rotLast.swap

theorem insertInstead_ok {h : Heap} {iter instead : Nat} {ys : List Nat} {B : Rings}
    (ok : RingsOK h ([iter] :: (instead :: ys) :: B)) :
    RingsOK (dlistInsertInstead h iter instead) ([instead] :: (iter :: ys) :: B) :=
  insertInstead_free_ok ok.dropLone.1 ok.dropLone.2

theorem nodeUnlink_of_self (g : Heap) (l : Nat) (hn : g.next l = l) : nodeUnlink g l = g := by
  unfold nodeUnlink; simp [hn]

theorem nodeUnlink_of_linked (h : Heap) (a : Nat) (hn : h.next a ≠ a) : nodeUnlink h a = dlistDelInit h a := by
  unfold nodeUnlink; rw [if_pos hn]
  apply Heap.ext <;>
    simp only [dlistDelInit, dlistInit, dlistDelRaw, Heap.setNext_next, Heap.setNext_prev, Heap.setPrev_next,
      Heap.setPrev_prev, upd_of_ne _ (Ne.symm hn)]

theorem nodeUnlink_next_self (h : Heap) (a : Nat) : (nodeUnlink h a).next a = a := by
  by_cases e : h.next a = a
  · rw [nodeUnlink_of_self h a e, e]
  · rw [nodeUnlink_of_linked h a e]; exact upd_same _ _ _

theorem nodeUnlink_idem (h : Heap) (a : Nat) : nodeUnlink (nodeUnlink h a) a = nodeUnlink h a :=
  nodeUnlink_of_self _ a (nodeUnlink_next_self h a)

theorem nodeUnlink_eq_delInit_of_back {h : Heap} {a : Nat} (hb : h.prev (h.next a) = a) :
    nodeUnlink h a = dlistDelInit h a := by
  by_cases e : h.next a = a
  · rw [nodeUnlink_of_self h a e, dlistDelInit_self e (by rwa [e] at hb)]
  · exact nodeUnlink_of_linked h a e

theorem nodeUnlink_eq_delInit {h : Heap} {a : Nat} {xs : List Nat} (r : IsRing h a xs) :
    nodeUnlink h a = dlistDelInit h a :=
  nodeUnlink_eq_delInit_of_back (r.back a List.mem_cons_self)

theorem unlink_ok {h : Heap} {a x : Nat} {xs : List Nat} {B : Rings}
    (ok : RingsOK h ((a :: x :: xs) :: B)) : RingsOK (nodeUnlink h a) ([a] :: (x :: xs) :: B) := by
  rw [nodeUnlink_eq_delInit ok.head_ring]; exact ok.delInit

theorem unlink_single_ok {h : Heap} {a : Nat} {B : Rings}
    (ok : RingsOK h ([a] :: B)) : RingsOK (nodeUnlink h a) ([a] :: B) := by
  rw [nodeUnlink_eq_delInit ok.head_ring]; exact ok.delInit_single

/-- the four assignments of `move_next_than` behind `unlink()` are those of `__dlist_add` in another order;
the two orders agree unless the successor of the target is the moved node itself -/
theorem nodeMoveNextThan_eq (h : Heap) (a node : Nat) (c : (nodeUnlink h a).next node = a → node = a) :
    nodeMoveNextThan h a node = dlistAddNext (nodeUnlink h a) a node := by
  have c2 := nodeUnlink_next_self h a
  unfold nodeMoveNextThan
  generalize nodeUnlink h a = g at c c2
  by_cases e : a = node
  · subst e
    apply Heap.ext <;>
      simp only [dlistAddNext, dlistAdd, Heap.setNext_next, Heap.setNext_prev, Heap.setPrev_next, Heap.setPrev_prev, c2]
  · have e2 : g.next node ≠ a := fun e' => e (c e').symm
    apply Heap.ext <;>
      simp only [dlistAddNext, dlistAdd, Heap.setNext_next, Heap.setNext_prev, Heap.setPrev_next, Heap.setPrev_prev]
    · exact upd_comm _ _ _ (Ne.symm e)
    · exact upd_comm _ _ _ e2

theorem delInit_next_eq_self {h : Heap} {a node : Nat} (la : h.prev (h.next a) = a)
    (ln : h.prev (h.next node) = node) (e : (dlistDelInit h a).next node = a) : node = a := by
  rw [dlistDelInit_next] at e
  by_cases e1 : node = a
  · exact e1
  · rw [if_neg e1] at e
    by_cases e2 : node = h.prev a
    · rw [if_pos e2] at e; rw [e] at la; rw [e2, la]
    · rw [if_neg e2] at e; exact absurd (by rw [← ln, e]) e2

theorem nodeMoveNextThan_eq_move {h : Heap} {a node : Nat} (la : h.prev (h.next a) = a)
    (ln : h.prev (h.next node) = node) : nodeMoveNextThan h a node = dlistMove h a node := by
  have hu : nodeUnlink h a = dlistDelInit h a := nodeUnlink_eq_delInit_of_back la
  rw [nodeMoveNextThan_eq, hu]; · rfl
  rw [hu]; exact delInit_next_eq_self la ln

/-- `move_prev_than` is `move_next_than` with the two link fields exchanged wherever `unlink()`, whose test reads `next`
only, is -/
theorem nodeMovePrevThan_flip {h : Heap} {a : Nat} (node : Nat) (hu : nodeUnlink h.flip a = (nodeUnlink h a).flip) :
    nodeMovePrevThan h a node = (nodeMoveNextThan h.flip a node).flip := by
  unfold nodeMovePrevThan nodeMoveNextThan; rw [hu]; rfl

theorem cpp_move_eq_of_links {h : Heap} {a node : Nat}
    (la : h.prev (h.next a) = a ∧ h.next (h.prev a) = a) (ln : h.prev (h.next node) = node ∧ h.next (h.prev node) = node) :
    nodeMoveNextThan h a node = dlistMove h a node ∧ nodeMovePrevThan h a node = dlistMoveTail h a node := by
  refine ⟨nodeMoveNextThan_eq_move la.1 ln.1, ?_⟩
  rw [nodeMovePrevThan_flip, nodeMoveNextThan_eq_move (h := h.flip) la.2 ln.2]; · rfl
  rw [nodeUnlink_eq_delInit_of_back la.1, nodeUnlink_eq_delInit_of_back (h := h.flip) la.2]; rfl

/-- on a well-formed family, where both nodes are in rings, the C++ moves
compute the same heap as the C moves -/
theorem cpp_move_eq {h : Heap} {A : Rings} {a node : Nat} (ok : RingsOK h A)
    (ha : ∃ r ∈ A, a ∈ r) (hn : ∃ s ∈ A, node ∈ s) :
    nodeMoveNextThan h a node = dlistMove h a node ∧ nodeMovePrevThan h a node = dlistMoveTail h a node :=
  cpp_move_eq_of_links (ok.links ha) (ok.links hn)

theorem popFront_ok {h : Heap} {l x : Nat} {xs : List Nat} {B : Rings}
    (ok : RingsOK h ((l :: x :: xs) :: B)) : RingsOK (listPopFront h l) ([x] :: (l :: xs) :: B) := by
  unfold listPopFront; rw [ok.head_ring.next_head]
  have okx := ok.rot
  rw [nodeUnlink_eq_delInit okx.head_ring]
  exact (okx.delInit_ne (by simp)).swap.rotLast.swap

theorem popFront_empty_ok {h : Heap} {l : Nat} {B : Rings}
    (ok : RingsOK h ([l] :: B)) : RingsOK (listPopFront h l) ([l] :: B) := by
  unfold listPopFront; rw [ok.head_ring.next_self]; exact unlink_single_ok ok

theorem popBack_ok {h : Heap} {l z : Nat} {xs : List Nat} {B : Rings}
    (ok : RingsOK h ((l :: (xs ++ [z])) :: B)) : RingsOK (listPopBack h l) ([z] :: (l :: xs) :: B) := by
  have okz : RingsOK h ((z :: l :: xs) :: B) := RingsOK.rotLast (l1 := l :: xs) ok
  have hp : h.prev l = z := by have := okz.head_ring.back z List.mem_cons_self; rwa [okz.head_ring.next_head] at this
  unfold listPopBack; rw [hp]; exact unlink_ok okz

theorem popBack_empty_ok {h : Heap} {l : Nat} {B : Rings}
    (ok : RingsOK h ([l] :: B)) : RingsOK (listPopBack h l) ([l] :: B) := by
  unfold listPopBack; rw [ok.head_ring.prev_self]; exact unlink_single_ok ok

theorem listSplice_unlink (h : Heap) (l oth : Nat) : listSplice (nodeUnlink h l) l oth = listSplice h l oth := by
  simp only [listSplice, nodeUnlink_idem]

/-- a list spliced into itself: after `unlink()` the source (= the destination) is empty -/
theorem listSplice_self (h : Heap) (l : Nat) : listSplice h l l = nodeUnlink h l := by
  simp only [listSplice, nodeUnlink_next_self, if_true]

/-- because `unlink()` is idempotent, the splice is `l.unlink()` followed by the splice, on every heap -/
theorem listSplice_eq_run (h : Heap) (l oth : Nat) : listSplice h l oth = run h [.xunlink l, .xsplice l oth] := by
  simp only [run, List.foldl, exec, listSplice_unlink]

/-- the six assignments of `unlink_and_move_all_nodes_from_other` are the field updates of
`dlist_insert_instead(l, oth)`, reordered (and `oth->prev = l`, which `dlist_del_init(oth)` overwrites) -/
theorem splice_eq_insertInstead {h : Heap} {l oth y : Nat} {ys : List Nat} {B : Rings}
    (ok : RingsOK h ([l] :: (oth :: y :: ys) :: B)) :
    listSplice h l oth = dlistInsertInstead h l oth := by
  have rl := ok.head_ring
  have ro := ok.dropLone.1.head_ring
  have hl : l ∉ oth :: y :: ys := ok.dropLone.2 _ List.mem_cons_self
  have hoe : h.next oth ≠ oth := by rw [ro.next_head]; exact ro.head_ne
  have hlo : l ≠ oth := fun e => hl (by simp [e])
  have hly : l ≠ h.next oth := fun e => hl (e ▸ ro.next_mem oth List.mem_cons_self)
  have hlz : l ≠ h.prev oth := fun e => hl (e ▸ (ro.prev_next oth List.mem_cons_self).2)
  have hzo : h.prev oth ≠ oth := fun e => hoe (by have := (ro.prev_next oth List.mem_cons_self).1; rwa [e] at this)
  apply Heap.ext <;>
    simp only [listSplice, nodeUnlink_of_self h l rl.next_self, hoe, if_false, dlistInsertInstead, dlistAddPrev,
      dlistAdd, dlistDelInit, dlistInit, dlistDelRaw, Heap.setNext_next, Heap.setNext_prev, Heap.setPrev_next,
      Heap.setPrev_prev, upd_same, upd_of_ne _ hly, upd_of_ne _ (Ne.symm hzo), upd_of_ne _ (Ne.symm hlo)]
  · rw [upd_comm h.next oth l hlz, upd_upd, upd_comm _ _ _ hlz]
  · rw [upd_comm _ l l (Ne.symm hoe), upd_upd]

theorem splice_ok {h : Heap} {l oth y : Nat} {ys : List Nat} {B : Rings}
    (ok : RingsOK h ([l] :: (oth :: y :: ys) :: B)) :
    RingsOK (listSplice h l oth) ([oth] :: (l :: y :: ys) :: B) := by
  rw [splice_eq_insertInstead ok]; exact insertInstead_ok ok

theorem listSplice_of_lone {h : Heap} {l oth : Nat} {B : Rings}
    (ok : RingsOK h ([l] :: [oth] :: B)) : listSplice h l oth = h := by
  simp [listSplice, nodeUnlink, ok.head_ring.next_self, ok.dropLone.1.head_ring.next_self]

theorem clear_ok {l : Nat} : ∀ (xs : List Nat) (fuel : Nat) (B : Rings) (h : Heap),
    RingsOK h ((l :: xs) :: B) → xs.length < fuel →
    RingsOK (listClear h l fuel) ([l] :: (xs.map fun x => [x]) ++ B)
  | _, 0, _, _, _, hf => absurd hf (Nat.not_lt_zero _)
  | [], f + 1, B, h, ok, _ => by simpa [listClear, ok.head_ring.next_self] using ok
  | x :: xs, f + 1, B, h, ok, hf => by
    have hne : h.next l ≠ l := by rw [ok.head_ring.next_head]; exact ok.head_ring.head_ne
    simp only [listClear, hne, ne_eq, not_false_eq_true, if_true]
    have h2 := clear_ok xs f ([x] :: B) (listPopFront h l) (popFront_ok ok).swap (by simpa using hf)
    -- [l] :: singles xs ++ ([x] :: B)  ~perm~  [l] :: [x] :: singles xs ++ B
    exact h2.perm (List.Perm.cons _ List.perm_middle)

theorem sortedPos_seg (h : Heap) (cmp : Nat → Nat → Bool) (added head : Nat) :
    ∀ (l : List Nat) (a fuel : Nat), Seg h.next a l head → head ∉ l → l.length < fuel →
      sortedPos h cmp added head fuel (h.next a) = (l.dropWhile (fun y => !cmp added y)).headD head :=
  Seg.walk (C := fun fuel a l =>
      sortedPos h cmp added head fuel (h.next a) = (l.dropWhile (fun y => !cmp added y)).headD head)
    (fun f a e => by simp [sortedPos, e])
    (fun f a x xs e hx ih => by by_cases hc : cmp added x = true <;> simp [sortedPos, e, hx, hc, ih])

theorem Free.of_mem_iff {A A' : Rings} {a : Nat} (hf : Free A a) (e : ∀ y, (∃ s ∈ A', y ∈ s) → ∃ s ∈ A, y ∈ s) :
    Free A' a := fun s hs hm => by
  obtain ⟨s', hs', hm'⟩ := e a ⟨s, hs, hm⟩
  exact hf s' hs' hm'

/-- `dlist_move_sorted` never reads the fields of `added`, so it need not be in a ring -/
theorem moveSorted_free_ok {h : Heap} {cmp : Nat → Nat → Bool} {added head : Nat} {xs : List Nat} {B : Rings}
    (ok : RingsOK h ((head :: xs) :: B)) (hfr : Free ((head :: xs) :: B) added) (fuel : Nat) (hf : xs.length + 1 < fuel) :
    RingsOK (dlistMoveSorted h cmp fuel added head)
      ((head :: (xs.takeWhile (fun y => !cmp added y) ++ added :: xs.dropWhile (fun y => !cmp added y))) :: B) := by
  have r := ok.head_ring
  unfold dlistMoveSorted
  rw [sortedPos_seg h cmp added head xs head fuel r.fwd r.head_not_mem (by omega)]
  have split := List.takeWhile_append_dropWhile (p := fun y => !cmp added y) (l := xs)
  generalize xs.takeWhile (fun y => !cmp added y) = pre at split ⊢
  cases hd : xs.dropWhile (fun y => !cmp added y) with
  | nil =>
    rw [hd, List.append_nil] at split; subst split
    exact ok.addPrevFree hfr
  | cons x post =>
    rw [hd] at split; subst split
    -- read the ring from x, insert before x, read it from head again
    have ok2 : RingsOK h ((x :: (post ++ head :: pre)) :: B) := RingsOK.rotN (l1 := head :: pre) ok
    have ok3 := ok2.addPrevFree (hfr.of_mem_iff fun y => Same.inRing (.rot (l1 := head :: pre)))
    simpa using RingsOK.rotN (l1 := x :: post) (b := head) (l2 := pre ++ [added]) (by simpa using ok3)

theorem moveSorted_ok {h : Heap} {cmp : Nat → Nat → Bool} {added head : Nat} {xs : List Nat} {B : Rings}
    (ok : RingsOK h ([added] :: (head :: xs) :: B)) (fuel : Nat) (hf : xs.length + 1 < fuel) :
    RingsOK (dlistMoveSorted h cmp fuel added head)
      ((head :: (xs.takeWhile (fun y => !cmp added y) ++ added :: xs.dropWhile (fun y => !cmp added y))) :: B) :=
  moveSorted_free_ok ok.dropLone.1 ok.dropLone.2 fuel hf

theorem RingsOK.step {h : Heap} {A A' : Rings} {op : Op} (ok : RingsOK h A) (st : AStep A op A') :
    RingsOK (exec h op) A' := by
  induction st with
  | cinitFree hf | xctorFree hf => exact ok.initFree hf
  | cinitRing s | xctorLone s =>
    obtain ⟨_, d, okB⟩ := (ok.same s).head
    exact okB.initFree (fun r hr hm => d r hr _ List.mem_cons_self hm)
  | caddNext s => exact (ok.same s).addNext
  | caddNextFree s hf => exact (ok.same s).addNextFree hf
  | caddPrev s => exact (ok.same s).addPrev
  | caddPrevFree s hf => exact (ok.same s).addPrevFree hf
  | cdel s => exact (ok.same s).del.1
  | cdelSingle s => exact (ok.same s).del_single.1
  | cdelInit s => exact (ok.same s).delInit
  | cdelInitSingle s => exact (ok.same s).delInit_single
  | xunlink s => exact unlink_ok (ok.same s)
  | xunlinkSingle s => exact unlink_single_ok (ok.same s)
  | cmoveSelf s => exact (ok.same s).delInit.reinsert_self.1
  | cmoveSelfSingle s => exact (ok.same s).delInit_single.reinsert_self.1
  | cmoveSame s => exact move_same (ok.same s)
  | cmoveOther s => exact ((ok.same s).delInit.perm (List.Perm.cons _ (List.Perm.swap _ _ _))).addNext.swap
  | cmoveOtherSingle s => exact (ok.same s).delInit_single.addNext
  | cmoveTailSelf s => exact (ok.same s).delInit.reinsert_self.2
  | cmoveTailSelfSingle s => exact (ok.same s).delInit_single.reinsert_self.2
  | cmoveTailSame s => exact moveTail_same (ok.same s)
  | cmoveTailOther s => exact ((ok.same s).delInit.perm (List.Perm.cons _ (List.Perm.swap _ _ _))).addPrev.swap
  | cmoveTailOtherSingle s => exact (ok.same s).delInit_single.addPrev
  | cinsertInstead s => exact insertInstead_ok (ok.same s)
  | cinsertInsteadFree s hfr => exact insertInstead_free_ok (ok.same s) hfr
  | xmoveNext st ih =>
    obtain ⟨ha, hn⟩ := admitted_of_step ok.wf st
    simp only [exec] at ih ⊢; rw [(cpp_move_eq ok ha hn).1]; exact ih
  | xmovePrev st ih =>
    obtain ⟨ha, hn⟩ := admitted_of_step ok.wf st
    simp only [exec] at ih ⊢; rw [(cpp_move_eq ok ha hn).2]; exact ih
  | xpopFront s => exact popFront_ok (ok.same s)
  | xpopFrontEmpty s => exact popFront_empty_ok (ok.same s)
  | xpopBack s => exact popBack_ok (ok.same s)
  | xpopBackEmpty s => exact popBack_empty_ok (ok.same s)
  -- splice: the destination head unlinks itself first; what follows is the splice into an empty list
  | xsplice s =>
    have h1 := unlink_ok (ok.same s)
    simp only [exec]; rw [← listSplice_unlink]
    exact splice_ok (h1.perm (List.Perm.cons _ (List.Perm.swap _ _ _)))
  | xspliceIntoEmpty s => exact splice_ok (ok.same s)
  | xspliceFromEmpty s =>
    have h1 := unlink_ok (ok.same s)
    simp only [exec]
    rw [← listSplice_unlink, listSplice_of_lone (h1.perm (List.Perm.cons _ (List.Perm.swap _ _ _)))]
    exact h1
  | xspliceBothEmpty s =>
    simp only [exec]; rw [listSplice_of_lone (ok.same s)]; exact ok.same s
  | xspliceSelf s =>
    simp only [exec, listSplice_self]
    exact unlink_ok (ok.same s)
  | xspliceSelfEmpty s =>
    simp only [exec, listSplice_self]
    exact unlink_single_ok (ok.same s)
  | xclear s hlen => exact clear_ok _ _ _ _ (ok.same s) hlen
  | cmoveSorted s hf => exact moveSorted_ok (ok.same s) _ hf
  | cmoveSortedFree s hfr hf => exact moveSorted_free_ok (ok.same s) hfr _ hf

end Igris.C01
