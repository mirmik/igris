/-
  C01 — bounded walks and counting loops on any heap (also a corrupted one): `dlist_check*`,
  the old `dlist_is_correct`, C++ `circular_size`, the `int` counters and the size loops as C writes them.
-/
import IgrisModel.C01.Lemmas
namespace Igris.C01

/-- starting at `it`, the walk along `f` reaches `fnd` for the first time after `k + 1` steps -/
def FirstHit (f : Nat → Nat) (fnd it k : Nat) : Prop :=
  iterN f (k + 1) it = fnd ∧ ∀ j, j < k → iterN f (j + 1) it ≠ fnd

theorem FirstHit.unique {f : Nat → Nat} {fnd it k k' : Nat} (a : FirstHit f fnd it k) (b : FirstHit f fnd it k') :
    k = k' := by
  rcases Nat.lt_trichotomy k k' with h | h | h
  · exact absurd a.1 (b.2 k h)
  · exact h
  · exact absurd b.1 (a.2 k' h)

theorem firstHit_of_seg {nx : Nat → Nat} {a b : Nat} {l : List Nat} (hs : Seg nx a l b) (hb : b ∉ l) :
    FirstHit nx b a l.length := by
  refine ⟨iterN_seg_end nx l a b hs, fun j hj e => ?_⟩
  rw [iterN_seg nx l a b hs j hj] at e
  exact hb (e ▸ List.getElem_mem hj)

theorem checkAux_spec (h : Heap) (fnd : Nat) : ∀ (count it steps : Nat),
    (∃ k, k < count ∧ FirstHit h.next fnd it k ∧ dlistCheckAux h fnd count it steps = ((steps + k : Nat) : Int)) ∨
    ((∀ k, k < count → iterN h.next (k + 1) it ≠ fnd) ∧ dlistCheckAux h fnd count it steps = -1) := by
  intro count
  induction count with
  | zero => intro it steps; right; exact ⟨fun k hk => absurd hk (Nat.not_lt_zero k), rfl⟩
  | succ c ih =>
    intro it steps
    by_cases e : fnd = h.next it
    · left
      refine ⟨0, Nat.succ_pos c, ⟨e.symm, fun j hj => absurd hj (Nat.not_lt_zero j)⟩, ?_⟩
      simp [dlistCheckAux, e]
    · rcases ih (h.next it) (steps + 1) with ⟨k, hk, hit, hv⟩ | ⟨hno, hv⟩
      · left
        refine ⟨k + 1, Nat.succ_lt_succ hk, ⟨hit.1, ?_⟩, ?_⟩
        · intro j hj
          cases j with
          | zero => exact fun e' => e e'.symm
          | succ j => exact hit.2 j (Nat.lt_of_succ_lt_succ hj)
        · simp only [dlistCheckAux, e, if_false]; rw [hv]; congr 1; omega
      · right
        refine ⟨?_, ?_⟩
        · intro k hk
          cases k with
          | zero => exact fun e' => e e'.symm
          | succ k => exact hno k (Nat.lt_of_succ_lt_succ hk)
        · simp only [dlistCheckAux, e, if_false]; exact hv

theorem checkRevAux_flip (h : Heap) (fnd : Nat) : ∀ count it steps,
    dlistCheckRevAux h fnd count it steps = dlistCheckAux h.flip fnd count it steps := by
  intro count; induction count with
  | zero => intros; rfl
  | succ c ih => intro it steps; simp only [dlistCheckRevAux, dlistCheckAux, ih]; rfl

/-- what `dlist_check`-style walks along `f` compute -/
def WalkResult (f : Nat → Nat) (fnd count : Nat) (v : Int) : Prop :=
  (∃ k, k < count ∧ FirstHit f fnd fnd k ∧ v = (k : Int)) ∨ ((∀ k, k < count → iterN f (k + 1) fnd ≠ fnd) ∧ v = -1)

theorem dlistCheck_result (h : Heap) (fnd count : Nat) : WalkResult h.next fnd count (dlistCheck h fnd count) := by
  rcases checkAux_spec h fnd count fnd 0 with ⟨k, hk, hit, hv⟩ | ⟨hno, hv⟩
  · left; exact ⟨k, hk, hit, by rw [dlistCheck, hv]; simp⟩
  · right; exact ⟨hno, hv⟩

theorem dlistCheckReversed_result (h : Heap) (fnd count : Nat) :
    WalkResult h.prev fnd count (dlistCheckReversed h fnd count) := by
  have := dlistCheck_result h.flip fnd count
  unfold dlistCheckReversed; rw [checkRevAux_flip]; exact this

theorem isCorrect_iff (h : Heap) (hd : Nat) :
    dlistIsCorrect h hd = true ↔ ∃ n, n < 1000 ∧ FirstHit h.next hd hd n ∧ FirstHit h.prev hd hd n := by
  unfold dlistIsCorrect
  rcases dlistCheck_result h hd 1000 with ⟨k, hk, hit, hv⟩ | ⟨hno, hv⟩
  · rcases dlistCheckReversed_result h hd 1000 with ⟨k', _, hit', hv'⟩ | ⟨hno', hv'⟩
    · -- both walks return: the answer is whether the two step counts are equal
      have n1 : ¬ ((k : Int) < 0) := by omega
      have n2 : ¬ ((k' : Int) < 0) := by omega
      simp only [hv, hv', n1, n2, if_false, beq_iff_eq, Int.natCast_inj]
      constructor
      · rintro rfl; exact ⟨k, hk, hit, hit'⟩
      · rintro ⟨n, _, hf, hb⟩; rw [hit.unique hf, hit'.unique hb]
    · simp only [hv, hv']
      exact ⟨fun e => by simp at e, fun ⟨n, hn, _, hb⟩ => absurd hb.1 (hno' n hn)⟩
  · simp only [hv]
    exact ⟨fun e => by simp at e, fun ⟨n, hn, hf, _⟩ => absurd hf.1 (hno n hn)⟩

/-- on a ring the old `dlist_is_correct` answers whether the ring has fewer than 1000 elements besides the
head (the limit is the code's) -/
theorem isCorrect_on_ring {h : Heap} {hd : Nat} {xs : List Nat} (r : IsRing h hd xs) :
    dlistIsCorrect h hd = decide (xs.length < 1000) := by
  have ff := firstHit_of_seg r.fwd r.head_not_mem
  have fb : FirstHit h.prev hd hd xs.reverse.length := firstHit_of_seg r.flip.fwd (by simpa using r.head_not_mem)
  rw [Bool.eq_iff_iff, decide_eq_true_iff, isCorrect_iff]
  exact ⟨fun ⟨n, hn, hf, _⟩ => hf.unique ff ▸ hn, fun hl => ⟨xs.length, hl, ff, by simpa using fb⟩⟩

/-! ## `circular_size` / `reverse_circular_size` (C++ `size()`, `is_correct()`) -/

theorem circSizeAux_seg (h : Heap) (a : Nat) : ∀ (l : List Nat) (n fuel : Nat),
    Seg h.next n l a → a ∉ l → l.length < fuel → ∀ sz, circSizeAux h a fuel n sz = sz + l.length + 1 :=
  Seg.walk (C := fun fuel n l => ∀ sz, circSizeAux h a fuel n sz = sz + l.length + 1)
    (fun f n e sz => by simp [circSizeAux, e])
    (fun f n x xs e hx ih sz => by simp only [circSizeAux, e, hx, if_false, ih, List.length_cons]; omega)

theorem revCircSizeAux_flip (h : Heap) (a : Nat) : ∀ fuel n sz,
    revCircSizeAux h a fuel n sz = circSizeAux h.flip a fuel n sz := by
  intro fuel; induction fuel with
  | zero => intros; rfl
  | succ f ih => intro n sz; simp only [revCircSizeAux, circSizeAux, ih]; rfl

theorem circularSize_ring {h : Heap} {a : Nat} {xs : List Nat} (r : IsRing h a xs) (fuel : Nat)
    (hf : xs.length < fuel) : circularSize h fuel a = xs.length + 1 := by
  have := circSizeAux_seg h a xs a fuel r.fwd r.head_not_mem hf 0
  simpa [circularSize] using this

theorem reverseCircularSize_ring {h : Heap} {a : Nat} {xs : List Nat} (r : IsRing h a xs) (fuel : Nat)
    (hf : xs.length < fuel) : reverseCircularSize h fuel a = xs.length + 1 := by
  have := circularSize_ring r.flip fuel (by simpa using hf)
  unfold reverseCircularSize; rw [revCircSizeAux_flip]
  simpa [circularSize] using this

/-- the lasso `0 → 1 → 1 → …`: the forward walk from 0 never comes back -/
def lassoHeap : Heap := ⟨fun x => if x = 0 then 1 else x, fun x => x⟩

theorem circSizeAux_lasso : ∀ (fuel sz : Nat), circSizeAux lassoHeap 0 fuel 1 sz = sz + fuel := by
  intro fuel
  induction fuel with
  | zero => intro sz; simp [circSizeAux]
  | succ n ih =>
    intro sz
    have e : circSizeAux lassoHeap 0 (n + 1) 1 sz = circSizeAux lassoHeap 0 n 1 (sz + 1) := by
      simp [circSizeAux, lassoHeap]
    rw [e, ih]; omega

/-! ## the `int` counters, and the counting loops as C writes them -/

theorem countInt_eq (l : List Nat) : countInt l = BitVec.ofNat 32 l.length := by
  have key : ∀ (l : List Nat) (i : BitVec 32), l.foldl (fun i _ => i + 1) i = i + BitVec.ofNat 32 l.length := by
    intro l; induction l with
    | nil => intro i; simp
    | cons x xs ih =>
      intro i; simp only [List.foldl_cons, ih, List.length_cons]
      apply BitVec.eq_of_toNat_eq; simp [BitVec.toNat_add, BitVec.toNat_ofNat]; omega
  unfold countInt; rw [key]; simp

theorem countInt_small (l : List Nat) (hl : l.length ≤ 2147483647) : (countInt l).toInt = l.length := by
  rw [countInt_eq, BitVec.toInt_eq_toNat_cond]
  simp only [BitVec.toNat_ofNat]
  have : l.length % 2 ^ 32 = l.length := Nat.mod_eq_of_lt (by omega)
  rw [this]; split <;> omega

theorem dlistSizeLoop_eq (h : Heap) (head : Nat) : ∀ (fuel pos : Nat) (sz : BitVec 32),
    dlistSizeLoop h head fuel pos sz = (walkNext h head fuel pos).foldl (fun i _ => i + 1) sz := by
  intro fuel
  induction fuel with
  | zero => intro pos sz; simp [dlistSizeLoop, walkNext]
  | succ n ih =>
    intro pos sz
    unfold dlistSizeLoop walkNext
    by_cases hp : pos = head
    · simp [hp]
    · simp [hp, ih]

/-- the backward loop and the slist loop are the forward loop on the flipped heap / on the slist's `next` -/
theorem dlistSizeRevLoop_eq (h : Heap) (head : Nat) : ∀ (fuel pos : Nat) (sz : BitVec 32),
    dlistSizeRevLoop h head fuel pos sz = (walkPrev h head fuel pos).foldl (fun i _ => i + 1) sz := by
  have flip : ∀ fuel pos sz, dlistSizeRevLoop h head fuel pos sz = dlistSizeLoop h.flip head fuel pos sz := by
    intro fuel; induction fuel with
    | zero => intros; rfl
    | succ f ih => intro pos sz; simp only [dlistSizeRevLoop, dlistSizeLoop, ih]; rfl
  intro fuel pos sz; rw [flip, dlistSizeLoop_eq, walkPrev_eq_flip]

theorem slistSizeLoop_eq (h : SHeap) (head : Nat) : ∀ (fuel pos : Nat) (sz : BitVec 32),
    slistSizeLoop h head fuel pos sz = (swalk h head fuel pos).foldl (fun i _ => i + 1) sz := by
  have dl : ∀ fuel pos sz, slistSizeLoop h head fuel pos sz = dlistSizeLoop ⟨h.next, h.next⟩ head fuel pos sz := by
    intro fuel; induction fuel with
    | zero => intros; rfl
    | succ f ih => intro pos sz; simp only [slistSizeLoop, dlistSizeLoop, ih]
  intro fuel pos sz; rw [dl, dlistSizeLoop_eq, ← swalk_eq_walk]

theorem dlistInLoop_eq (h : Heap) (fnd head : Nat) : ∀ (fuel pos : Nat),
    dlistInLoop h fnd head fuel pos = (walkNext h head fuel pos).contains fnd := by
  intro fuel
  induction fuel with
  | zero => intro pos; simp [dlistInLoop, walkNext]
  | succ n ih =>
    intro pos
    unfold dlistInLoop walkNext
    by_cases hp : pos = head
    · simp [hp]
    · by_cases hf : pos = fnd
      · simp [hf]
      · have hf' : ¬ fnd = pos := fun e => hf e.symm
        simp [hp, hf, ih, hf']

end Igris.C01
