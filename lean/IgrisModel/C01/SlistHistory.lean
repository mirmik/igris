/-
  C01 — slist histories: operation language, reference semantics on families of
  lists (head, contents), the family invariant, step refinement, enabledness.

  A `slist_head` is used both as list head and as element.  The abstract state is
  a family of lists `(head, contents)` whose node sets are pairwise disjoint; a
  node that is in no list (never initialised, popped, orphaned by re-initialising
  its head) has no constraint on its `next` field.
-/
import IgrisModel.C01.Slist
namespace Igris.C01

/-- slist API operations (C `slist_*` and C++ `igris::slist`) -/
inductive SOp
  | init (a : Nat)                    -- slist_init / igris::slist::slist()
  | add (link pos : Nat)              -- slist_add(link, pos) / add_first (pos = the head)
  | popFirst (head : Nat)             -- slist_pop_first
  | moveFront (fuel n head : Nat)     -- igris::slist::move_front (fuel = bound of the search loop)

def sexec (h : SHeap) : SOp → SHeap
  | .init a => slistInit h a
  | .add l p => slistAdd h l p
  | .popFirst hd => (slistPopFirst h hd).1
  | .moveFront fuel n hd => slistMoveFront h fuel n hd

def srun (h : SHeap) (ops : List SOp) : SHeap := ops.foldl sexec h

/-- a family of slists: (head, contents) -/
abbrev SFam := List (Nat × List Nat)
def snodes (p : Nat × List Nat) : List Nat := p.1 :: p.2
def SFree (F : SFam) (a : Nat) : Prop := ∀ p ∈ F, a ∉ snodes p

structure SFamOK (h : SHeap) (F : SFam) : Prop where
  ring : ∀ p ∈ F, SRing h p.1 p.2
  disj : F.Pairwise (fun p q => Disj (snodes p) (snodes q))

theorem SFamOK.perm {h : SHeap} {F F' : SFam} (ok : SFamOK h F) (p : F.Perm F') : SFamOK h F' :=
  ⟨fun q hq => ok.ring q (p.mem_iff.mpr hq),
   (p.pairwise_iff (fun hrs => Disj.symm hrs)).mp ok.disj⟩

theorem SFamOK.head {h : SHeap} {p : Nat × List Nat} {B : SFam} (ok : SFamOK h (p :: B)) :
    SRing h p.1 p.2 ∧ (∀ q ∈ B, Disj (snodes p) (snodes q)) ∧ SFamOK h B :=
  ⟨ok.ring p (by simp), (List.pairwise_cons.mp ok.disj).1,
   ⟨fun s hs => ok.ring s (by simp [hs]), (List.pairwise_cons.mp ok.disj).2⟩⟩

theorem SFamOK.cons {h : SHeap} {a : Nat} {xs : List Nat} {B : SFam} (r : SRing h a xs)
    (d : ∀ q ∈ B, Disj (a :: xs) (snodes q)) (ok : SFamOK h B) : SFamOK h ((a, xs) :: B) :=
  ⟨List.forall_mem_cons.mpr ⟨r, ok.ring⟩, List.pairwise_cons.mpr ⟨d, ok.disj⟩⟩

theorem SFamOK.frame {h h' : SHeap} {B : SFam} (ok : SFamOK h B) (W : List Nat)
    (hd : ∀ q ∈ B, Disj W (snodes q)) (hf : ∀ y, y ∉ W → h'.next y = h.next y) : SFamOK h' B :=
  ⟨fun q hq => (ok.ring q hq).congr (fun y hy => hf y (fun hw => hd q hq y hw hy)), ok.disj⟩

theorem SFree.perm {F F' : SFam} {a : Nat} (f : SFree F a) (p : F.Perm F') : SFree F' a :=
  fun q hq => f q (p.mem_iff.mpr hq)

/-- `F.Perm (… :: B)` says: the family consists of the displayed list(s) and the others, `B`. -/
inductive SStep : SFam → SOp → SFam → Prop
  -- `slist_init` of a node that is in no list: a new empty list
  | initFree {F a} : SFree F a → SStep F (.init a) ((a, []) :: F)
  -- `slist_init` of a list head: the list is emptied, its old elements are in no list afterwards
  | initHead {F a xs B} : F.Perm ((a, xs) :: B) → SStep F (.init a) ((a, []) :: B)
  -- `slist_add(link, head)` / `add_first`: a node that is in no list (or is an empty list of
  -- its own) becomes the first element; `slist_add(link, p)` after a member `p` inserts after it
  | addFirst {F link hd xs B} : F.Perm ((hd, xs) :: B) → SFree F link →
      SStep F (.add link hd) ((hd, link :: xs) :: B)
  | addAfter {F link hd p pre post B} : F.Perm ((hd, pre ++ p :: post) :: B) → SFree F link →
      SStep F (.add link p) ((hd, pre ++ p :: link :: post) :: B)
  | addFirstLone {F link hd xs B} : F.Perm ((link, []) :: (hd, xs) :: B) →
      SStep F (.add link hd) ((hd, link :: xs) :: B)
  | addAfterLone {F link hd p pre post B} : F.Perm ((link, []) :: (hd, pre ++ p :: post) :: B) →
      SStep F (.add link p) ((hd, pre ++ p :: link :: post) :: B)
  -- `slist_pop_first`: the first element leaves (and is in no list); nothing on an empty list
  | pop {F hd x xs B} : F.Perm ((hd, x :: xs) :: B) → SStep F (.popFirst hd) ((hd, xs) :: B)
  | popEmpty {F hd B} : F.Perm ((hd, []) :: B) → SStep F (.popFirst hd) ((hd, []) :: B)
  -- `move_front(n)`: an element of THIS list (anywhere), a node in no list, or an empty list
  | moveFrontOwn {F fuel n hd pre post B} : F.Perm ((hd, pre ++ n :: post) :: B) →
      (pre ++ n :: post).length < fuel → SStep F (.moveFront fuel n hd) ((hd, n :: (pre ++ post)) :: B)
  | moveFrontAbsent {F fuel n hd xs B} : F.Perm ((hd, xs) :: B) → SFree F n → xs.length < fuel →
      SStep F (.moveFront fuel n hd) ((hd, n :: xs) :: B)
  | moveFrontLone {F fuel n hd xs B} : F.Perm ((n, []) :: (hd, xs) :: B) → xs.length < fuel →
      SStep F (.moveFront fuel n hd) ((hd, n :: xs) :: B)

inductive SRun : SFam → List SOp → SFam → Prop
  | nil (F) : SRun F [] F
  | cons {F G H op ops} : SStep F op G → SRun G ops H → SRun F (op :: ops) H

theorem SFamOK.dropLone {h : SHeap} {n : Nat} {G : SFam} (ok : SFamOK h ((n, []) :: G)) :
    SFamOK h G ∧ SFree G n := by
  obtain ⟨_, d, okG⟩ := ok.head
  exact ⟨okG, fun q hq hm => d q hq n (by simp [snodes]) hm⟩

/-- `h'` is the heap after an operation that writes only nodes of `W`, which
no other list shares, and the new contents are made of nodes of `W` -/
theorem SFamOK.rewrite {h h' : SHeap} {hd : Nat} {xs xs' : List Nat} {B : SFam} (ok : SFamOK h ((hd, xs) :: B))
    (W : List Nat) (hW : ∀ q ∈ B, Disj W (snodes q)) (r' : SRing h' hd xs') (hsub : ∀ y ∈ hd :: xs', y ∈ W)
    (f : ∀ y, y ∉ W → h'.next y = h.next y) : SFamOK h' ((hd, xs') :: B) :=
  SFamOK.cons r' (fun q hq y hy => hW q hq y (hsub y hy)) (ok.head.2.2.frame W hW f)

theorem SFamOK.insert {h h' : SHeap} {link hd : Nat} {xs xs' : List Nat} {B : SFam} (ok : SFamOK h ((hd, xs) :: B))
    (hf : SFree ((hd, xs) :: B) link) (r' : SRing h' hd xs') (hm : (hd :: xs').Perm (link :: hd :: xs))
    (f : ∀ y, y ∉ link :: hd :: xs → h'.next y = h.next y) : SFamOK h' ((hd, xs') :: B) :=
  ok.rewrite (link :: hd :: xs) (fun q hq => (ok.head.2.1 q hq).cons (hf q (List.mem_cons_of_mem _ hq))) r'
    (fun _ hy => hm.subset hy) f

theorem SFamOK.addFirst {h : SHeap} {link hd : Nat} {xs : List Nat} {B : SFam}
    (ok : SFamOK h ((hd, xs) :: B)) (hf : SFree ((hd, xs) :: B) link) :
    SFamOK (slistAdd h link hd) ((hd, link :: xs) :: B) := by
  refine ok.insert hf (slistAdd_ring h link hd xs ok.head.1 (hf _ List.mem_cons_self)) (List.Perm.swap _ _ _) ?_
  intro y hy
  simp only [List.mem_cons, not_or] at hy
  exact slistAdd_frame h link hd y hy.1 hy.2.1

theorem SFamOK.addAfter {h : SHeap} {link hd p : Nat} {pre post : List Nat} {B : SFam}
    (ok : SFamOK h ((hd, pre ++ p :: post) :: B)) (hf : SFree ((hd, pre ++ p :: post) :: B) link) :
    SFamOK (slistAdd h link p) ((hd, pre ++ p :: link :: post) :: B) := by
  refine ok.insert hf (slistAdd_after h link hd p pre post ok.head.1 (hf _ List.mem_cons_self)) ?_ ?_
  · simpa using List.perm_middle (a := link) (l₁ := hd :: (pre ++ [p])) (l₂ := post)
  · intro y hy
    simp only [List.mem_cons, List.mem_append, not_or] at hy
    exact slistAdd_frame h link p y hy.1 hy.2.2.2.1

theorem SFamOK.moveFrontAbsent {h : SHeap} {n hd : Nat} {xs : List Nat} {B : SFam} {fuel : Nat}
    (ok : SFamOK h ((hd, xs) :: B)) (hf : SFree ((hd, xs) :: B) n) (hfu : xs.length < fuel) :
    SFamOK (slistMoveFront h fuel n hd) ((hd, n :: xs) :: B) :=
  ok.insert hf (slistMoveFront_absent h hd n xs ok.head.1 (hf _ List.mem_cons_self) fuel hfu) (List.Perm.swap _ _ _)
    (slistMoveFront_frame h hd n xs ok.head.1 fuel hfu)

/-! ### enabledness: which calls the reference semantics admits -/

/-- well-formed family (a property of the lists alone): no node occurs twice -/
structure SFamWF (F : SFam) : Prop where
  nodup : ∀ p ∈ F, (snodes p).Nodup
  disj : F.Pairwise (fun p q => Disj (snodes p) (snodes q))

theorem SFamOK.wf {h : SHeap} {F : SFam} (ok : SFamOK h F) : SFamWF F :=
  ⟨fun p hp => (ok.ring p hp).nodup, ok.disj⟩

theorem SFamWF.perm {F F' : SFam} (w : SFamWF F) (p : F.Perm F') : SFamWF F' :=
  ⟨fun q hq => w.nodup q (p.mem_iff.mpr hq), (p.pairwise_iff (fun hrs => Disj.symm hrs)).mp w.disj⟩

/-- the admitted calls, stated on the family alone (independently of `SStep`):
* `slist_init(a)`: `a` is in no list, or is a list head (then the list is emptied);
* `slist_add(link, pos)`: `link` is in no list or is an empty list of its own; `pos` is a head
  or an element of some list;
* `slist_pop_first(hd)`: `hd` is a list head;
* `move_front(n)` on list `hd`: `n` is an element of that list, or in no list, or an empty
  list of its own; the search bound exceeds the length of the list. -/
def SAdmitted (F : SFam) : SOp → Prop
  | .init a => SFree F a ∨ ∃ p ∈ F, p.1 = a
  | .add link pos => (SFree F link ∨ (link, []) ∈ F) ∧ link ≠ pos ∧ ∃ p ∈ F, pos ∈ snodes p
  | .popFirst hd => ∃ p ∈ F, p.1 = hd
  | .moveFront fuel n hd => n ≠ hd ∧ ∃ p ∈ F, p.1 = hd ∧ p.2.length < fuel ∧ (n ∈ p.2 ∨ SFree F n ∨ (n, []) ∈ F)

instance (F : SFam) (a : Nat) : Decidable (SFree F a) := by unfold SFree; infer_instance
instance (F : SFam) (op : SOp) : Decidable (SAdmitted F op) := by
  cases op <;> unfold SAdmitted <;> infer_instance

theorem SFamWF.lone_not_mem {F : SFam} {n : Nat} {q : Nat × List Nat} {B : SFam} (w : SFamWF F)
    (p : F.Perm ((n, []) :: q :: B)) : n ∉ snodes q :=
  (List.pairwise_cons.mp (w.perm p).disj).1 q List.mem_cons_self n List.mem_cons_self

theorem sadmitted_of_step {F F' : SFam} {op : SOp} (w : SFamWF F) (st : SStep F op F') : SAdmitted F op := by
  have m1 : ∀ {q : Nat × List Nat} {B : SFam}, F.Perm (q :: B) → q ∈ F := fun p => p.mem_iff.mpr List.mem_cons_self
  have m2 : ∀ {q q' : Nat × List Nat} {B : SFam}, F.Perm (q' :: q :: B) → q ∈ F := fun p =>
    p.mem_iff.mpr (List.mem_cons_of_mem _ List.mem_cons_self)
  have hd_mem : ∀ (hd : Nat) (xs : List Nat), hd ∈ snodes (hd, xs) := fun _ _ => List.mem_cons_self
  have el_mem : ∀ (hd q : Nat) (pre post : List Nat), q ∈ snodes (hd, pre ++ q :: post) := fun _ _ _ _ => by
    simp [snodes]
  cases st with
  | initFree hf => exact Or.inl hf
  | initHead p => exact Or.inr ⟨_, m1 p, rfl⟩
  | addFirst p hf => exact ⟨Or.inl hf, fun e => hf _ (m1 p) (e ▸ hd_mem _ _), _, m1 p, hd_mem _ _⟩
  | addAfter p hf => exact ⟨Or.inl hf, fun e => hf _ (m1 p) (e ▸ el_mem _ _ _ _), _, m1 p, el_mem _ _ _ _⟩
  | addFirstLone p => exact ⟨Or.inr (m1 p), fun e => w.lone_not_mem p (e ▸ hd_mem _ _), _, m2 p, hd_mem _ _⟩
  | addAfterLone p =>
    exact ⟨Or.inr (m1 p), fun e => w.lone_not_mem p (e ▸ el_mem _ _ _ _), _, m2 p, el_mem _ _ _ _⟩
  | pop p => exact ⟨_, m1 p, rfl⟩
  | popEmpty p => exact ⟨_, m1 p, rfl⟩
  | @moveFrontOwn fuel n hd pre post B p hfu =>
    refine ⟨fun e => ?_, _, m1 p, rfl, hfu, Or.inl (by simp)⟩
    have nd := w.nodup _ (m1 p)
    subst e; simp [snodes] at nd
  | moveFrontAbsent p hf hfu =>
    exact ⟨fun e => hf _ (m1 p) (e ▸ hd_mem _ _), _, m1 p, rfl, hfu, Or.inr (Or.inl hf)⟩
  | moveFrontLone p hfu =>
    exact ⟨fun e => w.lone_not_mem p (e ▸ hd_mem _ _), _, m2 p, rfl, hfu, Or.inr (Or.inr (m1 p))⟩

theorem step_of_sadmitted {F : SFam} {op : SOp} (ad : SAdmitted F op) : ∃ F', SStep F op F' := by
  cases op with
  | init a =>
    rcases ad with hf | ⟨⟨hd, xs⟩, hp, rfl⟩
    · exact ⟨_, .initFree hf⟩
    · exact ⟨_, .initHead (List.perm_cons_erase hp)⟩
  | add link pos =>
    obtain ⟨hl, hne, ⟨hd, xs⟩, hp, hpos⟩ := ad
    simp only [snodes, List.mem_cons] at hpos
    rcases hl with hf | hlone
    · rcases hpos with rfl | hpos
      · exact ⟨_, .addFirst (List.perm_cons_erase hp) hf⟩
      · obtain ⟨pre, post, rfl⟩ := List.append_of_mem hpos
        exact ⟨_, .addAfter (List.perm_cons_erase hp) hf⟩
    · have hne2 : ((hd, xs) : Nat × List Nat) ≠ (link, []) := by
        intro e; injection e with e1 e2; subst e1; subst e2
        simp at hpos; exact hne hpos.symm
      rcases hpos with rfl | hpos
      · exact ⟨_, .addFirstLone (perm_cons_cons_erase_erase hlone hp hne2)⟩
      · obtain ⟨pre, post, rfl⟩ := List.append_of_mem hpos
        exact ⟨_, .addAfterLone (perm_cons_cons_erase_erase hlone hp hne2)⟩
  | popFirst hd =>
    obtain ⟨⟨hd', xs⟩, hp, rfl⟩ := ad
    cases xs with
    | nil => exact ⟨_, .popEmpty (List.perm_cons_erase hp)⟩
    | cons x xs => exact ⟨_, .pop (List.perm_cons_erase hp)⟩
  | moveFront fuel n hd =>
    obtain ⟨hne, ⟨hd', xs⟩, hp, rfl, hfu, hn⟩ := ad
    rcases hn with hn | hf | hlone
    · obtain ⟨pre, post, rfl⟩ := List.append_of_mem hn
      exact ⟨_, .moveFrontOwn (List.perm_cons_erase hp) hfu⟩
    · exact ⟨_, .moveFrontAbsent (List.perm_cons_erase hp) hf hfu⟩
    · have hne2 : ((hd', xs) : Nat × List Nat) ≠ (n, []) := by
        intro e; injection e with e1 e2; exact hne e1.symm
      exact ⟨_, .moveFrontLone (perm_cons_cons_erase_erase hlone hp hne2) hfu⟩

end Igris.C01
