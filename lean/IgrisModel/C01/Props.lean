/-
  C01 — property theorems: intrusive lists stay well-formed and ordered under
  any operation history.

  The abstract state is a family of pairwise disjoint cyclic sequences
  (`Rings`); `RingsOK h A` says the heap realises it: forward links follow each
  sequence and close it, every successor points back.  `AStep` is the reference
  semantics of every operation (all aliasing cases: moving a node next to
  itself, to its current neighbour, inside one ring, between rings; single
  element rings; popping an empty list).  A list with head `hd` and contents
  `xs` is the ring `hd :: xs`.
-/
import IgrisModel.C01.Refine
import IgrisModel.C01.SlistHistory
import IgrisModel.C01.HlistHistory
import IgrisModel.C01.StrictCheck
import IgrisModel.C01.SafeLoops
namespace Igris.C01

/-- one operation: the heap operation realises the reference operation -/
theorem step_refines {h : Heap} {A A' : Rings} {op : Op} (ok : RingsOK h A) (st : AStep A op A') :
    RingsOK (exec h op) A' := ok.step st

/-- For every finite sequence of operations that the
reference semantics admits, over any number of nodes and lists, the heap after
the sequence realises the reference family. -/
theorem run_refines {h : Heap} {A A' : Rings} {ops : List Op} (ok : RingsOK h A) (r : ARun A ops A') :
    RingsOK (run h ops) A' := by
  induction r generalizing h with
  | nil => exact ok
  | cons st _ ih => exact ih (step_refines ok st)

/-- the empty family is realised by every heap (no node is initialised yet) -/
theorem empty_ok (h : Heap) : RingsOK h [] := ⟨by simp, List.Pairwise.nil⟩

/-! ### what a well-formed family means for the observable queries -/

/-- forward traversal yields exactly the reference sequence, backward traversal its
reverse; size, size_reversed, emptiness and membership agree -/
theorem queries_agree {h : Heap} {A : Rings} {hd : Nat} {xs : List Nat} (ok : RingsOK h A)
    (hm : (hd :: xs) ∈ A) (fuel : Nat) (hf : xs.length + 1 < fuel) :
    dlistToList h fuel hd = xs ∧ dlistToListRev h fuel hd = xs.reverse ∧
    dlistSize h fuel hd = xs.length ∧ dlistSizeReversed h fuel hd = xs.length ∧
    (dlistEmpty h hd = true ↔ xs = []) ∧ (∀ x, dlistIn h fuel x hd = true ↔ x ∈ xs) := by
  have r := ok.ring_of_mem hm
  have h1 := dlistToList_ring h hd xs r fuel hf
  have h2 := dlistToListRev_ring h hd xs r fuel hf
  refine ⟨h1, h2, by simp [dlistSize, h1], by simp [dlistSizeReversed, h2], ?_, ?_⟩
  · simp [dlistEmpty, Seg_self_iff r.fwd r.head_not_mem]
  · intro x; simp [dlistIn, h1]

/-- the same holds whichever member the ring is read from and wherever it sits in
the family (`Same`) -/
theorem queries_agree_same {h : Heap} {A A' : Rings} {hd : Nat} {xs : List Nat} (ok : RingsOK h A)
    (s : Same A A') (hm : (hd :: xs) ∈ A') (fuel : Nat) (hf : xs.length + 1 < fuel) :
    dlistToList h fuel hd = xs ∧ dlistToListRev h fuel hd = xs.reverse :=
  let q := queries_agree (ok.same s) hm fuel hf
  ⟨q.1, q.2.1⟩

/-- every linked node's neighbours point back at it and stay inside its ring -/
theorem neighbours_point_back {h : Heap} {A : Rings} {r : List Nat} (ok : RingsOK h A) (hr : r ∈ A) :
    ∀ y ∈ r, h.prev (h.next y) = y ∧ h.next (h.prev y) = y ∧ h.next y ∈ r ∧ h.prev y ∈ r := by
  obtain ⟨a, xs, e, ring⟩ := ok.ring r hr
  subst e
  intro y hy
  exact ⟨ring.back y hy, (ring.prev_next y hy).1, ring.next_mem y hy, (ring.prev_next y hy).2⟩

/-- a node that is in no ring (removed with `dlist_del`, destroyed, or never
linked) is reachable from no list: no ring member points at it -/
theorem free_unreachable {h : Heap} {A : Rings} {a : Nat} (ok : RingsOK h A) (hf : Free A a) :
    ∀ r ∈ A, ∀ y ∈ r, h.next y ≠ a ∧ h.prev y ≠ a := by
  intro r hr y hy
  obtain ⟨_, _, hn, hp⟩ := neighbours_point_back ok hr y hy
  exact ⟨fun e => hf r hr (e ▸ hn), fun e => hf r hr (e ▸ hp)⟩

/-- `dlist_del` really removes: afterwards the entry is in no ring of the family -/
theorem del_makes_free {h : Heap} {a x : Nat} {xs : List Nat} {B : Rings}
    (ok : RingsOK h ((a :: x :: xs) :: B)) :
    RingsOK (dlistDel h a) ((x :: xs) :: B) ∧ Free ((x :: xs) :: B) a := ok.del

/-- an unlinked C++ node / a del_init'ed C node is self-linked, and removing it
again is harmless: the heap does not change at all -/
theorem unlinked_is_self_linked_and_idempotent {h : Heap} {a : Nat} {B : Rings}
    (ok : RingsOK h ([a] :: B)) :
    h.next a = a ∧ h.prev a = a ∧ nodeUnlink h a = h ∧ dlistDelInit h a = h := by
  have r := ok.head_ring
  have hd := dlistDelInit_single h a r
  exact ⟨r.next_self, r.prev_self, by rw [nodeUnlink_eq_delInit r, hd], hd⟩

/-- the walk of `dlist_check` along a path that meets `fnd` only at its end counts the nodes of the path -/
theorem check_steps (h : Heap) (fnd : Nat) (l : List Nat) (it : Nat) (steps count : Nat)
    (hs : Seg h.next it l fnd) (hnot : fnd ∉ l) (hc : l.length < count) :
    dlistCheckAux h fnd count it steps = ((steps + l.length : Nat) : Int) := by
  rcases checkAux_spec h fnd count it steps with ⟨k, _, hit, hv⟩ | ⟨hno, _⟩
  · rw [hv, hit.unique (firstHit_of_seg hs hnot)]
  · exact absurd (firstHit_of_seg hs hnot).1 (hno _ hc)

/-- `dlist_is_correct` answers true on every list of fewer than 1000 nodes -/
theorem is_correct_on_rings {h : Heap} {A : Rings} {hd : Nat} {xs : List Nat} (ok : RingsOK h A)
    (hm : (hd :: xs) ∈ A) (hlen : xs.length < 1000) : dlistIsCorrect h hd = true := by
  simp [isCorrect_on_ring (ok.ring_of_mem hm), hlen]

/-! ### witnesses of two repaired defects (models of the old code) -/

/-- `dlist_move` as it was: `__dlist_del` without re-initialising the entry -/
def dlistMoveOrig (h : Heap) (l head : Nat) : Heap :=
  dlistAddNext (dlistDelRaw h (h.prev l) (h.next l)) l head

/-- ring 0 → 2 → 1 → 0 built by `dlist_add_next(1,0); dlist_add_next(2,0)` -/
def ring3 : Heap := dlistAddNext (dlistAddNext ((List.range 3).foldl dlistInit ⟨id, id⟩) 1 0) 2 0

/-- old `dlist_move(0, 0)`: node 2's `prev` still points at 0 although 0 left
the ring (1.next = 2): neighbours no longer point back -/
theorem dlist_move_self_witness :
    (dlistMoveOrig ring3 0 0).next 1 = 2 ∧ (dlistMoveOrig ring3 0 0).prev 2 = 0 ∧
    (dlistMoveOrig ring3 0 0).next 0 = 0 := by decide

/-- the repaired `dlist_move(0, 0)` leaves the ring 1 ↔ 2 and node 0 alone -/
theorem dlist_move_self_fixed :
    (dlistMove ring3 0 0).next 1 = 2 ∧ (dlistMove ring3 0 0).prev 2 = 1 ∧
    (dlistMove ring3 0 0).next 2 = 1 ∧ (dlistMove ring3 0 0).next 0 = 0 ∧ (dlistMove ring3 0 0).prev 0 = 0 := by
  decide

/-- `unlink_and_move_all_nodes_from_other` as it was: no test for an empty source -/
def listSpliceOrig (h : Heap) (l oth : Nat) : Heap :=
  let h := nodeUnlink h l
  let h := h.setNext l (h.next oth)
  let h := h.setPrev l (h.prev oth)
  let h := h.setPrev (h.next l) l
  let h := h.setNext (h.prev l) l
  let h := h.setNext oth oth
  h.setPrev oth oth

/-- applied to an empty source, the old code leaves the destination head pointing at the source head, which is
self-linked; the repaired code leaves the destination empty -/
theorem splice_from_empty_witness :
    (listSpliceOrig ⟨id, id⟩ 0 1).next 0 = 1 ∧ (listSpliceOrig ⟨id, id⟩ 0 1).next 1 = 1 ∧
    (listSplice ⟨id, id⟩ 0 1).next 0 = 0 := by decide

-- non-vacuity: the reference semantics admits a history with the aliasing cases
-- (re-insertion after removal, move onto itself, move onto the current neighbour)
example : ARun [] [.cinit 0, .cinit 1, .cinit 2, .caddNext 1 0, .caddPrev 2 0, .cmove 1 1, .cmove 2 0, .cdel 2,
    .caddNext 2 0] [[0, 2], [1]] := by
  refine .cons (.cinitFree (by decide)) ?_
  refine .cons (.cinitFree (by decide)) ?_
  refine .cons (.cinitFree (by decide)) ?_
  -- [[2],[1],[0]]
  refine .cons (.caddNext (lnk := 1) (head := 0) (ys := []) (B := [[2]])
    (.perm (by decide))) ?_
  -- [[0,1],[2]]
  refine .cons (.caddPrev (lnk := 2) (head := 0) (ys := [1]) (B := []) (.perm (by decide))) ?_
  -- [[0,1,2]]
  refine .cons (.cmoveSelf (a := 1) (x := 2) (xs := [0]) (B := [])
    (.rot (l1 := [0]) (b := 1) (l2 := [2]) (B := []))) ?_
  -- [[1],[2,0]]
  refine .cons (.cmoveSame (l := 2) (pre := []) (head := 0) (post := []) (B := [[1]]) (.perm (by decide))) ?_
  -- [[0,2],[1]]
  refine .cons (.cdel (a := 2) (x := 0) (xs := []) (B := [[1]])
    (.rot (l1 := [0]) (b := 2) (l2 := []) (B := [[1]]))) ?_
  -- [[0],[1]]
  refine .cons (.caddNextFree (lnk := 2) (head := 0) (ys := []) (B := [[1]]) (.refl _) (by decide)) ?_
  exact .nil _

/-! ### slist (igris/datastruct/slist.h, igris/container/slist.h) -/

/-- traversal of a well-formed slist yields the reference sequence -/
theorem slist_traversal (h : SHeap) (head : Nat) (xs : List Nat) (r : SRing h head xs) (fuel : Nat)
    (hf : xs.length + 1 < fuel) : slistToList h fuel head = xs := by
  unfold slistToList
  rw [swalk_eq_walk]
  exact walkNext_seg ⟨h.next, h.next⟩ head xs head fuel r.fwd r.head_not_mem (by omega)

/-- `slist_add` / `add_first` puts a node that is not in the list in front; nothing else is written -/
theorem slist_add_refines (h : SHeap) (link head : Nat) (xs : List Nat) (r : SRing h head xs)
    (hl : link ∉ head :: xs) :
    SRing (slistAdd h link head) head (link :: xs) ∧
    (∀ y, y ∉ [link, head] → (slistAdd h link head).next y = h.next y) := by
  refine ⟨slistAdd_ring h link head xs r hl, fun y hy => ?_⟩
  simp only [List.mem_cons, List.not_mem_nil, or_false, not_or] at hy
  exact slistAdd_frame h link head y hy.1 hy.2

/-- `slist_pop_first` unlinks and returns the first element, NULL on an empty list (state unchanged) -/
theorem slist_pop_refines (h : SHeap) (head : Nat) :
    (∀ x xs, SRing h head (x :: xs) →
      (slistPopFirst h head).2 = some x ∧ SRing (slistPopFirst h head).1 head xs) ∧
    (SRing h head [] → slistPopFirst h head = (h, none)) :=
  ⟨fun x xs r => slistPopFirst_ring h head x xs r, slistPopFirst_empty h head⟩

/-- `igris::slist::move_front(n)`: whether or not the node is already in this list (and
wherever it is), afterwards it is the first element exactly once and the other
elements keep their order -/
theorem slist_move_front_refines (h : SHeap) (head n : Nat) (fuel : Nat) :
    (∀ xs, SRing h head xs → n ∉ head :: xs → xs.length < fuel →
      SRing (slistMoveFront h fuel n head) head (n :: xs)) ∧
    (∀ pre post, SRing h head (pre ++ n :: post) → pre.length < fuel →
      SRing (slistMoveFront h fuel n head) head (n :: (pre ++ post))) :=
  ⟨fun xs r hn hf => slistMoveFront_absent h head n xs r hn fuel hf,
   fun pre post r hf => slistMoveFront_present h head n pre post r fuel hf⟩

/-! ### `dlist_move_sorted` -/

/-- `dlist_move_sorted(added, head, member, comparator)` for ANY comparator: the lone
entry is linked in front of the first entry for which the comparator answers true
(at the tail when there is none); all other entries and all other rings are untouched -/
theorem move_sorted_refines {h : Heap} {cmp : Nat → Nat → Bool} {added head : Nat} {xs : List Nat} {B : Rings}
    (ok : RingsOK h ([added] :: (head :: xs) :: B)) (fuel : Nat) (hf : xs.length + 1 < fuel) :
    RingsOK (dlistMoveSorted h cmp fuel added head)
      ((head :: (xs.takeWhile (fun y => !cmp added y) ++ added :: xs.dropWhile (fun y => !cmp added y))) :: B) :=
  moveSorted_ok ok fuel hf

/-- with the comparator `key added < key pos` a list sorted by `key` stays sorted
(ties: after the entries with an equal key) -/
theorem move_sorted_keeps_sorted (key : Nat → Int) (added : Nat) (xs : List Nat)
    (hs : xs.Pairwise (fun a b => key a ≤ key b)) :
    (xs.takeWhile (fun y => !decide (key added < key y)) ++
      added :: xs.dropWhile (fun y => !decide (key added < key y))).Pairwise (fun a b => key a ≤ key b) := by
  induction xs with
  | nil => simp
  | cons a as ih =>
    have ha := List.pairwise_cons.mp hs
    by_cases hc : key added < key a
    · simp only [List.takeWhile, List.dropWhile, hc, decide_true, Bool.not_true, List.nil_append]
      refine List.pairwise_cons.mpr ⟨?_, hs⟩
      intro b hb
      rcases List.mem_cons.mp hb with rfl | hb
      · omega
      · have := ha.1 b hb; omega
    · simp only [List.takeWhile, List.dropWhile, hc, decide_false, Bool.not_false, List.cons_append]
      refine List.pairwise_cons.mpr ⟨?_, ih ha.2⟩
      intro b hb
      simp only [List.mem_append, List.mem_cons] at hb
      rcases hb with hb | rfl | hb
      · exact ha.1 b ((List.takeWhile_sublist _).subset hb)
      · omega
      · exact ha.1 b ((List.dropWhile_sublist _).subset hb)

/-! ### hlist (igris/datastruct/hlist.h) -/

/-- `hlist_for_each` visits the contents in order -/
theorem hlist_traversal {h : HHeap} {l : Nat} {xs : List Nat} (r : HList h l xs) (fuel : Nat)
    (hf : xs.length < fuel) : hlistToList h fuel l = xs := hwalk_chain h xs (.headFirst l) fuel r.chain hf

/-- `hlist_add_next` at the head location pushes in front, at `&p->next` inserts right
after `p`; `hlist_del` of a member removes exactly it; every `pprev` keeps
pointing at the location that points at its node (that is `HList`) -/
theorem hlist_ops_refine {h : HHeap} {l n : Nat} :
    (∀ xs, HList h l xs → n ∉ xs → HList (hlistAddNext h n (.headFirst l)) l (n :: xs)) ∧
    (∀ p pre post, HList h l (pre ++ p :: post) → n ∉ pre ++ p :: post →
      HList (hlistAddNext h n (.nodeNext p)) l (pre ++ p :: n :: post)) ∧
    (∀ pre post, HList h l (pre ++ n :: post) → HList (hlistDel h n) l (pre ++ post)) ∧
    (h.pprev n = none → hlistDel h n = h) :=
  ⟨fun _ r hn => hlist_add_front r hn, fun _ _ _ r hn => hlist_add_after r hn,
   fun _ _ r => hlist_del_member r, hlist_del_unlinked h n⟩

/-- a removal from one hlist leaves every other (disjoint) hlist as it was -/
theorem hlist_other_lists_untouched {h : HHeap} {l l2 n : Nat} {pre post ys : List Nat}
    (r : HList h l (pre ++ n :: post)) (r2 : HList h l2 ys) (hl : l ≠ l2)
    (hd : ∀ y ∈ ys, y ∉ pre ++ n :: post) : HList (hlistDel h n) l2 ys := hlist_frame_del r r2 hl hd

-- non-vacuity: an empty hlist exists, and two pushes + an insertion + a removal go through
example : HList (hlistHeadInit ⟨fun _ => none, fun _ => none, fun _ => none⟩ 0) 0 [] :=
  hlistHeadInit_empty _ 0
example (h : HHeap) (r : HList h 0 []) :
    HList (hlistDel (hlistAddNext (hlistAddNext (hlistAddNext h 1 (.headFirst 0)) 2 (.headFirst 0)) 3 (.nodeNext 2)) 2)
      0 [3, 1] := by
  have r1 := hlist_add_front (n := 1) r (by simp)
  have r2 := hlist_add_front (n := 2) r1 (by simp)
  have r3 := hlist_add_after (n := 3) (p := 2) (pre := []) (post := [1]) r2 (by simp)
  exact hlist_del_member (n := 2) (pre := []) (post := [3, 1]) r3

/-! ### bounded walks on ANY heap, container_of, entry iteration, `_safe` loops, the typed C++ wrapper -/

/-- `dlist_check(fnd, count)` / `dlist_check_reversed` on ANY heap (also a corrupted one): the
number of steps after which the forward / backward walk first comes back to `fnd`, when that
happens within `count` steps; -1 when it does not -/
theorem check_result (h : Heap) (fnd count : Nat) :
    WalkResult h.next fnd count (dlistCheck h fnd count) ∧
    WalkResult h.prev fnd count (dlistCheckReversed h fnd count) :=
  ⟨dlistCheck_result h fnd count, dlistCheckReversed_result h fnd count⟩

/-- `dlist_is_correct(head)` on ANY heap is true iff the forward walk and the backward walk
both first return to `head` after the same number of steps, fewer than 1000 -/
theorem is_correct_iff (h : Heap) (hd : Nat) :
    dlistIsCorrect h hd = true ↔ ∃ n, n < 1000 ∧ FirstHit h.next hd hd n ∧ FirstHit h.prev hd hd n :=
  isCorrect_iff h hd

/-- a well-formed ring with 1000 or more elements is rejected (converse of `is_correct_on_rings`) -/
theorem is_correct_false_on_long_rings {h : Heap} {A : Rings} {hd : Nat} {xs : List Nat} (ok : RingsOK h A)
    (hm : (hd :: xs) ∈ A) (hlen : 1000 ≤ xs.length) : dlistIsCorrect h hd = false := by
  simp [isCorrect_on_ring (ok.ring_of_mem hm), Nat.not_lt.mpr hlen]

/-- the four-node heap whose backward links are a copy of the forward links -/
def corrupt4 : Heap := ⟨fun x => (x + 1) % 4, fun x => (x + 1) % 4⟩

/-- `dlist_is_correct` only compares the two walk lengths: it accepts this ring although no
neighbour points back (`prev (next 0) = 2`) -/
theorem is_correct_accepts_corrupt_witness :
    dlistIsCorrect corrupt4 0 = true ∧ corrupt4.prev (corrupt4.next 0) = 2 := by decide

/-- container_of ∘ member = id and member ∘ container_of = id, for every 64-bit object
address and every offset (the subtraction wraps) -/
theorem container_of_member (e p off : Addr) :
    mcastOut (mcastIn e off) off = e ∧ mcastIn (mcastOut p off) off = p :=
  ⟨mcastOut_mcastIn e off, mcastIn_mcastOut p off⟩

/-- one object on two lists: its two link members are different nodes, and container_of
through either member gives back the one object -/
theorem two_members_one_object (e o1 o2 : Addr) (hne : o1 ≠ o2) :
    mcastIn e o1 ≠ mcastIn e o2 ∧ mcastOut (mcastIn e o1) o1 = mcastOut (mcastIn e o2) o2 :=
  ⟨mcastIn_inj_off e o1 o2 hne, by rw [mcastOut_mcastIn, mcastOut_mcastIn]⟩

/-- `dlist_for_each_entry` / `_reverse` through a member at ANY offset visits the objects of the
list's elements, each exactly once, in order / in reverse order -/
theorem for_each_entry_visits_objects {h : Heap} {A : Rings} {hd : Nat} {xs : List Nat} (ok : RingsOK h A)
    (hm : (hd :: xs) ∈ A) (hb : ∀ y ∈ hd :: xs, y < 2 ^ 64) (off : Addr) (fuel : Nat) (hf : xs.length + 1 < fuel) :
    dlistForEachEntry h fuel (BitVec.ofNat 64 hd) off = xs.map (entryOf off) ∧
    dlistForEachEntryReverse h fuel (BitVec.ofNat 64 hd) off = xs.reverse.map (entryOf off) := by
  have r := ok.ring_of_mem hm
  exact ⟨forEachEntry_ring r hb off fuel hf, forEachEntryReverse_ring r hb off fuel hf⟩

/-- `dlist_first_entry` / `last_entry` / `next_entry` / `prev_entry` are the objects of the
`next` / `prev` nodes -/
theorem entry_neighbours (h : Heap) (off : Addr) {p : Nat} (hp : p < 2 ^ 64) :
    dlistFirstEntry h (BitVec.ofNat 64 p) off = entryOf off (h.next p) ∧
    dlistLastEntry h (BitVec.ofNat 64 p) off = entryOf off (h.prev p) ∧
    dlistNextEntry h (entryOf off p) off = entryOf off (h.next p) ∧
    dlistPrevEntry h (entryOf off p) off = entryOf off (h.prev p) :=
  ⟨firstEntry_entryOf h off hp, lastEntry_entryOf h off hp, nextEntry_entryOf h off hp, prevEntry_entryOf h off hp⟩

/-- `dlist_for_each_safe` whose body deletes (`dlist_del_init`) the current element whenever
`del` says so — for ANY predicate: every element is still visited exactly once, in order; the
kept elements stay in order, every deleted one is alone, all other rings are untouched -/
theorem for_each_safe_tolerates_deletion {h : Heap} {hd : Nat} {xs : List Nat} {B : Rings} (del : Nat → Bool)
    (ok : RingsOK h ((hd :: xs) :: B)) (fuel : Nat) (hf : xs.length < fuel) :
    (dlistForEachSafe (fun h pos => if del pos then dlistDelInit h pos else h) h fuel hd).2 = xs ∧
    RingsOK (dlistForEachSafe (fun h pos => if del pos then dlistDelInit h pos else h) h fuel hd).1
      ((hd :: xs.filter (fun x => !del x)) :: ((xs.filter del).map fun x => [x]) ++ B) :=
  dlistForEachSafe_del del _ (fun _ _ _ _ => rfl) ok fuel hf

/-- the C++ erase-while-iterating pattern `cur = it++; if (pred(*cur)) pop(*cur);` -/
theorem erase_while_iterating {h : Heap} {l : Nat} {xs : List Nat} {B : Rings} (del : Nat → Bool)
    (ok : RingsOK h ((l :: xs) :: B)) (fuel : Nat) (hf : xs.length < fuel) :
    (listEraseIf del h fuel l).2 = xs ∧
    RingsOK (listEraseIf del h fuel l).1
      ((l :: xs.filter (fun x => !del x)) :: ((xs.filter del).map fun x => [x]) ++ B) :=
  dlistForEachSafe_del del _ (fun h a ys ra => by rw [nodeUnlink_eq_delInit ra]) ok fuel hf

/-- the plain `dlist_for_each` does NOT tolerate it: after `dlist_del_init` of the current
element `pos->next` is `pos` itself, the loop stays on the deleted node for ever -/
theorem for_each_unsafe_delete_witness :
    (forEachUnsafe (fun h p => dlistDelInit h p) 0 6 ring3 (ring3.next 0)).2 = [2, 2, 2, 2, 2, 2] := by decide

/-- typed wrapper: `pop(obj)`, `move_next/prev(obj, node)`, `move_next/prev(obj, iterator)` act on the
node `&(obj.*member)`; `*it` followed by `.*member` gives back the iterator's node -/
theorem typed_wrapper_acts_on_member (h : Heap) (off : Addr) {p it : Nat} (hp : p < 2 ^ 64) (hit : it < 2 ^ 64) (node : Nat) :
    listPop h (entryOf off p) off = nodeUnlink h p ∧
    listMoveNext h (entryOf off p) off node = nodeMoveNextThan h p node ∧
    listMovePrev h (entryOf off p) off node = nodeMovePrevThan h p node ∧
    listMoveNextIt h (entryOf off p) off (BitVec.ofNat 64 it) = nodeMoveNextThan h p it ∧
    listMovePrevIt h (entryOf off p) off (BitVec.ofNat 64 it) = nodeMovePrevThan h p it := by
  simp [listPop, listMoveNext, listMovePrev, listMoveNextIt, listMovePrevIt, iterDeref, entryOf, mcastIn_mcastOut,
    ofNat_toNat_small hp, ofNat_toNat_small hit]

/-- iterators on a well-formed list: `++` then `--` (and `--` then `++`) come back to the same
iterator, from every position including `end()` -/
theorem iter_inc_dec {h : Heap} {A : Rings} {r : List Nat} (ok : RingsOK h A) (hr : r ∈ A) :
    ∀ it ∈ r, iterDec h (iterInc h it) = it ∧ iterInc h (iterDec h it) = it ∧
      riterDec h (riterInc h it) = it ∧ riterInc h (riterDec h it) = it := by
  intro it hit
  obtain ⟨h1, h2, _, _⟩ := neighbours_point_back ok hr it hit
  exact ⟨h1, h2, h2, h1⟩

/-- `round_left()` moves the first element to the back -/
theorem round_left_refines {h : Heap} {l x : Nat} {xs : List Nat} {B : Rings}
    (ok : RingsOK h ((l :: x :: xs) :: B)) : RingsOK (listRoundLeft h l) ((l :: (xs ++ [x])) :: B) := by
  unfold listRoundLeft
  rw [ok.head_ring.next_head, (cpp_move_eq ok ⟨_, List.mem_cons_self, by simp⟩ ⟨_, List.mem_cons_self, by simp⟩).2]
  simpa using moveTail_same (pre := xs) (post := []) ok.rot

/-- C++ `size()` = `circular_size() - 1` and `is_correct()` = (`circular_size() ==
reverse_circular_size()`) on a well-formed list -/
theorem cpp_size_is_correct {h : Heap} {A : Rings} {l : Nat} {xs : List Nat} (ok : RingsOK h A)
    (hm : (l :: xs) ∈ A) (fuel : Nat) (hf : xs.length < fuel) :
    circularSize h fuel l - 1 = xs.length ∧ circularSize h fuel l = reverseCircularSize h fuel l := by
  have r := ok.ring_of_mem hm
  rw [circularSize_ring r fuel hf, reverseCircularSize_ring r fuel hf]
  exact ⟨by omega, rfl⟩

/-! ### frame: operations on some lists never change the others -/

/-- one step: a ring none of whose members is an argument of the operation is, afterwards,
still a ring of the family with the same cyclic sequence (the sequence after the operation is
the sequence before with exactly the specified edit — nothing else moves) -/
theorem untouched_ring_step {A A' : Rings} {op : Op} (st : AStep A op A') {r : List Nat} (hr : r ∈ A)
    (ha : ∀ a ∈ op.args, a ∉ r) : ∃ r' ∈ A', SameRing r r' := st.untouched r hr ha

/-- Take any ring of the initial family (a list with all its
elements — e.g. the list threaded through the OTHER link member of the objects) and any
history of the reference semantics none of whose operations names a node of that ring: after
the whole history every node of the ring has exactly the `next` and `prev` it had before. -/
theorem frame_run {h : Heap} {A A' : Rings} {ops : List Op} (ok : RingsOK h A) (run' : ARun A ops A')
    {r : List Nat} (hr : r ∈ A) (ha : ∀ op ∈ ops, ∀ a ∈ op.args, a ∉ r) :
    ∀ y ∈ r, (run h ops).next y = h.next y ∧ (run h ops).prev y = h.prev y := by
  obtain ⟨r', hr', sr⟩ := run'.untouched r hr ha
  exact ring_determines_fields (ok.ring r hr) ((sr.2 _).mpr ((run_refines ok run').ring r' hr'))

/-- one object on two lists: the history works on the lists threaded through the member at
offset `o1`; the list through the member at offset `o2` (ring `r`, made of `o2`-member nodes
and its head) keeps every link field -/
theorem two_lists_frame {h : Heap} {A A' : Rings} {ops : List Op} (ok : RingsOK h A) (run' : ARun A ops A')
    {r : List Nat} (hr : r ∈ A) (ha : ∀ op ∈ ops, ∀ a ∈ op.args, a ∉ r) (e o2 : Addr)
    (hm : (mcastIn e o2).toNat ∈ r) :
    (run h ops).next (mcastIn e o2).toNat = h.next (mcastIn e o2).toNat ∧
    (run h ops).prev (mcastIn e o2).toNat = h.prev (mcastIn e o2).toNat :=
  frame_run ok run' hr ha _ hm

/-! ### what the reference semantics does NOT admit (Linux-style contract) -/

/-- `run_refines` under its real name: the histories are those the reference semantics admits;
C `dlist_add_next/prev`, `dlist_insert_instead(iter, ·)` and `dlist_move_sorted(added, ·)` of an
entry that is currently LINKED are not admitted (contract of the Linux list API; the C++
`move_next_than/move_prev_than` and C `dlist_move/_tail` unlink first and ARE admitted for linked
nodes, see `cmoveSame/cmoveOther`).  `add_linked_witness` shows what the code does there. -/
theorem run_refines_partial {h : Heap} {A A' : Rings} {ops : List Op} (ok : RingsOK h A) (r : ARun A ops A') :
    RingsOK (run h ops) A' := run_refines ok r

/-- `dlist_add_next(1, 0)` on the ring 0 → 2 → 1 with node 1 still linked: afterwards
1 → 2 → 1 is a cycle that no longer contains the head; a traversal from 0 never returns -/
theorem add_linked_witness :
    (dlistAddNext ring3 1 0).next 0 = 1 ∧ (dlistAddNext ring3 1 0).next 1 = 2 ∧ (dlistAddNext ring3 1 0).next 2 = 1 ∧
    (dlistToList (dlistAddNext ring3 1 0) 50 0).length = 50 := by decide

/-- an unlinked / del_init'ed / destroyed node (a ring of its own) is reachable from no other
list: no member of another ring points at it -/
theorem unlinked_unreachable {h : Heap} {a : Nat} {B : Rings} (ok : RingsOK h ([a] :: B)) :
    ∀ r ∈ B, ∀ y ∈ r, h.next y ≠ a ∧ h.prev y ≠ a :=
  free_unreachable ok.dropLone.1 ok.dropLone.2

/-! ### slist / hlist: initialisation, queries, other lists untouched -/

/-- `slist_init` / `igris::slist()` make an empty list; `hlist_head_init` too -/
theorem list_init_empty (sh : SHeap) (hh : HHeap) (a : Nat) :
    SRing (slistInit sh a) a [] ∧ HList (hlistHeadInit hh a) a [] :=
  ⟨slistInit_ring sh a, hlistHeadInit_empty hh a⟩

/-- `slist_size`, `slist_in`, `slist_empty` agree with the reference sequence -/
theorem slist_queries_agree (h : SHeap) (head : Nat) (xs : List Nat) (r : SRing h head xs) (fuel : Nat)
    (hf : xs.length + 1 < fuel) :
    slistSize h fuel head = xs.length ∧ (∀ x, slistIn h fuel head x = true ↔ x ∈ xs) ∧
    (slistEmpty h head = true ↔ xs = []) := by
  have h1 := slist_traversal h head xs r fuel hf
  refine ⟨by simp [slistSize, h1], fun x => by simp [slistIn, h1], ?_⟩
  simp [slistEmpty, Seg_self_iff r.fwd r.head_not_mem]

/-- slist frame: `slist_add`, `slist_pop_first`, `move_front` on the list `head` leave every
other list (disjoint from the written nodes) exactly as it was -/
theorem slist_other_lists_untouched (h : SHeap) (head head2 n : Nat) (xs ys : List Nat) (r : SRing h head xs)
    (r2 : SRing h head2 ys) (hd : ∀ y ∈ head2 :: ys, y ∉ n :: head :: xs) (fuel : Nat) (hf : xs.length < fuel) :
    SRing (slistAdd h n head) head2 ys ∧ SRing (slistPopFirst h head).1 head2 ys ∧
    SRing (slistMoveFront h fuel n head) head2 ys := by
  refine ⟨r2.congr ?_, r2.congr ?_, r2.congr ?_⟩
  · intro y hy
    have := hd y hy; simp only [List.mem_cons, not_or] at this
    exact slistAdd_frame h n head y this.1 this.2.1
  · intro y hy
    have := hd y hy; simp only [List.mem_cons, not_or] at this
    exact slistPopFirst_frame h head y this.2.1
  · intro y hy
    exact slistMoveFront_frame h head n xs r fuel hf y (hd y hy)

/-- lists 0 = [2] and 1 = [] -/
def twoSlists : SHeap := slistAdd (slistInit (slistInit ⟨id⟩ 0) 1) 2 0

/-- `igris::slist::move_front(n)` of a node that is linked in ANOTHER slist (a singly linked
node cannot know its owner; the repaired code unlinks from THIS list only): list 1 gets the
node, but list 0 is corrupted — its traversal runs 2 → 1 → 2 → … and never returns to head 0.
Contract: `move_front` wants a node of this list or of no list (finding
C01-slist-move-front-foreign). -/
theorem slist_move_front_foreign_witness :
    slistToList (slistMoveFront twoSlists 10 2 1) 10 1 = [2] ∧
    slistToList (slistMoveFront twoSlists 10 2 1) 8 0 = [2, 1, 2, 1, 2, 1, 2, 1] := by decide

/-- hlist frame for insertion (for removal see `hlist_other_lists_untouched`) -/
theorem hlist_add_other_lists_untouched {h : HHeap} {l2 n : Nat} {ys : List Nat} (L : Loc) (r2 : HList h l2 ys)
    (hL : L ≠ .nodeNext n) (hn : n ∉ ys) (h1 : L ≠ .headFirst l2) (h2 : ∀ y ∈ ys, L ≠ .nodeNext y)
    (h3 : ∀ y ∈ ys, h.read L ≠ some y) : HList (hlistAddNext h n L) l2 ys :=
  hlist_frame_add L r2 hL hn h1 h2 h3

-- non-vacuity
example : RingsOK ring3 [[0, 2, 1]] := by
  refine ⟨?_, by simp⟩
  intro r hr; simp at hr; subst hr
  exact ⟨0, [2, 1], rfl, ⟨by decide, by simp only [Seg]; decide, by decide⟩⟩
example : ARun [[0, 2, 1], [5]] [.cmove 2 0, .cdelInit 1] [[1], [0, 2], [5]] := by
  refine .cons (.cmoveSame (l := 2) (pre := [1]) (head := 0) (post := []) (B := [[5]])
    (.rot (l1 := [0]) (b := 2) (l2 := [1]) (B := [[5]]))) ?_
  refine .cons (.cdelInit (a := 1) (x := 0) (xs := [2]) (B := [[5]])
    (.rot (l1 := [0, 2]) (b := 1) (l2 := []) (B := [[5]]))) ?_
  exact .nil _
example : FirstHit ring3.next 0 0 2 ∧ FirstHit ring3.prev 0 0 2 := by
  refine ⟨⟨by decide, ?_⟩, ⟨by decide, ?_⟩⟩ <;> intro j hj <;> (have : j = 0 ∨ j = 1 := by omega) <;>
    rcases this with rfl | rfl <;> decide
example : SRing twoSlists 0 [2] ∧ SRing twoSlists 1 [] :=
  ⟨⟨by decide, by simp only [Seg]; decide⟩, ⟨by decide, by simp only [Seg]; decide⟩⟩

/-! ### slist histories -/

/-- the empty family is realised by every slist heap -/
theorem slist_empty_ok (h : SHeap) : SFamOK h [] := ⟨by simp, List.Pairwise.nil⟩

/-- one slist operation realises the reference operation on the family of lists -/
theorem slist_step_refines {h : SHeap} {F F' : SFam} {op : SOp} (ok : SFamOK h F) (st : SStep F op F') :
    SFamOK (sexec h op) F' := by
  have init_frame : ∀ a y, y ∉ [a] → (slistInit h a).next y = h.next y := fun a y hy =>
    if_neg (by simpa using hy)
  cases st with
  | @initFree a hf =>
    have d : ∀ q ∈ F, Disj [a] (snodes q) := fun q hq => .singleton (hf q hq)
    exact SFamOK.cons (slistInit_ring h a) d (ok.frame [a] d (init_frame a))
  | @initHead a xs B p =>
    refine (ok.perm p).rewrite [a] (fun q hq => .singleton ?_) (slistInit_ring h a) (by simp) (init_frame a)
    exact (ok.perm p).head.2.1 q hq _ List.mem_cons_self
  | addFirst p hf => exact (ok.perm p).addFirst (hf.perm p)
  | addAfter p hf => exact (ok.perm p).addAfter (hf.perm p)
  | addFirstLone p => obtain ⟨o, f⟩ := (ok.perm p).dropLone; exact o.addFirst f
  | addAfterLone p => obtain ⟨o, f⟩ := (ok.perm p).dropLone; exact o.addAfter f
  | @pop hd x xs B p =>
    obtain ⟨r, d, _⟩ := (ok.perm p).head
    exact (ok.perm p).rewrite (hd :: x :: xs) d (slistPopFirst_ring h hd x xs r).2
      (fun _ hy => List.cons_subset_cons hd (List.subset_cons_self x xs) hy)
      fun y hy => slistPopFirst_frame h hd y fun e => hy (e ▸ List.mem_cons_self)
  | @popEmpty hd B p =>
    have ok' := ok.perm p
    have e : slistPopFirst h hd = (h, none) := slistPopFirst_empty h hd ok'.head.1
    simp only [sexec, e]; exact ok'
  | @moveFrontOwn fuel n hd pre post B p hfu =>
    obtain ⟨r, d, _⟩ := (ok.perm p).head
    have pm : (hd :: n :: (pre ++ post)).Perm (hd :: (pre ++ n :: post)) := List.Perm.cons _ List.perm_middle.symm
    refine (ok.perm p).rewrite (hd :: (pre ++ n :: post)) d
      (slistMoveFront_present h hd n pre post r fuel (by simp at hfu; omega)) (fun y hy => pm.subset hy) (fun y hy => ?_)
    exact slistMoveFront_frame h hd n _ r fuel hfu y (fun hm => hy (by
      rcases List.mem_cons.mp hm with rfl | hm
      · simp
      · exact hm))
  | moveFrontAbsent p hf hfu => exact (ok.perm p).moveFrontAbsent (hf.perm p) hfu
  | moveFrontLone p hfu => obtain ⟨o, f⟩ := (ok.perm p).dropLone; exact o.moveFrontAbsent f hfu

/-- For every finite sequence of `slist_init`, `slist_add` / `add_first`
(after a head or after any element), `slist_pop_first` (also on an empty list), `move_front` (of an
element anywhere in the list, of a node in no list, of an empty list) and re-initialisation of a
head (= clear) that the reference semantics admits, over any number of lists and nodes, the heap
after the sequence realises the reference family: every list is a singly linked ring through its
contents in order, different lists share no node. -/
theorem slist_run_refines {h : SHeap} {F F' : SFam} {ops : List SOp} (ok : SFamOK h F) (r : SRun F ops F') :
    SFamOK (srun h ops) F' := by
  induction r generalizing h with
  | nil => exact ok
  | cons st _ ih => exact ih (slist_step_refines ok st)

/-- on EVERY reachable state (any history from the empty family, on any initial heap) the queries
agree with the reference: `slist_for_each` / the `igris::slist` iterators visit the contents in
order, `slist_size`, `slist_in`, `slist_empty` / `empty()` agree, `slist_pop_first` returns the first
element (NULL on an empty list) -/
theorem slist_reachable_queries (h0 : SHeap) {ops : List SOp} {F : SFam} (r : SRun [] ops F)
    {hd : Nat} {xs : List Nat} (hm : (hd, xs) ∈ F) (fuel : Nat) (hf : xs.length + 1 < fuel) :
    slistToList (srun h0 ops) fuel hd = xs ∧ slistSize (srun h0 ops) fuel hd = xs.length ∧
    (∀ x, slistIn (srun h0 ops) fuel hd x = true ↔ x ∈ xs) ∧ (slistEmpty (srun h0 ops) hd = true ↔ xs = []) ∧
    (slistPopFirst (srun h0 ops) hd).2 = xs.head? := by
  have ok := slist_run_refines (slist_empty_ok h0) r
  have ring : SRing (srun h0 ops) hd xs := ok.ring _ hm
  have q := slist_queries_agree _ hd xs ring fuel hf
  refine ⟨slist_traversal _ hd xs ring fuel hf, q.1, q.2.1, q.2.2, ?_⟩
  cases xs with
  | nil => rw [slistPopFirst_empty _ hd ring]; rfl
  | cons x xs => rw [(slistPopFirst_ring _ hd x xs ring).1]; rfl

/-- the calls the reference semantics admits are exactly those satisfying the
decidable predicate `SAdmitted` (written on the family alone: init — node in no list or a head;
add — the new node in no list or an empty list, the position a head or an element; pop_first — a
head; move_front — an element of this list / a node of no list / an empty list, bound above the length) -/
theorem slist_admitted_iff {F : SFam} (w : SFamWF F) (op : SOp) : SAdmitted F op ↔ ∃ F', SStep F op F' :=
  ⟨step_of_sadmitted, fun ⟨_, st⟩ => sadmitted_of_step w st⟩

/-- every reachable slist family is well-formed, so `slist_admitted_iff` applies on every reachable state -/
theorem slist_reachable_wf (h0 : SHeap) {ops : List SOp} {F : SFam} (r : SRun [] ops F) : SFamWF F :=
  (slist_run_refines (slist_empty_ok h0) r).wf

-- non-vacuity: two lists, insertion at the head and after an element, move_front of an own element and
-- of a node in no list, pop, re-initialisation of a non-empty head
example : SRun [] [.init 0, .init 1, .add 2 0, .add 3 0, .add 4 3, .moveFront 10 2 0, .popFirst 0, .add 2 1,
    .moveFront 10 5 1, .init 0, .popFirst 0] [(0, []), (1, [5, 2])] := by
  refine .cons (.initFree (by decide)) ?_
  refine .cons (.initFree (by decide)) ?_
  refine .cons (.addFirst (hd := 0) (xs := []) (B := [(1, [])]) (.swap _ _ _) (by decide)) ?_
  refine .cons (.addFirst (hd := 0) (xs := [2]) (B := [(1, [])]) (.refl _) (by decide)) ?_
  refine .cons (.addAfter (hd := 0) (p := 3) (pre := []) (post := [2]) (B := [(1, [])]) (.refl _) (by decide)) ?_
  refine .cons (.moveFrontOwn (hd := 0) (pre := [3, 4]) (post := []) (B := [(1, [])]) (.refl _) (by decide)) ?_
  refine .cons (.pop (hd := 0) (x := 2) (xs := [3, 4]) (B := [(1, [])]) (.refl _)) ?_
  refine .cons (.addFirst (hd := 1) (xs := []) (B := [(0, [3, 4])]) (.swap _ _ _) (by decide)) ?_
  refine .cons (.moveFrontAbsent (hd := 1) (xs := [2]) (B := [(0, [3, 4])]) (.refl _) (by decide) (by decide)) ?_
  refine .cons (.initHead (a := 0) (xs := [3, 4]) (B := [(1, [5, 2])]) (.swap _ _ _)) ?_
  refine .cons (.popEmpty (hd := 0) (B := [(1, [5, 2])]) (.refl _)) ?_
  exact .nil _
example : SAdmitted [(0, [3, 4]), (1, [])] (.add 7 3) ∧ ¬ SAdmitted [(0, [3, 4]), (1, [])] (.add 4 1) ∧
    ¬ SAdmitted [(0, [3, 4]), (1, [])] (.moveFront 10 4 1) ∧ SAdmitted [(0, [3, 4]), (1, [])] (.moveFront 10 4 0) := by
  decide

/-! ### hlist histories -/

theorem hlist_empty_ok (h : HHeap) : HFamOK h ⟨[], []⟩ :=
  ⟨by simp, List.Pairwise.nil, List.Pairwise.nil, by simp⟩

theorem hlist_step_refines {h : HHeap} {F F' : HFam} {op : HOp} (ok : HFamOK h F) (st : HStep F op F') :
    HFamOK (hexec h op) F' := by
  cases st with
  | @headInitNew l hnew =>
    refine ⟨List.forall_mem_cons.mpr ⟨hlistHeadInit_empty h l, fun q hq => (ok.list q hq).headInit_other (hnew q hq)⟩,
      List.pairwise_cons.mpr ⟨fun q hq => (hnew q hq).symm, ok.heads⟩,
      List.pairwise_cons.mpr ⟨fun q _ y hy => by simp at hy, ok.disj⟩, ?_⟩
    · intro m hm
      refine ⟨(ok.idle m hm).1, ?_⟩
      rintro ⟨q, hq, hmq⟩
      rcases List.mem_cons.mp hq with rfl | hq
      · simp at hmq
      · exact (ok.idle m hm).2 ⟨q, hq, hmq⟩
  | @headInit l xs B p =>
    obtain ⟨_, hB, hh, _⟩ := (ok.perm p).parts
    exact (ok.perm p).rewrite (hlistHeadInit_empty h l) (fun q hq => (hB q hq).headInit_other (hh q hq).symm) nofun
      fun m hm => ⟨hm, fun _ => rfl⟩
  | @nodeInit n hn =>
    show HFamOK (h.setPprev n none) _
    refine ⟨fun q hq => (ok.list q hq).frame (h.read_setPprev ..) (fun _ _ => h.read_setPprev ..)
        fun x hx => if_neg fun e : x = n => hn ⟨q, hq, e ▸ hx⟩,
      ok.heads, ok.disj, List.forall_mem_cons.mpr ⟨⟨if_pos rfl, hn⟩, fun m hm => ⟨?_, (ok.idle m hm).2⟩⟩⟩
    rw [HHeap.pprev_setPprev, (ok.idle m hm).1, ite_self]
  | @addFirst n l xs B p hn => exact (ok.perm p).addAt (pre := []) (fun hl => hn ((HLinked.perm p).mpr hl))
  | @addAfter n l p' pre post B p hn =>
    have ok' : HFamOK h ⟨(l, (pre ++ [p']) ++ post) :: B, F.idle⟩ := by simpa using ok.perm p
    simpa [lastLoc_snoc, hexec] using
      ok'.addAt (n := n) (fun hl => hn ((HLinked.perm p).mpr (by simpa using hl)))
  | del p => exact (ok.perm p).delMember
  | @delIdle n hn =>
    simp only [hexec, hlist_del_unlinked h n (ok.idle n hn).1]; exact ok

/-- For every finite sequence of `hlist_head_init` (new head or
re-initialisation), `hlist_node_init`, `hlist_add_next` at ANY location (`&head->first` or `&p->next`
of any element), `hlist_del` of an element or of an idle node, that the reference semantics admits,
over any number of heads and nodes: every list is a chain from `head->first` to NULL through its
contents in order in which every `pprev` is the location that points at its node; lists share no
node; every idle node has `pprev == NULL`. -/
theorem hlist_run_refines {h : HHeap} {F F' : HFam} {ops : List HOp} (ok : HFamOK h F) (r : HRun F ops F') :
    HFamOK (hrun h ops) F' := by
  induction r generalizing h with
  | nil => exact ok
  | cons st _ ih => exact ih (hlist_step_refines ok st)

/-- on EVERY reachable state: `hlist_for_each` visits the contents in order; `hlist_for_each_entry`
through a member at ANY offset visits their objects (node addresses non-NULL machine addresses, no
object at address 0); every element's `pprev` points at the location that holds it -/
theorem hlist_reachable_queries (h0 : HHeap) {ops : List HOp} {F : HFam} (r : HRun ⟨[], []⟩ ops F)
    {l : Nat} {xs : List Nat} (hm : (l, xs) ∈ F.lists) (fuel : Nat) (hf : xs.length < fuel) :
    hlistToList (hrun h0 ops) fuel l = xs ∧
    (∀ off : Addr, (∀ y ∈ xs, HAddrOK off y) → hlistForEachEntry (hrun h0 ops) fuel l off = xs.map (entryOf off)) ∧
    (∀ pre x post, xs = pre ++ x :: post →
      (hrun h0 ops).pprev x = some (lastLoc (.headFirst l) pre) ∧
      (hrun h0 ops).read (lastLoc (.headFirst l) pre) = some x) := by
  have ok := hlist_run_refines (hlist_empty_ok h0) r
  have hl : HList (hrun h0 ops) l xs := ok.list _ hm
  refine ⟨hlist_traversal hl fuel hf, ?_, ?_⟩
  · intro off ha
    exact hwalkEntry_chain _ off xs (.headFirst l) fuel hl.chain ha hf
  · intro pre x post e
    subst e
    obtain ⟨c1, c2, _⟩ := (HChain_append_cons _ pre (.headFirst l) x post none).mp hl.chain
    exact ⟨c2, HChain_read_last _ pre _ _ c1⟩

/-- the admitted calls are exactly those satisfying the decidable `HAdmitted`
(head_init: always; node_init: the node is not linked; add_next: the node is not linked and the
location belongs to a head of the family / to a linked node; del: the node is linked or idle —
NOT a node that was deleted before and not re-initialised: its `pprev` is stale) -/
theorem hlist_admitted_iff (F : HFam) (op : HOp) : HAdmitted F op ↔ ∃ F', HStep F op F' := by
  constructor
  · intro ad
    cases op with
    | headInit l =>
      by_cases e : ∃ p ∈ F.lists, p.1 = l
      · obtain ⟨⟨l', xs⟩, hp, rfl⟩ := e
        exact ⟨_, .headInit (List.perm_cons_erase hp)⟩
      · exact ⟨_, .headInitNew (fun p hp e' => e ⟨p, hp, e'⟩)⟩
    | nodeInit n => exact ⟨_, .nodeInit ad⟩
    | addNext n loc =>
      cases loc with
      | headFirst l =>
        obtain ⟨hn, ⟨l', xs⟩, hp, rfl⟩ := ad
        exact ⟨_, .addFirst (List.perm_cons_erase hp) hn⟩
      | nodeNext p =>
        obtain ⟨hn, ⟨l, xs⟩, hq, hp⟩ := ad
        obtain ⟨pre, post, rfl⟩ := List.append_of_mem hp
        exact ⟨_, .addAfter (List.perm_cons_erase hq) hn⟩
    | del n =>
      rcases ad with ⟨⟨l, xs⟩, hq, hp⟩ | hi
      · obtain ⟨pre, post, rfl⟩ := List.append_of_mem hp
        exact ⟨_, .del (List.perm_cons_erase hq)⟩
      · exact ⟨_, .delIdle hi⟩
  · rintro ⟨F', st⟩
    cases st with
    | headInitNew _ => trivial
    | headInit _ => trivial
    | nodeInit hn => exact hn
    | @addFirst n l xs B p hn => exact ⟨hn, (l, xs), p.mem_iff.mpr (by simp), rfl⟩
    | @addAfter n l p' pre post B p hn => exact ⟨hn, (l, pre ++ p' :: post), p.mem_iff.mpr (by simp), by simp⟩
    | @del n l pre post B p => exact Or.inl ⟨(l, pre ++ n :: post), p.mem_iff.mpr (by simp), by simp⟩
    | delIdle hi => exact Or.inr hi

/-- what `hlist_del` of an already deleted node does (why it is not admitted): the stale `pprev`
still points at `head->first`, the second `hlist_del(1)` stores the stale `next` there — node 1 is
back in the list although it was removed -/
theorem hlist_double_del_witness :
    let h0 : HHeap := ⟨fun _ => none, fun _ => none, fun _ => none⟩
    let h1 := hlistDel (hlistAddNext (hlistAddNext (hlistHeadInit h0 9) 2 (.headFirst 9)) 1 (.headFirst 9)) 1
    hlistToList h1 5 9 = [2] ∧ hlistToList (hlistDel (hlistDel h1 2) 1) 5 9 = [2] := by decide

-- non-vacuity: two heads, push front, insert after the last element, delete first / last, delete an
-- idle node, re-add a deleted node without node_init, re-initialise a non-empty head
example : HRun ⟨[], []⟩ [.headInit 8, .headInit 9, .nodeInit 1, .addNext 1 (.headFirst 8), .addNext 2 (.nodeNext 1),
    .addNext 3 (.headFirst 9), .del 2, .addNext 2 (.headFirst 8), .del 2, .nodeInit 2, .del 2, .headInit 9]
    ⟨[(9, []), (8, [1])], [2]⟩ := by
  refine .cons (.headInitNew (by simp)) ?_
  refine .cons (.headInitNew (by decide)) ?_
  refine .cons (.nodeInit (by decide)) ?_
  refine .cons (.addFirst (l := 8) (xs := []) (B := [(9, [])]) (.swap _ _ _) (by decide)) ?_
  refine .cons (.addAfter (l := 8) (p := 1) (pre := []) (post := []) (B := [(9, [])]) (.refl _) (by decide)) ?_
  refine .cons (.addFirst (l := 9) (xs := []) (B := [(8, [1, 2])]) (.swap _ _ _) (by decide)) ?_
  refine .cons (.del (n := 2) (l := 8) (pre := [1]) (post := []) (B := [(9, [3])]) (.swap _ _ _)) ?_
  refine .cons (.addFirst (l := 8) (xs := [1]) (B := [(9, [3])]) (.refl _) (by decide)) ?_
  refine .cons (.del (n := 2) (l := 8) (pre := []) (post := [1]) (B := [(9, [3])]) (.refl _)) ?_
  refine .cons (.nodeInit (by decide)) ?_
  refine .cons (.delIdle (by decide)) ?_
  refine .cons (.headInit (l := 9) (xs := [3]) (B := [(8, [1])]) (.swap _ _ _)) ?_
  exact .nil _

/-! ### enabledness of the dlist reference semantics -/

/-- C and C++ dlist: on a well-formed family the calls `AStep` admits are exactly
those satisfying the decidable predicate `Admitted`, which is written on the family alone:
add / insert_instead / move_sorted want an entry that is in no ring or alone (Linux contract —
the ONLY restriction on "any sequence"; see `add_linked_witness`), everything else (del, del_init,
unlink, pop, every move incl. onto itself / a neighbour / another ring) wants nodes that are
in rings, splice wants two different rings or the same head; `dlist_init` is always admitted, `dlist_node()`
of a node that is in no ring or alone. -/
theorem admitted_iff {A : Rings} (w : RingsWF A) (op : Op) : Admitted A op ↔ ∃ A', AStep A op A' :=
  ⟨step_of_admitted, fun ⟨_, st⟩ => admitted_of_step w st⟩

/-- every family a heap realises is well-formed: `admitted_iff` applies on every reachable state -/
theorem reachable_wf {h : Heap} {A : Rings} (ok : RingsOK h A) : RingsWF A := ok.wf

/-- in a state that realises the family `A`, every `Admitted` call (what the harness
generator checks op by op on its own reference state) has a successor family, and the heap after
the real operation realises it — so the next call can be judged in the same way -/
theorem admitted_step_ok {h : Heap} {A : Rings} {op : Op} (ok : RingsOK h A) (ad : Admitted A op) :
    ∃ A', AStep A op A' ∧ RingsOK (exec h op) A' ∧ RingsWF A' := by
  obtain ⟨A', st⟩ := step_of_admitted ad
  exact ⟨A', st, step_refines ok st, (step_refines ok st).wf⟩

-- `dlist_move_sorted` (any comparator) and re-initialisation of a non-empty head inside a history
example : ARun [[0, 3, 7], [5], [4]] [.cmoveSorted (fun a b => decide (a < b)) 10 5 0, .cmoveSorted (fun _ _ => false) 10 9 0,
    .cinit 0, .cmoveSorted (fun a b => decide (a < b)) 10 4 0] [[0, 4]] := by
  refine .cons (.cmoveSorted (added := 5) (head := 0) (xs := [3, 7]) (B := [[4]]) (.perm (by decide)) (by decide)) ?_
  refine .cons (.cmoveSortedFree (added := 9) (head := 0) (xs := [3, 5, 7]) (B := [[4]]) (.refl _) (by decide) (by decide)) ?_
  refine .cons (.cinitRing (a := 0) (xs := [3, 5, 7, 9]) (B := [[4]]) (.refl _)) ?_
  refine .cons (.cmoveSorted (added := 4) (head := 0) (xs := []) (B := []) (.perm (by decide)) (by decide)) ?_
  exact .nil _
example : Admitted [[0, 3, 7], [5]] (.cmove 3 3) ∧ Admitted [[0, 3, 7], [5]] (.caddNext 5 7) ∧
    ¬ Admitted [[0, 3, 7], [5]] (.caddNext 3 0) ∧ ¬ Admitted [[0, 3, 7], [5]] (.cdel 9) ∧
    Admitted [[0, 3, 7], [5]] (.caddPrev 9 5) := by decide

/-! ### `dlist_for_each_entry_safe` at entry level -/

/-- `dlist_for_each_entry_safe(pos, n, head, member)` with ANY body is `dlist_for_each_safe` on the
member nodes with the same body (container_of applied to `pos` and `n`, `&pos->member != head` as the
exit test), as long as the visited nodes are machine addresses -/
theorem for_each_entry_safe_is_node_loop (bodyE : Heap → Addr → Heap) (off : Addr) (hd : Nat) (hhd : hd < 2 ^ 64)
    (h : Heap) (fuel : Nat)
    (hv : ∀ p ∈ (dlistForEachSafe (fun h p => bodyE h (entryOf off p)) h fuel hd).2, p < 2 ^ 64) :
    dlistForEachEntrySafe bodyE h fuel (BitVec.ofNat 64 hd) off =
      ((dlistForEachSafe (fun h p => bodyE h (entryOf off p)) h fuel hd).1,
       (dlistForEachSafe (fun h p => bodyE h (entryOf off p)) h fuel hd).2.map (entryOf off)) :=
  dlistForEachEntrySafe_sim bodyE _ off hd hhd (fun _ _ _ => rfl) h fuel hv

/-- … hence the entry-level loop tolerates deletion of the current entry (`dlist_del_init(&pos->member)`
for ANY predicate on the objects): every object is visited exactly once, in order; the kept ones
keep their order, each deleted one is alone, other rings untouched -/
theorem for_each_entry_safe_tolerates_deletion {h : Heap} {hd : Nat} {xs : List Nat} {B : Rings} (del : Addr → Bool)
    (off : Addr) (ok : RingsOK h ((hd :: xs) :: B)) (hb : ∀ y ∈ hd :: xs, y < 2 ^ 64) (fuel : Nat) (hf : xs.length < fuel) :
    let r := dlistForEachEntrySafe (fun h e => if del e then dlistDelInit h (mcastIn e off).toNat else h) h fuel
      (BitVec.ofNat 64 hd) off
    r.2 = xs.map (entryOf off) ∧
    RingsOK r.1 ((hd :: xs.filter (fun x => !del (entryOf off x))) ::
      ((xs.filter (fun x => del (entryOf off x))).map fun x => [x]) ++ B) := by
  have node := for_each_safe_tolerates_deletion (fun x => del (entryOf off x)) ok fuel hf
  have sim := dlistForEachEntrySafe_sim (fun h e => if del e then dlistDelInit h (mcastIn e off).toNat else h)
    (fun h p => if del (entryOf off p) then dlistDelInit h p else h) off hd (hb hd (by simp))
    (fun h p hp => by simp only [mcastIn_entryOf, ofNat_toNat_small hp]) h fuel
    (by rw [node.1]; intro p hp; exact hb p (by simp [hp]))
  simp only [sim, node.1]
  exact ⟨trivial, node.2⟩

/-! ### the `int` counters of `dlist_size`, `dlist_size_reversed`, `slist_size` -/

/-- precondition of the `int`-valued size functions: on a list of at most INT_MAX = 2^31 - 1
elements the returned `int` is the length (C++ `size()` counts in `size_t`: no precondition) -/
theorem size_int_precondition {h : Heap} {A : Rings} {hd : Nat} {xs : List Nat} (ok : RingsOK h A)
    (hm : (hd :: xs) ∈ A) (fuel : Nat) (hf : xs.length + 1 < fuel) (hlen : xs.length ≤ 2147483647) :
    dlistSizeC h fuel hd = xs.length ∧ dlistSizeReversedC h fuel hd = xs.length := by
  obtain ⟨q1, q2, _⟩ := queries_agree ok hm fuel hf
  unfold dlistSizeC dlistSizeReversedC
  rw [q1, q2]
  exact ⟨countInt_small xs hlen, by rw [countInt_small xs.reverse (by simpa using hlen)]; simp⟩

theorem slist_size_int_precondition (h : SHeap) (head : Nat) (xs : List Nat) (r : SRing h head xs) (fuel : Nat)
    (hf : xs.length + 1 < fuel) (hlen : xs.length ≤ 2147483647) : slistSizeC h fuel head = xs.length := by
  unfold slistSizeC; rw [slist_traversal h head xs r fuel hf]; exact countInt_small xs hlen

/-- beyond it the counter overflows (undefined in C; with wrap-around the result is negative) -/
theorem size_int_overflow_witness (visited : List Nat) (hl : visited.length = 2147483648) :
    (countInt visited).toInt = -2147483648 := by
  rw [countInt_eq, BitVec.toInt_eq_toNat_cond]
  simp only [BitVec.toNat_ofNat, hl]; decide

/-! ### container_of with a side-effecting argument -/

/-- the NULL-safe pop idiom `mcast_out_or_null(slist_pop_first(&head), T, member)`.  Contract the
operation language assumes: the macro evaluates its argument exactly once (it is a function of an
already evaluated pointer).  Then one idiom = one pop: exactly the first element leaves the list
and the result is ITS object; on an empty list the result is NULL and nothing changes.  (The
harness counts the evaluations of the argument on the real macros: ops `spop_entry`, `cpop_entry`,
`hpop_entry`, `smacros`.) -/
theorem pop_idiom_single_evaluation (h : SHeap) (head : Nat) (off : Addr) :
    (∀ x xs, SRing h head (x :: xs) → HAddrOK off x →
      (slistPopFirstEntry h head off).2 = entryOf off x ∧ (slistPopFirstEntry h head off).2 ≠ 0 ∧
      SRing (slistPopFirstEntry h head off).1 head xs) ∧
    (SRing h head [] → slistPopFirstEntry h head off = (h, 0)) := by
  refine ⟨fun x xs r hx => ?_, fun r => ?_⟩
  · obtain ⟨e1, e2⟩ := slistPopFirst_ring h head x xs r
    obtain ⟨m1, m2⟩ := mcastOutOrNull_node off hx
    simp only [slistPopFirstEntry, e1]
    exact ⟨m1, m1 ▸ m2, e2⟩
  · simp [slistPopFirstEntry, slistPopFirst_empty h head r, ptrOf, mcastOutOrNull]

/-- the same idiom on a dlist (`n = head->next; if (n == head) return NULL; dlist_del_init(n)`) and
on an hlist (`n = head->first; if (!n) return NULL; hlist_del(n)`): one node leaves per call -/
theorem pop_idiom_dlist_hlist :
    (∀ {h : Heap} {hd x : Nat} {xs : List Nat} {B : Rings}, RingsOK h ((hd :: x :: xs) :: B) →
      (dlistPopFirst h hd).2 = some x ∧ RingsOK (dlistPopFirst h hd).1 ([x] :: (hd :: xs) :: B)) ∧
    (∀ {h : HHeap} {l x : Nat} {xs : List Nat}, HList h l (x :: xs) →
      (hlistPopFirst h l).2 = some x ∧ HList (hlistPopFirst h l).1 l xs) := by
  refine ⟨fun {h hd x xs B} ok => ?_, fun {h l x xs} r => ?_⟩
  · have ring := ok.head_ring
    simp only [dlistPopFirst, ring.next_head, ring.head_ne, if_false]
    -- the helper is `pop_front()` with `dlist_del_init` for `unlink()`
    have := popFront_ok ok
    rw [listPopFront, ring.next_head, nodeUnlink_eq_delInit ok.rot.head_ring] at this
    exact ⟨trivial, this⟩
  · have hf : h.first l = some x := by have := r.chain; simp only [HChain] at this; exact this.1
    simp only [hlistPopFirst, hf]
    exact ⟨trivial, hlist_del_member (pre := []) (post := xs) (by simpa using r)⟩

/-! ### the macros of igris/util/member.h / memberxx.h at pointer level (64-bit words, NULL = 0, any offset) -/

/-- `mcast_out_or_null` / `mcast_in_or_null` map NULL to NULL, and are the plain macros on
every other pointer -/
theorem or_null_macros (p off : Addr) :
    mcastOutOrNull 0 off = 0 ∧ mcastInOrNull 0 off = 0 ∧
    (p ≠ 0 → mcastOutOrNull p off = mcastOut p off ∧ mcastInOrNull p off = mcastIn p off) := by
  refine ⟨by simp [mcastOutOrNull], by simp [mcastInOrNull], fun hp => ⟨?_, ?_⟩⟩
  · unfold mcastOutOrNull mcastOut; rw [if_neg hp]
  · unfold mcastInOrNull mcastIn; rw [if_neg hp]
example : (4096#64 : Addr) ≠ 0 := by decide

/-- `container_of ∘ member = id` for the NULL-safe pair, EXACTLY where it holds: the round trip through
`mcast_in_or_null` then `mcast_out_or_null` gives the object back iff the object is NULL or its member does
not sit at address 0 (the wrap-around `e + off = 0`); the other round trip iff the member pointer is NULL
or is not the member of the object at address 0 -/
theorem or_null_round_trip_iff (e p off : Addr) :
    (mcastOutOrNull (mcastInOrNull e off) off = e ↔ (e = 0 ∨ e + off ≠ 0)) ∧
    (mcastInOrNull (mcastOutOrNull p off) off = p ↔ (p = 0 ∨ p - off ≠ 0)) := by
  constructor
  · by_cases he : e = 0#64
    · simp [mcastOutOrNull, mcastInOrNull, he]
    · by_cases hw : e + off = 0#64 <;>
        simp [mcastOutOrNull, mcastInOrNull, he, hw, Ne.symm he, BitVec.add_sub_cancel]
  · by_cases hp : p = 0#64
    · simp [mcastOutOrNull, mcastInOrNull, hp]
    · by_cases hw : p - off = 0#64 <;>
        simp [mcastOutOrNull, mcastInOrNull, hp, hw, Ne.symm hp, BitVec.sub_add_cancel]

/-- both excluded regions are inhabited (a 64-bit wrap / an object at address 0) and both round trips hold
for ordinary pointers -/
theorem or_null_round_trip_witness :
    mcastOutOrNull (mcastInOrNull (0 - 8#64) 8#64) 8#64 ≠ (0 - 8#64 : Addr) ∧
    mcastInOrNull (mcastOutOrNull 8#64 8#64) 8#64 ≠ (8#64 : Addr) ∧
    mcastOutOrNull (mcastInOrNull 4096#64 8#64) 8#64 = (4096#64 : Addr) := by decide

/-- `member_offsetof(type, member)` = `(size_t) &((type *)0)->member` and the C++ `member_offset(&T::m)` ARE
the byte offset; `member_container(ptr, &T::m)` is `mcast_out`; hence both C++ round trips -/
theorem member_offset_and_container (e p off : Addr) :
    memberOffsetof off = off ∧ memberContainer p off = mcastOut p off ∧
    memberContainer (mcastIn e off) off = e ∧ mcastIn (memberContainer p off) off = p := by
  have h0 : memberOffsetof off = off := by simp [memberOffsetof, mcastIn]
  refine ⟨h0, by simp [memberContainer, h0, mcastOut], ?_, ?_⟩
  · simp [memberContainer, h0, mcastIn, BitVec.add_sub_cancel]
  · simp [memberContainer, h0, mcastIn, BitVec.sub_add_cancel]

/-- the plain `mcast_out` is NOT NULL-safe: for a member that is not first, NULL becomes a non-NULL pointer
(`hlist_first_entry` of an empty list, `hlist_next_entry` of the last element: the reason why
`hlist_for_each_entry` had to use `mcast_out_or_null`) -/
theorem mcast_out_null_is_not_null (h : HHeap) (l : Nat) (off : Addr) (hoff : off ≠ 0) (he : h.first l = none) :
    mcastOut 0 off ≠ 0 ∧ hlistFirstEntry h l off = 0 - off ∧ hlistFirstEntry h l off ≠ 0 := by
  have h1 : mcastOut 0 off ≠ 0 := by
    intro h; apply hoff
    have := congrArg (fun x => x + off) h
    simpa [mcastOut, BitVec.sub_add_cancel] using this.symm
  refine ⟨h1, by simp [hlistFirstEntry, he, ptrOf, mcastOut], ?_⟩
  simpa [hlistFirstEntry, he, ptrOf] using h1
example : (8#64 : Addr) ≠ 0 := by decide

/-- the entry macros of slist / hlist are `container_of` of the stored link (any offset): on a member of a list
the next entry is the object of the next node -/
theorem slist_hlist_entry_macros (sh : SHeap) (hh : HHeap) (off : Addr) {p : Nat} (hp : p < 2 ^ 64) :
    mcastIn (slistNextEntry sh (mcastOut (BitVec.ofNat 64 p) off) off) off = BitVec.ofNat 64 (sh.next p) ∧
    mcastIn (slistFirstEntry sh (BitVec.ofNat 64 p) off) off = BitVec.ofNat 64 (sh.next p) ∧
    mcastIn (hlistNextEntry hh (mcastOut (BitVec.ofNat 64 p) off) off) off = ptrOf (hh.next p) := by
  have e := ofNat_toNat_small hp
  refine ⟨?_, ?_, ?_⟩
  · simp [slistNextEntry, mcastIn, mcastOut, SHeap.nextA, BitVec.sub_add_cancel, e]
  · simp [slistFirstEntry, mcastIn, mcastOut, SHeap.nextA, BitVec.sub_add_cancel, e]
  · simp [hlistNextEntry, mcastIn, mcastOut, BitVec.sub_add_cancel, e]

/-- `dlist_size`, `dlist_size_reversed`, `slist_size`, `dlist_in` written as the C LOOPS (counter / early
return as loop state — what the driver runs) are the counters / membership of the visited sequence, on ANY
heap and for any fuel; so `size_int_precondition` (exact up to INT_MAX elements) is about the loops -/
theorem size_loops_are_the_counters (h : Heap) (sh : SHeap) (fuel fnd head : Nat) :
    dlistSizeL h fuel head = dlistSizeC h fuel head ∧ dlistSizeReversedL h fuel head = dlistSizeReversedC h fuel head ∧
    slistSizeL sh fuel head = slistSizeC sh fuel head ∧ dlistInL h fuel fnd head = dlistIn h fuel fnd head := by
  refine ⟨?_, ?_, ?_, ?_⟩
  · simp [dlistSizeL, dlistSizeC, countInt, dlistToList, dlistSizeLoop_eq]
  · simp [dlistSizeReversedL, dlistSizeReversedC, countInt, dlistToListRev, dlistSizeRevLoop_eq]
  · simp [slistSizeL, slistSizeC, countInt, slistToList, slistSizeLoop_eq]
  · simp [dlistInL, dlistIn, dlistToList, dlistInLoop_eq]

/-- the `int` result of the LOOP `dlist_size` on a realised family: the length, for lists of at most
INT_MAX elements (totality: the loop version has a value for every heap and fuel; this is its value) -/
theorem size_loop_exact {h : Heap} {A : Rings} {hd : Nat} {xs : List Nat} (ok : RingsOK h A)
    (hm : (hd :: xs) ∈ A) (fuel : Nat) (hf : xs.length + 1 < fuel) (hlen : xs.length ≤ 2147483647) :
    dlistSizeL h fuel hd = xs.length ∧ dlistSizeReversedL h fuel hd = xs.length := by
  have := size_int_precondition ok hm fuel hf hlen
  have l := size_loops_are_the_counters h ⟨fun x => x⟩ fuel 0 hd
  exact ⟨l.1.trans this.1, l.2.1.trans this.2⟩

/-- the C++ `circular_size()` / `is_correct()` on an ill-formed ring: on the lasso `0 → 1 → 1 → …`
the `do … while (n != this)` loop started at 0 has not returned after ANY number of steps (the bounded model
loop exhausts every fuel) — the code never returns; on well-formed rings it does (`cpp_size_is_correct`) -/
theorem circular_size_lasso_witness : ∀ fuel, circularSize lassoHeap fuel 0 = fuel := by
  intro fuel
  cases fuel with
  | zero => simp [circularSize, circSizeAux]
  | succ n =>
    have e : circularSize lassoHeap (n + 1) 0 = circSizeAux lassoHeap 0 n 1 1 := by
      simp [circularSize, circSizeAux, lassoHeap]
    rw [e, circSizeAux_lasso]; omega

/-- the wrap-around comparator of the timers, `(int8_t)(a - b) < 0`: true iff the 8-bit difference is in
the upper half; it is NOT transitive (0 before 100 before 200, but not 0 before 200) — `move_sorted_refines`
holds for ANY comparator, so the insertion position is still "in front of the first entry for which it
answers true" -/
theorem wrap_comparator (a b : BitVec 8) :
    (wrapLess8 a b = true ↔ 128 ≤ (a - b).toNat) ∧
    (wrapLess8 0 100 = true ∧ wrapLess8 100 200 = true ∧ wrapLess8 0 200 = false) := by
  refine ⟨?_, by decide⟩
  -- the sign bit of an 8-bit word is set from 128 on
  have := (a - b).isLt
  rw [wrapLess8, decide_eq_true_iff, BitVec.toInt_eq_toNat_cond]
  split <;> omega

/-! ### the repaired `dlist_is_correct` / `is_correct()`, the closed-form ring -/

/-- the repaired `dlist_is_correct(head)` (one walk testing `it->next->prev == it`, at most 1000 iterations)
on ANY heap — hand-corrupted or not — is true EXACTLY when `head` is on a well-formed ring (nodes pairwise
different, `next` closes the cycle, every successor points back) of fewer than 1000 elements besides it.
The right-hand side is the specification predicate of the whole development (`IsRing`), not the walk. -/
theorem is_correct_strict_iff (h : Heap) (hd : Nat) :
    dlistIsCorrectStrict h hd = true ↔ ∃ xs, xs.length < 1000 ∧ IsRing h hd xs :=
  isCorrectWalk_iff h hd 1000

/-- the C++ `is_correct()` after the repair (the same walk without a bound; `fuel` = the model's loop bound):
for EVERY fuel it returns, and answers true exactly on the well-formed rings of fewer than `fuel` elements -/
theorem cpp_is_correct_strict_iff (h : Heap) (fuel l : Nat) :
    cppIsCorrectStrict h fuel l = true ↔ ∃ xs, xs.length < fuel ∧ IsRing h l xs :=
  isCorrectWalk_iff h l fuel

/-- on a realised family the repaired function answers "fewer than 1000 elements" — both directions, so the
answers `is_correct_on_rings` / `is_correct_false_on_long_rings` gave for the old code are unchanged -/
theorem is_correct_strict_on_rings {h : Heap} {A : Rings} {hd : Nat} {xs : List Nat} (ok : RingsOK h A)
    (hm : (hd :: xs) ∈ A) : dlistIsCorrectStrict h hd = decide (xs.length < 1000) :=
  isCorrectWalk_on_ring (ok.ring_of_mem hm) 1000

/-- what the old code accepted and what made `circular_size()` hang is rejected now: the four-node heap whose
backward links are a copy of the forward links, and the lasso `0 → 1 → 1 → …` for EVERY loop bound (the
repaired C++ walk returns false at its second step instead of running forever) -/
theorem is_correct_strict_rejects_witness :
    dlistIsCorrect corrupt4 0 = true ∧ dlistIsCorrectStrict corrupt4 0 = false ∧
    ∀ fuel, cppIsCorrectStrict lassoHeap fuel 0 = false := by
  refine ⟨by decide, by decide, ?_⟩
  intro fuel
  cases fuel with
  | zero => rfl
  | succ n =>
    cases n with
    | zero => simp [cppIsCorrectStrict, isCorrectWalk, lassoHeap]
    | succ m => simp [cppIsCorrectStrict, isCorrectWalk, lassoHeap]

/-- the closed-form ring `ringHeap n` the driver uses for `reset R n` (up to 10^6 nodes) IS the well-formed
ring head 0, elements 1, …, n-1 (the dumped small sizes tie it to the ring the code builds) -/
theorem ring_heap_is_ring (n : Nat) (hn : 0 < n) : IsRing (ringHeap n) 0 (List.range' 1 (n - 1)) := by
  apply isRing_of_seg_back
  · refine Seg_range' _ (n - 1) 0 0 (fun x _ hx => ?_) ?_
    · rw [ringHeap_next n x (by omega), if_pos (by omega)]
    · rw [ringHeap_next n _ (by omega), if_neg (by omega)]
  · simp only [List.mem_range'_1]; omega
  · intro y hy
    have hy' : y < n := by
      simp only [List.mem_cons, List.mem_range'_1] at hy
      omega
    rw [ringHeap_next n y hy']
    by_cases h1 : y + 1 < n
    · rw [if_pos h1, ringHeap_prev n _ h1, if_neg (by omega)]; omega
    · rw [if_neg h1, ringHeap_prev n 0 hn, if_pos rfl]; omega

example : dlistIsCorrectStrict (ringHeap 5) 0 = true := by decide
example : ∃ xs, xs.length < 1000 ∧ IsRing (ringHeap 5) 0 xs := ⟨_, by decide, ring_heap_is_ring 5 (by decide)⟩

/-- two list heads in one ring spliced into each other (`l.unlink_and_move_all_nodes_from_other(oth)` with `l` and
`oth` members of the same ring, `l ≠ oth` — a case `AStep` has no rule for): the call IS the two admitted calls
`l.unlink()` followed by the splice into the now empty `l` (because `unlink()` is idempotent, on every heap), so it is
covered by `run_refines`: `l` takes over every other node of the ring in the order that starts after `oth`, `oth`
ends up empty. -/
theorem splice_same_ring {h : Heap} {A : Rings} {l oth y : Nat} {pre post ys : List Nat} {B : Rings}
    (ok : RingsOK h A) (sm : Same A ((l :: (pre ++ oth :: post)) :: B)) (hne : post ++ pre = y :: ys) :
    listSplice h l oth = run h [.xunlink l, .xsplice l oth] ∧
    ARun A [.xunlink l, .xsplice l oth] ([oth] :: (l :: y :: ys) :: B) ∧
    RingsOK (listSplice h l oth) ([oth] :: (l :: y :: ys) :: B) := by
  have e1 := listSplice_eq_run h l oth
  obtain ⟨x, xs, e⟩ : ∃ x xs, pre ++ oth :: post = x :: xs := by cases pre <;> simp
  have st1 : AStep A (.xunlink l) ([l] :: (x :: xs) :: B) := .xunlink (by rw [← e]; exact sm)
  have sm2 : Same ([l] :: (x :: xs) :: B) ([l] :: (oth :: y :: ys) :: B) := by
    rw [← e, ← hne]
    exact .trans (.perm (List.Perm.swap _ _ _)) (.trans .rot (.perm (List.Perm.swap _ _ _)))
  have st2 : AStep ([l] :: (x :: xs) :: B) (.xsplice l oth) ([oth] :: (l :: y :: ys) :: B) := .xspliceIntoEmpty sm2
  have ar : ARun A [.xunlink l, .xsplice l oth] ([oth] :: (l :: y :: ys) :: B) := .cons st1 (.cons st2 (.nil _))
  exact ⟨e1, ar, e1 ▸ run_refines ok ar⟩

/-- the same when `l` and `oth` are the only two nodes of the ring: both lists are empty afterwards -/
theorem splice_same_ring_two {h : Heap} {A : Rings} {l oth : Nat} {B : Rings}
    (ok : RingsOK h A) (sm : Same A ([l, oth] :: B)) :
    listSplice h l oth = run h [.xunlink l, .xsplice l oth] ∧
    RingsOK (listSplice h l oth) ([l] :: [oth] :: B) := by
  have e1 := listSplice_eq_run h l oth
  have ar : ARun A [.xunlink l, .xsplice l oth] ([l] :: [oth] :: B) :=
    .cons (.xunlink sm) (.cons (.xspliceBothEmpty (.refl _)) (.nil _))
  exact ⟨e1, e1 ▸ run_refines ok ar⟩

-- non-vacuity: heads 0 and 3 in the ring 0 1 2 3 4: list 0 takes 4 1 2, list 3 is empty
example : ARun [[0, 1, 2, 3, 4]] [.xunlink 0, .xsplice 0 3] [[3], [0, 4, 1, 2]] := by
  have := (splice_same_ring (h := ringHeap 5) (A := [[0, 1, 2, 3, 4]]) (l := 0) (oth := 3) (pre := [1, 2]) (post := [4])
    (y := 4) (ys := [1, 2]) (B := []) ⟨by
      intro r hr; simp at hr; subst hr
      exact ⟨0, [1, 2, 3, 4], rfl, ring_heap_is_ring 5 (by decide)⟩, by simp⟩ (.refl _) rfl).2.1
  exact this

/-- EVERY well-formed family of non-empty rings (each ring without repetition, rings pairwise disjoint) is realised
by some heap — `RingsOK` is inhabited for every such family, not only for the examples (the heap is built with
`dlist_init` and `dlist_add_prev`, i.e. by admitted calls) -/
theorem wf_family_is_realised (A : Rings) (wf : RingsWF A) (ne : ∀ r ∈ A, r ≠ []) : ∃ h, RingsOK h A := by
  induction A with
  | nil => exact ⟨⟨id, id⟩, empty_ok _⟩
  | cons r B ih =>
    obtain ⟨hd, hB⟩ := List.pairwise_cons.mp wf.disj
    obtain ⟨h, ok⟩ := ih ⟨fun s hs => wf.nodup s (List.mem_cons_of_mem _ hs), hB⟩
      (fun s hs => ne s (List.mem_cons_of_mem _ hs))
    cases r with
    | nil => exact absurd rfl (ne [] (by simp))
    | cons a xs =>
      have hfa : Free B a := fun s hs => hd s hs a (by simp)
      have ok1 : RingsOK (dlistInit h a) ([a] :: B) := ok.initFree hfa
      have nd := wf.nodup (a :: xs) (by simp)
      obtain ⟨h', ok'⟩ := realise_ring_tail xs [] _ ok1 (by simpa using nd)
        (fun x hx s hs => hd s hs x (by simp [hx]))
      exact ⟨h', by simpa using ok'⟩

/-- preservation of well-formedness by the reference semantics, stated on the families alone (no heap in the
statement): a step of `AStep` — any of its rules, every aliasing case — takes a family of pairwise disjoint,
repetition-free, non-empty rings to such a family -/
theorem astep_preserves_wf {A A' : Rings} {op : Op} (wf : RingsWF A) (ne : ∀ r ∈ A, r ≠ []) (st : AStep A op A') :
    RingsWF A' ∧ ∀ r ∈ A', r ≠ [] := by
  obtain ⟨h, ok⟩ := wf_family_is_realised A wf ne
  have ok' := step_refines ok st
  refine ⟨ok'.wf, fun r hr e => ?_⟩
  obtain ⟨a, xs, e', _⟩ := ok'.ring r hr
  rw [e] at e'; cases e'

/-- … and so does every admitted history -/
theorem arun_preserves_wf {A A' : Rings} {ops : List Op} (wf : RingsWF A) (ne : ∀ r ∈ A, r ≠ []) (r : ARun A ops A') :
    RingsWF A' ∧ ∀ r ∈ A', r ≠ [] := by
  induction r with
  | nil => exact ⟨wf, ne⟩
  | cons st _ ih => obtain ⟨w, n⟩ := astep_preserves_wf wf ne st; exact ih w n

example : RingsWF [[3], [0, 4, 1, 2]] :=
  (arun_preserves_wf (A := [[0, 1, 2, 3, 4]]) ⟨by simp, by simp⟩ (by simp)
    (.cons (.xunlink (.refl _)) (.cons (.xspliceIntoEmpty (l := 0) (oth := 3) (y := 4) (ys := [1, 2]) (B := [])
      (.trans (.perm (List.Perm.swap _ _ _)) (.trans (.rot (l1 := [1, 2]) (b := 3) (l2 := [4])) (.perm (List.Perm.swap _ _ _))))) (.nil _)))).1

end Igris.C01
