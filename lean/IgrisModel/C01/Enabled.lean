/-
  C01 — enabledness of the dlist reference semantics: which calls `AStep` admits, as a
  decidable predicate on the family of rings that is written without `AStep`, and the
  proof that the two coincide on well-formed families.
-/
import IgrisModel.C01.Family
namespace Igris.C01

/-- the admitted calls of the C `dlist_*` functions and the C++ `dlist_node` / `dlist_base`
methods, stated on the family alone (independently of `AStep`):
* `dlist_init(a)`: always (a node of a ring ABANDONS that ring: the other members are in no
  ring afterwards); `dlist_node()` at `a`: `a` is in no ring or alone;
* `dlist_add_next/prev(lnk, head)`, `dlist_insert_instead(lnk, head)`,
  `dlist_move_sorted(lnk, head, …)`: `lnk` is in NO ring or ALONE (the Linux contract: the
  entry must not be linked), `head` is in a ring, `lnk ≠ head`; for `move_sorted` the loop
  bound exceeds the length of the ring;
* `dlist_del`, `dlist_del_init`, `unlink`/`~dlist_node`, `pop_front`, `pop_back`: the node is in a ring;
* `dlist_move`, `dlist_move_tail`, `move_next_than`, `move_prev_than`: BOTH nodes are in rings —
  any two, also the same node, neighbours, the same or different rings;
* `unlink_and_move_all_nodes_from_other(l, oth)`: the two heads are in different rings, or `l = oth`;
* `clear` / `~dlist_base`: the head is in a ring of at most 10^6 nodes (bound of the model's loop). -/
def Admitted (A : Rings) : Op → Prop
  | .cinit _ => True
  | .xctor a => Free A a ∨ Lone A a
  | .caddNext lnk head => (Free A lnk ∨ Lone A lnk) ∧ lnk ≠ head ∧ InRing A head
  | .caddPrev lnk head => (Free A lnk ∨ Lone A lnk) ∧ lnk ≠ head ∧ InRing A head
  | .cinsertInstead lnk head => (Free A lnk ∨ Lone A lnk) ∧ lnk ≠ head ∧ InRing A head
  | .cmoveSorted _ fuel lnk head => (Free A lnk ∨ Lone A lnk) ∧ lnk ≠ head ∧ ∃ r ∈ A, head ∈ r ∧ r.length < fuel
  | .cdel a => InRing A a
  | .cdelInit a => InRing A a
  | .xunlink a => InRing A a
  | .xpopFront a => InRing A a
  | .xpopBack a => InRing A a
  | .cmove l head => InRing A l ∧ InRing A head
  | .cmoveTail l head => InRing A l ∧ InRing A head
  | .xmoveNext l head => InRing A l ∧ InRing A head
  | .xmovePrev l head => InRing A l ∧ InRing A head
  | .xsplice l oth => (l = oth ∧ InRing A l) ∨ ∃ r ∈ A, l ∈ r ∧ oth ∉ r ∧ InRing A oth
  | .xclear l => ∃ r ∈ A, l ∈ r ∧ r.length ≤ 1000000

instance (A : Rings) (a : Nat) : Decidable (InRing A a) := by unfold InRing; infer_instance
instance (A : Rings) (a : Nat) : Decidable (Lone A a) := by unfold Lone; infer_instance
instance (A : Rings) (a : Nat) : Decidable (Free A a) := by unfold Free; infer_instance
instance (A : Rings) (op : Op) : Decidable (Admitted A op) := by
  cases op <;> unfold Admitted <;> infer_instance

/-! ### from membership to the shape a rule asks for -/

theorem same_of_mem {A : Rings} {r : List Nat} {a : Nat} (hr : r ∈ A) (ha : a ∈ r) :
    ∃ xs, Same A ((a :: xs) :: A.erase r) ∧ (a :: xs).Perm r := by
  obtain ⟨l1, l2, rfl⟩ := List.append_of_mem ha
  refine ⟨l2 ++ l1, .trans (.perm (List.perm_cons_erase hr)) .rot, ?_⟩
  exact (rot_perm l1 l2 a).symm

theorem same_of_mem2 {A : Rings} {r r' : List Nat} {a b : Nat} (hr : r ∈ A) (hr' : r' ∈ A) (hne : r' ≠ r)
    (ha : a ∈ r) (hb : b ∈ r') :
    ∃ xs ys, Same A ((a :: xs) :: (b :: ys) :: (A.erase r).erase r') ∧ (a :: xs).Perm r ∧ (b :: ys).Perm r' := by
  obtain ⟨l1, l2, rfl⟩ := List.append_of_mem ha
  obtain ⟨m1, m2, rfl⟩ := List.append_of_mem hb
  refine ⟨l2 ++ l1, m2 ++ m1, ?_, ?_, ?_⟩
  · -- bring both to the front, then twice: read the first ring from its member and swap
    exact .trans (.perm (perm_cons_cons_erase_erase hr hr' hne))
      (.trans (.trans .rot (.perm (List.Perm.swap _ _ _))) (.trans .rot (.perm (List.Perm.swap _ _ _))))
  · exact (rot_perm l1 l2 a).symm
  · exact (rot_perm m1 m2 b).symm

theorem add_shape {A : Rings} {lnk head : Nat} {r : List Nat} (hl : Free A lnk ∨ Lone A lnk) (hne : lnk ≠ head)
    (hr : r ∈ A) (hh : head ∈ r) :
    (∃ ys B, Same A ((head :: ys) :: B) ∧ Free ((head :: ys) :: B) lnk ∧ (head :: ys).Perm r) ∨
    (∃ ys B, Same A ([lnk] :: (head :: ys) :: B) ∧ (head :: ys).Perm r) := by
  rcases hl with hf | hlone
  · obtain ⟨ys, s, p⟩ := same_of_mem hr hh
    refine Or.inl ⟨ys, _, s, ?_, p⟩
    intro t ht hm
    rcases List.mem_cons.mp ht with rfl | ht
    · exact hf r hr (p.mem_iff.mp hm)
    · exact hf t (List.mem_of_mem_erase ht) hm
  · have hne2 : r ≠ [lnk] := by
      intro e; subst e; simp at hh; exact hne hh.symm
    obtain ⟨xs, ys, s, p1, p2⟩ := same_of_mem2 (a := lnk) (b := head) hlone hr hne2 (by simp) hh
    have : xs = [] := by
      have := p1.length_eq; simpa using this
    subst this
    exact Or.inr ⟨ys, _, s, p2⟩

theorem one_shape {A : Rings} {a : Nat} (ha : InRing A a) :
    (∃ B, Same A ([a] :: B)) ∨ ∃ x xs B, Same A ((a :: x :: xs) :: B) := by
  obtain ⟨r, hr, hm⟩ := ha
  obtain ⟨xs, s, _⟩ := same_of_mem hr hm
  cases xs with
  | nil => exact Or.inl ⟨_, s⟩
  | cons x xs => exact Or.inr ⟨x, xs, _, s⟩

theorem two_shape {A : Rings} {l head : Nat} (hl : InRing A l) (hh : InRing A head) :
    (l = head ∧ ∃ xs B, Same A ((l :: xs) :: B)) ∨
    (∃ pre post B, Same A ((l :: (pre ++ head :: post)) :: B)) ∨
    (∃ xs ys B, Same A ((l :: xs) :: (head :: ys) :: B)) := by
  obtain ⟨r, hr, hlr⟩ := hl
  by_cases e : l = head
  · obtain ⟨xs, s, _⟩ := same_of_mem hr hlr
    exact Or.inl ⟨e, xs, _, s⟩
  · by_cases hin : head ∈ r
    · obtain ⟨xs, s, p⟩ := same_of_mem hr hlr
      have : head ∈ xs := List.mem_of_ne_of_mem (Ne.symm e) (p.mem_iff.mpr hin)
      obtain ⟨pre, post, rfl⟩ := List.append_of_mem this
      exact Or.inr (Or.inl ⟨pre, post, _, s⟩)
    · obtain ⟨r', hr', hhr⟩ := hh
      have hne : r' ≠ r := fun e' => hin (e' ▸ hhr)
      obtain ⟨xs, ys, s, _, _⟩ := same_of_mem2 hr hr' hne hlr hhr
      exact Or.inr (Or.inr ⟨xs, ys, _, s⟩)

/-! ### every rule's precondition implies `Admitted` -/

theorem adm_add_lone {A : Rings} {lnk head : Nat} {ys : List Nat} {B : Rings} (w : RingsWF A)
    (s : Same A ([lnk] :: (head :: ys) :: B)) :
    (Free A lnk ∨ Lone A lnk) ∧ lnk ≠ head ∧ ∃ r ∈ A, head ∈ r ∧ r.length = ys.length + 1 := by
  have w' := w.same s
  have d := (List.pairwise_cons.mp w'.disj).1 (head :: ys) (by simp) lnk (by simp)
  exact ⟨Or.inr (s.lone (by simp)), fun e => d (by simp [e]), s.ring_of_mem (by simp)⟩

theorem adm_add_free {A : Rings} {lnk head : Nat} {ys : List Nat} {B : Rings}
    (s : Same A ((head :: ys) :: B)) (hf : Free ((head :: ys) :: B) lnk) :
    (Free A lnk ∨ Lone A lnk) ∧ lnk ≠ head ∧ ∃ r ∈ A, head ∈ r ∧ r.length = ys.length + 1 := by
  exact ⟨Or.inl (s.free hf), fun e => hf (head :: ys) (by simp) (by simp [e]), s.ring_of_mem (by simp)⟩

theorem weaken_add {A : Rings} {lnk head : Nat} {n : Nat}
    (h : (Free A lnk ∨ Lone A lnk) ∧ lnk ≠ head ∧ ∃ r ∈ A, head ∈ r ∧ r.length = n) :
    (Free A lnk ∨ Lone A lnk) ∧ lnk ≠ head ∧ InRing A head :=
  ⟨h.1, h.2.1, by obtain ⟨r, hr, hm, _⟩ := h.2.2; exact ⟨r, hr, hm⟩⟩

theorem adm_in1 {A : Rings} {a : Nat} {xs : List Nat} {B : Rings} (s : Same A ((a :: xs) :: B)) : InRing A a :=
  s.inRing ⟨a :: xs, by simp, by simp⟩

theorem adm_in2 {A : Rings} {a b : Nat} {xs ys : List Nat} {B : Rings} (s : Same A ((a :: xs) :: (b :: ys) :: B)) :
    InRing A a ∧ InRing A b :=
  ⟨adm_in1 s, s.inRing ⟨b :: ys, by simp, by simp⟩⟩

theorem adm_in2same {A : Rings} {a b : Nat} {pre post : List Nat} {B : Rings}
    (s : Same A ((a :: (pre ++ b :: post)) :: B)) : InRing A a ∧ InRing A b :=
  ⟨adm_in1 s, s.inRing ⟨a :: (pre ++ b :: post), by simp, by simp⟩⟩

theorem adm_splice {A : Rings} {l oth : Nat} {xs ys : List Nat} {B : Rings} (w : RingsWF A)
    (s : Same A ((l :: xs) :: (oth :: ys) :: B)) : ∃ r ∈ A, l ∈ r ∧ oth ∉ r ∧ InRing A oth := by
  have w' := w.same s
  have d := (List.pairwise_cons.mp w'.disj).1 (oth :: ys) (by simp)
  obtain ⟨r, hr, p⟩ := s.rings.2 (l :: xs) (by simp)
  exact ⟨r, hr, p.mem_iff.mpr (by simp), fun hm => d oth (p.mem_iff.mp hm) (by simp), (adm_in2 s).2⟩

theorem admitted_of_step {A A' : Rings} {op : Op} (w : RingsWF A) (st : AStep A op A') : Admitted A op := by
  induction st with
  | cinitFree _ | cinitRing _ => trivial
  | xctorFree hf => exact Or.inl hf
  | xctorLone s => exact Or.inr (s.lone (by simp))
  | caddNext s | caddPrev s | cinsertInstead s => exact weaken_add (adm_add_lone w s)
  | caddNextFree s hf | caddPrevFree s hf | cinsertInsteadFree s hf => exact weaken_add (adm_add_free s hf)
  | cmoveSorted s hfu =>
    obtain ⟨h1, h2, r, hr, hm, hlen⟩ := adm_add_lone w s
    exact ⟨h1, h2, r, hr, hm, by omega⟩
  | cmoveSortedFree s hf hfu =>
    obtain ⟨h1, h2, r, hr, hm, hlen⟩ := adm_add_free s hf
    exact ⟨h1, h2, r, hr, hm, by omega⟩
  | cdel s | cdelSingle s | cdelInit s | cdelInitSingle s | xunlink s | xunlinkSingle s | xpopFront s
  | xpopFrontEmpty s | xpopBack s | xpopBackEmpty s => exact adm_in1 s
  | cmoveSelf s | cmoveSelfSingle s | cmoveTailSelf s | cmoveTailSelfSingle s => exact ⟨adm_in1 s, adm_in1 s⟩
  | cmoveSame s | cmoveTailSame s => exact adm_in2same s
  | cmoveOther s | cmoveOtherSingle s | cmoveTailOther s | cmoveTailOtherSingle s => exact adm_in2 s
  | xmoveNext _ ih | xmovePrev _ ih => exact ih
  | xsplice s | xspliceIntoEmpty s | xspliceFromEmpty s | xspliceBothEmpty s => exact Or.inr (adm_splice w s)
  | xspliceSelf s | xspliceSelfEmpty s => exact Or.inl ⟨rfl, adm_in1 s⟩
  | @xclear l xs B s hlen =>
    obtain ⟨r, hr, hm, hl⟩ := s.ring_of_mem (a := l) (xs := xs) (by simp)
    exact ⟨r, hr, hm, by omega⟩

/-! ### `Admitted` implies that some rule applies -/

theorem cmove_step {A : Rings} {l head : Nat} (hl : InRing A l) (hh : InRing A head) :
    ∃ A', AStep A (.cmove l head) A' := by
  rcases two_shape hl hh with ⟨rfl, xs, B, s⟩ | ⟨pre, post, B, s⟩ | ⟨xs, ys, B, s⟩
  · cases xs with
    | nil => exact ⟨_, .cmoveSelfSingle s⟩
    | cons x xs => exact ⟨_, .cmoveSelf s⟩
  · exact ⟨_, .cmoveSame s⟩
  · cases xs with
    | nil => exact ⟨_, .cmoveOtherSingle s⟩
    | cons x xs => exact ⟨_, .cmoveOther s⟩

theorem cmoveTail_step {A : Rings} {l head : Nat} (hl : InRing A l) (hh : InRing A head) :
    ∃ A', AStep A (.cmoveTail l head) A' := by
  rcases two_shape hl hh with ⟨rfl, xs, B, s⟩ | ⟨pre, post, B, s⟩ | ⟨xs, ys, B, s⟩
  · cases xs with
    | nil => exact ⟨_, .cmoveTailSelfSingle s⟩
    | cons x xs => exact ⟨_, .cmoveTailSelf s⟩
  · exact ⟨_, .cmoveTailSame s⟩
  · cases xs with
    | nil => exact ⟨_, .cmoveTailOtherSingle s⟩
    | cons x xs => exact ⟨_, .cmoveTailOther s⟩

theorem step_of_admitted {A : Rings} {op : Op} (ad : Admitted A op) : ∃ A', AStep A op A' := by
  cases op with
  | cinit a =>
    by_cases h : InRing A a
    · obtain ⟨r, hr, hm⟩ := h
      obtain ⟨xs, s, _⟩ := same_of_mem hr hm
      exact ⟨_, .cinitRing s⟩
    · exact ⟨_, .cinitFree ((free_iff_not_inRing A a).mpr h)⟩
  | xctor a =>
    rcases ad with hf | hl
    · exact ⟨_, .xctorFree hf⟩
    · exact ⟨_, .xctorLone (.perm (List.perm_cons_erase hl))⟩
  | caddNext lnk head =>
    obtain ⟨hl, hne, r, hr, hh⟩ := ad
    rcases add_shape hl hne hr hh with ⟨ys, B, s, hf, _⟩ | ⟨ys, B, s, _⟩
    · exact ⟨_, .caddNextFree s hf⟩
    · exact ⟨_, .caddNext s⟩
  | caddPrev lnk head =>
    obtain ⟨hl, hne, r, hr, hh⟩ := ad
    rcases add_shape hl hne hr hh with ⟨ys, B, s, hf, _⟩ | ⟨ys, B, s, _⟩
    · exact ⟨_, .caddPrevFree s hf⟩
    · exact ⟨_, .caddPrev s⟩
  | cinsertInstead lnk head =>
    obtain ⟨hl, hne, r, hr, hh⟩ := ad
    rcases add_shape hl hne hr hh with ⟨ys, B, s, hf, _⟩ | ⟨ys, B, s, _⟩
    · exact ⟨_, .cinsertInsteadFree s hf⟩
    · exact ⟨_, .cinsertInstead s⟩
  | cmoveSorted cmp fuel lnk head =>
    obtain ⟨hl, hne, r, hr, hh, hlen⟩ := ad
    rcases add_shape hl hne hr hh with ⟨ys, B, s, hf, p⟩ | ⟨ys, B, s, p⟩
    · exact ⟨_, .cmoveSortedFree s hf (by have := p.length_eq; simp at this; omega)⟩
    · exact ⟨_, .cmoveSorted s (by have := p.length_eq; simp at this; omega)⟩
  | cdel a =>
    rcases one_shape ad with ⟨B, s⟩ | ⟨x, xs, B, s⟩
    · exact ⟨_, .cdelSingle s⟩
    · exact ⟨_, .cdel s⟩
  | cdelInit a =>
    rcases one_shape ad with ⟨B, s⟩ | ⟨x, xs, B, s⟩
    · exact ⟨_, .cdelInitSingle s⟩
    · exact ⟨_, .cdelInit s⟩
  | xunlink a =>
    rcases one_shape ad with ⟨B, s⟩ | ⟨x, xs, B, s⟩
    · exact ⟨_, .xunlinkSingle s⟩
    · exact ⟨_, .xunlink s⟩
  | xpopFront a =>
    rcases one_shape ad with ⟨B, s⟩ | ⟨x, xs, B, s⟩
    · exact ⟨_, .xpopFrontEmpty s⟩
    · exact ⟨_, .xpopFront s⟩
  | xpopBack a =>
    obtain ⟨r, hr, hm⟩ := ad
    obtain ⟨xs, s, _⟩ := same_of_mem hr hm
    rcases List.eq_nil_or_concat xs with rfl | ⟨ini, z, rfl⟩
    · exact ⟨_, .xpopBackEmpty s⟩
    · rw [List.concat_eq_append] at s; exact ⟨_, .xpopBack s⟩
  | cmove l head => exact cmove_step ad.1 ad.2
  | cmoveTail l head => exact cmoveTail_step ad.1 ad.2
  | xmoveNext l head => obtain ⟨A', st⟩ := cmove_step ad.1 ad.2; exact ⟨A', .xmoveNext st⟩
  | xmovePrev l head => obtain ⟨A', st⟩ := cmoveTail_step ad.1 ad.2; exact ⟨A', .xmovePrev st⟩
  | xsplice l oth =>
    rcases ad with ⟨rfl, hl⟩ | ad
    · rcases one_shape hl with ⟨B, s⟩ | ⟨x, xs, B, s⟩
      · exact ⟨_, .xspliceSelfEmpty s⟩
      · exact ⟨_, .xspliceSelf s⟩
    obtain ⟨r, hr, hl, hno, r', hr', ho⟩ := ad
    have hne : r' ≠ r := fun e => hno (e ▸ ho)
    obtain ⟨xs, ys, s, _, _⟩ := same_of_mem2 hr hr' hne hl ho
    cases xs with
    | nil =>
      cases ys with
      | nil => exact ⟨_, .xspliceBothEmpty s⟩
      | cons y ys => exact ⟨_, .xspliceIntoEmpty s⟩
    | cons x xs =>
      cases ys with
      | nil => exact ⟨_, .xspliceFromEmpty s⟩
      | cons y ys => exact ⟨_, .xsplice s⟩
  | xclear l =>
    obtain ⟨r, hr, hm, hlen⟩ := ad
    obtain ⟨xs, s, p⟩ := same_of_mem hr hm
    exact ⟨_, .xclear s (by have := p.length_eq; simp at this; omega)⟩

end Igris.C01
