/-
  C01 — rings of the doubly linked heap (`IsRing`, over the paths of Seg.lean), the three
  pointer primitives `dlist_del_init`, `dlist_add_next`, `dlist_add_prev` on a ring, and families of
  pairwise disjoint rings (`RingsOK`).  Everything about `prev` is obtained from the statement about
  `next` on the flipped heap.
-/
import IgrisModel.C01.Model
import IgrisModel.C01.Seg
namespace Igris.C01

/-! the field assignments of the heap are point updates; assignments to different fields commute
definitionally, so a C function is a pair of `upd` chains -/

@[simp] theorem Heap.setNext_next (h : Heap) (a v : Nat) : (h.setNext a v).next = upd h.next a v := rfl
@[simp] theorem Heap.setNext_prev (h : Heap) (a v : Nat) : (h.setNext a v).prev = h.prev := rfl
@[simp] theorem Heap.setPrev_next (h : Heap) (a v : Nat) : (h.setPrev a v).next = h.next := rfl
@[simp] theorem Heap.setPrev_prev (h : Heap) (a v : Nat) : (h.setPrev a v).prev = upd h.prev a v := rfl

theorem Heap.ext {h h' : Heap} (e1 : h.next = h'.next) (e2 : h.prev = h'.prev) : h = h' := by
  cases h; cases h'; simp at e1 e2; rw [e1, e2]

/-- The cyclic sequence `a :: xs` is a ring of the heap: forward links follow the
sequence and close it, every member's successor points back at it. -/
structure IsRing (h : Heap) (a : Nat) (xs : List Nat) : Prop where
  nodup : (a :: xs).Nodup
  fwd : Seg h.next a xs a
  back : ∀ y ∈ a :: xs, h.prev (h.next y) = y

theorem IsRing.head_not_mem {h : Heap} {a : Nat} {xs : List Nat} (r : IsRing h a xs) : a ∉ xs :=
  (List.nodup_cons.mp r.nodup).1

theorem IsRing.next_mem {h : Heap} {a : Nat} {xs : List Nat} (r : IsRing h a xs) :
    ∀ y ∈ a :: xs, h.next y ∈ a :: xs := by
  intro y hy
  have := Seg_mem_next _ _ _ _ r.fwd y hy
  simp at this ⊢
  exact this.symm

theorem IsRing.single (h : Heap) (a : Nat) (hn : h.next a = a) (hp : h.prev a = a) : IsRing h a [] :=
  ⟨by simp, hn, by intro y hy; simp at hy; subst hy; rw [hn, hp]⟩

theorem IsRing.next_self {h : Heap} {a : Nat} (r : IsRing h a []) : h.next a = a := r.fwd

theorem IsRing.prev_self {h : Heap} {a : Nat} (r : IsRing h a []) : h.prev a = a := by
  have := r.back a (by simp); rwa [r.next_self] at this

theorem IsRing.next_head {h : Heap} {a x : Nat} {xs : List Nat} (r : IsRing h a (x :: xs)) : h.next a = x :=
  r.fwd.1

theorem IsRing.head_ne {h : Heap} {a x : Nat} {xs : List Nat} (r : IsRing h a (x :: xs)) : x ≠ a :=
  fun e => r.head_not_mem (by simp [e])

theorem IsRing.rot {h : Heap} {a b : Nat} {l1 l2 : List Nat} (r : IsRing h a (l1 ++ b :: l2)) :
    IsRing h b (l2 ++ a :: l1) :=
  ⟨(rot_perm (a :: l1) l2 b).nodup_iff.mp r.nodup, Seg_rot r.fwd,
   fun y hy => r.back y ((rot_perm (a :: l1) l2 b).mem_iff.mpr hy)⟩

theorem IsRing.rotN {h : Heap} : ∀ (l1 : List Nat) {a : Nat} {xs : List Nat} {b : Nat} {l2 : List Nat},
    IsRing h a xs → a :: xs = l1 ++ b :: l2 → IsRing h b (l2 ++ l1)
  | [], _, _, _, _, r, e => by cases e; simpa using r
  | _ :: _, _, _, _, _, r, e => by cases e; exact r.rot

theorem IsRing.prev_next {h : Heap} {a : Nat} {xs : List Nat} (r : IsRing h a xs) :
    ∀ y ∈ a :: xs, h.next (h.prev y) = y ∧ h.prev y ∈ a :: xs := by
  intro y hy
  obtain ⟨z, hz, e⟩ := Seg_surj _ _ _ _ r.fwd y (by simp at hy ⊢; exact hy.symm)
  have := r.back z hz
  rw [e] at this
  rw [this]; exact ⟨e, hz⟩

def Heap.flip (h : Heap) : Heap := ⟨h.prev, h.next⟩

theorem IsRing.flip {h : Heap} {a : Nat} {xs : List Nat} (r : IsRing h a xs) :
    IsRing h.flip a xs.reverse :=
  ⟨((List.reverse_perm xs).cons a).nodup_iff.mpr r.nodup,
   Seg_reverse h.next h.prev a xs a r.fwd r.back,
   fun y hy => (r.prev_next y (by simpa using hy)).1⟩

/-- `h.flip.flip` is `h` by structure eta -/
theorem IsRing.unflip {h : Heap} {a : Nat} {xs : List Nat} (r : IsRing h.flip a xs) :
    IsRing h a xs.reverse := r.flip

theorem IsRing.congr {h h' : Heap} {a : Nat} {xs : List Nat} (r : IsRing h a xs)
    (e : ∀ y ∈ a :: xs, h'.next y = h.next y ∧ h'.prev y = h.prev y) : IsRing h' a xs := by
  refine ⟨r.nodup, (Seg_congr _ _ _ _ _ fun y hy => (e y hy).1).mpr r.fwd, ?_⟩
  intro y hy
  rw [(e y hy).1, (e _ (r.next_mem y hy)).2]
  exact r.back y hy

theorem walkNext_seg (h : Heap) (head : Nat) : ∀ (l : List Nat) (a fuel : Nat), Seg h.next a l head → head ∉ l →
    l.length < fuel → walkNext h head fuel (h.next a) = l :=
  Seg.walk (C := fun fuel a l => walkNext h head fuel (h.next a) = l)
    (fun f a e => by simp [walkNext, e]) (fun f a x xs e hx ih => by simp [walkNext, e, hx, ih])

theorem dlistToList_ring (h : Heap) (hd : Nat) (xs : List Nat) (r : IsRing h hd xs) (fuel : Nat)
    (hf : xs.length + 1 < fuel) : dlistToList h fuel hd = xs :=
  walkNext_seg h hd xs hd fuel r.fwd r.head_not_mem (by omega)

theorem walkPrev_eq_flip (h : Heap) (head fuel p : Nat) :
    walkPrev h head fuel p = walkNext h.flip head fuel p := by
  induction fuel generalizing p with
  | zero => rfl
  | succ f ih => simp only [walkPrev, walkNext, ih]; rfl

theorem dlistToListRev_ring (h : Heap) (hd : Nat) (xs : List Nat) (r : IsRing h hd xs) (fuel : Nat)
    (hf : xs.length + 1 < fuel) : dlistToListRev h fuel hd = xs.reverse := by
  have := dlistToList_ring h.flip hd xs.reverse r.flip fuel (by simpa using hf)
  unfold dlistToListRev
  unfold dlistToList at this
  rw [walkPrev_eq_flip]; exact this

theorem swalk_eq_walk (h : SHeap) (head fuel p : Nat) :
    swalk h head fuel p = walkNext ⟨h.next, h.next⟩ head fuel p := by
  induction fuel generalizing p with
  | zero => rfl
  | succ f ih => simp only [swalk, walkNext, ih]

theorem dlistDelInit_next (h : Heap) (a y : Nat) :
    (dlistDelInit h a).next y = if y = a then a else if y = h.prev a then h.next a else h.next y := rfl

theorem dlistDelInit_prev (h : Heap) (a y : Nat) :
    (dlistDelInit h a).prev y = if y = a then a else if y = h.next a then h.prev a else h.prev y := rfl

/-- Removing `a` from the ring `a :: x :: xs` leaves the ring `x :: xs`
(same cyclic order) and `a` alone in its own ring; nothing outside the ring is
written. -/
theorem dlistDelInit_ring (h : Heap) (a x : Nat) (xs : List Nat) (r : IsRing h a (x :: xs)) :
    IsRing (dlistDelInit h a) x xs ∧ IsRing (dlistDelInit h a) a [] ∧
    (∀ y, y ∉ a :: x :: xs → (dlistDelInit h a).next y = h.next y ∧ (dlistDelInit h a).prev y = h.prev y) := by
  have hna := r.next_head
  have hseg : Seg h.next x xs a := r.fwd.2
  have hax : a ∉ x :: xs := r.head_not_mem
  have hnd' : (x :: xs).Nodup := (List.nodup_cons.mp r.nodup).2
  -- z = last node, predecessor of a
  have hzmem : (x :: xs).getLast (by simp) ∈ x :: xs := List.getLast_mem _
  have hzn : h.next ((x :: xs).getLast (by simp)) = a := Seg_last _ _ _ _ hseg
  have hpa : h.prev a = (x :: xs).getLast (by simp) := by
    have := r.back _ (List.mem_cons_of_mem a hzmem)
    rw [hzn] at this; exact this
  have hpx : h.prev x = a := by have := r.back a (by simp); rw [hna] at this; exact this
  refine ⟨⟨hnd', ?_, ?_⟩, ?_, ?_⟩
  · -- forward links of the remaining ring
    have h1 := Seg_set_last h.next x xs a x hseg hnd'
    refine (Seg_congr _ _ x xs x ?_).mpr h1
    intro y hy
    have hya : y ≠ a := fun e => hax (e ▸ hy)
    simp only [dlistDelInit_next, hya, if_false, hpa, hna, upd]
  · -- every successor points back
    intro y hy
    have hya : y ≠ a := fun e => hax (e ▸ hy)
    have hyr : y ∈ a :: x :: xs := List.mem_cons_of_mem a hy
    rw [dlistDelInit_next, if_neg hya, hpa, hna]
    by_cases hyz : y = (x :: xs).getLast (by simp)
    · rw [if_pos hyz, dlistDelInit_prev, hna, hpa]
      simp [r.head_ne, hyz]
    · rw [if_neg hyz, dlistDelInit_prev, hna, hpa]
      have hb := r.back y hyr
      -- next y is neither a (then y would be z) nor x (then y would be a)
      have h1 : h.next y ≠ a := by
        intro e; rw [e, hpa] at hb; exact hyz hb.symm
      have h2 : h.next y ≠ x := by
        intro e; rw [e, hpx] at hb; exact hya hb.symm
      simp [h1, h2, hb]
  · apply IsRing.single <;> simp [dlistDelInit_next, dlistDelInit_prev]
  · intro y hy
    have hya : y ≠ a := fun e => hy (by simp [e])
    have hyz : y ≠ h.prev a := by rw [hpa]; intro e; exact hy (e ▸ List.mem_cons_of_mem a hzmem)
    have hyx : y ≠ h.next a := by rw [hna]; intro e; exact hy (by simp [e])
    simp [dlistDelInit_next, dlistDelInit_prev, hya, hyz, hyx]

theorem dlistDelInit_self {h : Heap} {a : Nat} (hn : h.next a = a) (hp : h.prev a = a) : dlistDelInit h a = h := by
  apply Heap.ext <;>
    simp only [dlistDelInit, dlistInit, dlistDelRaw, Heap.setNext_next, Heap.setNext_prev, Heap.setPrev_next,
      Heap.setPrev_prev, hn, hp, upd_upd]
  · exact upd_eq_self hn
  · exact upd_eq_self hp

theorem dlistDelInit_single (h : Heap) (a : Nat) (r : IsRing h a []) : dlistDelInit h a = h :=
  dlistDelInit_self r.next_self r.prev_self

theorem dlistAddNext_next (h : Heap) (lnk head y : Nat) :
    (dlistAddNext h lnk head).next y =
      if y = head then lnk else if y = lnk then h.next head else h.next y := rfl

theorem dlistAddNext_prev (h : Heap) (lnk head y : Nat) :
    (dlistAddNext h lnk head).prev y =
      if y = h.next head then lnk else if y = lnk then head else h.prev y := rfl

/-- Adding a node that is in no ring right after `head` turns the
ring `head :: ys` into `head :: lnk :: ys`; only `lnk` and ring members are written. -/
theorem dlistAddNext_ring (h : Heap) (lnk head : Nat) (ys : List Nat) (r : IsRing h head ys)
    (hl : lnk ∉ head :: ys) :
    IsRing (dlistAddNext h lnk head) head (lnk :: ys) ∧
    (∀ y, y ∉ lnk :: head :: ys → (dlistAddNext h lnk head).next y = h.next y ∧
        (dlistAddNext h lnk head).prev y = h.prev y) := by
  have hnd := r.nodup
  have hlh : lnk ≠ head := fun e => hl (by simp [e])
  have hnm : h.next head ∈ head :: ys := r.next_mem head (by simp)
  have hnl : h.next head ≠ lnk := fun e => hl (e ▸ hnm)
  refine ⟨⟨?_, ?_, ?_⟩, ?_⟩
  · exact (List.Perm.swap _ _ _).nodup_iff.mp (List.nodup_cons.mpr ⟨hl, hnd⟩)
  · exact Seg_insert_after r.fwd r.head_not_mem hl
  · intro y hy
    simp only [List.mem_cons] at hy
    rcases hy with rfl | rfl | hy
    · simp [dlistAddNext_next, dlistAddNext_prev, hnl.symm]
    · simp [dlistAddNext_next, dlistAddNext_prev, hlh]
    · have h1 : y ≠ head := fun e => r.head_not_mem (e ▸ hy)
      have h2 : y ≠ lnk := fun e => hl (by simp [← e, hy])
      have hyr : y ∈ head :: ys := List.mem_cons_of_mem _ hy
      have hb := r.back y hyr
      have h3 : h.next y ≠ h.next head := by
        intro e
        have := r.back head (by simp)
        rw [← e, hb] at this; exact h1 this
      have h4 : h.next y ≠ lnk := fun e => hl (e ▸ r.next_mem y hyr)
      simp [dlistAddNext_next, dlistAddNext_prev, h1, h2, h3, h4, hb]
  · intro y hy
    simp only [List.mem_cons, not_or] at hy
    have h5 : y ≠ h.next head := by
      intro e; rw [e] at hy
      simp only [List.mem_cons] at hnm
      rcases hnm with e' | e'
      · exact hy.2.1 e'
      · exact hy.2.2 e'
    simp [dlistAddNext_next, dlistAddNext_prev, hy.1, hy.2.1, h5]

/-- `dlist_add_prev` is `dlist_add_next` with the two link fields exchanged: the same four assignments -/
theorem dlistAddPrev_flip (h : Heap) (lnk head : Nat) :
    (dlistAddPrev h lnk head).flip = dlistAddNext h.flip lnk head := rfl

/-- `dlist_add_prev(lnk, head)` turns the ring `head :: ys` into
`head :: ys ++ [lnk]`. -/
theorem dlistAddPrev_ring (h : Heap) (lnk head : Nat) (ys : List Nat) (r : IsRing h head ys)
    (hl : lnk ∉ head :: ys) :
    IsRing (dlistAddPrev h lnk head) head (ys ++ [lnk]) ∧
    (∀ y, y ∉ lnk :: head :: ys → (dlistAddPrev h lnk head).next y = h.next y ∧
        (dlistAddPrev h lnk head).prev y = h.prev y) := by
  obtain ⟨r1, f1⟩ := dlistAddNext_ring h.flip lnk head ys.reverse r.flip (by simpa using hl)
  rw [← dlistAddPrev_flip] at r1 f1
  exact ⟨by simpa using r1.unflip, fun y hy => (f1 y (by simpa using hy)).symm⟩

/-! ## families of disjoint rings (the abstract state) -/

abbrev Rings := List (List Nat)

def Disj (r s : List Nat) : Prop := ∀ y ∈ r, y ∉ s

theorem Disj.symm {r s : List Nat} (h : Disj r s) : Disj s r := fun y hy hr => h y hr hy

theorem Disj.cons {a : Nat} {r s : List Nat} (h : Disj r s) (ha : a ∉ s) : Disj (a :: r) s :=
  List.forall_mem_cons.mpr ⟨ha, h⟩

theorem Disj.singleton {a : Nat} {s : List Nat} (ha : a ∉ s) : Disj [a] s := fun _ hy =>
  List.mem_singleton.mp hy ▸ ha

structure RingsOK (h : Heap) (A : Rings) : Prop where
  ring : ∀ r ∈ A, ∃ a xs, r = a :: xs ∧ IsRing h a xs
  disj : A.Pairwise Disj

def Free (A : Rings) (a : Nat) : Prop := ∀ s ∈ A, a ∉ s

theorem RingsOK.ring_of_mem {h : Heap} {A : Rings} {a : Nat} {xs : List Nat} (ok : RingsOK h A)
    (hm : (a :: xs) ∈ A) : IsRing h a xs := by
  obtain ⟨_, _, e, r⟩ := ok.ring _ hm
  cases e; exact r

theorem RingsOK.perm {h : Heap} {A A' : Rings} (ok : RingsOK h A) (p : A.Perm A') : RingsOK h A' :=
  ⟨fun r hr => ok.ring r (p.mem_iff.mpr hr),
   (p.pairwise_iff (fun hrs => Disj.symm hrs)).mp ok.disj⟩

theorem RingsOK.swap {h : Heap} {r s : List Nat} {B : Rings} (ok : RingsOK h (r :: s :: B)) :
    RingsOK h (s :: r :: B) := ok.perm (List.Perm.swap s r B)

theorem RingsOK.head_ring {h : Heap} {a : Nat} {xs : List Nat} {B : Rings} (ok : RingsOK h ((a :: xs) :: B)) :
    IsRing h a xs := ok.ring_of_mem List.mem_cons_self

theorem RingsOK.head {h : Heap} {r : List Nat} {B : Rings} (ok : RingsOK h (r :: B)) :
    (∃ a xs, r = a :: xs ∧ IsRing h a xs) ∧ (∀ s ∈ B, Disj r s) ∧ RingsOK h B :=
  ⟨ok.ring r (by simp), (List.pairwise_cons.mp ok.disj).1,
   ⟨fun s hs => ok.ring s (by simp [hs]), (List.pairwise_cons.mp ok.disj).2⟩⟩

theorem RingsOK.cons {h : Heap} {a : Nat} {xs : List Nat} {B : Rings} (r : IsRing h a xs)
    (d : ∀ s ∈ B, Disj (a :: xs) s) (ok : RingsOK h B) : RingsOK h ((a :: xs) :: B) :=
  ⟨List.forall_mem_cons.mpr ⟨⟨a, xs, rfl, r⟩, ok.ring⟩, List.pairwise_cons.mpr ⟨d, ok.disj⟩⟩

theorem RingsOK.dropLone {h : Heap} {a : Nat} {B : Rings} (ok : RingsOK h ([a] :: B)) :
    RingsOK h B ∧ Free B a :=
  ⟨ok.head.2.2, fun s hs hm => ok.head.2.1 s hs a (by simp) hm⟩

theorem RingsOK.frame {h h' : Heap} {B : Rings} (ok : RingsOK h B) (W : List Nat)
    (hd : ∀ s ∈ B, Disj W s)
    (hf : ∀ y, y ∉ W → h'.next y = h.next y ∧ h'.prev y = h.prev y) : RingsOK h' B := by
  refine ⟨?_, ok.disj⟩
  intro s hs
  obtain ⟨a, xs, e, r⟩ := ok.ring s hs
  exact ⟨a, xs, e, r.congr fun y hy => hf y fun hw => hd s hs y hw (e ▸ hy)⟩

theorem RingsOK.rotN {h : Heap} {l1 l2 : List Nat} {b : Nat} {B : Rings}
    (ok : RingsOK h ((l1 ++ b :: l2) :: B)) : RingsOK h ((b :: (l2 ++ l1)) :: B) := by
  obtain ⟨⟨a, xs, e, r⟩, d, okB⟩ := ok.head
  exact RingsOK.cons (IsRing.rotN l1 r e.symm) (fun s hs y hy => d s hs y ((rot_perm l1 l2 b).mem_iff.mpr hy)) okB

theorem RingsOK.rot {h : Heap} {a x : Nat} {xs : List Nat} {B : Rings}
    (ok : RingsOK h ((a :: x :: xs) :: B)) : RingsOK h ((x :: (xs ++ [a])) :: B) :=
  RingsOK.rotN (l1 := [a]) ok

theorem RingsOK.rotLast {h : Heap} {l1 : List Nat} {b : Nat} {B : Rings}
    (ok : RingsOK h ((l1 ++ [b]) :: B)) : RingsOK h ((b :: l1) :: B) := by
  simpa using RingsOK.rotN (l2 := []) ok

theorem RingsOK.delInit {h : Heap} {a x : Nat} {xs : List Nat} {B : Rings}
    (ok : RingsOK h ((a :: x :: xs) :: B)) :
    RingsOK (dlistDelInit h a) ([a] :: (x :: xs) :: B) := by
  obtain ⟨_, d, okB⟩ := ok.head
  have r := ok.head_ring
  obtain ⟨r1, r2, f⟩ := dlistDelInit_ring h a x xs r
  refine RingsOK.cons r2 (List.forall_mem_cons.mpr ⟨.singleton r.head_not_mem, fun s hs => .singleton ?_⟩)
    (RingsOK.cons r1 ?_ (okB.frame (a :: x :: xs) d f))
  · exact d s hs a List.mem_cons_self
  · intro s hs y hy
    exact d s hs y (List.mem_cons_of_mem a hy)

theorem RingsOK.delInit_single {h : Heap} {a : Nat} {B : Rings} (ok : RingsOK h ([a] :: B)) :
    RingsOK (dlistDelInit h a) ([a] :: B) := by
  rw [dlistDelInit_single h a ok.head_ring]; exact ok

theorem RingsOK.delInit_ne {h : Heap} {a : Nat} {l : List Nat} {B : Rings} (ok : RingsOK h ((a :: l) :: B))
    (hl : l ≠ []) : RingsOK (dlistDelInit h a) ([a] :: l :: B) := by
  cases l with
  | nil => exact absurd rfl hl
  | cons x xs => exact ok.delInit

theorem RingsOK.links {h : Heap} {A : Rings} {y : Nat} (ok : RingsOK h A) (hy : ∃ r ∈ A, y ∈ r) :
    h.prev (h.next y) = y ∧ h.next (h.prev y) = y := by
  obtain ⟨r, hr, hm⟩ := hy
  obtain ⟨a, xs, rfl, ring⟩ := ok.ring r hr
  exact ⟨ring.back y hm, (ring.prev_next y hm).1⟩

/-- `h'` is the heap after an operation that writes only `lnk` and members of the first ring -/
theorem RingsOK.insert {h h' : Heap} {lnk head : Nat} {ys ys' : List Nat} {B : Rings}
    (ok : RingsOK h ((head :: ys) :: B)) (hf : Free ((head :: ys) :: B) lnk) (r' : IsRing h' head ys')
    (hm : (head :: ys').Perm (lnk :: head :: ys))
    (f : ∀ y, y ∉ lnk :: head :: ys → h'.next y = h.next y ∧ h'.prev y = h.prev y) :
    RingsOK h' ((head :: ys') :: B) := by
  obtain ⟨_, d, okB⟩ := ok.head
  have dW : ∀ s ∈ B, Disj (lnk :: head :: ys) s := fun s hs => (d s hs).cons (hf s (List.mem_cons_of_mem _ hs))
  exact RingsOK.cons r' (fun s hs y hy => dW s hs y (hm.subset hy)) (okB.frame _ dW f)

theorem RingsOK.addNextFree {h : Heap} {lnk head : Nat} {ys : List Nat} {B : Rings}
    (ok : RingsOK h ((head :: ys) :: B)) (hf : Free ((head :: ys) :: B) lnk) :
    RingsOK (dlistAddNext h lnk head) ((head :: lnk :: ys) :: B) := by
  obtain ⟨r1, f⟩ := dlistAddNext_ring h lnk head ys ok.head_ring (hf _ List.mem_cons_self)
  exact ok.insert hf r1 (List.Perm.swap _ _ _) f

theorem RingsOK.addPrevFree {h : Heap} {lnk head : Nat} {ys : List Nat} {B : Rings}
    (ok : RingsOK h ((head :: ys) :: B)) (hf : Free ((head :: ys) :: B) lnk) :
    RingsOK (dlistAddPrev h lnk head) ((head :: (ys ++ [lnk])) :: B) := by
  obtain ⟨r1, f⟩ := dlistAddPrev_ring h lnk head ys ok.head_ring (hf _ List.mem_cons_self)
  exact ok.insert hf r1 (List.perm_append_singleton lnk (head :: ys)) f

theorem RingsOK.addNext {h : Heap} {lnk head : Nat} {ys : List Nat} {B : Rings}
    (ok : RingsOK h ([lnk] :: (head :: ys) :: B)) :
    RingsOK (dlistAddNext h lnk head) ((head :: lnk :: ys) :: B) :=
  ok.dropLone.1.addNextFree ok.dropLone.2

theorem RingsOK.addPrev {h : Heap} {lnk head : Nat} {ys : List Nat} {B : Rings}
    (ok : RingsOK h ([lnk] :: (head :: ys) :: B)) :
    RingsOK (dlistAddPrev h lnk head) ((head :: (ys ++ [lnk])) :: B) :=
  ok.dropLone.1.addPrevFree ok.dropLone.2

theorem RingsOK.initFree {h : Heap} {a : Nat} {A : Rings} (ok : RingsOK h A) (hf : Free A a) :
    RingsOK (dlistInit h a) ([a] :: A) := by
  have d : ∀ s ∈ A, Disj [a] s := fun s hs => .singleton (hf s hs)
  refine RingsOK.cons (IsRing.single _ a (upd_same _ _ _) (upd_same _ _ _)) d (ok.frame [a] d ?_)
  intro y hy
  have : y ≠ a := by simpa using hy
  exact ⟨upd_of_ne _ this, upd_of_ne _ this⟩

/-- the constructor stores the two fields in the other order -/
theorem nodeCtor_eq_init (h : Heap) (a : Nat) : nodeCtor h a = dlistInit h a := rfl

/-- `dlist_del` (poisoning) differs from `dlist_del_init` only in what it stores in the entry itself: where the
latter leaves the entry alone, the former leaves it in no ring -/
theorem RingsOK.poison {h : Heap} {a : Nat} {B : Rings} (ok : RingsOK (dlistDelInit h a) ([a] :: B)) :
    RingsOK (dlistDel h a) B ∧ Free B a := by
  obtain ⟨ok1, hfree⟩ := ok.dropLone
  refine ⟨ok1.frame [a] (fun s hs => .singleton (hfree s hs)) ?_, hfree⟩
  intro y hy
  have : y ≠ a := by simpa using hy
  exact ⟨(upd_of_ne _ this).trans (upd_of_ne _ this).symm, (upd_of_ne _ this).trans (upd_of_ne _ this).symm⟩

theorem RingsOK.del {h : Heap} {a x : Nat} {xs : List Nat} {B : Rings}
    (ok : RingsOK h ((a :: x :: xs) :: B)) :
    RingsOK (dlistDel h a) ((x :: xs) :: B) ∧ Free ((x :: xs) :: B) a :=
  ok.delInit.poison

theorem RingsOK.del_single {h : Heap} {a : Nat} {B : Rings} (ok : RingsOK h ([a] :: B)) :
    RingsOK (dlistDel h a) B ∧ Free B a :=
  ok.delInit_single.poison

theorem realise_ring_tail {a : Nat} {B : Rings} : ∀ (xs ys : List Nat) (h : Heap),
    RingsOK h ((a :: ys) :: B) → (a :: (ys ++ xs)).Nodup → (∀ x ∈ xs, ∀ s ∈ B, x ∉ s) →
    ∃ h', RingsOK h' ((a :: (ys ++ xs)) :: B) := by
  intro xs
  induction xs with
  | nil => intro ys h ok _ _; exact ⟨h, by simpa using ok⟩
  | cons x xs ih =>
    intro ys h ok nd hB
    have nd' : ((a :: ys) ++ x :: xs).Nodup := nd
    have hf : Free ((a :: ys) :: B) x := by
      intro s hs
      simp only [List.mem_cons] at hs
      rcases hs with rfl | hs
      · intro hx
        exact (List.nodup_append.mp nd').2.2 x hx x (by simp) rfl
      · exact hB x (by simp) s hs
    obtain ⟨h', ok''⟩ := ih (ys ++ [x]) _ (ok.addPrevFree hf) (by simpa [List.append_assoc] using nd)
      (fun x' hx' => hB x' (by simp [hx']))
    exact ⟨h', by simpa [List.append_assoc] using ok''⟩

end Igris.C01
