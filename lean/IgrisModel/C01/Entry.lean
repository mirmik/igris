/-
  C01 — container_of arithmetic on 64-bit addresses and the entry-level traversals
  (`dlist_for_each_entry`, `_reverse`, `hlist_for_each_entry`): they visit the objects of the nodes the
  node-level traversal visits.
-/
import IgrisModel.C01.Lemmas
import IgrisModel.C01.Hlist
namespace Igris.C01

theorem mcastOut_mcastIn (e off : Addr) : mcastOut (mcastIn e off) off = e := by
  unfold mcastOut mcastIn; exact BitVec.add_sub_cancel e off

theorem mcastIn_mcastOut (p off : Addr) : mcastIn (mcastOut p off) off = p := by
  unfold mcastOut mcastIn; exact BitVec.sub_add_cancel p off

theorem mcastIn_inj_off (e o1 o2 : Addr) (hne : o1 ≠ o2) : mcastIn e o1 ≠ mcastIn e o2 := by
  unfold mcastIn
  intro h
  exact hne ((BitVec.add_right_inj e).mp h)

theorem ofNat_toNat_small {p : Nat} (hp : p < 2 ^ 64) : (BitVec.ofNat 64 p).toNat = p := by
  simp [BitVec.toNat_ofNat, Nat.mod_eq_of_lt hp]

theorem ofNat_inj_small {p q : Nat} (hp : p < 2 ^ 64) (hq : q < 2 ^ 64) :
    BitVec.ofNat 64 p = BitVec.ofNat 64 q ↔ p = q := by
  constructor
  · intro h
    have := congrArg BitVec.toNat h
    rwa [ofNat_toNat_small hp, ofNat_toNat_small hq] at this
  · intro h; rw [h]

/-- the entry of node `p` for member offset `off` -/
def entryOf (off : Addr) (p : Nat) : Addr := mcastOut (BitVec.ofNat 64 p) off

theorem nextEntry_entryOf (h : Heap) (off : Addr) {p : Nat} (hp : p < 2 ^ 64) :
    dlistNextEntry h (entryOf off p) off = entryOf off (h.next p) := by
  unfold dlistNextEntry entryOf Heap.nextA
  rw [mcastIn_mcastOut, ofNat_toNat_small hp]

theorem prevEntry_entryOf (h : Heap) (off : Addr) {p : Nat} (hp : p < 2 ^ 64) :
    dlistPrevEntry h (entryOf off p) off = entryOf off (h.prev p) := by
  unfold dlistPrevEntry entryOf Heap.prevA
  rw [mcastIn_mcastOut, ofNat_toNat_small hp]

theorem firstEntry_entryOf (h : Heap) (off : Addr) {p : Nat} (hp : p < 2 ^ 64) :
    dlistFirstEntry h (BitVec.ofNat 64 p) off = entryOf off (h.next p) := by
  unfold dlistFirstEntry entryOf Heap.nextA
  rw [ofNat_toNat_small hp]

theorem lastEntry_entryOf (h : Heap) (off : Addr) {p : Nat} (hp : p < 2 ^ 64) :
    dlistLastEntry h (BitVec.ofNat 64 p) off = entryOf off (h.prev p) := by
  unfold dlistLastEntry entryOf Heap.prevA
  rw [ofNat_toNat_small hp]

theorem mcastIn_entryOf (off : Addr) (p : Nat) : mcastIn (entryOf off p) off = BitVec.ofNat 64 p := by
  unfold entryOf; rw [mcastIn_mcastOut]

theorem walkEntry_seg (h : Heap) (hd : Nat) (off : Addr) (hhd : hd < 2 ^ 64) :
    ∀ (l : List Nat) (a fuel : Nat), Seg h.next a l hd → hd ∉ l → l.length < fuel → (∀ y ∈ l, y < 2 ^ 64) →
      walkEntry h (BitVec.ofNat 64 hd) off fuel (entryOf off (h.next a)) = l.map (entryOf off) :=
  Seg.walk (C := fun fuel a l => (∀ y ∈ l, y < 2 ^ 64) →
      walkEntry h (BitVec.ofNat 64 hd) off fuel (entryOf off (h.next a)) = l.map (entryOf off))
    (fun f a e _ => by simp [walkEntry, e, mcastIn_entryOf])
    (fun f a x xs e hx ih hb => by
      have hx' := hb x List.mem_cons_self
      have c1 : mcastIn (entryOf off x) off ≠ BitVec.ofNat 64 hd := by
        rw [mcastIn_entryOf]; exact fun e' => hx ((ofNat_inj_small hx' hhd).mp e')
      simp only [e, walkEntry, c1, if_false, nextEntry_entryOf h off hx', List.map_cons]
      rw [ih fun y hy => hb y (List.mem_cons_of_mem _ hy)])

theorem walkEntryRev_flip (h : Heap) (head off : Addr) : ∀ fuel pos,
    walkEntryRev h head off fuel pos = walkEntry h.flip head off fuel pos := by
  intro fuel; induction fuel with
  | zero => intros; rfl
  | succ f ih => intro pos; simp only [walkEntryRev, walkEntry, ih]; rfl

theorem forEachEntry_ring {h : Heap} {hd : Nat} {xs : List Nat} (r : IsRing h hd xs)
    (hb : ∀ y ∈ hd :: xs, y < 2 ^ 64) (off : Addr) (fuel : Nat) (hf : xs.length + 1 < fuel) :
    dlistForEachEntry h fuel (BitVec.ofNat 64 hd) off = xs.map (entryOf off) := by
  have hhd := hb hd List.mem_cons_self
  unfold dlistForEachEntry
  rw [firstEntry_entryOf h off hhd]
  exact walkEntry_seg h hd off hhd xs hd fuel r.fwd r.head_not_mem (by omega)
    fun y hy => hb y (List.mem_cons_of_mem _ hy)

theorem forEachEntryReverse_ring {h : Heap} {hd : Nat} {xs : List Nat} (r : IsRing h hd xs)
    (hb : ∀ y ∈ hd :: xs, y < 2 ^ 64) (off : Addr) (fuel : Nat) (hf : xs.length + 1 < fuel) :
    dlistForEachEntryReverse h fuel (BitVec.ofNat 64 hd) off = xs.reverse.map (entryOf off) := by
  have := forEachEntry_ring r.flip (by intro y hy; exact hb y (by simpa using hy)) off fuel (by simpa using hf)
  unfold dlistForEachEntryReverse
  rw [walkEntryRev_flip]
  exact this

/-! ## `hlist_for_each_entry` through a member at any offset -/

/-- a node whose address is a machine address, is not NULL, and whose object does not sit at address 0 -/
def HAddrOK (off : Addr) (y : Nat) : Prop := 0 < y ∧ y < 2 ^ 64 ∧ y ≠ off.toNat

theorem mcastOutOrNull_node (off : Addr) {y : Nat} (hy : HAddrOK off y) :
    mcastOutOrNull (ptrOf (some y)) off = entryOf off y ∧ entryOf off y ≠ 0 := by
  obtain ⟨h0, h1, h2⟩ := hy
  have hne : BitVec.ofNat 64 y ≠ 0 := by
    intro e; have := congrArg BitVec.toNat e; rw [ofNat_toNat_small h1] at this; simp at this; omega
  have hp : ptrOf (some y) = BitVec.ofNat 64 y := rfl
  refine ⟨by unfold mcastOutOrNull; rw [hp, if_neg hne]; rfl, ?_⟩
  intro e
  have : mcastIn (entryOf off y) off = mcastIn 0 off := by rw [e]
  rw [mcastIn_entryOf] at this
  have := congrArg BitVec.toNat this
  rw [ofNat_toNat_small h1] at this
  simp [mcastIn] at this; exact h2 this

theorem hwalkEntry_chain (h : HHeap) (off : Addr) : ∀ (xs : List Nat) (loc : Loc) (fuel : Nat), HChain h loc xs none →
    (∀ y ∈ xs, HAddrOK off y) → xs.length < fuel →
    hwalkEntry h off fuel (mcastOutOrNull (ptrOf (h.read loc)) off) = xs.map (entryOf off)
  | [], loc, fuel, hc, _, hf => by
    simp only [HChain] at hc
    match fuel, hf with
    | f + 1, _ => simp [hc, hwalkEntry, ptrOf, mcastOutOrNull]
  | x :: xs, loc, fuel, hc, ha, hf => by
    simp only [HChain] at hc
    match fuel, hf with
    | f + 1, hf =>
      obtain ⟨e1, e2⟩ := mcastOutOrNull_node off (ha x (by simp))
      rw [hc.1, e1]
      simp only [hwalkEntry, e2, if_false, List.map_cons, mcastIn_entryOf,
        ofNat_toNat_small (ha x (by simp)).2.1, HHeap.next_eq_read]
      rw [hwalkEntry_chain h off xs (.nodeNext x) f hc.2.2 (fun y hy => ha y (by simp [hy])) (by simp at hf; omega)]

end Igris.C01
