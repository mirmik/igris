/-
  C01 — the `_safe` loops, whose body may delete the current element: the node-level loop on a ring for
  a deleting body, and the entry-level loop as the node-level loop on the member nodes for any body.
-/
import IgrisModel.C01.Lemmas
import IgrisModel.C01.Entry
namespace Igris.C01

/-- on a node that is in a ring the body is "delete it (re-initialising) iff `del`" -/
def DelBody (del : Nat → Bool) (body : Heap → Nat → Heap) : Prop :=
  ∀ (h : Heap) (a : Nat) (xs : List Nat), IsRing h a xs → body h a = if del a then dlistDelInit h a else h

/-- the loop stands on the first of `ys` (on `hd` when `ys` is empty); `ks` are the elements it has passed and kept -/
theorem forEachSafe_del (del : Nat → Bool) (body : Heap → Nat → Heap) (hb : DelBody del body) (hd : Nat) :
    ∀ (ys ks : List Nat) (B : Rings) (h : Heap) (fuel : Nat),
      RingsOK h ((hd :: (ks ++ ys)) :: B) → ys.length < fuel →
      (forEachSafe body hd fuel h (ys.headD hd) (h.next (ys.headD hd))).2 = ys ∧
      RingsOK (forEachSafe body hd fuel h (ys.headD hd) (h.next (ys.headD hd))).1
        ((hd :: (ks ++ ys.filter (fun x => !del x))) :: ((ys.filter del).map fun x => [x]) ++ B) := by
  intro ys
  induction ys with
  | nil =>
    intro ks B h fuel ok hf
    match fuel, hf with
    | f + 1, _ => simpa [forEachSafe] using ok
  | cons y ys ih =>
    intro ks B h fuel ok hf
    have r := ok.head_ring
    have hyhd : y ≠ hd := fun e => r.head_not_mem (by simp [e])
    have hseg := (Seg_append h.next hd ks y ys hd).mp r.fwd
    have hny : h.next y = ys.headD hd := Seg_next_headD hseg.2
    -- the ring read from y
    have ry : IsRing h y (ys ++ hd :: ks) := r.rot
    match fuel, hf with
    | f + 1, hf =>
      have hf' : ys.length < f := by simpa using hf
      simp only [List.headD_cons, forEachSafe, hyhd, if_false]
      rw [hb h y _ ry, hny]
      cases hdel : del y with
      | false =>
        simp only [Bool.false_eq_true, if_false]
        have ok' : RingsOK h ((hd :: ((ks ++ [y]) ++ ys)) :: B) := by simpa using ok
        obtain ⟨i1, i2⟩ := ih (ks ++ [y]) B h f ok' hf'
        refine ⟨by rw [i1], ?_⟩
        simpa [List.filter_cons, hdel] using i2
      | true =>
        simp only [if_true]
        have okd := (RingsOK.rotN (l1 := hd :: ks) ok).delInit_ne (by simp)
        have ok2 : RingsOK (dlistDelInit h y) ((hd :: (ks ++ ys)) :: [y] :: B) :=
          okd.swap.rotN
        obtain ⟨i1, i2⟩ := ih ks ([y] :: B) (dlistDelInit h y) f ok2 hf'
        refine ⟨by rw [i1], ?_⟩
        have : ((hd :: (ks ++ ys.filter (fun x => !del x))) :: ((ys.filter del).map fun x => [x]) ++ [y] :: B).Perm
            ((hd :: (ks ++ (y :: ys).filter (fun x => !del x))) :: (((y :: ys).filter del).map fun x => [x]) ++ B) := by
          simp only [List.filter_cons, hdel, Bool.not_true, Bool.false_eq_true, if_false, if_true, List.map_cons,
            List.cons_append]
          exact List.Perm.cons _ List.perm_middle
        exact i2.perm this

theorem dlistForEachSafe_del {h : Heap} {hd : Nat} {xs : List Nat} {B : Rings} (del : Nat → Bool)
    (body : Heap → Nat → Heap) (hb : DelBody del body) (ok : RingsOK h ((hd :: xs) :: B)) (fuel : Nat)
    (hf : xs.length < fuel) :
    (dlistForEachSafe body h fuel hd).2 = xs ∧
    RingsOK (dlistForEachSafe body h fuel hd).1
      ((hd :: xs.filter (fun x => !del x)) :: ((xs.filter del).map fun x => [x]) ++ B) := by
  have := forEachSafe_del del body hb hd xs [] B h fuel (by simpa using ok) hf
  unfold dlistForEachSafe
  rw [Seg_next_headD ok.head_ring.fwd]; simpa using this

/-! ## `dlist_for_each_entry_safe` = `dlist_for_each_safe` on the member nodes -/

theorem forEachSafe_step (body : Heap → Nat → Heap) (hd f : Nat) (h : Heap) (pos n : Nat) (e : pos ≠ hd) :
    forEachSafe body hd (f + 1) h pos n =
      ((forEachSafe body hd f (body h pos) n ((body h pos).next n)).1,
       pos :: (forEachSafe body hd f (body h pos) n ((body h pos).next n)).2) := by
  simp [forEachSafe, e]

theorem forEachEntrySafe_sim (bodyE : Heap → Addr → Heap) (bodyN : Heap → Nat → Heap) (off : Addr) (hd : Nat)
    (hhd : hd < 2 ^ 64) (hb : ∀ h p, p < 2 ^ 64 → bodyE h (entryOf off p) = bodyN h p) :
    ∀ (fuel : Nat) (h : Heap) (pos n : Nat),
      (∀ p ∈ (forEachSafe bodyN hd fuel h pos n).2, p < 2 ^ 64) →
      forEachEntrySafe bodyE (BitVec.ofNat 64 hd) off fuel h (entryOf off pos) (entryOf off n) =
        ((forEachSafe bodyN hd fuel h pos n).1, (forEachSafe bodyN hd fuel h pos n).2.map (entryOf off)) := by
  intro fuel
  induction fuel with
  | zero => intro h pos n _; simp [forEachEntrySafe, forEachSafe]
  | succ f ih =>
    intro h pos n hv
    by_cases e : pos = hd
    · subst e; simp [forEachEntrySafe, forEachSafe, mcastIn_entryOf]
    · have hps : pos < 2 ^ 64 := hv pos (by simp [forEachSafe, e])
      have hne : mcastIn (entryOf off pos) off ≠ BitVec.ofNat 64 hd := by
        rw [mcastIn_entryOf]; intro e'; exact e ((ofNat_inj_small hps hhd).mp e')
      cases f with
      | zero => simp [forEachEntrySafe, forEachSafe, hne, e, hb h pos hps]
      | succ f' =>
        have hns : n < 2 ^ 64 := by
          by_cases e2 : n = hd
          · rw [e2]; exact hhd
          · apply hv n; simp [forEachSafe, e, e2]
        have hv' : ∀ p ∈ (forEachSafe bodyN hd (f' + 1) (bodyN h pos) n ((bodyN h pos).next n)).2, p < 2 ^ 64 := by
          intro p hp; apply hv p; rw [forEachSafe_step bodyN hd (f' + 1) h pos n e]; simp [hp]
        have := ih (bodyN h pos) n ((bodyN h pos).next n) hv'
        simp only [forEachEntrySafe, forEachSafe, hne, e, if_false, hb h pos hps] at this ⊢
        rw [nextEntry_entryOf _ off hns, this]
        simp

theorem dlistForEachEntrySafe_sim (bodyE : Heap → Addr → Heap) (bodyN : Heap → Nat → Heap) (off : Addr) (hd : Nat)
    (hhd : hd < 2 ^ 64) (hb : ∀ h p, p < 2 ^ 64 → bodyE h (entryOf off p) = bodyN h p) (h : Heap) (fuel : Nat)
    (hv : ∀ p ∈ (dlistForEachSafe bodyN h fuel hd).2, p < 2 ^ 64) :
    dlistForEachEntrySafe bodyE h fuel (BitVec.ofNat 64 hd) off =
      ((dlistForEachSafe bodyN h fuel hd).1, (dlistForEachSafe bodyN h fuel hd).2.map (entryOf off)) := by
  unfold dlistForEachEntrySafe dlistForEachSafe at *
  have h1 := firstEntry_entryOf h off hhd
  cases fuel with
  | zero => simp [forEachEntrySafe, forEachSafe]
  | succ f =>
    have hs : h.next hd < 2 ^ 64 := by
      by_cases e : h.next hd = hd
      · rw [e]; exact hhd
      · apply hv; simp [forEachSafe, e]
    simp only [h1, nextEntry_entryOf h off hs]
    exact forEachEntrySafe_sim bodyE bodyN off hd hhd hb (f + 1) h _ _ hv

end Igris.C01
