/-
  C01 — hlist histories: operation language, reference semantics on families of
  NULL-terminated chains, the family invariant, step refinement, enabledness.

  The abstract state: lists `(head, contents)` with distinct heads and pairwise
  disjoint contents, and the set `idle` of nodes whose `pprev` is NULL
  (`hlist_node_init`'ed and not linked since).  A node that is neither linked nor
  idle (never initialised, removed with `hlist_del` — which leaves `pprev` stale —,
  or orphaned by `hlist_head_init` of its list) has no constraint on its fields;
  the only calls admitted for it are `hlist_node_init` and `hlist_add_next`.
-/
import IgrisModel.C01.Lemmas
import IgrisModel.C01.Hlist
namespace Igris.C01

inductive HOp
  | headInit (l : Nat)               -- hlist_head_init
  | nodeInit (n : Nat)               -- hlist_node_init
  | addNext (n : Nat) (loc : Loc)    -- hlist_add_next(n, &head->first) / (n, &p->next)
  | del (n : Nat)                    -- hlist_del

def hexec (h : HHeap) : HOp → HHeap
  | .headInit l => hlistHeadInit h l
  | .nodeInit n => hlistNodeInit h n
  | .addNext n loc => hlistAddNext h n loc
  | .del n => hlistDel h n

def hrun (h : HHeap) (ops : List HOp) : HHeap := ops.foldl hexec h

structure HFam where
  lists : List (Nat × List Nat)
  idle : List Nat

def HLinked (L : List (Nat × List Nat)) (n : Nat) : Prop := ∃ p ∈ L, n ∈ p.2

structure HFamOK (h : HHeap) (F : HFam) : Prop where
  list : ∀ p ∈ F.lists, HList h p.1 p.2
  heads : F.lists.Pairwise (fun p q => p.1 ≠ q.1)
  disj : F.lists.Pairwise (fun p q => Disj p.2 q.2)
  idle : ∀ n ∈ F.idle, h.pprev n = none ∧ ¬ HLinked F.lists n

theorem HLinked.perm {L L' : List (Nat × List Nat)} {n : Nat} (p : L.Perm L') : HLinked L n ↔ HLinked L' n :=
  ⟨fun ⟨q, hq, hn⟩ => ⟨q, p.mem_iff.mp hq, hn⟩, fun ⟨q, hq, hn⟩ => ⟨q, p.mem_iff.mpr hq, hn⟩⟩

theorem HFamOK.perm {h : HHeap} {F : HFam} {L' : List (Nat × List Nat)} (ok : HFamOK h F) (p : F.lists.Perm L') :
    HFamOK h ⟨L', F.idle⟩ :=
  ⟨fun q hq => ok.list q (p.mem_iff.mpr hq),
   (p.pairwise_iff (fun hrs => Ne.symm hrs)).mp ok.heads,
   (p.pairwise_iff (fun hrs => Disj.symm hrs)).mp ok.disj,
   fun n hn => ⟨(ok.idle n hn).1, fun hl => (ok.idle n hn).2 ((HLinked.perm p).mpr hl)⟩⟩

inductive HStep : HFam → HOp → HFam → Prop
  -- `hlist_head_init` of a new head: a new empty list; of an existing head: the list is emptied
  -- (its old elements are in no list afterwards and their `pprev` is stale)
  | headInitNew {F l} : (∀ p ∈ F.lists, p.1 ≠ l) → HStep F (.headInit l) ⟨(l, []) :: F.lists, F.idle⟩
  | headInit {F l xs B} : F.lists.Perm ((l, xs) :: B) → HStep F (.headInit l) ⟨(l, []) :: B, F.idle⟩
  -- `hlist_node_init` of a node that is not linked: it becomes idle
  | nodeInit {F n} : ¬ HLinked F.lists n → HStep F (.nodeInit n) ⟨F.lists, n :: F.idle⟩
  -- `hlist_add_next(n, &head->first)`: push front; `(n, &p->next)`: insert right after `p`
  | addFirst {F n l xs B} : F.lists.Perm ((l, xs) :: B) → ¬ HLinked F.lists n →
      HStep F (.addNext n (.headFirst l)) ⟨(l, n :: xs) :: B, F.idle.filter (fun m => decide (m ≠ n))⟩
  | addAfter {F n l p pre post B} : F.lists.Perm ((l, pre ++ p :: post) :: B) → ¬ HLinked F.lists n →
      HStep F (.addNext n (.nodeNext p)) ⟨(l, pre ++ p :: n :: post) :: B, F.idle.filter (fun m => decide (m ≠ n))⟩
  -- `hlist_del` of an element: it leaves its list (and is NOT idle: `pprev` is not reset);
  -- of an idle node: nothing happens
  | del {F n l pre post B} : F.lists.Perm ((l, pre ++ n :: post) :: B) → HStep F (.del n) ⟨(l, pre ++ post) :: B, F.idle⟩
  | delIdle {F n} : n ∈ F.idle → HStep F (.del n) F

inductive HRun : HFam → List HOp → HFam → Prop
  | nil (F) : HRun F [] F
  | cons {F G H op ops} : HStep F op G → HRun G ops H → HRun F (op :: ops) H

theorem HFamOK.parts {h : HHeap} {l : Nat} {xs : List Nat} {B : List (Nat × List Nat)} {I : List Nat}
    (ok : HFamOK h ⟨(l, xs) :: B, I⟩) :
    HList h l xs ∧ (∀ q ∈ B, HList h q.1 q.2) ∧ (∀ q ∈ B, l ≠ q.1) ∧ (∀ q ∈ B, Disj xs q.2) :=
  ⟨ok.list (l, xs) (by simp), fun q hq => ok.list q (by simp [hq]),
   (List.pairwise_cons.mp ok.heads).1, (List.pairwise_cons.mp ok.disj).1⟩

theorem not_linked_cons {l : Nat} {xs : List Nat} {B : List (Nat × List Nat)} {n : Nat}
    (hn : ¬ HLinked ((l, xs) :: B) n) : n ∉ xs ∧ ∀ q ∈ B, n ∉ q.2 :=
  ⟨fun hm => hn ⟨(l, xs), by simp, hm⟩, fun q hq hm => hn ⟨q, by simp [hq], hm⟩⟩

/-- the invariant after an operation on the first list alone: `hI` lets it write the `pprev` of members of that list,
which an idle node is not -/
theorem HFamOK.rewrite {h h' : HHeap} {l : Nat} {xs xs' : List Nat} {B : List (Nat × List Nat)} {I I' : List Nat}
    (ok : HFamOK h ⟨(l, xs) :: B, I⟩) (r' : HList h' l xs') (o1 : ∀ q ∈ B, HList h' q.1 q.2)
    (sub : ∀ y ∈ xs', y ∈ xs ∨ (y ∉ I' ∧ ∀ q ∈ B, y ∉ q.2))
    (hI : ∀ m ∈ I', m ∈ I ∧ (m ∉ xs → h'.pprev m = h.pprev m)) : HFamOK h' ⟨(l, xs') :: B, I'⟩ := by
  obtain ⟨hh, hB⟩ := List.pairwise_cons.mp ok.heads
  obtain ⟨dd, dB⟩ := List.pairwise_cons.mp ok.disj
  refine ⟨List.forall_mem_cons.mpr ⟨r', o1⟩, List.pairwise_cons.mpr ⟨hh, hB⟩,
    List.pairwise_cons.mpr ⟨fun q hq y hy => ?_, dB⟩, fun m hm => ?_⟩
  · rcases sub y hy with hy | hy
    · exact dd q hq y hy
    · exact hy.2 q hq
  · obtain ⟨i1, i2⟩ := ok.idle m (hI m hm).1
    obtain ⟨m1, m2⟩ := not_linked_cons i2
    refine ⟨((hI m hm).2 m1).trans i1, ?_⟩
    rintro ⟨q, hq, hmq⟩
    rcases List.mem_cons.mp hq with rfl | hq
    · rcases sub m hmq with e | e
      · exact m1 e
      · exact e.1 hm
    · exact m2 q hq hmq

theorem HFamOK.addAt {h : HHeap} {l n : Nat} {pre post : List Nat} {B : List (Nat × List Nat)} {I : List Nat}
    (ok : HFamOK h ⟨(l, pre ++ post) :: B, I⟩) (hn : ¬ HLinked ((l, pre ++ post) :: B) n) :
    HFamOK (hlistAddNext h n (lastLoc (.headFirst l) pre))
      ⟨(l, pre ++ n :: post) :: B, I.filter (fun m => decide (m ≠ n))⟩ := by
  obtain ⟨r, hB, hh, dd⟩ := ok.parts
  obtain ⟨hnx, hnB⟩ := not_linked_cons hn
  -- the location belongs to this list (the head's field or the `next` field of a node of `pre`) and holds the first
  -- node of `post`: the insertion leaves the other lists, and the `pprev` of every node outside this list, untouched
  have hLx : ∀ y, y ∉ pre → lastLoc (.headFirst l) pre ≠ .nodeNext y := fun y hy =>
    (lastLoc_ne (loc0 := .headFirst l) (L := .nodeNext y) nofun fun x hx => nodeNext_ne fun e => hy (e ▸ hx)).symm
  have hLn := hLx n fun hm => hnx (List.mem_append_left _ hm)
  have cs := ((HChain_append h pre _ post none).mp r.chain).2
  refine ok.rewrite (hlist_add_at r hnx)
    (fun q hq => hlist_frame_add _ (hB q hq) hLn (hnB q hq)
      (lastLoc_ne (L := .headFirst q.1) (fun e => hh q hq (Loc.headFirst.inj e).symm) fun _ _ => nofun).symm
      (fun y hy => hLx y fun hm => dd q hq y (List.mem_append_left _ hm) hy)
      (fun y hy e => dd q hq y (List.mem_append_right _ (cs.mem_of_read e)) hy))
    (fun y hy => ?_) (fun m hm => ?_)
  · rcases List.mem_cons.mp (List.perm_middle.subset hy) with rfl | hy
    · exact .inr ⟨by simp, hnB⟩
    · exact .inl hy
  · simp only [List.mem_filter, decide_eq_true_eq] at hm
    exact ⟨hm.1, fun hmx => (hlistAddNext_frame h n _ hLn).2.2.2.1 m hm.2 fun e =>
      hmx (List.mem_append_right _ (cs.mem_of_read e))⟩

theorem HFamOK.delMember {h : HHeap} {l n : Nat} {pre post : List Nat} {B : List (Nat × List Nat)} {I : List Nat}
    (ok : HFamOK h ⟨(l, pre ++ n :: post) :: B, I⟩) : HFamOK (hlistDel h n) ⟨(l, pre ++ post) :: B, I⟩ := by
  obtain ⟨r, hB, hh, dd⟩ := ok.parts
  obtain ⟨_, c2, c3⟩ := (HChain_append_cons h pre (.headFirst l) n post none).mp r.chain
  -- `n`'s successor, the only node whose `pprev` is written, is a member
  exact ok.rewrite (hlist_del_member r)
    (fun q hq => hlist_frame_del r (hB q hq) (hh q hq) (fun y hy hm => dd q hq y hm hy))
    (fun y hy => .inl (((List.sublist_cons_self n post).append_left pre).subset hy))
    (fun m hm => ⟨hm, fun hmx => (hlistDel_frame h n _ c2).2.2.1 m fun e => hmx (by simp [c3.mem_of_read e])⟩)

/-- the admitted calls, stated on the family alone:
* `hlist_head_init(l)`: always;
* `hlist_node_init(n)`: `n` is not linked;
* `hlist_add_next(n, loc)`: `n` is not linked; `loc` is `&head->first` of a head of the family
  or `&p->next` of a linked node `p`;
* `hlist_del(n)`: `n` is linked, or idle (`pprev == NULL`). -/
def HAdmitted (F : HFam) : HOp → Prop
  | .headInit _ => True
  | .nodeInit n => ¬ HLinked F.lists n
  | .addNext n (.headFirst l) => ¬ HLinked F.lists n ∧ ∃ p ∈ F.lists, p.1 = l
  | .addNext n (.nodeNext p) => ¬ HLinked F.lists n ∧ HLinked F.lists p
  | .del n => HLinked F.lists n ∨ n ∈ F.idle

instance (L : List (Nat × List Nat)) (n : Nat) : Decidable (HLinked L n) := by unfold HLinked; infer_instance
instance (F : HFam) (op : HOp) : Decidable (HAdmitted F op) := by
  cases op with
  | addNext n loc => cases loc <;> unfold HAdmitted <;> infer_instance
  | _ => unfold HAdmitted <;> infer_instance

end Igris.C01
