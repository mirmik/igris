/-
  C01 — the reference semantics on the families: what `Same` preserves, the shape every rule of `AStep` has,
  and the spec-level frame property that follows from it (a ring no argument names is the same cyclic sequence
  afterwards, `SameRing`), for one step and for a history (`ARun`).
-/
import IgrisModel.C01.Spec
namespace Igris.C01

/-- the node is a member of some ring of the family (linked, or alone = self-linked) -/
def InRing (A : Rings) (a : Nat) : Prop := ∃ r ∈ A, a ∈ r
/-- the node is a ring of its own (self-linked: initialised / unlinked / an empty list head) -/
def Lone (A : Rings) (a : Nat) : Prop := [a] ∈ A

/-- well-formed family (a property of the lists alone): no node occurs twice -/
structure RingsWF (A : Rings) : Prop where
  nodup : ∀ r ∈ A, r.Nodup
  disj : A.Pairwise Disj

theorem RingsOK.wf {h : Heap} {A : Rings} (ok : RingsOK h A) : RingsWF A :=
  ⟨fun r hr => by obtain ⟨a, xs, e, ring⟩ := ok.ring r hr; subst e; exact ring.nodup, ok.disj⟩

theorem free_iff_not_inRing (A : Rings) (a : Nat) : Free A a ↔ ¬ InRing A a :=
  ⟨fun f ⟨r, hr, hm⟩ => f r hr hm, fun n r hr hm => n ⟨r, hr, hm⟩⟩

theorem RingsOK.same {h : Heap} {A A' : Rings} (ok : RingsOK h A) (s : Same A A') : RingsOK h A' := by
  induction s with
  | refl => exact ok
  | perm p => exact ok.perm p
  | rot => exact ok.rotN
  | trans _ _ ih1 ih2 => exact ih2 (ih1 ok)

/-! ### `Same` relates the rings of two presentations one to one, up to rotation -/

theorem Same.rings {A A' : Rings} (s : Same A A') :
    (∀ r ∈ A, ∃ r' ∈ A', r.Perm r') ∧ (∀ r' ∈ A', ∃ r ∈ A, r.Perm r') := by
  induction s with
  | refl A => exact ⟨fun r hr => ⟨r, hr, .refl _⟩, fun r hr => ⟨r, hr, .refl _⟩⟩
  | perm p => exact ⟨fun r hr => ⟨r, p.mem_iff.mp hr, .refl _⟩, fun r hr => ⟨r, p.mem_iff.mpr hr, .refl _⟩⟩
  | @rot l1 l2 b B =>
    constructor <;> intro r hr <;> rcases List.mem_cons.mp hr with rfl | hr
    · exact ⟨_, List.mem_cons_self, rot_perm l1 l2 b⟩
    · exact ⟨r, List.mem_cons_of_mem _ hr, .refl _⟩
    · exact ⟨_, List.mem_cons_self, rot_perm l1 l2 b⟩
    · exact ⟨r, List.mem_cons_of_mem _ hr, .refl _⟩
  | trans _ _ ih1 ih2 =>
    constructor
    · intro r hr
      obtain ⟨r1, h1, p1⟩ := ih1.1 r hr
      obtain ⟨r2, h2, p2⟩ := ih2.1 r1 h1
      exact ⟨r2, h2, p1.trans p2⟩
    · intro r hr
      obtain ⟨r1, h1, p1⟩ := ih2.2 r hr
      obtain ⟨r2, h2, p2⟩ := ih1.2 r1 h1
      exact ⟨r2, h2, p2.trans p1⟩

theorem Same.ring_of_mem {A A' : Rings} (s : Same A A') {a : Nat} {xs : List Nat} (hm : (a :: xs) ∈ A') :
    ∃ r ∈ A, a ∈ r ∧ r.length = xs.length + 1 := by
  obtain ⟨r, hr, p⟩ := s.rings.2 (a :: xs) hm
  exact ⟨r, hr, p.mem_iff.mpr List.mem_cons_self, by simpa using p.length_eq⟩

theorem Same.inRing {A A' : Rings} (s : Same A A') {a : Nat} (h : InRing A' a) : InRing A a := by
  obtain ⟨r', hr', hm⟩ := h
  obtain ⟨r, hr, p⟩ := s.rings.2 r' hr'
  exact ⟨r, hr, p.mem_iff.mpr hm⟩

theorem Same.lone {A A' : Rings} (s : Same A A') {a : Nat} (h : [a] ∈ A') : Lone A a := by
  obtain ⟨r, hr, p⟩ := s.rings.2 [a] h
  have : r = [a] := List.perm_singleton.mp p
  subst this; exact hr

theorem Same.free {A A' : Rings} (s : Same A A') {a : Nat} (h : Free A' a) : Free A a := by
  intro r hr hm
  obtain ⟨r', hr', p⟩ := s.rings.1 r hr
  exact h r' hr' (p.mem_iff.mp hm)

theorem RingsWF.same {A A' : Rings} (w : RingsWF A) (s : Same A A') : RingsWF A' := by
  induction s with
  | refl A => exact w
  | perm p => exact ⟨fun r hr => w.nodup r (p.mem_iff.mpr hr), (p.pairwise_iff (fun hrs => Disj.symm hrs)).mp w.disj⟩
  | @rot l1 l2 b B =>
    have p := rot_perm l1 l2 b
    refine ⟨?_, ?_⟩
    · intro r hr
      rcases List.mem_cons.mp hr with rfl | hr
      · exact p.nodup_iff.mp (w.nodup _ List.mem_cons_self)
      · exact w.nodup r (List.mem_cons_of_mem _ hr)
    · have := List.pairwise_cons.mp w.disj
      exact List.pairwise_cons.mpr ⟨fun t ht y hy => this.1 t ht y (p.mem_iff.mpr hy), this.2⟩
  | trans _ _ ih1 ih2 => exact ih2 (ih1 w)

/-- the non-empty list `r` is a ring of the heap, read from its first member: what `RingsOK.ring` says of a member of the
family -/
def RingL (h : Heap) (r : List Nat) : Prop := ∃ a xs, r = a :: xs ∧ IsRing h a xs

theorem ring_determines_fields {h h' : Heap} {r : List Nat} (e : RingL h r) (e' : RingL h' r) :
    ∀ y ∈ r, h'.next y = h.next y ∧ h'.prev y = h.prev y := by
  obtain ⟨a, xs, rfl, r1⟩ := e
  obtain ⟨_, _, e2, r2⟩ := e'
  cases e2
  exact fun y hy => ⟨Seg_next_unique r1.fwd r2.fwd y hy, Seg_next_unique r1.flip.fwd r2.flip.fwd y (by simpa using hy)⟩

/-- `r` and `r'` present the same cyclic sequence: same members, and in every heap one is a
ring iff the other is -/
def SameRing (r r' : List Nat) : Prop := (∀ y, y ∈ r ↔ y ∈ r') ∧ ∀ h : Heap, RingL h r ↔ RingL h r'

theorem SameRing.refl (r : List Nat) : SameRing r r := ⟨fun _ => Iff.rfl, fun _ => Iff.rfl⟩
theorem SameRing.trans {a b c : List Nat} (x : SameRing a b) (y : SameRing b c) : SameRing a c :=
  ⟨fun z => (x.1 z).trans (y.1 z), fun h => (x.2 h).trans (y.2 h)⟩

theorem sameRing_rot (l1 l2 : List Nat) (b : Nat) : SameRing (l1 ++ b :: l2) (b :: (l2 ++ l1)) := by
  refine ⟨fun y => (rot_perm l1 l2 b).mem_iff, fun h => ⟨?_, ?_⟩⟩
  · rintro ⟨a, xs, e, r⟩
    exact ⟨b, l2 ++ l1, rfl, IsRing.rotN l1 r e.symm⟩
  · rintro ⟨a, xs, e, r⟩
    cases e
    cases l1 with
    | nil => exact ⟨b, l2, by simp, by simpa using r⟩
    | cons c cs => exact ⟨c, cs ++ b :: l2, rfl, r.rot⟩

theorem Same.ring_survives {A A' : Rings} (s : Same A A') : ∀ r ∈ A, ∃ r' ∈ A', SameRing r r' := by
  induction s with
  | refl => intro r hr; exact ⟨r, hr, SameRing.refl r⟩
  | perm p => intro r hr; exact ⟨r, p.mem_iff.mp hr, SameRing.refl r⟩
  | @rot l1 l2 b B =>
    intro r hr
    rcases List.mem_cons.mp hr with rfl | hr
    · exact ⟨_, List.mem_cons_self, sameRing_rot l1 l2 b⟩
    · exact ⟨r, List.mem_cons_of_mem _ hr, SameRing.refl r⟩
  | trans _ _ ih1 ih2 =>
    intro r hr
    obtain ⟨r1, h1, s1⟩ := ih1 r hr
    obtain ⟨r2, h2, s2⟩ := ih2 r1 h1
    exact ⟨r2, h2, s1.trans s2⟩

/-! ### the shape of a rule, and the frame property of the reference semantics -/

def Op.args : Op → List Nat
  | .cinit a => [a] | .caddNext l hd => [l, hd] | .caddPrev l hd => [l, hd] | .cdel a => [a] | .cdelInit a => [a]
  | .cmove l hd => [l, hd] | .cmoveTail l hd => [l, hd] | .cinsertInstead i j => [i, j] | .xctor a => [a]
  | .xunlink a => [a] | .xmoveNext a n => [a, n] | .xmovePrev a n => [a, n] | .xpopFront l => [l] | .xpopBack l => [l]
  | .xsplice l o => [l, o] | .xclear l => [l] | .cmoveSorted _ _ a hd => [a, hd]

/-- the shape every rule has: it reads the family as the rings `D` it displays, each of which holds an
argument of the operation, in front of the others, `B`, which it carries over unchanged. -/
def RuleShape (A : Rings) (args : List Nat) (A' : Rings) : Prop :=
  ∃ D B, Same A (D ++ B) ∧ (∀ d ∈ D, ∃ a ∈ args, a ∈ d) ∧ ∀ b ∈ B, b ∈ A'

theorem RuleShape.one {A A' B : Rings} {args : List Nat} {a : Nat} {xs : List Nat} (s : Same A ((a :: xs) :: B))
    (ha : a ∈ args) (hB : ∀ b ∈ B, b ∈ A') : RuleShape A args A' :=
  ⟨[_], B, s, List.forall_mem_singleton.mpr ⟨a, ha, List.mem_cons_self⟩, hB⟩

theorem RuleShape.two {A A' B : Rings} {a b : Nat} {xs ys : List Nat} (s : Same A ((a :: xs) :: (b :: ys) :: B))
    (hB : ∀ b ∈ B, b ∈ A') : RuleShape A [a, b] A' :=
  ⟨[_, _], B, s, List.forall_mem_cons.mpr ⟨⟨a, List.mem_cons_self, List.mem_cons_self⟩,
    List.forall_mem_singleton.mpr ⟨b, List.mem_cons_of_mem _ List.mem_cons_self, List.mem_cons_self⟩⟩, hB⟩

theorem AStep.shape {A A' : Rings} {op : Op} (st : AStep A op A') : RuleShape A op.args A' := by
  induction st with
  | cinitFree _ | xctorFree _ => exact ⟨[], _, .refl _, nofun, fun b hb => List.mem_cons_of_mem _ hb⟩
  | xmoveNext _ ih | xmovePrev _ ih => exact ih
  -- one ring, read from the first argument
  | cinitRing s | xctorLone s | cdel s | cdelSingle s | cdelInit s | cdelInitSingle s | xunlink s | xunlinkSingle s
  | cmoveSelf s | cmoveSelfSingle s | cmoveSame s | cmoveTailSelf s | cmoveTailSelfSingle s | cmoveTailSame s
  | xpopFront s | xpopFrontEmpty s | xpopBack s | xpopBackEmpty s | xspliceSelf s | xspliceSelfEmpty s
  | xclear s _ =>
    exact .one s List.mem_cons_self fun b hb => by simp only [List.mem_cons, List.mem_append, hb, or_true]
  -- one ring, read from the second argument (the first is in no ring)
  | caddNextFree s _ | caddPrevFree s _ | cmoveSortedFree s _ _ | cinsertInsteadFree s _ =>
    exact .one s (List.mem_cons_of_mem _ List.mem_cons_self) fun b hb => by simp only [List.mem_cons, hb, or_true]
  -- two rings, read from the first and from the second argument
  | caddNext s | caddPrev s | cmoveOther s | cmoveOtherSingle s | cmoveTailOther s | cmoveTailOtherSingle s
  | xsplice s | xspliceIntoEmpty s | xspliceFromEmpty s | xspliceBothEmpty s | cinsertInstead s
  | cmoveSorted s _ =>
    exact .two s fun b hb => by simp only [List.mem_cons, hb, or_true]

/-- a ring none of whose members is an argument of the operation is still a
ring of the family afterwards (the same cyclic sequence) -/
theorem AStep.untouched {A A' : Rings} {op : Op} (st : AStep A op A') :
    ∀ r ∈ A, (∀ a ∈ op.args, a ∉ r) → ∃ r' ∈ A', SameRing r r' := by
  intro r hr hargs
  obtain ⟨D, B, s, hD, hB⟩ := st.shape
  obtain ⟨r1, h1, sr⟩ := s.ring_survives r hr
  rcases List.mem_append.mp h1 with h1 | h1
  · obtain ⟨a, ha, hm⟩ := hD r1 h1
    exact absurd ((sr.1 a).mpr hm) (hargs a ha)
  · exact ⟨r1, hB r1 h1, sr⟩

/-- a history of the reference semantics -/
inductive ARun : Rings → List Op → Rings → Prop
  | nil (A) : ARun A [] A
  | cons {A B C op ops} : AStep A op B → ARun B ops C → ARun A (op :: ops) C

theorem ARun.untouched {A A' : Rings} {ops : List Op} (run : ARun A ops A') :
    ∀ r ∈ A, (∀ op ∈ ops, ∀ a ∈ op.args, a ∉ r) → ∃ r' ∈ A', SameRing r r' := by
  induction run with
  | nil => exact fun r hr _ => ⟨r, hr, SameRing.refl r⟩
  | cons st _ ih =>
    intro r hr ha
    obtain ⟨r1, h1, s1⟩ := st.untouched r hr (ha _ (by simp))
    obtain ⟨r2, h2, s2⟩ := ih r1 h1 fun op hop a haa hm => ha op (by simp [hop]) a haa ((s1.1 a).mpr hm)
    exact ⟨r2, h2, s1.trans s2⟩

end Igris.C01
