/-
  C01 — hlist (igris/datastruct/hlist.h): the chain predicate `HChain` (every `pprev` is the location
  that points at its node), `HList`, traversal, `hlist_add_next` at any location and `hlist_del`.
-/
import IgrisModel.C01.Model
namespace Igris.C01

@[simp] theorem HHeap.read_write (h : HHeap) (loc loc' : Loc) (v : Option Nat) :
    (h.write loc v).read loc' = if loc' = loc then v else h.read loc' := by
  cases loc <;> cases loc' <;> simp [HHeap.write, HHeap.read]
@[simp] theorem HHeap.pprev_write (h : HHeap) (loc : Loc) (v : Option Nat) : (h.write loc v).pprev = h.pprev := by
  cases loc <;> rfl
@[simp] theorem HHeap.read_setPprev (h : HHeap) (n : Nat) (v : Option Loc) (loc : Loc) :
    (h.setPprev n v).read loc = h.read loc := by cases loc <;> rfl
@[simp] theorem HHeap.pprev_setPprev (h : HHeap) (n : Nat) (v : Option Loc) (y : Nat) :
    (h.setPprev n v).pprev y = if y = n then v else h.pprev y := rfl
theorem HHeap.next_eq_read (h : HHeap) (n : Nat) : h.next n = h.read (.nodeNext n) := rfl

/-- from location `loc` the chain runs through the nodes `xs` and ends in `e`
(`none` = NULL); every node's `pprev` is the location that points at it -/
def HChain (h : HHeap) : Loc → List Nat → Option Nat → Prop
  | loc, [], e => h.read loc = e
  | loc, x :: xs, e => h.read loc = some x ∧ h.pprev x = some loc ∧ HChain h (.nodeNext x) xs e

/-- the location in which a chain through `xs` that starts at `loc` ends -/
def lastLoc : Loc → List Nat → Loc
  | loc, [] => loc
  | _, x :: xs => lastLoc (.nodeNext x) xs

theorem lastLoc_snoc (loc : Loc) (pre : List Nat) (x : Nat) : lastLoc loc (pre ++ [x]) = .nodeNext x := by
  induction pre generalizing loc with
  | nil => rfl
  | cons a as ih => simp [lastLoc, ih]

theorem lastLoc_ne {loc0 L : Loc} {pre : List Nat} (h0 : L ≠ loc0) (h1 : ∀ x ∈ pre, L ≠ .nodeNext x) :
    L ≠ lastLoc loc0 pre := by
  induction pre generalizing loc0 with
  | nil => exact h0
  | cons a as ih => exact ih (h1 a List.mem_cons_self) fun x hx => h1 x (List.mem_cons_of_mem _ hx)

theorem nodeNext_ne {x y : Nat} (h : x ≠ y) : Loc.nodeNext x ≠ .nodeNext y := fun e => h (Loc.nodeNext.inj e)

theorem HChain_congr (h h' : HHeap) : ∀ (xs : List Nat) (loc : Loc) (e : Option Nat),
    h'.read loc = h.read loc → (∀ x ∈ xs, h'.read (.nodeNext x) = h.read (.nodeNext x)) →
    (∀ x ∈ xs, h'.pprev x = h.pprev x) → (HChain h' loc xs e ↔ HChain h loc xs e)
  | [], loc, e, h0, _, _ => by simp [HChain, h0]
  | x :: xs, loc, e, h0, h1, h2 => by
    simp only [HChain, h0, h2 x (by simp)]
    rw [HChain_congr h h' xs (.nodeNext x) e (h1 x (by simp)) (fun y hy => h1 y (by simp [hy]))
      (fun y hy => h2 y (by simp [hy]))]

theorem HChain_append_cons (h : HHeap) : ∀ (pre : List Nat) (loc : Loc) (y : Nat) (ys : List Nat) (e : Option Nat),
    HChain h loc (pre ++ y :: ys) e ↔
      HChain h loc pre (some y) ∧ h.pprev y = some (lastLoc loc pre) ∧ HChain h (.nodeNext y) ys e
  | [], loc, y, ys, e => by simp [HChain, lastLoc]
  | x :: pre, loc, y, ys, e => by
    simp only [List.cons_append, HChain, lastLoc, HChain_append_cons h pre (.nodeNext x) y ys e, and_assoc]

theorem HChain_read_last (h : HHeap) : ∀ (pre : List Nat) (loc : Loc) (e : Option Nat),
    HChain h loc pre e → h.read (lastLoc loc pre) = e
  | [], _, _, hc => hc
  | x :: pre, _, e, hc => HChain_read_last h pre (.nodeNext x) e hc.2.2

theorem HChain_read (h : HHeap) (loc : Loc) (xs : List Nat) (hc : HChain h loc xs none) :
    h.read loc = xs.head? := by
  cases xs with
  | nil => simpa [HChain] using hc
  | cons x xs => simp only [HChain] at hc; simp [hc.1]

theorem HChain.mem_of_read {h : HHeap} {L : Loc} {post : List Nat} (c : HChain h L post none) {z : Nat}
    (e : h.read L = some z) : z ∈ post := List.mem_of_mem_head? (HChain_read h _ post c ▸ e)

theorem HChain_append (h : HHeap) : ∀ (pre : List Nat) (loc : Loc) (post : List Nat) (e : Option Nat),
    HChain h loc (pre ++ post) e ↔
      HChain h loc pre (h.read (lastLoc loc pre)) ∧ HChain h (lastLoc loc pre) post e
  | [], loc, post, e => by simp [HChain, lastLoc]
  | x :: pre, loc, post, e => by
    simp only [List.cons_append, HChain, lastLoc, HChain_append h pre (.nodeNext x) post e, and_assoc]

/-- the chain behind another start location that holds the same first node: besides what the chain reads,
only the `pprev` of that node differs -/
theorem HChain_shift_start {h h' : HHeap} {L L' : Loc} {post : List Nat} {e : Option Nat} (hc : HChain h L post e)
    (hnd : post.Nodup) (h0 : h'.read L' = h.read L) (hp : ∀ y, h.read L = some y → h'.pprev y = some L')
    (h1 : ∀ y ∈ post, h'.read (.nodeNext y) = h.read (.nodeNext y))
    (h2 : ∀ y ∈ post, h.read L ≠ some y → h'.pprev y = h.pprev y) : HChain h' L' post e := by
  cases post with
  | nil => exact h0.trans hc
  | cons y ys =>
    refine ⟨h0.trans hc.1, hp y hc.1, (HChain_congr h h' ys _ e (h1 y (by simp)) (fun z hz => h1 z (by simp [hz]))
      (fun z hz => h2 z (by simp [hz]) ?_)).mpr hc.2.2⟩
    rw [hc.1]; intro e2; injection e2 with e2
    exact (List.nodup_cons.mp hnd).1 (e2 ▸ hz)

/-- the chain through `pre` after a store into the location in which it ends: it ends in the stored value, when nothing
else the chain reads has changed -/
theorem HChain_redirect {h h' : HHeap} {e e' : Option Nat} : ∀ {pre : List Nat} {loc : Loc}, HChain h loc pre e →
    pre.Nodup → (∀ x ∈ pre, loc ≠ .nodeNext x) → h'.read (lastLoc loc pre) = e' →
    (∀ l', l' ≠ lastLoc loc pre → (l' = loc ∨ ∃ x ∈ pre, l' = .nodeNext x) → h'.read l' = h.read l') →
    (∀ x ∈ pre, h'.pprev x = h.pprev x) → HChain h' loc pre e'
  | [], _, _, _, _, hL, _, _ => hL
  | x :: pre, loc, hc, hnd, h0, hL, hr, hp => by
    obtain ⟨hx, hnd'⟩ := List.nodup_cons.mp hnd
    have hne : loc ≠ lastLoc (.nodeNext x) pre := lastLoc_ne (h0 x (by simp)) fun z hz => h0 z (by simp [hz])
    refine ⟨(hr loc hne (.inl rfl)).trans hc.1, (hp x (by simp)).trans hc.2.1,
      HChain_redirect hc.2.2 hnd' (fun z hz => nodeNext_ne fun e2 => hx (e2 ▸ hz)) hL (fun l' hne hl' => hr l' hne ?_)
        fun z hz => hp z (by simp [hz])⟩
    rcases hl' with rfl | ⟨z, hz, rfl⟩
    · exact .inr ⟨x, by simp, rfl⟩
    · exact .inr ⟨z, by simp [hz], rfl⟩

structure HList (h : HHeap) (l : Nat) (xs : List Nat) : Prop where
  nodup : xs.Nodup
  chain : HChain h (.headFirst l) xs none

theorem HList.frame {h h' : HHeap} {l : Nat} {xs : List Nat} (r : HList h l xs)
    (e0 : h'.read (.headFirst l) = h.read (.headFirst l))
    (e1 : ∀ x ∈ xs, h'.read (.nodeNext x) = h.read (.nodeNext x))
    (e2 : ∀ x ∈ xs, h'.pprev x = h.pprev x) : HList h' l xs :=
  ⟨r.nodup, (HChain_congr h h' xs _ none e0 e1 e2).mpr r.chain⟩

theorem hwalk_chain (h : HHeap) : ∀ (xs : List Nat) (loc : Loc) (fuel : Nat), HChain h loc xs none →
    xs.length < fuel → hwalk h fuel (h.read loc) = xs
  | [], loc, fuel, hc, hf => by
    simp only [HChain] at hc
    match fuel, hf with
    | f + 1, _ => simp [hc, hwalk]
  | x :: xs, loc, fuel, hc, hf => by
    simp only [HChain] at hc
    match fuel, hf with
    | f + 1, hf =>
      rw [hc.1]; simp only [hwalk, HHeap.next_eq_read]
      rw [hwalk_chain h xs (.nodeNext x) f hc.2.2 (by simp at hf; omega)]

theorem hlistAddNext_frame (h : HHeap) (n : Nat) (L : Loc) (hL : L ≠ .nodeNext n) :
    (∀ loc, loc ≠ L → loc ≠ .nodeNext n → (hlistAddNext h n L).read loc = h.read loc) ∧
    (hlistAddNext h n L).read L = some n ∧
    (hlistAddNext h n L).read (.nodeNext n) = h.read L ∧
    (∀ z, z ≠ n → h.read L ≠ some z → (hlistAddNext h n L).pprev z = h.pprev z) ∧
    (∀ y, h.read L = some y → y ≠ n → (hlistAddNext h n L).pprev y = some (.nodeNext n)) ∧
    (h.read L ≠ some n → (hlistAddNext h n L).pprev n = some L) := by
  have hL' : Loc.nodeNext n ≠ L := fun e => hL e.symm
  unfold hlistAddNext
  simp only [HHeap.read_setPprev, HHeap.next_eq_read, HHeap.read_write, if_true]
  cases hr : h.read L with
  | none =>
    simp only [HHeap.read_write, HHeap.read_setPprev, HHeap.pprev_write, HHeap.pprev_setPprev, if_true]
    refine ⟨?_, trivial, by simp [hL'], ?_, by simp, by simp⟩
    · intro loc h1 h2; simp [h1, h2]
    · intro z hz _; simp [hz]
  | some y =>
    simp only [HHeap.read_write, HHeap.read_setPprev, HHeap.pprev_write, HHeap.pprev_setPprev, if_true]
    refine ⟨?_, trivial, by simp [hL'], ?_, ?_, ?_⟩
    · intro loc h1 h2; simp [h1, h2]
    · intro z hz hzy
      have : z ≠ y := fun e => hzy (by rw [e])
      simp [hz, this]
    · intro y' e _; injection e with e; subst e; simp
    · intro hyn
      have : n ≠ y := fun e => hyn (by rw [e])
      simp [this]

theorem hlistDel_frame (h : HHeap) (n : Nat) (pp : Loc) (hp : h.pprev n = some pp) :
    (∀ loc, loc ≠ pp → (hlistDel h n).read loc = h.read loc) ∧
    (hlistDel h n).read pp = h.read (.nodeNext n) ∧
    (∀ z, h.read (.nodeNext n) ≠ some z → (hlistDel h n).pprev z = h.pprev z) ∧
    (∀ y, h.read (.nodeNext n) = some y → (hlistDel h n).pprev y = some pp) := by
  unfold hlistDel
  simp only [hp, HHeap.next_eq_read]
  cases hr : h.read (.nodeNext n) with
  | none =>
    simp only [HHeap.read_write, HHeap.pprev_write, if_true]
    exact ⟨fun loc h1 => by simp [h1], hr, by simp, by simp⟩
  | some y =>
    simp only [HHeap.read_write, HHeap.read_setPprev, HHeap.pprev_write, HHeap.pprev_setPprev, if_true]
    refine ⟨fun loc h1 => by simp [h1], hr, ?_, ?_⟩
    · intro z hz
      have : z ≠ y := fun e => hz (by rw [e])
      simp [this]
    · intro y' e; injection e with e; subst e; simp

/-- `hlist_add_next(n, loc)` where `loc` is the location in which the chain through `pre` ends (the head's `first`
field, or the `next` field of the last node of `pre`) -/
theorem hlist_add_at {h : HHeap} {l n : Nat} {pre post : List Nat} (r : HList h l (pre ++ post))
    (hn : n ∉ pre ++ post) : HList (hlistAddNext h n (lastLoc (.headFirst l) pre)) l (pre ++ n :: post) := by
  refine ⟨List.perm_middle.nodup_iff.mpr (List.nodup_cons.mpr ⟨hn, r.nodup⟩), ?_⟩
  have hnpre : n ∉ pre := fun hm => hn (by simp [hm])
  have hnpost : n ∉ post := fun hm => hn (by simp [hm])
  obtain ⟨hndpre, hndpost, hdisj⟩ := List.nodup_append.mp r.nodup
  -- the location of the insertion is no `next` field of `n` or of a node behind it
  have hLn : Loc.nodeNext n ≠ lastLoc (.headFirst l) pre :=
    lastLoc_ne nofun fun x hx => nodeNext_ne fun e => hnpre (e ▸ hx)
  have hLp : ∀ y ∈ post, Loc.nodeNext y ≠ lastLoc (.headFirst l) pre := fun y hy =>
    lastLoc_ne nofun fun x hx => nodeNext_ne fun e => hdisj x hx y hy e.symm
  obtain ⟨f1, f2, f3, f4, f5, f6⟩ := hlistAddNext_frame h n (lastLoc (.headFirst l) pre) hLn.symm
  obtain ⟨cp, cs⟩ := (HChain_append h pre _ post none).mp r.chain
  -- afterwards the chain through `pre` ends in `n`; the chain through `post` starts in `n`'s `next` field
  rw [HChain_append_cons]
  refine ⟨HChain_redirect cp hndpre (fun _ _ => nofun) f2 (fun l' hne hl' => f1 l' hne ?_)
      (fun x hx => f4 x (fun e => hnpre (e ▸ hx)) (fun e => hdisj x hx x (cs.mem_of_read e) rfl)),
    f6 (fun e => hnpost (cs.mem_of_read e)),
    HChain_shift_start cs hndpost f3 (fun y e => f5 y e (fun e2 => hnpost (e2 ▸ cs.mem_of_read e)))
      (fun y hy => f1 _ (hLp y hy) (nodeNext_ne fun e => hnpost (e ▸ hy)))
      (fun y hy hne => f4 y (fun e => hnpost (e ▸ hy)) hne)⟩
  rcases hl' with rfl | ⟨x, hx, rfl⟩
  · nofun
  · exact nodeNext_ne fun e2 => hnpre (e2 ▸ hx)

/-- `hlist_add_next(n, &head->first)`: push front -/
theorem hlist_add_front {h : HHeap} {l n : Nat} {xs : List Nat} (r : HList h l xs) (hn : n ∉ xs) :
    HList (hlistAddNext h n (.headFirst l)) l (n :: xs) :=
  hlist_add_at (pre := []) r hn

/-- `hlist_add_next(n, &p->next)`: insert right after the member `p` -/
theorem hlist_add_after {h : HHeap} {l n p : Nat} {pre post : List Nat} (r : HList h l (pre ++ p :: post))
    (hn : n ∉ pre ++ p :: post) : HList (hlistAddNext h n (.nodeNext p)) l (pre ++ p :: n :: post) := by
  simpa [lastLoc_snoc] using hlist_add_at (pre := pre ++ [p]) (post := post) (by simpa using r) (by simpa using hn)

theorem hlist_del_member {h : HHeap} {l n : Nat} {pre post : List Nat} (r : HList h l (pre ++ n :: post)) :
    HList (hlistDel h n) l (pre ++ post) := by
  obtain ⟨c1, c2, c3⟩ := (HChain_append_cons h pre (.headFirst l) n post none).mp r.chain
  obtain ⟨f1, f2, f3, f4⟩ := hlistDel_frame h n _ c2
  obtain ⟨hndpre, hndpost, hdisj⟩ := List.nodup_append.mp r.nodup
  refine ⟨List.nodup_append.mpr
    ⟨hndpre, (List.nodup_cons.mp hndpost).2, fun a ha b hb => hdisj a ha b (by simp [hb])⟩, ?_⟩
  -- afterwards the chain through `pre` ends in `n`'s successor; that through `post` starts where `n`'s `pprev` pointed
  rw [HChain_append]
  exact ⟨HChain_redirect c1 hndpre (fun _ _ => nofun) rfl (fun l' hne _ => f1 l' hne)
      (fun x hx => f3 x (fun e => hdisj x hx x (List.mem_cons_of_mem _ (c3.mem_of_read e)) rfl)),
    HChain_shift_start c3 (List.nodup_cons.mp hndpost).2 f2 f4
      (fun y hy => f1 _ (lastLoc_ne nofun
        fun x hx => nodeNext_ne fun e => hdisj x hx y (List.mem_cons_of_mem _ hy) e.symm))
      (fun y _ hne => f3 y hne)⟩

/-- `hlist_del` of a node initialised with `hlist_node_init` and not linked since: no effect -/
theorem hlist_del_unlinked (h : HHeap) (n : Nat) (hp : h.pprev n = none) : hlistDel h n = h := by
  simp [hlistDel, hp]

theorem hlist_frame_add {h : HHeap} {l2 n : Nat} {ys : List Nat} (L : Loc) (r2 : HList h l2 ys)
    (hL : L ≠ .nodeNext n) (hn : n ∉ ys) (h1 : L ≠ .headFirst l2) (h2 : ∀ y ∈ ys, L ≠ .nodeNext y)
    (h3 : ∀ y ∈ ys, h.read L ≠ some y) : HList (hlistAddNext h n L) l2 ys := by
  obtain ⟨f1, _, _, f4, _, _⟩ := hlistAddNext_frame h n L hL
  refine r2.frame ?_ ?_ ?_
  · exact f1 _ (fun e => h1 e.symm) (by simp)
  · intro y hy; exact f1 _ (fun e => h2 y hy e.symm) (by intro e; injection e with e; exact hn (e ▸ hy))
  · intro y hy; exact f4 y (fun e => hn (e ▸ hy)) (h3 y hy)

theorem hlist_frame_del {h : HHeap} {l l2 n : Nat} {pre post ys : List Nat} (r : HList h l (pre ++ n :: post))
    (r2 : HList h l2 ys) (hl : l ≠ l2) (hd : ∀ y ∈ ys, y ∉ pre ++ n :: post) : HList (hlistDel h n) l2 ys := by
  obtain ⟨c1, c2, c3⟩ := (HChain_append_cons h pre (.headFirst l) n post none).mp r.chain
  obtain ⟨f1, _, f3, _⟩ := hlistDel_frame h n _ c2
  refine r2.frame (f1 _ (lastLoc_ne (fun e => hl (Loc.headFirst.inj e).symm) fun _ _ => nofun))
    (fun y hy => f1 _ (lastLoc_ne nofun fun x hx => nodeNext_ne fun e => hd y hy (by simp [e, hx])))
    (fun y hy => f3 y fun e => hd y hy (by simp [c3.mem_of_read e]))

theorem hlistHeadInit_empty (h : HHeap) (l : Nat) : HList (hlistHeadInit h l) l [] :=
  ⟨List.nodup_nil, by simp [HChain, hlistHeadInit]⟩

theorem HList.headInit_other {h : HHeap} {l q : Nat} {xs : List Nat} (r : HList h q xs) (hne : q ≠ l) :
    HList (hlistHeadInit h l) q xs := by
  have : Loc.headFirst q ≠ Loc.headFirst l := by intro e; injection e with e; exact hne e
  exact r.frame (by simp [hlistHeadInit, this]) (fun x _ => by simp [hlistHeadInit]) (fun x _ => by simp [hlistHeadInit])

end Igris.C01
