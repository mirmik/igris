/-
  C03 — slot lifetime: `LRing` (the code before the lifetime repairs), `VRing` (the code
  as it is; invariant `VRing.Good`: every slot alive, no forbidden event, ledger balanced)
  and `UArr` (`unbounded_array` members the containers do not use).
-/
import IgrisModel.C03.Typed
namespace Igris.C03
open Igris.Proto

namespace LRing
variable {α : Type}

/-- every slot holds a living object (state after construction / resize / copy) -/
def AllLive (l : LRing α) : Prop := l.live = List.replicate l.t.buf.length true

theorem mk'_allLive (dflt : α) (n : Nat) : AllLive (mk' dflt n) := by
  simp [AllLive, mk', TRing.mk']

def pushAllOrig : LRing α → List α → Option (LRing α)
  | l, [] => some l
  | l, x :: xs => (l.pushOrig x).bind fun l' => pushAllOrig l' xs

/-- on a ring whose slots all live a push constructs over a living object -/
theorem push_allLive {l : LRing α} (x : α) (h : AllLive l) (hlen : l.t.r.head.toNat < l.t.buf.length) :
    ∃ l', l.pushOrig x = some l' ∧ AllLive l' ∧ l'.overLive = l.overLive + 1 ∧
      l'.deadDtor = l.deadDtor ∧ l'.t = ⟨ringMoveHeadOne l.t.r, l.t.buf.set l.t.r.head.toNat x⟩ :=
  ⟨{ l with t := ⟨ringMoveHeadOne l.t.r, l.t.buf.set l.t.r.head.toNat x⟩,
            live := l.live.set l.t.r.head.toNat true, overLive := l.overLive + 1 },
    by simp [pushOrig, TRing.push_eq l.t x hlen, hlen, show l.live = _ from h],
    by simp only [AllLive, List.length_set, show l.live = _ from h, List.set_replicate_self],
    rfl, rfl, rfl⟩

theorem pushAll_allLive : ∀ (xs : List α) (l : LRing α), AllLive l → l.t.r.WF →
    l.t.r.size.toNat ≤ l.t.buf.length →
    ∃ l', pushAllOrig l xs = some l' ∧ AllLive l' ∧ l'.overLive = l.overLive + xs.length ∧
      l'.deadDtor = l.deadDtor
  | [], l, h, _, _ => ⟨l, rfl, h, rfl, rfl⟩
  | x :: xs, l, h, wf, hb => by
      obtain ⟨l1, e1, h1, ho, hd, et⟩ := push_allLive x h (wf.head_in_buf hb)
      obtain ⟨l2, e2, h2, ho2, hd2⟩ := pushAll_allLive xs l1 h1
        (by rw [et]; exact wf_moveHeadOne wf) (by rw [et]; simpa using hb)
      exact ⟨l2, by simp [pushAllOrig, e1, e2], h2, by rw [ho2, ho, List.length_cons]; omega,
        by rw [hd2, hd]⟩

/-- the stored elements (slots `tail … head`) hold living objects -/
def StoredLive (l : LRing α) : Prop :=
  l.live.length = l.t.buf.length ∧
  ∀ i, i < l.t.r.cnt → l.live[(l.t.r.tail.toNat + i) % l.t.r.size.toNat]? = some true

/-- read as a ring buffer, the `live` flags store `cnt` times `true` -/
theorem StoredLive.abs {l : LRing α} (hs : StoredLive l) (wf : l.t.r.WF)
    (hb : l.t.r.size.toNat ≤ l.t.buf.length) :
    Abs l.t.r l.live (List.replicate l.t.r.cnt true) :=
  ⟨wf, hs.1 ▸ hb, List.length_replicate, fun i hi => by
    rw [hs.2 i (by simpa using hi), List.getElem_replicate]⟩

theorem storedLive_of_abs {l : LRing α} {q : List Bool} (hl : l.live.length = l.t.buf.length)
    (h : Abs l.t.r l.live q) (ht : ∀ b ∈ q, b = true) : StoredLive l :=
  ⟨hl, fun i hi => by rw [h.2.2.2 i (h.2.2.1 ▸ hi), ht _ (List.getElem_mem _)]⟩

end LRing

theorem getD_replicate_true {n i : Nat} (hi : i < n) : (List.replicate n true).getD i false = true := by
  simp [List.getD_eq_getElem?_getD, hi]

theorem getD_set_false {n i : Nat} (hi : i < n) :
    ((List.replicate n true).set i false).getD i false = false := by
  simp [List.getD_eq_getElem?_getD, hi]

theorem recycle_live (n i : Nat) : ((List.replicate n true).set i false).set i true = List.replicate n true := by
  rw [List.set_set, List.set_replicate_self]

theorem deadCount_replicate (n : Nat) : LRing.deadCount (List.replicate n true) = 0 := by
  simp [LRing.deadCount]

theorem deadCount_set_false {n i : Nat} (hi : i < n) :
    LRing.deadCount ((List.replicate n true).set i false) = 1 := by
  induction n generalizing i with
  | zero => omega
  | succ n ih =>
    cases i with
    | zero => simp [LRing.deadCount, List.replicate_succ]
    | succ i =>
      have := ih (i := i) (by omega)
      simp only [LRing.deadCount, List.replicate_succ, List.set_cons_succ] at this ⊢
      simpa using this

namespace VRing
variable {α : Type}

/-- the invariant of the repaired ring; `bal`: the objects constructed so far are the
ones destroyed so far plus the ones living in the slots -/
structure Good (v : VRing α) : Prop where
  live : v.live = List.replicate v.t.buf.length true
  over : v.overLive = 0
  dead : v.deadDtor = 0
  read : v.deadRead = 0
  bal : v.ctor = v.dtor + v.t.buf.length
  wf : v.t.r.WF
  cover : v.t.r.size.toNat ≤ v.t.buf.length

theorem head_in_buf {v : VRing α} (g : Good v) : v.t.r.head.toNat < v.t.buf.length :=
  g.wf.head_in_buf g.cover

theorem tail_in_buf {v : VRing α} (g : Good v) : v.t.r.tail.toNat < v.t.buf.length :=
  g.wf.tail_in_buf g.cover

theorem recycle_good {v : VRing α} (g : Good v) {i : Nat} (hi : i < v.t.buf.length) (t' : TRing α)
    (hlen : t'.buf.length = v.t.buf.length) (wf : t'.r.WF) (hc : t'.r.size.toNat ≤ t'.buf.length) :
    Good { (v.destruct i).construct i with t := t' } ∧
      ({ (v.destruct i).construct i with t := t' } : VRing α).ctor = v.ctor + 1 ∧
      ({ (v.destruct i).construct i with t := t' } : VRing α).dtor = v.dtor + 1 := by
  refine ⟨⟨?_, ?_, ?_, ?_, ?_, wf, hc⟩, rfl, rfl⟩
  · simp only [construct, destruct, g.live, hlen]; exact recycle_live _ _
  · simp only [construct, destruct, g.live, g.over, getD_set_false hi]; rfl
  · simp only [construct, destruct, g.live, g.dead, getD_replicate_true hi]; rfl
  · exact g.read
  · simp only [construct, destruct, hlen]; have := g.bal; omega

theorem mk'_good (dflt : α) (n : Nat) (hn : n + 1 < 2 ^ 32) : Good (mk' dflt n) := by
  have ha := (TRing.mk'_abs dflt n hn).2.2
  refine ⟨?_, rfl, rfl, rfl, ?_, ha.1, ha.2.1⟩
  · simp [mk', TRing.mk']
  · simp [mk', TRing.mk']

theorem push_good {v : VRing α} (x : α) (g : Good v) :
    ∃ v', v.push x = some v' ∧ Good v' ∧ v'.ctor = v.ctor + 1 ∧ v'.dtor = v.dtor + 1 := by
  have hlen := head_in_buf g
  have ht := TRing.push_eq v.t x hlen
  obtain ⟨h1, h2, h3⟩ := recycle_good g hlen ⟨ringMoveHeadOne v.t.r, v.t.buf.set v.t.r.head.toNat x⟩
    (by simp) (wf_moveHeadOne g.wf) (by simpa using g.cover)
  exact ⟨_, by simp only [push, ht], h1, h2, h3⟩

/-- the repaired throwing push: destroy, value-construct in the same slot, nothing else -/
theorem pushThrow_good {v : VRing α} (d : α) (g : Good v) :
    ∃ v', v.pushThrow d = some v' ∧ Good v' ∧ v'.t.r = v.t.r ∧
      v'.t.buf = v.t.buf.set v.t.r.head.toNat d ∧ v'.ctor = v.ctor + 1 ∧ v'.dtor = v.dtor + 1 := by
  have hlen := head_in_buf g
  obtain ⟨h1, h2, h3⟩ := recycle_good g hlen ⟨v.t.r, v.t.buf.set v.t.r.head.toNat d⟩
    (by simp) g.wf (by simpa using g.cover)
  exact ⟨_, by simp only [pushThrow, poke, hlen, if_true], h1, rfl, rfl, h2, h3⟩

theorem pop_good {v : VRing α} (d : α) (g : Good v) :
    ∃ v', v.pop d = some v' ∧ Good v' ∧ v'.ctor = v.ctor + 1 ∧ v'.dtor = v.dtor + 1 := by
  have hlen := tail_in_buf g
  have ht := TRing.pop_eq v.t d hlen
  obtain ⟨h1, h2, h3⟩ := recycle_good g hlen ⟨ringMoveTailOne v.t.r, v.t.buf.set v.t.r.tail.toNat d⟩
    (by simp) (wf_moveTailOne g.wf) (by simpa using g.cover)
  exact ⟨_, by simp only [pop, ht], h1, h2, h3⟩

theorem clear_good (d : α) : ∀ (fuel : Nat) {v : VRing α}, Good v →
    ∃ v', clear d fuel v = some v' ∧ Good v'
  | 0, v, g => ⟨v, rfl, g⟩
  | fuel + 1, v, g => by
      unfold clear
      split
      · exact ⟨v, rfl, g⟩
      · obtain ⟨v1, e1, g1, -, -⟩ := pop_good d g
        obtain ⟨v2, e2, g2⟩ := clear_good d fuel g1
        exact ⟨v2, by simp only [e1, e2], g2⟩

/-- `invalidate()` on a ring whose slots all live: every object is destroyed, once -/
theorem invalidate_good {v : VRing α} (g : Good v) :
    v.invalidate.overLive = 0 ∧ v.invalidate.deadDtor = 0 ∧ v.invalidate.deadRead = 0 ∧
    v.invalidate.ctor = v.invalidate.dtor ∧ (∀ b ∈ v.invalidate.live, b = false) := by
  refine ⟨g.over, ?_, g.read, ?_, ?_⟩
  · simp only [invalidate, g.live, g.dead, deadCount_replicate]
  · simp only [invalidate, g.live, List.length_replicate]; exact g.bal
  · intro b hb
    simp only [invalidate, List.mem_map] at hb
    obtain ⟨_, _, rfl⟩ := hb
    rfl

theorem resize_good (dflt : α) {v : VRing α} (g : Good v) (sz : Nat) (hn : sz + 1 < 2 ^ 32) :
    Good (v.resize dflt sz) := by
  obtain ⟨-, hl, ha⟩ := TRing.resize_abs dflt v.t sz hn
  obtain ⟨_, hd, _, hb, _⟩ := invalidate_good g
  refine ⟨?_, g.over, hd, g.read, ?_, ha.1, ha.2.1⟩
  · simp only [resize]; rw [hl]
  · simp only [resize]; rw [hl]; omega

/-- a new array of `size` elements, each copy-constructed from the slot of `v` (copy
construction, copy assignment after destroying `k` old elements of the target), `v` destroyed -/
theorem fresh_good {v : VRing α} (g : Good v) (t' : TRing α) (hr : t'.r = v.t.r)
    (hl : t'.buf.length = v.t.buf.length) (k : Nat) :
    Good { v.invalidate with t := t', live := List.replicate v.t.buf.length true,
                             ctor := v.invalidate.ctor + k + v.t.buf.length,
                             dtor := v.invalidate.dtor + k,
                             deadRead := v.deadRead + LRing.deadCount v.live } := by
  obtain ⟨_, hd, _, hb, _⟩ := invalidate_good g
  refine ⟨by rw [hl], g.over, hd, ?_, ?_, hr ▸ g.wf, by rw [hr, hl]; exact g.cover⟩
  · simp only [g.read, g.live, deadCount_replicate]
  · show v.invalidate.ctor + k + v.t.buf.length = v.invalidate.dtor + k + t'.buf.length
    rw [hl]; omega

theorem copy_good (dflt : α) {v : VRing α} (g : Good v) : Good (v.copyAndDrop dflt) :=
  fresh_good g (TRing.copy dflt v.t) rfl (by simp [TRing.copy, arrCopy_eq]) 0

theorem pushSelf_good {v : VRing α} (g : Good v) : Good v.pushSelf :=
  ⟨g.live, g.over, g.dead, g.read, g.bal, wf_moveHeadOne g.wf, g.cover⟩

theorem assign_good (dflt : α) {v : VRing α} (g : Good v) (m : Nat) : Good (v.assignAndDrop dflt m) :=
  fresh_good g (TRing.assign (TRing.mk' dflt m) v.t) rfl (by simp [TRing.assign]) (m + 1)

theorem move_good {v : VRing α} (g : Good v) : Good v.moveAndDrop :=
  ⟨g.live, g.over, g.dead, g.read, g.bal, g.wf, g.cover⟩

/-- what a `push` whose copy constructor throws leaves behind -/
theorem pushThrowOrig_spec {v : VRing α} (g : Good v) :
    ∃ v', v.pushThrowOrig = some v' ∧ v'.t = v.t ∧
      v'.live = (List.replicate v.t.buf.length true).set v.t.r.head.toNat false ∧
      v'.overLive = 0 ∧ v'.deadDtor = 0 ∧ v'.deadRead = 0 ∧
      v'.ctor = v.ctor ∧ v'.dtor = v.dtor + 1 := by
  have hlen := head_in_buf g
  simp only [pushThrowOrig, hlen, if_true]
  refine ⟨_, rfl, rfl, ?_, g.over, ?_, g.read, rfl, rfl⟩
  · simp only [destruct, g.live]
  · simp only [destruct, g.live, g.dead, getD_replicate_true hlen]; rfl

/-- … and what happens to the dead slot afterwards: at scope exit, or at the next push -/
theorem pushThrowOrig_after {v v' : VRing α} (g : Good v) (e : v.pushThrowOrig = some v') (x : α) :
    v'.destroy.deadDtor = 1 ∧ v'.destroy.dtor = v'.destroy.ctor + 1 ∧
    ∃ v'', v'.push x = some v'' ∧ v''.deadDtor = 1 ∧ v''.overLive = 0 ∧
      v''.live = List.replicate v''.t.buf.length true ∧ v.t.push x = some v''.t := by
  have hlen := head_in_buf g
  have e' : v' = v.destruct v.t.r.head.toNat := by
    simp only [pushThrowOrig, hlen, if_true, Option.some.injEq] at e; exact e.symm
  subst e'
  refine ⟨?_, ?_, ?_⟩
  · simp only [destroy, invalidate, destruct, g.live, g.dead, getD_replicate_true hlen,
      deadCount_set_false hlen]; rfl
  · simp only [destroy, invalidate, destruct, g.live, List.length_set, List.length_replicate]
    have := g.bal; omega
  · have ht := TRing.push_eq v.t x hlen
    simp only [push, destruct, ht]
    refine ⟨_, rfl, ?_, ?_, ?_, rfl⟩
    · simp only [construct, g.live, g.dead, getD_replicate_true hlen, getD_set_false hlen]; rfl
    · simp only [construct, g.live, g.over, List.set_set, getD_set_false hlen]; rfl
    · simp only [construct, g.live, List.set_set, List.length_set]
      exact List.set_replicate_self

end VRing

/-- admissible scripts: `resize(sz)` with `sz + 1` representable in `unsigned` -/
def VOp.ok {α : Type} : VOp α → Prop
  | .resize sz => sz + 1 < 2 ^ 32
  | _ => True

theorem VRing.step_good {α : Type} (dflt : α) {v : VRing α} (g : VRing.Good v) (op : VOp α) (hok : op.ok) :
    ∃ v', VRing.step dflt v op = some v' ∧ VRing.Good v' := by
  cases op with
  | push x => obtain ⟨v', e, g', -, -⟩ := VRing.push_good x g; exact ⟨v', e, g'⟩
  | pushSelf => exact ⟨_, rfl, VRing.pushSelf_good g⟩
  | pop => obtain ⟨v', e, g', -, -⟩ := VRing.pop_good dflt g; exact ⟨v', e, g'⟩
  | clear => exact VRing.clear_good dflt _ g
  | resize sz => exact ⟨_, rfl, VRing.resize_good dflt g sz hok⟩
  | copy => exact ⟨_, rfl, VRing.copy_good dflt g⟩
  | move => exact ⟨_, rfl, VRing.move_good g⟩
  | assign m => exact ⟨_, rfl, VRing.assign_good dflt g m⟩
  | pushThrow => obtain ⟨v', e, g', -⟩ := VRing.pushThrow_good dflt g; exact ⟨v', e, g'⟩

theorem VRing.run_good {α : Type} (dflt : α) : ∀ (ops : List (VOp α)) {v : VRing α}, VRing.Good v →
    (∀ op ∈ ops, op.ok) → ∃ v', VRing.run dflt v ops = some v' ∧ VRing.Good v'
  | [], v, g, _ => ⟨v, rfl, g⟩
  | op :: ops, v, g, hok => by
      obtain ⟨v1, e1, g1⟩ := VRing.step_good dflt g op (hok op (by simp))
      obtain ⟨v2, e2, g2⟩ := VRing.run_good dflt ops g1 (fun o ho => hok o (by simp [ho]))
      exact ⟨v2, by simp [VRing.run, e1, e2], g2⟩

namespace UArr
variable {α : Type}

/-- the invariant of `unbounded_array` between calls, as `VRing.Good`: every element alive, no forbidden
event, ledger balanced -/
structure Good (a : UArr α) : Prop where
  live : a.live = List.replicate a.data.length true
  dead : a.deadDtor = 0
  asg : a.deadAssign = 0
  bal : a.ctor = a.dtor + a.data.length

theorem mk'_good (dflt : α) (sz : Nat) : Good (mk' dflt sz) :=
  ⟨by simp [mk'], rfl, rfl, by simp [mk']⟩

theorem fillLoop_spec (val : α) : ∀ (fuel it : Nat) (a : UArr α), Good a → it ≤ a.data.length →
    a.data.length - it ≤ fuel →
    ∃ a', fillLoop val fuel it a = some a' ∧ Good a' ∧
      a'.data = a.data.take it ++ List.replicate (a.data.length - it) val ∧
      a'.ctor = a.ctor ∧ a'.dtor = a.dtor
  | 0, it, a, g, h1, h2 => by
      have : it = a.data.length := by omega
      refine ⟨a, by simp [fillLoop, iterEnd, this], g, ?_, rfl, rfl⟩
      simp [this]
  | fuel + 1, it, a, g, h1, h2 => by
      unfold fillLoop
      by_cases h : it = a.iterEnd
      · have h' : it = a.data.length := h
        refine ⟨a, by simp [h], g, ?_, rfl, rfl⟩
        simp [h']
      · have hlt : it < a.data.length := by simp only [iterEnd] at h; omega
        simp only [h, if_false, poke, hlt, if_true]
        have g' : Good (⟨a.data.set it val, a.live, a.ctor, a.dtor, a.deadDtor,
            a.deadAssign + (if a.live.getD it false then 0 else 1)⟩ : UArr α) := by
          refine ⟨by simpa using g.live, g.dead, ?_, by simpa using g.bal⟩
          simp only [g.live, g.asg, getD_replicate_true hlt]; rfl
        obtain ⟨a', e, ga, hd, hc, hdt⟩ := fillLoop_spec val fuel (it + 1) _ g'
          (by simp only [List.length_set]; omega) (by simp only [List.length_set]; omega)
        refine ⟨a', e, ga, ?_, hc, hdt⟩
        rw [hd]
        simp only [List.length_set]
        have hsplit : a.data.length - it = (a.data.length - (it + 1)) + 1 := by omega
        rw [hsplit, List.replicate_succ, List.take_add_one, List.take_set_of_le (Nat.le_refl _)]
        simp [hlt, List.append_assoc]

theorem invalidate_good {a : UArr α} (g : Good a) :
    a.invalidate.deadDtor = 0 ∧ a.invalidate.dtor = a.dtor + a.data.length ∧
    a.invalidate.ctor = a.invalidate.dtor ∧ Good a.invalidate := by
  have hd : a.invalidate.deadDtor = 0 := by
    simp only [invalidate, g.live, g.dead, deadCount_replicate]
  have ht : a.invalidate.dtor = a.dtor + a.data.length := by
    simp only [invalidate, g.live, List.length_replicate]
  have hb : a.invalidate.ctor = a.invalidate.dtor := g.bal.trans ht.symm
  exact ⟨hd, ht, hb, ⟨rfl, hd, g.asg, by simpa [invalidate] using hb⟩⟩

end UArr
end Igris.C03
