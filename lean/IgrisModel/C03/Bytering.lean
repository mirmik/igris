/-
  C03 — bytering.h: the pointer ring is mapped onto the index ring of ring.h
  (`ByteRing.toRing`: offsets from `start`, roles of head and tail exchanged) and the
  ring.h lemmas are reused.
-/
import IgrisModel.C03.Lemmas
namespace Igris.C03
open Igris.Proto

/-- the index ring a pointer ring corresponds to: offsets from `start`; the
write side of bytering is `tail`, the read side `head` -/
def ByteRing.toRing (b : ByteRing) : RingHead :=
  { head := BitVec.ofNat 32 (b.tail - b.start), tail := BitVec.ofNat 32 (b.head - b.start),
    size := BitVec.ofNat 32 (b.end_ - b.start) }

/-- pointer invariant: `head, tail ∈ [start, end)`, block of fewer than 2^32 bytes
(`bytering_init` takes an `unsigned int` size) -/
structure ByteRing.WF (b : ByteRing) : Prop where
  h1 : b.start ≤ b.head
  h2 : b.head < b.end_
  t1 : b.start ≤ b.tail
  t2 : b.tail < b.end_
  sz : b.end_ - b.start < 2 ^ 32

theorem RingHead.ext_toNat {a b : RingHead} (h1 : a.head.toNat = b.head.toNat)
    (h2 : a.tail.toNat = b.tail.toNat) (h3 : a.size.toNat = b.size.toNat) : a = b := by
  cases a; cases b
  simp only [RingHead.mk.injEq]
  exact ⟨BitVec.eq_of_toNat_eq h1, BitVec.eq_of_toNat_eq h2, BitVec.eq_of_toNat_eq h3⟩

section
variable {b : ByteRing}

theorem toRing_head (h : b.WF) : b.toRing.head.toNat = b.tail - b.start := by
  have := h.sz; have := h.t2
  simp only [ByteRing.toRing, BitVec.toNat_ofNat]; omega

theorem toRing_tail (h : b.WF) : b.toRing.tail.toNat = b.head - b.start := by
  have := h.sz; have := h.h2
  simp only [ByteRing.toRing, BitVec.toNat_ofNat]; omega

theorem toRing_size (h : b.WF) : b.toRing.size.toNat = b.end_ - b.start := by
  have := h.sz
  simp only [ByteRing.toRing, BitVec.toNat_ofNat]; omega

theorem toRing_wf (h : b.WF) : b.toRing.WF := by
  unfold RingHead.WF
  rw [toRing_head h, toRing_tail h, toRing_size h]
  have := h.h1; have := h.h2; have := h.t1; have := h.t2
  omega

theorem brEmpty_eq (h : b.WF) : brEmpty b = ringEmpty b.toRing := by
  have := h.h1; have := h.t1
  refine Bool.eq_iff_iff.2 ?_
  rw [empty_iff, toRing_head h, toRing_tail h, brEmpty, beq_iff_eq]; omega

theorem brFull_eq (h : b.WF) : brFull b = ringFull b.toRing := by
  refine Bool.eq_iff_iff.2 ?_
  rw [full_iff_cnt _ (toRing_wf h), RingHead.cnt, toRing_head h, toRing_tail h, toRing_size h]
  -- pointers as offsets from `start`, so that no truncated subtraction is left
  obtain ⟨st, hd, tl, en⟩ := b
  obtain ⟨h1, h2, t1, t2, -⟩ := h
  dsimp only at h1 h2 t1 t2 ⊢
  obtain ⟨a, rfl⟩ := Nat.exists_eq_add_of_le h1
  obtain ⟨c, rfl⟩ := Nat.exists_eq_add_of_le t1
  obtain ⟨s, rfl⟩ := Nat.exists_eq_add_of_le (Nat.le_of_lt (Nat.lt_of_le_of_lt h1 h2))
  simp only [Nat.add_sub_cancel_left]
  rw [← full_nat (by omega) (by omega)]
  simp only [brFull, beq_iff_eq, Nat.add_eq_left]
  split <;> omega

theorem brFixup_sub {p : Nat} (hp1 : b.start ≤ p) (hp2 : p < b.end_) :
    brFixup b (p + 1) - b.start = (p - b.start + 1) % (b.end_ - b.start) ∧
    b.start ≤ brFixup b (p + 1) ∧ brFixup b (p + 1) < b.end_ := by
  obtain ⟨a, rfl⟩ := Nat.exists_eq_add_of_le hp1
  obtain ⟨s, hs⟩ := Nat.exists_eq_add_of_le (Nat.le_of_lt (Nat.lt_of_le_of_lt hp1 hp2))
  rw [brFixup, hs, Nat.add_sub_cancel_left, Nat.add_sub_cancel_left, mod_wrap (by omega)]
  split <;> split <;> omega

theorem toRing_pushAdvance (h : b.WF) :
    ({ b with tail := brFixup b (b.tail + 1) } : ByteRing).WF ∧
    ({ b with tail := brFixup b (b.tail + 1) } : ByteRing).toRing = ringMoveHeadOne b.toRing := by
  obtain ⟨e1, e2, e3⟩ := brFixup_sub h.t1 h.t2
  have wf' : ({ b with tail := brFixup b (b.tail + 1) } : ByteRing).WF :=
    ⟨h.h1, h.h2, e2, e3, h.sz⟩
  refine ⟨wf', RingHead.ext_toNat ?_ ?_ ?_⟩
  · rw [toRing_head wf', moveHeadOne_head _ (toRing_wf h).1, toRing_head h, toRing_size h]; exact e1
  · rw [toRing_tail wf', moveHeadOne_tail, toRing_tail h]
  · rw [toRing_size wf', moveHeadOne_size, toRing_size h]

theorem toRing_popAdvance (h : b.WF) :
    ({ b with head := brFixup b (b.head + 1) } : ByteRing).WF ∧
    ({ b with head := brFixup b (b.head + 1) } : ByteRing).toRing = ringMoveTailOne b.toRing := by
  obtain ⟨e1, e2, e3⟩ := brFixup_sub h.h1 h.h2
  have wf' : ({ b with head := brFixup b (b.head + 1) } : ByteRing).WF :=
    ⟨e2, e3, h.t1, h.t2, h.sz⟩
  refine ⟨wf', RingHead.ext_toNat ?_ ?_ ?_⟩
  · rw [toRing_head wf', moveTailOne_head, toRing_head h]
  · rw [toRing_tail wf', moveTailOne_tail _ (toRing_wf h).2, toRing_tail h, toRing_size h]; exact e1
  · rw [toRing_size wf', moveTailOne_size, toRing_size h]

end

/-- `BAbs b mem q`: the pointer ring `b` over the block `mem` stores exactly the
queue `q`, oldest first. -/
def BAbs (b : ByteRing) (mem : List Byte) (q : List Byte) : Prop :=
  b.WF ∧ Abs b.toRing mem q

theorem babs_init (buf size : Nat) (mem : List Byte) (hs : 0 < size) (hS : size < 2 ^ 32)
    (hm : size ≤ mem.length) : BAbs (brInit buf size) mem [] := by
  have wf : (brInit buf size).WF := by
    refine ⟨?_, ?_, ?_, ?_, ?_⟩ <;> simp only [brInit] <;> omega
  have e : (brInit buf size).toRing = ringInit (BitVec.ofNat 32 size) := by
    simp [ByteRing.toRing, brInit, ringInit]
  exact ⟨wf, e ▸ (abs_init_ofNat mem hs hS hm).2⟩

theorem babs_cap {b : ByteRing} {mem q : List Byte} (h : BAbs b mem q) :
    q.length ≤ b.end_ - b.start - 1 := by
  have := h.2.len_lt
  rw [toRing_size h.1] at this; omega

theorem babs_push {b : ByteRing} {mem q : List Byte} (c : Byte) (h : BAbs b mem q)
    (hroom : q.length < b.end_ - b.start - 1) :
    brPush b mem c = some ({ b with tail := brFixup b (b.tail + 1) }, mem.set (b.tail - b.start) c, 0) ∧
    brPushNocheck b mem c = some ({ b with tail := brFixup b (b.tail + 1) }, mem.set (b.tail - b.start) c) ∧
    BAbs { b with tail := brFixup b (b.tail + 1) } (mem.set (b.tail - b.start) c) (q ++ [c]) := by
  obtain ⟨wf, ha⟩ := h
  have hroom' : q.length < b.toRing.size.toNat - 1 := by rw [toRing_size wf]; exact hroom
  have hnf : brFull b = false := by rw [brFull_eq wf]; exact abs_not_full ha hroom'
  obtain ⟨wf', e'⟩ := toRing_pushAdvance wf
  have hlen : b.tail - b.start < mem.length := by
    have := ha.2.1; rw [toRing_size wf] at this; have := wf.t2; omega
  have hnc : brPushNocheckWith brFixup b mem c =
      some ({ b with tail := brFixup b (b.tail + 1) }, mem.set (b.tail - b.start) c) := by
    simp only [brPushNocheckWith, brStore, poke, hlen, if_true, if_neg (Nat.not_lt.2 wf.t1)]
  refine ⟨by simp only [brPush, brPushWith, hnf, hnc, Option.map_some, Bool.false_eq_true, if_false],
    hnc, wf', ?_⟩
  rw [e', ← toRing_head wf]; exact (abs_putc c ha hroom').2

theorem babs_push_full {b : ByteRing} {mem q : List Byte} (c : Byte) (h : BAbs b mem q)
    (hfull : q.length = b.end_ - b.start - 1) : brPush b mem c = some (b, mem, -1) := by
  obtain ⟨wf, ha⟩ := h
  have : brFull b = true := by
    rw [brFull_eq wf]; exact abs_full ha (by rw [toRing_size wf]; exact hfull)
  simp [brPush, brPushWith, this]

theorem babs_pop {b : ByteRing} {mem : List Byte} {x : Byte} {q : List Byte} (h : BAbs b mem (x :: q)) :
    brPop b mem = some ({ b with head := brFixup b (b.head + 1) }, (x.toNat : Int)) ∧
    brPopNocheck b mem = some ({ b with head := brFixup b (b.head + 1) }, (x.toNat : Int)) ∧
    BAbs { b with head := brFixup b (b.head + 1) } mem q := by
  obtain ⟨wf, ha⟩ := h
  obtain ⟨hx, ha'⟩ := abs_moveTailOne ha
  have hne : brEmpty b = false := by rw [brEmpty_eq wf]; exact abs_nonempty ha (List.cons_ne_nil _ _)
  obtain ⟨wf', e'⟩ := toRing_popAdvance wf
  rw [toRing_tail wf] at hx
  have hnc : brPopNocheckWith brFixup b mem =
      some ({ b with head := brFixup b (b.head + 1) }, (x.toNat : Int)) := by
    simp only [brPopNocheckWith, brLoad, if_neg (Nat.not_lt.2 wf.h1), hx]
  exact ⟨by simp only [brPop, brPopWith, hne, hnc, Bool.false_eq_true, if_false], hnc, wf',
    by rw [e']; exact ha'⟩

theorem babs_pop_empty {b : ByteRing} {mem : List Byte} (h : BAbs b mem []) :
    brPop b mem = some (b, -1) := by
  obtain ⟨wf, ha⟩ := h
  have : brEmpty b = true := by rw [brEmpty_eq wf]; exact abs_empty ha
  simp [brPop, brPopWith, this]

/-- reference: bounded FIFO of capacity `cap`; push answers 0 / −1, pop the byte / −1 -/
def specB (cap : Nat) (q : List Byte) : BOp → List Byte × Int
  | .push c => if q.length < cap then (q ++ [c], 0) else (q, -1)
  | .pop =>
    match q with
    | [] => ([], -1)
    | x :: t => (t, (x.toNat : Int))

def runSpecB (cap : Nat) : List Byte → List BOp → List Byte × List Int
  | q, [] => (q, [])
  | q, op :: ops =>
    let (q', o) := specB cap q op
    let (q'', os) := runSpecB cap q' ops
    (q'', o :: os)

/-- bytes accepted by a push (answer 0) / delivered by a pop (answer ≠ −1) -/
def acceptedB : BOp → Int → List Byte
  | .push c, o => if o == 0 then [c] else []
  | .pop, _ => []

def deliveredB : BOp → Int → List Byte
  | .pop, o => if o == -1 then [] else [BitVec.ofInt 8 o]
  | .push _, _ => []

def acceptedAllB : List BOp → List Int → List Byte
  | op :: ops, o :: os => acceptedB op o ++ acceptedAllB ops os
  | _, _ => []

def deliveredAllB : List BOp → List Int → List Byte
  | op :: ops, o :: os => deliveredB op o ++ deliveredAllB ops os
  | _, _ => []

theorem stepB_sound {b : ByteRing} {mem q q1 : List Byte} {o : Int} (h : BAbs b mem q) (op : BOp)
    (e : specB (b.end_ - b.start - 1) q op = (q1, o)) :
    (∃ b' mem', stepB b mem op = some (b', mem', o) ∧ b'.start = b.start ∧ b'.end_ = b.end_ ∧
      mem'.length = mem.length ∧ BAbs b' mem' q1) ∧
    q ++ acceptedB op o = deliveredB op o ++ q1 := by
  cases op with
  | push c =>
    simp only [specB] at e
    split at e <;> cases e
    · rename_i hr
      obtain ⟨e, -, ha⟩ := babs_push c h hr
      exact ⟨⟨{ b with tail := brFixup b (b.tail + 1) }, _, by simp [stepB, e], rfl, rfl, List.length_set ..,
        ha⟩, by simp [acceptedB, deliveredB]⟩
    · have hf : q.length = b.end_ - b.start - 1 := by have := babs_cap h; omega
      exact ⟨⟨b, mem, by simp [stepB, babs_push_full c h hf], rfl, rfl, rfl, h⟩,
        by simp [acceptedB, deliveredB]⟩
  | pop =>
    cases q with
    | nil => cases e; exact ⟨⟨b, mem, by simp [stepB, babs_pop_empty h], rfl, rfl, rfl, h⟩,
        by simp [acceptedB, deliveredB]⟩
    | cons x q =>
      cases e
      obtain ⟨e, -, ha⟩ := babs_pop h
      exact ⟨⟨{ b with head := brFixup b (b.head + 1) }, mem, by simp [stepB, e], rfl, rfl, rfl, ha⟩,
        by simp [acceptedB, deliveredB, toNat_beq_neg_one]⟩

theorem runB_sound : ∀ (ops : List BOp) {b : ByteRing} {mem q q' : List Byte} {outs : List Int},
    BAbs b mem q → runSpecB (b.end_ - b.start - 1) q ops = (q', outs) →
    ∃ b' mem', runB b mem ops = some (b', mem', outs) ∧ b'.start = b.start ∧ b'.end_ = b.end_ ∧
      mem'.length = mem.length ∧ BAbs b' mem' q' ∧
      q ++ acceptedAllB ops outs = deliveredAllB ops outs ++ q'
  | [], b, mem, q, q', outs, h, hs => by
      cases hs
      exact ⟨b, mem, rfl, rfl, rfl, rfl, h, by simp [acceptedAllB, deliveredAllB]⟩
  | op :: ops, b, mem, q, q', outs, h, hs => by
      rcases hsp : specB (b.end_ - b.start - 1) q op with ⟨q1, o⟩
      rcases hr : runSpecB (b.end_ - b.start - 1) q1 ops with ⟨q2, os⟩
      simp only [runSpecB, hsp, hr] at hs
      cases hs
      obtain ⟨⟨b1, m1, e1, hs1, he1, hl1, h1⟩, c1⟩ := stepB_sound h op hsp
      rw [← hs1, ← he1] at hr
      obtain ⟨b2, m2, e2, hs2, he2, hl2, h2, c2⟩ := runB_sound ops h1 hr
      exact ⟨b2, m2, by simp only [runB, e1, e2], hs2.trans hs1, he2.trans he1, hl2.trans hl1, h2,
        ledger_trans c1 c2⟩

/-- `bytering_pop` / `bytering_push` with the pointer fix-up and the full test as found, for the witness -/
def brPopOrig := brPopWith brFixupOrig
def brPushOrig := brPushWith brFullOrig brFixupOrig
/-- `__bytering_fixup` repaired, `bytering_full` as found -/
def brPushOrig2 := brPushWith brFullOrig brFixup

end Igris.C03
