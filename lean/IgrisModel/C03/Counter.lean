/-
  C03 — `ring_counter` (the fix-up loops compute `mod`; the `int`-checked versions agree
  with them inside `int`) and `cyclic_buffer` (invariant `CInv`: the `k`-th previous
  sample sits in slot `cprev n counter k`).
-/
import IgrisModel.C03.Lemmas
namespace Igris.C03
open Igris.Proto

/-! ### ring_counter -/

theorem rcDown_spec (size : Int) (hs : 0 < size) : ∀ (fuel : Nat) (x : Int), x.toNat ≤ fuel →
    0 ≤ x → rcDown size fuel x = x % size
  | 0, x, h, h0 => by
      have : x = 0 := by omega
      simp [rcDown, this]
  | fuel + 1, x, h, h0 => by
      unfold rcDown
      split
      · rw [rcDown_spec size hs fuel (x - size) (by omega) (by omega), Int.sub_emod_right]
      · rw [Int.emod_eq_of_lt h0 (by omega)]

theorem rcDown_of_lt (size : Int) : ∀ (fuel : Nat) (x : Int), x < size → rcDown size fuel x = x
  | 0, _, _ => rfl
  | fuel + 1, x, h => by unfold rcDown; rw [if_neg (by omega)]

theorem rcUp_spec (size : Int) (hs : 0 < size) : ∀ (fuel : Nat) (x : Int), (-x).toNat ≤ fuel →
    x < size → rcUp size fuel x = x % size
  | 0, x, h, h1 => by
      have : 0 ≤ x := by omega
      simp only [rcUp]; rw [Int.emod_eq_of_lt this h1]
  | fuel + 1, x, h, h1 => by
      unfold rcUp
      split
      · rw [rcUp_spec size hs fuel (x + size) (by omega) (by omega), Int.add_emod_right]
      · rw [Int.emod_eq_of_lt (by omega) h1]

theorem rcFixupPos_eq (rc : RingCounter) (hs : 0 < rc.size) (pos : Int) :
    rcFixupPos rc pos = pos % rc.size := by
  unfold rcFixupPos
  by_cases h0 : 0 ≤ pos
  · have e := rcDown_spec rc.size hs pos.toNat pos (Nat.le_refl _) h0
    have h1 := Int.emod_nonneg pos (Int.ne_of_gt hs)
    have h2 := Int.emod_lt_of_pos pos hs
    simp only [e]
    rw [rcUp_spec rc.size hs _ _ (Nat.le_refl _) h2, Int.emod_emod_of_dvd _ (Int.dvd_refl _)]
  · have e := rcDown_of_lt rc.size pos.toNat pos (by omega)
    simp only [e]
    exact rcUp_spec rc.size hs _ _ (Nat.le_refl _) (by omega)

/-- the hypothesis holds for every `i ≥ 0` when `counter < size` -/
theorem rcPrev_eq (rc : RingCounter) (hs : 0 < rc.size) (i : Int) (h : rc.counter - i < rc.size) :
    rcPrev rc i = (rc.counter - i) % rc.size := by
  unfold rcPrev
  exact rcUp_spec rc.size hs _ _ (Nat.le_refl _) h

theorem rcPrev_of_nonneg (rc : RingCounter) (i : Int) (h : 0 ≤ rc.counter - i) :
    rcPrev rc i = rc.counter - i := by
  rw [rcPrev, show (-(rc.counter - i)).toNat = 0 by omega]; rfl

theorem rcLast_eq (rc : RingCounter) (hs : 0 < rc.size) (no : Int) :
    rcLast rc no = (rc.counter - no) % rc.size := rcFixupPos_eq rc hs _

theorem rcIncrement_eq (rc : RingCounter) (hs : 0 < rc.size) (a : Int) (h : 0 ≤ rc.counter + a) :
    (rcIncrement rc a).counter = (rc.counter + a) % rc.size ∧ (rcIncrement rc a).size = rc.size := by
  unfold rcIncrement rcFixup
  exact ⟨rcDown_spec rc.size hs _ _ (Nat.le_refl _) h, rfl⟩

theorem rcSet_eq (rc : RingCounter) (hs : 0 < rc.size) (v : Int) (h : 0 ≤ v) :
    (rcSet rc v).counter = v % rc.size ∧ (rcSet rc v).size = rc.size := by
  unfold rcSet rcFixup
  exact ⟨rcDown_spec rc.size hs _ _ (Nat.le_refl _) h, rfl⟩

/-! ### ring_counter: the `int`-checked functions -/

theorem rcDown_inInt (size : Int) (hs : 0 < size) : ∀ (fuel : Nat) (x : Int), inInt x →
    inInt (rcDown size fuel x)
  | 0, x, h => h
  | fuel + 1, x, h => by
      unfold rcDown
      split
      · exact rcDown_inInt size hs fuel _ (by unfold inInt at *; omega)
      · exact h

theorem rcDownC_eq (size : Int) (hs : 0 < size) : ∀ (fuel : Nat) (x : Int), inInt x →
    rcDownC size fuel x = some (rcDown size fuel x)
  | 0, x, _ => rfl
  | fuel + 1, x, h => by
      unfold rcDownC rcDown
      split
      · have h' : inInt (x - size) := by unfold inInt at *; omega
        simp only [ckInt, h', if_true, Option.bind_some]
        exact rcDownC_eq size hs fuel _ h'
      · rfl

theorem rcUpC_eq (size : Int) (hs : 0 < size) (hsI : inInt size) : ∀ (fuel : Nat) (x : Int), inInt x →
    rcUpC size fuel x = some (rcUp size fuel x)
  | 0, x, _ => rfl
  | fuel + 1, x, h => by
      unfold rcUpC rcUp
      split
      · have h' : inInt (x + size) := by unfold inInt at *; omega
        simp only [ckInt, h', if_true, Option.bind_some]
        exact rcUpC_eq size hs hsI fuel _ h'
      · rfl

/-! ### cyclic_buffer -/

theorem cprev_next {n c k : Nat} (hc : c < n) (hk : k + 1 < n) :
    cprev n ((c + 1) % n) (k + 1) = cprev n c k :=
  cprev_unique (Nat.mod_lt _ (by omega)) (Nat.le_of_lt hk) (cprev_lt hc (by omega))
    (by rw [← Nat.add_assoc, ← Nat.mod_add_mod, cprev_add hc (by omega)])

/-- a push overwrites none of the `n − 1` newest samples -/
theorem cprev_next_ne {n c k : Nat} (hc : c < n) (hk : k + 1 < n) :
    cprev n c k ≠ (c + 1) % n := fun e => by
  have h := cprev_add hc (k := k) (by omega)
  rw [e, Nat.mod_add_mod, Nat.add_assoc] at h
  have := slot_inj (S := n) (p := c) (i := 1 + k) (j := 0) (by omega) (by omega)
    (by rw [h, Nat.add_zero, Nat.mod_eq_of_lt hc])
  omega

/-- … it overwrites the oldest: the sample `n − 1` back sits in the slot the push writes -/
theorem cprev_last {n c : Nat} (hc : c < n) : cprev n c (n - 1) = (c + 1) % n :=
  cprev_unique hc (by omega) (Nat.mod_lt _ (by omega))
    (by rw [Nat.mod_add_mod, Nat.add_assoc, Nat.add_sub_cancel' (by omega), Nat.add_mod_right,
      Nat.mod_eq_of_lt hc])

/-- `CInv c n log`: `c` is a cyclic buffer of `n` slots into which the samples `log` (oldest first) have
been pushed since construction / `resize` -/
structure CInv {α : Type} (c : Cyclic α) (n : Nat) (log : List α) : Prop where
  pos : 0 < n
  len : c.data.length = n
  sz : c.counter.size = (n : Int)
  cnt : ∃ k : Nat, c.counter.counter = (k : Int) ∧ k < n
  fill : c.fill = min log.length n
  content : ∀ k (hk : k < log.length), k < n →
    c.data[cprev n c.counter.counter.toNat k]? = some log[log.length - 1 - k]

variable {α : Type}

theorem cinv_mk' (dflt : α) (n : Nat) (hn : 0 < n) : CInv (Cyclic.mk' dflt n) n [] := by
  refine ⟨hn, by simp [Cyclic.mk'], by simp [Cyclic.mk', rcInit], ⟨0, by simp [Cyclic.mk', rcInit], hn⟩,
    by simp [Cyclic.mk'], ?_⟩
  intro k hk; simp at hk

theorem at?_natCast (d : List α) (k : Nat) : Cyclic.at? d (k : Int) = d[k]? := by
  unfold Cyclic.at?
  rw [if_neg (by omega)]; simp

/-- the `int → size_t` subscript stays inside the array exactly for `0 ≤ j < size` -/
theorem at?_isSome (d : List α) (j : Int) : (Cyclic.at? d j).isSome = true ↔ 0 ≤ j ∧ j < d.length := by
  unfold Cyclic.at?
  split
  · simp; omega
  · simp only [Option.isSome_iff_ne_none, ne_eq, List.getElem?_eq_none_iff]; omega

theorem CInv.prev_eq {c : Cyclic α} {n : Nat} {log : List α} (h : CInv c n log) (j : Int)
    (hlt : c.counter.counter - j < n) : rcPrev c.counter j = (c.counter.counter - j) % (n : Int) := by
  have := h.pos
  rw [rcPrev_eq c.counter (by rw [h.sz]; omega) j (by rw [h.sz]; exact hlt), h.sz]

theorem cinv_nth {c : Cyclic α} {n : Nat} {log : List α} (h : CInv c n log) (i : Nat)
    (hi : i < log.length) (hin : i < n) :
    c.nth (i : Int) = some log[log.length - 1 - i] := by
  obtain ⟨k, hk, hkn⟩ := h.cnt
  unfold Cyclic.nth
  rw [h.prev_eq _ (by rw [hk]; omega), hk, emod_cprev hkn (Nat.le_of_lt hin), at?_natCast]
  have := h.content i hi hin
  rw [hk] at this
  simpa using this

theorem cinv_push {c : Cyclic α} {n : Nat} {log : List α} (h : CInv c n log) (v : α) :
    ∃ c' old, c.push v = some (c', old) ∧ CInv c' n (log ++ [v]) ∧
      (∀ (hfull : n ≤ log.length), old = log[log.length - n]'(by have := h.pos; omega)) := by
  obtain ⟨k, hk, hkn⟩ := h.cnt
  have hpos := h.pos
  have hinc := rcIncrement_eq c.counter (by rw [h.sz]; omega) 1 (by rw [hk]; omega)
  have hnext : (rcIncrement c.counter 1).counter = (((k + 1) % n : Nat) : Int) := by
    rw [hinc.1, h.sz, hk]; simp
  have hsz := hinc.2
  clear hinc
  have hlt : (k + 1) % n < c.data.length := by rw [h.len]; exact Nat.mod_lt _ hpos
  have hcont : ∀ j (hj : j < log.length), j < n →
      c.data[cprev n k j]? = log[log.length - 1 - j]? := fun j hj hjn => by
    have := h.content j hj hjn
    rwa [hk, Int.toNat_natCast, ← List.getElem?_eq_getElem] at this
  refine ⟨{ data := c.data.set ((k + 1) % n) v, counter := rcIncrement c.counter 1,
            fill := if (c.fill : Int) < c.counter.size then c.fill + 1 else c.fill },
    c.data[(k + 1) % n], ?_, ?_, ?_⟩
  · simp only [Cyclic.push, rcGet, hnext, at?_natCast, List.getElem?_eq_getElem hlt, Int.toNat_natCast]
  · refine ⟨hpos, by simp [h.len], by simp [hsz, h.sz], ⟨(k + 1) % n, hnext, Nat.mod_lt _ hpos⟩, ?_, ?_⟩
    · simp only [h.fill, h.sz, List.length_append, List.length_singleton]
      split <;> omega
    · intro j hj hjn
      rw [List.length_append, List.length_singleton] at hj
      simp only [hnext, Int.toNat_natCast]
      rw [← List.getElem?_eq_getElem]
      cases j with
      | zero =>
        -- the newest sample is the one just stored
        rw [show cprev n ((k + 1) % n) 0 = (k + 1) % n by simp [cprev], List.getElem?_set_self hlt]
        simp
      | succ j =>
        -- the others keep their slots and move one place back
        rw [cprev_next hkn hjn, List.getElem?_set_ne (cprev_next_ne hkn hjn).symm,
          hcont j (by omega) (by omega), List.getElem?_append_left (by simp; omega)]
        congr 1
        simp only [List.length_append, List.length_singleton]
        omega
  · intro hfull
    have := hcont (n - 1) (by omega) (by omega)
    rw [cprev_last hkn, List.getElem?_eq_getElem hlt, List.getElem?_eq_getElem (by omega)] at this
    rw [Option.some.inj this]
    congr 1
    omega

def pushAll : Cyclic α → List α → Option (Cyclic α)
  | c, [] => some c
  | c, v :: vs => match c.push v with
    | none => none
    | some (c', _) => pushAll c' vs

theorem cinv_pushAll : ∀ (vs : List α) {c : Cyclic α} {n : Nat} {log : List α}, CInv c n log →
    ∃ c', pushAll c vs = some c' ∧ CInv c' n (log ++ vs)
  | [], c, n, log, h => ⟨c, rfl, by simpa using h⟩
  | v :: vs, c, n, log, h => by
      obtain ⟨c1, old, e, h1, -⟩ := cinv_push h v
      obtain ⟨c2, e2, h2⟩ := cinv_pushAll vs h1
      exact ⟨c2, by simp [pushAll, e, e2], by simpa using h2⟩

end Igris.C03
