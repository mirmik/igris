/-
  C03 — property theorems.

  "Ring buffers are FIFO, lossless and byte-transparent for every fill pattern."

  Sizes: the index invariant and the single-step FIFO theorems hold for EVERY
  32-bit size ≥ 1; theorems that involve a bulk move or an `int` index assume
  size ≤ 2^31 (resp. < 2^31 = INT_MAX+1); `ring_move_head_size_witness` shows
  that the bound is necessary for the code as written (recorded finding).
-/
import IgrisModel.C03.Counter
import IgrisModel.C03.Bytering
import IgrisModel.C03.Lifetime
namespace Igris.C03
open Igris.Proto

/-! ## 1. "no index ever leaves [0,size)" -/

/-- ring_inv (single step): from any state with `head, tail < size` over a buffer
of at least `size` slots, EVERY operation of ring.h with ANY argument (putc,
getc, read, write, single and bulk head/tail moves with arbitrary bias,
produce/consume with arbitrary lengths, clean) touches only slots inside the
buffer (`≠ none`) and leaves `head, tail < size`, `size` and the buffer length
unchanged.  With `buf.length = size` this says every index used is `< size`. -/
theorem ring_inv_step (r : RingHead) (buf : List Byte) (op : Op) (h : r.WF)
    (hb : r.size.toNat ≤ buf.length) :
    ∃ r' buf' o, stepRing r buf op = some (r', buf', o) ∧
      r'.WF ∧ r'.size = r.size ∧ buf'.length = buf.length :=
  step_keeps h hb op

/-- ring_inv (histories): after `ring_init(size)` with any `size ≥ 1`, every
operation sequence whatsoever runs without a fault and ends (hence also passes
only) in states with `head, tail < size`. -/
theorem ring_inv_history (size : U32) (hs : 0 < size.toNat) (buf : List Byte)
    (hb : size.toNat ≤ buf.length) (ops : List Op) :
    ∃ r' buf' outs, runRing (ringInit size) buf ops = some (r', buf', outs) ∧
      r'.WF ∧ r'.size = size ∧ buf'.length = buf.length ∧ outs.length = ops.length := by
  obtain ⟨r', b', outs, e, k, hl⟩ := run_keeps ops (abs_init size buf hs hb).1 (by simpa [ringInit] using hb)
  exact ⟨r', b', outs, e, k.1, k.2.1, k.2.2, hl⟩

example : (ringInit 7).WF := by decide

/-! ## 2. "fill and free counts equal those of a reference queue and sum to capacity" -/

/-- ring_counts: whenever the ring stores the queue `q`,
`ring_avail = |q|`, `ring_room = size − 1 − |q|`, `ring_empty ⇔ q = []`,
`ring_full ⇔ |q| = size − 1`. -/
theorem ring_counts {α : Type} (r : RingHead) (buf q : List α) (h : Abs r buf q) :
    (ringAvail r).toNat = q.length ∧
    (ringRoom r).toNat = r.size.toNat - 1 - q.length ∧
    (ringEmpty r = true ↔ q = []) ∧
    (ringFull r = true ↔ q.length = r.size.toNat - 1) := by
  obtain ⟨wf, -, hl, -⟩ := h
  refine ⟨by rw [avail_toNat r wf, hl], by rw [room_toNat r wf, hl], ?_, ?_⟩
  · rw [empty_iff_cnt r wf, ← hl]; exact List.length_eq_zero_iff
  · rw [full_iff_cnt r wf, hl]

/-- avail + room = size − 1 in every state satisfying the index invariant (no
reference queue needed), including the wrap-around of the `unsigned`
intermediate results. -/
theorem ring_counts_sum (r : RingHead) (h : r.WF) :
    (ringAvail r).toNat + (ringRoom r).toNat = r.size.toNat - 1 := by
  have := cnt_lt r h
  rw [avail_toNat r h, room_toNat r h]; omega

/-! ## 3. FIFO, single operations -/

/-- putc on a non-full ring stores the byte at the end of the queue, returns 1 -/
theorem ring_putc_appends (r : RingHead) (buf q : List Byte) (c : Byte) (h : Abs r buf q)
    (hroom : q.length < r.size.toNat - 1) :
    ∃ r' buf', ringPutc r buf c = some (r', buf', 1) ∧ Abs r' buf' (q ++ [c]) :=
  ⟨_, _, (abs_putc c h hroom).1, (abs_putc c h hroom).2⟩

/-- a full ring rejects the write (returns 0) without changing head, tail or buffer -/
theorem ring_putc_full_rejects (r : RingHead) (buf q : List Byte) (c : Byte) (h : Abs r buf q)
    (hfull : q.length = r.size.toNat - 1) : ringPutc r buf c = some (r, buf, 0) :=
  abs_putc_full c h hfull

/-- getc on a non-empty ring returns the OLDEST byte as a value in 0..255 (so it
can never be mistaken for the "empty" code −1, whatever the byte), and removes
exactly that byte. -/
theorem ring_getc_returns_oldest (r : RingHead) (buf : List Byte) (x : Byte) (q : List Byte)
    (h : Abs r buf (x :: q)) :
    ∃ r' v, ringGetc r buf = some (r', v) ∧ v = (x.toNat : Int) ∧ 0 ≤ v ∧ v ≤ 255 ∧ v ≠ -1 ∧
      BitVec.ofInt 8 v = x ∧ Abs r' buf q := by
  obtain ⟨e, ha⟩ := abs_getc h
  exact ⟨_, _, e, rfl, by omega, by omega, by omega, ofInt_toNat x, ha⟩

/-- an empty ring rejects the read (returns −1) without changing the state -/
theorem ring_getc_empty_rejects (r : RingHead) (buf : List Byte) (h : Abs r buf []) :
    ringGetc r buf = some (r, -1) :=
  abs_getc_empty h

/-- ring_write stores the longest prefix that fits, in order, and returns its length -/
theorem ring_write_appends (r : RingHead) (buf q d : List Byte) (h : Abs r buf q) :
    ∃ r' buf', ringWrite r buf d = some (r', buf', min d.length (r.size.toNat - 1 - q.length)) ∧
      Abs r' buf' (q ++ d.take (r.size.toNat - 1 - q.length)) := by
  obtain ⟨r', b', e, -, ha⟩ := abs_write d h
  exact ⟨r', b', e, ha⟩

/-- ring_read delivers exactly the `min n |q|` oldest bytes, unaltered and in
order, for every byte value -/
theorem ring_read_delivers (r : RingHead) (buf q : List Byte) (n : Nat) (h : Abs r buf q) :
    ∃ r', ringRead r buf n = some (r', q.take n) ∧ Abs r' buf (q.drop n) := by
  obtain ⟨r', e, -, ha⟩ := abs_read n h
  exact ⟨r', e, ha⟩

/- FULL STATEMENT (false for the code as written, see
`ring_move_head_size_witness` and finding C03-bulk-move-size-above-2^31):
  "for every size ≥ 1, ring_move_head(n) with n ≤ room publishes exactly the n
   slots after head, ring_move_tail(n) with n ≤ avail releases exactly the n
   oldest bytes".
Proved below for every size ≤ 2^31 (all rings whose indices fit an `int`). -/

/-- bulk head move by `n ≤ room` on a ring of at most 2^31 slots: exactly the `n`
slots after `head` are published, in order -/
theorem ring_move_head_publishes_partial (r : RingHead) (buf q d : List Byte) (h : Abs r buf q)
    (hS : r.size.toNat ≤ 2 ^ 31) (hn : d.length ≤ r.size.toNat - 1 - q.length)
    (hd : ∀ j (hj : j < d.length), buf[(r.head.toNat + j) % r.size.toNat]? = some d[j]) :
    Abs (ringMoveHead r (BitVec.ofNat 32 d.length)) buf (q ++ d) :=
  abs_moveHead d h hS hn hd

/-- bulk tail move by `n ≤ avail` on a ring of at most 2^31 slots: exactly the `n`
oldest bytes are released -/
theorem ring_move_tail_releases_partial (r : RingHead) (buf q : List Byte) (n : Nat)
    (h : Abs r buf q) (hS : r.size.toNat ≤ 2 ^ 31) (hn : n ≤ q.length) :
    Abs (ringMoveTail r (BitVec.ofNat 32 n)) buf (q.drop n) :=
  abs_moveTail n h hS hn

/-- the excluded class is not empty of counterexamples: `head += bias` wraps
modulo 2^32 before the fix-up loop, so on an (empty) ring of size 2^32 − 1 at
head 2^32 − 3 a move by 5 ≤ room lands on slot 2 instead of
(head + 5) mod size = 3.  (The index invariant still holds: `ring_inv_step`.) -/
theorem ring_move_head_size_witness :
    (ringMoveHead ⟨0xFFFFFFFD, 0xFFFFFFFD, 0xFFFFFFFF⟩ 5).head.toNat = 2 ∧
    (0xFFFFFFFD + 5) % 0xFFFFFFFF = 3 := by
  decide

theorem ring_move_one (r : RingHead) (buf : List Byte) (x c : Byte) (q : List Byte) :
    (Abs r buf q → q.length < r.size.toNat - 1 → buf[r.head.toNat]? = some c →
      Abs (ringMoveHeadOne r) buf (q ++ [c])) ∧
    (Abs r buf (x :: q) → Abs (ringMoveTailOne r) buf q) :=
  ⟨fun h hr hc => abs_moveHeadOne h hr hc, fun h => (abs_moveTailOne h).2⟩

-- the hypotheses are satisfiable: a wrapped ring of size 4 holding [0xFF, 0x80]
example : Abs ⟨1, 3, 4⟩ ([0x80, 0, 0, 0xFF] : List Byte) [0xFF, 0x80] := by
  refine ⟨by decide, by decide, by decide, ?_⟩
  intro i hi
  match i, hi with
  | 0, _ => rfl
  | 1, _ => rfl

/-- `ring_for_each(n, r)` visits exactly the occupied slots `(tail + i) mod size`,
`i < avail`, oldest first, and terminates within `size` iterations -/
theorem ring_for_each_visits (r : RingHead) (h : r.WF) :
    (ringForEach r r.size.toNat r.tail).map BitVec.toNat =
      (List.range r.cnt).map (fun i => (r.tail.toNat + i) % r.size.toNat) :=
  forEach_spec r r.size.toNat r.cnt r.tail h.2 (cnt_lt r h) (slot_cnt_head h.1 h.2).symm
    (Nat.le_of_lt (cnt_lt r h))

/-! ## 4. FIFO over arbitrary histories -/

/- FULL STATEMENT: "for every size ≥ 1 and every contract-respecting history the
ring behaves as the reference FIFO".  False for the code as written when a
bulk move is applied to a ring of more than 2^31 slots
(`ring_move_head_size_witness`); proved for EVERY size when the history uses no
bulk move, and for every size ≤ 2^31 with arbitrary bulk moves. -/

/-- ring_fifo (refinement): start from `ring_init(size)` over any buffer of at
least `size` bytes, with `size ≤ 2^31` or a history without bulk moves (then
any 32-bit size ≥ 1), and apply ANY interleaving of putc, getc, write, read,
single/bulk produce (fill + head move), single/bulk consume (peek + tail move),
tail moves and clean whose moves respect the producer / consumer contract
(`runSpec ≠ none`: never publish more than `room`, never release more than
`avail`).  Then the ring never faults and EVERY return value and EVERY
delivered byte equals that of the reference FIFO queue of capacity `size − 1`;
a full ring rejects writes and an empty ring rejects reads exactly where the
reference does; and the final ring stores the final reference queue. -/
theorem ring_refines_fifo_partial (size : U32) (hs : 0 < size.toNat) (buf : List Byte)
    (hb : size.toNat ≤ buf.length) (ops : List Op)
    (hS : size.toNat ≤ 2 ^ 31 ∨ ∀ op ∈ ops, op.isBulk = false)
    (q' : List Byte) (outs : List Out)
    (hspec : runSpec (size.toNat - 1) [] ops = some (q', outs)) :
    ∃ r' buf', runRing (ringInit size) buf ops = some (r', buf', outs) ∧ Abs r' buf' q' := by
  have h0 : Abs (ringInit size) buf ([] : List Byte) := abs_init size buf hs hb
  obtain ⟨r', b', e, -, ha⟩ := run_refines ops h0 (by simpa [ringInit] using hS)
    (by simpa [ringInit] using hspec)
  exact ⟨r', b', e, ha⟩

/-- ring_lossless: in such a history without deliberate discards (bare tail moves,
clean), the bytes accepted by the ring (putc returning 1, the accepted prefix of
each write, produced blocks), concatenated in order, are EXACTLY the bytes
delivered (getc, read, consume), in order, followed by what is still stored:
nothing lost, nothing duplicated, nothing altered, for every byte value. -/
theorem ring_lossless_partial (size : U32) (hs : 0 < size.toNat) (buf : List Byte)
    (hb : size.toNat ≤ buf.length) (ops : List Op)
    (hS : size.toNat ≤ 2 ^ 31 ∨ ∀ op ∈ ops, op.isBulk = false)
    (q' : List Byte) (outs : List Out)
    (hspec : runSpec (size.toNat - 1) [] ops = some (q', outs))
    (hnd : ∀ op ∈ ops, op.discards = false) :
    ∃ r' buf', runRing (ringInit size) buf ops = some (r', buf', outs) ∧ Abs r' buf' q' ∧
      acceptedAll ops outs = deliveredAll ops outs ++ q' := by
  obtain ⟨r', b', e, ha⟩ := ring_refines_fifo_partial size hs buf hb ops hS q' outs hspec
  have := spec_run_conserves ops hspec hnd
  exact ⟨r', b', e, ha, by simpa using this⟩

-- both alternatives of `hS` are satisfiable
example : (4 : U32).toNat ≤ 2 ^ 31 := by decide
example : ∀ op ∈ [Op.putc 0xFF, Op.getc, Op.write [1, 2], Op.read 2, Op.produce1 7, Op.consume1],
    op.isBulk = false := by decide
example : ∀ op ∈ [Op.putc 0xFF, Op.getc, Op.produce [1, 2], Op.consume 2], op.discards = false := by
  decide
-- a contract-respecting history exists (and exercises 0xFF, wrap-around, rejects)
example : (runSpec 2 [] [.putc 0xFF, .write [0x80, 0x00], .getc, .produce [0x01], .read 5, .getc]).isSome := by
  decide

/-! ## 5. index fix-up -/

/-- fixup_index_correct: `ring_fixup_index(i) = i mod size` (mathematical modulo,
result in `[0, size)`) for EVERY `int i` — in particular every `i ≥ −size` —
and every `1 ≤ size ≤ INT_MAX`; no power-of-two assumption. -/
theorem fixup_index_correct (r : RingHead) (hs : 0 < r.size.toNat) (hS : r.size.toNat < 2 ^ 31)
    (i : BitVec 32) :
    (ringFixupIndex r i).toInt = i.toInt % (r.size.toNat : Int) ∧
    0 ≤ (ringFixupIndex r i).toInt ∧ (ringFixupIndex r i).toInt < r.size.toNat := by
  rw [fixupIndex_toInt r hs hS i]
  exact ⟨rfl, Int.emod_nonneg _ (by omega), Int.emod_lt_of_pos _ (by omega)⟩

/-- what was repaired: `index % r->size` (int converted to unsigned) maps −1 to 3
on a ring of size 11; the repaired function maps it to 10. -/
theorem fixup_index_orig_witness :
    (ringFixupIndexOrig ⟨0, 0, 11⟩ (-1)).toInt = 3 ∧ (ringFixupIndex ⟨0, 0, 11⟩ (-1)).toInt = 10 := by
  decide

/-! ## 6. typed ring `igris::ring<T>` -/

/-- constructor, (repaired) resize and reset leave an empty ring whose size equals
the number of slots of its buffer, so §1–§4 apply to the typed ring. -/
theorem ring_ctor_resize_reset_bounds {α : Type} (dflt : α) (t : TRing α) (n : Nat)
    (hn : n + 1 < 2 ^ 32) :
    ((TRing.mk' dflt n).r.size.toNat = n + 1 ∧ (TRing.mk' dflt n).buf.length = n + 1 ∧
      Abs (TRing.mk' dflt n).r (TRing.mk' dflt n).buf []) ∧
    ((TRing.resize dflt t n).r.size.toNat = n + 1 ∧ (TRing.resize dflt t n).buf.length = n + 1 ∧
      Abs (TRing.resize dflt t n).r (TRing.resize dflt t n).buf []) ∧
    (0 < t.buf.length → t.buf.length < 2 ^ 32 →
      t.reset.r.size.toNat = t.buf.length ∧ Abs t.reset.r t.reset.buf []) := by
  exact ⟨TRing.mk'_abs dflt n hn, TRing.resize_abs dflt t n hn, fun h0 h1 =>
    abs_init_ofNat t.buf h0 h1 (Nat.le_refl _)⟩

/-- what was repaired: after the pre-repair `resize(2)` (buffer of 2 elements,
ring of size 3) the sequence push, push, pop, push — never more than 2 stored —
writes slot 2, outside the buffer. -/
theorem ring_resize_orig_witness :
    (((TRing.resizeOrig (0 : Int) TRing.empty 2).push 1).bind fun t =>
      (t.push 2).bind fun t => (t.pop 0).bind fun t => t.push 3).isNone = true ∧
    (((TRing.resize (0 : Int) TRing.empty 2).push 1).bind fun t =>
      (t.push 2).bind fun t => (t.pop 0).bind fun t => t.push 3).isSome = true := by
  decide

/-- index invariant of the typed ring: push/emplace and pop from ANY state with
`head, tail < size ≤ |buffer|` (full or not, empty or not) stay inside the buffer
and keep `head, tail < size`; every index produced by fixup_index — hence used by
last() and get_last() with any offset/count — lies in `[0, size)`. -/
theorem ring_typed_inv {α : Type} (t : TRing α) (x d : α) (i : BitVec 32) (h : t.r.WF)
    (hb : t.r.size.toNat ≤ t.buf.length) (hS : t.r.size.toNat < 2 ^ 31) :
    (∃ t', t.push x = some t' ∧ t'.r.WF ∧ t'.r.size = t.r.size ∧ t'.buf.length = t.buf.length) ∧
    (∃ t', t.pop d = some t' ∧ t'.r.WF ∧ t'.r.size = t.r.size ∧ t'.buf.length = t.buf.length) ∧
    (0 ≤ (t.fixupIndex i).toInt ∧ (t.fixupIndex i).toInt < t.r.size.toNat) := by
  have h1 := h.head_in_buf hb
  have h2 := h.tail_in_buf hb
  refine ⟨⟨_, TRing.push_eq t x h1, wf_moveHeadOne h, rfl, List.length_set ..⟩,
    ⟨_, TRing.pop_eq t d h2, wf_moveTailOne h, rfl, List.length_set ..⟩, ?_⟩
  exact (fixup_index_correct t.r (by have := h.1; omega) hS i).2

/-- push appends (when not full), pop removes the oldest, tail() is the oldest -/
theorem ring_push_pop_tail {α : Type} (t : TRing α) (q : List α) (x y d : α) :
    (Abs t.r t.buf q → q.length < t.r.size.toNat - 1 →
      ∃ t', t.push x = some t' ∧ t'.r.size = t.r.size ∧ Abs t'.r t'.buf (q ++ [x])) ∧
    (Abs t.r t.buf (y :: q) →
      t.tail = some y ∧ ∃ t', t.pop d = some t' ∧ t'.r.size = t.r.size ∧ Abs t'.r t'.buf q) :=
  ⟨fun h hr => TRing.push_abs x h hr, fun h => ⟨TRing.tail_abs h, TRing.pop_abs d h⟩⟩

/-- clear() (`while (!empty()) pop();`) terminates within `|q|` pops and leaves an empty ring -/
theorem ring_clear_empties {α : Type} (d : α) (t : TRing α) (q : List α) (h : Abs t.r t.buf q) :
    ∃ t', TRing.clear d (t.r.size.toNat + 1) t = some t' ∧ t'.r.size = t.r.size ∧ Abs t'.r t'.buf [] :=
  TRing.clear_abs d _ h (by have := h.len_lt; omega)

/-- last() addresses slot `(head − 1) mod size` for EVERY head position
(including head = 0) and every size `< 2^31`, power of two or not … -/
theorem ring_last_index {α : Type} (t : TRing α) (h : t.r.WF) (hS : t.r.size.toNat < 2 ^ 31) :
    t.lastIndex.toInt = ((t.r.head.toNat + t.r.size.toNat - 1) % t.r.size.toNat : Nat) := by
  rw [TRing.lastIndex_toInt t h hS, prevSlot_eq_mod h.1 (by have := h.1; omega)]
  simp

/-- … and therefore returns the newest element of the reference queue. -/
theorem ring_last_is_newest {α : Type} (t : TRing α) (q : List α) (h : Abs t.r t.buf q)
    (hq : q ≠ []) (hS : t.r.size.toNat < 2 ^ 31) : t.last = some (q.getLast hq) := by
  obtain ⟨hs, hn⟩ := toNat_of_toInt_nonneg (TRing.lastIndex_toInt t h.1 hS)
  unfold TRing.last
  simp only [hs, Bool.false_eq_true, if_false, hn]
  rw [abs_prev h (List.length_pos_iff.mpr hq), List.getLast_eq_getElem]
  rfl

/-- what was repaired: `igris::ring<int>(10).last()` at head 0 used slot 3, not 10 -/
theorem ring_last_orig_witness :
    (TRing.mk' (0 : Int) 10).lastIndexOrig.toInt = 3 ∧ (TRing.mk' (0 : Int) 10).lastIndex.toInt = 10 := by
  decide

/-- get_last(offset, count, true) = the `count` elements starting `offset` back
from the newest, newest first; get_last(offset, count, false) = the same
elements, oldest first — for every head position and wrap-around, whenever the
requested elements exist (`offset + count ≤ |q|`). -/
theorem ring_get_last {α : Type} (t : TRing α) (q : List α) (h : Abs t.r t.buf q)
    (hS : t.r.size.toNat < 2 ^ 31) (offset count : Nat) (hle : offset + count ≤ q.length) :
    t.getLast (BitVec.ofNat 32 offset) count true = some ((q.reverse.drop offset).take count) ∧
    t.getLast (BitVec.ofNat 32 offset) count false =
      some ((q.drop (q.length - count - offset)).take count) := by
  have hq := h.len_lt
  -- each element asked for is the `k`-th previous one for a `k` given by `getLastIndex_fromEnd / _fromStart`
  have hl1 : ((q.reverse.drop offset).take count).length = count := by simp; omega
  have h1 := TRing.getLastAux_eq h (BitVec.ofNat 32 offset) (BitVec.ofNat 32 count) true
    ((q.reverse.drop offset).take count) 0 fun j hj => ⟨offset + (0 + j), by omega,
      TRing.getLastIndex_fromEnd t h.1 hS offset (0 + j) _ (by omega), by simp⟩
  have hl2 : ((q.drop (q.length - count - offset)).take count).length = count := by simp; omega
  have h2 := TRing.getLastAux_eq h (BitVec.ofNat 32 offset) (BitVec.ofNat 32 count) false
    ((q.drop (q.length - count - offset)).take count) 0 fun j hj =>
      ⟨count + offset - 1 - (0 + j), by omega,
        TRing.getLastIndex_fromStart t h.1 hS offset count (0 + j) (by omega) (by omega), by
          simp only [List.getElem_take, List.getElem_drop]; congr 1; omega⟩
  rw [hl1] at h1
  rw [hl2] at h2
  exact ⟨h1, h2⟩

/-- distance(a, b) = number of steps from slot `b` forward to slot `a`, `(a − b) mod size` -/
theorem ring_distance_correct {α : Type} (t : TRing α) (a b : BitVec 32)
    (hS : t.r.size.toNat ≤ 2 ^ 31) (ha : a.toNat < t.r.size.toNat) (hb : b.toNat < t.r.size.toNat) :
    (t.distance a b).toNat = (a.toNat + t.r.size.toNat - b.toNat) % t.r.size.toNat := by
  rw [TRing.distance, BitVec.toNat_umod]
  congr 1
  exact u32_eval (z := (a.toNat : Int) - b.toNat + t.r.size.toNat)
    (by rw [BitVec.ofInt_add, ofInt_sub, ofInt_toNat, ofInt_toNat, ofInt_toNat]) (by omega) (by omega)

/-- set_last_index(idx) makes `idx` the slot last() addresses: head = (idx + 1) mod size -/
theorem ring_set_last_index {α : Type} (t : TRing α) (idx : BitVec 32)
    (h : idx.toNat < t.r.size.toNat) :
    (t.setLastIndex idx).r.head.toNat = (idx.toNat + 1) % t.r.size.toNat ∧
    (t.setLastIndex idx).r.tail = t.r.tail ∧ (t.setLastIndex idx).r.size = t.r.size :=
  ⟨moveHeadOne_head { t.r with head := idx } h, rfl, rfl⟩

/-! ## 7. ring_counter and cyclic_buffer -/

/-- ring_counter: for every size ≥ 1, `fixup_pos(p) = p mod size` and
`last(no) = (counter − no) mod size` for EVERY int; `prev(i) = (counter − i) mod
size` for every `i` with `counter − i < size` (all `i ≥ 0` when the counter is
in range); `increment(a)` / `set(v)` leave `(counter + a) mod size` / `v mod size`
for non-negative results. -/
theorem ring_counter_correct (rc : RingCounter) (hs : 0 < rc.size) (x : Int) :
    rcFixupPos rc x = x % rc.size ∧
    rcLast rc x = (rc.counter - x) % rc.size ∧
    (rc.counter - x < rc.size → rcPrev rc x = (rc.counter - x) % rc.size) ∧
    (0 ≤ rc.counter + x → (rcIncrement rc x).counter = (rc.counter + x) % rc.size) ∧
    (0 ≤ x → (rcSet rc x).counter = x % rc.size) :=
  ⟨rcFixupPos_eq rc hs x, rcLast_eq rc hs x, fun h => rcPrev_eq rc hs x h,
   fun h => (rcIncrement_eq rc hs x h).1, fun h => (rcSet_eq rc hs x h).1⟩

/-- cyclic_buffer_nth: construct a cyclic buffer of ANY size `n ≥ 1` (power of
two or not) and push ANY sequence `xs` of samples (any length, wrapping any
number of times).  Then no access leaves the storage, the counter is in
`[0, n)`, `size() = min |xs| n`, and for every `i < min |xs| n`, `cb[i]` is the
`i`-th previous sample `xs[|xs| − 1 − i]`. -/
theorem cyclic_buffer_nth {α : Type} (dflt : α) (n : Nat) (hn : 0 < n) (xs : List α) :
    ∃ c, pushAll (Cyclic.mk' dflt n) xs = some c ∧
      c.fill = min xs.length n ∧ 0 ≤ c.counter.counter ∧ c.counter.counter < n ∧
      ∀ i (hi : i < xs.length), i < n → c.nth (i : Int) = some xs[xs.length - 1 - i] := by
  obtain ⟨c, e, inv⟩ := cinv_pushAll xs (cinv_mk' dflt n hn)
  simp only [List.nil_append] at inv
  obtain ⟨k, hk, hkn⟩ := inv.cnt
  exact ⟨c, e, inv.fill, by omega, by omega, fun i hi hin => cinv_nth inv i hi hin⟩

/-- the same after a (repaired) resize: the log restarts, `size()` restarts at 0 -/
theorem cyclic_buffer_resize_nth {α : Type} (dflt : α) (c0 : Cyclic α) (n : Nat) (hn : 0 < n)
    (xs : List α) :
    (Cyclic.resize dflt c0 n).fill = 0 ∧
    ∃ c, pushAll (Cyclic.resize dflt c0 n) xs = some c ∧ c.fill = min xs.length n ∧
      ∀ i (hi : i < xs.length), i < n → c.nth (i : Int) = some xs[xs.length - 1 - i] := by
  -- `Cyclic.resize dflt c0 n` is `Cyclic.mk' dflt n` by definition
  obtain ⟨c, e, hf, -, -, hnth⟩ := cyclic_buffer_nth dflt n hn xs
  exact ⟨rfl, c, e, hf, hnth⟩

/-- push returns the sample it overwrites: the one pushed `n` pushes earlier -/
theorem cyclic_buffer_push_returns_overwritten {α : Type} (c : Cyclic α) (n : Nat) (log : List α)
    (h : CInv c n log) (v : α) (hfull : n ≤ log.length) :
    ∃ c' old, c.push v = some (c', old) ∧ CInv c' n (log ++ [v]) ∧
      old = log[log.length - n]'(by have := h.pos; omega) := by
  obtain ⟨c', old, e, inv, ho⟩ := cinv_push h v
  exact ⟨c', old, e, inv, ho hfull⟩

example : CInv (Cyclic.mk' (0 : Int) 3) 3 [] := cinv_mk' 0 3 (by decide)

/-! ## 8. what the `unsigned char` repair of `ring_getc` changed -/

/-- pre-repair `ring_getc` (`char c`): a stored 0xFF is returned as −1, the code
for "empty" — `ring_read` then stops although the byte was already consumed (it
is lost) — and 0x80 comes back as −128.  The repaired functions return 255 /
128 and deliver all three bytes. -/
theorem ring_getc_orig_ff_witness :
    (ringGetcOrig ⟨1, 0, 4⟩ [0xFF, 0, 0, 0]).map (·.2) = some (-1) ∧
    (ringGetcOrig ⟨1, 0, 4⟩ [0x80, 0, 0, 0]).map (·.2) = some (-128) ∧
    (ringReadOrig ⟨3, 0, 4⟩ [0x01, 0xFF, 0x02, 0] 3).map (·.2) = some [0x01] ∧
    (ringGetc ⟨1, 0, 4⟩ [0xFF, 0, 0, 0]).map (·.2) = some 255 ∧
    (ringGetc ⟨1, 0, 4⟩ [0x80, 0, 0, 0]).map (·.2) = some 128 ∧
    (ringRead ⟨3, 0, 4⟩ [0x01, 0xFF, 0x02, 0] 3).map (·.2) = some [0x01, 0xFF, 0x02] := by
  decide

/-! ## 9. bulk operations = iterated single operations -/

/-- `ring_write(d)` IS `ring_putc` applied to the bytes of `d` in order: same final
head/tail, same buffer, return value = number of putc that answered 1; faults
coincide.  No hypothesis: every state, every buffer, every data (there is no
`memcpy` and no split into two chunks in ring.h — a write that wraps, fills
exactly, or has length 0 is this same loop). -/
theorem ring_write_is_iterated_putc (r : RingHead) (buf d : List Byte) :
    ringWrite r buf d =
      (runRing r buf (d.map Op.putc)).map fun (r', buf', outs) => (r', buf', countOnes outs) := by
  have := writeAux_iterated d r buf 0
  simpa [ringWrite] using this

/-- `ring_read(n)` IS `n` times `ring_getc`: same final state, the bytes stored
through `data` are the answers that were not −1, in order. -/
theorem ring_read_is_iterated_getc (r : RingHead) (buf : List Byte) (n : Nat) :
    ringRead r buf n =
      (runRing r buf (List.replicate n Op.getc)).map fun (r', _, outs) => (r', getcBytes outs) := by
  have := readWith_iterated buf n r []
  simpa [ringRead] using this

/-! ## 10. `ring_for_each(n, r) BODY` -/

/-- the loop the macro expands to, with ANY body `s = f(s, n, buffer[n])`,
terminates (the loop test is evaluated `|q| + 1 ≤ size` times), never reads
outside the buffer, and has applied the body to exactly the stored elements,
oldest → newest, each once, `n` being the element's slot (`ring_for_each_visits`
says which slots these are). -/
theorem ring_for_each_body {α σ : Type} (r : RingHead) (buf q : List α) (f : σ → U32 → α → σ) (s : σ)
    (h : Abs r buf q) :
    ringForEachFold r buf f r.size.toNat r.tail s =
      some (((ringForEach r r.size.toNat r.tail).zip q).foldl (fun s p => f s p.1 p.2) s) ∧
    (ringForEach r r.size.toNat r.tail).length = q.length := by
  -- the slots visited hold the queue: `ring_for_each_visits` says which slots, `Abs` what is in them
  have hv := congrArg (List.map fun i => buf[i]?) (ring_for_each_visits r h.1)
  rw [List.map_map, List.map_map] at hv
  replace hv : (ringForEach r r.size.toNat r.tail).map (fun n => buf[n.toNat]?) = q.map some :=
    hv.trans (abs_slots h)
  exact ⟨forEachFold_of_visits f buf r _ q _ s hv h.len_lt, by simpa using congrArg List.length hv⟩

/-- in particular a body that collects `buffer[n]` collects the stored queue -/
theorem ring_for_each_collects {α : Type} (r : RingHead) (buf q : List α) (h : Abs r buf q) :
    ringForEachFold r buf (fun (acc : List α) _ x => acc ++ [x]) r.size.toNat r.tail [] = some q := by
  obtain ⟨e, hl⟩ := ring_for_each_body r buf q (fun (acc : List α) _ x => acc ++ [x]) [] h
  rw [e]
  congr 1
  generalize ringForEach r r.size.toNat r.tail = ns at hl
  suffices H : ∀ (q : List α) (ns : List U32) (acc : List α), ns.length = q.length →
      (ns.zip q).foldl (fun s p => s ++ [p.2]) acc = acc ++ q by simpa using H q ns [] hl
  intro q
  induction q with
  | nil => intro ns acc _; simp
  | cons x q ih =>
    intro ns acc hn
    cases ns with
    | nil => simp at hn
    | cons n ns =>
      simp only [List.zip_cons_cons, List.foldl_cons]
      rw [ih ns _ (by simpa using hn)]; simp

example : Abs ⟨1, 3, 4⟩ ([0x80, 0, 0, 0xFF] : List Byte) [0xFF, 0x80] := by
  refine ⟨by decide, by decide, by decide, ?_⟩
  intro i hi
  match i, hi with
  | 0, _ => rfl
  | 1, _ => rfl

/-! ## 11. bytering.h -/

/-- bytering, single operations: `push` on a non-full ring stores the byte at the
end of the queue and answers 0 (the unchecked variant does the same); on a full
ring (`size − 1` bytes) it answers −1 and changes nothing; `pop` answers the
OLDEST byte as 0..255 — never −1 — and removes it; on an empty ring it answers −1
and changes nothing.  `start`/`end` never move. -/
theorem bytering_push_pop (b : ByteRing) (mem q : List Byte) (c x : Byte) :
    (BAbs b mem q → q.length < b.end_ - b.start - 1 →
      ∃ b' mem', brPush b mem c = some (b', mem', 0) ∧ brPushNocheck b mem c = some (b', mem') ∧
        b'.start = b.start ∧ b'.end_ = b.end_ ∧ BAbs b' mem' (q ++ [c])) ∧
    (BAbs b mem q → q.length = b.end_ - b.start - 1 → brPush b mem c = some (b, mem, -1)) ∧
    (BAbs b mem (x :: q) →
      ∃ b' v, brPop b mem = some (b', v) ∧ brPopNocheck b mem = some (b', v) ∧ v = (x.toNat : Int) ∧
        0 ≤ v ∧ v ≤ 255 ∧ v ≠ -1 ∧ BitVec.ofInt 8 v = x ∧ BAbs b' mem q) ∧
    (BAbs b mem [] → brPop b mem = some (b, -1)) := by
  refine ⟨fun h hr => ?_, fun h hf => babs_push_full c h hf, fun h => ?_, fun h => babs_pop_empty h⟩
  · obtain ⟨e, enc, ha⟩ := babs_push c h hr
    exact ⟨_, _, e, enc, rfl, rfl, ha⟩
  · obtain ⟨e, enc, ha⟩ := babs_pop h
    exact ⟨_, _, e, enc, rfl, by omega, by omega, by omega, ofInt_toNat x, ha⟩

/-- bytering, counts and pointers: in every state that stores `q`,
`bytering_empty ⇔ q = []`, `bytering_full ⇔ |q| = size − 1`, and head, tail lie in
`[start, end)`. -/
theorem bytering_counts (b : ByteRing) (mem q : List Byte) (h : BAbs b mem q) :
    (brEmpty b = true ↔ q = []) ∧ (brFull b = true ↔ q.length = b.end_ - b.start - 1) ∧
    b.start ≤ b.head ∧ b.head < b.end_ ∧ b.start ≤ b.tail ∧ b.tail < b.end_ := by
  obtain ⟨wf, ha⟩ := h
  obtain ⟨-, -, he, hf⟩ := ring_counts _ _ _ ha
  rw [toRing_size wf] at hf
  exact ⟨by rw [brEmpty_eq wf]; exact he, by rw [brFull_eq wf]; exact hf, wf.h1, wf.h2, wf.t1, wf.t2⟩

/-- bytering_fifo: after `bytering_init(buf, size)` with ANY `1 ≤ size < 2^32` over
a block of at least `size` bytes, EVERY sequence of push / pop (any length, any
byte values, wrapping any number of times; sizes 1 and 2 included) runs without
touching memory outside the block, EVERY answer equals that of the reference
FIFO of capacity `size − 1` (so full rejects and empty rejects happen exactly
where the reference's do), the final ring stores the final reference queue, and
accepted bytes = delivered bytes ++ stored bytes: nothing lost, duplicated or
altered. -/
theorem bytering_refines_fifo_lossless (buf size : Nat) (mem : List Byte) (hs : 0 < size)
    (hS : size < 2 ^ 32) (hm : size ≤ mem.length) (ops : List BOp) :
    ∃ b' mem', runB (brInit buf size) mem ops = some (b', mem', (runSpecB (size - 1) [] ops).2) ∧
      BAbs b' mem' (runSpecB (size - 1) [] ops).1 ∧ b'.start = buf ∧ b'.end_ = buf + size ∧
      mem'.length = mem.length ∧
      acceptedAllB ops (runSpecB (size - 1) [] ops).2 =
        deliveredAllB ops (runSpecB (size - 1) [] ops).2 ++ (runSpecB (size - 1) [] ops).1 := by
  obtain ⟨b', mem', e, h1, h2, h3, ha, hc⟩ := runB_sound ops (babs_init buf size mem hs hS hm)
    (show runSpecB _ [] ops = ((runSpecB (size - 1) [] ops).1, (runSpecB (size - 1) [] ops).2) by
      simp [brInit])
  exact ⟨b', mem', e, ha, h1, h2, h3, hc⟩

example : BAbs (brInit 4096 4) [0, 0, 0, 0] [] := babs_init 4096 4 _ (by decide) (by decide) (by decide)

/-- what was repaired in bytering.h (the third defect, a missing `return` in a
function declared `int`, has no model counterpart).  Pre-repair: a pushed byte is
accepted (answer 0) and the following pop answers −1 — lost, because
`__bytering_fixup` reset the pointer on every step.  With only that corrected,
`bytering_full` (ring.h's formula with the roles of head and tail reversed)
rejects the second byte of a ring of capacity 3.  Repaired: both bytes are
accepted and come out in order, 0xFF as 255. -/
theorem bytering_orig_witness :
    ((brPushOrig (brInit 16 4) [0, 0, 0, 0] 0x41).map fun (_, _, rc) => rc) = some 0 ∧
    ((brPushOrig (brInit 16 4) [0, 0, 0, 0] 0x41).bind fun (b, m, _) =>
      (brPopOrig b m).map (·.2)) = some (-1) ∧
    ((brPushOrig2 (brInit 16 4) [0, 0, 0, 0] 0x41).bind fun (b, m, _) =>
      (brPushOrig2 b m 0xFF).map fun (_, _, rc) => rc) = some (-1) ∧
    (runB (brInit 16 4) [0, 0, 0, 0] [.push 0x41, .push 0xFF, .pop, .pop, .pop]).map (·.2.2) =
      some [0, 0, 0x41, 255, -1] := by
  decide

/-! ## 12. igris::ring<T> — push when full, pop when empty, resize,
copy, move, index_of -/

/-- `push`/`emplace` have no fullness test.  On a FULL ring the head steps onto the
tail: the ring reads as EMPTY, i.e. all `size − 1` stored elements and the new one
are lost.  `pop` has no emptiness test: on an EMPTY ring the tail steps past the
head and the ring reports `size − 1` (stale) elements.  Both stay inside the
buffer.  Hence the exact contract of the typed ring, under which
`ring_push_pop_tail` gives FIFO behaviour: push only if `room() > 0`, pop only if
`!empty()`. -/
theorem ring_push_full_pop_empty {α : Type} (t : TRing α) (q : List α) (x d : α) :
    (Abs t.r t.buf q → q.length = t.r.size.toNat - 1 →
      ∃ t', t.push x = some t' ∧ t'.r.size = t.r.size ∧ Abs t'.r t'.buf []) ∧
    (Abs t.r t.buf [] →
      ∃ t', t.pop d = some t' ∧ t'.r.size = t.r.size ∧ t'.r.WF ∧
        (ringAvail t'.r).toNat = t.r.size.toNat - 1 ∧ ringFull t'.r = true) := by
  refine ⟨fun h hfull => ⟨_, TRing.push_eq t x h.head_in_buf, rfl, ?_⟩, fun h => ?_⟩
  · -- head + 1 = tail + (size − 1) + 1 = tail  (mod size)
    refine Abs.of_offset h.1.2 (Nat.zero_lt_of_lt h.1.2) ?_ (by simpa using h.2.1)
      (fun _ hi => absurd hi (Nat.not_lt_zero _))
    show (ringMoveHeadOne t.r).head.toNat = (t.r.tail.toNat + 0) % t.r.size.toNat
    rw [moveHeadOne_head t.r h.1.1, h.head_eq, Nat.mod_add_mod, Nat.add_assoc, hfull,
      Nat.sub_add_cancel (Nat.zero_lt_of_lt h.1.1), Nat.add_mod_right, Nat.add_zero]
  · have wf' := wf_moveTailOne h.1
    have hc : (ringMoveTailOne t.r).cnt = t.r.size.toNat - 1 := by
      -- head = tail = (tail + 1) + (size − 1)  (mod size)
      have hS := h.1.2
      have hh : t.r.head.toNat =
          ((t.r.tail.toNat + 1) % t.r.size.toNat + (t.r.size.toNat - 1)) % t.r.size.toNat := by
        rw [h.head_eq, List.length_nil, Nat.add_zero, Nat.mod_add_mod, Nat.add_assoc,
          Nat.add_sub_cancel' (by omega), Nat.add_mod_right]
      rw [RingHead.cnt, moveTailOne_head, moveTailOne_size, moveTailOne_tail t.r hS, hh]
      exact cntN_slot (Nat.mod_lt _ (by omega)) (by omega)
    exact ⟨_, TRing.pop_eq t d h.tail_in_buf, rfl, wf',
      by rw [avail_toNat _ wf']; exact hc, by rw [full_iff_cnt _ wf']; exact hc⟩

example : Abs (TRing.mk' (0 : Int) 0).r (TRing.mk' (0 : Int) 0).buf [] :=
  (ring_ctor_resize_reset_bounds (0 : Int) TRing.empty 0 (by decide)).1.2.2

/-- `resize(sz)` does NOT preserve the content: whatever the ring stored, the
result is exactly the freshly constructed `ring(sz)` — empty, `sz` free slots,
every element value-initialised. -/
theorem ring_resize_discards {α : Type} (dflt : α) (t : TRing α) (sz : Nat) (hn : sz + 1 < 2 ^ 32) :
    TRing.resize dflt t sz = TRing.mk' dflt sz ∧
    Abs (TRing.resize dflt t sz).r (TRing.resize dflt t sz).buf [] ∧
    (ringRoom (TRing.resize dflt t sz).r).toNat = sz := by
  have ha := TRing.resize_abs dflt t sz hn
  refine ⟨rfl, ha.2.2, ?_⟩
  have := (ring_counts _ _ _ ha.2.2).2.1
  rw [this, ha.1]; simp

/-- the implicitly generated copy constructor and copy assignment produce a ring
with the same indices over an equal, separate array: it stores the same queue.
The move constructor hands the array over; the moved-from object keeps
`r.size` but owns no storage, so any push on it writes outside (fault). -/
theorem ring_copy_move {α : Type} (dflt : α) (t u : TRing α) (q : List α) (x : α)
    (h : Abs t.r t.buf q) :
    Abs (TRing.copy dflt t).r (TRing.copy dflt t).buf q ∧
    Abs (TRing.assign u t).r (TRing.assign u t).buf q ∧
    Abs t.move.1.r t.move.1.buf q ∧
    t.move.2.r = t.r ∧ t.move.2.buf = [] ∧ t.move.2.push x = none := by
  refine ⟨?_, ?_, h, rfl, rfl, ?_⟩
  · simpa [TRing.copy, arrCopy_eq] using h
  · simpa [TRing.assign] using h
  · simp [TRing.move, TRing.push, poke]

/-- `index_of(&buffer[i]) = i` (pointer difference in elements) -/
theorem ring_index_of (base elem i : Nat) (he : 0 < elem) :
    indexOf base elem (slotAddr base elem i) = i := by
  simp [indexOf, slotAddr, Nat.mul_div_cancel _ he]

/-! ## 13. element lifetime of igris::ring<T> BEFORE the lifetime
repairs (`LRing` with `pushOrig` / `popOrig`: the code as it was; the finding
C03-ring-element-lifetime is `fixed`, the full statement is proved for the
repaired code in §16), and for which `T` sections 6 and 12 were the whole truth

FULL STATEMENT one would want: "every object constructed in the ring is destroyed
exactly once".  False for the code as written (`ring_element_lifetime_witness`,
`ring_lifetime_fresh_pushes_leak`, `ring_lifetime_pop_then_destroy`).  What holds:
* the VALUE behaviour does not depend on the lifetime bookkeeping
  (`ring_lifetime_values`): all FIFO / accessor theorems hold for every `T` as
  statements about the stored values;
* they are the complete description of the ring exactly for `T` whose
  construction over a living object and whose repeated destruction have no
  effect: trivially destructible `T` (and trivially copyable, for `read`/`write`,
  which only exist for `T = char`).  For any other `T` the events counted by
  `overLive` / `deadDtor` / `deadRead` are leaks resp. undefined behaviour;
* stored elements are always living objects (`ring_lifetime_stored_live`). -/

/-- the value component of the lifetime model is the typed-ring model -/
theorem ring_lifetime_values {α : Type} (l : LRing α) (x : α) :
    (l.pushOrig x).map (·.t) = l.t.push x ∧ l.popOrig.map (·.t) = l.t.popOrig :=
  ⟨by unfold LRing.pushOrig; cases l.t.push x <;> rfl, by unfold LRing.popOrig; cases l.t.popOrig <;> rfl⟩

/-- after `ring(n)` (every slot already holds a living `T`), EVERY push of ANY
sequence constructs over a living object whose destructor never runs: `k` pushes,
`k` orphaned objects. -/
theorem ring_lifetime_fresh_pushes_leak {α : Type} (dflt : α) (n : Nat) (hn : n + 1 < 2 ^ 32)
    (xs : List α) :
    ∃ l, LRing.pushAllOrig (LRing.mk' dflt n) xs = some l ∧ l.overLive = xs.length ∧ l.deadDtor = 0 := by
  have ha := TRing.mk'_abs dflt n hn
  obtain ⟨l, e, -, ho, hd⟩ := LRing.pushAll_allLive xs (LRing.mk' dflt n) (LRing.mk'_allLive dflt n)
    ha.2.2.1 ha.2.2.2.1
  exact ⟨l, e, by simpa [LRing.mk'] using ho, by simpa [LRing.mk'] using hd⟩

/-- in ANY state, the slot a `pop` has destroyed is destroyed a second time when the
ring goes out of scope right after (`~unbounded_array` runs `~T()` on every slot). -/
theorem ring_lifetime_pop_then_destroy {α : Type} (l l' : LRing α) (e : l.popOrig = some l')
    (hlen : l.live.length = l.t.buf.length) : l.deadDtor + 1 ≤ l'.destroy.deadDtor := by
  by_cases hlt : l.t.r.tail.toNat < l.t.buf.length
  · simp only [LRing.popOrig, TRing.popOrig, if_pos hlt, Option.some.injEq] at e
    subst e
    -- the flag list of `l'` has a dead slot, so `destroy` counts at least one more
    have hmem : false ∈ l.live.set l.t.r.tail.toNat false := by
      have hi : l.t.r.tail.toNat < (l.live.set l.t.r.tail.toNat false).length := by
        simpa [hlen] using hlt
      have := List.getElem_mem hi
      simpa using this
    have : 0 < LRing.deadCount (l.live.set l.t.r.tail.toNat false) :=
      List.length_pos_of_mem (List.mem_filter.2 ⟨hmem, by simp⟩)
    simp only [LRing.destroy]
    split <;> omega
  · simp only [LRing.popOrig, TRing.popOrig, if_neg hlt] at e
    cases e

/-- stored elements are living objects: the invariant holds after construction and
is kept by every contract-respecting push and pop; a contract-respecting pop
always destroys a LIVING object (no double destruction at that moment), and
`tail()` of a non-empty ring refers to a living object. -/
theorem ring_lifetime_stored_live {α : Type} (dflt : α) (n : Nat) (l l' : LRing α) (q : List α) (x y : α) :
    LRing.StoredLive (LRing.mk' dflt n) ∧
    (Abs l.t.r l.t.buf q → q.length < l.t.r.size.toNat - 1 → LRing.StoredLive l →
      l.pushOrig x = some l' → LRing.StoredLive l') ∧
    (Abs l.t.r l.t.buf (y :: q) → LRing.StoredLive l → l.popOrig = some l' →
      LRing.StoredLive l' ∧ l.tailLive = true ∧ l'.deadDtor = l.deadDtor) := by
  refine ⟨⟨by simp [LRing.mk', TRing.mk'], fun i hi => ?_⟩, fun ha hroom hs e => ?_, fun ha hs e => ?_⟩
  · simp [LRing.mk', TRing.mk', ringInit, RingHead.cnt, cntN] at hi
  · -- the flags, read as a ring, store `replicate cnt true`: a push is `abs_moveHeadOne` on them
    have hlen := ha.head_in_buf
    simp only [LRing.pushOrig, TRing.push_eq l.t x hlen, Option.some.injEq] at e
    subst e
    exact LRing.storedLive_of_abs (by simp [hs.1])
      (abs_moveHeadOne (c := true) (abs_set_head true (hs.abs ha.1 ha.2.1))
        (by rw [List.length_replicate, ← ha.2.2.1]; exact hroom)
        (List.getElem?_set_self (hs.1 ▸ hlen)))
      (by simp)
  · -- … and a pop is `abs_pop_set`
    have hlen := ha.tail_in_buf
    have ht : l.t.popOrig = some ⟨ringMoveTailOne l.t.r, l.t.buf⟩ := by simp [TRing.popOrig, hlen]
    simp only [LRing.popOrig, ht, Option.some.injEq] at e
    subst e
    have hl := hs.abs ha.1 ha.2.1
    rw [← ha.2.2.1, List.length_cons, List.replicate_succ] at hl
    have h0 := (abs_moveTailOne hl).1
    have hlive : l.live.getD l.t.r.tail.toNat false = true := by
      rw [List.getD_eq_getElem?_getD, h0]; rfl
    exact ⟨LRing.storedLive_of_abs (by simp [hs.1]) (abs_pop_set false hl) (by simp), hlive, by simp [h0]⟩

/-- the finding on the model: `ring<T> r(1); r.push(a); r.pop();` and scope exit —
one object constructed over a living one (orphaned), one object destroyed twice. -/
theorem ring_element_lifetime_witness :
    (((LRing.mk' (0 : Int) 1).pushOrig 7).bind fun l => l.popOrig.map fun l =>
      (l.destroy.overLive, l.destroy.deadDtor)) = some (1, 1) := by
  decide

/-! ## 14. ring_counter in `int` arithmetic, negative `i` -/

/-- the exact precondition under which `ring_counter_correct` describes the C
code: for a counter object with `0 < size ≤ INT_MAX`,
`increment(a)` is free of signed overflow IFF `counter + a` fits an `int`,
`prev(i)` / `last(i)` IFF `counter − i` fits; `set`, `fixup_pos` always; the
fix-up loops themselves never overflow.  Inside the precondition the C functions
are the unbounded-integer functions of `ring_counter_correct`. -/
theorem ring_counter_int_exact (rc : RingCounter) (hs : 0 < rc.size) (hsI : inInt rc.size)
    (x : Int) (hx : inInt x) :
    rcIncrementC rc x = (if inInt (rc.counter + x) then some (rcIncrement rc x) else none) ∧
    rcPrevC rc x = (if inInt (rc.counter - x) then some (rcPrev rc x) else none) ∧
    rcLastC rc x = (if inInt (rc.counter - x) then some (rcLast rc x) else none) ∧
    rcSetC rc x = some (rcSet rc x) ∧
    rcFixupPosC rc x = some (rcFixupPos rc x) := by
  have hfix : ∀ p, inInt p → rcFixupPosC rc p = some (rcFixupPos rc p) := fun p hp => by
    simp only [rcFixupPosC, rcFixupPos, rcDownC_eq rc.size hs _ p hp, Option.bind_some]
    exact rcUpC_eq rc.size hs hsI _ _ (rcDown_inInt rc.size hs _ p hp)
  refine ⟨?_, ?_, ?_, ?_, hfix x hx⟩
  · unfold rcIncrementC ckInt
    split
    · rename_i h
      simp [rcDownC_eq rc.size hs _ _ h, rcIncrement, rcFixup]
    · rfl
  · unfold rcPrevC ckInt
    split
    · rename_i h
      simp [rcUpC_eq rc.size hs hsI _ _ h, rcPrev]
    · rfl
  · unfold rcLastC ckInt
    split
    · rename_i h
      simp [hfix _ h, rcLast]
    · rfl
  · simp [rcSetC, rcDownC_eq rc.size hs _ x hx, rcSet, rcFixup]

example : inInt (5 : Int) ∧ inInt (2147483647 : Int) := by decide

/-- beyond the preconditions.  (a) `counter + arg` = INT_MAX + 1: signed overflow
(one less is fine).  (b) negative `i`: `ring_counter_prev(i)` is `(counter − i) mod
size` only while `counter − i < size`; at `counter = 0, size = 3`, `prev(−2) = 2`
but `prev(−3) = 3 = size`, and `cyclic_buffer<T>(3)[−3]` reads `data[3]`, outside
the array (`none`), while `[−2]` is inside.  (c) a negative increment below 0
leaves the counter negative (the fix-up loop only subtracts). -/
theorem ring_counter_beyond_witness :
    rcIncrementC ⟨5, 2147483647⟩ 2147483643 = none ∧
    (rcIncrementC ⟨5, 2147483647⟩ 2147483642).map (·.counter) = some 0 ∧
    rcPrev ⟨0, 3⟩ (-2) = 2 ∧ rcPrev ⟨0, 3⟩ (-3) = 3 ∧
    (Cyclic.mk' (0 : Int) 3).nth (-3) = none ∧ ((Cyclic.mk' (0 : Int) 3).nth (-2)).isSome = true ∧
    (rcIncrement ⟨0, 3⟩ (-1)).counter = -1 := by
  decide

/-! ## 15. igris::ring<T> over arbitrary histories -/

/-- ring_typed_fifo_lossless: construct `igris::ring<T>(n)` for ANY `n` with
`n + 1 < 2^32` (n = 0, 1, 2 included) and apply ANY interleaving of `push` /
`emplace` and `tail(); pop()` that respects the contract of the typed ring
(`runSpecT ≠ none`: push only with room, pop only when non-empty — the code does
not test, `ring_push_full_pop_empty`), wrapping any number of times.  Then no
access leaves the buffer, every `tail()` returns what the reference queue of
capacity `n` delivers, the final ring stores the final reference queue, and
pushed = delivered ++ stored, for every element type `T` (as values; see §13
for object lifetime).  `ring<char>::read/write` are `ring_read`/`ring_write` on
`(r, buffer)`: `ring_refines_fifo_partial` applies to them verbatim. -/
theorem ring_typed_fifo_lossless {α : Type} (dflt : α) (n : Nat) (hn : n + 1 < 2 ^ 32)
    (ops : List (TOp α)) (q' : List α) (outs : List (Option α))
    (hspec : runSpecT n [] ops = some (q', outs)) :
    ∃ t', runT dflt (TRing.mk' dflt n) ops = some (t', outs) ∧ Abs t'.r t'.buf q' ∧
      t'.r.size.toNat = n + 1 ∧ pushedT ops = deliveredT outs ++ q' := by
  have ha := TRing.mk'_abs dflt n hn
  obtain ⟨t', e, hs, h', hc⟩ := runT_sound dflt ops ha.2.2 (by rw [ha.1]; simpa using hspec)
  exact ⟨t', e, h', by rw [hs, ha.1], hc⟩

example : (runSpecT 1 ([] : List Int) [.push 7, .pop, .push 8, .pop]).isSome := by decide

/-! ## 16. element lifetime of igris::ring<T> AFTER the repairs fb98774
(`pop`) and d4125bf (`push`/`emplace`) — "every object constructed in the ring is
destroyed exactly once", at full strength -/

/-- the value component of the repaired lifetime model is the typed-ring model:
§6, §12, §15 hold for every `T` as statements about values -/
theorem ring_lifetime_values_repaired {α : Type} (v : VRing α) (x d : α) :
    (v.push x).map (·.t) = v.t.push x ∧ (v.pop d).map (·.t) = v.t.pop d :=
  ⟨by unfold VRing.push; cases v.t.push x <;> rfl, by unfold VRing.pop; cases v.t.pop d <;> rfl⟩

/-- ring_lifetime_exactly_once: construct `igris::ring<T>(n)` for ANY `n` with
`n + 1 < 2^32` and run ANY script of `push`/`emplace` (also `push(head_place())`,
the argument aliasing the slot), `pop`, `clear`, `resize`,
copy construction, move construction and copy assignment to another ring
(`unbounded_array::operator=`), carrying on with the new object, and (repair
25cbbc5) pushes whose element constructor THROWS and is caught by the caller —
contract-respecting or not: push on a full ring, pop on an empty one included —
and let the last object go out of scope.  Then no operation faults, and
* no object was ever constructed over a living object (`overLive = 0`),
* no destructor ever ran on a slot without a living object (`deadDtor = 0`),
* no copy ever read a slot without a living object (`deadRead = 0`),
* at the end no object is alive and #constructor calls = #destructor calls.
Each destructor call therefore ended the life of a distinct constructed object
and every constructed object was reached by one: destroyed exactly once.
While the ring is in use every slot of its array holds a living object. -/
theorem ring_lifetime_exactly_once {α : Type} (dflt : α) (n : Nat) (hn : n + 1 < 2 ^ 32)
    (ops : List (VOp α)) (hok : ∀ op ∈ ops, op.ok) :
    ∃ v, VRing.run dflt (VRing.mk' dflt n) ops = some v ∧
      v.live = List.replicate v.t.buf.length true ∧
      v.destroy.overLive = 0 ∧ v.destroy.deadDtor = 0 ∧ v.destroy.deadRead = 0 ∧
      v.destroy.ctor = v.destroy.dtor ∧ (∀ b ∈ v.destroy.live, b = false) := by
  obtain ⟨v, e, g⟩ := VRing.run_good dflt ops (VRing.mk'_good dflt n hn) hok
  obtain ⟨h1, h2, h3, h4, h5⟩ := VRing.invalidate_good g
  exact ⟨v, e, g.live, h1, h2, h3, h4, h5⟩

example : ∀ op ∈ [VOp.push (1 : Int), .pushSelf, .pop, .pop, .clear, .resize 5, .copy, .move, .assign 3, .pushThrow], op.ok := by
  intro op h
  simp only [List.mem_cons, List.not_mem_nil, or_false] at h
  rcases h with rfl | rfl | rfl | rfl | rfl | rfl | rfl | rfl | rfl | rfl <;> simp [VOp.ok]

/-- what one `push` / `pop` does to the objects: in a ring whose slots all live,
exactly one object is destroyed and exactly one is constructed (in the same slot),
whatever the fill state -/
theorem ring_lifetime_step_counts {α : Type} (v : VRing α) (x d : α) (g : VRing.Good v) :
    (∃ v', v.push x = some v' ∧ VRing.Good v' ∧ v'.ctor = v.ctor + 1 ∧ v'.dtor = v.dtor + 1) ∧
    (∃ v', v.pop d = some v' ∧ VRing.Good v' ∧ v'.ctor = v.ctor + 1 ∧ v'.dtor = v.dtor + 1) :=
  ⟨VRing.push_good x g, VRing.pop_good d g⟩

example : VRing.Good (VRing.mk' (0 : Int) 1) := VRing.mk'_good 0 1 (by decide)

/-- the script of `ring_element_lifetime_witness` on the repaired code: nothing
orphaned, nothing destroyed twice, 4 objects constructed (2 by the array, 1 by
push, 1 by pop) and 4 destroyed -/
theorem ring_lifetime_repaired_witness :
    (((VRing.mk' (0 : Int) 1).push 7).bind fun v => (v.pop 0).map fun v =>
      (v.destroy.overLive, v.destroy.deadDtor, v.destroy.ctor, v.destroy.dtor)) = some (0, 0, 4, 4) := by
  decide

/-! ## 17. the bulk calls on a full / empty ring leave the state unchanged -/

/-- "a full ring rejects writes and an empty ring rejects reads without changing
state" for `ring_write` / `ring_read` (and `igris::ring<char>::write/read`, which
are these functions on `(r, buffer)`): the answer is 0 bytes and head, tail and
the whole buffer are what they were, for every data / length. -/
theorem ring_write_full_read_empty_unchanged (r : RingHead) (buf q d : List Byte) (n : Nat) :
    (Abs r buf q → q.length = r.size.toNat - 1 → ringWrite r buf d = some (r, buf, 0)) ∧
    (Abs r buf [] → ringRead r buf n = some (r, [])) :=
  ⟨fun h hf => write_full_unchanged r buf d (abs_full h hf),
   fun h => read_empty_unchanged r buf n (abs_empty h)⟩

/-! ## 18. igris::ring<T> — exactly when `push` / `pop` behave as a queue

FULL STATEMENT of the property text for the typed ring: "a full ring rejects
`push`, an empty ring rejects `pop`, without changing state".  False for the
code: `push`/`emplace`/`pop` return `void` and do not test
(`ring_typed_no_reject_witness`, finding C03-typed-ring-no-reject).  What holds
is the exact characterisation below (`ring_push_full_pop_empty` says what
happens outside it). -/

/-- `push` appends to the stored queue IFF the ring is not full; `pop` removes
exactly one element IFF the ring is not empty. -/
theorem ring_typed_push_pop_exact {α : Type} (t : TRing α) (q : List α) (x d : α) (h : Abs t.r t.buf q) :
    ((∃ t', t.push x = some t' ∧ Abs t'.r t'.buf (q ++ [x])) ↔ q.length < t.r.size.toNat - 1) ∧
    ((∃ t' q', t.pop d = some t' ∧ Abs t'.r t'.buf q' ∧ q'.length + 1 = q.length) ↔ q ≠ []) := by
  constructor
  · constructor
    · rintro ⟨t', e, ha⟩
      have := ha.len_lt
      rw [TRing.push_size e, List.length_append, List.length_singleton] at this
      omega
    · intro hr
      obtain ⟨t', e, -, ha⟩ := TRing.push_abs x h hr
      exact ⟨t', e, ha⟩
  · constructor
    · rintro ⟨t', q', e, ha, hl⟩ hq
      subst hq
      simp at hl
    · intro hq
      cases q with
      | nil => exact absurd rfl hq
      | cons y q0 =>
        obtain ⟨t', e, -, ha⟩ := TRing.pop_abs d h
        exact ⟨t', q0, e, ha, rfl⟩

/-- `igris::ring<int>(3)`: three pushes fill it (avail 3); the fourth push is
not rejected, the ring then reads as empty (avail 0: four elements lost); a
`pop` on the fresh (empty) ring is not rejected either, the ring then reports 3
stored elements. -/
theorem ring_typed_no_reject_witness :
    ((((TRing.mk' (0 : Int) 3).push 1).bind fun t => (t.push 2).bind fun t => t.push 3).map
      fun t => (ringAvail t.r).toNat) = some 3 ∧
    ((((TRing.mk' (0 : Int) 3).push 1).bind fun t => (t.push 2).bind fun t => (t.push 3).bind fun t =>
      t.push 4).map fun t => ((ringAvail t.r).toNat, ringEmpty t.r)) = some (0, true) ∧
    (((TRing.mk' (0 : Int) 3).pop 0).map fun t => ((ringAvail t.r).toNat, ringFull t.r)) = some (3, true) := by
  decide

/-! ## 19. the C widths — for exactly which arguments the list-level
theorems about `ring(n)`, `resize(n)`, `cyclic_buffer(n)` describe the C++ objects -/

/-- `ring(int bufsize)`: the object is the model's `TRing.mk' _ bufsize` (ring size =
array size = bufsize + 1 ≥ 1) IFF `0 ≤ bufsize < INT_MAX`.  (`bufsize = INT_MAX`:
signed overflow; `bufsize = −1`: a ring of size 0 over an empty array;
`bufsize ≤ −2`: a request for 2^64 − |bufsize+1| elements.) -/
theorem ring_ctor_width_exact (b : BitVec 32) :
    (∃ r len, ringCtorC b = some (r, len) ∧ r.size.toNat = len ∧ 0 < len ∧ (len : Int) = b.toInt + 1) ↔
      (0 ≤ b.toInt ∧ b.toInt < 2147483647) := by
  have hhi : b.toInt < 2147483648 := by have := BitVec.toInt_lt (x := b); simpa using this
  unfold ringCtorC
  constructor
  · rintro ⟨r, len, e, -, h2, h3⟩
    split at e
    · cases e
    · omega
  · rintro ⟨h0, h1⟩
    have e32 := toNat_ofInt_fits (w := 32) (z := b.toInt + 1) (by omega) (by omega)
    have e64 := toNat_ofInt_fits (w := 64) (z := b.toInt + 1) (by omega) (by omega)
    rw [if_neg (by omega)]
    exact ⟨_, _, rfl, by simp only [ringInit]; omega, by omega, e64⟩

/-- witnesses just outside: `ring<T>(-1)` is a ring of size 0 over 0 elements,
`ring<T>(INT_MAX)` overflows, `ring<T>(INT_MAX - 1)` is fine -/
theorem ring_ctor_width_witness :
    ringCtorC (-1) = some (⟨0, 0, 0⟩, 0) ∧ ringCtorC 2147483647 = none ∧
    ringCtorC 2147483646 = some (⟨0, 0, 2147483647⟩, 2147483647) := by
  decide

/-- `resize(size_t sz)`: ring size = array size (= sz + 1) IFF `sz + 1 < 2^32`;
beyond it `ring_init` receives the truncated value. -/
theorem ring_resize_width_exact (sz : BitVec 64) :
    ((ringResizeC sz).1.size.toNat = (ringResizeC sz).2 ∧ 0 < (ringResizeC sz).2) ↔
      sz.toNat + 1 < 2 ^ 32 := by
  have := sz.isLt
  have h1 : (1 : BitVec 64).toNat = 1 := rfl
  simp only [ringResizeC, ringInit, BitVec.toNat_setWidth, BitVec.toNat_add, h1]
  omega

/-- just outside: `resize(2^32 − 1)` gives a ring of size 0 over 2^32 elements
(the fix-up loops of such a ring do not terminate, `ring_fixup_terminates_iff`),
`resize(2^32)` a ring of size 1 (capacity 0) over 2^32 + 1 elements;
`resize(2^32 − 2)` is the largest faithful one. -/
theorem ring_resize_width_witness :
    ringResizeC 0xFFFFFFFF = (⟨0, 0, 0⟩, 4294967296) ∧
    ringResizeC 0x100000000 = (⟨0, 0, 1⟩, 4294967297) ∧
    ringResizeC 0xFFFFFFFE = (⟨0, 0, 0xFFFFFFFF⟩, 4294967295) := by
  decide

/-- `cyclic_buffer(size_t size)`: `counter.size` (an `int`) equals the number of
elements IFF `size < 2^31`, i.e. `cyclic_buffer_nth` (stated for `Cyclic.mk' _ n`,
any `n ≥ 1`) describes the C++ object exactly for `1 ≤ n ≤ INT_MAX`. -/
theorem cyclic_ctor_width_exact (size : BitVec 64) :
    ((cyclicCtorC size).1.size = ((cyclicCtorC size).2 : Int)) ↔ size.toNat < 2 ^ 31 := by
  have := size.isLt
  simp only [cyclicCtorC, rcInit, BitVec.toInt_eq_toNat_cond, BitVec.toNat_setWidth]
  split <;> omega

/-- just outside: `cyclic_buffer<T>(2^31)` has `counter.size = INT_MIN`, and its
first `push` overflows `int` in the fix-up loop (`counter −= size` with
counter = 1) -/
theorem cyclic_ctor_width_witness :
    (cyclicCtorC 0x80000000).1 = ⟨0, -2147483648⟩ ∧
    rcIncrementC (cyclicCtorC 0x80000000).1 1 = none ∧
    (cyclicCtorC 0x7FFFFFFF).1 = ⟨0, 2147483647⟩ := by
  decide

/-- the bulk-move bound `size ≤ 2^31` of `ring_move_head_publishes_partial` is
tight: on the ring of 2^31 + 1 slots, empty at head = tail = 2^31, a move by
2^31 (= room) makes `head + bias` = 2^32 wrap to 0; (head + bias) mod size is
2^31 − 1. -/
theorem ring_move_head_size_witness_tight :
    (ringMoveHead ⟨0x80000000, 0x80000000, 0x80000001⟩ 0x80000000).head.toNat = 0 ∧
    (ringRoom ⟨0x80000000, 0x80000000, 0x80000001⟩).toNat = 0x80000000 ∧
    (0x80000000 + 0x80000000) % 0x80000001 = 0x7FFFFFFF := by
  decide

/-! ## 20. `size == 0` -/

/-- `ring_fixup_head` / `ring_fixup_tail` (`while (x >= size) x -= size;`)
terminate IFF `size ≠ 0` (then within `x` iterations, and the result is
`fixupLoop`'s, i.e. `x mod size`).  On a ring of size 0 — `ring_init(r, 0)`, a
default-constructed `igris::ring<T>`, `resize(2^32 − 1)` — every
`ring_move_head` / `ring_move_tail` hangs (outside the property's quantifier
"all ring sizes ≥ 2"; finding C03-ring-size-zero). -/
theorem ring_fixup_terminates_iff (size x : U32) :
    (∃ fuel, (fixupLoopT size fuel x).isSome = true) ↔ size ≠ 0 := by
  constructor
  · rintro ⟨fuel, h⟩ rfl
    rw [show fixupLoopT 0 fuel x = none from fixupLoopT_zero fuel x] at h
    cases h
  · intro hs
    have hpos : 0 < size.toNat := by
      rcases Nat.eq_zero_or_pos size.toNat with h0 | h0
      · exact absurd (BitVec.eq_of_toNat_eq (by simpa using h0)) hs
      · exact h0
    exact ⟨x.toNat, by rw [fixupLoopT_pos size hpos _ x (Nat.le_refl _)]; rfl⟩

example : (fixupLoopT 7 20 20).isSome = true := by decide

/-! ## 21. the bulk moves for every size; `int` results -/

/-- what `ring_move_head` / `ring_move_tail` compute for EVERY size ≥ 1 and EVERY
bias, inside and outside the region of the `_partial` theorems: the 32-bit sum,
then reduced modulo `size`. -/
theorem ring_move_exact_all_sizes (r : RingHead) (hs : 0 < r.size.toNat) (b : U32) :
    (ringMoveHead r b).head.toNat = ((r.head.toNat + b.toNat) % 2 ^ 32) % r.size.toNat ∧
    (ringMoveTail r b).tail.toNat = ((r.tail.toNat + b.toNat) % 2 ^ 32) % r.size.toNat :=
  ⟨moveHead_head r hs b, moveTail_tail r hs b⟩

/-- the region excluded by `ring_move_head_publishes_partial` is exactly
`size > 2^31`: "every head move within `room` lands on `(head + bias) mod size`"
holds for a size IFF `size ≤ 2^31` (for every larger size the empty ring at
head = tail = size − 1 moved by `room = size − 1` is a counterexample). -/
theorem ring_move_head_exact_iff (size : U32) (hs : 0 < size.toNat) :
    (∀ head tail bias : U32, head.toNat < size.toNat → tail.toNat < size.toNat →
        bias.toNat ≤ (ringRoom ⟨head, tail, size⟩).toNat →
        (ringMoveHead ⟨head, tail, size⟩ bias).head.toNat = (head.toNat + bias.toNat) % size.toNat) ↔
      size.toNat ≤ 2 ^ 31 := by
  have hlt := size.isLt
  constructor
  · intro h
    refine Nat.le_of_not_lt fun hS => ?_
    -- the empty ring at head = tail = size − 1, moved by room = size − 1: 2·size − 2 ≥ 2^32 wraps
    have e1 : (size - 1).toNat = size.toNat - 1 := u32_pred hs
    have hx : (size - 1).toNat < size.toNat := by omega
    have wf : (⟨size - 1, size - 1, size⟩ : RingHead).WF := ⟨hx, hx⟩
    have := h (size - 1) (size - 1) (size - 1) hx hx (by
      rw [room_toNat _ wf, RingHead.cnt, cntN, if_pos (Nat.le_refl _), Nat.sub_self, Nat.sub_zero]
      exact Nat.le_of_eq e1)
    rw [moveHead_head _ hs] at this
    simp only [e1] at this
    have a : (size.toNat - 1 + (size.toNat - 1)) % 2 ^ 32 = size.toNat - 1 + (size.toNat - 1) - 2 ^ 32 := by
      rw [Nat.mod_eq_sub_mod (by omega)]; exact Nat.mod_eq_of_lt (by omega)
    rw [a, Nat.mod_eq_of_lt (by omega), mod_wrap (by omega)] at this
    split at this <;> omega
  · intro hS head tail bias hh ht hb
    rw [room_toNat _ ⟨hh, ht⟩] at hb
    have hb' : bias.toNat ≤ size.toNat - 1 := Nat.le_trans hb (Nat.sub_le _ _)
    rw [moveHead_head _ hs bias, Nat.mod_eq_of_lt (a := head.toNat + bias.toNat) (by omega)]

example : (4 : U32).toNat ≤ 2 ^ 31 := by decide

/-- `ring_write` / `ring_read` count in an `int` (`int ret`): on every ring of at
most 2^31 slots the count fits (no signed overflow), whatever the data / length. -/
theorem ring_bulk_return_fits_int (r : RingHead) (buf q d : List Byte) (n : Nat) (h : Abs r buf q)
    (hS : r.size.toNat ≤ 2 ^ 31) :
    (∃ r' buf' k, ringWrite r buf d = some (r', buf', k) ∧ k ≤ 2147483647) ∧
    (∃ r' out, ringRead r buf n = some (r', out) ∧ out.length ≤ 2147483647) := by
  have hq := h.len_lt
  obtain ⟨r1, b1, e1, -⟩ := ring_write_appends r buf q d h
  obtain ⟨r2, e2, -⟩ := ring_read_delivers r buf q n h
  refine ⟨⟨r1, b1, _, e1, by omega⟩, ⟨r2, _, e2, ?_⟩⟩
  have : (q.take n).length ≤ q.length := by simp; omega
  omega

/-- `tail_index()` / `head_index()` / `int idx = r.tail` (in `pop`) convert the
`unsigned` index to `int`: the value is kept IFF it is below 2^31, which the
index invariant gives on every ring of at most 2^31 slots; witness just outside. -/
theorem ring_index_fits_int (r : RingHead) (h : r.WF) (hS : r.size.toNat ≤ 2 ^ 31) :
    r.head.toInt = (r.head.toNat : Int) ∧ r.tail.toInt = (r.tail.toNat : Int) ∧
    (0x80000000 : BitVec 32).toInt = -2147483648 := by
  have h1 := h.1
  have h2 := h.2
  refine ⟨?_, ?_, by decide⟩ <;> rw [BitVec.toInt_eq_toNat_cond] <;> split <;> omega

/-! ## 22. igris::ring<char> — bulk and single operations interleaved on one object -/

/-- ring_char_mixed_history: construct `igris::ring<char>(n)`, ANY `n` with
`n + 1 < 2^32`, and apply ANY interleaving of `write(buf, len)` / `read(buf, len)`
of ANY length (0, up to the wrap point, across it, the whole ring, more than
room / more than stored) with `push` and `tail(); pop()` inside the typed ring's
contract (`runSpecC ≠ none`).  Then no access leaves the buffer, EVERY return value,
every `tail()` and every byte read equal those of the reference `List Byte` queue
of capacity `n`, the final ring stores the final reference queue, and
accepted bytes = delivered bytes ++ stored bytes.  (The C API counterpart with
putc/getc is `ring_refines_fifo_partial`, which has no size restriction for
histories without bulk MOVES.) -/
theorem ring_char_mixed_history (n : Nat) (hn : n + 1 < 2 ^ 32) (ops : List COp) (q' : List Byte)
    (outs : List COut) (hspec : runSpecC n [] ops = some (q', outs)) :
    ∃ t', runC (TRing.mk' 0 n) ops = some (t', outs) ∧ Abs t'.r t'.buf q' ∧
      t'.r.size.toNat = n + 1 ∧ acceptedAllC ops outs = deliveredAllC outs ++ q' := by
  have ha := TRing.mk'_abs (0 : Byte) n hn
  obtain ⟨t', e, hs, h', hc⟩ := runC_sound ops ha.2.2 (by rw [ha.1]; simpa using hspec)
  exact ⟨t', e, h', by rw [hs, ha.1], hc⟩

example : (runSpecC 2 [] [.write [0xFF, 0x80, 0x00], .pop, .push 7, .read 5, .write [], .read 0]).isSome := by
  decide

/-! ## 23. `cyclic_buffer[i]` for every `int i` -/

/-- in a cyclic buffer of `n` samples (any state reached from the constructor /
`resize` by pushes: `CInv`), `cb[i]` stays inside the array IFF
`counter − i < n` — every `i ≥ 0`, and the negative `i > counter − n` — and for
those `i` it addresses the slot of `i mod n`: `cb[i] = cb[i mod n]`, so with
`cyclic_buffer_nth` the `(i mod n)`-th previous sample.  At `i = counter − n` the
access is `data[n]` (finding C03-cyclic-index-below-range; model witness
`ring_counter_beyond_witness`). -/
theorem cyclic_buffer_index_exact {α : Type} (c : Cyclic α) (n : Nat) (log : List α) (h : CInv c n log)
    (i : Int) :
    ((c.nth i).isSome = true ↔ c.counter.counter - i < n) ∧
    (c.counter.counter - i < n → c.nth i = c.nth (i % (n : Int))) := by
  obtain ⟨k, hk, hkn⟩ := h.cnt
  constructor
  · rw [Cyclic.nth, at?_isSome, h.len]
    by_cases hlt : c.counter.counter - i < n
    · have h1 := Int.emod_nonneg (c.counter.counter - i) (show (n : Int) ≠ 0 by omega)
      have h2 := Int.emod_lt_of_pos (c.counter.counter - i) (show (0 : Int) < n by omega)
      rw [h.prev_eq i hlt]; omega
    · rw [rcPrev_of_nonneg _ _ (by omega)]; omega
  · intro hlt
    have := Int.emod_nonneg i (show (n : Int) ≠ 0 by omega)
    rw [Cyclic.nth, Cyclic.nth, h.prev_eq i hlt, h.prev_eq _ (by omega), Int.sub_emod,
      Int.sub_emod c.counter.counter (i % (n : Int)) n, Int.emod_emod_of_dvd _ (Int.dvd_refl _)]

example : CInv (Cyclic.mk' (0 : Int) 3) 3 [] := cinv_mk' 0 3 (by decide)

/-! ## 24. cyclic_buffer in `int` arithmetic; `size_t` lengths of igris::ring::write -/

/-- in every state of a cyclic buffer of `n ≤ INT_MAX` samples the `int` arithmetic
of `push` (`ring_counter_increment(&counter, 1)`) never overflows and `operator[](i)`
never does for `0 ≤ i`: there the unbounded-integer model `Cyclic.push` / `Cyclic.nth`
(of `cyclic_buffer_nth`) IS the C arithmetic. -/
theorem cyclic_buffer_int_safe {α : Type} (c : Cyclic α) (n : Nat) (log : List α) (h : CInv c n log)
    (hn : n ≤ 2147483647) (i : Int) (hi : inInt i) :
    rcIncrementC c.counter 1 = some (rcIncrement c.counter 1) ∧
    (0 ≤ i → rcPrevC c.counter i = some (rcPrev c.counter i)) := by
  obtain ⟨k, hk, hkn⟩ := h.cnt
  have hpos := h.pos
  have hs : 0 < c.counter.size := by rw [h.sz]; omega
  have hsI : inInt c.counter.size := by rw [h.sz]; unfold inInt; omega
  obtain ⟨e1, -, -, -, -⟩ := ring_counter_int_exact c.counter hs hsI 1 (by decide)
  obtain ⟨-, e2, -, -, -⟩ := ring_counter_int_exact c.counter hs hsI i hi
  refine ⟨?_, fun h0 => ?_⟩
  · rw [e1, if_pos]; rw [hk]; unfold inInt; omega
  · rw [e2, if_pos]; rw [hk]; unfold inInt at hi ⊢; omega

/-- BEFORE the repair dd34347 (`writeCOrig`): `igris::ring<T>::write(buf, sz)` handed the `size_t sz` to an `unsigned int`
parameter: it was `ring_write` of the whole data for `sz < 2^32`; a request of
`2^32 + k` elements was served as a request of `k`. -/
theorem ring_typed_write_width_orig {α : Type} (t : TRing α) (d : List α) (k : Nat) :
    (d.length < 2 ^ 32 →
      t.writeCOrig d = (ringWrite t.r t.buf d).map fun (r', b', n) => (⟨r', b'⟩, n)) ∧
    (k < 2 ^ 32 → d.length = 2 ^ 32 + k →
      t.writeCOrig d = (ringWrite t.r t.buf (d.take k)).map fun (r', b', n) => (⟨r', b'⟩, n)) := by
  constructor
  · intro h
    unfold TRing.writeCOrig
    rw [Nat.mod_eq_of_lt h, List.take_of_length_le (Nat.le_refl _)]
  · intro hk hl
    unfold TRing.writeCOrig
    have : d.length % 2 ^ 32 = k := by omega
    rw [this]

/-- ring_typed_write_width (the code AFTER the repair dd34347: `if (sz > r.size) sz = r.size;`):
`igris::ring<T>::write(buf, sz)` / `read(buf, sz)` for EVERY `size_t` request `sz`, also
`sz ≥ 2^32`: on a ring that stores `q`, a `write` whose source holds the elements `d`
(`|d| ≤ sz`: the request may be larger than what the loop ever looks at) is `ring_write`
of `d` — it accepts `min |d| room` elements and appends exactly them; a `read` of `sz`
is `ring_read` of `sz` — it delivers the `min sz |q|` oldest elements.  The driver
exercises requests of `2^32 + k` (`writebig` / `readbig`). -/
theorem ring_typed_write_width {α : Type} (t : TRing α) (q d : List α) (sz : Nat)
    (h : Abs t.r t.buf q) (hd : d.length ≤ sz) :
    t.writeC d sz = (ringWrite t.r t.buf d).map (fun (r', b', n) => (⟨r', b'⟩, n)) ∧
    ∃ t', t.writeC d sz = some (t', min d.length (t.r.size.toNat - 1 - q.length)) ∧
      Abs t'.r t'.buf (q ++ d.take (t.r.size.toNat - 1 - q.length)) := by
  have hq := h.len_lt
  have e : ringWrite t.r t.buf (d.take (min sz t.r.size.toNat)) = ringWrite t.r t.buf d := by
    by_cases hs : d.length ≤ t.r.size.toNat
    · rw [List.take_of_length_le (by omega)]
    · exact writeAux_take d 0 _ h (by omega)
  have e' : t.writeC d sz = (ringWrite t.r t.buf d).map (fun (r', b', n) => (⟨r', b'⟩, n)) := by
    unfold TRing.writeC; rw [e]
  refine ⟨e', ?_⟩
  obtain ⟨r', b', ew, ha⟩ := abs_write d h
  exact ⟨⟨r', b'⟩, by rw [e', ew]; rfl, ha.2⟩

theorem ring_typed_read_width (t : TRing Byte) (q : List Byte) (sz : Nat) (h : Abs t.r t.buf q) :
    t.readC sz = ringRead t.r t.buf sz ∧
    ∃ r', t.readC sz = some (r', q.take sz) ∧ Abs r' t.buf (q.drop sz) := by
  have hq := h.len_lt
  have e : t.readC sz = ringRead t.r t.buf sz := by
    unfold TRing.readC ringRead
    by_cases hs : sz ≤ t.r.size.toNat
    · rw [Nat.min_eq_left hs]
    · rw [Nat.min_eq_right (by omega)]
      exact readWith_past_end q [] _ _ h (by omega) (by omega)
  refine ⟨e, ?_⟩
  obtain ⟨r', er, ha⟩ := ring_read_delivers t.r t.buf q sz h
  exact ⟨r', by rw [e, er], ha⟩

example : Abs (TRing.mk' (0 : Byte) 3).r (TRing.mk' (0 : Byte) 3).buf [] := (TRing.mk'_abs 0 3 (by decide)).2.2

/-- the request `2^32 + 1` on `ring<char>(3)` holding 3 bytes: served as 1 before the
repair, completely after it -/
theorem ring_typed_read_width_orig_witness :
    let t : TRing Byte := ⟨⟨3, 0, 4⟩, [1, 2, 3, 0]⟩
    (t.readCOrig (2 ^ 32 + 1)).map (·.2) = some [1] ∧ (t.readC (2 ^ 32 + 1)).map (·.2) = some [1, 2, 3] := by
  decide

example : inInt (0 : Int) := by decide

/-! ## 25. `get`, `head_place`, a moved-from ring brought back by `resize` -/

/-- `get(index)` / `head_place()` are plain subscripts of the array: element `i` of
the stored queue is `get((tail + i) mod size)`, `head_place()` is `get(head)`; and a
moved-from ring (no storage) becomes the freshly constructed `ring(n)` again by
`resize(n)`. -/
theorem ring_get_head_place_moved {α : Type} (dflt : α) (t : TRing α) (q : List α) (n : Nat)
    (h : Abs t.r t.buf q) :
    (∀ i (hi : i < q.length), t.get ((t.r.tail.toNat + i) % t.r.size.toNat) = some q[i]) ∧
    t.headPlace = t.get t.r.head.toNat ∧
    TRing.resize dflt t.move.2 n = TRing.mk' dflt n :=
  ⟨fun i hi => h.2.2.2 i hi, rfl, rfl⟩

/-! ## 26. `emplace` with an aliasing argument (still reads a dead object: finding),
a throwing element constructor (repaired 25cbbc5) -/

/-- ring_emplace_alias_exact: `r.emplace(r.head_place())` (the argument aliases the
head slot; `emplace` has no aliasing test, `push` has one) on a ring whose slots
all hold living objects, in ANY fill state: indices and values end up exactly as
after `r.push(r.head_place())` (the slot keeps its value, the head moves on), every
slot holds a living object again, nothing is constructed over a living object and
no destructor runs on a dead slot — but the copy constructor has read the object
that `place->~T()` had just destroyed: EXACTLY ONE copy from a dead object.
Harmless for trivially destructible `T`, undefined behaviour otherwise (finding
`C03-emplace-alias-head-slot`). -/
theorem ring_emplace_alias_exact {α : Type} (v : VRing α) (g : VRing.Good v) :
    ∃ v', v.emplaceSelf = some v' ∧ v'.t.buf = v.t.buf ∧ v'.t.r = ringMoveHeadOne v.t.r ∧
      v'.live = List.replicate v'.t.buf.length true ∧
      v'.overLive = 0 ∧ v'.deadDtor = 0 ∧ v'.deadRead = 1 ∧
      v'.ctor = v.ctor + 1 ∧ v'.dtor = v.dtor + 1 := by
  have hlen := VRing.head_in_buf g
  simp only [VRing.emplaceSelf, hlen, if_true]
  refine ⟨_, rfl, rfl, rfl, ?_, ?_, ?_, ?_, rfl, rfl⟩
  · simp only [VRing.construct, VRing.destruct, g.live]; exact recycle_live _ _
  · simp only [VRing.construct, VRing.destruct, g.live, g.over, getD_set_false hlen]; rfl
  · simp only [VRing.construct, VRing.destruct, g.live, g.dead, getD_replicate_true hlen]; rfl
  · simp only [VRing.construct, VRing.destruct, g.live, g.read, getD_set_false hlen]; rfl

/-- `ring<T>(1); emplace(head_place()); ~ring`: 1 copy from a dead object; the same
script with `push(head_place())`: none -/
theorem ring_emplace_alias_witness :
    ((VRing.mk' (0 : Int) 1).emplaceSelf.map fun v => (v.destroy.overLive, v.destroy.deadDtor, v.destroy.deadRead)) =
      some (0, 0, 1) ∧
    ((VRing.mk' (0 : Int) 1).pushSelf.destroy.deadRead = 0) := by
  decide

/-- ring_push_throwing_copy_exact (the code AFTER the repair 25cbbc5: `try { new (place)
T(obj); } catch (...) { new (place) T(); throw; }`): exception safety of `push(obj)` /
`emplace(args)` when the element's constructor throws, on a ring whose slots all hold
living objects, in ANY fill state.
* STRONG guarantee for everything C03 speaks about: head, tail and size are what
  they were, and whatever queue the ring stored it still stores (`Abs` for the same
  `q`: avail, room, tail(), last(), get_last … all answer as before the call); the only
  slot written is the free head slot, which now holds `T()`.
* BASIC guarantee for the objects: every slot holds a living object again, no
  forbidden event, exactly one destructor and one constructor call.
`ring_lifetime_exactly_once` (§16) quantifies over scripts that contain such
throwing pushes (`VOp.pushThrow`). -/
theorem ring_push_throwing_copy_exact {α : Type} (v : VRing α) (g : VRing.Good v) (d : α) :
    ∃ v', v.pushThrow d = some v' ∧ v'.t.r = v.t.r ∧
      (∀ i, i ≠ v.t.r.head.toNat → v'.t.buf[i]? = v.t.buf[i]?) ∧
      (∀ q, Abs v.t.r v.t.buf q → Abs v'.t.r v'.t.buf q) ∧
      v'.live = List.replicate v'.t.buf.length true ∧
      v'.overLive = 0 ∧ v'.deadDtor = 0 ∧ v'.deadRead = 0 ∧
      v'.ctor = v.ctor + 1 ∧ v'.dtor = v.dtor + 1 := by
  obtain ⟨v', e, g', hr, hb, hc, hd⟩ := VRing.pushThrow_good d g
  refine ⟨v', e, hr, ?_, ?_, g'.live, g'.over, g'.dead, g'.read, hc, hd⟩
  · intro i hi
    rw [hb, List.getElem?_set_ne (Ne.symm hi)]
  · intro q hq
    rw [hr, hb]
    exact abs_set_head d hq

example : VRing.Good (VRing.mk' (0 : Int) 2) := VRing.mk'_good 0 2 (by decide)

/-- what was wrong BEFORE 25cbbc5 (`place->~T(); new (place) T(obj);` without a handler):
values and indices untouched (`v'.t = v.t`), but the head slot — and only it — was left
without a living object; scope exit then ran exactly one destructor on the dead slot
(one destructor call more than constructor calls), a retried `push(x)` ran that one
destructor on the dead slot before it stored `x`. -/
theorem ring_push_throwing_copy_orig {α : Type} (v : VRing α) (g : VRing.Good v) (x : α) :
    ∃ v', v.pushThrowOrig = some v' ∧ v'.t = v.t ∧
      (∀ i, v'.live.getD i false = (decide (i < v.t.buf.length) && decide (i ≠ v.t.r.head.toNat))) ∧
      v'.overLive = 0 ∧ v'.deadDtor = 0 ∧ v'.deadRead = 0 ∧
      v'.destroy.deadDtor = 1 ∧ v'.destroy.dtor = v'.destroy.ctor + 1 ∧
      ∃ v'', v'.push x = some v'' ∧ v.t.push x = some v''.t ∧ v''.deadDtor = 1 ∧ v''.overLive = 0 ∧
        v''.live = List.replicate v''.t.buf.length true := by
  obtain ⟨v', e, ht, hl, h1, h2, h3, -, -⟩ := VRing.pushThrowOrig_spec g
  obtain ⟨a1, a2, v'', e2, b1, b2, b3, b4⟩ := VRing.pushThrowOrig_after g e x
  refine ⟨v', e, ht, ?_, h1, h2, h3, a1, a2, v'', e2, b4, b1, b2, b3⟩
  intro i
  rw [hl, List.getD_eq_getElem?_getD, List.getElem?_set]
  by_cases hi : i < v.t.buf.length <;> by_cases hh : v.t.r.head.toNat = i <;>
    simp [hi, hh, Ne.symm]

/-- `ring<T>(1); push(x) with a throwing T(x); ~ring`: (constructed over a living
object, destructor on a dead slot, constructor calls, destructor calls) is (0, 1, 2, 3)
before 25cbbc5, (0, 0, 3, 3) after -/
theorem ring_push_throwing_copy_orig_witness :
    ((VRing.mk' (0 : Int) 1).pushThrowOrig.map fun v =>
      (v.destroy.overLive, v.destroy.deadDtor, v.destroy.ctor, v.destroy.dtor)) = some (0, 1, 2, 3) ∧
    (((VRing.mk' (0 : Int) 1).pushThrow 0).map fun v =>
      (v.destroy.overLive, v.destroy.deadDtor, v.destroy.ctor, v.destroy.dtor)) = some (0, 0, 3, 3) := by
  decide

/-! ## 27. `unbounded_array::fill / clear / begin / end / operator=` -/

/-- unbounded_array_fill: on an array of ANY size whose slots all hold living objects,
`fill(val)` — the range-for from `begin()` to `end()` — terminates within `size()`
steps, never stores outside the array, assigns to living objects only, constructs
and destroys nothing, and leaves exactly `size()` copies of `val`;
`end() − begin() = size()`. -/
theorem unbounded_array_fill {α : Type} (a : UArr α) (g : UArr.Good a) (val : α) :
    ∃ a', a.fill val = some a' ∧ a'.data = List.replicate a.data.length val ∧
      a'.live = List.replicate a.data.length true ∧ a'.deadAssign = 0 ∧ a'.deadDtor = 0 ∧
      a'.ctor = a.ctor ∧ a'.dtor = a.dtor ∧ a.iterEnd - a.iterBegin = a.data.length := by
  obtain ⟨a', e, ga, hd, hc, hdt⟩ := UArr.fillLoop_spec val a.data.length 0 a g (Nat.zero_le _) (Nat.le_refl _)
  have hd' : a'.data = List.replicate a.data.length val := by simpa using hd
  refine ⟨a', e, hd', ?_, ga.asg, ga.dead, hc, hdt, rfl⟩
  rw [ga.live, hd', List.length_replicate]

example : UArr.Good (UArr.mk' (0 : Int) 3) := UArr.mk'_good 0 3

/-- unbounded_array_clear_assign: `clear()` destroys every element exactly once and
leaves an empty array whose destructor has nothing left to destroy; `x = x`
(self-assignment) is the identity — no element touched; `x = y` leaves exactly the
elements of `y`, every old element destroyed once, every new one constructed once,
the ledger balanced again; `resize(n)` likewise with `n` value-initialised elements. -/
theorem unbounded_array_clear_assign {α : Type} (dflt : α) (a : UArr α) (g : UArr.Good a) (s : List α) (n : Nat) :
    (a.clear.data = [] ∧ a.clear.dtor = a.dtor + a.data.length ∧ a.clear.deadDtor = 0 ∧
      a.clear.ctor = a.clear.dtor ∧ a.clear.invalidate = a.clear) ∧
    a.assign none = a ∧
    ((a.assign (some s)).data = s ∧ UArr.Good (a.assign (some s)) ∧
      (a.assign (some s)).dtor = a.dtor + a.data.length ∧ (a.assign (some s)).ctor = a.ctor + s.length) ∧
    ((a.resize dflt n).data = List.replicate n dflt ∧ UArr.Good (a.resize dflt n)) := by
  obtain ⟨h2, ht, h3, -⟩ := UArr.invalidate_good g
  refine ⟨⟨rfl, ht, h2, h3, ?_⟩, rfl,
    ⟨rfl, ⟨rfl, h2, g.asg, congrArg (· + s.length) h3⟩, ht, rfl⟩, rfl, by simp [UArr.resize], h2, g.asg, ?_⟩
  · simp [UArr.clear, UArr.invalidate, LRing.deadCount]
  · simp only [UArr.resize, List.length_replicate]; exact congrArg (· + n) h3

end Igris.C03
