/-
  C03 — ring.h: helper definitions and lemmas.

  A ring state with `head, tail < size` is the same thing as `(tail, n)` with
  `n < size` stored elements and `head = (tail + n) % size`; every slot the
  operations touch is `(tail + k) % size` for some `k < size`.  Going back is one
  function under three names: `cntN S H T = cprev S H T` (the element count) and, in
  Typed.lean, `prevSlot S H k = cprev S H (k + 1)`.  The `BitVec 32`
  functions of ring.h are characterised once in `Nat` in that form; an operation
  changes a ring in one of three ways: `Abs.extend` (head forward),
  `Abs.release` (tail forward), `Abs.frame` (buffer changed outside the queue).
-/
import IgrisModel.C03.Model
namespace Igris.C03
open Igris.Proto

/-! ### index invariant -/

/-- the index invariant of the property: `head, tail ∈ [0, size)` -/
def RingHead.WF (r : RingHead) : Prop :=
  r.head.toNat < r.size.toNat ∧ r.tail.toNat < r.size.toNat

instance (r : RingHead) : Decidable r.WF := by unfold RingHead.WF; exact inferInstance

theorem RingHead.WF.head_in_buf {α : Type} {r : RingHead} {buf : List α} (h : r.WF)
    (hb : r.size.toNat ≤ buf.length) : r.head.toNat < buf.length := Nat.lt_of_lt_of_le h.1 hb

theorem RingHead.WF.tail_in_buf {α : Type} {r : RingHead} {buf : List α} (h : r.WF)
    (hb : r.size.toNat ≤ buf.length) : r.tail.toNat < buf.length := Nat.lt_of_lt_of_le h.2 hb

/-! ### slots `(p + k) % S`, `k < S` -/

theorem mod_wrap {S x : Nat} (h : x < 2 * S) : x % S = if x < S then x else x - S := by
  split
  · exact Nat.mod_eq_of_lt ‹_›
  · rw [Nat.mod_eq_sub_mod (by omega), Nat.mod_eq_of_lt (by omega)]

theorem slot_inj {S p i j : Nat} (hi : i < S) (hj : j < S) (h : (p + i) % S = (p + j) % S) : i = j := by
  have h1 := Nat.sub_mod_eq_zero_of_mod_eq h
  have h2 := Nat.sub_mod_eq_zero_of_mod_eq h.symm
  rw [Nat.add_sub_add_left, Nat.mod_eq_of_lt (by omega)] at h1 h2
  omega

/-! ### going back: the slot `k` steps before slot `c` -/

/-- slot of the `k`-th previous sample of a cyclic buffer whose newest sample is in
slot `c`: `(c − k) mod n`, without `%` -/
def cprev (n c k : Nat) : Nat := if k ≤ c then c - k else c + n - k

theorem cprev_lt_of_le {n c k : Nat} (hc : c < n) (hk : k ≤ n) : cprev n c k < n := by
  unfold cprev; split <;> omega

theorem cprev_lt {n c k : Nat} (hc : c < n) (hk : k < n) : cprev n c k < n :=
  cprev_lt_of_le hc (Nat.le_of_lt hk)

theorem cprev_add {n c k : Nat} (hc : c < n) (hk : k ≤ n) : (cprev n c k + k) % n = c := by
  unfold cprev; split
  · rw [Nat.sub_add_cancel ‹_›, Nat.mod_eq_of_lt hc]
  · rw [Nat.sub_add_cancel (by omega), Nat.add_mod_right, Nat.mod_eq_of_lt hc]

theorem cprev_unique {n c k x : Nat} (hc : c < n) (hk : k ≤ n) (hx : x < n) (h : (x + k) % n = c) :
    cprev n c k = x :=
  slot_inj (p := k) (cprev_lt_of_le hc hk) hx (by rw [Nat.add_comm, cprev_add hc hk, Nat.add_comm, h])

theorem emod_cprev {n c k : Nat} (hc : c < n) (hk : k ≤ n) :
    ((c : Int) - (k : Int)) % (n : Int) = (cprev n c k : Nat) := by
  unfold cprev
  split
  · rw [Int.emod_eq_of_lt (by omega) (by omega)]; omega
  · rw [← Int.add_emod_right, Int.emod_eq_of_lt (by omega) (by omega)]; omega

theorem cprev_eq_mod_of_le {n c k : Nat} (hc : c < n) (hk : k ≤ n) : cprev n c k = (c + n - k) % n :=
  cprev_unique hc hk (Nat.mod_lt _ (by omega))
    (by rw [Nat.mod_add_mod, Nat.sub_add_cancel (by omega), Nat.add_mod_right, Nat.mod_eq_of_lt hc])

theorem cprev_eq_mod {n c k : Nat} (hc : c < n) (hk : k < n) : cprev n c k = (c + n - k) % n :=
  cprev_eq_mod_of_le hc (Nat.le_of_lt hk)

/-! ### the element count

`cntN S H T`, the distance from slot `T` forward to slot `H`, is `cprev S H T`: the slot
`T` steps before `H`, counted from slot 0. -/

/-- `(H − T) mod S` for `H, T < S`, written without `%` -/
def cntN (S H T : Nat) : Nat := if T ≤ H then H - T else S + H - T

def RingHead.cnt (r : RingHead) : Nat := cntN r.size.toNat r.head.toNat r.tail.toNat

theorem cntN_eq_cprev (S H T : Nat) : cntN S H T = cprev S H T := by
  simp only [cntN, cprev, Nat.add_comm]

theorem cntN_lt {S H T : Nat} (h1 : H < S) (h2 : T < S) : cntN S H T < S :=
  cntN_eq_cprev S H T ▸ cprev_lt h1 h2

theorem slot_cnt_head {S H T : Nat} (h1 : H < S) (h2 : T < S) : (T + cntN S H T) % S = H := by
  rw [cntN_eq_cprev, Nat.add_comm]; exact cprev_add h1 (Nat.le_of_lt h2)

theorem cntN_slot {S T n : Nat} (h2 : T < S) (hn : n < S) : cntN S ((T + n) % S) T = n :=
  (cntN_eq_cprev ..).trans
    (cprev_unique (Nat.mod_lt _ (Nat.zero_lt_of_lt h2)) (Nat.le_of_lt h2) hn (by rw [Nat.add_comm]))

theorem cnt_eq_mod (r : RingHead) (h : r.WF) :
    r.cnt = (r.head.toNat + r.size.toNat - r.tail.toNat) % r.size.toNat :=
  (cntN_eq_cprev ..).trans (cprev_eq_mod h.1 h.2)

theorem cnt_lt (r : RingHead) (h : r.WF) : r.cnt < r.size.toNat := cntN_lt h.1 h.2

/-! ### `unsigned` arithmetic

An expression in `+`, `-` over `unsigned` operands is `BitVec.ofInt` of its exact
integer value `z` (push `ofInt` inwards with `ofInt_sub`, `BitVec.ofInt_add`,
`ofInt_toNat`).  As `unsigned` it has the value `z` when `0 ≤ z < 2^32` (`u32_eval`);
read as `int` — `get_last` hands `r.head - offset - i - 1` to an `int` parameter — it
has the value `z` when `-2^31 ≤ z < 2^31` (`BitVec.toInt_ofInt_eq_self`). -/

theorem ofInt_sub (a b : Int) : BitVec.ofInt 32 (a - b) = BitVec.ofInt 32 a - BitVec.ofInt 32 b := by
  rw [Int.sub_eq_add_neg, BitVec.ofInt_add, BitVec.ofInt_neg, ← BitVec.sub_eq_add_neg]

theorem ofInt_toNat {w : Nat} (x : BitVec w) : BitVec.ofInt w (x.toNat : Int) = x := by
  rw [BitVec.ofInt_natCast, BitVec.ofNat_toNat, BitVec.setWidth_eq]

theorem u32_eval {x : U32} {z : Int} {n : Nat} (e : x = BitVec.ofInt 32 z) (hz : z = n)
    (hn : n < 2 ^ 32) : x.toNat = n := by
  subst e hz; rw [BitVec.ofInt_natCast]; exact Nat.mod_eq_of_lt hn

theorem toNat_ofInt_fits {w : Nat} {z : Int} (h0 : 0 ≤ z) (h1 : z < ((2 ^ w : Nat) : Int)) :
    ((BitVec.ofInt w z).toNat : Int) = z := by
  rw [BitVec.toNat_ofInt, Int.emod_eq_of_lt h0 h1, Int.toNat_of_nonneg h0]

theorem u32_pred {x : U32} (h : 0 < x.toNat) : (x - 1).toNat = x.toNat - 1 :=
  BitVec.toNat_sub_of_le (BitVec.le_def.2 h)

theorem u32_succ {x y : U32} (h : x.toNat < y.toNat) : (x + 1).toNat = x.toNat + 1 :=
  BitVec.toNat_add_of_lt (Nat.lt_of_le_of_lt (Nat.succ_le_of_lt h) y.isLt)

/-- `++x; if (x == size) x = 0;` -/
theorem u32_step (x size : U32) (h : x.toNat < size.toNat) :
    (if (x + 1 == size) = true then 0 else x + 1).toNat = (x.toNat + 1) % size.toNat := by
  split
  · rename_i hs
    rw [← u32_succ h, beq_iff_eq.1 hs, Nat.mod_self]; rfl
  · rename_i hs
    have : x.toNat + 1 ≠ size.toNat :=
      fun e => hs (beq_iff_eq.2 (BitVec.eq_of_toNat_eq ((u32_succ h).trans e)))
    rw [u32_succ h, Nat.mod_eq_of_lt (by omega)]

/-! ### ring.h in `Nat` -/

@[simp] theorem moveHeadOne_tail (r : RingHead) : (ringMoveHeadOne r).tail = r.tail := rfl
@[simp] theorem moveHeadOne_size (r : RingHead) : (ringMoveHeadOne r).size = r.size := rfl
@[simp] theorem moveTailOne_head (r : RingHead) : (ringMoveTailOne r).head = r.head := rfl
@[simp] theorem moveTailOne_size (r : RingHead) : (ringMoveTailOne r).size = r.size := rfl
@[simp] theorem moveHead_tail (r : RingHead) (b : U32) : (ringMoveHead r b).tail = r.tail := rfl
@[simp] theorem moveHead_size (r : RingHead) (b : U32) : (ringMoveHead r b).size = r.size := rfl
@[simp] theorem moveTail_head (r : RingHead) (b : U32) : (ringMoveTail r b).head = r.head := rfl
@[simp] theorem moveTail_size (r : RingHead) (b : U32) : (ringMoveTail r b).size = r.size := rfl

theorem moveHeadOne_head (r : RingHead) (h : r.head.toNat < r.size.toNat) :
    (ringMoveHeadOne r).head.toNat = (r.head.toNat + 1) % r.size.toNat := u32_step _ _ h

theorem moveTailOne_tail (r : RingHead) (h : r.tail.toNat < r.size.toNat) :
    (ringMoveTailOne r).tail.toNat = (r.tail.toNat + 1) % r.size.toNat := u32_step _ _ h

theorem empty_iff (r : RingHead) : ringEmpty r = true ↔ r.head.toNat = r.tail.toNat := by
  unfold ringEmpty; rw [beq_iff_eq, BitVec.toNat_inj]

theorem empty_iff_cnt (r : RingHead) (h : r.WF) : ringEmpty r = true ↔ r.cnt = 0 := by
  rw [empty_iff]; obtain ⟨h1, h2⟩ := h; unfold RingHead.cnt cntN; split <;> omega

/-- `head == (tail ? tail : size) - 1` in `Nat`: the ring holds `size − 1` elements, one more
would make `head` catch up with `tail` -/
theorem full_nat {S H T : Nat} (h1 : H < S) (h2 : T < S) :
    H = (if T = 0 then S else T) - 1 ↔ cntN S H T = S - 1 := by
  unfold cntN; split <;> split <;> omega

theorem full_iff_cnt (r : RingHead) (h : r.WF) :
    ringFull r = true ↔ r.cnt = r.size.toNat - 1 := by
  obtain ⟨h1, h2⟩ := h
  rw [ringFull, RingHead.cnt, beq_iff_eq, ← BitVec.toNat_inj, ← full_nat h1 h2]
  by_cases ht : r.tail = 0
  · rw [if_neg (fun hn => hn ht), u32_pred (Nat.zero_lt_of_lt h1), if_pos (ht ▸ rfl)]
  · have : r.tail.toNat ≠ 0 := fun e => ht (BitVec.eq_of_toNat_eq e)
    rw [if_pos ht, u32_pred (Nat.pos_of_ne_zero this), if_neg this]

theorem avail_toNat (r : RingHead) (h : r.WF) : (ringAvail r).toNat = r.cnt := by
  obtain ⟨h1, h2⟩ := h
  have := r.size.isLt
  simp only [ringAvail, RingHead.cnt, cntN, ge_iff_le, BitVec.le_def]
  split
  · rw [BitVec.toNat_sub_of_le ‹_›]
  · exact u32_eval (z := (r.size.toNat : Int) + r.head.toNat - r.tail.toNat)
      (by rw [ofInt_sub, BitVec.ofInt_add, ofInt_toNat, ofInt_toNat, ofInt_toNat]) (by omega) (by omega)

theorem room_toNat (r : RingHead) (h : r.WF) :
    (ringRoom r).toNat = r.size.toNat - 1 - r.cnt := by
  obtain ⟨h1, h2⟩ := h
  have := r.size.isLt
  simp only [ringRoom, RingHead.cnt, cntN, ge_iff_le, BitVec.le_def]
  split
  · exact u32_eval (z := (r.size.toNat : Int) - 1 + (r.tail.toNat - r.head.toNat))
      (by rw [BitVec.ofInt_add, ofInt_sub, ofInt_sub, ofInt_toNat, ofInt_toNat, ofInt_toNat]; rfl)
      (by omega) (by omega)
  · exact u32_eval (z := (r.tail.toNat : Int) - r.head.toNat - 1)
      (by rw [ofInt_sub, ofInt_sub, ofInt_toNat, ofInt_toNat]; rfl) (by omega) (by omega)

/-- `while (x >= size) x -= size;` -/
theorem fixupLoop_toNat (size : U32) (hs : 0 < size.toNat) :
    ∀ (fuel : Nat) (x : U32), x.toNat ≤ fuel →
      (fixupLoop size fuel x).toNat = x.toNat % size.toNat
  | 0, x, h => by
      rw [fixupLoop, Nat.le_zero.1 h, Nat.zero_mod]
  | fuel + 1, x, h => by
      unfold fixupLoop
      split
      · rename_i hle
        have e := BitVec.toNat_sub_of_le hle
        rw [fixupLoop_toNat size hs fuel (x - size) (by omega), e, ← Nat.mod_eq_sub_mod (BitVec.le_def.1 hle)]
      · rename_i hlt
        rw [Nat.mod_eq_of_lt (Nat.lt_of_not_le fun hle => hlt (BitVec.le_def.2 hle))]

theorem moveHead_head (r : RingHead) (hs : 0 < r.size.toNat) (b : U32) :
    (ringMoveHead r b).head.toNat = ((r.head.toNat + b.toNat) % 2 ^ 32) % r.size.toNat := by
  unfold ringMoveHead ringFixupHead
  simp only
  rw [fixupLoop_toNat r.size hs _ _ (Nat.le_refl _), BitVec.toNat_add]

theorem moveTail_tail (r : RingHead) (hs : 0 < r.size.toNat) (b : U32) :
    (ringMoveTail r b).tail.toNat = ((r.tail.toNat + b.toNat) % 2 ^ 32) % r.size.toNat := by
  unfold ringMoveTail ringFixupTail
  simp only
  rw [fixupLoop_toNat r.size hs _ _ (Nat.le_refl _), BitVec.toNat_add]

/-! ### abstraction relation -/

/-- `Abs r buf q`: the ring described by `r` over the buffer `buf` stores exactly
the queue `q`, oldest first. -/
def Abs {α : Type} (r : RingHead) (buf : List α) (q : List α) : Prop :=
  r.WF ∧ r.size.toNat ≤ buf.length ∧ q.length = r.cnt ∧
  ∀ i (h : i < q.length), buf[(r.tail.toNat + i) % r.size.toNat]? = some q[i]

section
variable {α : Type} {r : RingHead} {buf q : List α}

theorem Abs.len_lt (h : Abs r buf q) : q.length < r.size.toNat := h.2.2.1 ▸ cnt_lt r h.1

theorem Abs.head_in_buf (h : Abs r buf q) : r.head.toNat < buf.length := h.1.head_in_buf h.2.1

theorem Abs.tail_in_buf (h : Abs r buf q) : r.tail.toNat < buf.length := h.1.tail_in_buf h.2.1

theorem Abs.head_eq (h : Abs r buf q) :
    r.head.toNat = (r.tail.toNat + q.length) % r.size.toNat := by
  rw [h.2.2.1]; exact (slot_cnt_head h.1.1 h.1.2).symm

theorem Abs.of_offset (ht : r.tail.toNat < r.size.toNat) (hn : q.length < r.size.toNat)
    (hh : r.head.toNat = (r.tail.toNat + q.length) % r.size.toNat) (hb : r.size.toNat ≤ buf.length)
    (hq : ∀ i (h : i < q.length), buf[(r.tail.toNat + i) % r.size.toNat]? = some q[i]) : Abs r buf q :=
  ⟨⟨hh ▸ Nat.mod_lt _ (Nat.zero_lt_of_lt ht), ht⟩, hb,
    by rw [RingHead.cnt, hh, cntN_slot ht hn], hq⟩

theorem Abs.extend (h : Abs r buf q) {r' : RingHead} (d : List α) (hs : r'.size = r.size)
    (ht : r'.tail = r.tail) (hh : r'.head.toNat = (r.head.toNat + d.length) % r.size.toNat)
    (hn : q.length + d.length < r.size.toNat)
    (hd : ∀ j (hj : j < d.length), buf[(r.head.toNat + j) % r.size.toNat]? = some d[j]) :
    Abs r' buf (q ++ d) := by
  refine Abs.of_offset (by rw [ht, hs]; exact h.1.2) (by rw [hs, List.length_append]; exact hn)
    (by rw [hh, ht, hs, h.head_eq, Nat.mod_add_mod, Nat.add_assoc, List.length_append])
    (hs ▸ h.2.1) fun i hi => ?_
  rw [ht, hs]
  by_cases hlt : i < q.length
  · rw [h.2.2.2 i hlt, List.getElem_append_left hlt]
  · have hge := Nat.le_of_not_lt hlt
    have := hd (i - q.length) (by rw [List.length_append] at hi; omega)
    rw [h.head_eq, Nat.mod_add_mod, Nat.add_assoc, Nat.add_sub_cancel' hge] at this
    rw [this, List.getElem_append_right hge]

theorem Abs.release (h : Abs r buf q) {r' : RingHead} (n : Nat) (hn : n ≤ q.length)
    (hs : r'.size = r.size) (hh : r'.head = r.head)
    (ht : r'.tail.toNat = (r.tail.toNat + n) % r.size.toNat) : Abs r' buf (q.drop n) := by
  have hS := h.len_lt
  refine Abs.of_offset (by rw [ht, hs]; exact Nat.mod_lt _ (Nat.zero_lt_of_lt hS))
    (by rw [hs, List.length_drop]; omega)
    (by rw [hh, ht, hs, Nat.mod_add_mod, List.length_drop, Nat.add_assoc, Nat.add_sub_cancel' hn]
        exact h.head_eq)
    (hs ▸ h.2.1) fun i hi => ?_
  rw [ht, hs, Nat.mod_add_mod, Nat.add_assoc,
    h.2.2.2 (n + i) (by rw [List.length_drop] at hi; omega), List.getElem_drop]

theorem Abs.frame (h : Abs r buf q) {buf' : List α} (hl : buf'.length = buf.length)
    (hb : ∀ i, i < q.length →
      buf'[(r.tail.toNat + i) % r.size.toNat]? = buf[(r.tail.toNat + i) % r.size.toNat]?) :
    Abs r buf' q :=
  ⟨h.1, hl ▸ h.2.1, h.2.2.1, fun i hi => (hb i hi).trans (h.2.2.2 i hi)⟩

theorem Abs.free (h : Abs r buf q) {i j : Nat} (hi : i < q.length) (hj : q.length + j < r.size.toNat) :
    (r.tail.toNat + i) % r.size.toNat ≠ (r.head.toNat + j) % r.size.toNat := by
  rw [h.head_eq, Nat.mod_add_mod, Nat.add_assoc]
  intro e
  have := slot_inj (by omega) hj e
  omega

theorem abs_slots (h : Abs r buf q) :
    (List.range r.cnt).map (fun i => buf[(r.tail.toNat + i) % r.size.toNat]?) = q.map some := by
  rw [← h.2.2.1]
  refine List.ext_getElem (by simp) fun i h1 h2 => ?_
  simp only [List.getElem_map, List.getElem_range]
  exact h.2.2.2 i (by simpa using h2)

theorem abs_init (size : U32) (buf : List α) (hs : 0 < size.toNat) (hb : size.toNat ≤ buf.length) :
    Abs (ringInit size) buf [] :=
  Abs.of_offset hs hs (Nat.mod_eq_of_lt hs).symm hb (fun _ hi => absurd hi (Nat.not_lt_zero _))

theorem abs_init_ofNat {m : Nat} (buf : List α) (h0 : 0 < m) (h1 : m < 2 ^ 32) (hb : m ≤ buf.length) :
    (ringInit (BitVec.ofNat 32 m)).size.toNat = m ∧ Abs (ringInit (BitVec.ofNat 32 m)) buf [] :=
  have e : (BitVec.ofNat 32 m).toNat = m := Nat.mod_eq_of_lt h1
  ⟨e, abs_init _ buf (e.symm ▸ h0) (e.symm ▸ hb)⟩

/-- the index invariant, over a buffer of at least `size` slots, is exactly the domain of `Abs` -/
theorem abs_of_wf (h : r.WF) (hb : r.size.toNat ≤ buf.length) : ∃ q, Abs r buf q := by
  have hlt : ∀ i, (r.tail.toNat + i) % r.size.toNat < buf.length := fun i =>
    Nat.lt_of_lt_of_le (Nat.mod_lt _ (Nat.zero_lt_of_lt h.1)) hb
  exact ⟨List.ofFn (n := r.cnt) fun i => buf[(r.tail.toNat + i) % r.size.toNat]'(hlt i), h, hb,
    List.length_ofFn, fun i hi => by rw [List.getElem_ofFn, List.getElem?_eq_getElem (hlt i)]⟩

theorem abs_clean (h : Abs r buf q) : Abs (ringClean r) buf [] :=
  abs_init r.size buf (Nat.zero_lt_of_lt h.len_lt) h.2.1

theorem abs_not_full (h : Abs r buf q) (hroom : q.length < r.size.toNat - 1) : ringFull r = false :=
  Bool.eq_false_iff.2 fun e => by rw [full_iff_cnt r h.1, ← h.2.2.1] at e; omega

theorem abs_full (h : Abs r buf q) (hfull : q.length = r.size.toNat - 1) : ringFull r = true :=
  (full_iff_cnt r h.1).2 (h.2.2.1 ▸ hfull)

theorem abs_nonempty (h : Abs r buf q) (hq : q ≠ []) : ringEmpty r = false :=
  Bool.eq_false_iff.2 fun e => by
    rw [empty_iff_cnt r h.1, ← h.2.2.1] at e; exact hq (List.eq_nil_of_length_eq_zero e)

theorem abs_empty (h : Abs r buf []) : ringEmpty r = true :=
  (empty_iff_cnt r h.1).2 h.2.2.1.symm

theorem abs_set_head (c : α) (h : Abs r buf q) : Abs r (buf.set r.head.toNat c) q :=
  h.frame (List.length_set ..) fun i hi => List.getElem?_set_ne fun e => by
    have := h.free hi (j := 0) h.len_lt
    rw [Nat.add_zero, Nat.mod_eq_of_lt h.1.1] at this
    exact this e.symm

theorem abs_moveHeadOne {c : α} (h : Abs r buf q)
    (hroom : q.length < r.size.toNat - 1) (hc : buf[r.head.toNat]? = some c) :
    Abs (ringMoveHeadOne r) buf (q ++ [c]) :=
  h.extend [c] rfl rfl (moveHeadOne_head r h.1.1) (by rw [List.length_singleton]; omega) fun j hj => by
    obtain rfl : j = 0 := Nat.lt_one_iff.1 hj
    rw [Nat.add_zero, Nat.mod_eq_of_lt h.1.1, hc]; rfl

theorem abs_moveTailOne {x : α} (h : Abs r buf (x :: q)) :
    buf[r.tail.toNat]? = some x ∧ Abs (ringMoveTailOne r) buf q := by
  have h0 := h.2.2.2 0 (Nat.zero_lt_succ _)
  rw [Nat.add_zero, Nat.mod_eq_of_lt h.1.2] at h0
  exact ⟨h0, h.release 1 (Nat.succ_le_succ (Nat.zero_le _)) rfl rfl (moveTailOne_tail r h.1.2)⟩

theorem putc_full (r : RingHead) (buf : List α) (c : α) (hf : ringFull r = true) :
    ringPutc r buf c = some (r, buf, 0) := by
  simp [ringPutc, hf]

theorem abs_putc (c : α) (h : Abs r buf q)
    (hroom : q.length < r.size.toNat - 1) :
    ringPutc r buf c = some (ringMoveHeadOne r, buf.set r.head.toNat c, 1) ∧
    Abs (ringMoveHeadOne r) (buf.set r.head.toNat c) (q ++ [c]) := by
  have hlen := h.head_in_buf
  exact ⟨by simp [ringPutc, abs_not_full h hroom, poke, hlen],
    abs_moveHeadOne (abs_set_head c h) hroom (List.getElem?_set_self hlen)⟩

theorem abs_putc_full (c : α) (h : Abs r buf q)
    (hfull : q.length = r.size.toNat - 1) : ringPutc r buf c = some (r, buf, 0) :=
  putc_full r buf c (abs_full h hfull)

/-- the repaired `igris::ring::pop` stores a fresh value in the slot it releases: that
slot is none of the slots that still hold the queue -/
theorem abs_pop_set {r : RingHead} {buf : List α} {x : α} {q : List α} (d : α)
    (h : Abs r buf (x :: q)) : Abs (ringMoveTailOne r) (buf.set r.tail.toNat d) q :=
  (abs_moveTailOne h).2.frame (List.length_set ..) fun i hi => List.getElem?_set_ne fun e => by
    rw [moveTailOne_tail r h.1.2, moveTailOne_size, Nat.mod_add_mod] at e
    have hS := h.len_lt
    rw [List.length_cons] at hS
    have := slot_inj (S := r.size.toNat) (p := r.tail.toNat) (i := 0) (j := 1 + i) (by omega) (by omega)
      (by rw [Nat.add_zero, Nat.mod_eq_of_lt h.1.2, ← Nat.add_assoc]; exact e)
    omega

end

theorem getc_empty (r : RingHead) (buf : List Byte) (he : ringEmpty r = true) :
    ringGetc r buf = some (r, -1) := by
  simp [ringGetc, ringGetcWith, he]

theorem abs_getc {r : RingHead} {buf : List Byte} {x : Byte} {q : List Byte} (h : Abs r buf (x :: q)) :
    ringGetc r buf = some (ringMoveTailOne r, (x.toNat : Int)) ∧ Abs (ringMoveTailOne r) buf q := by
  obtain ⟨hx, ha⟩ := abs_moveTailOne h
  exact ⟨by simp [ringGetc, ringGetcWith, abs_nonempty h (List.cons_ne_nil _ _), hx], ha⟩

theorem abs_getc_empty {r : RingHead} {buf : List Byte} (h : Abs r buf []) :
    ringGetc r buf = some (r, -1) :=
  getc_empty r buf (abs_empty h)

/-! ### the loops `ring_write` / `ring_read` -/

theorem abs_writeAux {α : Type} : ∀ (d : List α) {r : RingHead} {buf q : List α} (ret k : Nat),
    Abs r buf q → q.length + k = r.size.toNat - 1 →
    ∃ r' buf', ringWriteAux d r buf ret = some (r', buf', ret + min d.length k) ∧
      r'.size = r.size ∧ buf'.length = buf.length ∧ Abs r' buf' (q ++ d.take k)
  | [], r, buf, q, ret, k, h, _ => ⟨r, buf, by simp [ringWriteAux], rfl, rfl, by simpa using h⟩
  | c :: rest, r, buf, q, ret, 0, h, hk =>
      ⟨r, buf, by simp [ringWriteAux, abs_putc_full c h hk], rfl, rfl, by simpa using h⟩
  | c :: rest, r, buf, q, ret, k + 1, h, hk => by
      obtain ⟨e, ha⟩ := abs_putc c h (by omega)
      obtain ⟨r', buf', e', hs, hl, ha'⟩ := abs_writeAux rest (ret + 1) k ha
        (by rw [List.length_append, List.length_singleton, moveHeadOne_size]; omega)
      refine ⟨r', buf', ?_, hs, by rw [hl, List.length_set], by simpa using ha'⟩
      rw [ringWriteAux, e, List.length_cons, Nat.succ_min_succ]
      simpa [Nat.add_assoc, Nat.add_comm 1] using e'

theorem abs_write {α : Type} {r : RingHead} {buf q : List α} (d : List α) (h : Abs r buf q) :
    ∃ r' buf', ringWrite r buf d = some (r', buf', min d.length (r.size.toNat - 1 - q.length)) ∧
      r'.size = r.size ∧ Abs r' buf' (q ++ d.take (r.size.toNat - 1 - q.length)) := by
  have := h.len_lt
  obtain ⟨r', buf', e, hs, -, ha⟩ := abs_writeAux d 0 (r.size.toNat - 1 - q.length) h (by omega)
  exact ⟨r', buf', by simpa [ringWrite] using e, hs, ha⟩

/-- `ring_write` stops at the first rejected element: why the clamp `if (sz > r.size) sz = r.size` of
`igris::ring::write` changes nothing -/
theorem writeAux_take {α : Type} : ∀ (d : List α) {r : RingHead} {buf q : List α} (ret n : Nat),
    Abs r buf q → r.size.toNat - 1 - q.length < n →
    ringWriteAux (d.take n) r buf ret = ringWriteAux d r buf ret
  | [], _, _, _, _, _, _, _ => by rw [List.take_nil]
  | c :: rest, r, buf, q, ret, n + 1, h, hn => by
      rw [List.take_succ_cons]
      by_cases hroom : q.length < r.size.toNat - 1
      · obtain ⟨e, ha⟩ := abs_putc c h hroom
        have ih := writeAux_take rest (ret + 1) n ha (by
          rw [moveHeadOne_size, List.length_append, List.length_singleton]; omega)
        simp only [ringWriteAux, e]
        simpa using ih
      · have := h.len_lt
        simp [ringWriteAux, abs_putc_full c h (by omega)]

/-- a byte returned as 0..255 is never the "empty" answer −1 of `ring_getc` -/
theorem toNat_beq_neg_one (x : Byte) : ((x.toNat : Int) == -1) = false :=
  beq_eq_false_iff_ne.2 (by omega)

theorem abs_readWith : ∀ (n : Nat) {r : RingHead} {buf q : List Byte} (acc : List Byte),
    Abs r buf q →
    ∃ r', ringReadWith ringGetc buf n r acc = some (r', acc ++ q.take n) ∧
      r'.size = r.size ∧ Abs r' buf (q.drop n)
  | 0, r, buf, q, acc, h => ⟨r, by simp [ringReadWith], rfl, by simpa using h⟩
  | n + 1, r, buf, [], acc, h => ⟨r, by simp [ringReadWith, abs_getc_empty h], rfl, by simpa using h⟩
  | n + 1, r, buf, x :: q, acc, h => by
      obtain ⟨e, ha⟩ := abs_getc h
      obtain ⟨r', e', hs, ha'⟩ := abs_readWith n (acc ++ [x]) ha
      refine ⟨r', ?_, hs, ha'⟩
      simp only [ringReadWith, e, toNat_beq_neg_one, ofInt_toNat, e']
      simp

theorem abs_read {r : RingHead} {buf q : List Byte} (n : Nat) (h : Abs r buf q) :
    ∃ r', ringRead r buf n = some (r', q.take n) ∧ r'.size = r.size ∧ Abs r' buf (q.drop n) := by
  simpa [ringRead] using abs_readWith n [] h

/-- a `ring_read` of more than `|q|` bytes stops at the first −1, whatever the request (the clamp of
`igris::ring::read`) -/
theorem readWith_past_end : ∀ (q : List Byte) {r : RingHead} {buf : List Byte} (acc : List Byte) (n m : Nat),
    Abs r buf q → q.length < n → q.length < m →
    ringReadWith ringGetc buf n r acc = ringReadWith ringGetc buf m r acc
  | [], r, buf, acc, n + 1, m + 1, h, _, _ => by simp [ringReadWith, abs_getc_empty h]
  | x :: q, r, buf, acc, n + 1, m + 1, h, hn, hm => by
      obtain ⟨e, ha⟩ := abs_getc h
      simp only [ringReadWith, e, toNat_beq_neg_one]
      exact readWith_past_end q _ n m ha (Nat.lt_of_succ_lt_succ hn) (Nat.lt_of_succ_lt_succ hm)

/-! ### bulk moves

`r->head += bias` is a 32-bit addition before the fix-up loop: with `size ≤ 2^31`
and `bias < size` it cannot wrap. -/

section
variable {α : Type}

theorem move_small {S x n : Nat} (hx : x < S) (hn : n < S) (hS : S ≤ 2 ^ 31) :
    (x + (BitVec.ofNat 32 n).toNat) % 2 ^ 32 % S = (x + n) % S := by
  rw [BitVec.toNat_ofNat, Nat.mod_eq_of_lt (a := n) (by omega), Nat.mod_eq_of_lt (a := x + n) (by omega)]

theorem abs_moveHead {r : RingHead} {buf q : List α} (d : List α) (h : Abs r buf q)
    (hS : r.size.toNat ≤ 2 ^ 31) (hn : d.length ≤ r.size.toNat - 1 - q.length)
    (hd : ∀ j (hj : j < d.length), buf[(r.head.toNat + j) % r.size.toNat]? = some d[j]) :
    Abs (ringMoveHead r (BitVec.ofNat 32 d.length)) buf (q ++ d) := by
  have hq := h.len_lt
  exact h.extend d rfl rfl
    ((moveHead_head r (by omega) _).trans (move_small h.1.1 (by omega) hS)) (by omega) hd

theorem abs_moveTail {r : RingHead} {buf q : List α} (n : Nat) (h : Abs r buf q)
    (hS : r.size.toNat ≤ 2 ^ 31) (hn : n ≤ q.length) :
    Abs (ringMoveTail r (BitVec.ofNat 32 n)) buf (q.drop n) := by
  have hq := h.len_lt
  exact h.release n hn rfl rfl
    ((moveTail_tail r (by omega) _).trans (move_small h.1.2 (by omega) hS))

theorem directFill_spec : ∀ (d : List α) (buf : List α) (S p : Nat), 0 < S → S ≤ buf.length →
    ∃ buf', directFill buf S p d = some buf' ∧ buf'.length = buf.length ∧
      (d.length ≤ S → (∀ j (hj : j < d.length), buf'[(p + j) % S]? = some d[j]) ∧
        (∀ k, (∀ j, j < d.length → k ≠ (p + j) % S) → buf'[k]? = buf[k]?))
  | [], buf, S, p, _, _ => ⟨buf, rfl, rfl, by simp⟩
  | c :: rest, buf, S, p, hS, hb => by
      have hp : p % S < buf.length := Nat.lt_of_lt_of_le (Nat.mod_lt _ hS) hb
      obtain ⟨buf', e, hlen, hc⟩ :=
        directFill_spec rest (buf.set (p % S) c) S (p + 1) hS (by simpa using hb)
      refine ⟨buf', by simp [directFill, poke, hp, e], by simpa using hlen, fun hd => ?_⟩
      simp only [List.length_cons] at hd
      obtain ⟨hw, hf⟩ := hc (by omega)
      refine ⟨?_, ?_⟩
      · intro j hj
        cases j with
        | zero =>
          have := hf (p % S) (fun j hj' e => by
            have := slot_inj (S := S) (p := p) (i := 0) (j := j + 1) hS (by omega)
              (by rw [Nat.add_zero, e, Nat.add_assoc, Nat.add_comm 1])
            omega)
          simp only [Nat.add_zero, this, List.getElem_cons_zero]
          exact List.getElem?_set_self hp
        | succ j =>
          have := hw j (by simpa using hj)
          rw [show p + 1 + j = p + (j + 1) by omega] at this
          simpa using this
      · intro k hk
        rw [hf k (fun j hj => by
          have := hk (j + 1) (by simp; omega)
          rwa [show p + (j + 1) = p + 1 + j by omega] at this)]
        exact List.getElem?_set_ne (by have := hk 0 (by simp); simpa using this.symm)

theorem directPeek_spec : ∀ (n : Nat) (buf : List α) (S p : Nat) (l : List α), l.length = n →
    (∀ j (hj : j < l.length), buf[(p + j) % S]? = some l[j]) → directPeek buf S p n = some l
  | 0, buf, S, p, l, hl, _ => by
      have : l = [] := List.eq_nil_of_length_eq_zero hl
      simp [directPeek, this]
  | n + 1, buf, S, p, l, hl, h => by
      cases l with
      | nil => simp at hl
      | cons x l =>
        have h0 := h 0 (by simp)
        simp only [Nat.add_zero, List.getElem_cons_zero] at h0
        have ih := directPeek_spec n buf S (p + 1) l (by simpa using hl) (fun j hj => by
          have := h (j + 1) (by simpa using hj)
          rw [show p + (j + 1) = p + 1 + j by omega] at this
          simpa using this)
        simp [directPeek, h0, ih]

theorem directPeek_total (n : Nat) (buf : List α) (S p : Nat) (hS : 0 < S) (hb : S ≤ buf.length) :
    ∃ l, directPeek buf S p n = some l :=
  have hlt : ∀ j, (p + j) % S < buf.length := fun j => Nat.lt_of_lt_of_le (Nat.mod_lt _ hS) hb
  ⟨List.ofFn (n := n) fun j => buf[(p + j) % S]'(hlt j), directPeek_spec n buf S p _ List.length_ofFn
    fun j hj => by rw [List.getElem_ofFn, List.getElem?_eq_getElem (hlt j)]⟩

end

/-! ### reference FIFO and refinement of every operation -/

/-- The reference: a bounded FIFO queue of bytes with capacity `cap`.  `none`
means that the operation is outside the producer/consumer contract of the bulk
moves (publishing more slots than are free, releasing more than are stored, or
a bare head move, which publishes slots the reference never saw). -/
def specStep (cap : Nat) (q : List Byte) : Op → Option (List Byte × Out)
  | .putc c => if q.length < cap then some (q ++ [c], .int 1) else some (q, .int 0)
  | .getc =>
    match q with
    | [] => some ([], .int (-1))
    | x :: t => some (t, .int x.toNat)
  | .write d => some (q ++ d.take (cap - q.length), .count (min d.length (cap - q.length)))
  | .read n => some (q.drop n, .bytes (q.take n))
  | .produce d => if d.length ≤ cap - q.length then some (q ++ d, .unit) else none
  | .produce1 c => if q.length < cap then some (q ++ [c], .unit) else none
  | .consume n => if n ≤ q.length then some (q.drop n, .bytes (q.take n)) else none
  | .consume1 =>
    match q with
    | [] => none
    | x :: t => some (t, .bytes [x])
  | .moveTail n => if n.toNat ≤ q.length then some (q.drop n.toNat, .unit) else none
  | .moveTailOne =>
    match q with
    | [] => none
    | _ :: t => some (t, .unit)
  | .moveHead _ => none
  | .moveHeadOne => none
  | .clean => some ([], .unit)

def runSpec (cap : Nat) : List Byte → List Op → Option (List Byte × List Out)
  | q, [] => some (q, [])
  | q, op :: ops =>
    match specStep cap q op with
    | none => none
    | some (q', o) =>
      match runSpec cap q' ops with
      | none => none
      | some (q'', os) => some (q'', o :: os)

theorem runSpec_cons {cap : Nat} {q q' : List Byte} {op : Op} {ops : List (Op)}
    {outs : List (Out)} (h : runSpec cap q (op :: ops) = some (q', outs)) :
    ∃ q1 o os, specStep cap q op = some (q1, o) ∧ runSpec cap q1 ops = some (q', os) ∧ outs = o :: os := by
  simp only [runSpec] at h
  split at h
  · cases h
  · rename_i q1 o e
    split at h
    · cases h
    · rename_i q2 os e2
      obtain ⟨rfl, rfl⟩ : q2 = q' ∧ o :: os = outs := by simpa using h
      exact ⟨q1, o, os, e, e2, rfl⟩

/-- operations that move an index by a `bias` (`ring_move_head` / `ring_move_tail`) -/
def Op.isBulk : Op → Bool
  | .produce _ => true
  | .consume _ => true
  | .moveHead _ => true
  | .moveTail _ => true
  | _ => false

/-- every operation of the ring does what the reference FIFO does (bulk moves:
on rings of at most 2^31 slots) -/
theorem step_refines {r : RingHead} {buf q : List Byte} (h : Abs r buf q) (op : Op)
    (hS : op.isBulk = true → r.size.toNat ≤ 2 ^ 31) {q' : List Byte} {o : Out}
    (hs : specStep (r.size.toNat - 1) q op = some (q', o)) :
    ∃ r' buf', stepRing r buf op = some (r', buf', o) ∧ r'.size = r.size ∧ Abs r' buf' q' := by
  have hle := h.len_lt
  have hpos := Nat.zero_lt_of_lt hle
  cases op with
  | putc c =>
    simp only [specStep] at hs
    split at hs <;> cases hs
    · obtain ⟨e, ha⟩ := abs_putc c h (by assumption)
      exact ⟨ringMoveHeadOne r, buf.set r.head.toNat c, by simp [stepRing, e], rfl, ha⟩
    · exact ⟨r, buf, by simp [stepRing, abs_putc_full c h (by omega)], rfl, h⟩
  | getc =>
    cases q with
    | nil => cases hs; exact ⟨r, buf, by simp [stepRing, abs_getc_empty h], rfl, h⟩
    | cons x t =>
      cases hs
      obtain ⟨e, ha⟩ := abs_getc h
      exact ⟨ringMoveTailOne r, buf, by simp [stepRing, e], rfl, ha⟩
  | write d =>
    cases hs
    obtain ⟨r', buf', e, hsz, ha⟩ := abs_write d h
    exact ⟨r', buf', by simp [stepRing, e], hsz, ha⟩
  | read n =>
    cases hs
    obtain ⟨r', e, hsz, ha⟩ := abs_read n h
    exact ⟨r', buf, by simp [stepRing, e], hsz, ha⟩
  | produce d =>
    simp only [specStep] at hs
    split at hs <;> cases hs
    rename_i hd
    obtain ⟨buf', e, hlen, hc⟩ := directFill_spec d buf r.size.toNat r.head.toNat hpos h.2.1
    obtain ⟨hw, hf⟩ := hc (by omega)
    -- the user's fill touches free slots only
    have ha : Abs r buf' q := h.frame hlen fun i hi => hf _ fun j hj => h.free hi (by omega)
    exact ⟨ringMoveHead r (BitVec.ofNat 32 d.length), buf', by simp [stepRing, e], rfl,
      abs_moveHead d ha (hS rfl) hd hw⟩
  | produce1 c =>
    simp only [specStep] at hs
    split at hs <;> cases hs
    rename_i hd
    exact ⟨ringMoveHeadOne r, buf.set r.head.toNat c, by simp [stepRing, poke, h.head_in_buf], rfl,
      (abs_putc c h hd).2⟩
  | consume n =>
    simp only [specStep] at hs
    split at hs <;> cases hs
    rename_i hn
    have e := directPeek_spec n buf r.size.toNat r.tail.toNat (q.take n)
      (by simp; omega) (fun j hj => by
        have hj' : j < q.length := by simp at hj; omega
        rw [h.2.2.2 j hj']; simp)
    exact ⟨ringMoveTail r (BitVec.ofNat 32 n), buf, by simp [stepRing, e], rfl, abs_moveTail n h (hS rfl) hn⟩
  | consume1 =>
    cases q with
    | nil => cases hs
    | cons x t =>
      cases hs
      obtain ⟨hx, ha⟩ := abs_moveTailOne h
      exact ⟨ringMoveTailOne r, buf, by simp [stepRing, hx], rfl, ha⟩
  | moveHead n => cases hs
  | moveHeadOne => cases hs
  | moveTail n =>
    simp only [specStep] at hs
    split at hs <;> cases hs
    rename_i hn
    have := abs_moveTail n.toNat h (hS rfl) hn
    rw [BitVec.ofNat_toNat, BitVec.setWidth_eq] at this
    exact ⟨ringMoveTail r n, buf, rfl, rfl, this⟩
  | moveTailOne =>
    cases q with
    | nil => cases hs
    | cons x t => cases hs; exact ⟨ringMoveTailOne r, buf, rfl, rfl, (abs_moveTailOne h).2⟩
  | clean => cases hs; exact ⟨ringClean r, buf, rfl, rfl, abs_clean h⟩

/-! ### `ring_fixup_index` -/

theorem emod_of_tmod {a b : Int} (hb : 0 < b) :
    a % b = if a.tmod b < 0 then a.tmod b + b else a.tmod b := by
  have h1 := Int.lt_tmod_of_pos a hb
  have h2 := Int.tmod_lt_of_pos a hb
  have e : a = a.tmod b + b * (a.tdiv b) := by have := Int.tmod_def a b; omega
  have e2 : a % b = (a.tmod b) % b := by
    conv => lhs; rw [e]
    exact Int.add_mul_emod_self_left ..
  rw [e2]
  split
  · rw [← Int.add_emod_right, Int.emod_eq_of_lt (by omega) (by omega)]
  · rw [Int.emod_eq_of_lt (by omega) (by omega)]

/-- the repaired `ring_fixup_index` is the mathematical `index mod size` for
EVERY `int` index and every size `1 ≤ size ≤ INT_MAX` -/
theorem fixupIndex_toInt (r : RingHead) (hs : 0 < r.size.toNat) (hS : r.size.toNat < 2 ^ 31)
    (i : BitVec 32) : (ringFixupIndex r i).toInt = i.toInt % (r.size.toNat : Int) := by
  have hsz : r.size.toInt = (r.size.toNat : Int) := BitVec.toInt_eq_toNat_of_lt (by omega)
  have hb : (0 : Int) < (r.size.toNat : Int) := by omega
  have hrem : (i.srem r.size).toInt = i.toInt.tmod (r.size.toNat : Int) := by
    rw [BitVec.toInt_srem, hsz]
  have h1 := Int.lt_tmod_of_pos i.toInt hb
  have h2 := Int.tmod_lt_of_pos i.toInt hb
  rw [emod_of_tmod hb]
  unfold ringFixupIndex
  have h0 : (0 : BitVec 32).toInt = 0 := by decide
  simp only [BitVec.slt_eq_decide, h0, hrem, decide_eq_true_eq]
  by_cases hneg : i.toInt.tmod (r.size.toNat : Int) < 0
  · simp only [hneg, if_true]
    rw [BitVec.toInt_add, hrem, hsz]
    apply Int.bmod_eq_of_le <;> omega
  · simp only [hneg, if_false]
    exact hrem

theorem toNat_of_toInt_nonneg {x : BitVec 32} {n : Nat} (h : x.toInt = (n : Int)) :
    x.slt 0 = false ∧ x.toNat = n := by
  have h0 : (0 : BitVec 32).toInt = 0 := by decide
  constructor
  · simp only [BitVec.slt_eq_decide, h0, h]; simp
  · rw [BitVec.toInt_eq_toNat_cond] at h; split at h <;> omega

/-! ### the index invariant is preserved by EVERY operation (no contract needed) -/

theorem wf_moveHeadOne {r : RingHead} (h : r.WF) : (ringMoveHeadOne r).WF :=
  ⟨by rw [moveHeadOne_head r h.1]; exact Nat.mod_lt _ (Nat.zero_lt_of_lt h.1), h.2⟩

theorem wf_moveTailOne {r : RingHead} (h : r.WF) : (ringMoveTailOne r).WF :=
  ⟨h.1, by rw [moveTailOne_tail r h.2]; exact Nat.mod_lt _ (Nat.zero_lt_of_lt h.2)⟩

theorem wf_moveHead {r : RingHead} (h : r.WF) (b : U32) : (ringMoveHead r b).WF :=
  ⟨by rw [moveHead_head r (by have := h.1; omega)]; exact Nat.mod_lt _ (by have := h.1; omega), h.2⟩

theorem wf_moveTail {r : RingHead} (h : r.WF) (b : U32) : (ringMoveTail r b).WF :=
  ⟨h.1, by rw [moveTail_tail r (by have := h.1; omega)]; exact Nat.mod_lt _ (by have := h.1; omega)⟩

theorem wf_clean {r : RingHead} (h : r.WF) : (ringClean r).WF :=
  ⟨Nat.zero_lt_of_lt h.1, Nat.zero_lt_of_lt h.1⟩

section
variable {α : Type}

/-- what every operation keeps, whatever its argument -/
def Keeps (r : RingHead) (buf : List α) (r' : RingHead) (buf' : List α) : Prop :=
  r'.WF ∧ r'.size = r.size ∧ buf'.length = buf.length

theorem Keeps.refl {r : RingHead} {buf : List α} (h : r.WF) : Keeps r buf r buf := ⟨h, rfl, rfl⟩

theorem Keeps.trans {r r' r'' : RingHead} {b b' b'' : List α} (h1 : Keeps r b r' b')
    (h2 : Keeps r' b' r'' b'') : Keeps r b r'' b'' :=
  ⟨h2.1, h2.2.1.trans h1.2.1, h2.2.2.trans h1.2.2⟩

end

/-- EVERY operation, with ANY argument, from ANY state that satisfies the index
invariant: no access outside the buffer, and the invariant holds afterwards. -/
theorem step_keeps {r : RingHead} {buf : List Byte} (h : r.WF) (hb : r.size.toNat ≤ buf.length)
    (op : Op) : ∃ r' buf' o, stepRing r buf op = some (r', buf', o) ∧ Keeps r buf r' buf' := by
  have hpos : 0 < r.size.toNat := by have := h.1; omega
  -- putc, getc, write, read: the state stores some queue `q`, and the FIFO lemmas say what happens
  obtain ⟨q, ha⟩ := abs_of_wf h hb
  have hq := ha.len_lt
  cases op with
  | putc c =>
    by_cases hr : q.length < r.size.toNat - 1
    · obtain ⟨e, ha'⟩ := abs_putc c ha hr
      exact ⟨_, buf.set r.head.toNat c, .int 1, by simp [stepRing, e], ha'.1, rfl, List.length_set ..⟩
    · exact ⟨r, buf, .int 0, by simp [stepRing, abs_putc_full c ha (by omega)], Keeps.refl h⟩
  | getc =>
    cases q with
    | nil => exact ⟨r, buf, .int (-1), by simp [stepRing, abs_getc_empty ha], Keeps.refl h⟩
    | cons x q =>
      obtain ⟨e, ha'⟩ := abs_getc ha
      exact ⟨_, buf, .int x.toNat, by simp [stepRing, e], ha'.1, rfl, rfl⟩
  | write d =>
    obtain ⟨r', b', e, hs, hl, ha'⟩ := abs_writeAux d 0 (r.size.toNat - 1 - q.length) ha (by omega)
    exact ⟨r', b', .count (min d.length (r.size.toNat - 1 - q.length)), by simp [stepRing, ringWrite, e],
      ha'.1, hs, hl⟩
  | read n =>
    obtain ⟨r', e, hs, ha'⟩ := abs_read n ha
    exact ⟨r', buf, .bytes (q.take n), by simp [stepRing, e], ha'.1, hs, rfl⟩
  | produce d =>
    obtain ⟨b', e, hl, -⟩ := directFill_spec d buf r.size.toNat r.head.toNat hpos hb
    exact ⟨ringMoveHead r (BitVec.ofNat 32 d.length), b', .unit, by simp [stepRing, e],
      wf_moveHead h _, rfl, hl⟩
  | produce1 c =>
    have hlen := h.head_in_buf hb
    exact ⟨ringMoveHeadOne r, buf.set r.head.toNat c, .unit, by simp [stepRing, poke, hlen],
      wf_moveHeadOne h, rfl, by simp⟩
  | consume n =>
    obtain ⟨l, e⟩ := directPeek_total n buf r.size.toNat r.tail.toNat hpos hb
    exact ⟨ringMoveTail r (BitVec.ofNat 32 n), buf, .bytes l, by simp [stepRing, e],
      wf_moveTail h _, rfl, rfl⟩
  | consume1 =>
    have hlen := h.tail_in_buf hb
    exact ⟨ringMoveTailOne r, buf, .bytes [buf[r.tail.toNat]], by simp [stepRing, hlen],
      wf_moveTailOne h, rfl, rfl⟩
  | moveHead n => exact ⟨_, buf, .unit, rfl, wf_moveHead h n, rfl, rfl⟩
  | moveHeadOne => exact ⟨_, buf, .unit, rfl, wf_moveHeadOne h, rfl, rfl⟩
  | moveTail n => exact ⟨_, buf, .unit, rfl, wf_moveTail h n, rfl, rfl⟩
  | moveTailOne => exact ⟨_, buf, .unit, rfl, wf_moveTailOne h, rfl, rfl⟩
  | clean => exact ⟨_, buf, .unit, rfl, wf_clean h, rfl, rfl⟩

/-! ### ghost accounting for "nothing lost, nothing duplicated" -/

/-- bytes a history step handed TO the ring (accepted by it) -/
def accepted : Op → Out → List Byte
  | .putc c, .int v => if v = 1 then [c] else []
  | .write d, .count n => d.take n
  | .produce d, _ => d
  | .produce1 c, _ => [c]
  | _, _ => []

/-- bytes a history step got OUT of the ring -/
def delivered : Op → Out → List Byte
  | .getc, .int v => if v = -1 then [] else [BitVec.ofInt 8 v]
  | .read _, .bytes d => d
  | .consume _, .bytes d => d
  | .consume1, .bytes d => d
  | _, _ => []

/-- operations that throw stored data away on purpose -/
def Op.discards : Op → Bool
  | .moveTail _ => true
  | .moveTailOne => true
  | .clean => true
  | _ => false

def acceptedAll : List Op → List Out → List Byte
  | op :: ops, o :: os => accepted op o ++ acceptedAll ops os
  | _, _ => []

def deliveredAll : List Op → List Out → List Byte
  | op :: ops, o :: os => delivered op o ++ deliveredAll ops os
  | _, _ => []

theorem ledger_trans {α : Type} {q a₁ d₁ q₁ a₂ d₂ q₂ : List α} (h₁ : q ++ a₁ = d₁ ++ q₁)
    (h₂ : q₁ ++ a₂ = d₂ ++ q₂) : q ++ (a₁ ++ a₂) = (d₁ ++ d₂) ++ q₂ := by
  rw [← List.append_assoc, h₁, List.append_assoc, h₂, List.append_assoc]

theorem take_min_length {α : Type} (d : List α) (m : Nat) : d.take (min d.length m) = d.take m := by
  rw [Nat.min_comm, ← List.take_eq_take_min]

theorem spec_step_conserves {cap : Nat} {q q' : List Byte} {op : Op} {o : Out}
    (hs : specStep cap q op = some (q', o)) (hd : op.discards = false) :
    q ++ accepted op o = delivered op o ++ q' := by
  cases op with
  | putc c =>
    simp only [specStep] at hs
    split at hs <;> cases hs <;> simp [accepted, delivered]
  | getc =>
    cases q with
    | nil => cases hs; simp [accepted, delivered]
    | cons x t =>
      cases hs
      have : (x.toNat : Int) ≠ -1 := by omega
      simp [accepted, delivered, this]
  | write d =>
    cases hs
    simp only [accepted, delivered, List.nil_append, List.append_cancel_left_eq]
    exact take_min_length d _
  | read n => cases hs; simp [accepted, delivered]
  | produce d =>
    simp only [specStep] at hs
    split at hs <;> cases hs
    simp [accepted, delivered]
  | produce1 c =>
    simp only [specStep] at hs
    split at hs <;> cases hs
    simp [accepted, delivered]
  | consume n =>
    simp only [specStep] at hs
    split at hs <;> cases hs
    simp [accepted, delivered]
  | consume1 =>
    cases q with
    | nil => cases hs
    | cons x t => cases hs; simp [accepted, delivered]
  | moveHead n => cases hs
  | moveHeadOne => cases hs
  | moveTail n => cases hd
  | moveTailOne => cases hd
  | clean => cases hd

theorem spec_run_conserves {cap : Nat} : ∀ (ops : List Op) {q q' : List Byte} {outs : List Out},
    runSpec cap q ops = some (q', outs) → (∀ op ∈ ops, op.discards = false) →
    q ++ acceptedAll ops outs = deliveredAll ops outs ++ q'
  | [], q, q', outs, h, _ => by
      obtain ⟨rfl, rfl⟩ : q = q' ∧ [] = outs := by simpa [runSpec] using h
      simp [acceptedAll, deliveredAll]
  | op :: ops, q, q', outs, h, hd => by
      obtain ⟨q1, o, os, e, e2, rfl⟩ := runSpec_cons h
      exact ledger_trans (spec_step_conserves e (hd op (by simp)))
        (spec_run_conserves ops e2 (fun op' hop => hd op' (by simp [hop])))

theorem run_refines : ∀ (ops : List Op) {r : RingHead} {buf q q' : List Byte} {outs : List Out},
    Abs r buf q → (r.size.toNat ≤ 2 ^ 31 ∨ ∀ op ∈ ops, op.isBulk = false) →
    runSpec (r.size.toNat - 1) q ops = some (q', outs) →
    ∃ r' buf', runRing r buf ops = some (r', buf', outs) ∧ r'.size = r.size ∧ Abs r' buf' q'
  | [], r, buf, q, q', outs, h, _, hs => by
      obtain ⟨rfl, rfl⟩ : q = q' ∧ [] = outs := by simpa [runSpec] using hs
      exact ⟨r, buf, rfl, rfl, h⟩
  | op :: ops, r, buf, q, q', outs, h, hS, hs => by
      obtain ⟨q1, o, os, e, e2, rfl⟩ := runSpec_cons hs
      have hop : op.isBulk = true → r.size.toNat ≤ 2 ^ 31 := fun hb =>
        hS.elim id (fun hn => by have := hn op (by simp); simp [this] at hb)
      obtain ⟨r1, b1, e1, hsz, h1⟩ := step_refines h op hop e
      have hS' : r1.size.toNat ≤ 2 ^ 31 ∨ ∀ op ∈ ops, op.isBulk = false := by
        rw [hsz]; exact hS.imp id (fun hn op' hop' => hn op' (by simp [hop']))
      rw [← hsz] at e2
      obtain ⟨r2, b2, e3, hsz2, h2⟩ := run_refines ops h1 hS' e2
      exact ⟨r2, b2, by simp [runRing, e1, e3], hsz2.trans hsz, h2⟩

theorem run_keeps : ∀ (ops : List Op) {r : RingHead} {buf : List Byte}, r.WF →
    r.size.toNat ≤ buf.length →
    ∃ r' buf' outs, runRing r buf ops = some (r', buf', outs) ∧ Keeps r buf r' buf' ∧
      outs.length = ops.length
  | [], r, buf, h, _ => ⟨r, buf, [], rfl, Keeps.refl h, rfl⟩
  | op :: ops, r, buf, h, hb => by
      obtain ⟨r1, b1, o, e1, k1⟩ := step_keeps h hb op
      obtain ⟨r2, b2, os, e2, k2, hl⟩ := run_keeps ops k1.1 (by rw [k1.2.1, k1.2.2]; exact hb)
      exact ⟨r2, b2, o :: os, by simp [runRing, e1, e2], k1.trans k2, by simp [hl]⟩

/-! ### `ring_for_each` -/

theorem forEach_spec (r : RingHead) :
    ∀ (fuel k : Nat) (n : U32), n.toNat < r.size.toNat → k < r.size.toNat →
      r.head.toNat = (n.toNat + k) % r.size.toNat → k ≤ fuel →
      (ringForEach r fuel n).map BitVec.toNat =
        (List.range k).map (fun i => (n.toNat + i) % r.size.toNat)
  | 0, k, n, _, _, _, hf => by rw [Nat.le_zero.1 hf]; rfl
  | fuel + 1, k, n, hn, hk, hh, hf => by
      unfold ringForEach
      by_cases e : n = r.head
      · have := slot_inj (i := 0) (Nat.zero_lt_of_lt hk) hk
          (by rw [Nat.add_zero, Nat.mod_eq_of_lt hn, ← hh, e])
        simp [e, ← this]
      · obtain ⟨k, rfl⟩ : ∃ k', k = k' + 1 := ⟨k - 1, by
          have : k ≠ 0 := fun h0 => e (BitVec.eq_of_toNat_eq (by
            rw [hh, h0, Nat.add_zero, Nat.mod_eq_of_lt hn]))
          omega⟩
        have hnext : ((n + 1) % r.size).toNat = (n.toNat + 1) % r.size.toNat := by
          rw [BitVec.toNat_umod, u32_succ hn]
        have ih := forEach_spec r fuel k ((n + 1) % r.size) (hnext ▸ Nat.mod_lt _ (Nat.zero_lt_of_lt hn))
          (by omega) (by rw [hh, hnext, Nat.mod_add_mod, Nat.add_assoc, Nat.add_comm 1]) (by omega)
        simp only [bne_iff_ne, ne_eq, e, not_false_eq_true, if_true, List.map_cons, ih, hnext]
        rw [List.range_succ_eq_map, List.map_cons, List.map_map]
        congr 1
        · exact (Nat.mod_eq_of_lt hn).symm
        · apply List.map_congr_left
          intro i _
          simp only [Function.comp, Nat.mod_add_mod, Nat.add_assoc, Nat.add_comm 1, Nat.succ_eq_add_one]

/-- `ring_for_each` with a body `s = f(s, n, buffer[n])`; which slots `ringForEach` lists is left to
`forEach_spec` (no slot arithmetic here).  `some` is termination: `|q| < fuel` says that the loop left
through its test. -/
theorem forEachFold_of_visits {α σ : Type} (f : σ → U32 → α → σ) (buf : List α) (r : RingHead) :
    ∀ (fuel : Nat) (q : List α) (n : U32) (s : σ),
      (ringForEach r fuel n).map (fun n => buf[n.toNat]?) = q.map some → q.length < fuel →
      ringForEachFold r buf f fuel n s =
        some (((ringForEach r fuel n).zip q).foldl (fun s p => f s p.1 p.2) s)
  | fuel + 1, q, n, s, hv, hf => by
      unfold ringForEach at hv ⊢
      unfold ringForEachFold
      split
      · cases q with
        | nil => rw [if_pos ‹_›] at hv; cases hv
        | cons x q =>
          rw [if_pos ‹_›, List.map_cons, List.map_cons, List.cons.injEq] at hv
          rw [hv.1]
          exact forEachFold_of_visits f buf r fuel q _ _ hv.2 (Nat.lt_of_succ_lt_succ hf)
      · rfl

/-! ### bulk operations are the iterated single operations -/

theorem putc_cases {α : Type} (r : RingHead) (buf : List α) (c : α) :
    ringPutc r buf c = none ∨
    (ringFull r = true ∧ ringPutc r buf c = some (r, buf, 0)) ∨
    (∃ r' buf', ringFull r = false ∧ ringPutc r buf c = some (r', buf', 1)) := by
  unfold ringPutc
  cases hf : ringFull r
  · simp only [Bool.false_eq_true, if_false]
    cases poke buf r.head.toNat c with
    | none => exact Or.inl rfl
    | some b' => exact Or.inr (Or.inr ⟨_, _, by simp, rfl⟩)
  · exact Or.inr (Or.inl ⟨rfl, by simp⟩)

theorem run_putc_full (r : RingHead) (buf : List Byte) (hf : ringFull r = true) :
    ∀ (d : List Byte), runRing r buf (d.map Op.putc) = some (r, buf, d.map fun _ => Out.int 0)
  | [] => rfl
  | c :: d => by
      simp [runRing, stepRing, putc_full r buf c hf, run_putc_full r buf hf d]

def countOnes (outs : List Out) : Nat := (outs.filter fun o => o == Out.int 1).length

theorem countOnes_zero (d : List Byte) : countOnes (d.map fun _ => Out.int 0) = 0 := by
  induction d with
  | nil => rfl
  | cons c d ih => simp [countOnes]

theorem writeAux_iterated : ∀ (d : List Byte) (r : RingHead) (buf : List Byte) (ret : Nat),
    ringWriteAux d r buf ret =
      (runRing r buf (d.map Op.putc)).map fun (r2, b2, outs) => (r2, b2, ret + countOnes outs)
  | [], r, buf, ret => by simp [ringWriteAux, runRing, countOnes]
  | c :: d, r, buf, ret => by
      rcases putc_cases r buf c with e | ⟨hf, e⟩ | ⟨r', b', -, e⟩
      · simp [ringWriteAux, runRing, stepRing, e]
      · simp [ringWriteAux, runRing, stepRing, e, run_putc_full r buf hf d]
        simp [countOnes]
      · have ih := writeAux_iterated d r' b' (ret + 1)
        simp only [ringWriteAux, e, List.map_cons, runRing, stepRing, Option.map_some]
        rw [show ((1 : Int) == 0) = false by decide]
        simp only [Bool.false_eq_true, if_false, ih]
        cases runRing r' b' (d.map Op.putc) with
        | none => rfl
        | some v =>
          obtain ⟨r2, b2, outs⟩ := v
          simp only [Option.map_some, countOnes, List.filter_cons, beq_self_eq_true, if_true,
            List.length_cons, Option.some.injEq, Prod.mk.injEq, true_and]
          omega

/-- bytes delivered by a sequence of getc answers (−1 = nothing) -/
def getcBytes : List Out → List Byte
  | [] => []
  | .int v :: os => (if v == -1 then [] else [BitVec.ofInt 8 v]) ++ getcBytes os
  | _ :: os => getcBytes os

theorem run_getc_empty (r : RingHead) (buf : List Byte) (he : ringEmpty r = true) :
    ∀ (n : Nat), runRing r buf (List.replicate n Op.getc) = some (r, buf, List.replicate n (Out.int (-1)))
  | 0 => rfl
  | n + 1 => by
      simp [List.replicate_succ, runRing, stepRing, getc_empty r buf he, run_getc_empty r buf he n]

theorem getcBytes_neg (n : Nat) : getcBytes (List.replicate n (Out.int (-1))) = [] := by
  induction n with
  | zero => rfl
  | succ n ih => simp [List.replicate_succ, getcBytes, ih]

theorem getc_cases (r : RingHead) (buf : List Byte) :
    ringGetc r buf = none ∨
    (ringEmpty r = true ∧ ringGetc r buf = some (r, -1)) ∨
    (∃ r' x, ringGetc r buf = some (r', ((x : Byte).toNat : Int))) := by
  unfold ringGetc ringGetcWith
  cases he : ringEmpty r
  · simp only [Bool.false_eq_true, if_false]
    cases buf[r.tail.toNat]? with
    | none => exact Or.inl rfl
    | some x => exact Or.inr (Or.inr ⟨_, x, rfl⟩)
  · exact Or.inr (Or.inl ⟨rfl, by simp⟩)

theorem readWith_iterated (buf : List Byte) : ∀ (n : Nat) (r : RingHead) (acc : List Byte),
    ringReadWith ringGetc buf n r acc =
      (runRing r buf (List.replicate n Op.getc)).map fun (r2, _, outs) => (r2, acc ++ getcBytes outs)
  | 0, r, acc => by simp [ringReadWith, runRing, getcBytes]
  | n + 1, r, acc => by
      rcases getc_cases r buf with e | ⟨he, e⟩ | ⟨r', x, e⟩
      · simp [ringReadWith, List.replicate_succ, runRing, stepRing, e]
      · simp [ringReadWith, List.replicate_succ, runRing, stepRing, e, run_getc_empty r buf he n,
          getcBytes, getcBytes_neg]
      · have ih := readWith_iterated buf n r' (acc ++ [x])
        have hx := toNat_beq_neg_one x
        simp only [ringReadWith, e, hx, Bool.false_eq_true, if_false, ofInt_toNat, ih,
          List.replicate_succ, runRing, stepRing, Option.map_some]
        cases runRing r' buf (List.replicate n Op.getc) with
        | none => rfl
        | some v =>
          obtain ⟨r2, b2, outs⟩ := v
          simp [getcBytes, hx]

theorem write_full_unchanged {α : Type} (r : RingHead) (buf d : List α) (hf : ringFull r = true) :
    ringWrite r buf d = some (r, buf, 0) := by
  cases d with
  | nil => rfl
  | cons c d => simp [ringWrite, ringWriteAux, putc_full r buf c hf]

theorem read_empty_unchanged (r : RingHead) (buf : List Byte) (n : Nat) (he : ringEmpty r = true) :
    ringRead r buf n = some (r, []) := by
  cases n with
  | zero => rfl
  | succ n => simp [ringRead, ringReadWith, getc_empty r buf he]

/-! ### termination of `ring_fixup_head` / `ring_fixup_tail` -/

theorem fixupLoopT_zero (fuel : Nat) (x : U32) : fixupLoopT 0#32 fuel x = none := by
  have h : ∀ y : U32, y ≥ 0#32 := fun y => BitVec.le_def.2 (Nat.zero_le _)
  induction fuel generalizing x with
  | zero => rw [fixupLoopT, if_pos (h x)]
  | succ n ih => rw [fixupLoopT, if_pos (h x), BitVec.sub_zero]; exact ih x

theorem fixupLoopT_pos (size : U32) (hs : 0 < size.toNat) :
    ∀ (fuel : Nat) (x : U32), x.toNat ≤ fuel → fixupLoopT size fuel x = some (fixupLoop size fuel x)
  | 0, x, h => by
      have : ¬ x ≥ size := fun hle => by have := BitVec.le_def.1 hle; omega
      simp [fixupLoopT, fixupLoop, this]
  | fuel + 1, x, h => by
      unfold fixupLoopT fixupLoop
      split
      · rename_i hle
        have := BitVec.le_def.1 hle
        exact fixupLoopT_pos size hs fuel (x - size) (by rw [BitVec.toNat_sub_of_le hle]; omega)
      · rfl

end Igris.C03
