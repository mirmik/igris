/-
  C03 — `igris::ring<T>` as values: the accessors that address elements relative to
  `head` (`last`, `get_last`: the `k`-th previous element sits in slot `prevSlot S H k`),
  push / pop / clear / constructors against `Abs`, and the histories of the typed ring.
-/
import IgrisModel.C03.Lemmas
namespace Igris.C03
open Igris.Proto

/-! ### relative accessors: the `k`-th previous element -/

/-- slot of the `k`-th previous element (`k = 0`: newest) = `(head − 1 − k) mod size`, without `%` -/
def prevSlot (S H k : Nat) : Nat := if k + 1 ≤ H then H - 1 - k else H + S - 1 - k

theorem prevSlot_eq_cprev (S H k : Nat) : prevSlot S H k = cprev S H (k + 1) := by
  simp only [prevSlot, cprev, Nat.sub_sub, Nat.add_comm 1]

theorem prevSlot_lt {S H k : Nat} (h1 : H < S) (hk : k < S) : prevSlot S H k < S :=
  prevSlot_eq_cprev S H k ▸ cprev_lt_of_le h1 hk

theorem prevSlot_eq_mod {S H k : Nat} (h1 : H < S) (hk : k < S) :
    prevSlot S H k = (H + S - 1 - k) % S := by
  rw [prevSlot_eq_cprev, cprev_eq_mod_of_le h1 hk, Nat.sub_sub, Nat.add_comm 1]

theorem emod_prev {S H k : Nat} (h1 : H < S) (hk : k < S) :
    ((H : Int) - 1 - (k : Int)) % (S : Int) = (prevSlot S H k : Int) := by
  rw [prevSlot_eq_cprev, ← emod_cprev h1 hk]; congr 1; omega

theorem fixupIndex_prev {r : RingHead} (h1 : r.head.toNat < r.size.toNat) (hS : r.size.toNat < 2 ^ 31)
    {x : BitVec 32} {z : Int} {k : Nat} (e : x = BitVec.ofInt 32 z) (hz : z = (r.head.toNat : Int) - 1 - k)
    (hk : k < r.size.toNat) :
    (ringFixupIndex r x).toInt = (prevSlot r.size.toNat r.head.toNat k : Int) := by
  subst e hz
  rw [fixupIndex_toInt r (by omega) hS, BitVec.toInt_ofInt_eq_self (by decide) (by omega) (by omega),
    emod_prev h1 hk]

theorem abs_prev {α : Type} {r : RingHead} {buf q : List α} (h : Abs r buf q) {k : Nat}
    (hk : k < q.length) :
    buf[prevSlot r.size.toNat r.head.toNat k]? = some (q[q.length - 1 - k]'(by omega)) := by
  have hS := h.len_lt
  rw [← h.2.2.2 (q.length - 1 - k) (by omega), prevSlot_eq_cprev]
  congr 2
  refine cprev_unique h.1.1 (by omega) (Nat.mod_lt _ (by omega)) ?_
  rw [Nat.mod_add_mod, Nat.add_assoc, show q.length - 1 - k + (k + 1) = q.length by omega]
  exact h.head_eq.symm

namespace TRing
variable {α : Type}

theorem getLastIndex_fromEnd (t : TRing α) (hwf : t.r.WF) (hS : t.r.size.toNat < 2 ^ 31)
    (off i : Nat) (count : BitVec 32) (hk : off + i < t.r.size.toNat) :
    (t.getLastIndex (BitVec.ofNat 32 off) count true i).toInt =
      (prevSlot t.r.size.toNat t.r.head.toNat (off + i) : Int) := by
  rw [getLastIndex, if_pos rfl]
  exact fixupIndex_prev hwf.1 hS (z := (t.r.head.toNat : Int) - off - i - 1)
    (by rw [ofInt_sub, ofInt_sub, ofInt_sub, ofInt_toNat, BitVec.ofInt_natCast, BitVec.ofInt_natCast]; rfl)
    (by omega) hk

/-- `last()` uses slot `(head − 1) mod size` for every head position -/
theorem lastIndex_toInt (t : TRing α) (hwf : t.r.WF) (hS : t.r.size.toNat < 2 ^ 31) :
    t.lastIndex.toInt = (prevSlot t.r.size.toNat t.r.head.toNat 0 : Int) := by
  have := getLastIndex_fromEnd t hwf hS 0 0 0 (Nat.zero_lt_of_lt hwf.1)
  rwa [getLastIndex, if_pos rfl, BitVec.sub_zero, BitVec.sub_zero] at this

theorem getLastIndex_fromStart (t : TRing α) (hwf : t.r.WF) (hS : t.r.size.toNat < 2 ^ 31)
    (off count i : Nat) (hi : i < count) (hk : count + off ≤ t.r.size.toNat) :
    (t.getLastIndex (BitVec.ofNat 32 off) (BitVec.ofNat 32 count) false i).toInt =
      (prevSlot t.r.size.toNat t.r.head.toNat (count + off - 1 - i) : Int) := by
  rw [getLastIndex, if_neg Bool.false_ne_true]
  exact fixupIndex_prev hwf.1 hS (z := (t.r.head.toNat : Int) - count - off + i)
    (by rw [BitVec.ofInt_add, ofInt_sub, ofInt_sub, ofInt_toNat, BitVec.ofInt_natCast, BitVec.ofInt_natCast,
      BitVec.ofInt_natCast])
    (by omega) (by omega)

theorem getLastAux_eq {t : TRing α} {q : List α} (h : Abs t.r t.buf q) (off cnt : BitVec 32)
    (fromEnd : Bool) : ∀ (l : List α) (i : Nat),
      (∀ j (hj : j < l.length), ∃ k, ∃ hk : k < q.length,
        (t.getLastIndex off cnt fromEnd (i + j)).toInt =
          (prevSlot t.r.size.toNat t.r.head.toNat k : Int) ∧ l[j] = q[q.length - 1 - k]) →
      t.getLastAux off cnt fromEnd l.length i = some l
  | [], _, _ => rfl
  | x :: l, i, hl => by
      obtain ⟨k, hk, e, hx⟩ := hl 0 (Nat.zero_lt_succ _)
      rw [Nat.add_zero] at e
      obtain ⟨hs, hn⟩ := toNat_of_toInt_nonneg e
      have ih := getLastAux_eq h off cnt fromEnd l (i + 1) fun j hj => by
        obtain ⟨k', hk', e', hx'⟩ := hl (j + 1) (Nat.succ_lt_succ hj)
        exact ⟨k', hk', by rwa [Nat.add_comm j 1, ← Nat.add_assoc] at e', hx'⟩
      rw [List.getElem_cons_zero] at hx
      simp only [List.length_cons, getLastAux, hs, Bool.false_eq_true, if_false, hn, abs_prev h hk, ih,
        Option.map_some, hx]

theorem tail_abs {t : TRing α} {x : α} {q : List α} (h : Abs t.r t.buf (x :: q)) :
    t.tail = some x := (abs_moveTailOne h).1

theorem push_eq (t : TRing α) (x : α) (h : t.r.head.toNat < t.buf.length) :
    t.push x = some ⟨ringMoveHeadOne t.r, t.buf.set t.r.head.toNat x⟩ := by
  simp [push, poke, h]

theorem pop_eq (t : TRing α) (d : α) (h : t.r.tail.toNat < t.buf.length) :
    t.pop d = some ⟨ringMoveTailOne t.r, t.buf.set t.r.tail.toNat d⟩ := by
  simp [pop, h]

theorem push_size {t t' : TRing α} {x : α} (e : t.push x = some t') : t'.r.size = t.r.size := by
  unfold push at e
  split at e
  · cases e
  · cases e; rfl

theorem push_abs {t : TRing α} {q : List α} (x : α) (h : Abs t.r t.buf q)
    (hroom : q.length < t.r.size.toNat - 1) :
    ∃ t', t.push x = some t' ∧ t'.r.size = t.r.size ∧ Abs t'.r t'.buf (q ++ [x]) :=
  ⟨_, push_eq t x h.head_in_buf, rfl, (abs_putc x h hroom).2⟩

theorem pop_abs {t : TRing α} {x : α} {q : List α} (d : α) (h : Abs t.r t.buf (x :: q)) :
    ∃ t', t.pop d = some t' ∧ t'.r.size = t.r.size ∧ Abs t'.r t'.buf q :=
  ⟨_, pop_eq t d h.tail_in_buf, rfl, abs_pop_set d h⟩

/-- constructor: ring size = buffer size = `bufsize + 1`, empty -/
theorem mk'_abs (dflt : α) (n : Nat) (hn : n + 1 < 2 ^ 32) :
    (mk' dflt n).r.size.toNat = n + 1 ∧ (mk' dflt n).buf.length = n + 1 ∧
    Abs (mk' dflt n).r (mk' dflt n).buf [] := by
  have h := abs_init_ofNat (List.replicate (n + 1) dflt) (Nat.succ_pos n) hn (by simp)
  exact ⟨h.1, by simp [mk'], h.2⟩

theorem resize_abs (dflt : α) (t : TRing α) (n : Nat) (hn : n + 1 < 2 ^ 32) :
    (resize dflt t n).r.size.toNat = n + 1 ∧ (resize dflt t n).buf.length = n + 1 ∧
    Abs (resize dflt t n).r (resize dflt t n).buf [] := mk'_abs dflt n hn

/-! ### `igris::ring::clear` -/

theorem clear_abs (d : α) : ∀ (fuel : Nat) {t : TRing α} {q : List α}, Abs t.r t.buf q → q.length ≤ fuel →
    ∃ t', clear d fuel t = some t' ∧ t'.r.size = t.r.size ∧ Abs t'.r t'.buf []
  | 0, t, q, h, hf => by
      have : q = [] := List.eq_nil_of_length_eq_zero (by omega)
      subst this
      exact ⟨t, rfl, rfl, h⟩
  | fuel + 1, t, q, h, hf => by
      cases q with
      | nil => exact ⟨t, by simp [clear, abs_empty h], rfl, h⟩
      | cons x q =>
        obtain ⟨t1, e1, hs1, h1⟩ := pop_abs d h
        obtain ⟨t2, e2, hs2, h2⟩ := clear_abs d fuel h1 (by simpa using hf)
        exact ⟨t2, by simp [clear, abs_nonempty h (by simp), e1, e2], hs2.trans hs1, h2⟩

end TRing

theorem arrCopy_eq {α : Type} (dflt : α) : ∀ (src : List α), arrCopy dflt src = src
  | [] => rfl
  | s :: ss => by
      have := arrCopy_eq dflt ss
      simp only [arrCopy] at this ⊢
      simp [stdCopy, List.replicate_succ, this]

/-! ### histories of the typed ring: push / (tail(); pop()) -/

/-- the producer pushes, the consumer reads `tail()` and then calls `pop()` -/
inductive TOp (α : Type) where
  | push (x : α)
  | pop

def stepT {α : Type} (d : α) (t : TRing α) : TOp α → Option (TRing α × Option α)
  | .push x => (t.push x).map fun t' => (t', none)
  | .pop =>
    match t.tail with
    | none => none
    | some v => (t.pop d).map fun t' => (t', some v)

def runT {α : Type} (d : α) : TRing α → List (TOp α) → Option (TRing α × List (Option α))
  | t, [] => some (t, [])
  | t, op :: ops =>
    match stepT d t op with
    | none => none
    | some (t', o) =>
      match runT d t' ops with
      | none => none
      | some (t'', os) => some (t'', o :: os)

/-- reference queue; `none` = outside the contract of the typed ring (push needs
room, pop needs an element: the code does not test, see `ring_push_full_pop_empty`) -/
def specT {α : Type} (cap : Nat) (q : List α) : TOp α → Option (List α × Option α)
  | .push x => if q.length < cap then some (q ++ [x], none) else none
  | .pop =>
    match q with
    | [] => none
    | y :: q' => some (q', some y)

def runSpecT {α : Type} (cap : Nat) : List α → List (TOp α) → Option (List α × List (Option α))
  | q, [] => some (q, [])
  | q, op :: ops =>
    match specT cap q op with
    | none => none
    | some (q', o) =>
      match runSpecT cap q' ops with
      | none => none
      | some (q'', os) => some (q'', o :: os)

def pushedT {α : Type} : List (TOp α) → List α
  | [] => []
  | .push x :: ops => x :: pushedT ops
  | .pop :: ops => pushedT ops

def deliveredT {α : Type} : List (Option α) → List α
  | [] => []
  | some v :: os => v :: deliveredT os
  | none :: os => deliveredT os

theorem runSpecT_cons {α : Type} {cap : Nat} {q q' : List α} {op : TOp α} {ops : List (TOp α)}
    {outs : List (Option α)} (h : runSpecT cap q (op :: ops) = some (q', outs)) :
    ∃ q1 o os, specT cap q op = some (q1, o) ∧ runSpecT cap q1 ops = some (q', os) ∧ outs = o :: os := by
  simp only [runSpecT] at h
  split at h
  · cases h
  · rename_i q1 o e
    split at h
    · cases h
    · rename_i q2 os e2
      obtain ⟨rfl, rfl⟩ : q2 = q' ∧ o :: os = outs := by simpa using h
      exact ⟨q1, o, os, e, e2, rfl⟩

theorem runT_sound {α : Type} (d : α) : ∀ (ops : List (TOp α)) {t : TRing α} {q q' : List α}
    {outs : List (Option α)}, Abs t.r t.buf q →
    runSpecT (t.r.size.toNat - 1) q ops = some (q', outs) →
    ∃ t', runT d t ops = some (t', outs) ∧ t'.r.size = t.r.size ∧ Abs t'.r t'.buf q' ∧
      q ++ pushedT ops = deliveredT outs ++ q'
  | [], t, q, q', outs, h, hs => by
      obtain ⟨rfl, rfl⟩ : q = q' ∧ [] = outs := by simpa [runSpecT] using hs
      exact ⟨t, rfl, rfl, h, by simp [pushedT, deliveredT]⟩
  | op :: ops, t, q, q', outs, h, hs => by
      obtain ⟨q1, o, os, e, e2, rfl⟩ := runSpecT_cons hs
      cases op with
      | push x =>
        simp only [specT] at e
        split at e <;> cases e
        rename_i hr
        obtain ⟨t1, e1, hs1, h1⟩ := TRing.push_abs x h hr
        rw [← hs1] at e2
        obtain ⟨t2, e3, hs2, h2, hc⟩ := runT_sound d ops h1 e2
        exact ⟨t2, by simp [runT, stepT, e1, e3], hs2.trans hs1, h2,
          ledger_trans (a₁ := [x]) (d₁ := []) rfl hc⟩
      | pop =>
        cases q with
        | nil => cases e
        | cons y q0 =>
          cases e
          obtain ⟨t1, e1, hs1, h1⟩ := TRing.pop_abs d h
          rw [← hs1] at e2
          obtain ⟨t2, e3, hs2, h2, hc⟩ := runT_sound d ops h1 e2
          exact ⟨t2, by simp [runT, stepT, TRing.tail_abs h, e1, e3], hs2.trans hs1, h2,
            ledger_trans (a₁ := []) (d₁ := [y]) (List.append_nil _) hc⟩

/-- operations of `igris::ring<char>` -/
inductive COp where
  | push (x : Byte)
  | pop
  | write (d : List Byte)
  | read (n : Nat)

inductive COut where
  | unit
  | elem (x : Byte)
  | count (n : Nat)
  | bytes (d : List Byte)
  deriving DecidableEq

/-- `push(x)`; `tail()` then `pop()`; `write(buf, |d|)` = `ring_write(&r, buffer.data(), …)`;
`read(buf, n)` = `ring_read(&r, buffer.data(), …)` -/
def stepC (t : TRing Byte) : COp → Option (TRing Byte × COut)
  | .push x => (t.push x).map fun t' => (t', .unit)
  | .pop =>
    match t.tail with
    | none => none
    | some v => (t.pop 0#8).map fun t' => (t', .elem v)
  | .write d => (ringWrite t.r t.buf d).map fun (r', b', k) => (⟨r', b'⟩, .count k)
  | .read n => (ringRead t.r t.buf n).map fun (r', out) => ({ t with r := r' }, .bytes out)

def runC : TRing Byte → List COp → Option (TRing Byte × List COut)
  | t, [] => some (t, [])
  | t, op :: ops =>
    match stepC t op with
    | none => none
    | some (t', o) =>
      match runC t' ops with
      | none => none
      | some (t'', os) => some (t'', o :: os)

/-- reference: a `List Byte` queue of capacity `cap`; `none` = outside the contract of
the typed ring (push needs room, pop needs an element); write / read of any length
are always inside it -/
def specC (cap : Nat) (q : List Byte) : COp → Option (List Byte × COut)
  | .push x => if q.length < cap then some (q ++ [x], .unit) else none
  | .pop =>
    match q with
    | [] => none
    | y :: q' => some (q', .elem y)
  | .write d => some (q ++ d.take (cap - q.length), .count (min d.length (cap - q.length)))
  | .read n => some (q.drop n, .bytes (q.take n))

def runSpecC (cap : Nat) : List Byte → List COp → Option (List Byte × List COut)
  | q, [] => some (q, [])
  | q, op :: ops =>
    match specC cap q op with
    | none => none
    | some (q', o) =>
      match runSpecC cap q' ops with
      | none => none
      | some (q'', os) => some (q'', o :: os)

theorem runSpecC_cons {cap : Nat} {q q' : List Byte} {op : COp} {ops : List (COp)}
    {outs : List (COut)} (h : runSpecC cap q (op :: ops) = some (q', outs)) :
    ∃ q1 o os, specC cap q op = some (q1, o) ∧ runSpecC cap q1 ops = some (q', os) ∧ outs = o :: os := by
  simp only [runSpecC] at h
  split at h
  · cases h
  · rename_i q1 o e
    split at h
    · cases h
    · rename_i q2 os e2
      obtain ⟨rfl, rfl⟩ : q2 = q' ∧ o :: os = outs := by simpa using h
      exact ⟨q1, o, os, e, e2, rfl⟩

/-- bytes the ring accepted / delivered in one step -/
def acceptedC : COp → COut → List Byte
  | .push x, _ => [x]
  | .write d, .count k => d.take k
  | _, _ => []

def deliveredC : COut → List Byte
  | .elem y => [y]
  | .bytes d => d
  | _ => []

def acceptedAllC : List COp → List COut → List Byte
  | op :: ops, o :: os => acceptedC op o ++ acceptedAllC ops os
  | _, _ => []

def deliveredAllC : List COut → List Byte
  | [] => []
  | o :: os => deliveredC o ++ deliveredAllC os

theorem stepC_sound {t : TRing Byte} {q q1 : List Byte} {o : COut} (h : Abs t.r t.buf q) (op : COp)
    (e : specC (t.r.size.toNat - 1) q op = some (q1, o)) :
    (∃ t1, stepC t op = some (t1, o) ∧ t1.r.size = t.r.size ∧ Abs t1.r t1.buf q1) ∧
      q ++ acceptedC op o = deliveredC o ++ q1 := by
  cases op with
  | push x =>
    simp only [specC] at e
    split at e <;> cases e
    rename_i hr
    obtain ⟨t1, e1, hs1, h1⟩ := TRing.push_abs x h hr
    exact ⟨⟨t1, by simp [stepC, e1], hs1, h1⟩, rfl⟩
  | pop =>
    cases q with
    | nil => cases e
    | cons y q0 =>
      cases e
      obtain ⟨t1, e1, hs1, h1⟩ := TRing.pop_abs (0#8 : Byte) h
      exact ⟨⟨t1, by simp [stepC, TRing.tail_abs h, e1], hs1, h1⟩, by simp [acceptedC, deliveredC]⟩
  | write d =>
    cases e
    obtain ⟨r', b', e1, hs1, ha⟩ := abs_write d h
    exact ⟨⟨⟨r', b'⟩, by simp [stepC, e1], hs1, ha⟩, by simp [acceptedC, deliveredC, take_min_length]⟩
  | read n =>
    cases e
    obtain ⟨r', e1, hs1, ha⟩ := abs_read n h
    exact ⟨⟨{ t with r := r' }, by simp [stepC, e1], hs1, ha⟩, by simp [acceptedC, deliveredC]⟩

theorem runC_sound : ∀ (ops : List COp) {t : TRing Byte} {q q' : List Byte} {outs : List COut},
    Abs t.r t.buf q → runSpecC (t.r.size.toNat - 1) q ops = some (q', outs) →
    ∃ t', runC t ops = some (t', outs) ∧ t'.r.size = t.r.size ∧ Abs t'.r t'.buf q' ∧
      q ++ acceptedAllC ops outs = deliveredAllC outs ++ q'
  | [], t, q, q', outs, h, hs => by
      obtain ⟨rfl, rfl⟩ : q = q' ∧ [] = outs := by simpa [runSpecC] using hs
      exact ⟨t, rfl, rfl, h, by simp [acceptedAllC, deliveredAllC]⟩
  | op :: ops, t, q, q', outs, h, hs => by
      obtain ⟨q1, o, os, e, e2, rfl⟩ := runSpecC_cons hs
      obtain ⟨⟨t1, e1, hs1, h1⟩, c1⟩ := stepC_sound h op e
      rw [← hs1] at e2
      obtain ⟨t2, e3, hs2, h2, c2⟩ := runC_sound ops h1 e2
      exact ⟨t2, by simp [runC, e1, e3], hs2.trans hs1, h2, ledger_trans c1 c2⟩

end Igris.C03
