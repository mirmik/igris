import IgrisModel.C02.Model
/-!
  The slot-event loops computed exactly on buffers described pointwise; on top of that one `…_good` lemma per
  member function (no fault, the new contents, ledger in step) and the state invariant `SInv`.
-/
namespace Igris.C02

namespace Ledger
@[simp] theorem addCtor_addCtor (l : Ledger) (a b : Nat) : (l.addCtor a).addCtor b = l.addCtor (a + b) := by
  simp [addCtor, Nat.add_assoc]
@[simp] theorem addMctor_addMctor (l : Ledger) (a b : Nat) : (l.addMctor a).addMctor b = l.addMctor (a + b) := by
  simp [addMctor, Nat.add_assoc]
@[simp] theorem addDtor_addDtor (l : Ledger) (a b : Nat) : (l.addDtor a).addDtor b = l.addDtor (a + b) := by
  simp [addDtor, Nat.add_assoc]
@[simp] theorem addAsg_addAsg (l : Ledger) (a b : Nat) : (l.addAsg a).addAsg b = l.addAsg (a + b) := by
  simp [addAsg, Nat.add_assoc]
@[simp] theorem addMasg_addMasg (l : Ledger) (a b : Nat) : (l.addMasg a).addMasg b = l.addMasg (a + b) := by
  simp [addMasg, Nat.add_assoc]
@[simp] theorem addCtor_zero (l : Ledger) : l.addCtor 0 = l := by simp [addCtor]
@[simp] theorem addMctor_zero (l : Ledger) : l.addMctor 0 = l := by simp [addMctor]
@[simp] theorem addDtor_zero (l : Ledger) : l.addDtor 0 = l := by simp [addDtor]
@[simp] theorem addAsg_zero (l : Ledger) : l.addAsg 0 = l := by simp [addAsg]
@[simp] theorem addMasg_zero (l : Ledger) : l.addMasg 0 = l := by simp [addMasg]

/-- objects alive according to the ledger -/
def net (l : Ledger) : Int := (l.ctor : Int) + l.mctor - l.dtor
def blocks (l : Ledger) : Int := (l.alloc : Int) - l.dealloc
@[simp] theorem net_addCtor (l : Ledger) (n : Nat) : (l.addCtor n).net = l.net + n := by simp [net, addCtor]; omega
@[simp] theorem net_addMctor (l : Ledger) (n : Nat) : (l.addMctor n).net = l.net + n := by simp [net, addMctor]; omega
@[simp] theorem net_addDtor (l : Ledger) (n : Nat) : (l.addDtor n).net = l.net - n := by simp [net, addDtor]; omega
@[simp] theorem net_addAsg (l : Ledger) (n : Nat) : (l.addAsg n).net = l.net := by simp [net, addAsg]
@[simp] theorem net_addMasg (l : Ledger) (n : Nat) : (l.addMasg n).net = l.net := by simp [net, addMasg]
@[simp] theorem net_addAlloc (l : Ledger) (n : Nat) : (l.addAlloc n).net = l.net := by simp [net, addAlloc]
@[simp] theorem net_addDealloc (l : Ledger) (n : Nat) : (l.addDealloc n).net = l.net := by simp [net, addDealloc]
@[simp] theorem blocks_addCtor (l : Ledger) (n : Nat) : (l.addCtor n).blocks = l.blocks := by simp [blocks, addCtor]
@[simp] theorem blocks_addMctor (l : Ledger) (n : Nat) : (l.addMctor n).blocks = l.blocks := by simp [blocks, addMctor]
@[simp] theorem blocks_addDtor (l : Ledger) (n : Nat) : (l.addDtor n).blocks = l.blocks := by simp [blocks, addDtor]
@[simp] theorem blocks_addAsg (l : Ledger) (n : Nat) : (l.addAsg n).blocks = l.blocks := by simp [blocks, addAsg]
@[simp] theorem blocks_addMasg (l : Ledger) (n : Nat) : (l.addMasg n).blocks = l.blocks := by simp [blocks, addMasg]
@[simp] theorem blocks_addAlloc (l : Ledger) (n : Nat) : (l.addAlloc n).blocks = l.blocks + n := by simp [blocks, addAlloc]; omega
@[simp] theorem blocks_addDealloc (l : Ledger) (n : Nat) : (l.addDealloc n).blocks = l.blocks - n := by simp [blocks, addDealloc]; omega
end Ledger

def total (g : Nat → Int) : Nat → Int
  | 0 => 0
  | n + 1 => total g n + g n

theorem total_set (g : Nat → Int) (r : Nat) (x : Int) (R : Nat) (hr : r < R) :
    total (fun j => if j = r then x else g j) R = total g R + x - g r := by
  induction R with
  | zero => omega
  | succ n ih =>
    simp only [total]
    by_cases h : r = n
    · subst h
      have : total (fun j => if j = r then x else g j) r = total g r := by
        clear ih hr
        have aux : ∀ m, m ≤ r → total (fun j => if j = r then x else g j) m = total g m := by
          intro m hm
          induction m with
          | zero => rfl
          | succ k ihk => simp only [total]; rw [ihk (by omega), if_neg (by omega)]
        exact aux r (Nat.le_refl _)
      rw [this]; simp; omega
    · rw [ih (by omega), if_neg (by omega)]; omega

theorem total_update {α : Type} (φ : α → Int) (g : Nat → α) (r : Nat) (a : α) (R : Nat) (hr : r < R) :
    total (fun j => φ (if j = r then a else g j)) R = total (fun j => φ (g j)) R + φ a - φ (g r) := by
  rw [← total_set _ r _ R hr]
  congr 1; funext j; split <;> rfl

theorem total_zero_of (g : Nat → Int) (R : Nat) (h : ∀ j, j < R → g j = 0) : total g R = 0 := by
  induction R with
  | zero => rfl
  | succ n ih => simp only [total]; rw [ih (fun j hj => h j (by omega)), h n (by omega)]; rfl

theorem total_zero (n : Nat) : total (fun _ => (0 : Int)) n = 0 := total_zero_of _ n (fun _ _ => rfl)

theorem construct_raw {b : Buf} {i : Nat} (v : Val) (h : i < b.n) (hs : b.s i = .raw) :
    construct b i v = some (b.put i (.live v)) := by
  simp [construct, Buf.get, h, hs]

theorem destroy_obj {b : Buf} {i : Nat} (h : i < b.n) (hs : b.s i ≠ .raw) :
    destroy b i = some (b.put i .raw) := by
  unfold destroy
  simp only [Buf.get, h, if_true]
  cases hh : b.s i <;> simp_all

theorem assign_obj {b : Buf} {i : Nat} (v : Val) (h : i < b.n) (hs : b.s i ≠ .raw) :
    assign b i v = some (b.put i (.live v)) := by
  unfold assign
  simp only [Buf.get, h, if_true]
  cases hh : b.s i <;> simp_all

theorem rd_live {b : Buf} {i : Nat} {v : Val} (h : i < b.n) (hs : b.s i = .live v) : rd b i = some v := by
  simp [rd, Buf.get, h, hs]

theorem moveOut_live {b : Buf} {i : Nat} {v : Val} (h : i < b.n) (hs : b.s i = .live v) :
    moveOut b i = some (v, b.put i .moved) := by
  simp [moveOut, Buf.get, h, hs]

theorem Buf.ext {a b : Buf} (hn : a.n = b.n) (hs : ∀ j, a.s j = b.s j) : a = b := by
  cases a; cases b; simp at hn hs ⊢; exact ⟨hn, funext hs⟩

theorem Buf.get_eq_some {b : Buf} {i : Nat} {x : Slot} : b.get i = some x ↔ i < b.n ∧ b.s i = x := by
  unfold Buf.get; split <;> simp [*]

/-! ### constructed objects in a block

  The ledger's `net` moves with the number of constructed slots of the block: every slot event changes both by
  the same amount.  The loops whose events depend on the index (`shiftUp`, `fillLoop`) are accounted for through
  this number: their ledgers (`shiftLed`, `fillLed`) have no simple closed form. -/

def objs (b : Buf) : Int := total (fun i => if b.s i = .raw then 0 else 1) b.n

theorem objs_put {b : Buf} {i : Nat} (h : i < b.n) (x : Slot) :
    objs (b.put i x) = objs b + (if x = .raw then 0 else 1) - (if b.s i = .raw then 0 else 1) := by
  exact total_update (fun y : Slot => if y = .raw then 0 else 1) b.s i x b.n h

theorem construct_objs {b b' : Buf} {i : Nat} {v : Val} (h : construct b i v = some b') : objs b' = objs b + 1 := by
  unfold construct at h
  split at h
  · next he => cases h; obtain ⟨hi, hs⟩ := Buf.get_eq_some.mp he; simp [objs_put hi, hs]
  · cases h

theorem destroy_objs {b b' : Buf} {i : Nat} (h : destroy b i = some b') : objs b' = objs b - 1 := by
  unfold destroy at h
  split at h
  · next he => cases h; obtain ⟨hi, hs⟩ := Buf.get_eq_some.mp he; simp [objs_put hi, hs]
  · next he => cases h; obtain ⟨hi, hs⟩ := Buf.get_eq_some.mp he; simp [objs_put hi, hs]
  · cases h

theorem assign_objs {b b' : Buf} {i : Nat} {v : Val} (h : assign b i v = some b') : objs b' = objs b := by
  unfold assign at h
  split at h
  · next he => cases h; obtain ⟨hi, hs⟩ := Buf.get_eq_some.mp he; simp [objs_put hi, hs]
  · next he => cases h; obtain ⟨hi, hs⟩ := Buf.get_eq_some.mp he; simp [objs_put hi, hs]
  · cases h

theorem moveOut_objs {b b' : Buf} {i : Nat} {v : Val} (h : moveOut b i = some (v, b')) : objs b' = objs b := by
  unfold moveOut at h
  split at h
  · next he => cases h; obtain ⟨hi, hs⟩ := Buf.get_eq_some.mp he; simp [objs_put hi, hs]
  · cases h

theorem shiftUp_objs {size pos k : Nat} {cnt : Nat} {b b' : Buf} {l l' : Ledger}
    (h : shiftUp b size pos k cnt l = some (b', l')) : l'.net - objs b' = l.net - objs b ∧ l'.blocks = l.blocks := by
  induction cnt generalizing b l with
  | zero => simp only [shiftUp, Option.some.injEq, Prod.mk.injEq] at h; obtain ⟨rfl, rfl⟩ := h; exact ⟨rfl, rfl⟩
  | succ n ih =>
    simp only [shiftUp] at h
    split at h
    · cases h
    next x b1 hm =>
    have := moveOut_objs hm
    split at h
    · split at h
      · cases h
      next b2 hc =>
      have := construct_objs hc; have := ih h
      simp at this; omega
    · split at h
      · cases h
      next b2 hc =>
      have := assign_objs hc; have := ih h
      simp at this; omega

theorem fillLoop_objs {pos oldsize sz : Nat} {src : Src} {n k : Nat} {b b' : Buf} {l l' : Ledger}
    (h : fillLoop b pos oldsize sz src k n l = some (b', l')) : l'.net - objs b' = l.net - objs b ∧ l'.blocks = l.blocks := by
  induction n generalizing b k l with
  | zero => simp only [fillLoop, Option.some.injEq, Prod.mk.injEq] at h; obtain ⟨rfl, rfl⟩ := h; exact ⟨rfl, rfl⟩
  | succ n ih =>
    simp only [fillLoop] at h
    split at h
    · cases h
    split at h
    · split at h
      · cases h
      next b2 hc =>
      have := assign_objs hc; have := ih h
      simp at this; omega
    · split at h
      · cases h
      next b2 hc =>
      have := construct_objs hc; have := ih h
      simp at this; omega

theorem Buf.fill_nil (b : Buf) (i : Nat) (G : Nat → Slot) :
    b = ⟨b.n, fun j => if i ≤ j ∧ j < i + 0 then G j else b.s j⟩ :=
  Buf.ext rfl (fun j => (if_neg (by omega)).symm)

theorem Buf.fill_cons (b : Buf) (i n : Nat) (G : Nat → Slot) :
    (⟨b.n, fun j => if i + 1 ≤ j ∧ j < i + 1 + n then G j else (b.put i (G i)).s j⟩ : Buf) =
      ⟨b.n, fun j => if i ≤ j ∧ j < i + (n + 1) then G j else b.s j⟩ := by
  refine Buf.ext rfl (fun j => ?_)
  simp only [Buf.put]
  by_cases hj : j = i
  · subst hj; rw [if_neg (by omega), if_pos rfl, if_pos (by omega)]
  · rw [if_neg hj]
    by_cases hc : i + 1 ≤ j ∧ j < i + 1 + n
    · rw [if_pos hc, if_pos (by omega)]
    · rw [if_neg hc, if_neg (by omega)]

theorem destroyRange_ok (b : Buf) (i n : Nat) (l : Ledger)
    (h : ∀ j, i ≤ j → j < i + n → j < b.n ∧ b.s j ≠ .raw) :
    destroyRange b i n l =
      some (⟨b.n, fun j => if i ≤ j ∧ j < i + n then .raw else b.s j⟩, l.addDtor n) := by
  induction n generalizing b i l with
  | zero =>
    simp only [destroyRange, Ledger.addDtor_zero]
    congr 2
    exact Buf.fill_nil b i _
  | succ n ih =>
    have h0 := h i (Nat.le_refl _) (by omega)
    simp only [destroyRange, destroy_obj h0.1 h0.2]
    rw [ih _ _ _ (fun j h1 h2 => by simpa [Buf.put, Nat.ne_of_gt h1] using h j (by omega) (by omega))]
    simp only [Ledger.addDtor_addDtor, Nat.add_comm 1 n]
    congr 2
    exact Buf.fill_cons b i n (fun _ => .raw)

theorem moveCtorLoop_ok (f : Nat → Val) (ob nb : Buf) (i n : Nat) (l : Ledger)
    (h : ∀ j, i ≤ j → j < i + n → j < ob.n ∧ ob.s j = .live (f j) ∧ j < nb.n ∧ nb.s j = .raw) :
    moveCtorLoop ob nb i n l =
      some (⟨ob.n, fun j => if i ≤ j ∧ j < i + n then .moved else ob.s j⟩,
            ⟨nb.n, fun j => if i ≤ j ∧ j < i + n then .live (f j) else nb.s j⟩, l.addMctor n) := by
  induction n generalizing ob nb i l with
  | zero =>
    simp only [moveCtorLoop, Ledger.addMctor_zero]
    congr 2
    · exact Buf.fill_nil ob i _
    · congr 1
      exact Buf.fill_nil nb i _
  | succ n ih =>
    have h0 := h i (Nat.le_refl _) (by omega)
    simp only [moveCtorLoop, moveOut_live h0.1 h0.2.1, construct_raw (f i) h0.2.2.1 h0.2.2.2]
    rw [ih _ _ _ _ (fun j h1 h2 => by simpa [Buf.put, Nat.ne_of_gt h1] using h j (by omega) (by omega))]
    simp only [Ledger.addMctor_addMctor, Nat.add_comm 1 n]
    congr 2
    · exact Buf.fill_cons ob i n (fun _ => .moved)
    · congr 1
      exact Buf.fill_cons nb i n (fun j => .live (f j))

theorem copyLoop_ok (f : Nat → Val) (o nb : Buf) (i n : Nat) (l : Ledger)
    (h : ∀ j, i ≤ j → j < i + n → j < o.n ∧ o.s j = .live (f j) ∧ j < nb.n ∧ nb.s j = .raw) :
    copyLoop (some o) nb i n l =
      some (⟨nb.n, fun j => if i ≤ j ∧ j < i + n then .live (f j) else nb.s j⟩, l.addCtor n) := by
  induction n generalizing nb i l with
  | zero =>
    simp only [copyLoop, Ledger.addCtor_zero]
    congr 2
    exact Buf.fill_nil nb i _
  | succ n ih =>
    have h0 := h i (Nat.le_refl _) (by omega)
    simp only [copyLoop, rd_live h0.1 h0.2.1, construct_raw (f i) h0.2.2.1 h0.2.2.2]
    rw [ih _ _ _ (fun j h1 h2 => by simpa [Buf.put, Nat.ne_of_gt h1] using h j (by omega) (by omega))]
    simp only [Ledger.addCtor_addCtor, Nat.add_comm 1 n]
    congr 2
    exact Buf.fill_cons nb i n (fun j => .live (f j))

theorem copyLoop_zero (ob : Option Buf) (nb : Buf) (i : Nat) (l : Ledger) :
    copyLoop ob nb i 0 l = some (nb, l) := by simp [copyLoop]

theorem defaultLoop_ok (b : Buf) (i n : Nat) (l : Ledger)
    (h : ∀ j, i ≤ j → j < i + n → j < b.n ∧ b.s j = .raw) :
    defaultLoop b i n l =
      some (⟨b.n, fun j => if i ≤ j ∧ j < i + n then .live 0 else b.s j⟩, l.addCtor n) := by
  induction n generalizing b i l with
  | zero =>
    simp only [defaultLoop, Ledger.addCtor_zero]
    congr 2
    exact Buf.fill_nil b i _
  | succ n ih =>
    have h0 := h i (Nat.le_refl _) (by omega)
    simp only [defaultLoop, construct_raw 0 h0.1 h0.2]
    rw [ih _ _ _ (fun j h1 h2 => by simpa [Buf.put, Nat.ne_of_gt h1] using h j (by omega) (by omega))]
    simp only [Ledger.addCtor_addCtor, Nat.add_comm 1 n]
    congr 2
    exact Buf.fill_cons b i n (fun _ => .live 0)

def shiftLed (size pos k : Nat) : Nat → Ledger → Ledger
  | 0, l => l
  | cnt + 1, l => shiftLed size pos k cnt (if pos + cnt + k ≥ size then l.addMctor 1 else l.addMasg 1)

theorem shiftUp_ok (f : Nat → Val) (b : Buf) (size pos k cnt : Nat) (l : Ledger)
    (hk : 0 < k) (hc : pos + cnt ≤ size) (hn : size + k ≤ b.n)
    (hlive : ∀ j, pos ≤ j → j < pos + cnt → b.s j = .live (f j))
    (hgap : ∀ j, pos + cnt ≤ j → j < pos + cnt + k → (j < size → b.s j = .moved) ∧ (size ≤ j → b.s j = .raw)) :
    shiftUp b size pos k cnt l =
      some (⟨b.n, fun j =>
              if pos ≤ j ∧ j < pos + k then (if j < size then .moved else .raw)
              else if pos + k ≤ j ∧ j < pos + cnt + k then .live (f (j - k))
              else b.s j⟩, shiftLed size pos k cnt l) := by
  induction cnt generalizing b l with
  | zero =>
    simp only [shiftUp, shiftLed]
    congr 2
    apply Buf.ext
    · rfl
    · intro j
      have := hgap j
      simp only
      grind
  | succ n ih =>
    have hl := hlive (pos + n) (by omega) (by omega)
    have hg := hgap (pos + n + k) (by omega) (by omega)
    have hn' : pos + n + k < (b.put (pos + n) .moved).n := by simp [Buf.put]; omega
    have hs : (b.put (pos + n) .moved).s (pos + n + k) = b.s (pos + n + k) := by
      simp only [Buf.put]; rw [if_neg (by omega)]
    -- construction behind the old end and assignment below it write the same slot
    have hstep : shiftUp b size pos k (n + 1) l =
        shiftUp ((b.put (pos + n) .moved).put (pos + n + k) (.live (f (pos + n)))) size pos k n
          (if pos + n + k ≥ size then l.addMctor 1 else l.addMasg 1) := by
      simp only [shiftUp, moveOut_live (show pos + n < b.n by omega) hl]
      by_cases hd : pos + n + k ≥ size
      · rw [if_pos hd, if_pos hd, construct_raw _ hn' (by rw [hs]; exact hg.2 hd)]
      · rw [if_neg hd, if_neg hd, assign_obj _ hn' (by rw [hs, hg.1 (by omega)]; simp)]
    rw [hstep, ih]
    · simp only [shiftLed]
      congr 2
      refine Buf.ext rfl (fun j => ?_)
      simp only [Buf.put]
      by_cases hg1 : pos ≤ j ∧ j < pos + k
      · rw [if_pos hg1, if_pos hg1]
      · rw [if_neg hg1, if_neg hg1]
        by_cases hj : j = pos + n + k
        · rw [if_neg (by omega), if_pos hj, if_pos (by omega), hj, Nat.add_sub_cancel]
        · rw [if_neg hj]
          by_cases hg2 : pos + k ≤ j ∧ j < pos + n + k
          · rw [if_pos hg2, if_pos (by omega)]
          · rw [if_neg hg2, if_neg (by omega), if_neg (by omega)]
    · omega
    · simp [Buf.put]; omega
    · intro j h1 h2
      simpa [Buf.put, Nat.ne_of_lt (show j < pos + n + k by omega), Nat.ne_of_lt h2] using hlive j h1 (by omega)
    · intro j h1 h2
      simp only [Buf.put]
      rw [if_neg (by omega)]
      by_cases hj : j = pos + n
      · rw [if_pos hj]; exact ⟨fun _ => rfl, fun _ => by omega⟩
      · rw [if_neg hj]; exact hgap j (by omega) (by omega)

def fillLed (pos oldsize : Nat) (k : Nat) : Nat → Ledger → Ledger
  | 0, l => l
  | n + 1, l => fillLed pos oldsize (k + 1) n (if pos + k < oldsize then l.addAsg 1 else l.addCtor 1)

theorem fillLoop_ok (g : Nat → Val) (b : Buf) (pos oldsize sz : Nat) (src : Src) (k n : Nat) (l : Ledger)
    (hkn : k + n ≤ sz)
    (hsrc : ∀ k', k ≤ k' → k' < k + n → ∀ b' : Buf, b'.n = b.n →
        (∀ j, ¬ (pos ≤ j ∧ j < pos + sz) → b'.s j = b.s j) → srcVal b' pos sz src k' = some (g k'))
    (hdst : ∀ j, pos + k ≤ j → j < pos + k + n →
        j < b.n ∧ (j < oldsize → b.s j ≠ .raw) ∧ (oldsize ≤ j → b.s j = .raw)) :
    fillLoop b pos oldsize sz src k n l =
      some (⟨b.n, fun j => if pos + k ≤ j ∧ j < pos + k + n then .live (g (j - pos)) else b.s j⟩,
            fillLed pos oldsize k n l) := by
  induction n generalizing b k l with
  | zero =>
    simp only [fillLoop, fillLed]
    congr 2
    exact Buf.fill_nil b (pos + k) _
  | succ n ih =>
    have hs := hsrc k (Nat.le_refl _) (by omega) b rfl (fun _ _ => rfl)
    have hd := hdst (pos + k) (Nat.le_refl _) (by omega)
    -- assignment below the old end and construction behind it write the same slot
    have hstep : fillLoop b pos oldsize sz src k (n + 1) l =
        fillLoop (b.put (pos + k) (.live (g k))) pos oldsize sz src (k + 1) n
          (if pos + k < oldsize then l.addAsg 1 else l.addCtor 1) := by
      simp only [fillLoop, hs]
      by_cases hlt : pos + k < oldsize
      · rw [if_pos hlt, if_pos hlt, assign_obj (g k) hd.1 (hd.2.1 hlt)]
      · rw [if_neg hlt, if_neg hlt, construct_raw (g k) hd.1 (hd.2.2 (by omega))]
    rw [hstep, ih]
    · simp only [fillLed]
      congr 2
      have := Buf.fill_cons b (pos + k) n (fun j => .live (g (j - pos)))
      simp only [Nat.add_sub_cancel_left] at this
      exact this
    · omega
    · intro k' h1 h2 b' hb' hag
      apply hsrc k' (by omega) (by omega) b' (by simpa [Buf.put] using hb')
      intro j hj
      rw [hag j hj]; simp only [Buf.put]; rw [if_neg]; omega
    · intro j h1 h2
      simpa [Buf.put, Nat.ne_of_gt (show pos + k < j by omega)] using hdst j (by omega) (by omega)

theorem moveDown_ok (f : Nat → Val) (b : Buf) (src dst n : Nat) (l : Ledger)
    (hds : dst < src)
    (hsrc : ∀ j, src ≤ j → j < src + n → j < b.n ∧ b.s j = .live (f j))
    (hdst : ∀ j, dst ≤ j → j < dst + n → b.s j ≠ .raw) :
    moveDown b src dst n l =
      some (⟨b.n, fun j =>
              if dst ≤ j ∧ j < dst + n then .live (f (j + (src - dst)))
              else if src ≤ j ∧ j < src + n then .moved else b.s j⟩, l.addMasg n) := by
  induction n generalizing b src dst l with
  | zero =>
    simp only [moveDown, Ledger.addMasg_zero]
    congr 2
    apply Buf.ext
    · rfl
    · intro j; simp only; grind
  | succ n ih =>
    have hs := hsrc src (Nat.le_refl _) (by omega)
    have hd := hdst dst (Nat.le_refl _) (by omega)
    have hd' : (b.put src .moved).s dst ≠ .raw := by
      simp only [Buf.put]; rw [if_neg (by omega)]; exact hd
    simp only [moveDown, moveOut_live hs.1 hs.2,
      assign_obj (f src) (show dst < (b.put src .moved).n by simp [Buf.put]; omega) hd']
    rw [ih]
    · simp only [Ledger.addMasg_addMasg, Nat.add_comm 1 n]
      congr 2
      refine Buf.ext rfl (fun j => ?_)
      have e : src + 1 - (dst + 1) = src - dst := by omega
      simp only [Buf.put, e]
      by_cases h1 : dst + 1 ≤ j ∧ j < dst + 1 + n
      · rw [if_pos h1, if_pos (by omega)]
      · rw [if_neg h1]
        by_cases h2 : src + 1 ≤ j ∧ j < src + 1 + n
        · rw [if_pos h2, if_neg (by omega), if_pos (by omega)]
        · rw [if_neg h2]
          by_cases hj : j = dst
          · rw [if_pos hj, if_pos (by omega), hj, Nat.add_sub_cancel' (Nat.le_of_lt hds)]
          · rw [if_neg hj, if_neg (show ¬ (dst ≤ j ∧ j < dst + (n + 1)) by omega)]
            by_cases hs : j = src
            · rw [if_pos hs, if_pos (by omega)]
            · rw [if_neg hs, if_neg (by omega)]
    · omega
    · intro j h1 h2
      simpa [Buf.put, Nat.ne_of_gt (show dst < j by omega), Nat.ne_of_gt (show src < j by omega)]
        using hsrc j (by omega) (by omega)
    · intro j h1 h2
      simp only [Buf.put]
      rw [if_neg (by omega)]
      by_cases hj : j = src
      · rw [if_pos hj]; simp
      · rw [if_neg hj]; exact hdst j (by omega) (by omega)

def cell (xs : List Val) (i : Nat) : Slot := if i < xs.length then .live (xs.getD i 0) else .raw

/-- the vector object `v` (block, m_capacity, m_size) holds exactly the elements `xs`: m_size = |xs| ≤ m_capacity =
    size of the block, slot i is a constructed element with value xs[i] for i < |xs| and unconstructed memory behind
    it; nullptr only with capacity 0 and no elements -/
def Rep (v : Vec) (xs : List Val) : Prop :=
  v.size = xs.length ∧
  match v.data with
  | none => v.cap = 0 ∧ xs = []
  | some b => b.n = v.cap ∧ xs.length ≤ v.cap ∧ ∀ i, b.s i = cell xs i

def held (v : Vec) : Int := if v.data.isSome then 1 else 0

structure Good (v : Vec) (xs : List Val) (l : Ledger) (v' : Vec) (xs' : List Val) (l' : Ledger) : Prop where
  rep : Rep v' xs'
  net : l'.net = l.net + xs'.length - xs.length
  blk : l'.blocks = l.blocks + held v' - held v

theorem Good.refl {v : Vec} {xs : List Val} (h : Rep v xs) (l : Ledger) : Good v xs l v xs l :=
  ⟨h, by omega, by omega⟩

theorem Good.trans {v v1 v2 : Vec} {xs xs1 xs2 : List Val} {l l1 l2 : Ledger}
    (a : Good v xs l v1 xs1 l1) (b : Good v1 xs1 l1 v2 xs2 l2) : Good v xs l v2 xs2 l2 :=
  ⟨b.rep, by have := a.net; have := b.net; omega, by have := a.blk; have := b.blk; omega⟩

theorem cell_nil (i : Nat) : cell [] i = .raw := by simp [cell]

theorem cell_snoc (xs : List Val) (x : Val) (i : Nat) :
    cell (xs ++ [x]) i = if i = xs.length then .live x else cell xs i := by
  simp only [cell, List.length_append, List.length_singleton, List.getD_eq_getElem?_getD, List.getElem?_append]
  grind

theorem cell_dropLast (xs : List Val) (i : Nat) :
    cell xs.dropLast i = if i + 1 < xs.length then cell xs i else .raw := by
  simp only [cell, List.length_dropLast, List.getD_eq_getElem?_getD, List.getElem?_dropLast]
  grind

theorem cell_take (xs : List Val) (k i : Nat) :
    cell (xs.take k) i = if i < k then cell xs i else .raw := by
  simp only [cell, List.length_take, List.getD_eq_getElem?_getD, List.getElem?_take]
  grind

theorem cell_insertAt (xs ys : List Val) (p i : Nat) (hp : p ≤ xs.length) :
    cell (insertAt xs p ys) i =
      if i < p then cell xs i else if i < p + ys.length then .live (ys.getD (i - p) 0) else cell xs (i - ys.length) := by
  simp only [cell, insertAt, List.length_append, List.length_take, List.length_drop,
    List.getD_eq_getElem?_getD, List.getElem?_append, List.getElem?_take, List.getElem?_drop]
  grind

theorem length_insertAt {xs ys : List Val} {p : Nat} (hp : p ≤ xs.length) :
    (insertAt xs p ys).length = xs.length + ys.length := by
  simp [insertAt]; omega

theorem cell_erase (xs : List Val) (a b i : Nat) (hab : a ≤ b) (hb : b ≤ xs.length) :
    cell (xs.take a ++ xs.drop b) i = if i < a then cell xs i else cell xs (i + (b - a)) := by
  simp only [cell, List.length_append, List.length_take, List.length_drop,
    List.getD_eq_getElem?_getD, List.getElem?_append, List.getElem?_take, List.getElem?_drop]
  grind

theorem cell_resize (xs : List Val) (n i : Nat) :
    cell (xs.take n ++ List.replicate (n - xs.length) 0) i =
      if i < n then (if i < xs.length then cell xs i else .live 0) else .raw := by
  simp only [cell, List.length_append, List.length_take, List.length_replicate,
    List.getD_eq_getElem?_getD, List.getElem?_append, List.getElem?_take, List.getElem?_replicate]
  grind

theorem cell_take_append_take (xs ys : List Val) (p k i : Nat) (hp : p ≤ xs.length) (hk : k ≤ ys.length) :
    cell (xs.take p ++ ys.take k) i =
      if i < p then cell xs i else if i < p + k then .live (ys.getD (i - p) 0) else .raw := by
  simp only [cell, List.length_append, List.length_take, List.getD_eq_getElem?_getD, List.getElem?_append,
    List.getElem?_take]
  grind

theorem cell_replicate (n i : Nat) : cell (List.replicate n 0) i = if i < n then .live 0 else .raw := by
  simp only [cell, List.length_replicate, List.getD_eq_getElem?_getD, List.getElem?_replicate]
  grind

theorem cell_live {xs : List Val} {i : Nat} (h : i < xs.length) : cell xs i = .live (xs.getD i 0) := by
  simp [cell, h]
theorem cell_raw {xs : List Val} {i : Nat} (h : xs.length ≤ i) : cell xs i = .raw := by
  simp [cell]; omega
theorem cell_ne_raw {xs : List Val} {i : Nat} (h : i < xs.length) : cell xs i ≠ .raw := by
  simp [cell, h]

theorem objs_cell {c : Nat} {xs : List Val} (h : xs.length ≤ c) : objs ⟨c, cell xs⟩ = xs.length := by
  have : ∀ n, total (fun i => if cell xs i = .raw then (0 : Int) else 1) n = (min n xs.length : Nat) := by
    intro n
    induction n with
    | zero => simp [total]
    | succ n ih =>
      simp only [total]; rw [ih]; simp only [cell]
      split <;> simp <;> omega
  simp only [objs, this]; omega

theorem srcSpec_own {xs ys : List Val} {f t : Nat} (h : srcSpec xs (.own f t) = some ys) :
    f ≤ t ∧ t ≤ xs.length ∧ ys.length = t - f ∧ ∀ k, k < t - f → ys.getD k 0 = xs.getD (f + k) 0 := by
  simp only [srcSpec] at h
  split at h
  · next hft =>
    cases h
    refine ⟨hft.1, hft.2, by simp; omega, fun k hk => ?_⟩
    simp only [List.getD_eq_getElem?_getD, List.getElem?_take, List.getElem?_drop, hk, if_true]
  · cases h

theorem srcSpec_count {xs ys : List Val} {src : Src} (h : srcSpec xs src = some ys) : src.count = ys.length := by
  cases src with
  | own f t => exact (srcSpec_own h).2.2.1.symm
  | ext zs => simp only [srcSpec] at h; cases h; rfl

theorem deallocOk_of (b : Buf) (cap : Nat) (hn : b.n = cap) (h : ∀ j, j < b.n → b.s j = .raw) :
    deallocOk b cap = true := by
  simp only [deallocOk, Buf.allRaw, hn, beq_self_eq_true, Bool.true_and, List.all_eq_true, List.mem_range]
  intro j hj
  simp [h j (by omega)]

theorem Rep.nil : Rep Vec.empty [] := by simp [Rep, Vec.empty]

/-- a vector with storage is determined by its capacity and its contents -/
def vecOf (c : Nat) (xs : List Val) : Vec := ⟨some ⟨c, cell xs⟩, c, xs.length⟩

theorem Rep.of_buf {c sz : Nat} {xs : List Val} {b : Buf} (hsz : sz = xs.length) (h : xs.length ≤ c)
    (hn : b.n = c) (hs : ∀ i, b.s i = cell xs i) : Rep ⟨some b, c, sz⟩ xs := by
  simp [Rep, hsz, h, hn, hs]

theorem Rep.of_cell {c sz : Nat} {xs : List Val} (hsz : sz = xs.length) (h : xs.length ≤ c) :
    Rep ⟨some ⟨c, cell xs⟩, c, sz⟩ xs := Rep.of_buf hsz h rfl (fun _ => rfl)

theorem Rep.mk {c : Nat} {xs : List Val} (h : xs.length ≤ c) : Rep (vecOf c xs) xs := Rep.of_cell rfl h

@[simp] theorem held_some (b : Buf) (c s : Nat) : held ⟨some b, c, s⟩ = 1 := by simp [held]

theorem Rep.size_eq {v : Vec} {xs : List Val} (h : Rep v xs) : v.size = xs.length := h.1

theorem Rep.cases {v : Vec} {xs : List Val} (h : Rep v xs) :
    (v = Vec.empty ∧ xs = []) ∨ (∃ c, v = vecOf c xs ∧ xs.length ≤ c) := by
  obtain ⟨d, c, sz⟩ := v
  obtain ⟨hs, hr⟩ := h
  cases d with
  | none => left; simp_all [Vec.empty]
  | some b =>
    obtain ⟨hn, hle, hc⟩ := hr
    simp only at hs
    refine Or.inr ⟨c, ?_, hle⟩
    simp only [vecOf, hs]
    congr 2
    exact Buf.ext (b := ⟨c, cell xs⟩) hn hc

theorem Rep.len_le {v : Vec} {xs : List Val} (h : Rep v xs) : xs.length ≤ v.cap := by
  rcases h.cases with ⟨rfl, rfl⟩ | ⟨c, rfl, hc⟩
  · simp
  · exact hc

theorem Rep.eq_vecOf {v : Vec} {xs : List Val} (h : Rep v xs) (hc : 0 < v.cap) : v = vecOf v.cap xs := by
  rcases h.cases with ⟨rfl, rfl⟩ | ⟨c, rfl, _⟩
  · simp [Vec.empty] at hc
  · rfl

theorem Rep.none_nil {v : Vec} {xs : List Val} (h : Rep v xs) (hd : v.data = none) : xs = [] := by
  rcases h.cases with ⟨_, h0⟩ | ⟨c, rfl, _⟩
  · exact h0
  · simp [vecOf] at hd

@[simp] theorem held_vecOf (c : Nat) (xs : List Val) : held (vecOf c xs) = 1 := by simp [held, vecOf]
@[simp] theorem held_empty : held Vec.empty = 0 := by simp [held, Vec.empty]

theorem Good.of_empty {v : Vec} {xs : List Val} {l : Ledger} (g : Good Vec.empty [] {} v xs l) :
    l.net = xs.length ∧ l.blocks = held v := by
  constructor
  · have := g.net; simp [Ledger.net] at this ⊢; omega
  · have := g.blk; simp [Ledger.blocks] at this ⊢; omega

theorem rd_vecOf {c : Nat} {xs : List Val} (hc : xs.length ≤ c) {i : Nat} (hi : i < xs.length) :
    rd (⟨c, cell xs⟩ : Buf) i = some (xs.getD i 0) :=
  rd_live (by simp; omega) (cell_live hi)

theorem rd_rep {v : Vec} {xs : List Val} (h : Rep v xs) {i : Nat} (hi : i < xs.length) :
    ∃ b, v.data = some b ∧ rd b i = some (xs.getD i 0) := by
  rcases h.cases with ⟨rfl, rfl⟩ | ⟨c, rfl, hc⟩
  · simp at hi
  · exact ⟨_, rfl, rd_vecOf hc hi⟩

theorem changeBuffer_good {v : Vec} {xs : List Val} (h : Rep v xs) (sz : Nat) (hsz : xs.length ≤ sz) (l : Ledger) :
    ∃ l', changeBuffer v sz l = some (⟨some ⟨sz, cell xs⟩, sz, xs.length⟩, l') ∧
      l'.net = l.net ∧ l'.blocks = l.blocks + 1 - held v := by
  rcases h.cases with ⟨rfl, rfl⟩ | ⟨c, rfl, hc⟩
  · refine ⟨l.addAlloc 1, ?_, by simp, by simp⟩
    simp only [changeBuffer, Vec.empty, Buf.fresh]
    congr 5
  · simp only [changeBuffer, vecOf]
    rw [moveCtorLoop_ok (fun j => xs.getD j 0) _ _ _ _ _ (fun j _ h2 =>
      ⟨by simp; omega, cell_live (by omega), by simp [Buf.fresh]; omega, rfl⟩)]
    simp only
    rw [destroyRange_ok _ _ _ _ (fun j _ h2 => ⟨by simp; omega, by simp only; rw [if_pos ⟨Nat.zero_le _, h2⟩]; simp⟩)]
    simp only
    -- the old block: the elements moved from, then destroyed; the new one: exactly the elements
    rw [deallocOk_of _ _ rfl (fun j _ => by
      simp only
      by_cases hj : j < xs.length
      · rw [if_pos ⟨Nat.zero_le _, by omega⟩]
      · rw [if_neg (by omega), if_neg (by omega)]; exact cell_raw (by omega))]
    refine ⟨(((l.addAlloc 1).addMctor xs.length).addDtor xs.length).addDealloc 1, ?_, by simp, by simp⟩
    simp only [if_true, Buf.fresh]
    congr 5
    funext j
    by_cases hj : j < xs.length
    · rw [if_pos ⟨Nat.zero_le _, by omega⟩, cell_live hj]
    · rw [if_neg (by omega), cell_raw (by omega)]

theorem reserve_good {v : Vec} {xs : List Val} (h : Rep v xs) (n : Nat) (l : Ledger) :
    ∃ v' l', reserve v n l = some (v', l') ∧ n ≤ v'.cap ∧ Good v xs l v' xs l' := by
  unfold reserve
  by_cases hn : n > v.cap
  · obtain ⟨l', h1, h2, h3⟩ := changeBuffer_good h n (by have := h.len_le; omega) l
    refine ⟨_, l', by simp only [hn, if_true]; exact h1, ?_, Rep.mk (by have := h.len_le; omega), by omega, ?_⟩
    · simp [vecOf]
    · rw [h3]; show _ = _ + held (vecOf n xs) - _; simp
  · exact ⟨v, l, by simp [hn], by omega, Good.refl h l⟩

theorem reserve_pos {v : Vec} {xs : List Val} (h : Rep v xs) {n : Nat} (hn : 0 < n) (l : Ledger) :
    ∃ c l', reserve v n l = some (vecOf c xs, l') ∧ n ≤ c ∧ xs.length ≤ c ∧
      l'.net = l.net ∧ l'.blocks = l.blocks + 1 - held v := by
  obtain ⟨v', l', hr, hcap, hrep, hnet, hblk⟩ := reserve_good h n l
  have hv := hrep.eq_vecOf (by omega)
  exact ⟨v'.cap, l', hv ▸ hr, hcap, hrep.len_le, by omega, by rw [hblk, hv]; simp⟩

/-! ### `shift_up` opens a gap, the insertions fill it -/

/-- the block of `vecOf c xs` after `shift_up(pos, k)`: the `k` slots at `pos` hold moved-from objects below the old
    end, nothing behind it -/
def gapCell (xs : List Val) (pos k j : Nat) : Slot :=
  if j < pos then cell xs j
  else if j < pos + k then (if j < xs.length then .moved else .raw)
  else cell xs (j - k)

theorem shiftUp_gap {c pos k : Nat} {xs : List Val} (hp : pos ≤ xs.length) (hk : 0 < k) (hc : xs.length + k ≤ c)
    (l : Ledger) :
    shiftUp ⟨c, cell xs⟩ xs.length pos k (xs.length - pos) l =
      some (⟨c, gapCell xs pos k⟩, shiftLed xs.length pos k (xs.length - pos) l) := by
  rw [shiftUp_ok (fun j => xs.getD j 0) _ _ _ _ _ _ hk (by omega) (by simpa using hc)
    (fun j _ h2 => cell_live (by omega))
    (fun j h1 _ => ⟨fun h3 => by omega, fun _ => cell_raw (by omega)⟩)]
  congr 3
  funext j
  simp only [gapCell, cell]
  grind

def fillCell (xs ys : List Val) (pos n j : Nat) : Slot :=
  if pos ≤ j ∧ j < pos + n then .live (ys.getD (j - pos) 0) else gapCell xs pos ys.length j

theorem fillLoop_gap {c pos n : Nat} {xs ys : List Val} {src : Src} (hp : pos ≤ xs.length)
    (hs : srcSpec xs src = some ys) (hn : n ≤ ys.length) (hc : xs.length + ys.length ≤ c) (l : Ledger) :
    fillLoop ⟨c, gapCell xs pos ys.length⟩ pos xs.length ys.length src 0 n l =
      some (⟨c, fillCell xs ys pos n⟩, fillLed pos xs.length 0 n l) := by
  have := fillLoop_ok (fun k => ys.getD k 0) ⟨c, gapCell xs pos ys.length⟩ pos xs.length ys.length src 0 n l (by omega)
    ?_ ?_
  · simp only at this; exact this
  · intro k' _ hk' b' hb' hag
    cases src with
    | ext zs =>
      simp only [srcSpec, Option.some.injEq] at hs; subst hs
      simp [srcVal, List.getD_eq_getElem?_getD, List.getElem?_eq_getElem (show k' < zs.length by omega)]
    | own f t =>
      obtain ⟨hft, ht, hyl, hget⟩ := srcSpec_own hs
      simp only [srcVal, hget k' (by omega)]
      simp only at hb'
      -- an own element in front of `pos` stands where it stood, one behind it `ys.length` slots higher
      by_cases hlt : f + k' < pos
      · rw [if_pos hlt]
        refine rd_live (by omega) ?_
        rw [hag _ (by omega)]; simp only [gapCell]; rw [if_pos hlt]
        exact cell_live (by omega)
      · rw [if_neg hlt]
        refine rd_live (by omega) ?_
        rw [hag _ (by omega)]; simp only [gapCell]; rw [if_neg (by omega), if_neg (by omega), Nat.add_sub_cancel]
        exact cell_live (by omega)
  · intro j h1 h2
    refine ⟨by simp; omega, fun h3 => ?_, fun h3 => ?_⟩
    · simp only [gapCell]; rw [if_neg (by omega), if_pos (by omega), if_pos h3]; simp
    · simp only [gapCell]; rw [if_neg (by omega), if_pos (by omega), if_neg (by omega)]

theorem fill_gap_all (xs ys : List Val) {pos : Nat} (hp : pos ≤ xs.length) (j : Nat) :
    fillCell xs ys pos ys.length j = cell (insertAt xs pos ys) j := by
  rw [cell_insertAt _ _ _ _ hp, fillCell, gapCell]
  by_cases h1 : j < pos
  · rw [if_neg (by omega), if_pos h1, if_pos h1]
  · by_cases h2 : j < pos + ys.length
    · rw [if_pos ⟨by omega, h2⟩, if_neg h1, if_pos h2]
    · rw [if_neg (by omega), if_neg h1, if_neg h2, if_neg h1, if_neg h2]

theorem put_gap {c pos : Nat} (xs : List Val) (x : Val) (hp : pos ≤ xs.length) :
    (⟨c, gapCell xs pos 1⟩ : Buf).put pos (.live x) = ⟨c, cell (insertAt xs pos [x])⟩ := by
  refine Buf.ext rfl fun j => ?_
  show _ = cell (insertAt xs pos [x]) j
  rw [← fill_gap_all xs [x] hp j]
  simp only [Buf.put, fillCell, List.length_singleton]
  by_cases hj : j = pos
  · subst hj; simp
  · rw [if_neg hj, if_neg (by omega)]

theorem destroyRange_tail {c : Nat} {xs : List Val} (hc : xs.length ≤ c) (k : Nat) (l : Ledger) :
    destroyRange ⟨c, cell xs⟩ k (xs.length - k) l = some (⟨c, cell (xs.take k)⟩, l.addDtor (xs.length - k)) := by
  rw [destroyRange_ok _ _ _ _ (fun j h1 h2 => ⟨by simp; omega, cell_ne_raw (by omega)⟩)]
  congr 3
  funext j
  rw [cell_take]
  by_cases hj : j < k
  · rw [if_neg (by omega), if_pos hj]
  · rw [if_neg hj]
    by_cases hx : j < xs.length
    · rw [if_pos (by omega)]
    · rw [if_neg (by omega)]; exact cell_raw (by omega)

theorem defaultLoop_tail {c k : Nat} {xs : List Val} (hc : xs.length + k ≤ c) (l : Ledger) :
    defaultLoop ⟨c, cell xs⟩ xs.length k l = some (⟨c, cell (xs ++ List.replicate k 0)⟩, l.addCtor k) := by
  rw [defaultLoop_ok _ _ _ _ (fun j h1 h2 => ⟨by simp; omega, cell_raw (by omega)⟩)]
  congr 3
  funext j
  simp only [cell, List.length_append, List.length_replicate, List.getD_eq_getElem?_getD, List.getElem?_append,
    List.getElem?_replicate]
  grind

theorem argVal_of_rep {v : Vec} {xs : List Val} (h : Rep v xs) {a : Arg} {x : Val} (ha : argSpec xs a = some x) :
    argVal v a = some x := by
  cases a with
  | val y => simpa [argSpec, argVal] using ha
  | own i =>
    simp only [argSpec] at ha
    obtain ⟨hi, -⟩ := List.getElem?_eq_some_iff.mp ha
    have hx : xs.getD i 0 = x := by simp [List.getD_eq_getElem?_getD, ha]
    obtain ⟨b, hd, hr⟩ := rd_rep h hi
    simp only [argVal, hd, h.size_eq, hi, if_true, hr, hx]

theorem put_snoc {c : Nat} (xs : List Val) (x : Val) :
    (⟨c, cell xs⟩ : Buf).put xs.length (.live x) = ⟨c, cell (xs ++ [x])⟩ :=
  Buf.ext rfl (fun i => by simp only [Buf.put, cell_snoc])

theorem emplaceBack_good {v : Vec} {xs : List Val} (h : Rep v xs) {a : Arg} {x : Val}
    (ha : argSpec xs a = some x) (l : Ledger) :
    ∃ v' l', emplaceBack v a l = some (v', l') ∧ Good v xs l v' (xs ++ [x]) l' := by
  have hav := argVal_of_rep h ha
  have hsz := h.size_eq
  unfold emplaceBack
  by_cases hg : v.size + 1 > v.cap
  · obtain ⟨l', h1, h2, h3⟩ := changeBuffer_good h (v.size + 1) (by omega) (l.addCtor 1)
    simp only [hsz] at h1 hg
    simp only [hsz, hg, if_true, hav, h1]
    rw [construct_raw x (by simp) (by simp [cell_raw]), put_snoc]
    exact ⟨_, _, rfl, Rep.of_cell (by simp) (by simp), by simp [h2]; omega, by simp [h3]⟩
  · rcases h.cases with ⟨rfl, rfl⟩ | ⟨c, rfl, hc⟩
    · simp [Vec.empty] at hg
    · simp only [vecOf] at hg hav ⊢
      simp only [hg, if_false, hav]
      rw [construct_raw x (by simp; omega) (by simp [cell_raw]), put_snoc]
      exact ⟨_, _, rfl, Rep.of_cell (by simp) (by simp; omega), by simp; omega, by simp⟩

theorem popBack_good {v : Vec} {xs : List Val} (h : Rep v xs) (hne : xs ≠ []) (l : Ledger) :
    ∃ v' l', popBack v l = some (v', l') ∧ Good v xs l v' xs.dropLast l' := by
  rcases h.cases with ⟨_, h0⟩ | ⟨c, rfl, hc⟩
  · exact absurd h0 hne
  · have hpos : 0 < xs.length := List.length_pos_iff.mpr hne
    simp only [popBack, vecOf, Nat.ne_of_gt hpos, if_false]
    rw [destroy_obj (by simp; omega) (by simp; exact cell_ne_raw (by omega))]
    refine ⟨_, _, rfl, ?_, ?_, ?_⟩
    · exact Rep.of_buf (by simp) (by simp; omega) rfl (fun i => by rw [cell_dropLast]; simp only [Buf.put, cell]; grind)
    · simp; omega
    · simp

theorem emplace_good {v : Vec} {xs : List Val} (h : Rep v xs) {a : Arg} {x : Val} {pos : Nat}
    (hp : pos ≤ xs.length) (ha : argSpec xs a = some x) (l : Ledger) :
    ∃ v' l', emplace v pos a l = some (v', l') ∧ Good v xs l v' (insertAt xs pos [x]) l' := by
  have hav := argVal_of_rep h ha
  obtain ⟨c, l1, hr, hc, hxc, hnet, hblk⟩ := reserve_pos h (n := xs.length + 1) (by omega) (l.addCtor 1)
  have e1 := shiftUp_gap hp (by omega) hc l1
  have a1 := shiftUp_objs e1
  have hlen : (insertAt xs pos [x]).length = xs.length + 1 := length_insertAt hp
  rw [objs_cell hxc] at a1
  simp only [emplace, hav, h.size_eq, hr, vecOf, shiftUpCall, e1]
  rw [if_neg (by omega)]
  -- the slot at `pos` holds a moved-from object when `pos` is inside the old contents, nothing when it is the end
  by_cases hlt : pos < xs.length
  · have e2 := assign_obj x (b := ⟨c, gapCell xs pos 1⟩) (i := pos) (by simp; omega)
      (by simp only [gapCell]; rw [if_neg (by omega), if_pos (by omega), if_pos hlt]; simp)
    have a2 := assign_objs e2
    rw [put_gap xs x hp] at e2 a2
    rw [objs_cell (by omega)] at a2
    simp only [hlt, if_true, e2]
    refine ⟨_, _, rfl, Rep.of_cell hlen.symm (by omega), ?_, ?_⟩
    · simp only [Ledger.net_addDtor, Ledger.net_addMasg, Ledger.net_addCtor] at hnet ⊢; omega
    · simp only [Ledger.blocks_addDtor, Ledger.blocks_addMasg, Ledger.blocks_addCtor] at hblk ⊢; rw [a1.2, hblk]; simp
  · have e2 := construct_raw x (b := ⟨c, gapCell xs pos 1⟩) (i := pos) (by simp; omega)
      (by simp only [gapCell]; rw [if_neg (by omega), if_pos (by omega), if_neg hlt])
    have a2 := construct_objs e2
    rw [put_gap xs x hp] at e2 a2
    rw [objs_cell (by omega)] at a2
    simp only [hlt, if_false, e2]
    refine ⟨_, _, rfl, Rep.of_cell hlen.symm (by omega), ?_, ?_⟩
    · simp only [Ledger.net_addDtor, Ledger.net_addMctor, Ledger.net_addCtor] at hnet ⊢; omega
    · simp only [Ledger.blocks_addDtor, Ledger.blocks_addMctor, Ledger.blocks_addCtor] at hblk ⊢; rw [a1.2, hblk]; simp

theorem invalidate_good {v : Vec} {xs : List Val} (h : Rep v xs) (l : Ledger) :
    ∃ l', invalidate v l = some (Vec.empty, l') ∧ Good v xs l Vec.empty [] l' := by
  rcases h.cases with ⟨rfl, rfl⟩ | ⟨c, rfl, hc⟩
  · exact ⟨l, by simp [invalidate, Vec.empty], Good.refl Rep.nil l⟩
  · have e := destroyRange_tail hc 0 l
    simp only [Nat.sub_zero, List.take_zero] at e
    simp only [invalidate, vecOf, e, deallocOk_of ⟨c, cell []⟩ c rfl (fun j _ => cell_nil j), if_true]
    exact ⟨_, rfl, Rep.nil, by simp, by simp⟩

theorem clear_good {v : Vec} {xs : List Val} (h : Rep v xs) (l : Ledger) :
    ∃ v' l', clear v l = some (v', l') ∧ Good v xs l v' [] l' := by
  rcases h.cases with ⟨rfl, rfl⟩ | ⟨c, rfl, hc⟩
  · exact ⟨_, l, by simp [clear, Vec.empty], Good.refl Rep.nil l⟩
  · have e := destroyRange_tail hc 0 l
    simp only [Nat.sub_zero, List.take_zero] at e
    simp only [clear, vecOf, e]
    exact ⟨_, _, rfl, Rep.of_cell rfl (by simp), by simp, by simp⟩

theorem eraseTo_good {v : Vec} {xs : List Val} (h : Rep v xs) {k : Nat} (hk : k ≤ xs.length) (l : Ledger) :
    ∃ v' l', eraseTo v k l = some (v', l') ∧ Good v xs l v' (xs.take k) l' := by
  rcases h.cases with ⟨rfl, rfl⟩ | ⟨c, rfl, hc⟩
  · simp at hk; subst hk
    exact ⟨_, l, by simp [eraseTo, Vec.empty], Good.refl Rep.nil l⟩
  · simp only [eraseTo, vecOf, show ¬ (k > xs.length) by omega, if_false, destroyRange_tail hc k l]
    have hlen : (xs.take k).length = k := by simp; omega
    exact ⟨_, _, rfl, Rep.of_cell hlen.symm (by omega), by simp; omega, by simp⟩

theorem erase_good {v : Vec} {xs : List Val} (h : Rep v xs) {f t : Nat} (hft : f ≤ t) (ht : t ≤ xs.length)
    (l : Ledger) :
    ∃ v' l', erase v f t l = some (v', l') ∧ Good v xs l v' (xs.take f ++ xs.drop t) l' := by
  by_cases h0 : t - f = 0
  · have : f = t := by omega
    subst this
    exact ⟨v, l, by simp [erase], by simpa using Good.refl h l⟩
  rcases h.cases with ⟨rfl, rfl⟩ | ⟨c, rfl, hc⟩
  · simp at ht; omega
  · simp only [erase, vecOf, h0, if_false]
    simp only [show ¬ (t > xs.length) by omega, if_false]
    rw [moveDown_ok (fun j => xs.getD j 0) _ _ _ _ _ (by omega)
      (by intro j h1 h2; exact ⟨by simp; omega, cell_live (by omega)⟩)
      (by intro j h1 h2; exact cell_ne_raw (by omega))]
    simp only
    rw [destroyRange_ok _ _ _ _ (by intro j h1 h2; refine ⟨by simp; omega, ?_⟩; simp only [cell]; grind)]
    refine ⟨_, _, rfl, ?_, ?_, by simp⟩
    · refine Rep.of_buf (by simp; omega) (by simp; omega) rfl ?_
      intro i; rw [cell_erase _ _ _ _ hft ht]; simp only [cell]; grind
    · simp; omega

theorem resize_good {v : Vec} {xs : List Val} (h : Rep v xs) (n : Nat) (l : Ledger) :
    ∃ v' l', resize v n l = some (v', l') ∧
      Good v xs l v' (xs.take n ++ List.replicate (n - xs.length) 0) l' := by
  obtain ⟨v1, l1, hr, hcap, g⟩ := reserve_good h n l
  simp only [resize, hr]
  rcases g.rep.cases with ⟨rfl, rfl⟩ | ⟨c, rfl, hc⟩
  · simp [Vec.empty] at hcap; subst hcap
    exact ⟨Vec.empty, l1, by simp [Vec.empty], by simpa using g⟩
  · simp only [vecOf] at hcap ⊢
    by_cases hgt : n > xs.length
    · rw [List.take_of_length_le (show xs.length ≤ n by omega)]
      simp only [hgt, if_true, defaultLoop_tail (c := c) (xs := xs) (k := n - xs.length) (by omega) l1]
      refine ⟨_, _, rfl, Rep.of_cell (by simp; omega) (by simp; omega), ?_, by simp [g.blk]⟩
      simp [g.net]; omega
    · rw [Nat.sub_eq_zero_of_le (show n ≤ xs.length by omega), List.replicate_zero, List.append_nil]
      simp only [hgt, if_false, destroyRange_tail hc n l1]
      refine ⟨_, _, rfl, Rep.of_cell (by simp; omega) (by simp; omega), ?_, by simp [g.blk]⟩
      simp [g.net]; omega

theorem insertRange_good {v : Vec} {xs ys : List Val} (h : Rep v xs) {src : Src} {pos : Nat}
    (hp : pos ≤ xs.length) (hs : srcSpec xs src = some ys) (l : Ledger) :
    ∃ v' l', insertRange v pos src l = some (v', l') ∧ Good v xs l v' (insertAt xs pos ys) l' := by
  have hcnt := srcSpec_count hs
  by_cases h0 : ys.length = 0
  · have : ys = [] := List.eq_nil_of_length_eq_zero h0
    subst this
    exact ⟨v, l, by simp [insertRange, hcnt], by simpa [insertAt] using Good.refl h l⟩
  obtain ⟨c, l1, hr, hc, hxc, hnet, hblk⟩ := reserve_pos h (n := xs.length + ys.length) (by omega) l
  have e1 := shiftUp_gap hp (by omega) hc l1
  have e2 := fillLoop_gap hp hs (Nat.le_refl _) hc (shiftLed xs.length pos ys.length (xs.length - pos) l1)
  have a1 := shiftUp_objs e1
  have a2 := fillLoop_objs e2
  have hb : (⟨c, fillCell xs ys pos ys.length⟩ : Buf) = ⟨c, cell (insertAt xs pos ys)⟩ :=
    congrArg (Buf.mk c) (funext (fill_gap_all xs ys hp))
  rw [hb] at e2 a2
  have hlen := length_insertAt (ys := ys) hp
  rw [objs_cell (by omega)] at a1
  rw [objs_cell (by omega)] at a2
  simp only [insertRange, hcnt, h0, if_false, h.size_eq, hr, vecOf, shiftUpCall, e1, e2]
  refine ⟨_, _, rfl, Rep.of_cell hlen.symm (by omega), ?_, ?_⟩
  · omega
  · rw [a2.2, a1.2, hblk]; simp

theorem copyPartial_good {o : Vec} {ys : List Val} (h : Rep o ys) {k : Nat} (hk : k ≤ ys.length) (l : Ledger) :
    ∃ b l', copyLoop o.data (Buf.fresh o.size) 0 k (l.addAlloc 1) = some (b, l') ∧
      Good Vec.empty [] l ⟨some b, o.size, k⟩ (ys.take k) l' := by
  rcases h.cases with ⟨rfl, rfl⟩ | ⟨c, rfl, hc⟩
  · have : k = 0 := by simpa using hk
    subst this
    exact ⟨_, _, copyLoop_zero _ _ _ _, Rep.of_buf rfl (by simp [Vec.empty]) rfl (fun i => by simp [Buf.fresh, cell_nil]),
      by simp, by simp⟩
  · simp only [vecOf]
    rw [copyLoop_ok (fun j => ys.getD j 0) _ _ _ _ _
      (by intro j _ h2; exact ⟨by simp; omega, cell_live (by omega), by simp [Buf.fresh]; omega, by simp [Buf.fresh]⟩)]
    refine ⟨_, _, rfl, ?_, by simp; omega, by simp⟩
    refine Rep.of_buf (by simp; omega) (by simp; omega) rfl ?_
    intro i; rw [cell_take]; simp only [cell, Buf.fresh]; grind

theorem copyCtor_good (portable : Bool) {o : Vec} {ys : List Val} (h : Rep o ys) (l : Ledger) :
    ∃ v' l', copyCtor portable o l = some (v', l') ∧ Good Vec.empty [] l v' ys l' := by
  unfold copyCtor
  by_cases hp : (portable && o.size == 0) = true
  · simp only [hp, if_true]
    have : ys = [] := by
      simp at hp; have := h.size_eq; exact List.eq_nil_of_length_eq_zero (by omega)
    subst this
    exact ⟨_, l, rfl, Good.refl Rep.nil l⟩
  · obtain ⟨b, l', h1, g⟩ := copyPartial_good h (k := o.size) (by rw [h.size_eq]; exact Nat.le_refl _) l
    rw [h.size_eq, List.take_length] at g
    rw [← h.size_eq] at g
    simp only [hp, h1]
    exact ⟨_, _, rfl, g⟩

theorem copyAssign_good {v o : Vec} {xs ys : List Val} (hv : Rep v xs) (h : Rep o ys) (l : Ledger) :
    ∃ v' l', copyAssign v o l = some (v', l') ∧ Good v xs l v' ys l' := by
  obtain ⟨l1, h1, g1⟩ := invalidate_good hv l
  obtain ⟨v2, l2, h2, g2⟩ := copyCtor_good false h l1
  refine ⟨v2, l2, ?_, g1.trans g2⟩
  simp only [copyAssign, h1]
  simpa [copyCtor] using h2

theorem pushAll_good {v : Vec} {xs : List Val} (h : Rep v xs) (ys : List Val) (l : Ledger) :
    ∃ v' l', pushAll v ys l = some (v', l') ∧ Good v xs l v' (xs ++ ys) l' := by
  induction ys generalizing v xs l with
  | nil => exact ⟨v, l, rfl, by simpa using Good.refl h l⟩
  | cons y ys ih =>
    obtain ⟨v1, l1, h1, g1⟩ := emplaceBack_good h (a := .val y) (x := y) rfl l
    obtain ⟨v2, l2, h2, g2⟩ := ih g1.rep l1
    refine ⟨v2, l2, by simp [pushAll, h1, h2], ?_⟩
    have := g1.trans g2
    simpa using this

theorem listCtor_good (ys : List Val) (l : Ledger) :
    ∃ v' l', listCtor ys l = some (v', l') ∧ Good Vec.empty [] l v' ys l' := by
  obtain ⟨v1, l1, hr, _, g1⟩ := reserve_good Rep.nil ys.length l
  obtain ⟨v2, l2, h2, g2⟩ := pushAll_good g1.rep ys l1
  exact ⟨v2, l2, by simp [listCtor, hr, h2], by simpa using g1.trans g2⟩

theorem readRange_ok {o : Vec} {ys : List Val} (h : Rep o ys) (f n : Nat) (hfn : f + n ≤ ys.length) :
    readRange o f n = some ((ys.drop f).take n) := by
  induction n generalizing f with
  | zero => simp [readRange]
  | succ n ih =>
    have hf : f < ys.length := by omega
    obtain ⟨b, hd, hr⟩ := rd_rep h hf
    simp only [readRange, hd, h.size_eq, hf, if_true, hr, ih (f + 1) (by omega), Option.some.injEq]
    rw [List.drop_eq_getElem_cons hf, List.take_succ_cons]
    simp [List.getD_eq_getElem?_getD, List.getElem?_eq_getElem hf]

theorem rangeCtor_good {o : Vec} {ys : List Val} (h : Rep o ys) {f t : Nat} (hft : f ≤ t) (ht : t ≤ ys.length)
    (l : Ledger) :
    ∃ v' l', rangeCtor o f t l = some (v', l') ∧ Good Vec.empty [] l v' ((ys.drop f).take (t - f)) l' := by
  obtain ⟨v2, l2, h2, g2⟩ := pushAll_good Rep.nil ((ys.drop f).take (t - f)) l
  refine ⟨v2, l2, by simp [rangeCtor, readRange_ok h f (t - f) (by omega), h2], by simpa using g2⟩

theorem sizeCtor_good (n : Nat) (l : Ledger) :
    ∃ v' l', sizeCtor n l = some (v', l') ∧ Good Vec.empty [] l v' (List.replicate n 0) l' := by
  obtain ⟨v', l', h1, g⟩ := resize_good Rep.nil n l
  exact ⟨v', l', h1, by simpa using g⟩

theorem contents_ok {v : Vec} {xs : List Val} (h : Rep v xs) : contents v = some xs := by
  have := readRange_ok h 0 xs.length (by omega)
  simpa [contents, h.size_eq] using this

theorem vecIdx_ok {v : Vec} {xs : List Val} (h : Rep v xs) {i : Nat} (hi : i < xs.length) :
    vecIdx v i = some (xs.getD i 0) := by
  obtain ⟨b, hd, hr⟩ := rd_rep h hi
  simp only [vecIdx, h.size_eq, hd, show ¬ (i ≥ xs.length) by omega, if_false, hr]

theorem vecAt_ok {v : Vec} {xs : List Val} (h : Rep v xs) (i : Nat) : vecAt v i = some xs[i]? := by
  by_cases hi : i < xs.length
  · obtain ⟨b, hd, hr⟩ := rd_rep h hi
    simp only [vecAt, h.size_eq, hd, show ¬ (i ≥ xs.length) by omega, if_false, hr]
    simp [List.getD_eq_getElem?_getD, List.getElem?_eq_getElem hi]
  · simp only [vecAt, h.size_eq, show i ≥ xs.length by omega, if_true]
    rw [List.getElem?_eq_none (by omega)]

structure SInv (R : Nat) (s : St) (f : Nat → List Val) : Prop where
  rep : ∀ r, Rep (s.regs r) (f r)
  net : s.led.net = total (fun r => ((f r).length : Int)) R
  blk : s.led.blocks = total (fun r => held (s.regs r)) R

theorem SInv.init (R : Nat) : SInv R St.init (fun _ => []) := by
  refine ⟨fun _ => Rep.nil, ?_, ?_⟩
  · simp [St.init, Ledger.net, total_zero]
  · simp [St.init, Ledger.blocks, total_zero]

theorem SInv.set {R : Nat} {s : St} {f : Nat → List Val} (h : SInv R s f) {r : Nat} (hr : r < R)
    {v' : Vec} {xs' : List Val} {l' : Ledger} (g : Good (s.regs r) (f r) s.led v' xs' l') :
    SInv R (s.set r v' l') (setL f r xs') := by
  refine ⟨?_, ?_, ?_⟩
  · intro j; simp only [St.set, setL]; split
    · exact g.rep
    · exact h.rep j
  · exact (g.net.trans (by rw [h.net])).trans
      (total_update (fun xs : List Val => (xs.length : Int)) f r xs' R hr).symm
  · exact (g.blk.trans (by rw [h.blk])).trans (total_update held s.regs r v' R hr).symm

theorem destroyAll_ok {R : Nat} {s : St} {f : Nat → List Val} (hI : SInv R s f) (n : Nat) (hn : n ≤ R) :
    ∃ s', destroyAll s n = some s' ∧ SInv R s' (fun j => if j < n then [] else f j) ∧
      (∀ j, j < n → s'.regs j = Vec.empty) := by
  induction n with
  | zero => exact ⟨s, rfl, by simpa using hI, by intro j hj; omega⟩
  | succ n ih =>
    obtain ⟨s1, h1, hI1, hE⟩ := ih (by omega)
    obtain ⟨l', h2, g⟩ := invalidate_good (hI1.rep n) s1.led
    refine ⟨s1.set n Vec.empty l', by simp [destroyAll, h1, h2], ?_, ?_⟩
    · have := hI1.set (show n < R by omega) g
      have e : setL (fun j => if j < n then [] else f j) n [] = fun j => if j < n + 1 then [] else f j := by
        funext j; simp only [setL]
        by_cases hj : j = n
        · simp [hj]
        · by_cases hj2 : j < n
          · simp [hj, hj2]; omega
          · simp [hj, hj2]; omega
      rwa [e] at this
    · intro j hj
      simp only [St.set]
      by_cases hjn : j = n
      · simp [hjn]
      · simp [hjn]; exact hE j (by omega)

theorem destroyAll_balanced {R : Nat} {s : St} {f : Nat → List Val} (hI : SInv R s f) :
    ∃ s', destroyAll s R = some s' ∧ s'.led.made = s'.led.dtor ∧ s'.led.alloc = s'.led.dealloc ∧
      ∀ r, r < R → s'.regs r = Vec.empty := by
  obtain ⟨s', h2, hI2, hE⟩ := destroyAll_ok hI R (Nat.le_refl _)
  refine ⟨s', h2, ?_, ?_, hE⟩
  · have hn := hI2.net
    rw [total_zero_of _ R (by intro j hj; simp [hj])] at hn
    simp only [Ledger.net, Ledger.made] at hn ⊢; omega
  · have hb := hI2.blk
    rw [total_zero_of _ R (by intro j hj; rw [hE j hj]; simp)] at hb
    simp only [Ledger.blocks] at hb; omega

/-- move construction / move assignment: `d`, its old object destroyed (`g1`), takes over the record of `src`, which
    is left empty; no slot event.  Two single-register updates: `src` gives its record up (no ledger of the run says
    so; one that does is made up for the proof and overwritten), then `d` takes it over. -/
theorem SInv.move {R : Nat} {s : St} {f : Nat → List Val} (hI : SInv R s f) {d src : Nat} (hne : ¬ d = src)
    (hd : d < R) (hsrc : src < R) {l1 : Ledger} (g1 : Good (s.regs d) (f d) s.led Vec.empty [] l1) :
    SInv R ((s.set src Vec.empty l1).set d (s.regs src) l1) (setL (setL f src []) d (f src)) := by
  obtain ⟨h, hh⟩ : ∃ h : Nat, held (s.regs src) = h := by
    simp only [held]; split
    · exact ⟨1, rfl⟩
    · exact ⟨0, rfl⟩
  have h1 := hI.set hsrc (v' := Vec.empty) (xs' := []) (l' := (s.led.addDtor (f src).length).addDealloc h)
    ⟨Rep.nil, by simp, by simp [hh]⟩
  refine h1.set hd (v' := s.regs src) (xs' := f src) (l' := l1) ?_
  simp only [St.set, setL, if_neg hne]
  exact ⟨hI.rep src, by have := g1.net; simp at this ⊢; omega, by have := g1.blk; simp [hh] at this ⊢; omega⟩

theorem setL_self (f : Nat → List Val) (r : Nat) : setL f r (f r) = f := by
  funext j; simp only [setL]; split <;> simp_all

theorem set_self_regs (s : St) (r : Nat) (l : Ledger) (j : Nat) : (s.set r (s.regs r) l).regs j = s.regs j := by
  simp only [St.set]; split
  · next h => rw [h]
  · rfl

theorem SInv.set_self {R : Nat} {s : St} {f : Nat → List Val} (hI : SInv R s f) {r : Nat} (hr : r < R) :
    SInv R (s.set r (s.regs r) s.led) f := by
  have := hI.set hr (Good.refl (hI.rep r) s.led)
  rwa [setL_self] at this

end Igris.C02
