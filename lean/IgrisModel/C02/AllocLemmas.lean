import IgrisModel.C02.Alloc
import IgrisModel.C02.ExcLemmas
/-!
  C02 — igris::vector when an allocation fails: the armed step `stepA` of Alloc.lean
  * is the step of Model.lean when the failure does not strike,
  * leaves every register and the ledger balances as they were when the failure strikes a growing operation,
  * leaves the state `invalidate()` of the target register produces when it strikes a rebuilding operation.
-/
namespace Igris.C02

theorem changeBufferA_eq (af : AF) (idx : Nat) (v : Vec) (sz : Nat) (l : Ledger) :
    changeBufferA false af idx v sz l = if af.hit idx sz then .threw (v, l) else .ofOption (changeBuffer v sz l) := by
  simp [changeBufferA]

/-- `af.hit` on the allocation request of a call; `none`: the call does not allocate -/
def AF.strikes (af : AF) (idx : Nat) : Option Nat → Bool
  | some q => af.hit idx q
  | none => false

theorem allocFails_eq (s : St) (af : AF) (op : Op) : allocFails s af op = af.strikes 0 (allocRequest s op) := by
  unfold allocFails AF.strikes; rfl

/-! the six growing operations: either the failure strikes (`threw`, the vector untouched, the ledger up by one
    temporary built and destroyed at most) or the call is the unarmed one -/

theorem reserveA_eq (af : AF) (idx : Nat) (v : Vec) (sz : Nat) (l : Ledger) :
    reserveA false af idx v sz l =
      if af.strikes idx (if v.cap < sz then some sz else none) = true then .threw (v, l)
      else .ofOption (reserve v sz l) := by
  unfold reserveA reserve
  by_cases h : v.cap < sz
  · simp only [h, if_true, changeBufferA_eq, AF.strikes]
  · simp [h, Out.ofOption, AF.strikes]

theorem emplaceBackA_eq (af : AF) (idx : Nat) (v : Vec) (a : Arg) (l : Ledger) :
    emplaceBackA false af idx v a l =
      if af.strikes idx (if v.cap < v.size + 1 then some (v.size + 1) else none) = true then
        (match argVal v a with
         | none => .fault
         | some _ => .threw (v, (l.addCtor 1).addDtor 1))
      else .ofOption (emplaceBack v a l) := by
  unfold emplaceBackA
  by_cases h : v.cap < v.size + 1
  · simp only [h, if_true, changeBufferA_eq, AF.strikes]
    cases ha : argVal v a with
    | none => simp [emplaceBack, h, ha, Out.ofOption]
    | some x => by_cases hh : af.hit idx (v.size + 1) = true <;> simp [hh] <;>
        cases hc : changeBuffer v (v.size + 1) (l.addCtor 1) <;> simp [Out.ofOption, emplaceBack, h, ha, hc]
  · simp [h, AF.strikes]

theorem emplaceA_eq (af : AF) (v : Vec) (pos : Nat) (a : Arg) (l : Ledger) :
    emplaceA false af v pos a l =
      if af.strikes 0 (if v.cap < v.size + 1 then some (v.size + 1) else none) = true then
        (match argVal v a with
         | none => .fault
         | some _ => .threw (v, (l.addCtor 1).addDtor 1))
      else .ofOption (emplace v pos a l) := by
  unfold emplaceA
  cases ha : argVal v a with
  | none => simp [emplace, ha, Out.ofOption]
  | some x =>
    simp only [reserveA_eq]
    by_cases hh : af.strikes 0 (if v.cap < v.size + 1 then some (v.size + 1) else none) = true
    · simp only [hh, if_true]
    · simp only [hh]
      cases hr : reserve v (v.size + 1) (l.addCtor 1) <;> simp [Out.ofOption, emplace, ha, hr]

theorem insertSortedA_pos (af : AF) (v : Vec) (x : Val) (l : Ledger) :
    insertSortedA false af v x l = (match sortedPos v x with
      | none => .fault
      | some p => match emplaceA false af v p (.val x) l with
        | .threw (v', l') => .threw (p, v', l')
        | .fault => .fault
        | .ok _ => .ofOption (insertSorted v x l)) := rfl

theorem insertSortedA_eq (af : AF) (v : Vec) (x : Val) (l : Ledger) :
    insertSortedA false af v x l =
      if af.strikes 0 (if v.cap < v.size + 1 then some (v.size + 1) else none) = true then
        (match sortedPos v x with
         | none => .fault
         | some p => .threw (p, v, (l.addCtor 1).addDtor 1))
      else .ofOption (insertSorted v x l) := by
  rw [insertSortedA_pos]
  cases hp : sortedPos v x with
  | none => simp [insertSorted_pos, hp, Out.ofOption]
  | some p =>
    simp only [emplaceA_eq, argVal]
    by_cases hh : af.strikes 0 (if v.cap < v.size + 1 then some (v.size + 1) else none) = true
    · simp only [hh, if_true]
    · simp only [hh]
      cases he : emplace v p (.val x) l <;> simp [Out.ofOption, he, insertSorted_pos, hp]

theorem insertRangeA_eq (af : AF) (v : Vec) (pos : Nat) (src : Src) (l : Ledger) :
    insertRangeA false af v pos src l =
      if af.strikes 0 (if src.count ≠ 0 ∧ v.cap < v.size + src.count then some (v.size + src.count) else none) = true
      then .threw (v, l) else .ofOption (insertRange v pos src l) := by
  unfold insertRangeA insertRange
  by_cases h0 : src.count = 0
  · simp [h0, Out.ofOption, AF.strikes]
  · simp only [h0, if_false, reserveA_eq, ne_eq, not_false_eq_true, true_and]
    by_cases hh : af.strikes 0 (if v.cap < v.size + src.count then some (v.size + src.count) else none) = true
    · simp only [hh, if_true]
    · simp only [hh]
      cases reserve v (v.size + src.count) l <;> rfl

theorem resizeA_eq (af : AF) (v : Vec) (n : Nat) (l : Ledger) :
    resizeA false af v n l =
      if af.strikes 0 (if v.cap < n then some n else none) = true then .threw (v, l) else .ofOption (resize v n l) := by
  unfold resizeA resize
  rw [reserveA_eq]
  by_cases hh : af.strikes 0 (if v.cap < n then some n else none) = true
  · simp only [hh, if_true]
  · simp only [hh]
    cases reserve v n l <;> rfl

theorem blocks_ctor_dtor (l : Ledger) : ((l.addCtor 1).addDtor 1).blocks = l.blocks := by simp

theorem net_ctor_dtor (l : Ledger) : ((l.addCtor 1).addDtor 1).net = l.net := by simp

/-- A growing operation with an allocation failure armed.  When the failure strikes (`allocFails`) the call is left
    by the exception with every register as it was and the ledger balanced as before (the temporary built in front
    of the allocation has been destroyed) — or it faults where the unarmed call faults too, reading its argument;
    when it does not strike, the call is the unarmed one. -/
theorem stepA_growing (portable : Bool) (s : St) (af : AF) (op : Op) (hop : op.growsInPlace = true) :
    if allocFails s af op = true then
      (stepA false portable s af op = .fault ∧ step portable s op = none) ∨
      ∃ r l', stepA false portable s af op = .threw (s.set r (s.regs r) l', .throw) ∧
        l'.net = s.led.net ∧ l'.blocks = s.led.blocks
    else stepA false portable s af op = .ofOption (step portable s op) := by
  by_cases hf : allocFails s af op = true
  · rw [if_pos hf]
    rw [allocFails_eq] at hf
    cases op <;> simp only [Op.growsInPlace] at hop <;> try (exact absurd hop (by decide))
    all_goals simp only [allocRequest] at hf
    · rename_i r a
      simp only [stepA, step, emplaceBackA_eq, hf, if_true]
      cases ha : argVal (s.regs r) a with
      | none =>
        refine Or.inl ⟨rfl, ?_⟩
        by_cases hc : (s.regs r).cap < (s.regs r).size + 1
        · simp [emplaceBack, ha, hc]
        · simp [hc, AF.strikes] at hf
      | some x => exact Or.inr ⟨r, _, rfl, net_ctor_dtor _, blocks_ctor_dtor _⟩
    · rename_i r pos a
      simp only [stepA, step, emplaceA_eq, hf, if_true]
      cases ha : argVal (s.regs r) a with
      | none => exact Or.inl ⟨rfl, by simp [emplace, ha]⟩
      | some x => exact Or.inr ⟨r, _, rfl, net_ctor_dtor _, blocks_ctor_dtor _⟩
    · rename_i r pos src
      simp only [stepA, step, insertRangeA_eq, hf, if_true]; exact Or.inr ⟨r, _, rfl, rfl, rfl⟩
    · rename_i r x
      simp only [stepA, step, insertSortedA_eq, hf, if_true]
      cases hp : sortedPos (s.regs r) x with
      | none => exact Or.inl ⟨rfl, by simp [insertSorted_pos, hp]⟩
      | some p => exact Or.inr ⟨r, _, rfl, net_ctor_dtor _, blocks_ctor_dtor _⟩
    · rename_i r n
      simp only [stepA, step, resizeA_eq, hf, if_true]; exact Or.inr ⟨r, _, rfl, rfl, rfl⟩
    · rename_i r n
      simp only [stepA, step, reserveA_eq, hf, if_true]; exact Or.inr ⟨r, _, rfl, rfl, rfl⟩
  · rw [if_neg hf]
    rw [allocFails_eq] at hf
    cases op <;> simp only [Op.growsInPlace] at hop <;> try (exact absurd hop (by decide))
    all_goals simp only [allocRequest] at hf
    · simp only [stepA, step, emplaceBackA_eq, hf]; exact Out.match_ofOption2 _ _ _
    · simp only [stepA, step, emplaceA_eq, hf]; exact Out.match_ofOption2 _ _ _
    · simp only [stepA, step, insertRangeA_eq, hf]; exact Out.match_ofOption2 _ _ _
    · simp only [stepA, step, insertSortedA_eq, hf]; exact Out.match_ofOption3 _ _ _
    · simp only [stepA, step, resizeA_eq, hf]; exact Out.match_ofOption2 _ _ _
    · simp only [stepA, step, reserveA_eq, hf]; exact Out.match_ofOption2 _ _ _

theorem SInv.of_same {R : Nat} {s s' : St} {f : Nat → List Val} (h : SInv R s f)
    (hr : ∀ j, s'.regs j = s.regs j) (hn : s'.led.net = s.led.net) (hb : s'.led.blocks = s.led.blocks) : SInv R s' f := by
  refine ⟨fun j => by rw [hr j]; exact h.rep j, by rw [hn]; exact h.net, ?_⟩
  rw [hb, h.blk]
  congr 1; funext j; rw [hr j]

/-- the operations that REBUILD the vector in register `d` with one allocation: copy assignment from another
    vector, copy construction, `vector(n)`, the initializer-list / template-range constructor -/
def Op.rebuilds : Op → Option Nat
  | .copyAssign d src => if d = src then none else some d
  | .copyCtor d src => if d = src then none else some d
  | .sizeCtor d _ => some d
  | .listCtor d _ => some d
  | _ => none

theorem Op.rebuilds_eq_some {op : Op} {d : Nat} (h : op.rebuilds = some d) :
    (∃ src, ¬ d = src ∧ (op = .copyAssign d src ∨ op = .copyCtor d src)) ∨
    (∃ n, op = .sizeCtor d n) ∨ ∃ xs, op = .listCtor d xs := by
  cases op with
  | copyAssign d' src | copyCtor d' src =>
    simp only [Op.rebuilds] at h
    split at h
    · cases h
    · next hne => cases h; exact Or.inl ⟨src, hne, by simp⟩
  | sizeCtor d' n => cases h; exact Or.inr (Or.inl ⟨n, rfl⟩)
  | listCtor d' xs => cases h; exact Or.inr (Or.inr ⟨xs, rfl⟩)
  | _ => cases h

theorem invalidate_empty (l : Ledger) : invalidate Vec.empty l = some (Vec.empty, l) := by
  simp [invalidate, Vec.empty]

theorem invalidate_fst {v v0 : Vec} {l l0 : Ledger} (h : invalidate v l = some (v0, l0)) : v0 = Vec.empty := by
  unfold invalidate at h
  split at h
  · simp at h; exact h.1.symm
  · split at h
    · simp at h
    · split at h
      · simp at h; exact h.1.symm
      · simp at h

/-- a rebuilding operation with an allocation failure armed: either the call is the unarmed one, or it is left by
    std::bad_alloc in exactly the state `invalidate()` of the target register produces (what `invalidate()` /
    the delegated-to constructor + destructor leave: the empty vector, the old elements destroyed, the old block
    given back) -/
theorem stepA_rebuild (portable : Bool) (s : St) (af : AF) (op : Op) {d : Nat} (hop : op.rebuilds = some d)
    {v0 : Vec} {l0 : Ledger} (hinv : invalidate (s.regs d) s.led = some (v0, l0)) :
    stepA false portable s af op = .ofOption (step portable s op) ∨
    (stepA false portable s af op = .threw (s.set d Vec.empty l0, .throw) ∧
      step portable s (.invalidate d) = some (s.set d Vec.empty l0, .unit)) := by
  have hv0 := invalidate_fst hinv
  subst hv0
  rcases Op.rebuilds_eq_some hop with ⟨src, hne, rfl | rfl⟩ | ⟨n, rfl⟩ | ⟨xs, rfl⟩
  · simp only [stepA, step, hne, if_false, copyAssignA, hinv]
    by_cases hh : af.hit 0 (s.regs src).size = true
    · right; simp [hh]
    · left
      simp only [hh]
      cases hc : copyAssign (s.regs d) (s.regs src) s.led <;> simp [Out.ofOption]
  · simp only [stepA, step, hne, if_false, hinv, copyCtorA]
    by_cases hp : (portable && (s.regs src).size == 0) = true
    · left
      simp [hp, copyCtor, Out.ofOption]
    · by_cases hh : af.hit 0 (s.regs src).size = true
      · right; simp [hp, hh, unwindCtor, invalidate_empty]
      · left
        simp only [hp, hh]
        cases hc : copyCtor portable (s.regs src) l0 <;> simp [Out.ofOption]
  · simp only [stepA, step, hinv, sizeCtorA, resizeA_eq, sizeCtor]
    by_cases hh : af.strikes 0 (if Vec.empty.cap < n then some n else none) = true
    · right; simp [hh, unwindCtor, invalidate_empty]
    · left
      simp only [hh]
      cases hc : resize Vec.empty n l0 <;> simp [Out.ofOption]
  · simp only [stepA, step, hinv, listCtorA, reserveA_eq]
    by_cases hh : af.strikes 0 (if Vec.empty.cap < xs.length then some xs.length else none) = true
    · right; simp [hh, unwindCtor, invalidate_empty]
    · left
      simp only [hh]
      cases hr : reserve Vec.empty xs.length l0 with
      | none => simp [Out.ofOption, listCtor, hr]
      | some r => cases hc : listCtor xs l0 <;> simp [Out.ofOption]

/-! `vector(iterator first, const iterator last)`: one push_back per element, each may allocate (no reserve) -/

theorem emplaceBackA_val_cases (af : AF) (idx : Nat) (v : Vec) (x : Val) (l : Ledger) :
    emplaceBackA false af idx v (.val x) l = .ofOption (emplaceBack v (.val x) l) ∨
    emplaceBackA false af idx v (.val x) l = .threw (v, (l.addCtor 1).addDtor 1) := by
  rw [emplaceBackA_eq]
  by_cases hh : af.strikes idx (if v.cap < v.size + 1 then some (v.size + 1) else none) = true
  · exact Or.inr (if_pos hh)
  · exact Or.inl (if_neg hh)

theorem pushAllA_good (af : AF) {v : Vec} {xs : List Val} (h : Rep v xs) (ys : List Val) (idx : Nat) (l : Ledger) :
    (∃ v' l', pushAllA false af idx v ys l = .ok (v', l') ∧ pushAll v ys l = some (v', l')) ∨
    (∃ v' zs l', pushAllA false af idx v ys l = .threw (v', l') ∧ Good v xs l v' zs l') := by
  induction ys generalizing v xs l idx with
  | nil => exact Or.inl ⟨v, l, rfl, rfl⟩
  | cons y ys ih =>
    obtain ⟨v1, l1, h1, g1⟩ := emplaceBack_good h (a := .val y) (x := y) rfl l
    rcases emplaceBackA_val_cases af idx v y l with hc | hc
    · rw [h1] at hc
      rcases ih g1.rep (if v.size + 1 > v.cap then idx + 1 else idx) l1 with ⟨v2, l2, h2, h3⟩ | ⟨v2, zs, l2, h2, g2⟩
      · exact Or.inl ⟨v2, l2, by simp only [pushAllA, hc, Out.ofOption]; exact h2, by simp [pushAll, h1, h3]⟩
      · exact Or.inr ⟨v2, zs, l2, by simp only [pushAllA, hc, Out.ofOption]; exact h2, g1.trans g2⟩
    · refine Or.inr ⟨v, xs, (l.addCtor 1).addDtor 1, by simp only [pushAllA, hc], h, ?_, ?_⟩
      · rw [net_ctor_dtor]; omega
      · rw [blocks_ctor_dtor]; omega

/-- std::vector accepts the history whichever of the armed allocations fail: a failed operation leaves the
    abstract state as it was, the caller goes on -/
def AcceptsA (f : Nat → List Val) : List (Op × Option AF) → Prop
  | [] => True
  | (op, af) :: rest =>
    ∃ f' ret, specStep f op = some (f', ret) ∧ AcceptsA f' rest ∧ (af.isSome = true → AcceptsA f rest)

def acceptsA (f : Nat → List Val) : List (Op × Option AF) → Bool
  | [] => true
  | (op, af) :: rest =>
    match specStep f op with
    | none => false
    | some (f', _) => acceptsA f' rest && (af.isNone || acceptsA f rest)

theorem acceptsA_sound {f : Nat → List Val} {ops : List (Op × Option AF)} (h : acceptsA f ops = true) :
    AcceptsA f ops := by
  induction ops generalizing f with
  | nil => trivial
  | cons p rest ih =>
    obtain ⟨op, af⟩ := p
    simp only [acceptsA] at h
    split at h
    · cases h
    · next f' ret hs =>
      simp only [Bool.and_eq_true, Bool.or_eq_true, Option.isNone_iff_eq_none] at h
      refine ⟨f', ret, hs, ih h.1, fun ha => ?_⟩
      rcases h.2 with h2 | h2
      · rw [h2] at ha; cases ha
      · exact ih h2

end Igris.C02
