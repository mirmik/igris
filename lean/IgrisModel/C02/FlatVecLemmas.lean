import IgrisModel.C02.Flat
import IgrisModel.C02.FlatVec
import IgrisModel.Common.ListScan
/-!
  C02 — flat_set / flat_map over the slot-model vector (`VSet`, `VMap` of FlatVec.lean) simulate the list
  models (`FSet`, `FMap` of Model.lean) step by step, without a fault, for ANY contents of the storage (no
  sortedness or strict-weak-order hypothesis) and ANY comparator.
-/
namespace Igris.C02

theorem insertAt_single (xs : List Val) (p : Nat) (x : Val) : insertAt xs p [x] = listInsert xs p x := by
  simp [insertAt, listInsert]

theorem lowerBoundV_eq_bisect (lt : Int → Int → Bool) (b : Buf) (g : Nat → Val) (k : Int) (n : Nat)
    (hb : ∀ i, i < n → rd b i = some (g i)) (fuel first len : Nat) (hr : first + len ≤ n) :
    lowerBoundV lt b k fuel first len = some (bisect (fun i => !lt (g i) k) fuel first len) := by
  induction fuel generalizing first len with
  | zero => rfl
  | succ m ih =>
    unfold lowerBoundV bisect
    by_cases h0 : len = 0
    · simp [h0]
    · simp only [h0, if_false, hb (first + len / 2) (by omega)]
      cases hc : lt (g (first + len / 2)) k
      · simp only [Bool.false_eq_true, if_false, Bool.not_false, if_true]
        exact ih first (len / 2) (by omega)
      · simp only [if_true, Bool.not_true, Bool.false_eq_true, if_false]
        exact ih (first + len / 2 + 1) (len - len / 2 - 1) (by omega)

theorem VSet.lb_ok (lt : Int → Int → Bool) {s : VSet} {xs : List Int} (hr : Rep s.v xs) (k : Int) :
    s.lb lt k = some ((⟨xs⟩ : FSet).lb lt k) := by
  rcases hr.cases with ⟨h1, rfl⟩ | ⟨c, h1, hc⟩
  · simp [VSet.lb, h1, Vec.empty, FSet.lb, lowerBound]
  · simp only [VSet.lb, h1, vecOf, FSet.lb]
    rw [lowerBoundV_eq_bisect lt _ (fun i => xs.getD i 0) k xs.length (fun i hi => rd_vecOf hc hi) _ _ _ (by omega),
      lowerBound_eq_bisect lt xs k _ _ _ (by omega)]

theorem VSet.hit_ok (lt : Int → Int → Bool) {s : VSet} {xs : List Int} (hr : Rep s.v xs) (k : Int) {i : Nat}
    (hi : i ≤ xs.length) :
    s.hit lt k i = some (match xs[i]? with | some x => !lt k x | none => false) := by
  by_cases he : i = xs.length
  · subst he
    simp [VSet.hit, hr.size_eq]
  · have hlt : i < xs.length := by omega
    obtain ⟨b, hd, hrd⟩ := rd_rep hr hlt
    simp only [VSet.hit, hr.size_eq, hd, he, if_false, hrd]
    simp [List.getD_eq_getElem?_getD, List.getElem?_eq_getElem hlt]

theorem FSet.lb_le (lt : Int → Int → Bool) (xs : List Int) (k : Int) : (⟨xs⟩ : FSet).lb lt k ≤ xs.length :=
  lowerBound_le lt xs k

theorem FMap.upos_le (lt : Int → Int → Bool) (xs : List (Int × Int)) (k : Int) : (⟨xs⟩ : FMap).upos lt k ≤ xs.length :=
  mapUpper_le lt xs k

theorem vset_step_simulates (lt : Int → Int → Bool) {s : VSet} {xs : List Int} (hr : Rep s.v xs) (l : Ledger) (op : SOp) :
    ∃ s' l', VSet.step lt s l op = some (s', l', ((⟨xs⟩ : FSet).step lt op).2) ∧
      Good s.v xs l s'.v ((⟨xs⟩ : FSet).step lt op).1.st l' := by
  cases op with
  | insert k =>
    have hle := FSet.lb_le lt xs k
    simp only [VSet.step, VSet.insert, VSet.lb_ok lt hr k, VSet.hit_ok lt hr k hle, FSet.step, FSet.insert]
    obtain ⟨v', l', h1, g⟩ := emplace_good (a := .val k) hr hle rfl l
    rw [insertAt_single] at g
    cases hx : xs[(⟨xs⟩ : FSet).lb lt k]? with
    | none =>
      simp only [h1]
      exact ⟨⟨v'⟩, l', rfl, g⟩
    | some x =>
      cases hc : lt k x
      · simp [hc]
        exact ⟨s, l, ⟨rfl, rfl⟩, Good.refl hr l⟩
      · simp [hc, h1]
        exact ⟨⟨v'⟩, l', ⟨rfl, rfl⟩, g⟩
  | count k =>
    have hle := FSet.lb_le lt xs k
    simp only [VSet.step, VSet.count, VSet.lb_ok lt hr k, VSet.hit_ok lt hr k hle, FSet.step, FSet.count]
    refine ⟨s, l, ?_, Good.refl hr l⟩
    cases hx : xs[(⟨xs⟩ : FSet).lb lt k]? with
    | none => simp
    | some x => cases hc : lt k x <;> simp
  | size => exact ⟨s, l, by simp [VSet.step, FSet.step, hr.size_eq], Good.refl hr l⟩
  | clear =>
    obtain ⟨v', l', h1, g⟩ := clear_good hr l
    exact ⟨⟨v'⟩, l', by simp [VSet.step, FSet.step, h1], g⟩
  | iter => exact ⟨s, l, by simp [VSet.step, FSet.step, contents_ok hr], Good.refl hr l⟩

example (lt : Int → Int → Bool) (l : Ledger) (op : SOp) :
    ∃ s' l', VSet.step lt {} l op = some (s', l', ((⟨[]⟩ : FSet).step lt op).2) ∧
      Good ({} : VSet).v [] l s'.v ((⟨[]⟩ : FSet).step lt op).1.st l' :=
  vset_step_simulates lt (s := {}) Rep.nil l op

theorem vset_run_simulates (lt : Int → Int → Bool) {s : VSet} {xs : List Int} (hr : Rep s.v xs) (l : Ledger) (ops : List SOp) :
    ∃ s' l', VSet.run lt s l ops = some (s', l', ((⟨xs⟩ : FSet).run lt ops).2) ∧
      Good s.v xs l s'.v ((⟨xs⟩ : FSet).run lt ops).1.st l' := by
  induction ops generalizing s xs l with
  | nil => exact ⟨s, l, rfl, Good.refl hr l⟩
  | cons op ops ih =>
    obtain ⟨s1, l1, h1, g1⟩ := vset_step_simulates lt hr l op
    obtain ⟨s2, l2, h2, g2⟩ := ih g1.rep l1
    refine ⟨s2, l2, ?_, g1.trans g2⟩
    simp only [VSet.run, h1, h2, FSet.run]

example (lt : Int → Int → Bool) (l : Ledger) (ops : List SOp) :
    ∃ s' l', VSet.run lt {} l ops = some (s', l', ((⟨[]⟩ : FSet).run lt ops).2) ∧
      Good ({} : VSet).v [] l s'.v ((⟨[]⟩ : FSet).run lt ops).1.st l' :=
  vset_run_simulates lt (s := {}) Rep.nil l ops

theorem getD_map_enc (c : Coding) (xs : List (Int × Int)) {i : Nat} (hi : i < xs.length) :
    (xs.map c.enc).getD i 0 = c.enc (xs.getD i (0, 0)) := by
  simp [List.getD_eq_getElem?_getD, List.getElem?_eq_getElem hi]

theorem rd_vecOf_enc (c : Coding) {cap : Nat} {xs : List (Int × Int)} (hc : xs.length ≤ cap) {i : Nat} (hi : i < xs.length) :
    rd (⟨cap, cell (xs.map c.enc)⟩ : Buf) i = some (c.enc (xs.getD i (0, 0))) := by
  rw [rd_vecOf (by simpa using hc) (by simpa using hi), getD_map_enc c xs hi]

theorem findIdx_le (lt : Int → Int → Bool) (k : Int) (xs : List (Int × Int)) : findIdx lt k xs ≤ xs.length := by
  induction xs with
  | nil => simp [findIdx]
  | cons p ps ih => simp only [findIdx]; split <;> simp <;> omega

theorem findIdx_eq_of_none {lt : Int → Int → Bool} {k : Int} {xs : List (Int × Int)}
    (h : xs[findIdx lt k xs]? = none) : findIdx lt k xs = xs.length := by
  have h1 := List.getElem?_eq_none_iff.mp h
  have h2 := findIdx_le lt k xs
  omega

theorem findIdx_ne_of_some {lt : Int → Int → Bool} {k : Int} {xs : List (Int × Int)} {p : Int × Int}
    (h : xs[findIdx lt k xs]? = some p) : ¬ findIdx lt k xs = xs.length :=
  Nat.ne_of_lt (lt_of_getElem?_some h)

theorem findIdxV_ok (c : Coding) (hc : c.ok) (lt : Int → Int → Bool) (b : Buf) (k : Int) (xs : List (Int × Int))
    (hb : ∀ i, i < xs.length → rd b i = some (c.enc (xs.getD i (0, 0)))) (n i : Nat) (hn : i + n = xs.length) :
    findIdxV c lt b k i n = some (i + findIdx lt k (xs.drop i)) := by
  induction n generalizing i with
  | zero =>
    have : xs.drop i = [] := List.drop_eq_nil_of_le (by omega)
    simp [findIdxV, this, findIdx]
  | succ n ih =>
    have hi : i < xs.length := by omega
    have hd : xs.drop i = xs[i] :: xs.drop (i + 1) := List.drop_eq_getElem_cons hi
    have hg : xs.getD i (0, 0) = xs[i] := by simp [List.getD_eq_getElem?_getD, List.getElem?_eq_getElem hi]
    simp only [findIdxV, hb i hi, hd, findIdx, hc _, hg]
    cases hs : same lt xs[i].1 k
    · simp only [Bool.false_eq_true, if_false]
      rw [ih (i + 1) (by omega)]
      congr 1
      omega
    · simp

theorem mapUpperV_eq_bisect (c : Coding) (hc : c.ok) (lt : Int → Int → Bool) (b : Buf) (k : Int) (xs : List (Int × Int))
    (hb : ∀ i, i < xs.length → rd b i = some (c.enc (xs.getD i (0, 0)))) (fuel first len : Nat)
    (hr : first + len ≤ xs.length) :
    mapUpperV c lt b k fuel first len = some (bisect (fun i => lt k (xs.getD i (0, 0)).1) fuel first len) := by
  induction fuel generalizing first len with
  | zero => rfl
  | succ m ih =>
    unfold mapUpperV bisect
    by_cases h0 : len = 0
    · simp [h0]
    · simp only [h0, if_false, hb (first + len / 2) (by omega), hc _]
      split
      · exact ih first (len / 2) (by omega)
      · exact ih (first + len / 2 + 1) (len - len / 2 - 1) (by omega)

theorem countV_ok (c : Coding) (hc : c.ok) (lt : Int → Int → Bool) (b : Buf) (k : Int) (xs : List (Int × Int))
    (hb : ∀ i, i < xs.length → rd b i = some (c.enc (xs.getD i (0, 0)))) (n i acc : Nat) (hn : i + n = xs.length) :
    countV c lt b k i n acc = some (acc + (xs.drop i).countP (fun p => same lt p.1 k)) := by
  induction n generalizing i acc with
  | zero =>
    have : xs.drop i = [] := List.drop_eq_nil_of_le (by omega)
    simp [countV, this]
  | succ n ih =>
    have hi : i < xs.length := by omega
    have hd : xs.drop i = xs[i] :: xs.drop (i + 1) := List.drop_eq_getElem_cons hi
    have hg : xs.getD i (0, 0) = xs[i] := by simp [List.getD_eq_getElem?_getD, List.getElem?_eq_getElem hi]
    simp only [countV, hb i hi, hd, hc _, hg, List.countP_cons]
    rw [ih (i + 1) _ (by omega)]
    congr 1
    split <;> omega

section
variable (c : Coding) (hc : c.ok) (lt : Int → Int → Bool) {m : VMap} {xs : List (Int × Int)}

theorem VMap.size_eq (hr : Rep m.v (xs.map c.enc)) : m.v.size = xs.length := by
  simpa using hr.size_eq

include hc

omit hc in
theorem Rep.cases_enc {ys : List (Int × Int)} (hr : Rep m.v (ys.map c.enc)) :
    (m.v = Vec.empty ∧ ys = []) ∨ ∃ cap, m.v = vecOf cap (ys.map c.enc) ∧ ys.length ≤ cap := by
  rcases hr.cases with ⟨h1, h2⟩ | ⟨cap, h1, hcap⟩
  · exact Or.inl ⟨h1, by simpa using h2⟩
  · exact Or.inr ⟨cap, h1, by simpa using hcap⟩

theorem VMap.findPos_ok (hr : Rep m.v (xs.map c.enc)) (k : Int) : m.findPos c lt k = some (findIdx lt k xs) := by
  rcases Rep.cases_enc c hr with ⟨h1, rfl⟩ | ⟨cap, h1, hcap⟩
  · simp [VMap.findPos, h1, Vec.empty, findIdx]
  · simp only [VMap.findPos, h1, vecOf, List.length_map]
    rw [findIdxV_ok c hc lt _ k xs (fun i hi => rd_vecOf_enc c hcap hi) _ 0 (by omega)]
    simp

theorem VMap.upos_ok (hr : Rep m.v (xs.map c.enc)) (k : Int) : m.upos c lt k = some ((⟨xs⟩ : FMap).upos lt k) := by
  rcases Rep.cases_enc c hr with ⟨h1, rfl⟩ | ⟨cap, h1, hcap⟩
  · simp [VMap.upos, h1, Vec.empty, FMap.upos, mapUpper]
  · simp only [VMap.upos, h1, vecOf, List.length_map, FMap.upos]
    rw [mapUpperV_eq_bisect c hc lt _ k xs (fun i hi => rd_vecOf_enc c hcap hi) _ _ _ (by omega),
      mapUpper_eq_bisect lt xs k _ _ _ (by omega)]

theorem VMap.entryAt_ok (hr : Rep m.v (xs.map c.enc)) {i : Nat} {p : Int × Int} (hp : xs[i]? = some p) :
    m.entryAt c i = some p := by
  obtain ⟨hi, hp⟩ := List.getElem?_eq_some_iff.mp hp
  rcases Rep.cases_enc c hr with ⟨_, rfl⟩ | ⟨cap, h1, hcap⟩
  · simp at hi
  · simp only [VMap.entryAt, h1, vecOf, List.length_map, hi, if_true, rd_vecOf_enc c hcap hi, hc _]
    simp [List.getD_eq_getElem?_getD, List.getElem?_eq_getElem hi, hp]

theorem VMap.count_ok (hr : Rep m.v (xs.map c.enc)) (k : Int) (l : Ledger) :
    VMap.step c lt m l (.count k) = some (m, l, .nat ((⟨xs⟩ : FMap).count lt k)) := by
  rcases Rep.cases_enc c hr with ⟨h1, rfl⟩ | ⟨cap, h1, hcap⟩
  · simp [VMap.step, h1, Vec.empty, FMap.count]
  · simp only [VMap.step, h1, vecOf, List.length_map, FMap.count]
    rw [countV_ok c hc lt _ k xs (fun i hi => rd_vecOf_enc c hcap hi) _ 0 0 (by omega)]
    simp

omit hc in
theorem map_listInsert (xs : List (Int × Int)) (p : Nat) (e : Int × Int) :
    insertAt (xs.map c.enc) p [c.enc e] = (listInsert xs p e).map c.enc := by
  simp [insertAt, listInsert, List.map_take, List.map_drop]

theorem VMap.insertNew_ok (hr : Rep m.v (xs.map c.enc)) (k v : Int) (l : Ledger) :
    ∃ w l', m.insertNew c lt k v l = some (⟨w⟩, l', (⟨xs⟩ : FMap).upos lt k) ∧
      Good m.v (xs.map c.enc) l w ((listInsert xs ((⟨xs⟩ : FMap).upos lt k) (k, v)).map c.enc) l' := by
  have hle : (⟨xs⟩ : FMap).upos lt k ≤ (xs.map c.enc).length := by
    simpa using FMap.upos_le lt xs k
  obtain ⟨w, l', h1, g⟩ := emplace_good (a := .val (c.enc (k, v))) hr hle rfl l
  refine ⟨w, l', ?_, by simpa [map_listInsert] using g⟩
  simp only [VMap.insertNew, VMap.upos_ok c hc lt hr k, h1]

omit hc in
theorem listInsert_getElem? {α : Type} (xs : List α) {p : Nat} (hp : p ≤ xs.length) (x : α) :
    (listInsert xs p x)[p]? = some x := by
  simp only [listInsert]
  rw [List.getElem?_append_right (by simp; omega)]
  simp [Nat.min_eq_left hp]

omit hc in
theorem listInsert_set {α : Type} (xs : List α) {p : Nat} (hp : p ≤ xs.length) (x y : α) :
    (listInsert xs p x).set p y = listInsert xs p y := by
  simp only [listInsert]
  rw [List.set_append_right _ _ (by simp; omega)]
  simp [Nat.min_eq_left hp]

/-- `find_if` hits: nothing is inserted -/
theorem VMap.findOrInsert_present (hr : Rep m.v (xs.map c.enc)) (k v : Int) (l : Ledger) {p : Int × Int}
    (hf : xs[findIdx lt k xs]? = some p) :
    m.findOrInsert c lt k v l = some (m, l, findIdx lt k xs, false) := by
  simp only [VMap.findOrInsert, VMap.findPos_ok c hc lt hr k, VMap.size_eq c hr, findIdx_ne_of_some hf, if_false]

/-- `find_if` answers end(): the entry goes in at `ordered_pos(key)` -/
theorem VMap.findOrInsert_absent (hr : Rep m.v (xs.map c.enc)) (k v : Int) (l : Ledger)
    (hf : xs[findIdx lt k xs]? = none) :
    ∃ w l', m.findOrInsert c lt k v l = some (⟨w⟩, l', (⟨xs⟩ : FMap).upos lt k, true) ∧
      Good m.v (xs.map c.enc) l w ((listInsert xs ((⟨xs⟩ : FMap).upos lt k) (k, v)).map c.enc) l' := by
  have := findIdx_eq_of_none hf
  obtain ⟨w, l', h1, g⟩ := VMap.insertNew_ok c hc lt hr k v l
  refine ⟨w, l', ?_, g⟩
  simp only [VMap.findOrInsert, VMap.findPos_ok c hc lt hr k, VMap.size_eq c hr, this, if_true, h1]

omit hc in
theorem cell_set_enc (ys : List (Int × Int)) (i : Nat) (e : Int × Int) (hi : i < ys.length) (j : Nat) :
    cell ((ys.set i e).map c.enc) j = if j = i then .live (c.enc e) else cell (ys.map c.enc) j := by
  simp only [cell, List.length_map, List.length_set, List.getD_eq_getElem?_getD, List.getElem?_map, List.getElem?_set]
  by_cases hj : j = i
  · subst hj; simp [hi]
  · have : ¬ i = j := fun h => hj h.symm
    simp [hj, this]

/-- `it->second = v` on a constructed entry -/
theorem VMap.poke_ok {ys : List (Int × Int)} (hr : Rep m.v (ys.map c.enc)) {i : Nat} {p : Int × Int}
    (hp : ys[i]? = some p) (v : Int) :
    ∃ m', m.poke c i v = some m' ∧ Rep m'.v ((ys.set i (p.1, v)).map c.enc) ∧ held m'.v = held m.v := by
  obtain ⟨hi, hp⟩ := List.getElem?_eq_some_iff.mp hp
  rcases Rep.cases_enc c hr with ⟨_, rfl⟩ | ⟨cap, h1, hcap⟩
  · simp at hi
  · have hcell : cell (ys.map c.enc) i = .live (c.enc p) := by
      rw [cell_live (by simpa using hi), getD_map_enc c ys hi]
      simp [List.getD_eq_getElem?_getD, List.getElem?_eq_getElem hi, hp]
    have hget : (⟨cap, cell (ys.map c.enc)⟩ : Buf).get i = some (.live (c.enc p)) :=
      Buf.get_eq_some.mpr ⟨show i < cap by omega, hcell⟩
    simp only [VMap.poke, h1, vecOf, List.length_map, hi, if_true, pokeSecond, hget, hc _]
    refine ⟨_, rfl, ?_, by simp⟩
    refine Rep.of_buf (by simp) (by simpa using hcap) rfl ?_
    intro j
    simp only [Buf.put, cell_set_enc c ys i (p.1, v) hi j]

end

theorem Good.repoint {v v1 v2 : Vec} {xs ys zs : List Val} {l l1 : Ledger} (g : Good v xs l v1 ys l1)
    (hr : Rep v2 zs) (hl : zs.length = ys.length) (hh : held v2 = held v1) : Good v xs l v2 zs l1 :=
  ⟨hr, by have := g.net; omega, by have := g.blk; omega⟩

theorem VMap.ctorLoop_ok (c : Coding) (hc : c.ok) (lt : Int → Int → Bool) (es : List (Int × Int)) {m : VMap}
    {xs : List (Int × Int)} (hr : Rep m.v (xs.map c.enc)) (l : Ledger) :
    ∃ m' l', VMap.ctorLoop c lt es m l = some (m', l') ∧
      Good m.v (xs.map c.enc) l m'.v ((FMap.ofList lt es ⟨xs⟩).st.map c.enc) l' := by
  induction es generalizing m xs l with
  | nil => exact ⟨m, l, rfl, Good.refl hr l⟩
  | cons e es ih =>
    obtain ⟨k, v⟩ := e
    cases hf : xs[findIdx lt k xs]? with
    | some p =>
      simp only [VMap.ctorLoop, VMap.findPos_ok c hc lt hr k, VMap.size_eq c hr, FMap.ofList, FMap.find,
        FMap.findEntry, hf, findIdx_ne_of_some hf, if_false]
      simpa using ih hr l
    | none =>
      have := findIdx_eq_of_none hf
      obtain ⟨w, l1, h1, g1⟩ := VMap.insertNew_ok c hc lt hr k v l
      obtain ⟨m2, l2, h2, g2⟩ := ih (m := ⟨w⟩) g1.rep l1
      simp only [VMap.ctorLoop, VMap.findPos_ok c hc lt hr k, VMap.size_eq c hr, FMap.ofList, FMap.find,
        FMap.findEntry, this, if_true, h1]
      exact ⟨m2, l2, by simpa using h2, by simpa using g1.trans g2⟩

theorem vmap_step_simulates (c : Coding) (hc : c.ok) (lt : Int → Int → Bool) {m : VMap} {xs : List (Int × Int)}
    (hr : Rep m.v (xs.map c.enc)) (l : Ledger) (op : MOp) :
    ∃ m' l', VMap.step c lt m l op = some (m', l', ((⟨xs⟩ : FMap).step lt op).2) ∧
      Good m.v (xs.map c.enc) l m'.v (((⟨xs⟩ : FMap).step lt op).1.st.map c.enc) l' := by
  cases op with
  | index k =>
    simp only [VMap.step, FMap.step, FMap.index, FMap.find, FMap.findEntry]
    cases hf : xs[findIdx lt k xs]? with
    | some p =>
      simp only [VMap.findOrInsert_present c hc lt hr k 0 l hf, VMap.entryAt_ok c hc hr hf]
      exact ⟨m, l, rfl, Good.refl hr l⟩
    | none =>
      obtain ⟨w, l', h1, g⟩ := VMap.findOrInsert_absent c hc lt hr k 0 l hf
      have he := VMap.entryAt_ok c hc (m := ⟨w⟩) g.rep (listInsert_getElem? xs (FMap.upos_le lt xs k) (k, 0))
      simp only [h1, he]
      exact ⟨⟨w⟩, l', rfl, g⟩
  | assign k v =>
    simp only [VMap.step, FMap.step, FMap.assign]
    cases hf : xs[findIdx lt k xs]? with
    | some p =>
      obtain ⟨m', h1, hr', hh⟩ := VMap.poke_ok c hc hr hf v
      simp only [VMap.findOrInsert_present c hc lt hr k 0 l hf, h1]
      exact ⟨m', l, rfl, (Good.refl hr l).repoint hr' (by simp) hh⟩
    | none =>
      obtain ⟨w, l', h1, g⟩ := VMap.findOrInsert_absent c hc lt hr k 0 l hf
      obtain ⟨m', h2, hr', hh⟩ := VMap.poke_ok c hc (m := ⟨w⟩) g.rep
        (listInsert_getElem? xs (FMap.upos_le lt xs k) (k, 0)) v
      simp only [h1, h2]
      rw [listInsert_set xs (FMap.upos_le lt xs k)] at hr'
      exact ⟨m', l', rfl, g.repoint hr' (by simp [listInsert]) hh⟩
  | insert k v | emplace k v =>
    simp only [VMap.step, FMap.step, FMap.insert, FMap.emplace, FMap.find, FMap.findEntry]
    cases hf : xs[findIdx lt k xs]? with
    | some p =>
      simp only [VMap.findOrInsert_present c hc lt hr k v l hf, VMap.entryAt_ok c hc hr hf]
      exact ⟨m, l, rfl, Good.refl hr l⟩
    | none =>
      obtain ⟨w, l', h1, g⟩ := VMap.findOrInsert_absent c hc lt hr k v l hf
      have he := VMap.entryAt_ok c hc (m := ⟨w⟩) g.rep (listInsert_getElem? xs (FMap.upos_le lt xs k) (k, v))
      simp only [h1, he]
      exact ⟨⟨w⟩, l', rfl, g⟩
  | find k | «at» k | cindex k =>
    refine ⟨m, l, ?_, Good.refl hr l⟩
    simp only [VMap.step, FMap.step, FMap.atKey, FMap.cindex, FMap.find, FMap.findEntry, VMap.findPos_ok c hc lt hr k,
      VMap.size_eq c hr]
    cases hf : xs[findIdx lt k xs]? with
    | some p =>
      simp [findIdx_ne_of_some hf, VMap.entryAt_ok c hc hr hf]
    | none => simp [findIdx_eq_of_none hf]
  | count k => exact ⟨m, l, VMap.count_ok c hc lt hr k l, Good.refl hr l⟩
  | size => exact ⟨m, l, by simp [VMap.step, FMap.step, FMap.size, VMap.size_eq c hr], Good.refl hr l⟩
  | clear =>
    obtain ⟨v', l', h1, g⟩ := clear_good hr l
    exact ⟨⟨v'⟩, l', by simp [VMap.step, FMap.step, h1], by simpa [FMap.step] using g⟩
  | init es =>
    obtain ⟨t, l1, h1, g1⟩ := VMap.ctorLoop_ok c hc lt es (m := ⟨Vec.empty⟩) (xs := []) Rep.nil l
    obtain ⟨l2, h2, g2⟩ := invalidate_good hr l1
    refine ⟨⟨t.v⟩, l2, ?_, ?_⟩
    · simp only [VMap.step, h1, moveAssign, h2, FMap.step]
      simp [invalidate, Vec.empty]
    · simp only [FMap.step]
      refine ⟨g1.rep, ?_, ?_⟩
      · have := g1.net; have := g2.net; simp at *; omega
      · have := g1.blk; have := g2.blk; simp at *; omega
  | iter =>
    refine ⟨m, l, ?_, Good.refl hr l⟩
    simp only [VMap.step, FMap.step, contents_ok hr, List.map_map]
    have : c.dec ∘ c.enc = id := funext hc
    simp [this]

example (c : Coding) (hc : c.ok) (lt : Int → Int → Bool) (l : Ledger) (op : MOp) :
    ∃ m' l', VMap.step c lt {} l op = some (m', l', ((⟨[]⟩ : FMap).step lt op).2) ∧
      Good ({} : VMap).v [] l m'.v (((⟨[]⟩ : FMap).step lt op).1.st.map c.enc) l' :=
  vmap_step_simulates c hc lt (m := {}) (xs := []) Rep.nil l op

theorem vmap_run_simulates (c : Coding) (hc : c.ok) (lt : Int → Int → Bool) {m : VMap} {xs : List (Int × Int)}
    (hr : Rep m.v (xs.map c.enc)) (l : Ledger) (ops : List MOp) :
    ∃ m' l', VMap.run c lt m l ops = some (m', l', ((⟨xs⟩ : FMap).run lt ops).2) ∧
      Good m.v (xs.map c.enc) l m'.v (((⟨xs⟩ : FMap).run lt ops).1.st.map c.enc) l' := by
  induction ops generalizing m xs l with
  | nil => exact ⟨m, l, rfl, Good.refl hr l⟩
  | cons op ops ih =>
    obtain ⟨m1, l1, h1, g1⟩ := vmap_step_simulates c hc lt hr l op
    obtain ⟨m2, l2, h2, g2⟩ := ih g1.rep l1
    refine ⟨m2, l2, ?_, g1.trans g2⟩
    simp only [VMap.run, h1, h2, FMap.run]

example (c : Coding) (hc : c.ok) (lt : Int → Int → Bool) (l : Ledger) (ops : List MOp) :
    ∃ m' l', VMap.run c lt {} l ops = some (m', l', ((⟨[]⟩ : FMap).run lt ops).2) ∧
      Good ({} : VMap).v [] l m'.v (((⟨[]⟩ : FMap).run lt ops).1.st.map c.enc) l' :=
  vmap_run_simulates c hc lt (m := {}) (xs := []) Rep.nil l ops

def VSet.answers (r : Option (VSet × Ledger × List SRet)) : Option (Ledger × List SRet) := r.map fun x => (x.2.1, x.2.2)
def VMap.answers (r : Option (VMap × Ledger × List MRet)) : Option (Ledger × List MRet) := r.map fun x => (x.2.1, x.2.2)

example : (VSet.answers (VSet.run ltInt {} {} [.insert 5, .insert 2, .insert 5, .iter])).map (·.2) =
    some [.unit, .unit, .unit, .keys [2, 5]] := by decide

example : (VSet.answers (VSet.run ltInt {} {} [.insert 5, .insert 2, .insert 9, .insert 2, .count 9, .count 4, .size,
    .iter, .clear, .size, .insert 1, .iter])).map (·.2) =
    some [.unit, .unit, .unit, .unit, .nat 1, .nat 0, .nat 3, .keys [2, 5, 9], .unit, .nat 0, .unit, .keys [1]] := by decide

/-- the same history on the list model -/
example : (FSet.run ltInt {} [.insert 5, .insert 2, .insert 5, .iter]).2 = [.unit, .unit, .unit, .keys [2, 5]] := by decide

/-- a concrete coding for tests (NOT injective on all of `Int × Int`; `dec (enc (k, v)) = (k, v)` for `0 ≤ v < 1000`) -/
def testCoding : Coding := ⟨fun p => p.1 * 1000 + p.2, fun x => (x / 1000, x % 1000)⟩

example : (VMap.answers (VMap.run testCoding ltInt {} {} [.assign 5 50, .assign 2 20, .assign 5 51, .index 7, .insert 2 99,
    .emplace 3 30, .find 5, .find 4, .count 2, .at 9, .size, .cindex 8, .iter])).map (·.2) =
    some [.unit, .unit, .unit, .val 0, .kv 2 20, .flag true 30, .opt (some 51), .opt none, .nat 1, .throw, .nat 4,
      .val 0, .entries [(2, 20), (3, 30), (5, 51), (7, 0)]] := by decide

example : (VMap.answers (VMap.run testCoding ltInt {} {} [.assign 5 50, .init [(3, 1), (1, 2), (3, 9)], .iter, .clear, .size])).map (·.2) =
    some [.unit, .unit, .entries [(1, 2), (3, 1)], .unit, .nat 0] := by decide

/-- the same history on the list model -/
example : (FMap.run ltInt {} [.assign 5 50, .init [(3, 1), (1, 2), (3, 9)], .iter, .clear, .size]).2 =
    [.unit, .unit, .entries [(1, 2), (3, 1)], .unit, .nat 0] := by decide

/-- the ledger after `m[5] = 50; m = flat_map{(3,1),(1,2),(3,9)}`: 2 elements alive, 1 block held -/
example : (VMap.answers (VMap.run testCoding ltInt {} {} [.assign 5 50, .init [(3, 1), (1, 2), (3, 9)]])).map
    (fun x => (x.1.net, x.1.blocks)) = some (2, 1) := by decide

/-! ### the hypothesis `c.ok` is satisfiable, and faults are detected (the theorems are not vacuous) -/

private def tri : Nat → Nat
  | 0 => 0
  | n + 1 => tri n + n + 1

private theorem tri_le {s t : Nat} (h : s ≤ t) : tri s + s ≤ tri t + t := by
  induction t with
  | zero => have : s = 0 := by omega
            subst this; exact Nat.le_refl _
  | succ t ih =>
    by_cases hs : s = t + 1
    · subst hs; exact Nat.le_refl _
    · have := ih (by omega); simp only [tri]; omega

private theorem tri_lt {s t : Nat} (h : s < t) : tri s + s < tri t := by
  cases t with
  | zero => omega
  | succ t => have := tri_le (show s ≤ t by omega); simp only [tri]; omega

private theorem pair_inj {a b a' b' : Nat} (h : tri (a + b) + b = tri (a' + b') + b') : a = a' ∧ b = b' := by
  rcases Nat.lt_trichotomy (a + b) (a' + b') with h1 | h1 | h1
  · have := tri_lt h1; omega
  · rw [h1] at h; omega
  · have := tri_lt h1; omega

private def zig (z : Int) : Nat := if 0 ≤ z then 2 * z.toNat else 2 * (-z - 1).toNat + 1

private theorem zig_inj {a b : Int} (h : zig a = zig b) : a = b := by
  unfold zig at h; split at h <;> split at h <;> omega

/-- codings with `dec ∘ enc = id` exist (Cantor pairing of the zig-zag codes; `dec` by choice) -/
theorem Coding.exists_ok : ∃ c : Coding, c.ok := by
  let f : Int × Int → Int := fun p => ((tri (zig p.1 + zig p.2) + zig p.2 : Nat) : Int)
  have finj : ∀ p q, f p = f q → p = q := by
    intro p q h
    have h' : tri (zig p.1 + zig p.2) + zig p.2 = tri (zig q.1 + zig q.2) + zig q.2 := by
      simp only [f] at h; omega
    obtain ⟨h1, h2⟩ := pair_inj h'
    exact Prod.ext (zig_inj h1) (zig_inj h2)
  classical
  refine ⟨⟨f, fun x => if h : ∃ p, f p = x then Classical.choose h else (0, 0)⟩, ?_⟩
  intro p
  have hex : ∃ q, f q = f p := ⟨p, rfl⟩
  show (if h : ∃ q, f q = f p then Classical.choose h else (0, 0)) = p
  rw [dif_pos hex]
  exact finj _ _ (Classical.choose_spec hex)

/-- a storage whose size field lies (`m_size = 1`, no block): the lookup faults -/
example : (VSet.step ltInt ⟨⟨none, 0, 1⟩⟩ {} (.count 3)).isNone = true := by decide
/-- a block whose slot 1 holds no object although `m_size = 3`: the bisection reads it and faults -/
example : (VSet.step ltInt ⟨⟨some ((Buf.fresh 4).put 0 (.live 1) |>.put 2 (.live 5)), 4, 3⟩⟩ {} (.insert 3)).isNone = true := by
  decide
/-- a moved-from pair object in the storage of a map: `find_if` reads it and faults -/
example : (VMap.step testCoding ltInt ⟨⟨some ((Buf.fresh 2).put 0 .moved), 2, 1⟩⟩ {} (.find 3)).isNone = true := by decide

end Igris.C02
