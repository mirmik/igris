import IgrisModel.C02.Step
import IgrisModel.C02.Exc
/-!
  C02 — igris::vector when element operations throw: the exception-aware step `stepX` of Exc.lean
  * is the step of Model.lean when no fuse is set or the fuse is not reached,
  * leaves the operation WITHOUT A FAULT and in a state that satisfies the full invariant `SInv` again, with the
    contents `specThrow f k op`, when the fuse fires.
-/
namespace Igris.C02

theorem Out.ofOption_ne_threw {α : Type} (o : Option α) (a : α) : Out.ofOption o ≠ .threw a := by
  cases o <;> simp [Out.ofOption]

theorem Out.match_ofOption2 {β : Type} (o : Option (Vec × Ledger)) (g h : Vec → Ledger → β) :
    (match Out.ofOption o with
      | .ok (v, l) => Out.ok (g v l)
      | .threw (v, l) => Out.threw (h v l)
      | .fault => Out.fault) = Out.ofOption (o.map fun (v, l) => g v l) := by
  cases o with
  | none => rfl
  | some p => obtain ⟨v, l⟩ := p; rfl

theorem Out.match_ofOption3 {β : Type} (o : Option (Nat × Vec × Ledger)) (g h : Nat → Vec → Ledger → β) :
    (match Out.ofOption o with
      | .ok (p, v, l) => Out.ok (g p v l)
      | .threw (p, v, l) => Out.threw (h p v l)
      | .fault => Out.fault) = Out.ofOption (o.map fun (p, v, l) => g p v l) := by
  cases o with
  | none => rfl
  | some p => obtain ⟨p, v, l⟩ := p; rfl

/-- the constructor ops: `invalidate`, then the constructor -/
theorem Out.match_inv {β : Type} (i : Option (Vec × Ledger)) (c : Ledger → Option (Vec × Ledger))
    (g h : Vec → Ledger → β) :
    (match i with
      | none => Out.fault
      | some (_, l) =>
        match Out.ofOption (c l) with
        | .ok (v, l) => Out.ok (g v l)
        | .threw (v, l) => Out.threw (h v l)
        | .fault => Out.fault) =
    Out.ofOption (match i with
      | none => none
      | some (_, l) => (c l).map fun (v, l) => g v l) := by
  cases i with
  | none => rfl
  | some p => obtain ⟨v, l⟩ := p; exact Out.match_ofOption2 _ _ _

theorem emplaceBackX_not_fired (v : Vec) (a : Arg) (fz : Option Nat) (l : Ledger) (h : fz ≠ some 0) :
    emplaceBackX v a fz l = .ofOption (emplaceBack v a l) := by
  simp [emplaceBackX, h]

theorem emplaceX_not_fired (v : Vec) (pos : Nat) (a : Arg) (fz : Option Nat) (l : Ledger) (h : fz ≠ some 0) :
    emplaceX v pos a fz l = .ofOption (emplace v pos a l) := by
  simp [emplaceX, h]

theorem insertSortedX_not_fired (v : Vec) (x : Val) (fz : Option Nat) (l : Ledger) (h : fz ≠ some 0) :
    insertSortedX v x fz l = .ofOption (insertSorted v x l) := by
  simp [insertSortedX, h]

theorem resizeX_not_fired (v : Vec) (n : Nat) (fz : Option Nat) (l : Ledger) (h : ∀ k, fz = some k → n - v.size ≤ k) :
    resizeX v n fz l = .ofOption (resize v n l) := by
  cases fz with
  | none => rfl
  | some k =>
    have := h k rfl
    simp only [resizeX]
    rw [if_neg (by omega)]

theorem fuse_not_fired {β : Type} (fz : Option Nat) (N : Nat) (A : Nat → β) (B : β) :
    (∀ k, fz = some k → N ≤ k) →
    (match fz with
      | none => B
      | some k => if k < N then A k else B) = B := by
  intro h
  cases fz with
  | none => rfl
  | some k => exact if_neg (Nat.not_lt.mpr (h k rfl))

theorem copyAssignX_not_fired (v o : Vec) (fz : Option Nat) (l : Ledger) (h : ∀ k, fz = some k → o.size ≤ k) :
    copyAssignX v o fz l = .ofOption (copyAssign v o l) :=
  fuse_not_fired fz _ _ _ h

theorem copyCtorX_not_fired (portable : Bool) (o : Vec) (fz : Option Nat) (l : Ledger) (h : ∀ k, fz = some k → o.size ≤ k) :
    copyCtorX portable o fz l = .ofOption (copyCtor portable o l) :=
  fuse_not_fired fz _ _ _ h

theorem sizeCtorX_not_fired (n : Nat) (fz : Option Nat) (l : Ledger) (h : ∀ k, fz = some k → n ≤ k) :
    sizeCtorX n fz l = .ofOption (sizeCtor n l) := by
  have := resizeX_not_fired Vec.empty n fz l (by intro k hk; have := h k hk; omega)
  simp only [sizeCtorX, this, sizeCtor]
  cases resize Vec.empty n l <;> rfl

theorem listCtorX_not_fired (xs : List Val) (fz : Option Nat) (l : Ledger) (h : ∀ k, fz = some k → xs.length ≤ k) :
    listCtorX xs fz l = .ofOption (listCtor xs l) :=
  fuse_not_fired fz _ _ _ h

theorem rangeCtorX_not_fired (o : Vec) (f t : Nat) (fz : Option Nat) (l : Ledger) (h : ∀ k, fz = some k → t - f ≤ k) :
    rangeCtorX o f t fz l = .ofOption (rangeCtor o f t l) :=
  fuse_not_fired fz _ _ _ h

theorem insertRangeX_not_fired (v : Vec) (pos : Nat) (src : Src) (fz : Option Nat) (l : Ledger)
    (h : ∀ k, fz = some k → src.count ≤ k) :
    insertRangeX v pos src fz l = .ofOption (insertRange v pos src l) :=
  fuse_not_fired fz _ _ _ h

/-- `throwPoints` needs of the abstract state only the lengths, hence `hsz` in place of the invariant -/
theorem stepX_not_fired_of_size (portable : Bool) (s : St) (fz : Option Nat) (op : Op) (f : Nat → List Val)
    (hsz : ∀ r, (s.regs r).size = (f r).length) (hf : ∀ k, fz = some k → throwPoints f op ≤ k) :
    stepX portable s fz op = Out.ofOption (step portable s op) := by
  have h0 : throwPoints f op = 1 → fz ≠ some 0 := fun h1 h => by have := hf 0 h; omega
  cases op with
  | emplaceBack r a =>
    simp only [stepX, step, emplaceBackX_not_fired _ _ _ _ (h0 rfl)]
    exact Out.match_ofOption2 _ _ _
  | emplace r pos a =>
    simp only [stepX, step, emplaceX_not_fired _ _ _ _ _ (h0 rfl)]
    exact Out.match_ofOption2 _ _ _
  | insertSorted r x =>
    simp only [stepX, step, insertSortedX_not_fired _ _ _ _ (h0 rfl)]
    exact Out.match_ofOption3 _ _ _
  | insertRange r pos src =>
    simp only [stepX, step, insertRangeX_not_fired _ pos src fz _ hf]
    exact Out.match_ofOption2 _ _ _
  | resize r n =>
    simp only [stepX, step, resizeX_not_fired (s.regs r) n fz _ (by simpa [throwPoints, hsz] using hf)]
    exact Out.match_ofOption2 _ _ _
  | copyAssign d src =>
    simp only [stepX, step]
    by_cases he : d = src
    · simp only [he, if_true]; rfl
    · simp only [he, if_false, copyAssignX_not_fired (s.regs d) (s.regs src) fz _ (by simpa [throwPoints, he, hsz] using hf)]
      exact Out.match_ofOption2 _ _ _
  | copyCtor d src =>
    simp only [stepX, step]
    by_cases he : d = src
    · simp only [he, if_true]; rfl
    · simp only [he, if_false, copyCtorX_not_fired portable (s.regs src) fz _ (by simpa [throwPoints, hsz] using hf)]
      exact Out.match_inv _ _ _ _
  | rangeCtor d src a b =>
    simp only [stepX, step]
    by_cases he : d = src
    · simp only [he, if_true]; rfl
    · simp only [he, if_false, rangeCtorX_not_fired _ a b fz _ hf]
      exact Out.match_inv _ _ _ _
  | sizeCtor d n =>
    simp only [stepX, step, sizeCtorX_not_fired n fz _ hf]
    exact Out.match_inv _ _ _ _
  | listCtor d xs =>
    simp only [stepX, step, listCtorX_not_fired xs fz _ hf]
    exact Out.match_inv _ _ _ _
  | _ => rfl

theorem stepX_not_fired (portable : Bool) {R : Nat} {s : St} {f : Nat → List Val} (hI : SInv R s f) (op : Op)
    (fz : Option Nat) (hf : ∀ k, fz = some k → throwPoints f op ≤ k) :
    stepX portable s fz op = Out.ofOption (step portable s op) :=
  stepX_not_fired_of_size portable s fz op f (fun r => (hI.rep r).size_eq) hf

theorem insertSortedX_fired {v : Vec} {xs : List Val} (h : Rep v xs) (hs : xs.Pairwise (· ≤ ·)) (x : Val) (l : Ledger) :
    insertSortedX v x (some 0) l = .threw (ubSpec x xs, v, l) := by
  show (match sortedPos v x with | none => Out.fault | some p => Out.threw (p, v, l)) = _
  rw [sortedPos_sorted h hs x]

theorem destroyDown_ok (b : Buf) (base k : Nat) (l : Ledger)
    (h : ∀ j, base ≤ j → j < base + k → j < b.n ∧ b.s j ≠ .raw) :
    destroyDown b base k l =
      some (⟨b.n, fun j => if base ≤ j ∧ j < base + k then .raw else b.s j⟩, l.addDtor k) := by
  induction k generalizing b l with
  | zero =>
    simp only [destroyDown, Ledger.addDtor_zero]
    congr 2
    exact Buf.fill_nil b base _
  | succ n ih =>
    have h0 := h (base + n) (by omega) (by omega)
    simp only [destroyDown, destroy_obj h0.1 h0.2]
    rw [ih _ _ (fun j h1 h2 => by simpa [Buf.put, Nat.ne_of_lt h2] using h j h1 (by omega))]
    simp only [Ledger.addDtor_addDtor, Nat.add_comm 1 n]
    congr 2
    refine Buf.ext rfl (fun j => ?_)
    simp only [Buf.put]
    by_cases hj : j = base + n
    · rw [if_neg (by omega), if_pos hj, if_pos (by omega)]
    · rw [if_neg hj]
      by_cases hc : base ≤ j ∧ j < base + n
      · rw [if_pos hc, if_pos (by omega)]
      · rw [if_neg hc, if_neg (by omega)]

/-- resize whose k-th default construction throws: reserve, k constructions, the handler destroys them again;
    same contents (the capacity may have grown) -/
theorem resizeX_fired {v : Vec} {xs : List Val} (h : Rep v xs) {n k : Nat} (hk : k < n - xs.length) (l : Ledger) :
    ∃ v' l', resizeX v n (some k) l = .threw (v', l') ∧ Good v xs l v' xs l' := by
  obtain ⟨c, l1, hr, hc, hxc, hnet, hblk⟩ := reserve_pos h (n := n) (by omega) l
  have e1 := defaultLoop_tail (c := c) (xs := xs) (k := k) (by omega) l1
  have e2 := destroyDown_ok ⟨c, cell (xs ++ List.replicate k 0)⟩ xs.length k (l1.addCtor k) (fun j h1 h2 =>
    ⟨by simp; omega, cell_ne_raw (by simp; omega)⟩)
  simp only [resizeX, h.size_eq, hr, vecOf, e1, e2]
  rw [if_pos (by omega)]
  refine ⟨_, _, rfl, Rep.of_buf rfl hxc rfl (fun i => ?_), by simp [hnet], by simp [hblk]⟩
  -- the appended zeros are gone again
  simp only [cell, List.length_append, List.length_replicate, List.getD_eq_getElem?_getD, List.getElem?_append]
  grind

theorem copyAssignX_fired {v o : Vec} {xs ys : List Val} (hv : Rep v xs) (h : Rep o ys) {k : Nat}
    (hk : k < ys.length) (l : Ledger) :
    ∃ v' l', copyAssignX v o (some k) l = .threw (v', l') ∧ Good v xs l v' (ys.take k) l' := by
  obtain ⟨l1, h1, g1⟩ := invalidate_good hv l
  obtain ⟨b, l2, h2, g2⟩ := copyPartial_good h (Nat.le_of_lt hk) l1
  have hs := h.size_eq
  refine ⟨_, l2, ?_, g1.trans g2⟩
  simp only [copyAssignX]
  rw [if_pos (by omega)]
  simp only [h1, h2]

/-- a constructor left by an exception: whatever was built is destroyed and freed by the destructor -/
theorem unwindCtor_good {v : Vec} {xs : List Val} {l l1 : Ledger} (g : Good Vec.empty [] l v xs l1) :
    ∃ l2, unwindCtor (some (v, l1)) = .threw (Vec.empty, l2) ∧ Good Vec.empty [] l Vec.empty [] l2 := by
  obtain ⟨l2, h2, g2⟩ := invalidate_good g.rep l1
  exact ⟨l2, by simp [unwindCtor, h2], g.trans g2⟩

theorem copyCtorX_fired (portable : Bool) {o : Vec} {ys : List Val} (h : Rep o ys) {k : Nat}
    (hk : k < ys.length) (l : Ledger) :
    ∃ l2, copyCtorX portable o (some k) l = .threw (Vec.empty, l2) ∧ Good Vec.empty [] l Vec.empty [] l2 := by
  obtain ⟨b, l1, h1, g1⟩ := copyPartial_good h (Nat.le_of_lt hk) l
  obtain ⟨l2, h2, g2⟩ := unwindCtor_good g1
  have hs := h.size_eq
  refine ⟨l2, ?_, g2⟩
  simp only [copyCtorX]
  rw [if_pos (by omega), h1]
  exact h2

theorem sizeCtorX_fired {n k : Nat} (hk : k < n) (l : Ledger) :
    ∃ l2, sizeCtorX n (some k) l = .threw (Vec.empty, l2) ∧ Good Vec.empty [] l Vec.empty [] l2 := by
  obtain ⟨v1, l1, h1, g1⟩ := resizeX_fired Rep.nil (n := n) (k := k) (by simpa using hk) l
  obtain ⟨l2, h2, g2⟩ := unwindCtor_good g1
  refine ⟨l2, ?_, g2⟩
  simp only [sizeCtorX, h1]
  exact h2

theorem listCtorX_fired {xs : List Val} {k : Nat} (hk : k < xs.length) (l : Ledger) :
    ∃ l2, listCtorX xs (some k) l = .threw (Vec.empty, l2) ∧ Good Vec.empty [] l Vec.empty [] l2 := by
  obtain ⟨v1, l1, hr, _, g1⟩ := reserve_good Rep.nil xs.length l
  obtain ⟨v2, l2, h2, g2⟩ := pushAll_good g1.rep (xs.take k) l1
  obtain ⟨l3, h3, g3⟩ := unwindCtor_good (g1.trans g2)
  refine ⟨l3, ?_, g3⟩
  simp only [listCtorX]
  rw [if_pos hk]
  simp only [hr, h2]
  exact h3

theorem rangeCtorX_fired {o : Vec} {ys : List Val} (h : Rep o ys) {f t k : Nat} (hft : f ≤ t) (ht : t ≤ ys.length)
    (hk : k < t - f) (l : Ledger) :
    ∃ l2, rangeCtorX o f t (some k) l = .threw (Vec.empty, l2) ∧ Good Vec.empty [] l Vec.empty [] l2 := by
  obtain ⟨v2, l2, h2, g2⟩ := pushAll_good Rep.nil (((ys.drop f).take (t - f)).take k) l
  obtain ⟨l3, h3, g3⟩ := unwindCtor_good g2
  refine ⟨l3, ?_, g3⟩
  simp only [rangeCtorX]
  rw [if_pos hk]
  simp only [readRange_ok h f (t - f) (by omega), h2]
  exact h3

/-- the handler leaves the slots `[i, i + n)` unconstructed: it destroys the objects at the indices outside
    `[oldsize, pos + sz)`, and the slots it skips hold none -/
theorem unwindFill_ok (b : Buf) (oldsize pos sz i n : Nat) (l : Ledger)
    (h : ∀ j, i ≤ j → j < i + n → j < b.n ∧ ((j < oldsize ∨ j ≥ pos + sz) ↔ b.s j ≠ .raw)) :
    ∃ l', unwindFill b oldsize pos sz i n l =
      some (⟨b.n, fun j => if i ≤ j ∧ j < i + n then .raw else b.s j⟩, l') := by
  induction n generalizing b i l with
  | zero =>
    refine ⟨l, ?_⟩
    simp only [unwindFill]
    congr 2
    exact Buf.fill_nil b i _
  | succ n ih =>
    have h0 := h i (Nat.le_refl _) (by omega)
    by_cases hc : i < oldsize ∨ i ≥ pos + sz
    · obtain ⟨l', e⟩ := ih (b.put i .raw) (i + 1) (l.addDtor 1) (fun j h1 h2 => by
        have := h j (by omega) (by omega); simp only [Buf.put]; rw [if_neg (by omega)]; exact this)
      refine ⟨l', ?_⟩
      simp only [unwindFill, if_pos hc, destroy_obj h0.1 (h0.2.mp hc), e]
      congr 2
      exact Buf.fill_cons b i n (fun _ => .raw)
    · obtain ⟨l', e⟩ := ih b (i + 1) l (fun j h1 h2 => h j (by omega) (by omega))
      have hraw : b.s i = .raw := Classical.not_not.mp (fun hn => hc (h0.2.mpr hn))
      refine ⟨l', ?_⟩
      simp only [unwindFill, if_neg hc, e]
      congr 2
      refine Buf.ext rfl (fun j => ?_)
      simp only
      by_cases hj : j = i
      · rw [if_neg (by omega), if_pos (by omega), hj, hraw]
      · by_cases hr : i + 1 ≤ j ∧ j < i + 1 + n
        · rw [if_pos hr, if_pos (by omega)]
        · rw [if_neg hr, if_neg (by omega)]

theorem unwindFill_objs {oldsize pos sz : Nat} {n i : Nat} {b b' : Buf} {l l' : Ledger}
    (h : unwindFill b oldsize pos sz i n l = some (b', l')) : l'.net - objs b' = l.net - objs b ∧ l'.blocks = l.blocks := by
  induction n generalizing b i l with
  | zero => simp only [unwindFill, Option.some.injEq, Prod.mk.injEq] at h; obtain ⟨rfl, rfl⟩ := h; exact ⟨rfl, rfl⟩
  | succ n ih =>
    simp only [unwindFill] at h
    split at h
    · split at h
      · cases h
      next b2 hc =>
      have := destroy_objs hc; have := ih h
      simp at this; omega
    · exact ih h

theorem unwound_gap (xs ys : List Val) {pos k : Nat} (hp : pos ≤ xs.length) (hk : k ≤ ys.length) (j : Nat) :
    (if pos + k ≤ j ∧ j < pos + k + (xs.length + ys.length - (pos + k)) then .raw else fillCell xs ys pos k j) =
      cell (xs.take pos ++ ys.take k) j := by
  rw [cell_take_append_take _ _ _ _ _ hp hk, fillCell]
  by_cases h1 : j < pos
  · rw [if_pos h1, if_neg (by omega), if_neg (by omega), gapCell, if_pos h1]
  · rw [if_neg h1]
    by_cases h2 : j < pos + k
    · rw [if_pos h2, if_neg (by omega), if_pos ⟨by omega, h2⟩]
    · rw [if_neg h2]
      by_cases h3 : j < xs.length + ys.length
      · rw [if_pos (by omega)]
      · rw [if_neg (by omega), if_neg (by omega), gapCell, if_neg h1, if_neg (by omega), cell_raw (by omega)]

/-- insert(pos, first, last) whose k-th copy throws: reserve, shift_up, k copies, the handler; the vector holds
    the elements in front of `pos` and the `k` copies -/
theorem insertRangeX_fired {v : Vec} {xs ys : List Val} (h : Rep v xs) {src : Src} {pos k : Nat}
    (hp : pos ≤ xs.length) (hs : srcSpec xs src = some ys) (hk : k < ys.length) (l : Ledger) :
    ∃ v' l', insertRangeX v pos src (some k) l = .threw (v', l') ∧
      Good v xs l v' (xs.take pos ++ ys.take k) l' := by
  have hcnt := srcSpec_count hs
  obtain ⟨c, l1, hr, hc, hxc, hnet, hblk⟩ := reserve_pos h (n := xs.length + ys.length) (by omega) l
  have e1 := shiftUp_gap hp (by omega) hc l1
  have e2 := fillLoop_gap hp hs (Nat.le_of_lt hk) hc (shiftLed xs.length pos ys.length (xs.length - pos) l1)
  obtain ⟨l3, e3⟩ := unwindFill_ok ⟨c, fillCell xs ys pos k⟩ xs.length pos ys.length (pos + k) (xs.length + ys.length - (pos + k))
    (fillLed pos xs.length 0 k (shiftLed xs.length pos ys.length (xs.length - pos) l1)) (fun j h1 h2 => by
      refine ⟨by simp; omega, ?_⟩
      simp only [fillCell, gapCell]
      rw [if_neg (by omega), if_neg (by omega)]
      by_cases h4 : j < pos + ys.length
      · rw [if_pos h4]
        by_cases h5 : j < xs.length
        · rw [if_pos h5]; simp [h5]
        · rw [if_neg h5]; simp; omega
      · rw [if_neg h4, cell_live (by omega)]; simp; omega)
  have a1 := shiftUp_objs e1
  have a2 := fillLoop_objs e2
  have a3 := unwindFill_objs e3
  have hb : (⟨c, _⟩ : Buf) = ⟨c, cell (xs.take pos ++ ys.take k)⟩ :=
    congrArg (Buf.mk c) (funext (unwound_gap xs ys hp (Nat.le_of_lt hk)))
  simp only at e3 a3
  rw [hb] at e3 a3
  have hlen : (xs.take pos ++ ys.take k).length = pos + k := by simp; omega
  rw [objs_cell hxc] at a1
  rw [objs_cell (c := c) (by omega)] at a3
  have h0 : ¬ ys.length = 0 := by omega
  simp only [insertRangeX, hcnt, hk, if_true, h.size_eq, hr, vecOf, shiftUpCall, h0, if_false, e1, e2, e3]
  refine ⟨_, _, rfl, Rep.of_cell hlen.symm (by omega), ?_, ?_⟩
  · omega
  · rw [a3.2, a2.2, a1.2, hblk]; simp

/-- the fuse fires: the operation is left by the exception WITHOUT A FAULT and in a state that satisfies the full
    invariant again (every register represents a list: size ≤ capacity, exactly the slots below size hold
    constructed, readable elements; constructed − destroyed objects = Σ sizes: nothing leaked, nothing destroyed
    twice; blocks balanced) with the contents `specThrow f k op` -/
theorem stepX_fired (portable : Bool) {R : Nat} {s : St} {f : Nat → List Val} (hI : SInv R s f) (op : Op)
    (hR : ∀ r ∈ opRegs op, r < R) {f' : Nat → List Val} {ret : Ret} (hs : specStep f op = some (f', ret))
    {k : Nat} (hk : k < throwPoints f op) :
    ∃ s', stepX portable s (some k) op = .threw (s', .throw) ∧ SInv R s' (specThrow f k op) := by
  cases op with
  | emplaceBack r a | emplace r pos a =>
    have hk0 : k = 0 := by simp only [throwPoints] at hk; omega
    subst hk0
    exact ⟨s.set r (s.regs r) s.led, by simp [stepX, emplaceBackX, emplaceX], hI.set_self (opRegs_head hR rfl)⟩
  | insertSorted r x =>
    have hk0 : k = 0 := by simp only [throwPoints] at hk; omega
    subst hk0
    simp only [specStep] at hs
    split at hs
    · rename_i hp
      exact ⟨s.set r (s.regs r) s.led, by simp [stepX, insertSortedX_fired (hI.rep r) hp x s.led],
        hI.set_self (opRegs_head hR rfl)⟩
    · cases hs
  | insertRange r pos src =>
    simp only [specStep] at hs
    split at hs
    · rename_i hp
      simp only [Option.map_eq_some_iff] at hs
      obtain ⟨ys, hy, he⟩ := hs; cases he
      have hcnt := srcSpec_count hy
      simp only [throwPoints, hcnt] at hk
      obtain ⟨v', l', h1, g⟩ := insertRangeX_fired (hI.rep r) hp hy hk s.led
      refine ⟨s.set r v' l', by simp [stepX, h1], ?_⟩
      simp only [specThrow, hy]
      exact hI.set (opRegs_head hR rfl) g
    · cases hs
  | resize r n =>
    simp only [throwPoints] at hk
    obtain ⟨v', l', h1, g⟩ := resizeX_fired (hI.rep r) hk s.led
    refine ⟨s.set r v' l', by simp [stepX, h1], ?_⟩
    have := hI.set (opRegs_head hR rfl) g
    rwa [setL_self] at this
  | copyAssign d src =>
    by_cases he : d = src
    · simp [throwPoints, he] at hk
    · simp only [throwPoints, he, if_false] at hk
      obtain ⟨v', l', h1, g⟩ := copyAssignX_fired (hI.rep d) (hI.rep src) hk s.led
      exact ⟨s.set d v' l', by simp [stepX, he, h1], hI.set (opRegs_head hR rfl) g⟩
  | copyCtor d src =>
    simp only [specStep] at hs
    split at hs
    · cases hs
    · rename_i hne
      simp only [throwPoints] at hk
      obtain ⟨l1, h1, g1⟩ := invalidate_good (hI.rep d) s.led
      obtain ⟨l2, h2, g2⟩ := copyCtorX_fired portable (hI.rep src) hk l1
      exact ⟨s.set d Vec.empty l2, by simp [stepX, hne, h1, h2], hI.set (opRegs_head hR rfl) (g1.trans g2)⟩
  | rangeCtor d src a b =>
    simp only [specStep] at hs
    split at hs
    · rename_i hp
      simp only [throwPoints] at hk
      obtain ⟨l1, h1, g1⟩ := invalidate_good (hI.rep d) s.led
      obtain ⟨l2, h2, g2⟩ := rangeCtorX_fired (hI.rep src) hp.2.1 hp.2.2 hk l1
      exact ⟨s.set d Vec.empty l2, by simp [stepX, hp.1, h1, h2], hI.set (opRegs_head hR rfl) (g1.trans g2)⟩
    · cases hs
  | sizeCtor d n =>
    simp only [throwPoints] at hk
    obtain ⟨l1, h1, g1⟩ := invalidate_good (hI.rep d) s.led
    obtain ⟨l2, h2, g2⟩ := sizeCtorX_fired hk l1
    exact ⟨s.set d Vec.empty l2, by simp [stepX, h1, h2], hI.set (opRegs_head hR rfl) (g1.trans g2)⟩
  | listCtor d xs =>
    simp only [throwPoints] at hk
    obtain ⟨l1, h1, g1⟩ := invalidate_good (hI.rep d) s.led
    obtain ⟨l2, h2, g2⟩ := listCtorX_fired hk l1
    exact ⟨s.set d Vec.empty l2, by simp [stepX, h1, h2], hI.set (opRegs_head hR rfl) (g1.trans g2)⟩
  -- every other operation has no throwing-capable element operation
  | _ => simp [throwPoints] at hk

/-- std::vector run over a history with fuses -/
def runSpecX : (Nat → List Val) → List (Op × Option Nat) → Option (Nat → List Val)
  | f, [] => some f
  | f, (op, fz) :: ops =>
    match specStep f op with
    | none => none
    | some (f', _) =>
      match fz with
      | some k => if k < throwPoints f op then runSpecX (specThrow f k op) ops else runSpecX f' ops
      | none => runSpecX f' ops

theorem runX_safe (portable : Bool) {R : Nat}
    (ops : List (Op × Option Nat)) {s : St} {f : Nat → List Val} (hI : SInv R s f)
    (hR : ∀ p ∈ ops, ∀ r ∈ opRegs p.1, r < R) {f' : Nat → List Val} (hs : runSpecX f ops = some f') :
    ∃ s', runX portable s ops = some s' ∧ SInv R s' f' := by
  induction ops generalizing s f with
  | nil => simp only [runSpecX] at hs; cases hs; exact ⟨s, rfl, hI⟩
  | cons p ops ih =>
    obtain ⟨op, fz⟩ := p
    simp only [runSpecX] at hs
    have hRop : ∀ r ∈ opRegs op, r < R := hR (op, fz) (by simp)
    have hRops : ∀ p ∈ ops, ∀ r ∈ opRegs p.1, r < R := fun p hp => hR p (by simp [hp])
    cases h1 : specStep f op with
    | none => rw [h1] at hs; cases hs
    | some q =>
      obtain ⟨f1, r1⟩ := q
      rw [h1] at hs
      simp only at hs
      by_cases hfire : ∃ k, fz = some k ∧ k < throwPoints f op
      · obtain ⟨k, rfl, hk⟩ := hfire
        simp only [hk, if_true] at hs
        obtain ⟨s1, hs1, hI1⟩ := stepX_fired portable hI op hRop h1 hk
        obtain ⟨s2, hs2, hI2⟩ := ih hI1 hRops hs
        exact ⟨s2, by simp only [runX, hs1]; exact hs2, hI2⟩
      · have hf : ∀ k, fz = some k → throwPoints f op ≤ k :=
          fun k hk => Nat.le_of_not_lt fun h => hfire ⟨k, hk, h⟩
        have hs' : runSpecX f1 ops = some f' := by
          cases fz with
          | none => exact hs
          | some k => simp only [show ¬ k < throwPoints f op from Nat.not_lt.mpr (hf k rfl), if_false] at hs; exact hs
        obtain ⟨s1, hs1, hI1⟩ := step_ok portable hI op hRop h1
        obtain ⟨s2, hs2, hI2⟩ := ih hI1 hRops hs'
        exact ⟨s2, by simp only [runX, stepX_not_fired portable hI op fz hf, hs1]; exact hs2, hI2⟩

/-! ### the hypotheses are satisfiable; concrete runs -/

/-- `stepX_not_fired`: a fuse that is set but not reached (emplace_back has one throwing-capable operation, the
    fuse waits for the second) -/
example : stepX false St.init (some 1) (.emplaceBack 0 (.val 5)) =
    Out.ofOption (step false St.init (.emplaceBack 0 (.val 5))) :=
  stepX_not_fired false (SInv.init 1) _ _ (by intro k hk; cases hk; simp [throwPoints])

/-- `stepX_fired` on the initial state: the second push_back of an initializer-list constructor throws -/
example : ∃ s', stepX false St.init (some 1) (.listCtor 0 [1, 2, 3]) = .threw (s', .throw) ∧
    SInv 1 s' (specThrow (fun _ => []) 1 (.listCtor 0 [1, 2, 3])) :=
  stepX_fired false (SInv.init 1) _ (by simp [opRegs]) rfl (by simp [throwPoints])

/-- `stepX_fired` with `k = 0` for a strong-guarantee operation -/
example : ∃ s', stepX true St.init (some 0) (.resize 0 3) = .threw (s', .throw) ∧ SInv 1 s' (fun _ => []) :=
  stepX_fired true (SInv.init 1) (.resize 0 3) (by simp [opRegs]) rfl (by simp [throwPoints])

/-- `stepX_fired` in a state that holds elements (any state with the invariant; here given by the hypotheses
    `hI`, `h0`): the third copy of a range insert into `[1, 2, 3]` throws, the vector holds `[1, 7, 8]` -/
example {s : St} {f : Nat → List Val} (hI : SInv 1 s f) (h0 : f 0 = [1, 2, 3]) :
    ∃ s', stepX false s (some 2) (.insertRange 0 1 (.ext [7, 8, 9])) = .threw (s', .throw) ∧
      SInv 1 s' (setL f 0 [1, 7, 8]) := by
  have := stepX_fired false hI (.insertRange 0 1 (.ext [7, 8, 9])) (by simp [opRegs])
    (f' := setL f 0 (insertAt (f 0) 1 [7, 8, 9])) (ret := .pos 1) (k := 2)
    (by simp [specStep, srcSpec, h0]) (by simp [throwPoints, Src.count])
  simpa [specThrow, srcSpec, h0] using this

/-- the hypothesis `runSpecX … = some _` of `runX_safe` is satisfiable with fuses that fire -/
example : ∃ f', runSpecX (fun _ => [])
    [(.listCtor 0 [1, 2, 3], none), (.insertRange 0 1 (.ext [7, 8, 9]), some 1), (.copyAssign 1 0, some 1),
     (.resize 0 5, some 2), (.emplaceBack 1 (.own 0), some 0), (.sizeCtor 2 4, some 3)] = some f' := ⟨_, rfl⟩

/-- … and the contents std::vector + the exception contract predict for that history -/
example : (runSpecX (fun _ => [])
    [(.listCtor 0 [1, 2, 3], none), (.insertRange 0 1 (.ext [7, 8, 9]), some 1), (.copyAssign 1 0, some 1),
     (.resize 0 5, some 2), (.emplaceBack 1 (.own 0), some 0), (.sizeCtor 2 4, some 3)]).map
      (fun f => (f 0, f 1, f 2)) = some ([1, 7], [1], []) := by decide

/-- range insert left at its second copy: the elements in front of `pos` and one copy -/
example : (runX false St.init [(.listCtor 0 [1, 2, 3], none), (.insertRange 0 1 (.ext [7, 8, 9]), some 1)]).bind
    (fun s => contents (s.regs 0)) = some [1, 7] := by decide

/-- range insert of own elements behind the old end, left at its third copy -/
example : (runX false St.init [(.listCtor 0 [1, 2, 3, 4], none), (.insertRange 0 3 (.own 0 4), some 2)]).bind
    (fun s => contents (s.regs 0)) = some [1, 2, 3, 1, 2] := by decide

/-- resize: strong guarantee (contents unchanged), the capacity has grown -/
example : (runX false St.init [(.listCtor 0 [1, 2], none), (.resize 0 6, some 3)]).bind
    (fun s => (contents (s.regs 0)).map fun xs => (xs, (s.regs 0).cap)) = some ([1, 2], 6) := by decide

/-- copy assignment left at its second copy keeps one element; the source is untouched -/
example : (runX false St.init [(.listCtor 0 [4, 5, 6], none), (.listCtor 1 [9], none), (.copyAssign 1 0, some 1)]).bind
    (fun s => (contents (s.regs 1)).bind fun a => (contents (s.regs 0)).map fun b => (a, b)) =
    some ([4], [4, 5, 6]) := by decide

/-- a constructor left by an exception leaves no object and no block; the history goes on -/
example : (runX true St.init [(.listCtor 0 [4, 5, 6], none), (.copyCtor 1 0, some 2), (.rangeCtor 2 0 0 3, some 1),
      (.sizeCtor 3 2, some 1), (.emplaceBack 1 (.val 8), none)]).map
    (fun s => ((s.regs 1).size, (s.regs 2).data.isSome, (s.regs 3).data.isSome, s.led.alloc, s.led.dealloc)) =
    some (1, false, false, 5, 3) := by decide

/-- after a history with five fired fuses and the destructors: constructions = destructions, allocations =
    deallocations -/
example : ((runX false St.init
    [(.listCtor 0 [1, 2, 3], none), (.insertRange 0 1 (.ext [7, 8, 9]), some 1), (.copyAssign 1 0, some 1),
     (.resize 0 5, some 2), (.emplaceBack 1 (.own 0), some 0), (.sizeCtor 2 4, some 3)]).bind
      (fun s => destroyAll s 3)).map
    (fun s => decide (s.led.made = s.led.dtor ∧ s.led.alloc = s.led.dealloc)) = some true := by decide

/-- a fuse beyond the last throwing-capable operation does not fire: the same state as without a fuse -/
example : (runX false St.init [(.listCtor 0 [1, 2, 3], some 3)]).bind (fun s => contents (s.regs 0)) =
    some [1, 2, 3] := by decide

end Igris.C02
