import IgrisModel.C02.Bisect
/-!
  C02 — flat_map / flat_set against std::map / std::set, for ANY comparator that is a strict weak order.

  `lt` is the `Compare` object.  `StrictWeak lt` is what the standard requires of it (irreflexive,
  transitive, incomparability transitive); it need not be a linear order: keys that are incomparable
  (`same lt a b`) are ONE key of the map / set, and the container stores the representative it saw first.

  std::map<int,int,Compare> is modelled as a function `f : Int → Option (Int × Int)`: `f k` = the entry
  (stored key, mapped value) whose key is the same key as `k`, if any.  std::set<int,Compare> is a function
  `S : Int → Option Int`: the stored element that is the same key as `k`.
-/
namespace Igris.C02

/-- the requirements of the standard on `Compare` -/
structure StrictWeak (lt : Int → Int → Bool) : Prop where
  irrefl : ∀ a, lt a a = false
  trans : ∀ a b c, lt a b = true → lt b c = true → lt a c = true
  incomp : ∀ a b c, same lt a b = true → same lt b c = true → same lt a c = true

section
variable {lt : Int → Int → Bool}

theorem same_comm (lt : Int → Int → Bool) (a b : Int) : same lt a b = same lt b a := by
  simp only [same]; exact Bool.and_comm _ _

theorem same_symm {a b : Int} {v : Bool} (h : same lt a b = v) : same lt b a = v := by
  rw [same_comm]; exact h

theorem StrictWeak.refl (h : StrictWeak lt) (a : Int) : same lt a a = true := by simp [same, h.irrefl]

theorem StrictWeak.ltTrans (h : StrictWeak lt) : LtTrans lt := h.trans

theorem StrictWeak.asymm (h : StrictWeak lt) {a b : Int} (hab : lt a b = true) : lt b a = false := by
  cases hba : lt b a with
  | false => rfl
  | true => have := h.trans _ _ _ hab hba; rw [h.irrefl] at this; cases this

theorem StrictWeak.congr (h : StrictWeak lt) {a b : Int} (hab : same lt a b = true) (c : Int) :
    same lt c a = same lt c b := by
  cases h1 : same lt c a with
  | true => exact (h.incomp c a b h1 hab).symm
  | false =>
    cases h2 : same lt c b with
    | false => rfl
    | true =>
      have := h.incomp c b a h2 (same_symm hab)
      rw [h1] at this; cases this

theorem not_same_of_lt {a b : Int} (hab : lt a b = true) : same lt a b = false := by
  simp [same, hab]

/-- the comparators the driver instantiates are strict weak orders (non-vacuity of `StrictWeak`) -/
theorem strictWeak_ltInt : StrictWeak ltInt := by
  refine ⟨by simp [ltInt], ?_, ?_⟩
  · intro a b c; simp only [ltInt, decide_eq_true_eq]; omega
  · intro a b c; simp only [same, ltInt, Bool.and_eq_true, Bool.not_eq_true', decide_eq_false_iff_not]; omega

theorem strictWeak_greater : StrictWeak (fun a b => decide (b < a)) := by
  refine ⟨by simp, ?_, ?_⟩
  · intro a b c; simp only [decide_eq_true_eq]; omega
  · intro a b c; simp only [same, Bool.and_eq_true, Bool.not_eq_true', decide_eq_false_iff_not]; omega

/-- "smaller last digit": a strict weak order that is not linear (11 and 21 are the same key) -/
theorem strictWeak_lastDigit : StrictWeak (fun a b => decide (a.tmod 10 < b.tmod 10)) := by
  refine ⟨by simp, ?_, ?_⟩
  · intro a b c; simp only [decide_eq_true_eq]; omega
  · intro a b c; simp only [same, Bool.and_eq_true, Bool.not_eq_true', decide_eq_false_iff_not]; omega

/-! ### lookup of the entry with the same key (generic over the element type: pairs for the map, keys for the set) -/

def lookupBy (lt : Int → Int → Bool) {α : Type} (key : α → Int) (k : Int) (l : List α) : Option α :=
  l.find? (fun x => same lt (key x) k)

@[simp] theorem lookupBy_nil {α : Type} (key : α → Int) (k : Int) : lookupBy lt key k [] = none := rfl

theorem lookupBy_cons {α : Type} (key : α → Int) (k : Int) (x : α) (l : List α) :
    lookupBy lt key k (x :: l) = if same lt (key x) k then some x else lookupBy lt key k l := by
  simp only [lookupBy, List.find?_cons]
  cases same lt (key x) k <;> rfl

theorem lookupBy_none_iff {α : Type} (key : α → Int) (k : Int) (l : List α) :
    lookupBy lt key k l = none ↔ ∀ x ∈ l, same lt (key x) k = false := by
  simp [lookupBy, List.find?_eq_none]

theorem lookupBy_isSome_iff {α : Type} (key : α → Int) (k : Int) (l : List α) :
    (lookupBy lt key k l).isSome ↔ ∃ x ∈ l, same lt (key x) k = true := by
  simp [lookupBy, List.find?_isSome]

theorem lookupBy_congr (h : StrictWeak lt) {α : Type} (key : α → Int) {j k : Int} (hjk : same lt j k = true) (l : List α) :
    lookupBy lt key j l = lookupBy lt key k l := by
  simp only [lookupBy]
  congr 1
  funext x
  exact h.congr hjk (key x)

theorem lookupBy_append {α : Type} (key : α → Int) (k : Int) (l r : List α) :
    lookupBy lt key k (l ++ r) = (lookupBy lt key k l).or (lookupBy lt key k r) := by
  simp [lookupBy, List.find?_append]

theorem listInsert_perm {α : Type} (xs : List α) (i : Nat) (x : α) : (listInsert xs i x).Perm (x :: xs) := by
  have := List.perm_middle (a := x) (l₁ := xs.take i) (l₂ := xs.drop i)
  rwa [List.take_append_drop] at this

theorem mem_listInsert {α : Type} (xs : List α) (i : Nat) (x a : α) : a ∈ listInsert xs i x ↔ a = x ∨ a ∈ xs :=
  (listInsert_perm xs i x).mem_iff.trans List.mem_cons

theorem lookupBy_listInsert (h : StrictWeak lt) {α : Type} (key : α → Int) (l : List α) (i : Nat) (x : α) (j : Int)
    (hk : lookupBy lt key (key x) l = none) :
    lookupBy lt key j (listInsert l i x) = if same lt j (key x) then some x else lookupBy lt key j l := by
  have hsplit : lookupBy lt key j l = (lookupBy lt key j (l.take i)).or (lookupBy lt key j (l.drop i)) := by
    rw [← lookupBy_append, List.take_append_drop]
  simp only [listInsert, lookupBy_append]
  cases hj : same lt j (key x) with
  | true =>
    have h1 : lookupBy lt key j (l.take i) = none := by
      rw [lookupBy_none_iff]
      intro y hy
      have := (lookupBy_none_iff key (key x) l).mp hk y (List.mem_of_mem_take hy)
      rw [← h.congr hj (key y)] at this
      exact this
    have h2 := same_symm hj
    simp [lookupBy_cons, h2, h1]
  | false =>
    have h2 := same_symm hj
    simp only [Bool.false_eq_true, if_false]
    rw [hsplit]
    simp [lookupBy_cons, h2]

def Distinct (lt : Int → Int → Bool) (l : List Int) : Prop := l.Pairwise (fun a b => same lt a b = false)

theorem distinct_listInsert {l : List Int} (i : Nat) {k : Int} (hn : Distinct lt l)
    (hk : ∀ a ∈ l, same lt a k = false) : Distinct lt (listInsert l i k) := by
  refine ((listInsert_perm l i k).pairwise_iff same_symm).mpr (List.pairwise_cons.mpr ⟨?_, hn⟩)
  intro a ha
  exact same_symm (hk a ha)

def keysOf (l : List (Int × Int)) : List Int := l.map (·.1)

abbrev entry (lt : Int → Int → Bool) (k : Int) (l : List (Int × Int)) : Option (Int × Int) := lookupBy lt (·.1) k l

theorem keysOf_listInsert (l : List (Int × Int)) (i : Nat) (k v : Int) :
    keysOf (listInsert l i (k, v)) = listInsert (keysOf l) i k := by
  simp [keysOf, listInsert, List.map_take, List.map_drop]

/-- `std::find_if(begin, end, same key)` finds the entry `entry lt k l` (`end` if there is none) -/
theorem getElem?_findIdx (k : Int) (l : List (Int × Int)) : l[findIdx lt k l]? = entry lt k l := by
  induction l with
  | nil => simp [findIdx]
  | cons p ps ih =>
    simp only [findIdx, lookupBy_cons]
    cases h : same lt p.1 k with
    | true => simp
    | false => simpa using ih

theorem FMap.findEntry_eq (m : FMap) (k : Int) : m.findEntry lt k = entry lt k m.st := getElem?_findIdx k m.st

theorem FMap.find_eq (m : FMap) (k : Int) : m.find lt k = (entry lt k m.st).map (·.2) := by
  simp only [FMap.find, FMap.findEntry_eq]

/-- `std::count_if(begin, end, same key)` on a storage with distinct keys -/
theorem count_eq (h : StrictWeak lt) (k : Int) (l : List (Int × Int)) (hn : Distinct lt (keysOf l)) :
    l.countP (fun p => same lt p.1 k) = if (entry lt k l).isSome then 1 else 0 := by
  induction l with
  | nil => simp
  | cons p ps ih =>
    simp only [Distinct, keysOf, List.map_cons, List.pairwise_cons] at hn
    have ih := ih hn.2
    simp only [List.countP_cons, lookupBy_cons]
    cases hp : same lt p.1 k with
    | true =>
      have hk : entry lt k ps = none := by
        rw [lookupBy_none_iff]
        intro y hy
        have := hn.1 y.1 (List.mem_map.mpr ⟨y, hy, rfl⟩)
        rw [← h.congr hp y.1, same_comm]
        exact this
      rw [hk] at ih
      simp [ih]
    | false =>
      simp only [Bool.false_eq_true, if_false, Nat.add_zero]
      exact ih

/-- `m[k] = v` for a key that is present: the mapped value of the entry found by find_if is overwritten, the
    stored key stays -/
theorem set_findIdx (h : StrictWeak lt) (k v : Int) (l : List (Int × Int)) (p : Int × Int)
    (hp : l[findIdx lt k l]? = some p) :
    keysOf (l.set (findIdx lt k l) (p.1, v)) = keysOf l ∧
    ∀ j, entry lt j (l.set (findIdx lt k l) (p.1, v)) = if same lt j k then some (p.1, v) else entry lt j l := by
  induction l with
  | nil => simp at hp
  | cons q qs ih =>
    cases hq : same lt q.1 k with
    | true =>
      simp only [findIdx, hq, if_true, List.getElem?_cons_zero, Option.some.injEq] at hp ⊢
      subst hp
      simp only [List.set_cons_zero, keysOf, List.map_cons, true_and]
      intro j
      simp only [lookupBy_cons]
      have e : same lt q.1 j = same lt j k := by rw [same_comm lt q.1 j]; exact h.congr hq j
      rw [e]
      cases same lt j k <;> simp
    | false =>
      simp only [findIdx, hq, Bool.false_eq_true, if_false, List.getElem?_cons_succ] at hp ⊢
      obtain ⟨a, b⟩ := ih hp
      simp only [List.set_cons_succ, keysOf, List.map_cons] at a ⊢
      refine ⟨by rw [a], ?_⟩
      intro j
      simp only [lookupBy_cons, b j]
      cases hj : same lt j k with
      | true =>
        have : same lt q.1 j = false := by rw [h.congr hj q.1]; exact hq
        simp [this]
      | false => simp

/-! ### insertion at the bound keeps a strictly increasing storage strictly increasing -/

def Sorted (lt : Int → Int → Bool) (l : List Int) : Prop := l.Pairwise (fun a b => lt a b = true)

instance (lt : Int → Int → Bool) (l : List Int) : Decidable (Sorted lt l) := by unfold Sorted; infer_instance

theorem Sorted.distinct (h : StrictWeak lt) {l : List Int} (hs : Sorted lt l) : Distinct lt l :=
  List.Pairwise.imp (fun hab => not_same_of_lt hab) hs

theorem lookupBy_self (h : StrictWeak lt) {α : Type} (key : α → Int) {l : List α} (hs : Sorted lt (l.map key))
    {x : α} : x ∈ l ↔ lookupBy lt key (key x) l = some x := by
  refine ⟨fun hx => ?_, List.mem_of_find?_eq_some⟩
  induction l with
  | nil => simp at hx
  | cons y ys ih =>
    simp only [Sorted, List.map_cons, List.pairwise_cons] at hs
    rw [lookupBy_cons]
    rcases List.mem_cons.mp hx with rfl | hx
    · simp [h.refl]
    · rw [not_same_of_lt (hs.1 _ (List.mem_map.mpr ⟨x, hx, rfl⟩))]
      exact ih hs.2 hx

theorem entry_self (h : StrictWeak lt) {l : List (Int × Int)} (hs : Sorted lt (keysOf l)) {p : Int × Int} :
    p ∈ l ↔ entry lt p.1 l = some p := lookupBy_self h (fun q : Int × Int => q.1) hs

theorem lt_of_not_lt_of_not_same {y k : Int} (h1 : lt y k = false) (h2 : same lt y k = false) :
    lt k y = true := by
  simp only [same, h1, Bool.not_false, Bool.true_and, Bool.not_eq_false'] at h2
  exact h2

theorem sorted_insert_lb (h : StrictWeak lt) (k : Int) (xs : List Int) (hs : Sorted lt xs)
    (hk : ∀ a ∈ xs, same lt a k = false) : Sorted lt (listInsert xs (lbSpec lt k xs) k) := by
  induction xs with
  | nil => simp [Sorted, listInsert, lbSpec]
  | cons y ys ih =>
    simp only [Sorted, List.pairwise_cons] at hs
    cases hyk : lt y k with
    | true =>
      simp only [lbSpec, hyk, if_true]
      have e : listInsert (y :: ys) (lbSpec lt k ys + 1) k = y :: listInsert ys (lbSpec lt k ys) k := by
        simp [listInsert]
      rw [e]
      simp only [Sorted, List.pairwise_cons]
      refine ⟨?_, ih hs.2 (fun a ha => hk a (List.mem_cons_of_mem _ ha))⟩
      intro a ha
      rcases (mem_listInsert ys _ k a).mp ha with rfl | ha
      · exact hyk
      · exact hs.1 a ha
    | false =>
      simp only [Sorted, lbSpec, hyk, Bool.false_eq_true, if_false, listInsert, List.take_zero, List.drop_zero,
        List.nil_append, List.pairwise_cons, List.mem_cons]
      have hky : lt k y = true := lt_of_not_lt_of_not_same hyk (hk y (List.mem_cons_self ..))
      refine ⟨?_, hs⟩
      rintro a (rfl | ha)
      · exact hky
      · exact h.trans _ _ _ hky (hs.1 a ha)

theorem ubSpecBy_eq_lbSpec (h : StrictWeak lt) (k : Int) (xs : List Int) (hk : ∀ a ∈ xs, same lt a k = false) :
    ubSpecBy lt k xs = lbSpec lt k xs := by
  induction xs with
  | nil => rfl
  | cons y ys ih =>
    have ih := ih (fun a ha => hk a (List.mem_cons_of_mem _ ha))
    have hy := hk y (List.mem_cons_self ..)
    simp only [ubSpecBy, lbSpec, ih]
    cases hyk : lt y k with
    | true => rw [if_neg (by simp [h.asymm hyk]), if_pos rfl]
    | false => rw [if_pos (lt_of_not_lt_of_not_same hyk hy), if_neg (by simp)]

theorem sorted_insert_ub (h : StrictWeak lt) (k : Int) (xs : List Int) (hs : Sorted lt xs)
    (hk : ∀ a ∈ xs, same lt a k = false) : Sorted lt (listInsert xs (ubSpecBy lt k xs) k) := by
  rw [ubSpecBy_eq_lbSpec h k xs hk]
  exact sorted_insert_lb h k xs hs hk

structure MRep (lt : Int → Int → Bool) (m : FMap) (f : Int → Option (Int × Int)) : Prop where
  /-- invariant: the storage is strictly increasing by key under the comparator (hence no two stored keys are
      the same key, and iteration visits the entries in std::map's order) -/
  sorted : Sorted lt (keysOf m.st)
  val : ∀ k, f k = entry lt k m.st

theorem MRep.pairwise {m : FMap} {f : Int → Option (Int × Int)} (hm : MRep lt m f) :
    m.st.Pairwise (fun a b => lt a.1 b.1 = true) := by
  have := hm.sorted; simp only [Sorted, keysOf, List.pairwise_map] at this; exact this

theorem MRep.uniq (h : StrictWeak lt) {m : FMap} {f : Int → Option (Int × Int)} (hm : MRep lt m f) :
    Distinct lt (keysOf m.st) := hm.sorted.distinct h

def updE (lt : Int → Int → Bool) (f : Int → Option (Int × Int)) (k v : Int) : Int → Option (Int × Int) :=
  fun j => if same lt j k then some (k, v) else f j

/-- std::map: how an operation changes the map -/
def mapSpecNext (lt : Int → Int → Bool) (f : Int → Option (Int × Int)) : MOp → (Int → Option (Int × Int))
  | .index k => if (f k).isSome then f else updE lt f k 0          -- `m[k]` default-inserts T()
  | .assign k v =>                                                  -- `m[k] = v` overwrites the mapped value
    match f k with
    | some p => fun j => if same lt j k then some (p.1, v) else f j
    | none => updE lt f k v
  | .insert k v => if (f k).isSome then f else updE lt f k v        -- insert does not overwrite
  | .emplace k v => if (f k).isSome then f else updE lt f k v
  | .clear => fun _ => none
  | .init l => fun k => entry lt k l                                -- the first entry of a key wins
  | .find _ | .count _ | .at _ | .size | .iter | .cindex _ => f

/-- std::map: what an operation answers in the state `f` -/
def mapRetOk (lt : Int → Int → Bool) (f : Int → Option (Int × Int)) : MOp → MRet → Prop
  | .index k, r => r = .val (((f k).map (·.2)).getD 0)
  | .assign _ _, r => r = .unit
  | .insert k v, r => r = (match f k with | some p => .kv p.1 p.2 | none => .kv k v)  -- `*it`: the old or new entry
  | .emplace k v, r => r = .flag (f k).isNone (((f k).map (·.2)).getD v)
  | .find k, r => r = .opt ((f k).map (·.2))
  | .count k, r => r = .nat (if (f k).isSome then 1 else 0)
  | .at k, r => r = (match f k with | some p => .val p.2 | none => .throw)
  | .size, r => ∃ keys : List Int, Distinct lt keys ∧ (∀ k, (f k).isSome ↔ ∃ j ∈ keys, same lt j k = true) ∧
      r = .nat keys.length                                          -- number of distinct keys
  | .clear, r => r = .unit
  | .init _, r => r = .unit
  -- iteration visits exactly the entries of the map, in increasing key order
  | .iter, r => ∃ l : List (Int × Int), Sorted lt (keysOf l) ∧ (∀ p, p ∈ l ↔ f p.1 = some p) ∧ r = .entries l
  -- const operator[] (igris only): the mapped value or T(); the map is not changed
  | .cindex k, r => r = .val (((f k).map (·.2)).getD 0)

theorem MRep.empty : MRep lt ⟨[]⟩ (fun _ => none) := ⟨by simp [Sorted, keysOf], by simp⟩

/-- vector::insert of an absent key at `ordered_pos(key)` (the `std::upper_bound` position) -/
theorem MRep.insertUb (h : StrictWeak lt) {m : FMap} {f : Int → Option (Int × Int)} (hm : MRep lt m f) {k : Int}
    (v : Int) (hk : f k = none) : MRep lt ⟨listInsert m.st (m.upos lt k) (k, v)⟩ (updE lt f k v) := by
  have hk' : entry lt k m.st = none := by rw [← hm.val]; exact hk
  have hfar : ∀ a ∈ keysOf m.st, same lt a k = false := by
    intro a ha
    obtain ⟨p, hp, rfl⟩ := List.mem_map.mp ha
    exact (lookupBy_none_iff (·.1) k m.st).mp hk' p hp
  refine ⟨?_, ?_⟩
  · simp only [keysOf_listInsert, FMap.upos]
    have e := mapUpper_sorted lt h.ltTrans m.st k hm.sorted
    simp only [keysOf] at e ⊢
    rw [e]
    exact sorted_insert_ub h k _ hm.sorted hfar
  · intro j
    simp only [updE, hm.val]
    exact (lookupBy_listInsert h (·.1) m.st _ (k, v) j hk').symm

theorem MRep.ext {m : FMap} {f g : Int → Option (Int × Int)} (h : MRep lt m f) (e : f = g) : MRep lt m g := e ▸ h

theorem ofList_rep (h : StrictWeak lt) (l : List (Int × Int)) {m : FMap} {f : Int → Option (Int × Int)} (hm : MRep lt m f) :
    MRep lt (FMap.ofList lt l m) (fun k => (f k).or (entry lt k l)) := by
  induction l generalizing m f with
  | nil => exact hm.ext (by funext k; simp)
  | cons p r ih =>
    obtain ⟨k, v⟩ := p
    simp only [FMap.ofList, FMap.find_eq, ← hm.val, Option.isSome_map]
    have hcongr : ∀ j, same lt k j = true → f j = f k := fun j hj => by
      rw [hm.val, hm.val]; exact lookupBy_congr h (·.1) (same_symm hj) m.st
    cases hf : f k with
    | some w =>
      simp only [Option.isSome_some, if_true]
      refine (ih hm).ext ?_
      funext j
      simp only [lookupBy_cons]
      cases hj : same lt k j with
      | false => rfl
      | true => simp [hcongr j hj, hf]
    | none =>
      simp only [Option.isSome_none, Bool.false_eq_true, if_false]
      refine (ih (hm.insertUb h v hf)).ext ?_
      funext j
      simp only [lookupBy_cons, updE]
      cases hj : same lt k j with
      | false => simp [same_symm hj]
      | true => simp [same_symm hj, hcongr j hj, hf]

/-- ONE OPERATION of flat_map against std::map with the same comparator -/
theorem mapStep_refines (h : StrictWeak lt) {m : FMap} {f : Int → Option (Int × Int)} (hm : MRep lt m f) (op : MOp) :
    mapRetOk lt f op (m.step lt op).2 ∧ MRep lt (m.step lt op).1 (mapSpecNext lt f op) := by
  cases op with
  | index k =>
    simp only [FMap.step, FMap.index, FMap.find_eq, ← hm.val, mapRetOk, mapSpecNext]
    cases hf : f k with
    | some w => simp; exact hm
    | none => simp; exact hm.insertUb h 0 hf
  | assign k v =>
    simp only [FMap.step, FMap.assign, mapRetOk, mapSpecNext, true_and]
    have e := getElem?_findIdx (lt := lt) k m.st
    rw [← hm.val] at e
    simp only [e]
    cases hf : f k with
    | some p =>
      obtain ⟨a, b⟩ := set_findIdx h k v m.st p (e.trans hf)
      exact ⟨by rw [a]; exact hm.sorted, fun j => by rw [b j, ← hm.val]⟩
    | none => exact hm.insertUb h v hf
  | insert k v | emplace k v =>
    simp only [FMap.step, FMap.insert, FMap.emplace, FMap.findEntry_eq, FMap.find_eq, ← hm.val, mapRetOk, mapSpecNext]
    cases hf : f k with
    | some w => simp; exact hm
    | none => simp; exact hm.insertUb h v hf
  | find k | cindex k =>
    simp only [FMap.step, FMap.cindex, FMap.find_eq, ← hm.val, mapRetOk, mapSpecNext, true_and]; exact hm
  | count k =>
    simp only [FMap.step, FMap.count, mapRetOk, mapSpecNext]
    refine ⟨?_, hm⟩
    rw [count_eq h k m.st (hm.uniq h), hm.val]
  | «at» k =>
    simp only [FMap.step, FMap.atKey, FMap.find_eq, ← hm.val, mapRetOk, mapSpecNext]
    refine ⟨?_, hm⟩
    cases f k <;> rfl
  | size =>
    simp only [FMap.step, FMap.size, mapRetOk, mapSpecNext]
    refine ⟨⟨keysOf m.st, hm.uniq h, ?_, by simp [keysOf]⟩, hm⟩
    intro k
    rw [hm.val, lookupBy_isSome_iff]
    constructor
    · rintro ⟨p, hp, e⟩; exact ⟨p.1, List.mem_map.mpr ⟨p, hp, rfl⟩, e⟩
    · rintro ⟨j, hj, e⟩
      obtain ⟨p, hp, rfl⟩ := List.mem_map.mp hj
      exact ⟨p, hp, e⟩
  | clear => simp only [FMap.step, mapRetOk, mapSpecNext, true_and]; exact MRep.empty
  | init l =>
    simp only [FMap.step, mapRetOk, mapSpecNext, true_and]
    exact (ofList_rep h l MRep.empty).ext (by funext k; simp)
  | iter =>
    simp only [FMap.step, mapRetOk, mapSpecNext]
    exact ⟨⟨m.st, hm.sorted, fun p => by rw [hm.val]; exact entry_self h hm.sorted, rfl⟩, hm⟩

def MapHist (lt : Int → Int → Bool) : (Int → Option (Int × Int)) → List MOp → List MRet → Prop
  | _, [], [] => True
  | f, op :: ops, r :: rs => mapRetOk lt f op r ∧ MapHist lt (mapSpecNext lt f op) ops rs
  | _, _, _ => False

def mapSpecRun (lt : Int → Int → Bool) : (Int → Option (Int × Int)) → List MOp → (Int → Option (Int × Int))
  | f, [] => f
  | f, op :: ops => mapSpecRun lt (mapSpecNext lt f op) ops

structure SRep (lt : Int → Int → Bool) (s : FSet) (S : Int → Option Int) : Prop where
  sorted : Sorted lt s.st
  val : ∀ k, S k = lookupBy lt id k s.st

/-- std::set: how an operation changes the set -/
def setSpecNext (lt : Int → Int → Bool) (S : Int → Option Int) : SOp → (Int → Option Int)
  | .insert k => if (S k).isSome then S else fun j => if same lt j k then some k else S j
  | .clear => fun _ => none
  | .count _ | .size | .iter => S

/-- std::set: what an operation answers in the state `S` -/
def setRetOk (lt : Int → Int → Bool) (S : Int → Option Int) : SOp → SRet → Prop
  | .insert _, r => r = .unit
  | .clear, r => r = .unit
  | .count k, r => r = .nat (if (S k).isSome then 1 else 0)
  | .size, r => ∃ l : List Int, Sorted lt l ∧ (∀ j, j ∈ l ↔ S j = some j) ∧ r = .nat l.length
  | .iter, r => ∃ l : List Int, Sorted lt l ∧ (∀ j, j ∈ l ↔ S j = some j) ∧ r = .keys l

/-- the lower_bound test `it != end() && !_comp(key, *it)` of flat_set::insert / count is presence of the key -/
theorem lb_hit (h : StrictWeak lt) (k : Int) (xs : List Int) (hs : Sorted lt xs) :
    (match xs[lbSpec lt k xs]? with | some x => lt k x = false | none => False) ↔ (lookupBy lt id k xs).isSome := by
  induction xs with
  | nil => simp [lbSpec]
  | cons y ys ih =>
    simp only [Sorted, List.pairwise_cons] at hs
    cases hyk : lt y k with
    | true =>
      have : same lt y k = false := not_same_of_lt hyk
      simp only [lbSpec, hyk, if_true, List.getElem?_cons_succ, lookupBy_cons, id, this]
      exact ih hs.2
    | false =>
      simp only [lbSpec, hyk, Bool.false_eq_true, if_false, List.getElem?_cons_zero, lookupBy_cons, id]
      cases hky : lt k y with
      | false => simp [same, hyk, hky]
      | true =>
        have h1 : same lt y k = false := same_symm (not_same_of_lt hky)
        simp only [h1, Bool.true_eq_false, false_iff]
        have : lookupBy lt id k ys = none := by
          rw [lookupBy_none_iff]
          intro a ha
          exact same_symm (not_same_of_lt (h.trans _ _ _ hky (hs.1 a ha)))
        simp [this]

theorem FSet.lb_eq (h : StrictWeak lt) (s : FSet) (k : Int) (hs : Sorted lt s.st) : s.lb lt k = lbSpec lt k s.st :=
  lowerBound_sorted lt h.ltTrans s.st k hs

theorem SRep.empty : SRep lt ⟨[]⟩ (fun _ => none) := ⟨by simp [Sorted], by simp⟩

theorem SRep.hit (h : StrictWeak lt) {s : FSet} {S : Int → Option Int} (hr : SRep lt s S) (k : Int) :
    (match s.st[lbSpec lt k s.st]? with
      | some x => !lt k x
      | none => false) = (S k).isSome := by
  have hit := lb_hit h k s.st hr.sorted
  rw [← hr.val] at hit
  cases hx : s.st[lbSpec lt k s.st]? with
  | none => rw [hx] at hit; cases hS : (S k).isSome <;> simp_all
  | some x => rw [hx] at hit; cases hk : lt k x <;> cases hS : (S k).isSome <;> simp_all

theorem SRep.count (h : StrictWeak lt) {s : FSet} {S : Int → Option Int} (hr : SRep lt s S) (k : Int) :
    s.count lt k = if (S k).isSome then 1 else 0 := by
  rw [← SRep.hit h hr k]
  simp only [FSet.count, FSet.lb_eq h s k hr.sorted]
  cases s.st[lbSpec lt k s.st]? with
  | none => rfl
  | some x => simp

theorem SRep.insert (h : StrictWeak lt) {s : FSet} {S : Int → Option Int} (hr : SRep lt s S) (k : Int) :
    SRep lt (s.insert lt k) (setSpecNext lt S (.insert k)) := by
  have hit := SRep.hit h hr k
  have keep : (S k).isSome = true → SRep lt s (setSpecNext lt S (.insert k)) := fun hm => by
    simp only [setSpecNext, hm, if_true]; exact hr
  have ins : (S k).isSome = false → SRep lt ⟨listInsert s.st (lbSpec lt k s.st) k⟩ (setSpecNext lt S (.insert k)) := fun hm => by
    have hnone : lookupBy lt id k s.st = none := by
      rw [← hr.val]; cases hS : S k with
      | none => rfl
      | some x => simp [hS] at hm
    simp only [setSpecNext, hm, Bool.false_eq_true, if_false]
    refine ⟨sorted_insert_lb h k s.st hr.sorted ((lookupBy_none_iff id k s.st).mp hnone), fun j => ?_⟩
    rw [hr.val]
    exact (lookupBy_listInsert h id s.st _ k j hnone).symm
  simp only [FSet.insert, FSet.lb_eq h s k hr.sorted]
  cases hx : s.st[lbSpec lt k s.st]? with
  | none =>
    rw [hx] at hit
    exact ins hit.symm
  | some x =>
    rw [hx] at hit
    simp only at hit ⊢
    cases hk : lt k x with
    | true =>
      rw [hk] at hit
      simp only [not_true_eq_false, if_false]
      exact ins hit.symm
    | false =>
      rw [hk] at hit
      simp only [Bool.false_eq_true, not_false_eq_true, if_true]
      exact keep hit.symm

def SetHist (lt : Int → Int → Bool) : (Int → Option Int) → List SOp → List SRet → Prop
  | _, [], [] => True
  | S, op :: ops, r :: rs => setRetOk lt S op r ∧ SetHist lt (setSpecNext lt S op) ops rs
  | _, _, _ => False

def setSpecRun (lt : Int → Int → Bool) : (Int → Option Int) → List SOp → (Int → Option Int)
  | S, [] => S
  | S, op :: ops => setSpecRun lt (setSpecNext lt S op) ops

theorem pairwise_enum_unique {α : Type} (r : α → α → Prop) (irr : ∀ x, ¬ r x x) (asym : ∀ x y, r x y → r y x → False)
    (a b : List α) (ha : a.Pairwise r) (hb : b.Pairwise r) (hab : ∀ j, j ∈ a ↔ j ∈ b) : a = b :=
  have nd : ∀ {l : List α}, l.Pairwise r → l.Nodup := fun h =>
    List.Pairwise.imp (S := (· ≠ ·)) (fun hxy e => irr _ (e ▸ hxy)) h
  List.Perm.eq_of_pairwise (fun x y _ _ h1 h2 => (asym x y h1 h2).elim) ha hb
    ((List.perm_ext_iff_of_nodup (nd ha) (nd hb)).mpr hab)

/-- `flat_map::operator==` (equality of the storage vectors) on two maps in the invariant = equality of the
    maps as std::map sees them (same entry for every key): the storage is a function of the abstract map -/
theorem storage_eq_iff (h : StrictWeak lt) {m1 m2 : FMap} {f1 f2 : Int → Option (Int × Int)}
    (h1 : MRep lt m1 f1) (h2 : MRep lt m2 f2) : m1.st = m2.st ↔ f1 = f2 := by
  constructor
  · intro e
    funext k
    rw [h1.val, h2.val, e]
  · intro e
    refine pairwise_enum_unique (fun a b : Int × Int => lt a.1 b.1 = true) ?_ ?_ _ _ h1.pairwise h2.pairwise ?_
    · intro x hx; rw [h.irrefl] at hx; cases hx
    · intro x y hxy hyx; rw [h.asymm hxy] at hyx; cases hyx
    · intro p
      rw [entry_self h h1.sorted, entry_self h h2.sorted, ← h1.val, ← h2.val, e]

end

end Igris.C02
