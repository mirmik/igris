import IgrisModel.C02.Lemmas
/-!
  C02 — the three bisection loops of the model (`upperBound` over a vector block =
  vector::insert_sorted, `mapUpper` = flat_map::insert, `lowerBound` = flat_set::insert / count) are
  the libstdc++ loops `__upper_bound` / `__lower_bound`.  Here: each of them is an instance of one abstract
  bisection `bisect P`, `bisect P` returns the partition point of a monotone predicate, and on a sorted
  sequence the partition point is the specification position (`ubSpec` = first index whose element is
  greater than the key, `lbSpec` = first index whose element is not less than the key).
-/
namespace Igris.C02

/-- the libstdc++ bisection over an abstract predicate: `P i` = "the search continues to the LEFT of
    element `i`" (`value < *middle` for upper_bound, `!(*middle < value)` for lower_bound) -/
def bisect (P : Nat → Bool) : Nat → Nat → Nat → Nat
  | 0, first, _ => first
  | fuel + 1, first, len =>
    if len = 0 then first else
    if P (first + len / 2) then bisect P fuel first (len / 2)
    else bisect P fuel (first + len / 2 + 1) (len - len / 2 - 1)

theorem bisect_spec (P : Nat → Bool) (fuel first len : Nat) (hf : len ≤ fuel)
    (hm : ∀ i j, first ≤ i → i ≤ j → j < first + len → P i = true → P j = true) :
    first ≤ bisect P fuel first len ∧ bisect P fuel first len ≤ first + len ∧
    (∀ i, first ≤ i → i < bisect P fuel first len → P i = false) ∧
    (∀ i, bisect P fuel first len ≤ i → i < first + len → P i = true) := by
  induction fuel generalizing first len with
  | zero =>
    have : len = 0 := by omega
    subst this
    refine ⟨by simp [bisect], by simp [bisect], ?_, ?_⟩
    · intro i h1 h2; simp only [bisect] at h2; omega
    · intro i h1 h2; simp only [bisect] at h1; omega
  | succ n ih =>
    unfold bisect
    by_cases h0 : len = 0
    · subst h0
      simp only [if_true]
      exact ⟨Nat.le_refl _, by omega, fun i h1 h2 => by omega, fun i h1 h2 => by omega⟩
    · simp only [h0, if_false]
      by_cases hp : P (first + len / 2) = true
      · simp only [hp, if_true]
        obtain ⟨a, b, c, d⟩ := ih first (len / 2) (by omega) (fun i j h1 h2 h3 => hm i j h1 h2 (by omega))
        refine ⟨a, by omega, c, ?_⟩
        intro i h1 h2
        by_cases hi : i < first + len / 2
        · exact d i h1 hi
        · exact hm (first + len / 2) i (by omega) (by omega) h2 hp
      · have hp' : P (first + len / 2) = false := by simpa using hp
        simp only [hp', Bool.false_eq_true, if_false]
        obtain ⟨a, b, c, d⟩ := ih (first + len / 2 + 1) (len - len / 2 - 1) (by omega)
          (fun i j h1 h2 h3 => hm i j (by omega) h2 (by omega))
        refine ⟨by omega, by omega, ?_, fun i h1 h2 => d i h1 (by omega)⟩
        intro i h1 h2
        by_cases hi : i ≤ first + len / 2
        · cases hq : P i with
          | false => rfl
          | true => exact absurd (hm i (first + len / 2) h1 hi (by omega) hq) hp
        · exact c i (by omega) h2

theorem bisect_range (P : Nat → Bool) (fuel first len : Nat) :
    first ≤ bisect P fuel first len ∧ bisect P fuel first len ≤ first + len := by
  induction fuel generalizing first len with
  | zero => simp [bisect]
  | succ n ih =>
    unfold bisect
    by_cases h0 : len = 0
    · simp [h0]
    · simp only [h0, if_false]
      split
      · have := ih first (len / 2); omega
      · have := ih (first + len / 2 + 1) (len - len / 2 - 1); omega

theorem findIdx_unique {α : Type} (p : α → Bool) (xs : List α) (r : Nat) (hr : r ≤ xs.length)
    (h1 : ∀ i (h : i < xs.length), i < r → p xs[i] = false)
    (h2 : ∀ i (h : i < xs.length), r ≤ i → p xs[i] = true) : r = xs.findIdx p := by
  rcases Nat.lt_or_ge r xs.length with h | h
  · exact ((List.findIdx_eq h).mpr ⟨h2 r h (Nat.le_refl _), fun j hj => h1 j (by omega) hj⟩).symm
  · rw [List.findIdx_eq_length.mpr (fun x hx => by
      obtain ⟨i, hi, rfl⟩ := List.getElem_of_mem hx; exact h1 i hi (by omega))]
    omega

theorem ubSpec_eq_findIdx (x : Val) (xs : List Val) : ubSpec x xs = xs.findIdx (fun y => decide (x < y)) := by
  induction xs with
  | nil => rfl
  | cons y ys ih => simp only [ubSpec, List.findIdx_cons, ih]; by_cases h : x < y <;> simp [h]

theorem lbSpec_eq_findIdx (lt : Int → Int → Bool) (k : Int) (xs : List Int) :
    lbSpec lt k xs = xs.findIdx (fun y => !lt y k) := by
  induction xs with
  | nil => rfl
  | cons y ys ih => simp only [lbSpec, List.findIdx_cons, ih]; cases h : lt y k <;> simp

theorem ubSpecBy_eq_findIdx (lt : Int → Int → Bool) (k : Int) (xs : List Int) :
    ubSpecBy lt k xs = xs.findIdx (fun y => lt k y) := by
  induction xs with
  | nil => rfl
  | cons y ys ih => simp only [ubSpecBy, List.findIdx_cons, ih]; cases h : lt k y <;> simp

theorem ubSpec_le (x : Val) (xs : List Val) : ubSpec x xs ≤ xs.length := by
  rw [ubSpec_eq_findIdx]; exact List.findIdx_le_length

theorem lbSpec_le (lt : Int → Int → Bool) (k : Int) (xs : List Int) : lbSpec lt k xs ≤ xs.length := by
  rw [lbSpec_eq_findIdx]; exact List.findIdx_le_length

theorem ubSpecBy_le (lt : Int → Int → Bool) (k : Int) (xs : List Int) : ubSpecBy lt k xs ≤ xs.length := by
  rw [ubSpecBy_eq_findIdx]; exact List.findIdx_le_length

theorem lt_of_lt_lbSpec {lt : Int → Int → Bool} {k : Int} {xs : List Int} {i : Nat} (h : i < lbSpec lt k xs)
    (hi : i < xs.length) : lt xs[i] k = true := by
  rw [lbSpec_eq_findIdx] at h
  have := List.not_of_lt_findIdx h
  simpa using this

theorem not_lt_at_lbSpec {lt : Int → Int → Bool} {k : Int} {xs : List Int} (h : lbSpec lt k xs < xs.length) :
    lt xs[lbSpec lt k xs] k = false := by
  have h' : xs.findIdx (fun y => !lt y k) < xs.length := by rw [← lbSpec_eq_findIdx]; exact h
  have := List.findIdx_getElem (w := h')
  simp only [← lbSpec_eq_findIdx] at this
  simpa using this

theorem not_lt_of_lt_ubSpec {x : Val} {xs : List Val} {i : Nat} (h : i < ubSpec x xs) (hi : i < xs.length) : ¬ x < xs[i] := by
  rw [ubSpec_eq_findIdx] at h
  have := List.not_of_lt_findIdx h
  simpa using this

theorem lt_at_ubSpec {x : Val} {xs : List Val} (h : ubSpec x xs < xs.length) : x < xs[ubSpec x xs] := by
  have h' : xs.findIdx (fun y => decide (x < y)) < xs.length := by rw [← ubSpec_eq_findIdx]; exact h
  have := List.findIdx_getElem (w := h')
  simp only [← ubSpec_eq_findIdx] at this
  simpa using this

theorem upperBound_eq_bisect (b : Buf) (g : Nat → Val) (x : Val) (n : Nat) (hb : ∀ i, i < n → rd b i = some (g i))
    (fuel first len : Nat) (hr : first + len ≤ n) :
    upperBound b x fuel first len = some (bisect (fun i => decide (x < g i)) fuel first len) := by
  induction fuel generalizing first len with
  | zero => rfl
  | succ m ih =>
    unfold upperBound bisect
    by_cases h0 : len = 0
    · simp [h0]
    · simp only [h0, if_false, hb (first + len / 2) (by omega), decide_eq_true_eq]
      split
      · exact ih first (len / 2) (by omega)
      · exact ih (first + len / 2 + 1) (len - len / 2 - 1) (by omega)

theorem mapUpper_eq_bisect (lt : Int → Int → Bool) (m : List (Int × Int)) (k : Int) (fuel first len : Nat)
    (hr : first + len ≤ m.length) :
    mapUpper lt m k fuel first len = bisect (fun i => lt k (m.getD i (0, 0)).1) fuel first len := by
  induction fuel generalizing first len with
  | zero => rfl
  | succ f ih =>
    unfold mapUpper bisect
    by_cases h0 : len = 0
    · simp [h0]
    · have hlt : first + len / 2 < m.length := by omega
      simp only [h0, if_false, List.getElem?_eq_getElem hlt, List.getD_eq_getElem?_getD, Option.getD_some]
      split
      · exact ih first (len / 2) (by omega)
      · exact ih (first + len / 2 + 1) (len - len / 2 - 1) (by omega)

theorem lowerBound_eq_bisect (lt : Int → Int → Bool) (s : List Int) (k : Int) (fuel first len : Nat)
    (hr : first + len ≤ s.length) :
    lowerBound lt s k fuel first len = bisect (fun i => !lt (s.getD i 0) k) fuel first len := by
  induction fuel generalizing first len with
  | zero => rfl
  | succ f ih =>
    unfold lowerBound bisect
    by_cases h0 : len = 0
    · simp [h0]
    · have hlt : first + len / 2 < s.length := by omega
      simp only [h0, if_false, List.getElem?_eq_getElem hlt, List.getD_eq_getElem?_getD, Option.getD_some]
      cases hc : lt s[first + len / 2] k
      · simp only [Bool.false_eq_true, if_false, Bool.not_false, if_true]
        exact ih first (len / 2) (by omega)
      · simp only [if_true, Bool.not_true, Bool.false_eq_true, if_false]
        exact ih (first + len / 2 + 1) (len - len / 2 - 1) (by omega)

theorem bisect_findIdx (p : Int → Bool) (xs : List Int)
    (hm : ∀ i j (hij : i < j) (hj : j < xs.length), p (xs[i]'(by omega)) = true → p xs[j] = true) :
    bisect (fun i => p (xs.getD i 0)) xs.length 0 xs.length = xs.findIdx p := by
  obtain ⟨_, b, c, d⟩ := bisect_spec (fun i => p (xs.getD i 0)) xs.length 0 xs.length (Nat.le_refl _) (by
    intro i j _ hij hj hi
    simp only [Nat.zero_add] at hj
    simp only [List.getD_eq_getElem?_getD, List.getElem?_eq_getElem hj,
      List.getElem?_eq_getElem (show i < xs.length by omega), Option.getD_some] at hi ⊢
    rcases Nat.lt_or_eq_of_le hij with h | rfl
    · exact hm i j h hj hi
    · exact hi)
  refine findIdx_unique _ xs _ (by omega) ?_ ?_
  · intro i hi hlt
    have := c i (Nat.zero_le _) hlt
    simpa [List.getD_eq_getElem?_getD, List.getElem?_eq_getElem hi] using this
  · intro i hi hge
    have := d i hge (by omega)
    simpa [List.getD_eq_getElem?_getD, List.getElem?_eq_getElem hi] using this

/-- std::upper_bound (the libstdc++ loop) on a sorted sequence = first index whose element is greater than `x` -/
theorem bisect_ub_sorted (xs : List Val) (x : Val) (hs : xs.Pairwise (· ≤ ·)) :
    bisect (fun i => decide (x < xs.getD i 0)) xs.length 0 xs.length = ubSpec x xs := by
  rw [ubSpec_eq_findIdx]
  refine bisect_findIdx (fun y => decide (x < y)) xs (fun i j hij hj hi => ?_)
  simp only [decide_eq_true_eq] at hi ⊢
  exact Int.lt_of_lt_of_le hi ((List.pairwise_iff_getElem.mp hs) i j (by omega) hj hij)

def LtTrans (lt : Int → Int → Bool) : Prop := ∀ a b c, lt a b = true → lt b c = true → lt a c = true

/-- flat_set: `std::lower_bound(_vec.begin(), _vec.end(), key, _comp)` as modelled = `lbSpec` on a storage
    that is strictly increasing under the comparator -/
theorem lowerBound_sorted (lt : Int → Int → Bool) (ht : LtTrans lt) (xs : List Int) (k : Int)
    (hs : xs.Pairwise (fun a b => lt a b = true)) :
    lowerBound lt xs k xs.length 0 xs.length = lbSpec lt k xs := by
  rw [lowerBound_eq_bisect lt xs k _ _ _ (by omega), lbSpec_eq_findIdx]
  refine bisect_findIdx (fun y => !lt y k) xs ?_
  intro i j hij hj hi
  have h1 := (List.pairwise_iff_getElem.mp hs) i j (by omega) hj hij
  cases h2 : lt xs[j] k with
  | false => rfl
  | true => have := ht _ _ _ h1 h2; simp [this] at hi

theorem lowerBound_le (lt : Int → Int → Bool) (xs : List Int) (k : Int) :
    lowerBound lt xs k xs.length 0 xs.length ≤ xs.length := by
  rw [lowerBound_eq_bisect lt xs k _ _ _ (by omega)]
  have := (bisect_range (fun i => !lt (xs.getD i 0) k) xs.length 0 xs.length).2
  omega

/-- flat_map::insert: the position `std::upper_bound` answers lies inside the storage, sorted or not -/
theorem mapUpper_le (lt : Int → Int → Bool) (m : List (Int × Int)) (k : Int) :
    mapUpper lt m k m.length 0 m.length ≤ m.length := by
  rw [mapUpper_eq_bisect lt m k _ _ _ (by omega)]
  have := (bisect_range (fun i => lt k (m.getD i (0, 0)).1) m.length 0 m.length).2
  omega

/-- flat_map::insert on a storage strictly increasing by key: `std::upper_bound` as modelled = `ubSpecBy` of the keys -/
theorem mapUpper_sorted (lt : Int → Int → Bool) (ht : LtTrans lt) (m : List (Int × Int)) (k : Int)
    (hs : (m.map (·.1)).Pairwise (fun a b => lt a b = true)) :
    mapUpper lt m k m.length 0 m.length = ubSpecBy lt k (m.map (·.1)) := by
  rw [mapUpper_eq_bisect lt m k _ _ _ (by omega), ubSpecBy_eq_findIdx]
  have := bisect_findIdx (fun y => lt k y) (m.map (·.1)) (by
    intro i j hij hj hi
    have h1 := (List.pairwise_iff_getElem.mp hs) i j (by omega) hj hij
    exact ht _ _ _ hi h1)
  simp only [List.length_map] at this
  rw [← this]
  congr 1
  funext i
  by_cases hi : i < m.length
  · simp [List.getD_eq_getElem?_getD, List.getElem?_eq_getElem hi]
  · simp [List.getD_eq_getElem?_getD, List.getElem?_eq_none (Nat.le_of_not_lt hi)]

/-- vector::insert_sorted: `std::upper_bound(begin(), end(), item)` over the block of a vector that holds the
    sorted sequence `xs` reads only constructed elements and answers `ubSpec item xs` -/
theorem upperBound_sorted {v : Vec} {xs : List Val} (h : Rep v xs) (hs : xs.Pairwise (· ≤ ·)) (x : Val) {b : Buf}
    (hb : v.data = some b) : upperBound b x v.size 0 v.size = some (ubSpec x xs) := by
  rcases h.cases with ⟨rfl, rfl⟩ | ⟨c, rfl, hc⟩
  · simp [Vec.empty] at hb
  · simp only [vecOf, Option.some.injEq] at hb
    subst hb
    simp only [vecOf]
    rw [upperBound_eq_bisect _ (fun i => xs.getD i 0) x xs.length
      (fun i hi => rd_vecOf hc hi) _ _ _ (by omega)]
    rw [bisect_ub_sorted xs x hs]

/-- the bisection of insert_sorted (reads only) -/
def sortedPos (v : Vec) (x : Val) : Option Nat :=
  match v.data with
  | none => if v.size = 0 then some 0 else none
  | some b => upperBound b x v.size 0 v.size

theorem insertSorted_pos (v : Vec) (x : Val) (l : Ledger) :
    insertSorted v x l = (match sortedPos v x with
      | none => none
      | some p => match emplace v p (.val x) l with
        | none => none
        | some (v, l) => some (p, v, l)) := rfl

theorem sortedPos_sorted {v : Vec} {xs : List Val} (h : Rep v xs) (hs : xs.Pairwise (· ≤ ·)) (x : Val) :
    sortedPos v x = some (ubSpec x xs) := by
  rcases h.cases with ⟨rfl, rfl⟩ | ⟨c, rfl, hc⟩
  · simp [sortedPos, Vec.empty, ubSpec]
  · exact upperBound_sorted (Rep.mk hc) hs x rfl

theorem insertSorted_good {v : Vec} {xs : List Val} (h : Rep v xs) (hs : xs.Pairwise (· ≤ ·)) (x : Val) (l : Ledger) :
    ∃ v' l', insertSorted v x l = some (ubSpec x xs, v', l') ∧
      Good v xs l v' (insertAt xs (ubSpec x xs) [x]) l' := by
  obtain ⟨v', l', h1, g⟩ := emplace_good (a := .val x) h (ubSpec_le x xs) rfl l
  exact ⟨v', l', by simp only [insertSorted_pos, sortedPos_sorted h hs x, h1], g⟩

end Igris.C02
