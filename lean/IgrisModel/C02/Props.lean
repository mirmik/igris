import IgrisModel.C02.Lemmas
import IgrisModel.C02.Bisect
import IgrisModel.C02.Flat
import IgrisModel.C02.FlatVecLemmas
import IgrisModel.C02.ExcLemmas
import IgrisModel.C02.AllocLemmas
import IgrisModel.C02.Compare
/-!
  A `none` of the model is a fault (out-of-block access, construction over an
  object, assignment/destruction/read/move of something that is not an object,
  freeing a block that still holds objects or with a wrong size).
-/
namespace Igris.C02

def Op.regs : Op → List Nat
  | .emplaceBack r _ | .popBack r | .emplace r _ _ | .insertRange r _ _ | .insertSorted r _ | .erase r _ _
  | .eraseTo r _ | .resize r _ | .reserve r _ | .clear r | .invalidate r | .sizeCtor r _ | .listCtor r _
  | .at r _ | .index r _ | .frontBack r | .iter r => [r]
  | .copyCtor d s | .moveCtor d s | .copyAssign d s | .moveAssign d s | .rangeCtor d s _ _
  | .eq d s | .ne d s | .lt d s => [d, s]

theorem opRegs_eq (op : Op) : opRegs op = op.regs := by cases op <;> rfl

/-- ONE OPERATION.  If std::vector accepts the operation in the abstract state `f` (`specStep` is
    defined), the igris code executes it without a fault, returns what std::vector returns, and the new
    state represents std::vector's new contents; the ledger stays balanced. -/
theorem step_refines (portable : Bool) {R : Nat} {s : St} {f : Nat → List Val} (hI : SInv R s f) (op : Op)
    (hR : ∀ r ∈ op.regs, r < R)
    {f' : Nat → List Val} {ret : Ret} (hs : specStep f op = some (f', ret)) :
    ∃ s', step portable s op = some (s', ret) ∧ SInv R s' f' :=
  step_ok portable hI op (by rw [opRegs_eq]; exact hR) hs

/-- std::vector run over a history, collecting the return values -/
def runSpec : (Nat → List Val) → List Op → Option ((Nat → List Val) × List Ret)
  | f, [] => some (f, [])
  | f, op :: ops =>
    match specStep f op with
    | none => none
    | some (f', r) => (runSpec f' ops).map fun (g, rs) => (g, r :: rs)

/-- the igris code run over a history, collecting the return values -/
def runOut (portable : Bool) : St → List Op → Option (St × List Ret)
  | s, [] => some (s, [])
  | s, op :: ops =>
    match step portable s op with
    | none => none
    | some (s', r) => (runOut portable s' ops).map fun (t, rs) => (t, r :: rs)

theorem run_refines_from (portable : Bool) {R : Nat} (ops : List Op) {s : St} {f : Nat → List Val} (hI : SInv R s f)
    (hR : ∀ op ∈ ops, ∀ r ∈ op.regs, r < R)
    {f' : Nat → List Val} {rets : List Ret} (hs : runSpec f ops = some (f', rets)) :
    ∃ s', runOut portable s ops = some (s', rets) ∧ SInv R s' f' := by
  induction ops generalizing s f rets with
  | nil => simp only [runSpec] at hs; cases hs; exact ⟨s, rfl, hI⟩
  | cons op ops ih =>
    simp only [runSpec] at hs
    cases h1 : specStep f op with
    | none => rw [h1] at hs; cases hs
    | some p =>
      obtain ⟨f1, r1⟩ := p
      rw [h1] at hs
      simp only [Option.map_eq_some_iff] at hs
      obtain ⟨⟨g, rs⟩, h2, he⟩ := hs
      cases he
      obtain ⟨s1, hs1, hI1⟩ := step_refines portable hI op (hR op (by simp)) h1
      obtain ⟨s2, hs2, hI2⟩ := ih hI1 (fun o ho => hR o (by simp [ho])) h2
      exact ⟨s2, by simp [runOut, hs1, hs2], hI2⟩

/-- REFINEMENT (clause 1 of C02).  Any history of operations that std::vector accepts — push/emplace
    (also with an argument that refers to an element of the same vector), insert/emplace at any position,
    range insert of own or foreign elements, erase, truncation, pop, resize, reserve, clear, invalidate,
    copy/move construction and assignment (incl. self assignment), the range / size / initializer-list
    constructors, ==, !=, <, at, [], front/back, iteration, insert_sorted on sorted contents (the
    std::upper_bound bisection is part of the model and proved equal to `ubSpec`) — on any number of vector objects runs on the
    igris code (both copies) without a fault, returns exactly what std::vector returns (positions,
    comparison results = list equality / lexicographic order, at() throwing exactly when std's does) and
    leaves every vector with std::vector's size and element sequence.
    ONE EXCEPTION, by design of the reference: `Op.eraseTo` (igris' one-argument `erase(iterator newend)`) is
    specified as TRUNCATION (`take k`), which is what the code does and NOT what std::vector::erase(pos) does —
    finding C02-erase-pos; the comparison with std's erase(pos) is `erase_iterator_partial` /
    `erase_iterator_truncates` / `erase_iterator_witness` below. -/
theorem vector_refines_list (portable : Bool) (R : Nat) (ops : List Op)
    (hR : ∀ op ∈ ops, ∀ r ∈ op.regs, r < R)
    {f' : Nat → List Val} {rets : List Ret} (hs : runSpec (fun _ => []) ops = some (f', rets)) :
    ∃ s', runOut portable St.init ops = some (s', rets) ∧ ∀ r, Rep (s'.regs r) (f' r) := by
  obtain ⟨s', h1, h2⟩ := run_refines_from portable ops (SInv.init R) hR hs
  exact ⟨s', h1, h2.rep⟩

/-- the hypotheses are satisfiable: a history with an aliasing push, an aliasing insert, copy
    assignment, comparisons and insert_sorted (front, back, between equal elements) is accepted by std::vector -/
example : ∃ f rets, runSpec (fun _ => []) [.emplaceBack 0 (.val 5), .emplaceBack 0 (.own 0), .emplace 0 0 (.own 1),
    .copyAssign 1 0, .eq 0 1, .lt 0 1, .erase 0 0 1, .popBack 1, .insertSorted 1 3, .insertSorted 1 9, .insertSorted 1 5]
    = some (f, rets) := ⟨_, _, rfl⟩

/-- size ≤ capacity and capacity = size of the allocated block, in every reachable state -/
theorem size_le_capacity {v : Vec} {xs : List Val} (h : Rep v xs) :
    v.size = xs.length ∧ v.size ≤ v.cap ∧ (∀ b, v.data = some b → b.n = v.cap) := by
  refine ⟨h.size_eq, by rw [h.size_eq]; exact h.len_le, ?_⟩
  intro b hb
  have := h.2; rw [hb] at this; exact this.1

/-- LIFETIMES (clause 2 of C02).  Over any history std::vector accepts, no slot event of the igris code
    faults — nothing is constructed over an object, nothing is assigned to / destroyed / moved from / read
    that is not a (readable) object, no access leaves the allocated block, no block is freed while it
    holds objects or with a wrong size — the destructors of all vectors run without a fault, and after
    them every element object ever constructed (temporaries included) has been destroyed:
    constructions = destructions, allocations = deallocations.  Since construction needs an unconstructed
    slot and destruction a constructed one, no object is destroyed twice. -/
theorem vector_lifetime (portable : Bool) (R : Nat) (ops : List Op)
    (hR : ∀ op ∈ ops, ∀ r ∈ op.regs, r < R)
    {f' : Nat → List Val} {rets : List Ret} (hs : runSpec (fun _ => []) ops = some (f', rets)) :
    ∃ s' s'', runOut portable St.init ops = some (s', rets) ∧ destroyAll s' R = some s'' ∧
      s''.led.made = s''.led.dtor ∧ s''.led.alloc = s''.led.dealloc ∧ ∀ r, r < R → s''.regs r = Vec.empty := by
  obtain ⟨s', h1, hI⟩ := run_refines_from portable ops (SInv.init R) hR hs
  obtain ⟨s'', h2⟩ := destroyAll_balanced hI
  exact ⟨s', s'', h1, h2⟩

/-- in every reachable state the ledger says: objects alive = elements held, blocks = vectors with storage -/
theorem ledger_balance (portable : Bool) (R : Nat) (ops : List Op)
    (hR : ∀ op ∈ ops, ∀ r ∈ op.regs, r < R)
    {f' : Nat → List Val} {rets : List Ret} (hs : runSpec (fun _ => []) ops = some (f', rets)) :
    ∃ s', runOut portable St.init ops = some (s', rets) ∧
      s'.led.net = total (fun r => ((f' r).length : Int)) R ∧
      s'.led.blocks = total (fun r => held (s'.regs r)) R := by
  obtain ⟨s', h1, hI⟩ := run_refines_from portable ops (SInv.init R) hR hs
  exact ⟨s', h1, hI.net, hI.blk⟩

/-- FINDING C02-erase-pos: `erase(iterator)` of igris::vector is `take k` (see `eraseTo_good`), whereas
    std::vector::erase(pos) removes the single element at `k`. -/
theorem erase_pos_witness : ([1, 2, 3] : List Val).take 0 ≠ ([1, 2, 3] : List Val).eraseIdx 0 := by decide

/-- FINDING C02-erase-pos on the MODEL.  The full statement — "`erase(pos)` removes exactly the element at
    `pos`, like std::vector::erase(pos)":
      `Rep v xs → k < xs.length → ∃ v' l', eraseTo v k l = some (v', l') ∧ Rep v' (xs.eraseIdx k)`
    — is FALSE for the code (witness below): igris' `erase(iterator newend)` truncates.  What holds is the
    partial statement: the two agree exactly when `pos` is the LAST element. -/
theorem erase_iterator_partial {v : Vec} {xs : List Val} (h : Rep v xs) {k : Nat} (hk : k + 1 = xs.length) (l : Ledger) :
    ∃ v' l', eraseTo v k l = some (v', l') ∧ Rep v' (xs.eraseIdx k) := by
  obtain ⟨v', l', h1, g⟩ := eraseTo_good h (show k ≤ xs.length by omega) l
  refine ⟨v', l', h1, ?_⟩
  have e : xs.eraseIdx k = xs.take k := by
    rw [List.eraseIdx_eq_take_drop_succ, List.drop_eq_nil_of_le (by omega), List.append_nil]
  rw [e]; exact g.rep

example : ∃ v xs k, Rep v xs ∧ k + 1 = xs.length := ⟨vecOf 3 [1, 2, 3], [1, 2, 3], 2, Rep.mk (by decide), rfl⟩

/-- … and for every other valid position the igris code (without a fault) leaves `xs.take k`, which is NOT
    std::vector's `xs.eraseIdx k`: the elements behind `pos` are lost -/
theorem erase_iterator_truncates {v : Vec} {xs : List Val} (h : Rep v xs) {k : Nat} (hk : k + 1 < xs.length) (l : Ledger) :
    ∃ v' l', eraseTo v k l = some (v', l') ∧ Rep v' (xs.take k) ∧ xs.take k ≠ xs.eraseIdx k := by
  obtain ⟨v', l', h1, g⟩ := eraseTo_good h (show k ≤ xs.length by omega) l
  refine ⟨v', l', h1, g.rep, ?_⟩
  intro e
  have := congrArg List.length e
  rw [List.length_take, List.length_eraseIdx] at this
  split at this <;> omega

/-- the witness on the model: `v = {1,2,3}; v.erase(v.begin());` — the model (= the code) runs it without a
    fault and leaves the EMPTY vector, std::vector leaves {2,3} -/
theorem erase_iterator_witness :
    ((runOut false St.init [.listCtor 0 [1, 2, 3], .eraseTo 0 0]).bind fun p => contents (p.1.regs 0)) = some [] ∧
    ([1, 2, 3] : List Val).eraseIdx 0 = [2, 3] := by decide

/-- VALUE-INITIALISATION.  `resize(n)` (and `vector(n)`, which calls it) appends elements with the value 0 — like
    std::vector — whatever the slot memory held before: the slots behind `size` are `raw` in a represented
    vector, i.e. memory of arbitrary contents (never written, left behind by a destroyed element after a
    shrink, or part of a recycled block), and the result holds `live 0` there. -/
theorem resize_value_initialises {v : Vec} {xs : List Val} (h : Rep v xs) (n : Nat) (l : Ledger) :
    ∃ v' l', resize v n l = some (v', l') ∧ Rep v' (xs.take n ++ List.replicate (n - xs.length) 0) := by
  obtain ⟨v', l', h1, g⟩ := resize_good h n l
  exact ⟨v', l', h1, g.rep⟩

/-- the slot discipline catches what the unrepaired insert did: assigning to the unconstructed slot at
    the old end is a fault of the model -/
theorem assign_to_raw_faults : assign (Buf.fresh 2) 1 7 = none := by
  simp [assign, Buf.get, Buf.fresh]

/-- … and constructing over a (moved-from) object, which the unrepaired emplace did, is one as well -/
theorem construct_over_object_faults : construct ((Buf.fresh 2).put 0 .moved) 0 7 = none := by
  simp [construct, Buf.get, Buf.fresh, Buf.put]

/-- … as is freeing a block that still holds an object (the unrepaired erase(newend) dropped elements
    without destroying them) -/
theorem dealloc_with_object_faults : deallocOk ((Buf.fresh 1).put 0 (.live 3)) 1 = false := by
  simp [deallocOk, Buf.allRaw, Buf.fresh, Buf.put]

/-! ### witnesses for the repaired defects

  For every `fix:` commit of branch fix-C02 that concerns igris::vector: a history that std::vector accepts
  (`runSpec` is defined) and the repaired code runs to the end, destructors included (`runFixed`), on which
  the code with the ORIGINAL body of that one member function put back (`runOrig`, bodies `…Orig` in
  Model.lean) faults in the slot model.  Kernel evaluation of the model (`decide`). -/

def OrigFaults (o : Orig) (ops : List Op) : Prop :=
  (runSpec (fun _ => []) ops).isSome = true ∧ (runFixed St.init ops).isSome = true ∧ (runOrig o St.init ops).isNone = true

instance (o : Orig) (ops : List Op) : Decidable (OrigFaults o ops) := by unfold OrigFaults; infer_instance

/-- the seeded change C02-resize-default-init (`new (ptr) T` instead of `new (ptr) T()`) on the model: the
    appended element exists but has an indeterminate value; `v.resize(1); v[0]` — accepted by std::vector, run by
    the code — reads it: fault.  So the refinement theorem is false for that variant: the catch does not rest on
    the oracle alone. -/
theorem resize_default_init_witness :
    OrigFaults .resizeDefault [.resize 0 1, .index 0 0] ∧
    OrigFaults .resizeDefault [.emplaceBack 0 (.val 7), .popBack 0, .resize 0 1, .eq 0 0] ∧
    OrigFaults .resizeDefault [.sizeCtor 1 2, .iter 1] := by decide

/-- 37ab9b2 (copy assignment allocated `m_size` = 0 slots and constructed `other.size()` elements behind the
    block): `a = {4,5}; b = a;` constructs outside the allocation -/
theorem copy_assign_orig_witness :
    OrigFaults .copyAssign [.emplaceBack 0 (.val 4), .emplaceBack 0 (.val 5), .copyAssign 1 0] := by decide

/-- db40834 (erase(first,last) destroyed the erased range, then move-assigned the tail into the destroyed
    slots): `{1,2,3,4}.erase(begin()+1, begin()+2)` assigns to a slot that holds no object -/
theorem erase_range_orig_witness :
    OrigFaults .eraseRange [.listCtor 0 [1, 2, 3, 4], .erase 0 1 2] := by decide

/-- 5125225 (erase(newend) only lowered m_size): `{1}.erase(begin())` then the destructor frees a block that
    still holds a constructed element (the leak) … -/
theorem erase_newend_orig_witness :
    OrigFaults .eraseTo [.emplaceBack 0 (.val 1), .eraseTo 0 0] := by decide

/-- … and a following push_back constructs over the object that was never destroyed -/
theorem erase_newend_orig_witness_push :
    OrigFaults .eraseTo [.reserve 0 2, .emplaceBack 0 (.val 1), .eraseTo 0 0, .emplaceBack 0 (.val 2)] := by decide

/-- ebcd133 (push_back took the reference, replaced the buffer, then copy-constructed from the reference):
    `v.reserve(1); v.push_back(3); v.push_back(v[0]);` reads the freed block -/
theorem push_back_alias_orig_witness :
    OrigFaults .pushBack [.reserve 0 1, .emplaceBack 0 (.val 3), .emplaceBack 0 (.own 0)] := by decide

/-- f1b29cb (insert: move_backward assigned into the unconstructed slot at the old end): `{7}.insert(begin(), 8)` -/
theorem insert_orig_witness :
    OrigFaults .insert [.reserve 0 2, .emplaceBack 0 (.val 7), .emplace 0 0 (.val 8)] := by decide

/-- f1b29cb, insert at end(): `*first = value` on the unconstructed slot — `v.insert(v.begin(), 7)` on an empty vector -/
theorem insert_end_orig_witness : OrigFaults .insert [.emplace 0 0 (.val 7)] := by decide

/-- f1b29cb (emplace: the same move_backward, then placement-new over the moved-from object):
    `{4}.emplace(begin(), 7)` -/
theorem emplace_orig_witness :
    OrigFaults .emplace [.reserve 0 2, .emplaceBack 0 (.val 4), .emplace 0 0 (.val 7)] := by decide

/-- a60ae02 (insert(pos, first, last): move_backward and std::copy assigned into the unconstructed slots
    behind the old end): `{1}.insert(begin(), a, a + 2)` with room for three -/
theorem insert_range_orig_witness :
    OrigFaults .insertRange [.reserve 0 4, .emplaceBack 0 (.val 1), .insertRange 0 0 (.ext [7, 8])] := by decide

/-- a60ae02, a foreign range after a reallocation was re-based on the new buffer (read of unrelated memory) -/
theorem insert_range_realloc_orig_witness :
    OrigFaults .insertRange [.reserve 0 1, .insertRange 0 0 (.ext [7, 8, 9, 6])] := by decide

/-- 7c36ffc (const at() asserted before the range test): `{1}.at(1)` aborts where std::vector throws -/
theorem const_at_orig_witness : OrigFaults .constAt [.listCtor 0 [1], .at 0 1, .at 0 0] := by decide

/-- the original bodies are not faults by construction: each runs the paths that were right (erase of a
    tail range, copy assignment from an empty vector, truncation to the current size, push_back of a value,
    emplace at end(), an empty range insert, at() inside the range); the original insert(pos, value)
    alone has no such path — it assigned to an unconstructed slot on every call -/
example :
    (runOrig .eraseRange St.init [.listCtor 0 [1, 2, 3], .erase 0 1 3]).isSome = true ∧
    (runOrig .copyAssign St.init [.emplaceBack 1 (.val 4), .copyAssign 1 0]).isSome = true ∧
    (runOrig .eraseTo St.init [.emplaceBack 0 (.val 1), .eraseTo 0 1]).isSome = true ∧
    (runOrig .pushBack St.init [.emplaceBack 0 (.val 3), .emplaceBack 0 (.val 4)]).isSome = true ∧
    (runOrig .emplace St.init [.emplace 0 0 (.val 7), .emplace 0 1 (.val 8)]).isSome = true ∧
    (runOrig .insertRange St.init [.emplaceBack 0 (.val 1), .insertRange 0 0 (.ext [])]).isSome = true ∧
    (runOrig .constAt St.init [.listCtor 0 [1], .at 0 0]).isSome = true := by decide

/-- vector::insert_sorted: over the block of a vector holding the sorted sequence `xs`, the modelled
    `std::upper_bound` loop reads only constructed elements (no fault) and returns the first index whose
    element is greater than the item (`ubSpec`, = `xs.length` if there is none) -/
theorem upper_bound_is_spec {v : Vec} {xs : List Val} (h : Rep v xs) (hs : xs.Pairwise (· ≤ ·)) (x : Val) {b : Buf}
    (hb : v.data = some b) :
    upperBound b x v.size 0 v.size = some (ubSpec x xs) ∧ ubSpec x xs ≤ xs.length ∧
    (∀ i (hi : i < xs.length), i < ubSpec x xs → ¬ x < xs[i]) ∧
    (∀ hi : ubSpec x xs < xs.length, x < xs[ubSpec x xs]) :=
  ⟨upperBound_sorted h hs x hb, ubSpec_le x xs, fun _ hi hlt => not_lt_of_lt_ubSpec hlt hi, fun hi => lt_at_ubSpec hi⟩

example : ∃ v xs b, Rep v xs ∧ xs.Pairwise (· ≤ ·) ∧ v.data = some b ∧ xs = [1, 3, 3, 7] :=
  ⟨vecOf 4 [1, 3, 3, 7], _, _, Rep.mk (by decide), by decide, rfl, rfl⟩

/-- flat_set::insert / count: on a storage that is strictly increasing under the comparator `lt` (any
    transitive `lt`) the modelled `std::lower_bound` loop returns the first index whose element is not less
    than the key (`lbSpec`) -/
theorem lower_bound_is_spec (lt : Int → Int → Bool) (ht : LtTrans lt) (xs : List Int) (k : Int) (hs : Sorted lt xs) :
    lowerBound lt xs k xs.length 0 xs.length = lbSpec lt k xs ∧ lbSpec lt k xs ≤ xs.length ∧
    (∀ i (hi : i < xs.length), i < lbSpec lt k xs → lt xs[i] k = true) ∧
    (∀ hi : lbSpec lt k xs < xs.length, lt xs[lbSpec lt k xs] k = false) :=
  ⟨lowerBound_sorted lt ht xs k hs, lbSpec_le lt k xs, fun _ hi hlt => lt_of_lt_lbSpec hlt hi, fun hi => not_lt_at_lbSpec hi⟩

example : LtTrans ltInt ∧ Sorted ltInt [1, 3, 4, 7] ∧ lowerBound ltInt [1, 3, 4, 7] 3 4 0 4 = 1 ∧
    lowerBound ltInt [1, 3, 4, 7] 8 4 0 4 = 4 := ⟨strictWeak_ltInt.trans, by decide, by decide, by decide⟩

/-- flat_map::insert: on a storage strictly increasing by key the modelled `std::upper_bound` loop returns
    `ubSpecBy` of the keys (first index whose key is greater); on any storage (operator[] and emplace append
    at the end, so it need not be sorted) the position stays inside `[0, size]` -/
theorem map_upper_bound_is_spec (lt : Int → Int → Bool) (m : List (Int × Int)) (k : Int) :
    mapUpper lt m k m.length 0 m.length ≤ m.length ∧
    (LtTrans lt → Sorted lt (keysOf m) → mapUpper lt m k m.length 0 m.length = ubSpecBy lt k (keysOf m)) :=
  ⟨mapUpper_le lt m k, fun ht hs => mapUpper_sorted lt ht m k hs⟩

example : Sorted ltInt (keysOf [(1, 10), (4, 40)]) := by decide

/-! ### flat_map against std::map, flat_set against std::set — for every comparator

  `lt` is the `Compare` object of the container and of std::map / std::set; the theorems hold for every
  STRICT WEAK ORDER (`StrictWeak lt`: irreflexive, transitive, incomparability transitive — what the standard
  requires; a linear order is not needed: "smaller last digit" makes 11 and 21 one key).  Two keys are the
  same key when neither is before the other.  std::map = a function from keys to the stored entry with the
  same key (`mapSpecNext` / `mapRetOk` in Flat.lean), std::set = a function from keys to the stored element
  with the same key (`setSpecNext` / `setRetOk`).  These theorems are about the element LISTS of the storage; that
  the storage — an igris::vector in the compat build — behaves like that list, without a lifetime fault, is composed
  formally in `flat_set_over_vector_refines` / `flat_map_over_vector_refines` further down.  The driver / harness instantiate std::less<int>,
  std::greater<int>, "smaller last digit" and std::greater<std::string> on the decimal text. -/

/-- the hypothesis `StrictWeak lt` is satisfiable, also by an order that is not linear -/
example : StrictWeak ltInt ∧ StrictWeak (fun a b => decide (b < a)) ∧ StrictWeak (fun a b => decide (a.tmod 10 < b.tmod 10)) :=
  ⟨strictWeak_ltInt, strictWeak_greater, strictWeak_lastDigit⟩

/-- ONE OPERATION of flat_map.  If no two stored keys are the same key and `f` maps every key to the stored
    entry with the same key, then the operation answers what std::map answers in state `f` (operator[]
    default-inserts 0 and returns the mapped value, `m[k] = v` overwrites the mapped value, insert/emplace do
    NOT overwrite and report the entry that is in the map afterwards, find = the mapped value or end(),
    count ∈ {0,1}, at throws iff the key is absent, size = number of distinct keys) and the new storage again
    holds every key once and stores std::map's new state. -/
theorem flat_map_step_refines {lt : Int → Int → Bool} (h : StrictWeak lt) {m : FMap} {f : Int → Option (Int × Int)}
    (hm : MRep lt m f) (op : MOp) :
    mapRetOk lt f op (m.step lt op).2 ∧ MRep lt (m.step lt op).1 (mapSpecNext lt f op) := mapStep_refines h hm op

example : MRep ltInt {} (fun _ => none) := MRep.empty

theorem flat_map_refines_from {lt : Int → Int → Bool} (h : StrictWeak lt) {m : FMap} {f : Int → Option (Int × Int)}
    (hm : MRep lt m f) (ops : List MOp) :
    MapHist lt f ops (m.run lt ops).2 ∧ MRep lt (m.run lt ops).1 (mapSpecRun lt f ops) := by
  induction ops generalizing m f with
  | nil => exact ⟨trivial, hm⟩
  | cons op ops ih =>
    obtain ⟨a, b⟩ := flat_map_step_refines h hm op
    obtain ⟨c, d⟩ := ih b
    exact ⟨⟨a, c⟩, d⟩

/-- REFINEMENT (clause 3 of C02, flat_map).  For every strict weak order, every initializer list `init`
    (duplicates allowed; `[]` = the default-constructed map) and every history of operator[] (read and
    write), insert, emplace, find, count, at, size, clear and re-initialisation, the answers of flat_map are
    the answers of std::map with the same comparator constructed from the same list, and the final storage
    holds every key once with std::map's entries. -/
theorem flat_map_refines {lt : Int → Int → Bool} (h : StrictWeak lt) (init : List (Int × Int)) (ops : List MOp) :
    MapHist lt (fun k => entry lt k init) ops ((FMap.ofList lt init {}).run lt ops).2 ∧
    MRep lt ((FMap.ofList lt init {}).run lt ops).1 (mapSpecRun lt (fun k => entry lt k init) ops) :=
  flat_map_refines_from h ((ofList_rep h init MRep.empty).ext (by funext k; simp)) ops

/-- what the model answers on a concrete history (the answers `flat_map_refines` speaks about) -/
example : ((FMap.ofList ltInt [(1, 10), (1, 20), (3, 30)] {}).run ltInt
      [.size, .insert 1 99, .index 2, .assign 2 7, .emplace 2 8, .emplace 0 5, .count 1, .at 4, .find 2, .size]).2 =
    [.nat 2, .kv 1 10, .val 0, .unit, .flag false 7, .flag true 5, .nat 1, .throw, .opt (some 7), .nat 4] := by decide

/-- … and with the comparator "smaller last digit": 11 and 21 are one key, the stored key stays 11 -/
example : ((FMap.ofList (fun a b => decide (a.tmod 10 < b.tmod 10)) [(11, 1), (21, 2), (5, 3)] {}).run
      (fun a b => decide (a.tmod 10 < b.tmod 10))
      [.size, .insert 31 9, .assign 41 7, .find 1, .count 21, .emplace 15 0, .at 2, .insert 2 4, .size]).2 =
    [.nat 2, .kv 11 1, .unit, .opt (some 7), .nat 1, .flag false 3, .throw, .kv 2 4, .nat 3] := by decide

/-- INVARIANT: in every reachable state no two stored keys are the same key, hence `count(k) ≤ 1` and
    `size()` = number of distinct keys -/
theorem flat_map_keys_unique {lt : Int → Int → Bool} (h : StrictWeak lt) (init : List (Int × Int)) (ops : List MOp) (k : Int) :
    Distinct lt (keysOf ((FMap.ofList lt init {}).run lt ops).1.st) ∧
    ((FMap.ofList lt init {}).run lt ops).1.count lt k ≤ 1 := by
  have hm := (flat_map_refines h init ops).2
  refine ⟨hm.uniq h, ?_⟩
  rw [FMap.count, count_eq h k _ (hm.uniq h)]
  split <;> omega

/-- flat_map::insert keeps a storage that is strictly increasing by key strictly increasing (since the fix
    'flat_map iterates in key order' operator[] / emplace / the initializer-list constructor insert at the same
    `std::upper_bound` position, see `flat_map_iterates_in_key_order`) -/
theorem flat_map_insert_keeps_sorted {lt : Int → Int → Bool} (h : StrictWeak lt) (m : FMap) (k v : Int)
    (hs : Sorted lt (keysOf m.st)) : Sorted lt (keysOf (m.insert lt k v).1.st) := by
  simp only [FMap.insert, FMap.findEntry_eq]
  cases hf : entry lt k m.st with
  | some w => exact hs
  | none => exact (MRep.insertUb h (f := fun j => entry lt j m.st) ⟨hs, fun _ => rfl⟩ v hf).sorted

example : Sorted ltInt (keysOf (FMap.ofList ltInt [(1, 10), (4, 40)] {}).st) := by decide

/-- ITERATION ORDER (flat_map vs std::map).  In every reachable state — any initializer list, any history of
    operator[] (read / write), insert, emplace, clear, re-initialisation and the read-only operations — the
    storage is strictly increasing by key under the comparator, so `for (it = begin(); it != end(); ++it)` visits
    the entries in std::map's order; the `iter` answer of `flat_map_refines` is exactly this list. -/
theorem flat_map_iterates_in_key_order {lt : Int → Int → Bool} (h : StrictWeak lt) (init : List (Int × Int)) (ops : List MOp) :
    Sorted lt (keysOf ((FMap.ofList lt init {}).run lt ops).1.st) ∧
    ∀ p, p ∈ ((FMap.ofList lt init {}).run lt ops).1.st ↔
      mapSpecRun lt (fun k => entry lt k init) ops p.1 = some p := by
  have hm := (flat_map_refines h init ops).2
  exact ⟨hm.sorted, fun p => by rw [hm.val]; exact entry_self h hm.sorted⟩

example : ((FMap.ofList ltInt [(7, 1), (3, 2)] {}).run ltInt [.assign 5 50, .emplace 1 9, .index 4, .iter]).2.getLast? =
    some (.entries [(1, 9), (3, 2), (4, 0), (5, 50), (7, 1)]) := by decide

/-- before the fix operator[] / emplace / the initializer list appended at the end: `m[5] = 50; m[2] = 20;`
    iterated 5, 2 (std::map: 2, 5), and `operator==` (comparison of the storage vectors) called two maps with the
    same entries different when they were filled in a different order -/
theorem flat_map_order_orig_witness :
    (FMap.runOrig ltInt {} [.assign 5 50, .assign 2 20, .iter]).2 = [.unit, .unit, .entries [(5, 50), (2, 20)]] ∧
    (FMap.run ltInt {} [.assign 5 50, .assign 2 20, .iter]).2 = [.unit, .unit, .entries [(2, 20), (5, 50)]] ∧
    (FMap.runOrig ltInt {} [.assign 5 50, .assign 2 20]).1.eqStorage (FMap.runOrig ltInt {} [.assign 2 20, .assign 5 50]).1 = false ∧
    (FMap.run ltInt {} [.assign 5 50, .assign 2 20]).1.eqStorage (FMap.run ltInt {} [.assign 2 20, .assign 5 50]).1 = true := by
  decide

/-- `flat_map::operator==` (it compares the storage vectors) is std::map's `==` on maps in the invariant: the
    storages are equal exactly when both maps hold the same entry for every key — whatever the histories that
    built them (std::map's == compares the entry sequences in key order, which are the storages) -/
theorem flat_map_eq_is_map_eq {lt : Int → Int → Bool} (h : StrictWeak lt) {m1 m2 : FMap} {f1 f2 : Int → Option (Int × Int)}
    (h1 : MRep lt m1 f1) (h2 : MRep lt m2 f2) : m1.eqStorage m2 = true ↔ f1 = f2 := by
  simp only [FMap.eqStorage, beq_iff_eq]
  exact storage_eq_iff h h1 h2

example : MRep ltInt (FMap.run ltInt {} [.assign 5 50, .assign 2 20]).1 (mapSpecRun ltInt (fun _ => none) [.assign 5 50, .assign 2 20]) :=
  (flat_map_refines_from strictWeak_ltInt MRep.empty _).2

/-- before the fix `flat_map{{1,10},{1,20}}.count(1)` was 2 -/
theorem flat_map_init_dup_orig_witness : (FMap.ofListOrig [(1, 10), (1, 20)]).count ltInt 1 = 2 := by decide

/-- after the fix the first entry of a key wins, like std::map -/
theorem flat_map_init_dup_fixed :
    (FMap.ofList ltInt [(1, 10), (1, 20)] {}).count ltInt 1 = 1 ∧ (FMap.ofList ltInt [(1, 10), (1, 20)] {}).find ltInt 1 = some 10 := by
  decide

/-- b0b1f86 (flat_map ignored its Compare parameter: lookup with ==, insert ordered with <, i.e. the model
    run with std::less whatever the comparator): `flat_map<int,int,ByLastDigit>{{0,10},{10,30}}` kept both
    entries and did not find 20; with the fix the answers are std::map's (`flat_map_refines`) -/
theorem flat_map_ignores_compare_orig_witness :
    ((FMap.ofList ltInt [(0, 10), (10, 30)] {}).run ltInt [.find 20, .count 10, .size]).2 =
      [.opt none, .nat 1, .nat 2] ∧
    ((FMap.ofList (fun a b => decide (a.tmod 10 < b.tmod 10)) [(0, 10), (10, 30)] {}).run
      (fun a b => decide (a.tmod 10 < b.tmod 10)) [.find 20, .count 10, .size]).2 =
      [.opt (some 10), .nat 1, .nat 1] := by decide

/-- ONE OPERATION of flat_set.  If the storage is strictly increasing under the comparator and `S` maps every
    key to the stored element with the same key, the operation answers what std::set answers (count =
    presence of the key, iteration = the stored elements in increasing order, size = their number) and the
    new storage is again strictly increasing and represents std::set's new state. -/
theorem flat_set_step_refines {lt : Int → Int → Bool} (h : StrictWeak lt) {s : FSet} {S : Int → Option Int}
    (hr : SRep lt s S) (op : SOp) :
    setRetOk lt S op (s.step lt op).2 ∧ SRep lt (s.step lt op).1 (setSpecNext lt S op) := by
  have hmem : ∀ j, j ∈ s.st ↔ S j = some j := fun j => by rw [hr.val]; exact lookupBy_self h id (by simpa using hr.sorted)
  cases op with
  | insert k => exact ⟨rfl, SRep.insert h hr k⟩
  | count k => exact ⟨by simp only [FSet.step, setRetOk, SRep.count h hr k], hr⟩
  | size | iter => exact ⟨⟨s.st, hr.sorted, hmem, rfl⟩, hr⟩
  | clear => exact ⟨rfl, SRep.empty⟩

example : SRep ltInt {} (fun _ => none) := SRep.empty

theorem flat_set_refines_from {lt : Int → Int → Bool} (h : StrictWeak lt) {s : FSet} {S : Int → Option Int}
    (hr : SRep lt s S) (ops : List SOp) :
    SetHist lt S ops (s.run lt ops).2 ∧ SRep lt (s.run lt ops).1 (setSpecRun lt S ops) := by
  induction ops generalizing s S with
  | nil => exact ⟨trivial, hr⟩
  | cons op ops ih =>
    obtain ⟨a, b⟩ := flat_set_step_refines h hr op
    obtain ⟨c, d⟩ := ih b
    exact ⟨⟨a, c⟩, d⟩

/-- REFINEMENT (clause 3 of C02, flat_set).  For every strict weak order and every history of insert, count,
    size, clear and iteration from the empty set the answers of flat_set are the answers of std::set with the
    same comparator, and the storage is strictly increasing (invariant) with exactly std::set's elements. -/
theorem flat_set_refines {lt : Int → Int → Bool} (h : StrictWeak lt) (ops : List SOp) :
    SetHist lt (fun _ => none) ops (FSet.run lt {} ops).2 ∧
    SRep lt (FSet.run lt {} ops).1 (setSpecRun lt (fun _ => none) ops) := flat_set_refines_from h SRep.empty ops

example : (FSet.run ltInt {} [.insert 5, .insert 2, .insert 5, .insert 9, .count 5, .count 4, .size, .iter, .clear, .size]).2 =
    [.unit, .unit, .unit, .unit, .nat 1, .nat 0, .nat 3, .keys [2, 5, 9], .unit, .nat 0] := by decide

/-- std::greater<int>: `insert 5, insert 1, count(1)` is 1 (a `count` that bisects with operator< instead of
    the comparator — the seeded change C02-flat-set-count-ignores-comp — answers 0 here) -/
example : (FSet.run (fun a b => decide (b < a)) {} [.insert 5, .insert 1, .count 1, .insert 7, .iter]).2 =
    [.unit, .unit, .nat 1, .unit, .keys [7, 5, 1]] := by decide

/-- 49fec69 (`flat_set(const Compare &comp)` dropped `comp`: the set ordered by a default-constructed
    comparator = the model run with the default direction): with the stateful comparator `Dir`,
    `flat_set<int, Dir> s(Dir(true)); insert 1; insert 2` iterated 1, 2; std::set (and the fixed code, by
    `flat_set_refines` with the descending order) iterates 2, 1 -/
theorem flat_set_comparator_object_orig_witness :
    (FSet.run ltInt {} [.insert 1, .insert 2, .iter]).2 = [.unit, .unit, .keys [1, 2]] ∧
    (FSet.run (fun a b => decide (b < a)) {} [.insert 1, .insert 2, .iter]).2 = [.unit, .unit, .keys [2, 1]] := by decide

/-- "the stored elements in increasing order" is a function of the set: two strictly increasing lists with
    the same elements are equal (so `setRetOk` fixes the answer of `iter` and `size` uniquely) -/
theorem flat_set_enumeration_unique {lt : Int → Int → Bool} (h : StrictWeak lt) (a b : List Int)
    (ha : Sorted lt a) (hb : Sorted lt b) (hab : ∀ j, j ∈ a ↔ j ∈ b) : a = b :=
  pairwise_enum_unique (fun x y => lt x y = true) (fun x hx => by rw [h.irrefl] at hx; cases hx)
    (fun x y h1 h2 => by rw [h.asymm h1] at h2; cases h2) a b ha hb hab

example : Sorted ltInt [2, 5, 9] := by decide

/-! ### flat_set / flat_map OVER THE VECTOR (the storage `_vec` / `storage` is an igris::vector in the compat build)

  `VSet` / `VMap` (FlatVec.lean) are the two containers written on top of the slot model of igris::vector: the
  bisections and the `find_if` / `count_if` loops read the slots of the block (`rd`: a read of memory that holds
  no readable object is a fault), a new entry goes in through the modelled `vector::insert(pos, value)`
  (`emplace`), `clear` / the destruction of the old storage are the modelled member functions.  A `std::pair`
  element is stored as its code under an arbitrary `Coding` with `dec ∘ enc = id` (`Coding.exists_ok`).  The
  simulation lemmas (`vset_run_simulates`, `vmap_run_simulates`) compose the list-level refinement theorems with
  the vector theorems: the statements below are about the containers on the real storage model. -/

/-- COMPOSITION, flat_set.  For every strict weak order and every history from the empty set, flat_set running
    on the slot model of igris::vector never faults (no read of an unconstructed / moved-from element, no access
    outside the block, no construction over an object …), answers exactly what std::set answers (`SetHist`),
    its storage vector represents the strictly increasing list of std::set's elements, and the ledger is
    balanced: constructed − destroyed element objects = number of elements, allocated − freed blocks = 1 if the
    vector holds a block. -/
theorem flat_set_over_vector_refines {lt : Int → Int → Bool} (h : StrictWeak lt) (ops : List SOp) :
    ∃ s' l' rets, VSet.run lt {} {} ops = some (s', l', rets) ∧
      SetHist lt (fun _ => none) ops rets ∧
      ∃ xs, Rep s'.v xs ∧ SRep lt ⟨xs⟩ (setSpecRun lt (fun _ => none) ops) ∧
        l'.net = xs.length ∧ l'.blocks = held s'.v := by
  obtain ⟨s', l', hrun, g⟩ := vset_run_simulates lt (s := {}) (xs := []) Rep.nil {} ops
  obtain ⟨a, b⟩ := flat_set_refines h ops
  exact ⟨s', l', _, hrun, a, _, g.rep, b, g.of_empty⟩

/-- COMPOSITION, flat_map.  The same for flat_map over a vector of (coded) pairs, for every initializer list and
    every history of operator[] (read / write / const), insert, emplace, find, count, at, size, clear,
    re-initialisation and iteration: no fault of the slot model, std::map's answers, the storage vector
    represents the entries in increasing key order, ledger balanced. -/
theorem flat_map_over_vector_refines {lt : Int → Int → Bool} (h : StrictWeak lt) (c : Coding) (hc : c.ok)
    (init : List (Int × Int)) (ops : List MOp) :
    ∃ m' l' rets, VMap.run c lt {} {} (.init init :: ops) = some (m', l', .unit :: rets) ∧
      MapHist lt (fun k => entry lt k init) ops rets ∧
      ∃ xs, Rep m'.v (xs.map c.enc) ∧ MRep lt ⟨xs⟩ (mapSpecRun lt (fun k => entry lt k init) ops) ∧
        l'.net = xs.length ∧ l'.blocks = held m'.v := by
  obtain ⟨m', l', hrun, g⟩ := vmap_run_simulates c hc lt (m := {}) (xs := []) Rep.nil {} (.init init :: ops)
  obtain ⟨a, b⟩ := flat_map_refines h init ops
  have e1 : ((⟨[]⟩ : FMap).run lt (.init init :: ops)).2 = .unit :: ((FMap.ofList lt init {}).run lt ops).2 := by
    simp [FMap.run, FMap.step]
  have e2 : ((⟨[]⟩ : FMap).run lt (.init init :: ops)).1 = ((FMap.ofList lt init {}).run lt ops).1 := by
    simp [FMap.run, FMap.step]
  rw [e1] at hrun
  rw [e2] at g
  exact ⟨m', l', _, hrun, a, _, g.rep, b, by simpa using g.of_empty⟩

example : ∃ c : Coding, c.ok := Coding.exists_ok

/-! ### exceptions thrown by element operations (Exc.lean)

  The element operations that may throw are default / value / copy construction and copy assignment (moves and
  the destructor are `noexcept`, as std::vector itself needs for its strong guarantee).  `stepX portable s fz op`
  is the member function with the fuse `fz`: `some k` = the k-th throwing-capable element operation it executes
  throws.  `throwPoints f op` is the number of such operations (the fuse fires iff `k < throwPoints f op`),
  `specThrow f k op` the contents afterwards.  The theorems are about the code after the fixes 9196070 (copy
  assignment), e5e4d5e (constructors), f7ec6d3 (resize), b2e79ba (range insert); the unrepaired bodies are
  shown as VIOLATIONs by the check (corpus `exc_*.ops`). -/

/-- no fuse: the exception-aware model IS the model of the other theorems -/
theorem no_fuse_is_step (portable : Bool) (s : St) (op : Op) :
    stepX portable s none op = Out.ofOption (step portable s op) :=
  stepX_not_fired_of_size portable s none op (fun r => List.replicate (s.regs r).size 0) (by simp)
    (fun _ h => by cases h)

/-- THE FUSE IS NOT REACHED (it is larger than the number of throwing-capable operations the call executes):
    the operation completes, returns std::vector's return value and leaves std::vector's contents -/
theorem exception_not_fired (portable : Bool) {R : Nat} {s : St} {f : Nat → List Val} (hI : SInv R s f) (op : Op)
    (hR : ∀ r ∈ op.regs, r < R) {f' : Nat → List Val} {ret : Ret} (hs : specStep f op = some (f', ret))
    (fz : Option Nat) (hf : ∀ k, fz = some k → throwPoints f op ≤ k) :
    ∃ s', stepX portable s fz op = .ok (s', ret) ∧ SInv R s' f' :=
  let ⟨s', h1, hI'⟩ := step_refines portable hI op hR hs
  ⟨s', by rw [stepX_not_fired portable hI op fz hf, h1]; rfl, hI'⟩

/-- BASIC GUARANTEE for every member function, STRONG GUARANTEE where std::vector gives it.  Whatever
    throwing-capable element operation of the call throws (`k < throwPoints f op`), the member function is left by
    the exception WITHOUT A FAULT of the slot model (no construction over an object, no destruction / assignment /
    read of memory that holds no object, nothing outside the block) and the state satisfies the full invariant
    again: every vector has size ≤ capacity = block size, exactly the slots below size hold constructed, readable
    (not moved-from) elements, every slot behind is unconstructed; constructed − destroyed objects = Σ sizes
    (nothing leaked, nothing destroyed twice), allocated − freed blocks = vectors holding a block.  The contents
    are `specThrow f k op`: UNCHANGED for push_back / emplace_back / insert(pos, value) / emplace / insert_sorted
    (also with an argument aliasing an element, also at capacity: the reallocation happens after the only
    throwing operation) and resize — the strong guarantee; NO OBJECT for the constructors (the old object of the
    register was destroyed before, the new one never came to exist: no leak); the `k` copies made for copy
    assignment; the elements in front of `pos` followed by the `k` copies made for insert(pos, first, last). -/
theorem exception_safety (portable : Bool) {R : Nat} {s : St} {f : Nat → List Val} (hI : SInv R s f) (op : Op)
    (hR : ∀ r ∈ op.regs, r < R) {f' : Nat → List Val} {ret : Ret} (hs : specStep f op = some (f', ret))
    {k : Nat} (hk : k < throwPoints f op) :
    ∃ s', stepX portable s (some k) op = .threw (s', .throw) ∧ SInv R s' (specThrow f k op) :=
  stepX_fired portable hI op (by rw [opRegs_eq]; exact hR) hs hk

/-- the strong guarantee spelled out: for these operations `specThrow` is the identity -/
theorem strong_guarantee_ops (f : Nat → List Val) (k : Nat) (op : Op)
    (h : (∃ r a, op = .emplaceBack r a) ∨ (∃ r p a, op = .emplace r p a) ∨ (∃ r x, op = .insertSorted r x) ∨
      (∃ r n, op = .resize r n)) : specThrow f k op = f := by
  rcases h with ⟨r, a, rfl⟩ | ⟨r, p, a, rfl⟩ | ⟨r, x, rfl⟩ | ⟨r, n, rfl⟩ <;> rfl

example : ∃ (s : St) (f : Nat → List Val) (f' : Nat → List Val) (ret : Ret), SInv 1 s f ∧
    specStep f (.listCtor 0 [1, 2, 3]) = some (f', ret) ∧ 1 < throwPoints f (.listCtor 0 [1, 2, 3]) :=
  ⟨St.init, fun _ => [], _, _, SInv.init 1, rfl, by decide⟩

/-- HISTORIES WITH EXCEPTIONS.  Any history std::vector accepts, each operation with its own fuse (the caller
    catches the exception and goes on using the vectors): no fault anywhere, every intermediate state satisfies the
    invariant with the contents `runSpecX` predicts — the vectors stay usable — … -/
theorem exception_histories_safe (portable : Bool) {R : Nat} (ops : List (Op × Option Nat))
    (hR : ∀ p ∈ ops, ∀ r ∈ p.1.regs, r < R) {f' : Nat → List Val} (hs : runSpecX (fun _ => []) ops = some f') :
    ∃ s', runX portable St.init ops = some s' ∧ SInv R s' f' :=
  runX_safe portable ops (SInv.init R) (by intro p hp; rw [opRegs_eq]; exact hR p hp) hs

/-- … and destructible: after the destructors every element object ever constructed has been destroyed exactly
    once and every block freed, WHATEVER threw on the way (no leak) -/
theorem exception_no_leak (portable : Bool) (R : Nat) (ops : List (Op × Option Nat))
    (hR : ∀ p ∈ ops, ∀ r ∈ p.1.regs, r < R) {f' : Nat → List Val} (hs : runSpecX (fun _ => []) ops = some f') :
    ∃ s' s'', runX portable St.init ops = some s' ∧ destroyAll s' R = some s'' ∧
      s''.led.made = s''.led.dtor ∧ s''.led.alloc = s''.led.dealloc ∧ ∀ r, r < R → s''.regs r = Vec.empty := by
  obtain ⟨s', h1, hI⟩ := exception_histories_safe portable ops hR hs
  obtain ⟨s'', h2⟩ := destroyAll_balanced hI
  exact ⟨s', s'', h1, h2⟩

example : (runSpecX (fun _ => []) [(.listCtor 0 [1, 2, 3], none), (.insertRange 0 1 (.ext [7, 8, 9]), some 1),
    (.emplaceBack 0 (.own 0), some 0), (.copyAssign 1 0, some 1), (.resize 1 4, some 2)]).isSome = true := by decide

/-! ## allocation failure (Alloc.lean) and comparison under the element's own `==` -/

/-- THE ALLOCATION STEP OF changeBuffer.  `oldcapacity = m_capacity; newbuf = allocate(sz); m_capacity = sz;` in
    this order: when `allocate` throws, the exception leaves changeBuffer with the vector and the ledger exactly
    as they were (nothing has been written yet). -/
theorem changeBuffer_alloc_failure_no_effect (af : AF) (idx : Nat) (v : Vec) (sz : Nat) (l : Ledger)
    {r : Vec × Ledger} (h : changeBufferA false af idx v sz l = .threw r) : r = (v, l) := by
  rw [changeBufferA_eq] at h
  split at h
  · simp at h; exact h.symm
  · exact absurd h (Out.ofOption_ne_threw _ _)

example : changeBufferA false (.kth 0) 0 (vecOf 3 [1, 2, 3]) 4 {} = .threw (vecOf 3 [1, 2, 3], {}) := rfl

/-- … and when it does not throw, the call is the unarmed changeBuffer -/
theorem changeBuffer_alloc_granted (af : AF) (idx : Nat) (v : Vec) (sz : Nat) (l : Ledger)
    (h : af.hit idx sz = false) : changeBufferA false af idx v sz l = .ofOption (changeBuffer v sz l) := by
  rw [changeBufferA_eq]; simp [h]

/-- A FAILED GROWTH HAS NO EFFECT — for every growing operation (reserve, push_back / emplace_back, insert /
    emplace, insert_sorted, insert(pos, first, last), resize), whatever failure is armed, in ANY state (no
    hypothesis): if the call is left by std::bad_alloc, every register is the very record it was — block,
    m_capacity, m_size, all slots — and constructed - destroyed objects and allocated - freed blocks are unchanged
    (the temporary `T tmp(args…)` built before the allocation has been destroyed). -/
theorem alloc_failure_no_effect (portable : Bool) (s : St) (af : AF) (op : Op) (hop : op.growsInPlace = true)
    {s' : St} {r : Ret} (h : stepA false portable s af op = .threw (s', r)) :
    (∀ j, s'.regs j = s.regs j) ∧ s'.led.net = s.led.net ∧ s'.led.blocks = s.led.blocks := by
  have hg := stepA_growing portable s af op hop
  split at hg
  · rcases hg with ⟨h1, _⟩ | ⟨r0, l', h1, hn, hb⟩
    · rw [h1] at h; cases h
    · rw [h1] at h; cases h
      exact ⟨set_self_regs s r0 l', hn, hb⟩
  · rw [hg] at h; exact absurd h (Out.ofOption_ne_threw _ _)

/-- EXACTLY WHEN, AND WHAT ELSE.  In a state of the invariant, for an operation std::vector accepts: the armed
    failure strikes iff the call allocates — the required size exceeds the capacity — and the request is one the
    allocator refuses (`allocFails`, read off sizes and capacities).  If it strikes, the call is left by the
    exception WITHOUT a fault of the slot model, the state still represents the same lists (strong guarantee) and
    is register for register the old one; if it does not, the call IS the unarmed one (to which `step_refines`
    applies). -/
theorem alloc_failure_exact (portable : Bool) {R : Nat} {s : St} {f : Nat → List Val} (hI : SInv R s f) (af : AF)
    (op : Op) (hop : op.growsInPlace = true) (hR : ∀ r ∈ op.regs, r < R)
    {f' : Nat → List Val} {ret : Ret} (hs : specStep f op = some (f', ret)) :
    (allocFails s af op = true →
      ∃ s', stepA false portable s af op = .threw (s', .throw) ∧ SInv R s' f ∧ ∀ j, s'.regs j = s.regs j) ∧
    (allocFails s af op = false → stepA false portable s af op = .ofOption (step portable s op)) := by
  have hg := stepA_growing portable s af op hop
  refine ⟨fun h => ?_, fun h => by rwa [h, if_neg (by decide)] at hg⟩
  obtain ⟨s1, h1, _⟩ := step_refines portable hI op hR hs
  rw [if_pos h] at hg
  rcases hg with ⟨_, hn⟩ | ⟨r0, l', h2, hn, hb⟩
  · rw [h1] at hn; cases hn
  · exact ⟨_, h2, hI.of_same (set_self_regs s r0 l') hn hb, set_self_regs s r0 l'⟩

/-- both regions of `alloc_failure_exact` are inhabited: a full vector refuses to grow, one with room does not
    allocate -/
example : allocFails ⟨fun _ => vecOf 2 [1, 2], {}⟩ (.kth 0) (.emplaceBack 0 (.val 5)) = true ∧
    allocFails ⟨fun _ => vecOf 3 [1, 2], {}⟩ (.kth 0) (.emplaceBack 0 (.val 5)) = false ∧
    allocFails ⟨fun _ => vecOf 2 [1, 2], {}⟩ (.above 4) (.reserve 0 4) = false ∧
    allocFails ⟨fun _ => vecOf 2 [1, 2], {}⟩ (.above 4) (.reserve 0 5) = true := by decide

/-- HISTORIES WITH ALLOCATION FAILURES.  Any history of operations, any of the growing ones armed with an
    allocation failure (k-th allocation of the call, or a bounded allocator), the caller catching std::bad_alloc
    and using the vectors further: no fault anywhere and the final state is in the invariant (size <= capacity =
    block size, exactly the slots below size constructed, ledger balanced) — … -/
theorem alloc_failure_histories_safe (portable : Bool) {R : Nat} (ops : List (Op × Option AF))
    (hA : ∀ p ∈ ops, p.2.isSome = true → p.1.growsInPlace = true) (hR : ∀ p ∈ ops, ∀ r ∈ p.1.regs, r < R)
    {s : St} {f : Nat → List Val} (hI : SInv R s f) (hs : AcceptsA f ops) :
    ∃ s' f', runA false portable s ops = some s' ∧ SInv R s' f' := by
  induction ops generalizing s f with
  | nil => exact ⟨s, f, rfl, hI⟩
  | cons p rest ih =>
    obtain ⟨op, oaf⟩ := p
    obtain ⟨f1, ret, h1, hacc, hfail⟩ := hs
    have hR' : ∀ r ∈ op.regs, r < R := hR (op, oaf) (by simp)
    have ihr := fun {s : St} {f : Nat → List Val} (hI : SInv R s f) (hs : AcceptsA f rest) =>
      ih (fun p hp => hA p (by simp [hp])) (fun p hp => hR p (by simp [hp])) hI hs
    obtain ⟨s1, hs1, hI1⟩ := step_refines portable hI op hR' h1
    cases oaf with
    | none =>
      obtain ⟨s', f', h2, hI2⟩ := ihr hI1 hacc
      exact ⟨s', f', by simp [runA, hs1, h2], hI2⟩
    | some af =>
      have hop : op.growsInPlace = true := hA (op, some af) (by simp) rfl
      obtain ⟨hyes, hno⟩ := alloc_failure_exact portable hI af op hop hR' h1
      cases hf : allocFails s af op with
      | true =>
        obtain ⟨s2, h2, hI2, _⟩ := hyes hf
        obtain ⟨s', f', h3, hI3⟩ := ihr hI2 (hfail rfl)
        exact ⟨s', f', by simp [runA, h2, h3], hI3⟩
      | false =>
        obtain ⟨s', f', h3, hI3⟩ := ihr hI1 hacc
        exact ⟨s', f', by simp [runA, hno hf, hs1, Out.ofOption, h3], hI3⟩

/-- … and after the destructors every element object ever constructed has been destroyed exactly once and every
    block freed, whichever allocations failed on the way -/
theorem alloc_failure_no_leak (portable : Bool) (R : Nat) (ops : List (Op × Option AF))
    (hA : ∀ p ∈ ops, p.2.isSome = true → p.1.growsInPlace = true) (hR : ∀ p ∈ ops, ∀ r ∈ p.1.regs, r < R)
    (hs : AcceptsA (fun _ => []) ops) :
    ∃ s' s'', runA false portable St.init ops = some s' ∧ destroyAll s' R = some s'' ∧
      s''.led.made = s''.led.dtor ∧ s''.led.alloc = s''.led.dealloc ∧ ∀ r, r < R → s''.regs r = Vec.empty := by
  obtain ⟨s', f', h1, hI⟩ := alloc_failure_histories_safe portable ops hA hR (SInv.init R) hs
  obtain ⟨s'', h2⟩ := destroyAll_balanced hI
  exact ⟨s', s'', h1, h2⟩

/-- the hypotheses are satisfiable: push three, a reserve that is refused, push on, insert refused, resize -/
example : AcceptsA (fun _ => []) [(.listCtor 0 [1, 2, 3], none), (.reserve 0 1001, some (.above 1000)),
    (.emplaceBack 0 (.val 4), some (.kth 0)), (.emplace 0 1 (.own 0), some (.kth 0)), (.resize 0 9, none)] :=
  acceptsA_sound (by decide)

/-- WITNESS for the seeded tidy-up `oldcapacity = std::exchange(m_capacity, sz)` in front of the allocation
    (`capFirst = true`): push three elements, a reserve the allocator refuses, one more push_back — std::vector
    accepts the history and the code as it is runs it (incl. the destructors), the variant faults: the failed
    reserve left m_capacity = 1001 over the 3-slot block, so push_back takes the "enough room" path and constructs
    behind the block. -/
theorem changeBuffer_capacity_first_witness :
    let ops : List (Op × Option AF) :=
      [(.listCtor 0 [1, 2, 3], none), (.reserve 0 1001, some (.above 1000)), (.emplaceBack 0 (.val 4), none)]
    AcceptsA (fun _ => []) ops ∧
    (runA true false St.init ops).isNone = true ∧
    ((runA false false St.init ops).bind fun s => destroyAll s 1).isSome = true := by
  exact ⟨acceptsA_sound (by decide), by decide, by decide⟩

/-- the capacity the variant reports after the failed reserve is not the size of the block it owns -/
theorem changeBuffer_capacity_first_breaks_rep :
    changeBufferA true (.above 1000) 0 (vecOf 3 [1, 2, 3]) 1001 {} = .threw ({ vecOf 3 [1, 2, 3] with cap := 1001 }, {}) ∧
    ¬ Rep { vecOf 3 [1, 2, 3] with cap := 1001 } [1, 2, 3] := by
  refine ⟨rfl, ?_⟩
  intro h
  have := h.2
  simp [vecOf] at this

/-- COMPARISON UNDER THE ELEMENT TYPE'S OWN RELATION.  `operator==` of the code (size test, then the loop with the
    element's `!=`) over two represented vectors runs without a fault and answers `listEqBy ne`: equal lengths and
    the element `!=` false at every index — for ANY relation `ne` (not the negation of an equivalence, not even
    irreflexive: a NaN differs from itself, so a vector holding one is unequal to its own copy). -/
theorem vec_eq_is_elementwise (ne : Val → Val → Bool) {a b : Vec} {xs ys : List Val} (ha : Rep a xs) (hb : Rep b ys) :
    vecEqBy ne a b = some (listEqBy ne xs ys) ∧
    (listEqBy ne xs ys = true ↔ xs.length = ys.length ∧ ∀ i, i < xs.length → ne (xs.getD i 0) (ys.getD i 0) = false) :=
  ⟨vecEqBy_ok ne ha hb, listEqBy_iff ne xs ys⟩

/-- with the value inequality as element relation this is the `operator==` of `step_refines` (list equality) -/
theorem vec_eq_by_value_is_list_eq {a b : Vec} {xs ys : List Val} (ha : Rep a xs) (hb : Rep b ys) :
    vecEqBy (fun p q => p != q) a b = some (decide (xs = ys)) := by
  rw [vecEqBy_ok _ ha hb, listEqBy_eq]

/-- WITNESS for the seeded bytewise fast path (`memcmp` for trivially copyable T): with doubles coded 0 = +0.0,
    1 = -0.0, 2 = NaN the element relation says [+0.0] == [-0.0] and [NaN] != [NaN]; the comparison of the
    representations says the opposite both times -/
theorem equality_memcmp_witness :
    let ne : Val → Val → Bool := fun a b => a == 2 || b == 2 || (if a ≤ 1 then 0 else a - 2) != (if b ≤ 1 then 0 else b - 2)
    vecEqBy ne (vecOf 1 [0]) (vecOf 1 [1]) = some true ∧ vecEqBytes Int.toNat (vecOf 1 [0]) (vecOf 1 [1]) = some false ∧
    vecEqBy ne (vecOf 1 [2]) (vecOf 1 [2]) = some false ∧ vecEqBytes Int.toNat (vecOf 1 [2]) (vecOf 1 [2]) = some true := by
  decide

/-- `operator<` UNDER THE ELEMENT TYPE'S OWN `<`.  The `std::lexicographical_compare` loop of the code over
    two represented vectors runs without a fault and answers, for ANY relation `lt` (in particular every strict weak
    order; a double's `<`, which is false whenever a NaN is involved, too): there is a position `k` inside `ys` and not
    behind the end of `xs` in front of which the elements are pairwise equivalent (neither less than the other) and
    at which `xs` ends or holds the smaller element.  The right-hand side is stated on the two lists alone. -/
theorem vec_lt_is_lexicographic (lt : Val → Val → Bool) {a b : Vec} {xs ys : List Val} (ha : Rep a xs) (hb : Rep b ys) :
    ∃ r, vecLtBy lt a b = some r ∧
      (r = true ↔ ∃ k, k ≤ xs.length ∧ k < ys.length ∧
        (∀ i, i < k → lt (xs.getD i 0) (ys.getD i 0) = false ∧ lt (ys.getD i 0) (xs.getD i 0) = false) ∧
        (k = xs.length ∨ lt (xs.getD k 0) (ys.getD k 0) = true)) :=
  ⟨listLtBy lt xs ys, vecLtBy_ok lt ha hb, listLtBy_iff lt xs ys⟩

example : vecLtBy ltInt (vecOf 2 [1, 2]) (vecOf 3 [1, 2, 0]) = some true ∧ vecLtBy ltInt (vecOf 2 [1, 3]) (vecOf 3 [1, 2, 0]) = some false := by
  decide

/-- with the value order of the model's element type this is the `<` of `step_refines` (`List`'s lexicographic order) -/
theorem vec_lt_by_value_is_list_lt {a b : Vec} {xs ys : List Val} (ha : Rep a xs) (hb : Rep b ys) :
    vecLtBy (fun p q => decide (p < q)) a b = some (decide (xs < ys)) := by
  rw [vecLtBy_ok _ ha hb, listLtBy_lt]

/-- A FAILED COPY ASSIGNMENT / CONSTRUCTOR.  The operations that rebuild a vector with one allocation — copy
    assignment from another vector, copy construction, `vector(n)`, the initializer-list / template-range constructor
    (the object in register `d` is destroyed and built anew) — with ANY allocation failure armed, in a state of the
    invariant, for an operation std::vector accepts: the call either completes exactly like the unarmed one (std's
    return value, std's contents), or is left by std::bad_alloc WITHOUT A FAULT in a state that satisfies the full
    invariant again in which register `d` is the EMPTY vector and every other register is the very record it was
    (basic guarantee for copy assignment — `invalidate()` has run, `m_data` / `m_size` / `m_capacity` were not yet
    written —; no object and no leak for a constructor: the delegated-to empty object is destroyed). -/
theorem alloc_failure_rebuild_safe (portable : Bool) {R : Nat} {s : St} {f : Nat → List Val} (hI : SInv R s f) (af : AF)
    (op : Op) {d : Nat} (hop : op.rebuilds = some d) (hR : ∀ r ∈ op.regs, r < R)
    {f' : Nat → List Val} {ret : Ret} (hs : specStep f op = some (f', ret)) :
    (∃ s', stepA false portable s af op = .ok (s', ret) ∧ SInv R s' f') ∨
    (∃ s', stepA false portable s af op = .threw (s', .throw) ∧ SInv R s' (fun j => if j = d then [] else f j) ∧
      s'.regs d = Vec.empty ∧ ∀ j, j ≠ d → s'.regs j = s.regs j) := by
  have hd : d < R := by
    apply hR
    rcases Op.rebuilds_eq_some hop with ⟨src, _, rfl | rfl⟩ | ⟨n, rfl⟩ | ⟨xs, rfl⟩ <;> simp [Op.regs]
  obtain ⟨l0, hinv, _⟩ := invalidate_good (hI.rep d) s.led
  rcases stepA_rebuild portable s af op hop hinv with h | ⟨h1, h2⟩
  · obtain ⟨s1, h3, hI1⟩ := step_refines portable hI op hR hs
    exact Or.inl ⟨s1, by rw [h, h3]; rfl, hI1⟩
  · have hs2 : specStep f (.invalidate d) = some (setL f d [], .unit) := rfl
    obtain ⟨s1, h3, hI1⟩ := step_refines portable hI (.invalidate d) (by intro r hr; simp [Op.regs] at hr; omega) hs2
    rw [h2] at h3; cases h3
    refine Or.inr ⟨_, h1, hI1, by simp [St.set], fun j hj => by simp [St.set, hj]⟩

/-- both outcomes of `alloc_failure_rebuild_safe` occur: `b = a` with the allocation refused leaves `b` empty and `a`
    untouched; with the allocation granted it is the copy -/
example :
    (match stepA false false ⟨fun j => if j = 0 then vecOf 2 [1, 2] else vecOf 1 [7], {}⟩ (.kth 0) (.copyAssign 1 0) with
      | .threw (s', _) => (s'.regs 1).size == 0 && (s'.regs 1).cap == 0 && (s'.regs 1).data.isNone && (s'.regs 0).size == 2
      | _ => false) = true ∧
    (match stepA false false ⟨fun j => if j = 0 then vecOf 2 [1, 2] else vecOf 1 [7], {}⟩ (.kth 1) (.copyAssign 1 0) with
      | .ok (s', _) => (s'.regs 1).size == 2
      | _ => false) = true := by
  decide

/-- `vector(iterator first, const iterator last)` allocates once per push_back that finds the block full: with
    ANY of these allocations failing (the k-th of the call, or a bounded allocator) the constructor either completes
    like the unarmed one or is left by std::bad_alloc without a fault, the partially built vector destroyed and its
    block given back: the state is in the invariant with register `d` empty and every other register untouched. -/
theorem alloc_failure_range_ctor_safe (portable : Bool) {R : Nat} {s : St} {f : Nat → List Val} (hI : SInv R s f) (af : AF)
    (d src a b : Nat) (hd : d < R) (hsrc : src < R)
    {f' : Nat → List Val} {ret : Ret} (hs : specStep f (.rangeCtor d src a b) = some (f', ret)) :
    (∃ s', stepA false portable s af (.rangeCtor d src a b) = .ok (s', ret) ∧ SInv R s' f') ∨
    (∃ s', stepA false portable s af (.rangeCtor d src a b) = .threw (s', .throw) ∧
      SInv R s' (fun j => if j = d then [] else f j) ∧ s'.regs d = Vec.empty ∧ ∀ j, j ≠ d → s'.regs j = s.regs j) := by
  have hs0 := hs
  simp only [specStep] at hs
  split at hs
  · rename_i hc
    obtain ⟨hne, hab, hb⟩ := hc
    obtain ⟨l0, hinv, g0⟩ := invalidate_good (hI.rep d) s.led
    have hread := readRange_ok (hI.rep src) a (b - a) (by omega)
    rcases pushAllA_good af Rep.nil (((f src).drop a).take (b - a)) 0 l0 with ⟨v', l', h2, h3⟩ | ⟨v', zs, l', h2, g2⟩
    · left
      have hstep : step portable s (.rangeCtor d src a b) = some (s.set d v' l', .unit) := by
        simp [step, hne, hinv, rangeCtor, hread, h3]
      obtain ⟨s1, h4, hI1⟩ := step_refines portable hI (.rangeCtor d src a b) (by intro r hr; simp [Op.regs] at hr; omega) hs0
      rw [hstep] at h4
      simp only [Option.some.injEq, Prod.mk.injEq] at h4
      obtain ⟨rfl, rfl⟩ := h4
      exact ⟨_, by simp [stepA, hne, hinv, rangeCtorA, hread, h2], hI1⟩
    · right
      obtain ⟨l2, hinv2, g3⟩ := invalidate_good g2.rep l'
      refine ⟨s.set d Vec.empty l2, by simp [stepA, hne, hinv, rangeCtorA, hread, h2, unwindCtor, hinv2], ?_, by simp [St.set], fun j hj => by simp [St.set, hj]⟩
      exact hI.set hd (g0.trans (g2.trans g3))
  · simp at hs

end Igris.C02
