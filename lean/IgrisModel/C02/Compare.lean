import IgrisModel.C02.Lemmas
import IgrisModel.C02.Alloc
/-!
  C02 — the comparison loops.  `operator==` and `std::lexicographical_compare` are proved once, parametrised by the
  element type's own `!=` / `<` (`eqLoopBy`, `lexLoopBy` of Alloc.lean); the loops of Model.lean on `Int` are the
  instances with the value relations, for which the specifications are list equality and `List`'s order.
-/
namespace Igris.C02

/-- the specification of `operator==` -/
def listEqBy (ne : Val → Val → Bool) : List Val → List Val → Bool
  | [], [] => true
  | x :: xs, y :: ys => !ne x y && listEqBy ne xs ys
  | _, _ => false

/-- `std::lexicographical_compare` as a function on lists -/
def listLtBy (lt : Val → Val → Bool) : List Val → List Val → Bool
  | _, [] => false
  | [], _ :: _ => true
  | x :: xs, y :: ys => if lt x y then true else if lt y x then false else listLtBy lt xs ys

theorem listEqBy_drop (ne : Val → Val → Bool) (xs ys : List Val) (i : Nat) (hx : i < xs.length) (hy : i < ys.length) :
    listEqBy ne (xs.drop i) (ys.drop i) = (!ne (xs.getD i 0) (ys.getD i 0) && listEqBy ne (xs.drop (i + 1)) (ys.drop (i + 1))) := by
  rw [List.drop_eq_getElem_cons hx, List.drop_eq_getElem_cons hy]
  simp [listEqBy, List.getD_eq_getElem?_getD, List.getElem?_eq_getElem hx, List.getElem?_eq_getElem hy]

theorem eqLoopBy_ok (ne : Val → Val → Bool) {a b : Vec} {xs ys : List Val} (ha : Rep a xs) (hb : Rep b ys)
    (hl : xs.length = ys.length) (i n : Nat) (hin : i + n = xs.length) :
    eqLoopBy ne a b i n = some (listEqBy ne (xs.drop i) (ys.drop i)) := by
  induction n generalizing i with
  | zero =>
    have h1 : xs.drop i = [] := List.drop_eq_nil_of_le (by omega)
    have h2 : ys.drop i = [] := List.drop_eq_nil_of_le (by omega)
    simp [eqLoopBy, h1, h2, listEqBy]
  | succ n ih =>
    have hx : i < xs.length := by omega
    have hy : i < ys.length := by omega
    unfold eqLoopBy
    obtain ⟨ba, hda, hrx⟩ := rd_rep ha hx
    obtain ⟨bb, hdb, hry⟩ := rd_rep hb hy
    simp only [hda, hdb, hrx, hry]
    rw [listEqBy_drop ne xs ys i hx hy]
    cases hne : ne (xs.getD i 0) (ys.getD i 0)
    · simp [ih (i + 1) (by omega)]
    · simp

theorem listEqBy_iff (ne : Val → Val → Bool) (xs ys : List Val) :
    listEqBy ne xs ys = true ↔ xs.length = ys.length ∧ ∀ i, i < xs.length → ne (xs.getD i 0) (ys.getD i 0) = false := by
  induction xs generalizing ys with
  | nil => cases ys <;> simp [listEqBy]
  | cons x xs ih => cases ys with
    | nil => simp [listEqBy]
    | cons y ys =>
      simp only [listEqBy, Bool.and_eq_true, Bool.not_eq_true', ih ys, List.length_cons]
      constructor
      · rintro ⟨h0, hl, hi⟩
        refine ⟨by omega, fun i hi' => ?_⟩
        cases i with
        | zero => simpa using h0
        | succ k => simpa using hi k (by omega)
      · rintro ⟨hl, hi⟩
        refine ⟨by simpa using hi 0 (by omega), by omega, fun i hi' => ?_⟩
        simpa using hi (i + 1) (by omega)

theorem vecEqBy_ok (ne : Val → Val → Bool) {a b : Vec} {xs ys : List Val} (ha : Rep a xs) (hb : Rep b ys) :
    vecEqBy ne a b = some (listEqBy ne xs ys) := by
  unfold vecEqBy
  by_cases hl : xs.length = ys.length
  · have := eqLoopBy_ok ne ha hb hl 0 xs.length (by omega)
    simpa [ha.size_eq, hb.size_eq, hl] using this
  · have : listEqBy ne xs ys = false :=
      Bool.eq_false_iff.mpr fun h => hl ((listEqBy_iff ne xs ys).mp h).1
    simp [ha.size_eq, hb.size_eq, hl, this]

theorem listEqBy_eq (xs ys : List Val) : listEqBy (fun p q => p != q) xs ys = decide (xs = ys) := by
  induction xs generalizing ys with
  | nil => cases ys <;> simp [listEqBy]
  | cons x xs ih => cases ys with
    | nil => simp [listEqBy]
    | cons y ys => by_cases hxy : x = y <;> simp [listEqBy, ih ys, hxy]

theorem listLtBy_drop (lt : Val → Val → Bool) (xs ys : List Val) (i : Nat) (hx : i < xs.length) (hy : i < ys.length) :
    listLtBy lt (xs.drop i) (ys.drop i) =
      (if lt (xs.getD i 0) (ys.getD i 0) then true else if lt (ys.getD i 0) (xs.getD i 0) then false
       else listLtBy lt (xs.drop (i + 1)) (ys.drop (i + 1))) := by
  rw [List.drop_eq_getElem_cons hx, List.drop_eq_getElem_cons hy]
  simp [listLtBy, List.getD_eq_getElem?_getD, List.getElem?_eq_getElem hx, List.getElem?_eq_getElem hy]

theorem listLtBy_nil_left (lt : Val → Val → Bool) (ys : List Val) : listLtBy lt [] ys = decide (ys ≠ []) := by
  cases ys <;> simp [listLtBy]

theorem listLtBy_nil_right (lt : Val → Val → Bool) (xs : List Val) : listLtBy lt xs [] = false := by
  cases xs <;> simp [listLtBy]

theorem lexLoopBy_ok (lt : Val → Val → Bool) {a b : Vec} {xs ys : List Val} (ha : Rep a xs) (hb : Rep b ys)
    (i n : Nat) (hin : i + n = min xs.length ys.length) :
    lexLoopBy lt a b i n = some (listLtBy lt (xs.drop i) (ys.drop i)) := by
  induction n generalizing i with
  | zero =>
    unfold lexLoopBy
    rw [ha.size_eq, hb.size_eq]
    by_cases hx : i = xs.length
    · have h1 : xs.drop i = [] := List.drop_eq_nil_of_le (by omega)
      rw [h1, listLtBy_nil_left]
      congr 1
      rw [decide_eq_decide]
      simp only [ne_eq, List.drop_eq_nil_iff]
      omega
    · have hy : i = ys.length := by omega
      have h2 : ys.drop i = [] := List.drop_eq_nil_of_le (by omega)
      rw [h2, listLtBy_nil_right]
      simp [hx]
  | succ n ih =>
    have hx : i < xs.length := by omega
    have hy : i < ys.length := by omega
    unfold lexLoopBy
    obtain ⟨ba, hda, hrx⟩ := rd_rep ha hx
    obtain ⟨bb, hdb, hry⟩ := rd_rep hb hy
    simp only [hda, hdb, hrx, hry]
    rw [listLtBy_drop lt xs ys i hx hy, ih (i + 1) (by omega)]
    cases lt (xs.getD i 0) (ys.getD i 0) <;> cases lt (ys.getD i 0) (xs.getD i 0) <;> simp

theorem vecLtBy_ok (lt : Val → Val → Bool) {a b : Vec} {xs ys : List Val} (ha : Rep a xs) (hb : Rep b ys) :
    vecLtBy lt a b = some (listLtBy lt xs ys) := by
  unfold vecLtBy
  have := lexLoopBy_ok lt ha hb 0 (min xs.length ys.length) (by omega)
  simpa [ha.size_eq, hb.size_eq] using this

/-- what `std::lexicographical_compare` means, without recursion -/
theorem listLtBy_iff (lt : Val → Val → Bool) (xs ys : List Val) :
    listLtBy lt xs ys = true ↔
      ∃ k, k ≤ xs.length ∧ k < ys.length ∧
        (∀ i, i < k → lt (xs.getD i 0) (ys.getD i 0) = false ∧ lt (ys.getD i 0) (xs.getD i 0) = false) ∧
        (k = xs.length ∨ lt (xs.getD k 0) (ys.getD k 0) = true) := by
  induction xs generalizing ys with
  | nil =>
    cases ys with
    | nil => simp [listLtBy]
    | cons y ys =>
      simp only [listLtBy, true_iff]
      exact ⟨0, by simp, by simp, fun i hi => by omega, Or.inl rfl⟩
  | cons x xs ih =>
    cases ys with
    | nil => simp [listLtBy]
    | cons y ys =>
      simp only [listLtBy]
      cases hxy : lt x y with
      | true =>
        simp only [if_true, true_iff]
        exact ⟨0, by simp, by simp, fun i hi => by omega, Or.inr (by simpa using hxy)⟩
      | false =>
        cases hyx : lt y x with
        | true =>
          simp only [Bool.false_eq_true, if_false, if_true, false_iff]
          rintro ⟨k, hk1, hk2, hpre, hat⟩
          cases k with
          | zero =>
            rcases hat with h | h
            · simp at h
            · simp [hxy] at h
          | succ k =>
            have := (hpre 0 (by omega)).2
            simp [hyx] at this
        | false =>
          simp only [Bool.false_eq_true, if_false, ih ys]
          constructor
          · rintro ⟨k, hk1, hk2, hpre, hat⟩
            refine ⟨k + 1, by simp; omega, by simp; omega, fun i hi => ?_, ?_⟩
            · cases i with
              | zero => simp [hxy, hyx]
              | succ j => simpa using hpre j (by omega)
            · rcases hat with h | h
              · exact Or.inl (by simp [h])
              · exact Or.inr (by simpa using h)
          · rintro ⟨k, hk1, hk2, hpre, hat⟩
            cases k with
            | zero =>
              rcases hat with h | h
              · simp at h
              · simp [hxy] at h
            | succ k =>
              refine ⟨k, by simp at hk1; omega, by simp at hk2; omega, fun i hi => ?_, ?_⟩
              · simpa using hpre (i + 1) (by omega)
              · rcases hat with h | h
                · exact Or.inl (by simp at h; omega)
                · exact Or.inr (by simpa using h)

theorem listLtBy_lt (xs ys : List Val) : listLtBy (fun p q => decide (p < q)) xs ys = decide (xs < ys) := by
  induction xs generalizing ys with
  | nil => cases ys <;> simp [listLtBy]
  | cons x xs ih =>
    cases ys with
    | nil => simp [listLtBy]
    | cons y ys =>
      simp only [listLtBy, ih, List.cons_lt_cons_iff]
      by_cases h1 : x < y
      · simp [h1]
      · by_cases h2 : y < x
        · have : x ≠ y := (Int.ne_of_lt h2).symm
          simp [h1, h2, this]
        · have : x = y := Int.le_antisymm (Int.not_lt.mp h2) (Int.not_lt.mp h1)
          subst this
          simp

theorem eqLoop_eq_by (a b : Vec) (i n : Nat) : eqLoop a b i n = eqLoopBy (fun p q => p != q) a b i n := by
  induction n generalizing i with
  | zero => rfl
  | succ n ih =>
    simp only [eqLoop, eqLoopBy, ih, bne_iff_ne]
    rfl

theorem lexLoop_eq_by (a b : Vec) (i n : Nat) :
    lexLoop a b i n = lexLoopBy (fun p q => decide (p < q)) a b i n := by
  induction n generalizing i with
  | zero => rfl
  | succ n ih =>
    simp only [lexLoop, lexLoopBy, ih, decide_eq_true_eq]
    rfl

theorem vecEq_ok {a b : Vec} {xs ys : List Val} (ha : Rep a xs) (hb : Rep b ys) :
    vecEq a b = some (decide (xs = ys)) := by
  rw [← listEqBy_eq, ← vecEqBy_ok _ ha hb]
  simp only [vecEq, vecEqBy, eqLoop_eq_by]

theorem vecLt_ok {a b : Vec} {xs ys : List Val} (ha : Rep a xs) (hb : Rep b ys) :
    vecLt a b = some (decide (xs < ys)) := by
  rw [← listLtBy_lt, ← vecLtBy_ok _ ha hb]
  simp only [vecLt, vecLtBy, lexLoop_eq_by]

end Igris.C02
