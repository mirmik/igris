import IgrisModel.C02.Lemmas
import IgrisModel.C02.Bisect
import IgrisModel.C02.Compare
/-!
  C02 — ONE OPERATION on the registers: if std::vector accepts it in the abstract state, `step` executes it without a
  fault, returns what std::vector returns and keeps the state invariant `SInv` (`step_ok`).  The `…_good` lemma of the
  member function is lifted by `SInv.step_set`, for a constructor by `SInv.step_ctor`: their conclusions repeat the
  clauses of `step` literally, so that they apply by `exact`.
-/
namespace Igris.C02

/-- `Op.regs` of Props.lean (`opRegs_eq`), for the modules that file imports -/
def opRegs : Op → List Nat
  | .emplaceBack r _ | .popBack r | .emplace r _ _ | .insertRange r _ _ | .insertSorted r _ | .erase r _ _
  | .eraseTo r _ | .resize r _ | .reserve r _ | .clear r | .invalidate r | .sizeCtor r _ | .listCtor r _
  | .at r _ | .index r _ | .frontBack r | .iter r => [r]
  | .copyCtor d s | .moveCtor d s | .copyAssign d s | .moveAssign d s | .rangeCtor d s _ _
  | .eq d s | .ne d s | .lt d s => [d, s]

theorem opRegs_head {R : Nat} {op : Op} (hR : ∀ r ∈ opRegs op, r < R) {r : Nat} {t : List Nat}
    (e : opRegs op = r :: t) : r < R := hR r (by simp [e])

theorem SInv.step_set {R : Nat} {s : St} {f : Nat → List Val} (hI : SInv R s f) {r : Nat} (hr : r < R)
    {o : Option (Vec × Ledger)} {xs' : List Val} (ret : Ret)
    (h : ∃ v' l', o = some (v', l') ∧ Good (s.regs r) (f r) s.led v' xs' l') :
    ∃ s', (o.map fun (v, l) => (s.set r v l, ret)) = some (s', ret) ∧ SInv R s' (setL f r xs') := by
  obtain ⟨v', l', rfl, g⟩ := h
  exact ⟨_, rfl, hI.set hr g⟩

theorem SInv.step_ctor {R : Nat} {s : St} {f : Nat → List Val} (hI : SInv R s f) {d : Nat} (hd : d < R)
    {c : Ledger → Option (Vec × Ledger)} {xs' : List Val}
    (h : ∀ l, ∃ v' l', c l = some (v', l') ∧ Good Vec.empty [] l v' xs' l') :
    ∃ s', (match invalidate (s.regs d) s.led with
      | none => none
      | some (_, l) => (c l).map fun (v, l) => (s.set d v l, Ret.unit)) = some (s', .unit) ∧
      SInv R s' (setL f d xs') := by
  obtain ⟨l1, h1, g1⟩ := invalidate_good (hI.rep d) s.led
  obtain ⟨v2, l2, h2, g2⟩ := h l1
  exact ⟨_, by simp [h1, h2], hI.set hd (g1.trans g2)⟩

theorem step_ok (portable : Bool) {R : Nat} {s : St} {f : Nat → List Val} (hI : SInv R s f) (op : Op)
    (hR : ∀ r ∈ opRegs op, r < R)
    {f' : Nat → List Val} {ret : Ret} (hs : specStep f op = some (f', ret)) :
    ∃ s', step portable s op = some (s', ret) ∧ SInv R s' f' := by
  cases op with
  | emplaceBack r a =>
    simp only [specStep, Option.map_eq_some_iff] at hs
    obtain ⟨x, hx, he⟩ := hs; cases he
    exact hI.step_set (opRegs_head hR rfl) _ (emplaceBack_good (hI.rep r) hx s.led)
  | popBack r =>
    simp only [specStep] at hs
    split at hs
    · cases hs
    · rename_i hne; cases hs
      exact hI.step_set (opRegs_head hR rfl) _ (popBack_good (hI.rep r) hne s.led)
  | emplace r pos a =>
    simp only [specStep] at hs
    split at hs
    · rename_i hp
      simp only [Option.map_eq_some_iff] at hs
      obtain ⟨x, hx, he⟩ := hs; cases he
      exact hI.step_set (opRegs_head hR rfl) _ (emplace_good (hI.rep r) hp hx s.led)
    · cases hs
  | insertRange r pos src =>
    simp only [specStep] at hs
    split at hs
    · rename_i hp
      simp only [Option.map_eq_some_iff] at hs
      obtain ⟨ys, hy, he⟩ := hs; cases he
      exact hI.step_set (opRegs_head hR rfl) _ (insertRange_good (hI.rep r) hp hy s.led)
    · cases hs
  | insertSorted r x =>
    simp only [specStep] at hs
    split at hs
    · rename_i hp; cases hs
      obtain ⟨v', l', h1, g⟩ := insertSorted_good (hI.rep r) hp x s.led
      exact ⟨_, by simp [step, h1], hI.set (opRegs_head hR rfl) g⟩
    · cases hs
  | erase r a b =>
    simp only [specStep] at hs
    split at hs
    · rename_i hp; cases hs
      exact hI.step_set (opRegs_head hR rfl) _ (erase_good (hI.rep r) hp.1 hp.2 s.led)
    · cases hs
  | eraseTo r k =>
    simp only [specStep] at hs
    split at hs
    · rename_i hp; cases hs
      exact hI.step_set (opRegs_head hR rfl) _ (eraseTo_good (hI.rep r) hp s.led)
    · cases hs
  | resize r n =>
    cases hs
    exact hI.step_set (opRegs_head hR rfl) _ (resize_good (hI.rep r) n s.led)
  | reserve r n =>
    cases hs
    obtain ⟨v', l', h1, _, g⟩ := reserve_good (hI.rep r) n s.led
    have := hI.step_set (opRegs_head hR rfl) .unit ⟨v', l', h1, g⟩
    rwa [setL_self] at this
  | clear r =>
    cases hs
    exact hI.step_set (opRegs_head hR rfl) _ (clear_good (hI.rep r) s.led)
  | invalidate r =>
    cases hs
    obtain ⟨l', h1, g⟩ := invalidate_good (hI.rep r) s.led
    exact hI.step_set (opRegs_head hR rfl) _ ⟨_, l', h1, g⟩
  | copyCtor d src =>
    simp only [specStep] at hs
    split at hs
    · cases hs
    · rename_i hne; cases hs
      simp only [step, if_neg hne]
      exact hI.step_ctor (opRegs_head hR rfl) (fun l => copyCtor_good portable (hI.rep src) l)
  | moveCtor d src =>
    simp only [specStep] at hs
    split at hs
    · cases hs
    · rename_i hne; cases hs
      obtain ⟨l1, h1, g1⟩ := invalidate_good (hI.rep d) s.led
      exact ⟨(s.set src Vec.empty l1).set d (s.regs src) l1, by simp [step, hne, h1],
        hI.move hne (opRegs_head hR rfl) (hR src (by simp [opRegs])) g1⟩
  | copyAssign d src =>
    cases hs
    by_cases he : d = src
    · subst he
      exact ⟨s, by simp [step], by rw [setL_self]; exact hI⟩
    · simp only [step, if_neg he]
      exact hI.step_set (opRegs_head hR rfl) _ (copyAssign_good (hI.rep d) (hI.rep src) s.led)
  | moveAssign d src =>
    simp only [specStep] at hs
    split at hs
    · rename_i he; cases hs; subst he
      exact ⟨s, by simp [step], hI⟩
    · rename_i hne; cases hs
      obtain ⟨l1, h1, g1⟩ := invalidate_good (hI.rep d) s.led
      exact ⟨(s.set src Vec.empty l1).set d (s.regs src) l1, by simp [step, hne, moveAssign, h1],
        hI.move hne (opRegs_head hR rfl) (hR src (by simp [opRegs])) g1⟩
  | rangeCtor d src a b =>
    simp only [specStep] at hs
    split at hs
    · rename_i hp; cases hs
      simp only [step, if_neg hp.1]
      exact hI.step_ctor (opRegs_head hR rfl) (fun l => rangeCtor_good (hI.rep src) hp.2.1 hp.2.2 l)
    · cases hs
  | sizeCtor d n =>
    cases hs
    exact hI.step_ctor (opRegs_head hR rfl) (sizeCtor_good n)
  | listCtor d xs =>
    cases hs
    exact hI.step_ctor (opRegs_head hR rfl) (listCtor_good xs)
  | eq a b | ne a b =>
    cases hs
    exact ⟨s, by simp [step, vecEq_ok (hI.rep a) (hI.rep b)], hI⟩
  | lt a b =>
    cases hs
    exact ⟨s, by simp [step, vecLt_ok (hI.rep a) (hI.rep b)], hI⟩
  | «at» r i =>
    cases hs
    exact ⟨s, by simp [step, vecAt_ok (hI.rep r)], hI⟩
  | index r i =>
    simp only [specStep, Option.map_eq_some_iff] at hs
    obtain ⟨x, hx, he⟩ := hs; cases he
    obtain ⟨hi, -⟩ := List.getElem?_eq_some_iff.mp hx
    refine ⟨s, ?_, hI⟩
    simp [step, vecIdx_ok (hI.rep r) hi, List.getD_eq_getElem?_getD, hx]
  | frontBack r =>
    simp only [specStep] at hs
    split at hs
    · rename_i x y hx hy; cases hs
      have hne : f r ≠ [] := by intro h; simp [h] at hx
      have hpos : 0 < (f r).length := List.length_pos_iff.mpr hne
      refine ⟨s, ?_, hI⟩
      have h0 := vecIdx_ok (hI.rep r) hpos
      have h1 := vecIdx_ok (hI.rep r) (show (f r).length - 1 < (f r).length by omega)
      have e0 : (f r).getD 0 0 = x := by
        rw [List.head?_eq_getElem?] at hx; simp [List.getD_eq_getElem?_getD, hx]
      have e1 : (f r).getD ((f r).length - 1) 0 = y := by
        rw [List.getLast?_eq_getElem?] at hy; simp [List.getD_eq_getElem?_getD, hy]
      simp only [List.getD_eq_getElem?_getD] at e0 e1
      simp [step, (hI.rep r).size_eq, h0, h1, e0, e1]
    · cases hs
  | iter r =>
    cases hs
    exact ⟨s, by simp [step, contents_ok (hI.rep r)], hI⟩

end Igris.C02
