import IgrisModel.C17.Gf2Lemmas
namespace Igris.C17

/-! GF(2)[X] as coefficient lists, LOWEST degree first; trailing `false`s are insignificant,
    so polynomials are compared coefficient-wise (`coeff`). -/
def coeff (p : List Bool) (i : Nat) : Bool := p.getD i false
def padd : List Bool → List Bool → List Bool
  | [], q => q
  | p, [] => p
  | a :: p, b :: q => (a != b) :: padd p q
def pmul : List Bool → List Bool → List Bool
  | [], _ => []
  | a :: p, q => padd (if a then q else []) (false :: pmul p q)
/-- coefficient of X^i of a HIGHEST-first list (the convention of Gf2.lean) -/
def hcoeff (l : List Bool) (i : Nat) : Bool := coeff l.reverse i
def Monic (g : List Bool) (w : Nat) : Prop := coeff g w = true ∧ ∀ i, w < i → coeff g i = false
def DegLt (r : List Bool) (w : Nat) : Prop := ∀ i, w ≤ i → coeff r i = false

@[simp] theorem coeff_nil (i : Nat) : coeff [] i = false := by simp [coeff]
@[simp] theorem coeff_cons_zero (a : Bool) (p : List Bool) : coeff (a :: p) 0 = a := by simp [coeff]
@[simp] theorem coeff_cons_succ (a : Bool) (p : List Bool) (i : Nat) :
    coeff (a :: p) (i + 1) = coeff p i := by simp [coeff]

theorem padd_nil_right (p : List Bool) : padd p [] = p := by cases p <;> rfl

theorem coeff_padd (p q : List Bool) (i : Nat) : coeff (padd p q) i = (coeff p i != coeff q i) := by
  induction p generalizing q i with
  | nil => simp [padd]
  | cons a p ih =>
    cases q with
    | nil => simp [padd]
    | cons b q =>
      cases i with
      | zero => simp [padd]
      | succ i => simp [padd, ih]

@[simp] theorem pmul_nil (g : List Bool) : pmul [] g = [] := rfl

theorem coeff_pmul_cons_zero (a : Bool) (p g : List Bool) :
    coeff (pmul (a :: p) g) 0 = (a && coeff g 0) := by
  simp only [pmul, coeff_padd, coeff_cons_zero]
  cases a <;> simp

theorem coeff_pmul_cons_succ (a : Bool) (p g : List Bool) (i : Nat) :
    coeff (pmul (a :: p) g) (i + 1) = ((a && coeff g (i + 1)) != coeff (pmul p g) i) := by
  simp only [pmul, coeff_padd, coeff_cons_succ]
  cases a <;> simp

theorem coeff_pmul_padd : ∀ (q q' g : List Bool) (i : Nat),
    coeff (pmul (padd q q') g) i = (coeff (pmul q g) i != coeff (pmul q' g) i)
  | [], _, _, _ => by simp [padd]
  | _ :: _, [], _, _ => by simp [padd]
  | a :: p, b :: p', g, 0 => by
    simp only [padd, coeff_pmul_cons_zero]
    cases a <;> cases b <;> simp
  | a :: p, b :: p', g, i + 1 => by
    simp only [padd, coeff_pmul_cons_succ, coeff_pmul_padd p p' g i]
    cases a <;> cases b <;> cases coeff g (i + 1) <;> cases coeff (pmul p g) i <;>
      cases coeff (pmul p' g) i <;> rfl

/-! ## `pmul` is the product of polynomials (convolution of the coefficients) -/

def xorSum (f : Nat → Bool) : Nat → Bool
  | 0 => false
  | n + 1 => (xorSum f n != f n)

theorem xorSum_false (n : Nat) : xorSum (fun _ => false) n = false := by
  induction n with
  | zero => rfl
  | succ n ih => simp [xorSum, ih]

theorem xorSum_peel (f : Nat → Bool) (n : Nat) :
    xorSum f (n + 1) = (f 0 != xorSum (fun j => f (j + 1)) n) := by
  induction n with
  | zero => simp [xorSum]
  | succ n ih =>
    rw [xorSum, ih, xorSum]
    cases f 0 <;> cases xorSum (fun j => f (j + 1)) n <;> cases f (n + 1) <;> rfl

theorem coeff_pmul_conv (p q : List Bool) (i : Nat) :
    coeff (pmul p q) i = xorSum (fun j => coeff p j && coeff q (i - j)) (i + 1) := by
  induction p generalizing i with
  | nil => simp [xorSum_false]
  | cons a p ih =>
    cases i with
    | zero => simp [coeff_pmul_cons_zero, xorSum]
    | succ i =>
      rw [coeff_pmul_cons_succ, ih, xorSum_peel (fun j => coeff (a :: p) j && coeff q (i + 1 - j))]
      simp [Nat.add_sub_add_right]

theorem coeff_pmul_of_zero (q g : List Bool) (hq : ∀ i, coeff q i = false) (j : Nat) : coeff (pmul q g) j = false := by
  rw [coeff_pmul_conv]; simp only [hq, Bool.false_and]; exact xorSum_false _

theorem coeff_zero_or (p : List Bool) : (∀ i, coeff p i = false) ∨ ∃ i, coeff p i = true := by
  by_cases h : ∃ i, coeff p i = true
  · exact .inr h
  · exact .inl fun i => by
      cases hc : coeff p i with
      | false => rfl
      | true => exact absurd ⟨i, hc⟩ h

theorem pmul_monic_high (g : List Bool) (w : Nat) (hg : Monic g w) (q : List Bool)
    (hq : ∃ i, coeff q i = true) : ∃ j, w ≤ j ∧ coeff (pmul q g) j = true := by
  induction q with
  | nil => obtain ⟨i, hi⟩ := hq; simp at hi
  | cons a p ih =>
    rcases coeff_zero_or p with hp0 | hp
    · have ha : a = true := by
        obtain ⟨i, hi⟩ := hq
        cases i with
        | zero => simpa using hi
        | succ i => rw [coeff_cons_succ, hp0 i] at hi; cases hi
      refine ⟨w, Nat.le_refl _, ?_⟩
      cases w with
      | zero => rw [coeff_pmul_cons_zero, ha, hg.1]; rfl
      | succ w => rw [coeff_pmul_cons_succ, ha, hg.1, coeff_pmul_of_zero p g hp0 w]; rfl
    · obtain ⟨j, hj, hc⟩ := ih hp
      exact ⟨j + 1, by omega, by rw [coeff_pmul_cons_succ, hg.2 (j + 1) (by omega), hc]; simp⟩

theorem bne_cross {a b r r' : Bool} (h : (a != r) = (b != r')) : (a != b) = (r != r') := by
  revert h
  cases a <;> cases b <;> cases r <;> cases r' <;> simp

theorem rem_unique (g : List Bool) (w : Nat) (hg : Monic g w) (q q' r r' : List Bool)
    (hr : DegLt r w) (hr' : DegLt r' w)
    (h : ∀ i, coeff (padd (pmul q g) r) i = coeff (padd (pmul q' g) r') i) :
    ∀ i, coeff r i = coeff r' i := by
  have key : ∀ i, coeff (pmul (padd q q') g) i = (coeff r i != coeff r' i) := fun i => by
    rw [coeff_pmul_padd]; exact bne_cross (by simpa only [coeff_padd] using h i)
  intro i
  rcases coeff_zero_or (padd q q') with hz | hd
  · have := key i
    rw [coeff_pmul_of_zero _ g hz i] at this
    exact (bne_eq_false_iff_eq.mp this.symm)
  · obtain ⟨j, hj, hc⟩ := pmul_monic_high g w hg _ hd
    rw [key j, hr j hj, hr' j hj] at hc
    cases hc

theorem hcoeff_nil (i : Nat) : hcoeff [] i = false := by simp [hcoeff]

theorem coeff_snoc (l : List Bool) (a : Bool) (i : Nat) :
    coeff (l ++ [a]) i = if i = l.length then a else coeff l i := by
  induction l generalizing i with
  | nil => cases i <;> simp
  | cons b l ih => cases i <;> simp [ih]

theorem hcoeff_cons (a : Bool) (as : List Bool) (i : Nat) :
    hcoeff (a :: as) i = if i = as.length then a else hcoeff as i := by
  rw [hcoeff, List.reverse_cons, coeff_snoc, List.length_reverse]; rfl

theorem hcoeff_eq (l : List Bool) (i : Nat) : hcoeff l i = l.reverse[i]?.getD false :=
  List.getD_eq_getElem?_getD

theorem hcoeff_ge (l : List Bool) (i : Nat) (h : l.length ≤ i) : hcoeff l i = false := by
  simp [hcoeff_eq, h]

theorem hcoeff_false_cons (as : List Bool) (i : Nat) : hcoeff (false :: as) i = hcoeff as i := by
  rw [hcoeff_cons]
  split
  · rename_i hi; rw [hi, hcoeff_ge as _ (Nat.le_refl _)]
  · rfl

theorem hcoeff_map_range (f : Nat → Bool) (w i : Nat) :
    hcoeff ((List.range w).map f) i = (decide (i < w) && f (w - 1 - i)) := by
  rw [hcoeff_eq]
  by_cases h : i < w
  · rw [List.getElem?_reverse (by simpa using h)]
    simp [h, show w - 1 - i < w by omega]
  · rw [List.getElem?_eq_none (by simp; omega)]
    simp [h]

theorem hcoeff_append_zeros (msg : List Bool) (w i : Nat) :
    hcoeff (msg ++ List.replicate w false) i = (decide (w ≤ i) && hcoeff msg (i - w)) := by
  simp only [hcoeff_eq, List.reverse_append, List.reverse_replicate]
  by_cases h : w ≤ i
  · simp [h, List.getElem?_append_right]
  · simp [h, List.getElem?_append_left, Nat.lt_of_not_le h]

theorem hcoeff_xorFront : ∀ (as p : List Bool) (i : Nat), as.length = p.length →
    hcoeff (xorFront as p) i = (hcoeff as i != hcoeff p i)
  | [], [], i, _ => by simp [xorFront, hcoeff_nil]
  | a :: as, b :: p, i, h => by
    have hl : as.length = p.length := by simpa using h
    simp only [xorFront, hcoeff_cons, xorFront_length, hcoeff_xorFront as p i hl, ← hl]
    split <;> rfl

theorem coeff_pmul_monomial (k : Nat) (g : List Bool) (i : Nat) :
    coeff (pmul (List.replicate k false ++ [true]) g) i = (decide (k ≤ i) && coeff g (i - k)) := by
  induction k generalizing i with
  | zero =>
    cases i with
    | zero => simp [coeff_pmul_cons_zero]
    | succ i => simp [coeff_pmul_cons_succ]
  | succ k ih =>
    rw [List.replicate_succ, List.cons_append]
    cases i with
    | zero => simp [coeff_pmul_cons_zero]
    | succ i => simp [coeff_pmul_cons_succ, ih]

/-- one division step: `X^|as| + as = X^k·G + (as + X^k·p)` with `k = |as| - |p|` -/
theorem hcoeff_divStep (p as : List Bool) (h : p.length ≤ as.length) (i : Nat) :
    hcoeff (true :: as) i =
      (coeff (pmul (List.replicate (as.length - p.length) false ++ [true]) (true :: p).reverse) i
        != hcoeff (xorFront as p) i) := by
  have hl : (p ++ List.replicate (as.length - p.length) false).length = as.length := by simp; omega
  rw [coeff_pmul_monomial, show coeff (true :: p).reverse = hcoeff (true :: p) from rfl, ← hcoeff_append_zeros,
    ← xorFront_pad as p (as.length - p.length), hcoeff_xorFront _ _ _ hl.symm, List.cons_append,
    hcoeff_cons, hcoeff_cons, hl]
  split
  · rename_i hi; simp [hi, hcoeff_ge, hl]
  · cases hcoeff as i <;> cases hcoeff (p ++ List.replicate (as.length - p.length) false) i <;> rfl

/-- `a = q·G + r` with `G = X^w + p`, and `r` has `min |a| w` coefficients -/
theorem polyModF_rem (p : List Bool) : ∀ (fuel : Nat) (a : List Bool), a.length ≤ fuel →
    (∃ q, ∀ i, hcoeff a i = (coeff (pmul q (true :: p).reverse) i != hcoeff (polyModF (true :: p) fuel a) i)) ∧
      (polyModF (true :: p) fuel a).length = min a.length p.length
  | 0, a, h => by
    rw [List.length_eq_zero_iff.mp (Nat.le_zero.mp h)]
    exact ⟨⟨[], fun i => by simp [polyModF]⟩, by simp [polyModF]⟩
  | _ + 1, [], _ => ⟨⟨[], fun i => by simp [polyModF]⟩, by simp [polyModF]⟩
  | f + 1, a0 :: as, h => by
    have hf : as.length ≤ f := by simpa using h
    simp only [polyModF, List.length_cons, List.tail_cons]
    by_cases hlt : as.length + 1 < p.length + 1
    · rw [if_pos hlt]
      exact ⟨⟨[], fun i => by simp⟩, by simp only [List.length_cons]; omega⟩
    · rw [if_neg hlt]
      cases a0 with
      | false =>
        obtain ⟨⟨q', hq'⟩, hl⟩ := polyModF_rem p f as hf
        exact ⟨⟨q', fun i => by rw [if_neg Bool.false_ne_true, hcoeff_false_cons, hq' i]⟩,
          by rw [if_neg Bool.false_ne_true, hl]; omega⟩
      | true =>
        obtain ⟨⟨q', hq'⟩, hl⟩ := polyModF_rem p f (xorFront as p) (by rw [xorFront_length]; exact hf)
        refine ⟨⟨padd (List.replicate (as.length - p.length) false ++ [true]) q', fun i => ?_⟩, ?_⟩
        · rw [if_pos rfl, coeff_pmul_padd, hcoeff_divStep p as (by omega), hq' i, Bool.bne_assoc]
        · rw [if_pos rfl, hl, xorFront_length]; omega

theorem polyMod_rem (p a : List Bool) :
    (∃ q, ∀ i, hcoeff a i = (coeff (pmul q (true :: p).reverse) i != hcoeff (polyMod (true :: p) a) i)) ∧
      (polyMod (true :: p) a).length = min a.length p.length :=
  polyModF_rem p a.length a (Nat.le_refl _)

theorem monic_gen (p : List Bool) : Monic (true :: p).reverse p.length := by
  constructor
  · show hcoeff (true :: p) p.length = true
    rw [hcoeff_cons]; simp
  · intro i hi
    show hcoeff (true :: p) i = false
    rw [hcoeff_cons, if_neg (by omega), hcoeff_ge p i (by omega)]

theorem degLt_reverse (l : List Bool) (w : Nat) (h : l.length ≤ w) : DegLt l.reverse w := by
  intro i hi
  exact hcoeff_ge l i (by omega)

theorem eq_of_hcoeff (r r' : List Bool) (hl : r.length = r'.length)
    (h : ∀ i, hcoeff r i = hcoeff r' i) : r = r' := by
  apply List.reverse_inj.mp
  apply List.ext_getElem
  · simpa using hl
  · intro i h1 h2
    have hi := h i
    rw [hcoeff_eq, hcoeff_eq] at hi
    rw [List.getElem?_eq_getElem h1, List.getElem?_eq_getElem h2] at hi
    simpa using hi

theorem polyMod_unique (p a r : List Bool) (hl : r.length = min a.length p.length)
    (h : ∃ q, ∀ i, hcoeff a i = (coeff (pmul q (true :: p).reverse) i != hcoeff r i)) :
    r = polyMod (true :: p) a := by
  obtain ⟨q, hq⟩ := h
  obtain ⟨⟨q', hq'⟩, hlen⟩ := polyMod_rem p a
  apply eq_of_hcoeff _ _ (by rw [hl, hlen])
  apply rem_unique (true :: p).reverse p.length (monic_gen p) q q' r.reverse
    (polyMod (true :: p) a).reverse
    (degLt_reverse _ _ (by omega)) (degLt_reverse _ _ (by omega))
  intro i
  rw [coeff_padd, coeff_padd]
  exact (hq i).symm.trans (hq' i)

/-- SPECIFICATION (no division algorithm, no register, no table): `r` is a list of `w = |p|` coefficients and there
is a quotient `q` with  `M(X)·X^w + init(X)·X^|M| = q(X)·(X^w + p(X)) + r(X)`  coefficient by coefficient over
GF(2) (`!=` is the addition; `msg`, `init`, `p`, `r` highest coefficient first, `q` lowest first). -/
def IsCrcRemainder (p init msg r : List Bool) : Prop :=
  r.length = p.length ∧ ∃ q, ∀ i,
    ((decide (p.length ≤ i) && hcoeff msg (i - p.length)) != (decide (msg.length ≤ i) && hcoeff init (i - msg.length)))
      = (coeff (pmul q (true :: p).reverse) i != hcoeff r i)

theorem hcoeff_dividend (p init msg : List Bool) (hi : init.length = p.length) (i : Nat) :
    hcoeff (xorFront (msg ++ List.replicate p.length false) init) i =
      ((decide (p.length ≤ i) && hcoeff msg (i - p.length)) != (decide (msg.length ≤ i) && hcoeff init (i - msg.length))) := by
  rw [← xorFront_pad _ init msg.length, hcoeff_xorFront _ _ _ (by simp [hi, Nat.add_comm]), hcoeff_append_zeros,
    hcoeff_append_zeros]

end Igris.C17
