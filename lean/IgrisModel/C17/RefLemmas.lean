/-
  C17 — every byte (word) step of crc.c is the reference shift register of
  Ref.lean.  The one idea: a register consumes a message bit by xoring it into
  its leading bit and clocking once, so feeding the first `n` bits of `m` is
  xoring `m` in and clocking `n` times (`refMsb_feed`, `refLsb_feed`), and the
  register's own leading `n` bits can be taken out the same way
  (`refMsb_table`: the table-driven CRC).  The reflected register is the normal
  one seen in a mirror (`refBitLsb_reverse`), so its lemmas are the normal ones
  transported.  What is left per routine is reading its C test as "leading bit
  set" and, for the two tables and the `x ^= x >> 4` trick of `igris_crc16`,
  one evaluation over the table's index (for CRC-7, two over the 7-bit register).
-/
import IgrisModel.C17.Ref
import IgrisModel.C17.Lemmas
namespace Igris.C17
open Igris.Proto

theorem refBitMsb_eq {w : Nat} (poly r : BitVec w) (b : Bool) :
    refBitMsb poly r b = (r <<< 1) ^^^ (if (r.msb != b) then poly else 0#w) := by
  cases h : (r.msb != b) <;> simp [refBitMsb, h]

theorem feedback_bne {w : Nat} (poly : BitVec w) (a b c d : Bool) :
    (if ((a ^^ b) != (c ^^ d)) then poly else 0#w)
      = (if (a != c) then poly else 0#w) ^^^ (if (b != d) then poly else 0#w) := by
  cases a <;> cases b <;> cases c <;> cases d <;> simp

theorem refBitMsb_lin {w : Nat} (poly r1 r2 : BitVec w) (b1 b2 : Bool) :
    refBitMsb poly (r1 ^^^ r2) (b1 ^^ b2) = refBitMsb poly r1 b1 ^^^ refBitMsb poly r2 b2 := by
  simp only [refBitMsb_eq, BitVec.msb_xor, BitVec.shiftLeft_xor_distrib, feedback_bne]
  ac_rfl

/-- Feeding the leading `n` bits of `m` = xoring `m` into the register and
clocking `n` zero bits; `m <<< n` is the part of `m` not yet consumed. -/
theorem refMsb_feed {w : Nat} (poly r m : BitVec w) (n : Nat) :
    ((List.range n).map m.getMsbD).foldl (refBitMsb poly) r ^^^ (m <<< n)
      = (List.replicate n false).foldl (refBitMsb poly) (r ^^^ m) := by
  induction n with
  | zero => simp
  | succ n ih =>
    rw [List.range_succ, List.map_append, List.foldl_append, List.replicate_succ', List.foldl_append, ← ih]
    simp only [List.map_cons, List.map_nil, List.foldl_cons, List.foldl_nil, refBitMsb_eq, BitVec.msb_xor,
      BitVec.shiftLeft_xor_distrib, BitVec.msb_shiftLeft, ← BitVec.shiftLeft_add, Bool.bne_false]
    ac_rfl

/-- The table-driven CRC, `crc = (crc << n) ^ T[(crc >> (w-n)) ^ m]` with
`T[x]` = the zero register after the `n` bits `x`: any width, any polynomial. -/
theorem refMsb_table {w : Nat} (poly r m : BitVec w) (n : Nat) :
    ((List.range n).map m.getMsbD).foldl (refBitMsb poly) r
      = (r <<< n) ^^^ ((List.range n).map (r ^^^ m).getMsbD).foldl (refBitMsb poly) 0#w := by
  have h := refMsb_feed poly 0#w (r ^^^ m) n
  rw [BitVec.zero_xor, ← refMsb_feed poly r m n, BitVec.shiftLeft_xor_distrib] at h
  apply (BitVec.xor_left_inj (m <<< n)).mp
  rw [← h]; ac_rfl

theorem foldl_replicate_false {α : Type} (f : α → Bool → α) (n : Nat) (x : α) :
    (List.replicate n false).foldl f x = iter (f · false) n x := by
  induction n generalizing x with
  | zero => rfl
  | succ n ih => rw [List.replicate_succ, List.foldl_cons, ih]; rfl

/-- The reference register after the eight bits of one message byte.  `refMsb` and `refLsb` fold these over the bytes
(`refMsb_eq_foldl`, `refLsb_eq_foldl`), so a routine equals its reference once its byte step is one of them. -/
def refByteMsb {w : Nat} (poly reg : BitVec w) (b : Byte) : BitVec w :=
  (bitsMsbFirst b).foldl (refBitMsb poly) reg

def refByteLsb {w : Nat} (poly reg : BitVec w) (b : Byte) : BitVec w :=
  (bitsLsbFirst b).foldl (refBitLsb poly) reg

theorem refMsb_eq_foldl (w : Nat) (poly seed : BitVec w) (data : List Byte) :
    refMsb w poly seed data = data.foldl (refByteMsb poly) seed := by
  rw [refMsb, List.foldl_flatMap]; rfl

theorem refLsb_eq_foldl {w : Nat} (poly seed : BitVec w) (data : List Byte) :
    refLsb poly seed data = data.foldl (refByteLsb poly) seed := by
  rw [refLsb, List.foldl_flatMap]; rfl

theorem msbBits8 {w : Nat} (m : BitVec w) : (List.range 8).map m.getMsbD =
    [m.getMsbD 0, m.getMsbD 1, m.getMsbD 2, m.getMsbD 3, m.getMsbD 4, m.getMsbD 5, m.getMsbD 6, m.getMsbD 7] := rfl

theorem bitsMsbFirst_eq (c : Byte) : bitsMsbFirst c = (List.range 8).map c.getMsbD := by
  simp [msbBits8, bitsMsbFirst, BitVec.getMsbD]

theorem bitsLsbFirst_eq (c : Byte) : bitsLsbFirst c = (List.range 8).map c.getLsbD := rfl

theorem refMsb_feed_all {w : Nat} (poly r m : BitVec w) :
    ((List.range w).map m.getMsbD).foldl (refBitMsb poly) r = iter (refBitMsb poly · false) w (r ^^^ m) := by
  rw [← foldl_replicate_false, ← refMsb_feed, BitVec.shiftLeft_eq_zero (Nat.le_refl w), BitVec.xor_zero]

theorem refByteMsb8 (poly r c : Byte) : refByteMsb poly r c = iter (refBitMsb poly · false) 8 (r ^^^ c) := by
  rw [refByteMsb, bitsMsbFirst_eq, refMsb_feed_all]

theorem reverse_xor {w : Nat} (x y : BitVec w) : (x ^^^ y).reverse = x.reverse ^^^ y.reverse := by
  ext i hi; simp [BitVec.getElem_reverse]

theorem reverse_ushiftRight {w : Nat} (x : BitVec w) (n : Nat) : (x >>> n).reverse = x.reverse <<< n := by
  ext i hi
  simpa [BitVec.getElem_reverse, BitVec.getMsbD_ushiftRight, BitVec.getElem_shiftLeft] using fun _ _ => hi

theorem reverse_inj {w : Nat} {x y : BitVec w} (h : x.reverse = y.reverse) : x = y := by
  rw [← BitVec.reverse_reverse_eq (x := x), h, BitVec.reverse_reverse_eq]

theorem refBitLsb_reverse {w : Nat} (p r : BitVec w) (b : Bool) :
    (refBitLsb p r b).reverse = refBitMsb p.reverse r.reverse b := by
  simp only [refBitLsb, refBitMsb, BitVec.msb_reverse]
  split <;> simp [reverse_xor, reverse_ushiftRight]

theorem foldl_refBitLsb_reverse {w : Nat} (p r : BitVec w) (bits : List Bool) :
    (bits.foldl (refBitLsb p) r).reverse = bits.foldl (refBitMsb p.reverse) r.reverse :=
  (List.foldl_hom BitVec.reverse fun x y => (refBitLsb_reverse p x y).symm).symm

theorem refBitLsb_lin {w : Nat} (poly r1 r2 : BitVec w) (b1 b2 : Bool) :
    refBitLsb poly (r1 ^^^ r2) (b1 ^^ b2) = refBitLsb poly r1 b1 ^^^ refBitLsb poly r2 b2 := by
  apply reverse_inj
  rw [reverse_xor, refBitLsb_reverse, refBitLsb_reverse, refBitLsb_reverse, reverse_xor, refBitMsb_lin]

theorem refLsb_feed {w : Nat} (poly r m : BitVec w) (n : Nat) :
    ((List.range n).map m.getLsbD).foldl (refBitLsb poly) r ^^^ (m >>> n)
      = (List.replicate n false).foldl (refBitLsb poly) (r ^^^ m) := by
  apply reverse_inj
  rw [reverse_xor, foldl_refBitLsb_reverse, foldl_refBitLsb_reverse, reverse_ushiftRight, reverse_xor, ← refMsb_feed,
    show m.reverse.getMsbD = m.getLsbD from funext fun _ => BitVec.getMsbD_reverse]

/-! ## igris_strmcrc8, igris_mmc_crc7: `crc & 0x80 ? (crc << 1) ^ poly : crc << 1` is the zero-bit clock -/

theorem and_0x80 (c : Byte) : c &&& 0x80#8 = if c.msb then 0x80#8 else 0#8 := by
  rw [show (0x80#8 : Byte) = BitVec.twoPow 8 7 from rfl, BitVec.and_twoPow, BitVec.msb_eq_getLsbD_last]

theorem shiftStep_eq_ref (p crc c : Byte) :
    iter (fun c => if c &&& 0x80#8 ≠ 0#8 then (c <<< 1) ^^^ p else c <<< 1) 8 (crc ^^^ c) = refByteMsb p crc c := by
  rw [refByteMsb8]
  refine congrArg (iter · 8 _) (funext fun c => ?_)
  rw [and_0x80, refBitMsb]
  cases c.msb <;> simp

theorem strmStep_eq_ref : strmStep = refByteMsb 0x31#8 :=
  funext fun crc => funext (shiftStep_eq_ref 0x31#8 crc)

theorem mmcStep_eq_ref : mmcStep = refByteMsb 0x12#8 :=
  funext fun crc => funext (shiftStep_eq_ref 0x12#8 crc)

/-! ## igris_crc8: the `(crc, inbyte)` loop IS the reflected reference, message bit = bit 0 of `inbyte` -/

theorem and_0x01 (c : Byte) : c &&& 0x01#8 = if c.getLsbD 0 then 0x01#8 else 0#8 := by
  rw [show (0x01#8 : Byte) = BitVec.twoPow 8 0 from rfl, BitVec.and_twoPow]

theorem dowBit_eq (c i : Byte) : dowBit (c, i) = (refBitLsb 0x8C#8 c (i.getLsbD 0), i >>> 1) := by
  simp only [dowBit, and_0x01, refBitLsb, BitVec.getLsbD_xor]
  cases c.getLsbD 0 <;> cases i.getLsbD 0 <;> simp

theorem iter_dowBit (n : Nat) (c i : Byte) :
    iter dowBit n (c, i) = (((List.range n).map i.getLsbD).foldl (refBitLsb 0x8C#8) c, i >>> n) := by
  induction n with
  | zero => simp [iter]
  | succ n ih =>
    rw [iter_succ', ih, dowBit_eq, List.range_succ, List.map_append, List.foldl_append, ← BitVec.shiftRight_add]
    simp

theorem iter_dowBit_zero (n : Nat) (x : BitVec 8) : (iter dowBit n (x, 0#8)).2 = 0#8 := by
  rw [iter_dowBit]; exact BitVec.zero_ushiftRight

theorem dowStep_eq_ref : dowStep = refByteLsb 0x8C#8 := by
  funext crc c; rw [dowStep, iter_dowBit, refByteLsb, bitsLsbFirst_eq]

theorem dowStep_xor (c i : BitVec 8) : dowStep c i = dowStep (c ^^^ i) 0#8 := by
  have h (r m : Byte) : dowStep r m = (List.replicate 8 false).foldl (refBitLsb 0x8C#8) (r ^^^ m) := by
    rw [← refLsb_feed, dowStep, iter_dowBit, BitVec.ushiftRight_eq_zero (Nat.le_refl 8), BitVec.xor_zero]
  rw [h, h, BitVec.xor_zero]

/-! ## igris_crc8_table: the 2×16 table against the bit-serial step, all 256 indices -/

theorem tblStep_xor (c b : BitVec 8) : tblStep c b = tblStep (c ^^^ b) 0#8 := by
  simp [tblStep, tblStepWith, BitVec.xor_comm]

theorem tbl_eq_dow_zero : ∀ x : BitVec 8, tblStep x 0#8 = dowStep x 0#8 := by decide +kernel

theorem tblStep_eq_dowStep : tblStep = dowStep := by
  funext c b; rw [tblStep_xor, dowStep_xor, tbl_eq_dow_zero]

/-! ## CRC-7/MMC: the 8-bit register of `igris_mmc_crc7` is the genuine 7-bit
CRC-7 register (poly x^7+x^3+1 = 0x09) kept shifted left by one -/

theorem crc7_bit : ∀ (x : BitVec 7) (b : Bool),
    refBitMsb 0x12#8 (x.zeroExtend 8 <<< 1) b = (refBitMsb 0x09#7 x b).zeroExtend 8 <<< 1 := by
  decide +kernel

theorem crc7_fold (bits : List Bool) (x : BitVec 7) :
    bits.foldl (refBitMsb 0x12#8) (x.zeroExtend 8 <<< 1)
      = (bits.foldl (refBitMsb 0x09#7) x).zeroExtend 8 <<< 1 :=
  List.foldl_hom (fun x : BitVec 7 => x.zeroExtend 8 <<< 1) crc7_bit

theorem crc7_unshift : ∀ x : BitVec 7, (x.zeroExtend 8 <<< 1) >>> 1 = x.zeroExtend 8 := by
  decide +kernel

/-! ## igris_crc16: `(crc << 8) ^ g((crc >> 8) ^ b)` with `g` the `x ^= x >> 4` trick
is `refMsb_table` at `w = 16, n = 8` once `g` is known to be the byte table of 0x1021 -/

/-- the three assignments of `crc16Step`, each under a name -/
def c16X (c : BitVec 16) (b : Byte) : Byte := (c >>> 8).truncate 8 ^^^ b
def c16Y (x : Byte) : Byte := x ^^^ (x >>> 4)
def c16Z (c : BitVec 16) (x : Byte) : BitVec 16 :=
  (c <<< 8) ^^^ (x.zeroExtend 16 <<< 12) ^^^ (x.zeroExtend 16 <<< 5) ^^^ x.zeroExtend 16
theorem crc16Step_eq (c : BitVec 16) (b : Byte) : crc16Step c b = c16Z c (c16Y (c16X c b)) := rfl

theorem bits_c16X (c : BitVec 16) (b : Byte) :
    (List.range 8).map (c ^^^ (b.zeroExtend 16 <<< 8)).getMsbD = bitsMsbFirst (c16X c b) := by
  simp [msbBits8, bitsMsbFirst, c16X, BitVec.getMsbD]

theorem refByteMsb16_table (poly c : BitVec 16) (b : Byte) :
    refByteMsb poly c b = (c <<< 8) ^^^ refByteMsb poly 0#16 (c16X c b) := by
  have hb : bitsMsbFirst b = (List.range 8).map ((0#16 : BitVec 16) ^^^ (b.zeroExtend 16 <<< 8)).getMsbD := by
    rw [bits_c16X]; simp [c16X]
  rw [refByteMsb, hb, BitVec.zero_xor, refMsb_table, bits_c16X, ← refByteMsb]

theorem c16Z_split (c : BitVec 16) (y : Byte) : c16Z c y = (c <<< 8) ^^^ c16Z 0#16 y := by
  simp [c16Z, BitVec.xor_assoc]

theorem crc16Step_zero_eq_ref : ∀ x : Byte, crc16Step 0#16 x = refByteMsb 0x1021#16 0#16 x := by decide +kernel

theorem crc16Step_eq_ref : crc16Step = refByteMsb 0x1021#16 := by
  funext crc b
  rw [refByteMsb16_table, ← crc16Step_zero_eq_ref, crc16Step_eq, crc16Step_eq, c16Z_split]
  simp [c16X]

/-! ## igris_crc32: eight nibble-table steps = 32 clocks; the 32 message bits of
a little-endian word, most significant first, are its bytes last to first -/

theorem bits_padWord (b0 b1 b2 b3 : Byte) :
    (List.range 32).map (padWord [b0, b1, b2, b3]).getMsbD = [b3, b2, b1, b0].flatMap bitsMsbFirst := by
  simp [List.range, List.range.loop, padWord, bitsMsbFirst, BitVec.getMsbD]

theorem crc32Table_bits : ∀ k : BitVec 4, crc32Table.getD k.toNat 0 =
    ((List.range 4).map k.getMsbD).foldl (refBitMsb 0x04C11DB7#32) 0#32 := by decide +kernel

theorem top4 (x : BitVec 32) : (x >>> 28).toNat = (BitVec.extractLsb' 28 4 x).toNat := by
  have := x.isLt
  simp only [BitVec.toNat_ushiftRight, BitVec.extractLsb'_toNat, Nat.shiftRight_eq_div_pow]
  omega

theorem bits_top4 (x : BitVec 32) :
    (List.range 4).map (BitVec.extractLsb' 28 4 x).getMsbD = (List.range 4).map x.getMsbD := by
  simp [List.range, List.range.loop, BitVec.getMsbD]

theorem nibStep_eq (x : BitVec 32) : nibStep x = iter (refBitMsb 0x04C11DB7#32 · false) 4 x := by
  have h := refMsb_table 0x04C11DB7#32 x 0#32 4
  rw [BitVec.xor_zero] at h
  rw [nibStep, nibStepWith, top4, crc32Table_bits, bits_top4, ← h, ← foldl_replicate_false]
  rfl

theorem wordStep_eq_ref (crc : BitVec 32) (b0 b1 b2 b3 : Byte) :
    wordStep crc (padWord [b0, b1, b2, b3])
      = ([b3, b2, b1, b0].flatMap bitsMsbFirst).foldl (refBitMsb 0x04C11DB7#32) crc := by
  rw [← bits_padWord, refMsb_feed_all, wordStep, funext nibStep_eq, iter_iter]

theorem refMsb_word {w : Nat} (poly reg : BitVec w) (a b c d : Byte) (rest : List Byte) :
    refMsb w poly reg (a :: b :: c :: d :: rest)
      = refMsb w poly (([a, b, c, d].flatMap bitsMsbFirst).foldl (refBitMsb poly) reg) rest := by
  simp only [refMsb, List.flatMap_cons, List.flatMap_nil, List.foldl_append, List.append_nil]

def wordSwap : List Byte → List Byte
  | b0 :: b1 :: b2 :: b3 :: rest => b3 :: b2 :: b1 :: b0 :: wordSwap rest
  | tl => tl

theorem wordSwap_length : ∀ data : List Byte, (wordSwap data).length = data.length
  | b0 :: b1 :: b2 :: b3 :: rest => by simp [wordSwap, wordSwap_length rest]
  | [] | [_] | [_, _] | [_, _, _] => rfl

theorem bitOrder_aligned : ∀ data : List Byte, data.length % 4 = 0 → crc32BitOrder data = wordSwap data
  | b0 :: b1 :: b2 :: b3 :: rest, h => by
    have hr : rest.length % 4 = 0 := by simp only [List.length_cons] at h; omega
    simp only [crc32BitOrder, wordSwap, bitOrder_aligned rest hr]
  | [], _ => rfl
  | [_], h | [_, _], h | [_, _, _], h => by simp at h

theorem wordSwap_wordSwap : ∀ data : List Byte, wordSwap (wordSwap data) = data
  | b0 :: b1 :: b2 :: b3 :: rest => by simp only [wordSwap, wordSwap_wordSwap rest]
  | [] | [_] | [_, _] | [_, _, _] => rfl

end Igris.C17
