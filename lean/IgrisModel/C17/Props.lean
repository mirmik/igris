/-
  C17 — property: "For every byte string and seed, the table-driven and bit-serial
  CRC-8 return identical values, and each CRC routine (streaming CRC-8 used by
  gstuff, Dallas CRC-8, CRC-16, CRC-32, MMC CRC-7) equals an independent reference
  implementation of the same polynomial, bit order and seed.  Feeding data in
  pieces with the running value as seed gives the one-shot result, and the
  streaming CRC-8 of a message followed by its own CRC is 0.  No routine reads a
  byte outside [data, data+length) or needs an aligned buffer."
-/
import IgrisModel.C17.Lemmas
import IgrisModel.C17.RefLemmas
import IgrisModel.C17.R3Lemmas
import IgrisModel.C17.R3Witness
import IgrisModel.C17.Gf2Lemmas
import IgrisModel.C17.PolyAlg
namespace Igris.C17
open Igris.Proto

/-- table-driven Dallas CRC-8 = bit-serial Dallas CRC-8, all seeds, all messages -/
theorem crc8_table_eq_serial (data : List Byte) (seed : BitVec 8) :
    crc8Table data seed = crc8 data seed := by
  rw [crc8Table, tblStep_eq_dowStep, crc8]

/-! chaining: feeding data in pieces with the running value as seed -/

theorem strmcrc8_chain (seed : BitVec 8) (a b : List Byte) :
    strmcrc8 seed (a ++ b) = strmcrc8 (strmcrc8 seed a) b := by
  simp [strmcrc8, List.foldl_append]

theorem crc8_chain (seed : BitVec 8) (a b : List Byte) :
    crc8 (a ++ b) seed = crc8 b (crc8 a seed) := by
  simp [crc8, List.foldl_append]

theorem crc8Table_chain (seed : BitVec 8) (a b : List Byte) :
    crc8Table (a ++ b) seed = crc8Table b (crc8Table a seed) := by
  simp [crc8Table, List.foldl_append]

theorem crc16_chain (seed : BitVec 16) (a b : List Byte) :
    crc16 (a ++ b) seed = crc16 b (crc16 a seed) := by
  simp [crc16, List.foldl_append]

/-- the streaming CRC-8 of a message followed by its own CRC is 0 -/
theorem strmcrc8_residue (seed : BitVec 8) (m : List Byte) :
    strmcrc8 seed (m ++ [strmcrc8 seed m]) = 0#8 := by
  rw [strmcrc8_chain]
  simp only [strmcrc8, List.foldl_cons, List.foldl_nil, strmStep, BitVec.xor_self]
  decide

/-- totality of the `Nat`-length model (next to
`crc32_reads_in_range`, which assumes `length ≤ mem.length`): it completes
iff `[0, length)` is mapped -/
theorem crc32_total (mem : List Byte) (length : Nat) (seed : BitVec 32) :
    crc32 mem length seed =
      if length ≤ mem.length then some (crc32Words (mem.take length) seed) else none := by
  rw [crc32_eq_crc32N, crc32N_spec]
  split <;> rfl

/-- The (repaired) CRC-32 never faults when exactly `[0, length)` is mapped,
and its value is a function of those bytes only: the word-wise definition
`crc32Words`. -/
theorem crc32_reads_in_range (mem : List Byte) (length : Nat) (seed : BitVec 32)
    (h : length ≤ mem.length) :
    crc32 mem length seed = some (crc32Words (mem.take length) seed) := by
  rw [crc32_total, if_pos h]

theorem crc32_exact_buffer (data : List Byte) (seed : BitVec 32) :
    crc32 data data.length seed = some (crc32Words data seed) := by
  have := crc32_reads_in_range data data.length seed (Nat.le_refl _)
  simpa using this

/-
  FULL STATEMENT (false on the tree, see `crc32_chain_witness`):
     ∀ a b seed, crc32Words (a ++ b) seed = crc32Words b (crc32Words a seed)
  Proved part: split points that are a multiple of four.
  Recorded finding: C17-crc32-split.
-/
theorem crc32_chain_partial (seed : BitVec 32) (a b : List Byte) (h : a.length % 4 = 0) :
    crc32Words (a ++ b) seed = crc32Words b (crc32Words a seed) :=
  crc32Words_append_aligned seed a b h

example : ([1#8, 2#8, 3#8, 4#8] : List Byte).length % 4 = 0 := by decide

/-- the model violates chaining at a split point that is not a multiple of 4 -/
theorem crc32_chain_witness :
    crc32Words ([1#8] ++ [2#8]) 0#32 ≠ crc32Words [2#8] (crc32Words [1#8] 0#32) := by
  decide +kernel

/-- the routine as it was before `fix: igris_crc32 reads the tail
byte-wise` faults on a 1-byte buffer (whole-word tail load) -/
theorem crc32Orig_overread_witness : crc32Orig [0#8] 1 0#32 = none := by decide

/-! ## each routine equals an independent bit-at-a-time reference
(`Ref.lean`: a `w`-bit shift register fed one message bit at a time; all seeds,
all byte strings) -/

/-- `igris_strmcrc8` = CRC-8 poly 0x31 (x^8+x^5+x^4+1), MSB first, no reflection -/
theorem strmcrc8_eq_ref (seed : BitVec 8) (data : List Byte) :
    strmcrc8 seed data = refMsb 8 0x31#8 seed data := by
  rw [refMsb_eq_foldl, strmcrc8, strmStep_eq_ref]

/-- `igris_crc8` = Dallas/Maxim CRC-8, reflected poly 0x8C, LSB first -/
theorem crc8_eq_ref (data : List Byte) (seed : BitVec 8) :
    crc8 data seed = refLsb 0x8C#8 seed data := by
  rw [refLsb_eq_foldl, crc8, dowStep_eq_ref]

theorem crc8Table_eq_ref (data : List Byte) (seed : BitVec 8) :
    crc8Table data seed = refLsb 0x8C#8 seed data := by
  rw [crc8_table_eq_serial, crc8_eq_ref]

/-- `igris_crc16` = CRC-16/CCITT poly 0x1021, MSB first (XMODEM for seed 0) -/
theorem crc16_eq_ref (data : List Byte) (seed : BitVec 16) :
    crc16 data seed = refMsb 16 0x1021#16 seed data := by
  rw [refMsb_eq_foldl, crc16, crc16Step_eq_ref]

/-- `igris_mmc_crc7` as written: an 8-bit register with poly `0x89 << 1`
(truncated: 0x12), result shifted right by one -/
theorem mmcCrc7_eq_ref8 (data : List Byte) :
    mmcCrc7 data = refMsb 8 0x12#8 0#8 data >>> 1 := by
  rw [refMsb_eq_foldl, mmcCrc7, mmcStep_eq_ref]

/-- … which is the genuine 7-bit CRC-7/MMC (poly x^7+x^3+1 = 0x09, seed 0,
MSB first) of the message, zero-extended to the returned `uint8_t` -/
theorem mmcCrc7_eq_crc7 (data : List Byte) :
    mmcCrc7 data = (refMsb 7 0x09#7 0#7 data).zeroExtend 8 := by
  rw [mmcCrc7_eq_ref8]
  have h := crc7_fold (data.flatMap bitsMsbFirst) 0#7
  have z : (0#7 : BitVec 7).zeroExtend 8 <<< 1 = 0#8 := by decide
  rw [z] at h
  rw [refMsb, h, crc7_unshift]; rfl

/-- `igris_crc32` (value-level `crc32Words`, see `crc32_reads_in_range`) =
CRC-32 poly 0x04C11DB7, MSB first, no reflection, no final xor, over the bytes
in STM32 word order (`crc32BitOrder`: each little-endian word most significant
byte first, the tail zero-padded to a word) -/
theorem crc32Words_eq_ref (data : List Byte) (seed : BitVec 32) :
    crc32Words data seed = refMsb 32 0x04C11DB7#32 seed (crc32BitOrder data) := by
  match data with
  | [] => simp [crc32Words, crc32BitOrder, refMsb]
  | [a] | [a, b] | [a, b, c] =>
    simp only [crc32Words, crc32BitOrder]; rw [refMsb_word, ← wordStep_eq_ref]; rfl
  | b0 :: b1 :: b2 :: b3 :: rest =>
    rw [crc32Words_four, crc32BitOrder, refMsb_word, ← wordStep_eq_ref]
    exact crc32Words_eq_ref rest _

theorem crc32_eq_ref (data : List Byte) (seed : BitVec 32) :
    crc32 data data.length seed = some (refMsb 32 0x04C11DB7#32 seed (crc32BitOrder data)) := by
  rw [crc32_exact_buffer, crc32Words_eq_ref]

/-- sanity anchors for the references themselves (catalogue check values of
"123456789"): CRC-8/MAXIM-DOW = 0xA1, CRC-16/XMODEM = 0x31C3, CRC-7/MMC = 0x75 -/
theorem ref_check_values :
    refLsb 0x8C#8 0#8 [0x31, 0x32, 0x33, 0x34, 0x35, 0x36, 0x37, 0x38, 0x39] = 0xA1#8 ∧
    refMsb 16 0x1021#16 0#16 [0x31, 0x32, 0x33, 0x34, 0x35, 0x36, 0x37, 0x38, 0x39] = 0x31C3#16 ∧
    refMsb 7 0x09#7 0#7 [0x31, 0x32, 0x33, 0x34, 0x35, 0x36, 0x37, 0x38, 0x39] = 0x75#7 := by
  decide +kernel

/-! # "reads only the given bytes" for every routine

`mem` = the bytes mapped at the pointer argument (any number of them), `len` =
the C length argument with its C width.  Each theorem says three things at
once: the routine completes **iff** the `len` bytes `[0, len)` are mapped (it
reads every one of them and nothing behind them — in particular it completes
when *exactly* `len` bytes are mapped); its value is a function of those `len`
bytes only (the list-level routine of the theorems above on `mem.take len`);
this holds for every `len` of the type, `0` and the maximum included.
`igris_strmcrc8(uint8_t *crc, char c)` takes no buffer (it reads `*crc` and
`c`), `igris_crc32` is `crc32_reads_in_range` above. -/

theorem crc8Table_reads_len (mem : List Byte) (len seed : BitVec 8) :
    crc8TableM mem len seed =
      if len.toNat ≤ mem.length then some (crc8Table (mem.take len.toNat) seed) else none :=
  whileDec_spec tblStep 256 len mem seed len.isLt

theorem crc8_reads_len (mem : List Byte) (len seed : BitVec 8) :
    crc8M mem len seed =
      if len.toNat ≤ mem.length then some (crc8 (mem.take len.toNat) seed) else none :=
  whileDec_spec dowStep 256 len mem seed len.isLt

theorem crc16_reads_len (mem : List Byte) (len seed : BitVec 16) :
    crc16M mem len seed =
      if len.toNat ≤ mem.length then some (crc16 (mem.take len.toNat) seed) else none :=
  whileDec_spec crc16Step 65536 len mem seed len.isLt

theorem mmcCrc7_reads_len (mem : List Byte) (len : BitVec 8) :
    mmcCrc7M mem len =
      if len.toNat ≤ mem.length then some (mmcCrc7 (mem.take len.toNat)) else none := by
  rw [mmcCrc7M, forUp_spec]
  split <;> rfl

/-- on an exactly sized buffer (every length the type can express) each
routine returns the list-level value: all theorems above (`*_eq_ref`,
`*_chain`, `crc8_table_eq_serial`) apply to the C calls -/
theorem exact_buffers (data : List Byte) (s8 : BitVec 8) (s16 : BitVec 16) :
    (data.length < 256 →
      crc8TableM data (BitVec.ofNat 8 data.length) s8 = some (crc8Table data s8) ∧
      crc8M data (BitVec.ofNat 8 data.length) s8 = some (crc8 data s8) ∧
      mmcCrc7M data (BitVec.ofNat 8 data.length) = some (mmcCrc7 data)) ∧
    (data.length < 65536 →
      crc16M data (BitVec.ofNat 16 data.length) s16 = some (crc16 data s16)) := by
  constructor
  · intro h
    rw [crc8Table_reads_len, crc8_reads_len, mmcCrc7_reads_len, toNat_ofNat_lt (w := 8) h]
    simp
  · intro h
    rw [crc16_reads_len, toNat_ofNat_lt (w := 16) h]
    simp

example : ([1#8, 2#8] : List Byte).length < 256 ∧ ([1#8, 2#8] : List Byte).length < 65536 := by decide

/-- `len = 0`: nothing is read, whatever is (not) mapped; the seed is returned -/
theorem len0_reads_nothing (mem : List Byte) (s8 : BitVec 8) (s16 : BitVec 16) :
    crc8TableM mem 0 s8 = some s8 ∧ crc8M mem 0 s8 = some s8 ∧ crc16M mem 0 s16 = some s16 ∧
    mmcCrc7M mem 0 = some 0 := by
  rw [crc8Table_reads_len, crc8_reads_len, crc16_reads_len, mmcCrc7_reads_len]
  simp [crc8Table, crc8, crc16, mmcCrc7]

/-- the maximum of the type: 255 (65535) bytes are read, the 256th (65536th) is not -/
theorem lenmax_reads_exactly (mem : List Byte) (s8 : BitVec 8) (s16 : BitVec 16) :
    (mem.length = 255 → crc8TableM mem 255 s8 = some (crc8Table mem s8) ∧ crc8M mem 255 s8 = some (crc8 mem s8) ∧
      mmcCrc7M mem 255 = some (mmcCrc7 mem)) ∧
    (mem.length = 65535 → crc16M mem 65535 s16 = some (crc16 mem s16)) :=
  ⟨fun h => by have := (exact_buffers mem s8 s16).1 (by omega); rwa [h] at this,
    fun h => by have := (exact_buffers mem s8 s16).2 (by omega); rwa [h] at this⟩

example : (List.replicate 255 (0#8 : Byte)).length = 255 := List.length_replicate

/-- one unmapped byte inside `[0, len)` and the routine faults (it reads all of them) -/
theorem short_buffer_faults (mem : List Byte) (len seed : BitVec 8) (h : mem.length < len.toNat) :
    crc8TableM mem len seed = none ∧ crc8M mem len seed = none ∧ mmcCrc7M mem len = none := by
  rw [crc8Table_reads_len, crc8_reads_len, mmcCrc7_reads_len]
  simp [Nat.not_le.mpr h]

example : ([] : List Byte).length < (1#8 : BitVec 8).toNat := by decide

/-- the seeded change `do { … } while (--len);` in `igris_crc8_table` reads a
byte when `len = 0` (and 255 more): it faults on the empty buffer, where the
routine must return the seed (`len0_reads_nothing`) -/
theorem crc8Table_doWhile_len0_witness (seed : BitVec 8) :
    doWhileDec tblStep 257 (0#8 : BitVec 8) [] seed = none ∧ crc8TableM [] 0 seed = some seed :=
  ⟨rfl, (len0_reads_nothing [] seed 0).1⟩

/-! ## catalogue check values, evaluated by the kernel on the routines themselves
(message "123456789"; names of the reveng CRC catalogue) -/

/-- CRC-8/MAXIM-DOW = 0xA1 (both Dallas routines), CRC-7/MMC = 0x75,
CRC-8/NRSC-5 (poly 0x31, init 0xFF: the streaming CRC-8 as gstuff seeds it) = 0xF7,
CRC-16/XMODEM (init 0) = 0x31C3, CRC-16/IBM-3740 "CCITT-FALSE" (init 0xFFFF) = 0x29B1,
CRC-16/SPI-FUJITSU "AUG-CCITT" (init 0x1D0F) = 0xE5CC -/
theorem routine_check_values :
    let m9 : List Byte := [0x31, 0x32, 0x33, 0x34, 0x35, 0x36, 0x37, 0x38, 0x39]
    crc8M m9 9 0 = some 0xA1#8 ∧ crc8TableM m9 9 0 = some 0xA1#8 ∧ mmcCrc7M m9 9 = some 0x75#8 ∧
    strmcrc8 0xFF m9 = 0xF7#8 ∧
    crc16M m9 9 0 = some 0x31C3#16 ∧ crc16M m9 9 0xFFFF = some 0x29B1#16 ∧ crc16M m9 9 0x1D0F = some 0xE5CC#16 := by
  decide +kernel

/-- CRC-32: the reference with init 0xFFFFFFFF is CRC-32/MPEG-2 (check value
0x0376E6E7); the routine on one zero word after reset gives the STM32 CRC
unit's well-known 0xC704DD7B; "HelloWorld" is the value tests/crc.cpp expects -/
theorem crc32_check_values :
    refMsb 32 0x04C11DB7#32 0xFFFFFFFF#32 [0x31, 0x32, 0x33, 0x34, 0x35, 0x36, 0x37, 0x38, 0x39] = 0x0376E6E7#32 ∧
    crc32 [0, 0, 0, 0] 4 0xFFFFFFFF#32 = some 0xC704DD7B#32 ∧
    crc32 [0x48, 0x65, 0x6C, 0x6C, 0x6F, 0x57, 0x6F, 0x72, 0x6C, 0x64] 10 0#32 = some (BitVec.ofNat 32 1114288986) := by
  decide +kernel

/-- `igris_crc32` on word-aligned input is the bit-serial CRC-32/MPEG-2
register (poly 0x04C11DB7, MSB first, no reflection, no final xor; init =
`seed`) over the message with every 32-bit word byte-swapped … -/
theorem crc32_aligned_eq_mpeg2_of_swapped (data : List Byte) (seed : BitVec 32) (h : data.length % 4 = 0) :
    crc32 data data.length seed = some (refMsb 32 0x04C11DB7#32 seed (wordSwap data)) := by
  rw [crc32_eq_ref, bitOrder_aligned data h]

/-- … equivalently: CRC-32/MPEG-2 of a word-aligned message is `igris_crc32`
of its byte-swapped words (STM32 CRC unit fed with big-endian words).  For a
length that is not a multiple of four the true relation is `crc32_eq_ref`:
the 1–3 tail bytes are zero-padded to a word *in front* (`00 … b2 b1 b0`),
which no standard CRC does (finding C17-crc32-split). -/
theorem mpeg2_eq_crc32_of_swapped (data : List Byte) (seed : BitVec 32) (h : data.length % 4 = 0) :
    crc32 (wordSwap data) (wordSwap data).length seed = some (refMsb 32 0x04C11DB7#32 seed data) := by
  rw [crc32_aligned_eq_mpeg2_of_swapped _ _ (by rw [wordSwap_length]; exact h), wordSwap_wordSwap]

/-- the unaligned tail is not MPEG-2 of anything simple: one byte `b` gives the
register of the word `00 00 00 b` -/
theorem crc32_tail_witness :
    crc32 [0x31] 1 0xFFFFFFFF#32 = some (refMsb 32 0x04C11DB7#32 0xFFFFFFFF#32 [0, 0, 0, 0x31]) ∧
    crc32 [0x31] 1 0xFFFFFFFF#32 ≠ some (refMsb 32 0x04C11DB7#32 0xFFFFFFFF#32 [0x31]) := by
  decide +kernel

/-! # index-level models, counters at their C width, every access logged

`mem` = EXACTLY the bytes mapped at the pointer (a read at an offset `≥
mem.length` faults), the length argument with its C type, the log starts
empty.  Each theorem: the routine completes iff `[0, len)` is mapped, returns
the list-level value of those bytes, and its accesses are exactly the reads
`rd 0, rd 1, …, rd (len-1)` — every byte of `[0, len)` once, in ascending
order, nothing else, no store. -/

theorem crc8Table_access (mem : List Byte) (len seed : BitVec 8) :
    crc8TableG (listRd mem) logEv len seed [] =
      if len.toNat ≤ mem.length then
        some (crc8Table (mem.take len.toNat) seed, (List.range len.toNat).map Ev.rd) else none :=
  whileDecG_access tblStep mem 256 len seed len.isLt

theorem crc8_access (mem : List Byte) (len seed : BitVec 8) :
    crc8G (listRd mem) logEv len seed [] =
      if len.toNat ≤ mem.length then
        some (crc8 (mem.take len.toNat) seed, (List.range len.toNat).map Ev.rd) else none :=
  whileDecG_access dowStep mem 256 len seed len.isLt

theorem crc16_access (mem : List Byte) (len seed : BitVec 16) :
    crc16G (listRd mem) logEv len seed [] =
      if len.toNat ≤ mem.length then
        some (crc16 (mem.take len.toNat) seed, (List.range len.toNat).map Ev.rd) else none :=
  whileDecG_access crc16Step mem 65536 len seed len.isLt

theorem mmcCrc7_access (mem : List Byte) (len : BitVec 8) :
    mmcCrc7G (listRd mem) logEv len [] =
      if len.toNat ≤ mem.length then
        some (mmcCrc7 (mem.take len.toNat), (List.range len.toNat).map Ev.rd) else none := by
  rw [mmcCrc7G, forUpG_access mmcStep mem len 257 0#8 (Nat.lt_succ_of_lt len.isLt)]
  split <;> rfl

/-- `igris_crc32` with `uint32_t length`, `uint32_t bodySize/tailSize/i` and the
32-bit product `4 * i`: for EVERY `length` of the parameter's type (all
`length < 2^32`) the counter loop is the list-level word fold of the first
`length` bytes — no counter wraps, no word is skipped or read twice.  (With a
16-bit `bodySize`/`i`, seeded change `C17-crc32-bodysize-uint16`, this is false
from `length = 2^18` on: the theorem documents the width the proof needs.) -/
theorem crc32_access (mem : List Byte) (length seed : BitVec 32) :
    crc32G (listRd mem) logEv length seed [] =
      if length.toNat ≤ mem.length then
        some (crc32Words (mem.take length.toNat) seed, (List.range length.toNat).map Ev.rd) else none := by
  rw [crc32G_spec, logRange_logEv_nil]

/-- the C-width index model and the `Nat`-length model agree on every memory
and every length of the parameter's type, faults included -/
theorem crc32_models_agree {τ : Type} (emit : Nat → τ → τ) (mem : List Byte) (n : Nat) (seed : BitVec 32) (t : τ)
    (hn : n < 2 ^ 32) :
    (crc32G (listRd mem) emit (BitVec.ofNat 32 n) seed t).map Prod.fst = crc32 mem n seed := by
  rw [crc32G_spec, toNat_ofNat_lt hn, crc32_total]
  split <;> rfl

example : (7 : Nat) < 2 ^ 32 := by decide

/-- in particular where `[0, n)` is mapped; any log, e.g. the driver's
`logNone` on long messages -/
theorem crc32_counter_width {τ : Type} (emit : Nat → τ → τ) (mem : List Byte) (n : Nat) (seed : BitVec 32) (t : τ)
    (hn : n < 2 ^ 32) (hm : n ≤ mem.length) :
    (crc32G (listRd mem) emit (BitVec.ofNat 32 n) seed t).map Prod.fst = crc32 mem n seed :=
  crc32_models_agree emit mem n seed t hn

example : (5 : Nat) < 2 ^ 32 ∧ 5 ≤ ([1, 2, 3, 4, 5, 6] : List Byte).length := by decide

/-- why the widths matter: with 16-bit `bodySize`/`i` (seeded change
`C17-crc32-bodysize-uint16`) a call with `length = 2^18` processes no word at
all — it returns the seed without a single read even when nothing is mapped,
where the routine reads all 262144 bytes (`crc32_access`: it faults) -/
theorem crc32_uint16_counter_witness (seed : BitVec 32) :
    crc32GNarrow (listRd []) logEv 262144#32 seed [] = some (seed, []) ∧
    crc32G (listRd []) logEv 262144#32 seed [] = none := by
  constructor
  · rfl
  · rw [crc32_access]; rfl

/-- no routine ever stores into its buffer, and no access is outside `[0, len)`:
said about the logs the five index-level models return -/
theorem accesses_are_reads_below_len (mem : List Byte) (l8 s8 : BitVec 8) (l16 s16 : BitVec 16) (l32 s32 : BitVec 32) :
    (∀ v t, crc8TableG (listRd mem) logEv l8 s8 [] = some (v, t) → ∀ e ∈ t, ∃ off, e = Ev.rd off ∧ off < l8.toNat) ∧
    (∀ v t, crc8G (listRd mem) logEv l8 s8 [] = some (v, t) → ∀ e ∈ t, ∃ off, e = Ev.rd off ∧ off < l8.toNat) ∧
    (∀ v t, crc16G (listRd mem) logEv l16 s16 [] = some (v, t) → ∀ e ∈ t, ∃ off, e = Ev.rd off ∧ off < l16.toNat) ∧
    (∀ v t, mmcCrc7G (listRd mem) logEv l8 [] = some (v, t) → ∀ e ∈ t, ∃ off, e = Ev.rd off ∧ off < l8.toNat) ∧
    (∀ v t, crc32G (listRd mem) logEv l32 s32 [] = some (v, t) → ∀ e ∈ t, ∃ off, e = Ev.rd off ∧ off < l32.toNat) :=
  ⟨reads_below (crc8Table_access mem l8 s8), reads_below (crc8_access mem l8 s8),
    reads_below (crc16_access mem l16 s16), reads_below (mmcCrc7_access mem l8), reads_below (crc32_access mem l32 s32)⟩

/-- the `Array`-backed read function of the driver is the list one -/
theorem driver_memory (a : Array Byte) : arrRd a = listRd a.toList := by
  funext i; simp [arrRd, listRd]

/-- the byte tables the driver uses for long messages are the model's byte
steps, so its folds are the routines -/
theorem driver_tables (data : List Byte) (s8 : BitVec 8) (s16 : BitVec 16) :
    data.foldl (tabStep8 strmTab) s8 = strmcrc8 s8 data ∧
    data.foldl (tabStep8 dowTab) s8 = crc8 data s8 ∧
    data.foldl (tabStep8 tblTab) s8 = crc8Table data s8 ∧
    data.foldl (tabStep8 mmcTab) 0#8 >>> 1 = mmcCrc7 data ∧
    data.foldl tabStep16 s16 = crc16 data s16 := by
  rw [strmTab_step, dowTab_step, tblTab_step, mmcTab_step, c16Tab_step]
  exact ⟨rfl, rfl, rfl, rfl, rfl⟩

/-! ## the streaming CRC-8 object: byte at a time, split anywhere, re-used -/

theorem strmRun_feed (crc : BitVec 8) (data : List Byte) :
    strmRun crc (data.map StrmOp.feed) = strmcrc8 crc data := by
  induction data generalizing crc with
  | nil => rfl
  | cons b bs ih => simp only [List.map_cons, strmRun, ih, strmcrc8, List.foldl_cons]

theorem strmRun_append (crc : BitVec 8) (p q : List StrmOp) :
    strmRun crc (p ++ q) = strmRun (strmRun crc p) q := by
  induction p generalizing crc with
  | nil => rfl
  | cons o os ih => cases o <;> simp only [List.cons_append, strmRun, ih]

/-- byte-at-a-time = one-shot for every split of every input: however the
message is cut into pieces fed one after the other into the same object -/
theorem strm_pieces (seed : BitVec 8) (pieces : List (List Byte)) :
    strmRun seed (pieces.flatMap fun p => p.map StrmOp.feed) = strmcrc8 seed pieces.flatten := by
  induction pieces generalizing seed with
  | nil => rfl
  | cons p ps ih =>
    simp only [List.flatMap_cons, List.flatten_cons, strmRun_append, strmRun_feed, ih, strmcrc8_chain]

/-- re-initialised between messages: the history of the object is forgotten -/
theorem strm_reinit (crc v : BitVec 8) (before : List StrmOp) (m : List Byte) :
    strmRun crc (before ++ StrmOp.init v :: m.map StrmOp.feed) = strmcrc8 v m := by
  rw [strmRun_append]; simp only [strmRun, strmRun_feed]

/-- NOT re-initialised: the second message is checksummed as the continuation
of the first (the CRC of the concatenation) … -/
theorem strm_no_reinit (seed : BitVec 8) (m1 m2 : List Byte) :
    strmRun seed (m1.map StrmOp.feed ++ m2.map StrmOp.feed) = strmcrc8 seed (m1 ++ m2) := by
  rw [strmRun_append, strmRun_feed, strmRun_feed, strmcrc8_chain]

/-- … in particular after a complete frame (message + its CRC, residue 0) the
next message is computed with seed 0 instead of the protocol's seed -/
theorem strm_no_reinit_after_frame (seed : BitVec 8) (m m2 : List Byte) :
    strmRun seed ((m ++ [strmcrc8 seed m]).map StrmOp.feed ++ m2.map StrmOp.feed) = strmcrc8 0#8 m2 := by
  rw [strm_no_reinit, strmcrc8_chain, strmcrc8_residue]

/-- and that is a different value in general (gstuff seeds with 0xFF) -/
theorem strm_no_reinit_witness : strmcrc8 0#8 [0x31] ≠ strmcrc8 0xFF#8 [0x31] := by decide

/-! ## finding C17-crc32-split, stated exactly

`crc32_chain_partial`: chaining holds at every split point that is a multiple
of four.  Conversely for every other split length there is a message for which
it fails, so the set of split points at which `igris_crc32` may be chained is
exactly the multiples of four; and the law that does hold for every split is
`crc32_chain_general`: the 1–3 bytes behind the last word boundary must be
fed again together with the next piece. -/

theorem crc32_chain_general (seed : BitVec 32) (a b : List Byte) :
    crc32Words (a ++ b) seed =
      crc32Words (a.drop (4 * (a.length / 4)) ++ b) (crc32Words (a.take (4 * (a.length / 4))) seed) := by
  have h : a ++ b = a.take (4 * (a.length / 4)) ++ (a.drop (4 * (a.length / 4)) ++ b) := by
    rw [← List.append_assoc, List.take_append_drop]
  conv => lhs; rw [h]
  exact crc32Words_append_aligned _ _ _ (by rw [List.length_take]; omega)

theorem crc32_chain_iff_split_mod4 (n : Nat) :
    (∀ (a b : List Byte) (seed : BitVec 32), a.length = n →
        crc32Words (a ++ b) seed = crc32Words b (crc32Words a seed)) ↔ n % 4 = 0 := by
  constructor
  · intro h
    -- `a` = `n` zero bytes from seed 0: whole zero words leave the register at 0, so only `n % 4` of them count
    have hz := h (List.replicate n 0#8) [1#8] 0#32 List.length_replicate
    rw [zeros_append, zeros_crc] at hz
    have hr : n % 4 < 4 := Nat.mod_lt _ (by decide)
    match hm : n % 4, hr with
    | 0, _ => rfl
    | 1, _ | 2, _ | 3, _ => rw [hm] at hz; revert hz; decide +kernel
  · intro h a b seed ha
    exact crc32_chain_partial seed a b (by rw [ha]; exact h)

/-! ## the tables of crc.c are generated by the polynomials -/

/-- `dscrc2x16_table`: entry `i` of the first half is the Dallas CRC register
(reflected polynomial 0x8C, bit-serial reference) after one zero byte from the
register `i`, entry `16+i` from the register `i << 4` -/
theorem dscrcTable_generated :
    dscrcTable = (List.range 16).map (fun i => refLsb 0x8C#8 (BitVec.ofNat 8 i) [0#8]) ++
                 (List.range 16).map (fun i => refLsb 0x8C#8 (BitVec.ofNat 8 (16 * i)) [0#8]) := by
  decide +kernel

/-- the 256-entry byte table the two halves stand for (all 256 entries):
`tbl[x & 15] ^ tbl[16 + (x >> 4)]` = the bit-serial register after one zero
byte from register `x` = remainder of `x·X^8` -/
theorem dscrcTable_all256 :
    ∀ x : BitVec 8, dscrcTable.getD (x &&& 0x0f#8).toNat 0 ^^^ dscrcTable.getD (16 + ((x >>> 4) &&& 0x0f#8).toNat) 0
      = refLsb 0x8C#8 x [0#8] := by
  intro x
  have h := tbl_eq_dow_zero x
  rw [dowStep_eq_ref, tblStep, tblStepWith, BitVec.zero_xor] at h
  exact h

/-- `crcTable` of `igris_crc32`: entry `k` = four bit-serial steps (polynomial
0x04C11DB7, MSB first) from the register `k << 28` -/
theorem crc32Table_generated :
    crc32Table = (List.range 16).map (fun k =>
      [false, false, false, false].foldl (refBitMsb 0x04C11DB7#32) (BitVec.ofNat 32 k <<< 28)) := by
  decide +kernel

/-- the op `tbl32` reads `crcTable` out of the compiled routine (the table is a
function-local static): `igris_crc32` of the word `k` from seed 0 is entry `k` -/
theorem crc32Table_readout :
    (List.range 16).map (fun k => crc32 [BitVec.ofNat 8 k, 0, 0, 0] 4 0#32) = crc32Table.map some := by
  decide +kernel

/-! ## every routine against the mathematical definition: the remainder of
`M(X)·X^w + init(X)·X^|M|` modulo the generator polynomial over GF(2)
(`Gf2.lean`: schoolbook long division on coefficient lists, no shift register,
no table).  `toBits` = the register as coefficients, most significant bit
first; `toBitsRev` = bit 0 first (reflected CRC). -/

/-- `igris_strmcrc8`: generator X^8+X^5+X^4+1, bytes most significant bit first -/
theorem strmcrc8_eq_gf2 (seed : BitVec 8) (data : List Byte) :
    toBits (strmcrc8 seed data) = crcPoly g8_31 (toBits seed) (data.flatMap bitsMsbFirst) := by
  rw [strmcrc8_eq_ref]; exact refMsb_eq_crcPoly (n := 7) 0x31#8 seed data

/-- `igris_crc8` (Dallas/Maxim): the same generator X^8+X^5+X^4+1, reflected:
bytes least significant bit first, the register read from bit 0 -/
theorem crc8_eq_gf2 (data : List Byte) (seed : BitVec 8) :
    toBitsRev (crc8 data seed) = crcPoly g8_31 (toBitsRev seed) (data.flatMap bitsLsbFirst) := by
  rw [crc8_eq_ref]; exact refLsb_eq_crcPoly (n := 7) 0x8C#8 seed data

theorem crc8Table_eq_gf2 (data : List Byte) (seed : BitVec 8) :
    toBitsRev (crc8Table data seed) = crcPoly g8_31 (toBitsRev seed) (data.flatMap bitsLsbFirst) := by
  rw [crc8_table_eq_serial, crc8_eq_gf2]

/-- `igris_crc16`: generator X^16+X^12+X^5+1 (CCITT), bytes most significant bit first -/
theorem crc16_eq_gf2 (data : List Byte) (seed : BitVec 16) :
    toBits (crc16 data seed) = crcPoly g16_1021 (toBits seed) (data.flatMap bitsMsbFirst) := by
  rw [crc16_eq_ref]; exact refMsb_eq_crcPoly (n := 15) 0x1021#16 seed data

/-- `igris_mmc_crc7`: the returned byte is a 7-bit value whose bits are the
remainder modulo X^7+X^3+1 (initial register 0) -/
theorem mmcCrc7_eq_gf2 (data : List Byte) :
    ∃ r : BitVec 7, mmcCrc7 data = r.zeroExtend 8 ∧
      toBits r = crcPoly g7_09 (List.replicate 7 false) (data.flatMap bitsMsbFirst) :=
  ⟨refMsb 7 0x09#7 0#7 data, mmcCrc7_eq_crc7 data, refMsb_eq_crcPoly (n := 6) 0x09#7 0#7 data⟩

/-- `igris_crc32` on an exactly sized buffer: generator X^32+X^26+…+1
(0x04C11DB7), the message taken in the routine's word order (`crc32BitOrder`) -/
theorem crc32_eq_gf2 (data : List Byte) (seed : BitVec 32) :
    (crc32 data data.length seed).map toBits =
      some (crcPoly g32_04C11DB7 (toBits seed) ((crc32BitOrder data).flatMap bitsMsbFirst)) := by
  rw [crc32_eq_ref, Option.map_some]
  exact congrArg some (refMsb_eq_crcPoly (n := 31) 0x04C11DB7#32 seed (crc32BitOrder data))

/-- anchors for the polynomial definition itself (no register, no routine
involved): catalogue check values of "123456789" by long division —
CRC-16/XMODEM 0x31C3, CRC-8/MAXIM-DOW 0xA1 (reflected), CRC-7/MMC 0x75,
CRC-8/NRSC-5 0xF7 (init 0xFF), CRC-32/MPEG-2 0x0376E6E7 (init 0xFFFFFFFF) -/
theorem gf2_check_values :
    let m9 : List Byte := [0x31, 0x32, 0x33, 0x34, 0x35, 0x36, 0x37, 0x38, 0x39]
    crcPoly g16_1021 (List.replicate 16 false) (m9.flatMap bitsMsbFirst) = toBits 0x31C3#16 ∧
    crcPoly g8_31 (List.replicate 8 false) (m9.flatMap bitsLsbFirst) = toBitsRev 0xA1#8 ∧
    crcPoly g7_09 (List.replicate 7 false) (m9.flatMap bitsMsbFirst) = toBits 0x75#7 ∧
    crcPoly g8_31 (List.replicate 8 true) (m9.flatMap bitsMsbFirst) = toBits 0xF7#8 ∧
    crcPoly g32_04C11DB7 (List.replicate 32 true) (m9.flatMap bitsMsbFirst) = toBits 0x0376E6E7#32 := by
  decide +kernel

/-! ## the algebraic definition

The GF(2) definition does not rest on the long-division ALGORITHM `polyMod`: `PolyAlg.lean` defines addition and
multiplication of coefficient lists from scratch and `IsCrcRemainder p init msg r` :=  `r` has `w` coefficients and
`∃ q, M·X^w + init·X^|M| = q·(X^w + p) + r` coefficient by coefficient.  Existence (the long division returns such an
`r`), uniqueness (Euclid: a non-zero multiple of a monic polynomial of degree `w` has degree ≥ `w`) and hence
"the routine's value is THE remainder" are theorems. -/

/-- the multiplication the specification uses IS the product of polynomials: coefficient `i` of `p·q` is the
convolution `Σ_{j ≤ i} p_j·q_{i-j}` over GF(2) (`xorSum f n = f 0 + … + f (n-1)`), and the addition is coefficient-wise -/
theorem gf2_mul_is_convolution (p q : List Bool) (i : Nat) :
    coeff (pmul p q) i = xorSum (fun j => coeff p j && coeff q (i - j)) (i + 1) ∧
      coeff (padd p q) i = (coeff p i != coeff q i) :=
  ⟨coeff_pmul_conv p q i, coeff_padd p q i⟩

/-- (1 + X)·(1 + X) = 1 + X² over GF(2) -/
example : pmul [true, true] [true, true] = [true, false, true] := by decide

/-- existence: `polyMod G a` is a remainder in the algebraic sense (`a = q·G + r`) with `min |a| w` coefficients -/
theorem polyMod_is_remainder (p a : List Bool) :
    (∃ q, ∀ i, hcoeff a i = (coeff (pmul q (true :: p).reverse) i != hcoeff (polyMod (true :: p) a) i)) ∧
      (polyMod (true :: p) a).length = min a.length p.length :=
  polyMod_rem p a

theorem gf2_remainder_unique (g : List Bool) (w : Nat) (hg : Monic g w) (q q' r r' : List Bool)
    (hr : DegLt r w) (hr' : DegLt r' w)
    (h : ∀ i, coeff (padd (pmul q g) r) i = coeff (padd (pmul q' g) r') i) : ∀ i, coeff r i = coeff r' i :=
  rem_unique g w hg q q' r r' hr hr' h

example : Monic (true :: [false, false, true]).reverse 3 := monic_gen _

theorem polyMod_iff_remainder (p a r : List Bool) :
    r = polyMod (true :: p) a ↔
      (r.length = min a.length p.length ∧
        ∃ q, ∀ i, hcoeff a i = (coeff (pmul q (true :: p).reverse) i != hcoeff r i)) :=
  ⟨fun h => h ▸ (polyMod_rem p a).symm, fun ⟨hl, h⟩ => polyMod_unique p a r hl h⟩

/-- `crcPoly` (used by every `*_eq_gf2` theorem) is THE `r` with `M·X^w + init·X^|M| = q·G + r`, `deg r < w` -/
theorem crcPoly_is_the_remainder (p init msg r : List Bool) (hi : init.length = p.length) :
    IsCrcRemainder p init msg r ↔ r = crcPoly (true :: p) init msg := by
  rw [show crcPoly (true :: p) init msg = polyMod (true :: p) (xorFront (msg ++ List.replicate p.length false) init) by
      simp [crcPoly], polyMod_iff_remainder, IsCrcRemainder, xorFront_length, List.length_append, List.length_replicate,
    Nat.min_eq_right (Nat.le_add_left _ _)]
  simp only [hcoeff_dividend p init msg hi]

theorem crcRemainder_unique (p init msg r r' : List Bool) (hi : init.length = p.length)
    (h : IsCrcRemainder p init msg r) (h' : IsCrcRemainder p init msg r') : r = r' := by
  rw [(crcPoly_is_the_remainder p init msg r hi).mp h, (crcPoly_is_the_remainder p init msg r' hi).mp h']

theorem strmcrc8_algebraic (seed : BitVec 8) (data : List Byte) (r : List Bool) :
    IsCrcRemainder g8_31.tail (toBits seed) (data.flatMap bitsMsbFirst) r ↔ r = toBits (strmcrc8 seed data) := by
  rw [strmcrc8_eq_gf2]
  exact crcPoly_is_the_remainder g8_31.tail _ _ r (by simp [toBits_length, g8_31])

theorem crc8_algebraic (data : List Byte) (seed : BitVec 8) (r : List Bool) :
    IsCrcRemainder g8_31.tail (toBitsRev seed) (data.flatMap bitsLsbFirst) r ↔
      (r = toBitsRev (crc8 data seed) ∧ r = toBitsRev (crc8Table data seed)) := by
  rw [crc8Table_eq_gf2, crc8_eq_gf2, and_self]
  exact crcPoly_is_the_remainder g8_31.tail _ _ r (by simp [toBitsRev_length, g8_31])

theorem crc16_algebraic (data : List Byte) (seed : BitVec 16) (r : List Bool) :
    IsCrcRemainder g16_1021.tail (toBits seed) (data.flatMap bitsMsbFirst) r ↔ r = toBits (crc16 data seed) := by
  rw [crc16_eq_gf2]
  exact crcPoly_is_the_remainder g16_1021.tail _ _ r (by simp [toBits_length, g16_1021])

theorem mmcCrc7_algebraic (data : List Byte) :
    ∃ v : BitVec 7, mmcCrc7 data = v.zeroExtend 8 ∧
      ∀ r, IsCrcRemainder g7_09.tail (List.replicate 7 false) (data.flatMap bitsMsbFirst) r ↔ r = toBits v := by
  obtain ⟨v, hv, hg⟩ := mmcCrc7_eq_gf2 data
  refine ⟨v, hv, fun r => ?_⟩
  rw [hg]
  exact crcPoly_is_the_remainder g7_09.tail _ _ r (by simp [g7_09])

theorem crc32_algebraic (data : List Byte) (seed : BitVec 32) (r : List Bool) :
    IsCrcRemainder g32_04C11DB7.tail (toBits seed) ((crc32BitOrder data).flatMap bitsMsbFirst) r ↔
      (crc32 data data.length seed).map toBits = some r := by
  rw [crc32_eq_gf2, Option.some.injEq, eq_comm]
  exact crcPoly_is_the_remainder g32_04C11DB7.tail _ _ r (by simp [toBits_length, g32_04C11DB7])

/-- how a register is read as a polynomial in `IsCrcRemainder … (toBits v)`: the coefficient of `X^i` is bit `i` of `v`
(MSB-first CRCs), -/
theorem hcoeff_toBits {w : Nat} (x : BitVec w) (i : Nat) : hcoeff (toBits x) i = x.getLsbD i := by
  rw [toBits, hcoeff_map_range, BitVec.getLsbD_eq_getMsbD]

/-- … and for the reflected Dallas CRC-8 (`toBitsRev`) the coefficient of `X^i` is bit `w-1-i` (bit 0 holds `X^(w-1)`) -/
theorem hcoeff_toBitsRev {w : Nat} (x : BitVec w) (i : Nat) : hcoeff (toBitsRev x) i = x.getMsbD i := by
  rw [toBitsRev, hcoeff_map_range, BitVec.getMsbD]

/-- the residue clause in algebraic form: a frame (message followed by its own streaming CRC-8) is a MULTIPLE of the
generator - `F(X)·X^8 + init(X)·X^|F| = q(X)·(X^8+X^5+X^4+1)`, remainder zero -/
theorem strm_frame_is_multiple (seed : BitVec 8) (m : List Byte) :
    IsCrcRemainder g8_31.tail (toBits seed) ((m ++ [strmcrc8 seed m]).flatMap bitsMsbFirst) (List.replicate 8 false) := by
  rw [strmcrc8_algebraic, strmcrc8_residue]
  decide

/-- non-vacuity: the catalogue value 0x75 of CRC-7/MMC is a remainder in the algebraic sense -/
example : IsCrcRemainder g7_09.tail (List.replicate 7 false)
    (([0x31, 0x32, 0x33, 0x34, 0x35, 0x36, 0x37, 0x38, 0x39] : List Byte).flatMap bitsMsbFirst) (toBits 0x75#7) :=
  (crcPoly_is_the_remainder g7_09.tail _ _ _ (by simp [g7_09])).mpr gf2_check_values.2.2.1.symm

/-- the op `tbl8` reads the 2x16 table out of the compiled routine behaviourally: row `i` of the low half is
`igris_crc8_table` of the one-byte message `i` from seed 0, row `i` of the high half of the byte `16·i` -/
theorem tbl8_readout :
    (List.range 16).map (fun i => crc8Table [BitVec.ofNat 8 i] 0) ++
      (List.range 16).map (fun i => crc8Table [BitVec.ofNat 8 (16 * i)] 0) = dscrcTable := by
  decide +kernel

end Igris.C17
