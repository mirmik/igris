/-
  C17 — the loops of crc.c over a buffer, as cursor loops and as index loops with
  C-width counters and an access log: each completes iff every byte below the
  length is mapped, and then folds the step over exactly those bytes, reading each
  once in ascending order.  Also the driver's 256-entry byte tables.
-/
import IgrisModel.C17.RefLemmas
namespace Igris.C17
open Igris.Proto

theorem toNat_ofNat_lt {w n : Nat} (h : n < 2 ^ w) : (BitVec.ofNat w n).toNat = n := by
  rw [BitVec.toNat_ofNat, Nat.mod_eq_of_lt h]

theorem toNat_pred {w : Nat} (l : BitVec w) (h : l ≠ 0) : ∃ k, l.toNat = k + 1 ∧ (l - 1).toNat = k := by
  have h0 : l.toNat ≠ 0 := fun h0 => h (BitVec.eq_of_toNat_eq (by simpa using h0))
  cases w with
  | zero => exact absurd (Subsingleton.elim l 0) h
  | succ n =>
    have h1 : (1 : BitVec (n + 1)).toNat = 1 := by simp
    exact ⟨l.toNat - 1, by omega, by rw [BitVec.toNat_sub_of_le (BitVec.le_def.mpr (by omega)), h1]⟩

theorem forUp_spec {α : Type} (step : α → Byte → α) :
    ∀ (n : Nat) (rest : List Byte) (crc : α),
      forUp step n rest crc = if n ≤ rest.length then some ((rest.take n).foldl step crc) else none
  | 0, rest, crc => by simp [forUp]
  | n + 1, [], crc => by simp [forUp]
  | n + 1, b :: r, crc => by
    rw [forUp, forUp_spec step n r (step crc b)]
    simp only [List.length_cons, Nat.add_le_add_iff_right, List.take_succ_cons, List.foldl_cons]

theorem whileDec_eq_forUp {w : Nat} {α : Type} (step : α → Byte → α) :
    ∀ (fuel : Nat) (len : BitVec w) (rest : List Byte) (crc : α), len.toNat < fuel →
      whileDec step fuel len rest crc = forUp step len.toNat rest crc
  | 0, _, _, _, h => by omega
  | f + 1, len, rest, crc, h => by
    by_cases h0 : len = 0
    · subst h0; simp [whileDec, forUp]
    · obtain ⟨k, hk, hs⟩ := toNat_pred len h0
      simp only [whileDec, if_neg h0]
      rw [hk]
      cases rest with
      | nil => rfl
      | cons b r =>
        simp only
        rw [whileDec_eq_forUp step f (len - 1) r _ (by omega), hs, forUp]

theorem whileDec_spec {w : Nat} {α : Type} (step : α → Byte → α) (fuel : Nat) (len : BitVec w) (rest : List Byte)
    (crc : α) (h : len.toNat < fuel) :
    whileDec step fuel len rest crc =
      if len.toNat ≤ rest.length then some ((rest.take len.toNat).foldl step crc) else none := by
  rw [whileDec_eq_forUp step fuel len rest crc h, forUp_spec]

/-- the seeded variant `do { … } while (--len);` of the same loop (not the
code: used for a witness only) -/
def doWhileDec {w : Nat} {α : Type} (step : α → Byte → α) :
    (fuel : Nat) → (len : BitVec w) → (rest : List Byte) → α → Option α
  | 0, _, _, _ => none
  | _ + 1, _, [], _ => none
  | f + 1, len, b :: rest, crc =>
    if len - 1 = 0 then some (step crc b) else doWhileDec step f (len - 1) rest (step crc b)

def logRange {τ : Type} (emit : Nat → τ → τ) (a n : Nat) (t : τ) : τ :=
  (List.range' a n).foldl (fun t i => emit i t) t

theorem logRange_zero {τ : Type} (emit : Nat → τ → τ) (a : Nat) (t : τ) : logRange emit a 0 t = t := rfl

theorem logRange_succ {τ : Type} (emit : Nat → τ → τ) (a n : Nat) (t : τ) :
    logRange emit a (n + 1) t = logRange emit (a + 1) n (emit a t) := by
  simp [logRange, List.range'_succ]

theorem logRange_add {τ : Type} (emit : Nat → τ → τ) (a n m : Nat) (t : τ) :
    logRange emit a (n + m) t = logRange emit (a + n) m (logRange emit a n t) := by
  rw [logRange, ← List.range'_append_1, List.foldl_append]; rfl

theorem logRange_logEv (a n : Nat) (t : List Ev) :
    logRange logEv a n t = t ++ (List.range' a n).map Ev.rd := by
  induction n generalizing a t with
  | zero => simp [logRange_zero]
  | succ n ih => rw [logRange_succ, ih, List.range'_succ]; simp [logEv]

theorem logRange_logEv_nil (n : Nat) : logRange logEv 0 n [] = (List.range n).map Ev.rd := by
  rw [logRange_logEv, List.nil_append, List.range_eq_range']

theorem listRd_lt (mem : List Byte) (i : Nat) (h : i < mem.length) : listRd mem i = some mem[i] := by
  simp [listRd, h]
theorem listRd_ge (mem : List Byte) (i : Nat) (h : mem.length ≤ i) : listRd mem i = none := by
  simp [listRd, h]

theorem memcpyG_spec {τ : Type} (emit : Nat → τ → τ) (mem : List Byte) :
    ∀ (n off : Nat) (t : τ), off ≤ mem.length →
      memcpyG (listRd mem) emit off n t =
        if off + n ≤ mem.length then some ((mem.drop off).take n, logRange emit off n t) else none
  | 0, off, t, h => by simp [memcpyG, logRange_zero, h]
  | n + 1, off, t, h => by
    by_cases ha : off < mem.length
    · simp only [memcpyG, listRd_lt mem off ha]
      rw [memcpyG_spec emit mem n (off + 1) (emit off t) (by omega)]
      by_cases hb : off + 1 + n ≤ mem.length
      · rw [if_pos hb, if_pos (by omega), logRange_succ, List.drop_eq_getElem_cons ha]
        simp only [List.take_succ_cons]
      · rw [if_neg hb, if_neg (by omega)]
    · simp only [memcpyG, listRd_ge mem off (by omega)]
      rw [if_neg (by omega)]

/-- The shape of every loop of crc.c: `n` times, `memcpy` the next `k` bytes and step on them.  Each routine's loop
equals it for any read function (what is left there is counter arithmetic at the C width); memory is reasoned about
once, in `readLoop_spec`. -/
def readLoop {α τ : Type} (k : Nat) (step : α → List Byte → α) (rd : Rd) (emit : Nat → τ → τ) :
    (n off : Nat) → α → τ → Option (α × τ)
  | 0, _, crc, t => some (crc, t)
  | n + 1, off, crc, t =>
    match memcpyG rd emit off k t with
    | none => none
    | some (bs, t) => readLoop k step rd emit n (off + k) (step crc bs) t

/-- `val` = the value of the loop as a function of the bytes read, `k` at a time -/
theorem readLoop_spec {α τ : Type} (k : Nat) (step : α → List Byte → α) (val : List Byte → α → α)
    (emit : Nat → τ → τ) (mem : List Byte) (hnil : ∀ c, val [] c = c)
    (hval : ∀ bs rest c, bs.length = k → val (bs ++ rest) c = val rest (step c bs)) :
    ∀ (n off : Nat) (crc : α) (t : τ), off ≤ mem.length →
      readLoop k step (listRd mem) emit n off crc t =
        if off + k * n ≤ mem.length then
          some (val ((mem.drop off).take (k * n)) crc, logRange emit off (k * n) t)
        else none
  | 0, off, crc, t, h => by simp [readLoop, hnil, logRange_zero, h]
  | n + 1, off, crc, t, h => by
    rw [readLoop, memcpyG_spec emit mem k off t h]
    by_cases hk : off + k ≤ mem.length
    · rw [if_pos hk]
      simp only
      rw [readLoop_spec k step val emit mem hnil hval n (off + k) _ _ hk, Nat.mul_succ, Nat.add_comm (k * n) k,
        ← Nat.add_assoc, List.take_add, List.drop_drop, logRange_add,
        hval _ _ _ (by rw [List.length_take, List.length_drop]; omega)]
    · rw [if_neg hk, if_neg (by rw [Nat.mul_succ]; omega)]

theorem memcpyG_one {τ : Type} (rd : Rd) (emit : Nat → τ → τ) (off : Nat) (t : τ) :
    memcpyG rd emit off 1 t = (rd off).map fun b => ([b], emit off t) := by
  cases h : rd off <;> simp [memcpyG, h]

/-- the loop of the routines with an 8- or 16-bit length -/
abbrev byteLoop {α τ : Type} (step : α → Byte → α) (rd : Rd) (emit : Nat → τ → τ) :
    (n off : Nat) → α → τ → Option (α × τ) :=
  readLoop 1 (fun c bs => bs.foldl step c) rd emit

theorem byteLoop_access {α : Type} (step : α → Byte → α) (mem : List Byte) (n : Nat) (crc : α) :
    byteLoop step (listRd mem) logEv n 0 crc [] =
      if n ≤ mem.length then some ((mem.take n).foldl step crc, (List.range n).map Ev.rd) else none := by
  rw [byteLoop, readLoop_spec 1 _ (fun l c => l.foldl step c) logEv mem (fun _ => rfl)
    (fun bs rest c _ => List.foldl_append) n 0 crc [] (Nat.zero_le _), Nat.one_mul, Nat.zero_add, List.drop_zero,
    logRange_logEv_nil]

theorem whileDecG_eq_byteLoop {w : Nat} {α τ : Type} (step : α → Byte → α) (rd : Rd) (emit : Nat → τ → τ) :
    ∀ (fuel : Nat) (len : BitVec w) (addr : Nat) (crc : α) (t : τ), len.toNat < fuel →
      whileDecG step rd emit fuel len addr crc t = byteLoop step rd emit len.toNat addr crc t
  | 0, _, _, _, _, h => by omega
  | f + 1, len, addr, crc, t, h => by
    by_cases h0 : len = 0
    · subst h0; simp [whileDecG, readLoop]
    · obtain ⟨k, hk, hs⟩ := toNat_pred len h0
      rw [whileDecG, if_neg h0, hk, byteLoop, readLoop, memcpyG_one]
      cases rd addr with
      | none => rfl
      | some b =>
        simp only [Option.map_some]
        rw [whileDecG_eq_byteLoop step rd emit f (len - 1) (addr + 1) _ _ (by omega), hs]
        rfl

theorem whileDecG_access {w : Nat} {α : Type} (step : α → Byte → α) (mem : List Byte) (fuel : Nat) (len : BitVec w)
    (seed : α) (h : len.toNat < fuel) :
    whileDecG step (listRd mem) logEv fuel len 0 seed [] =
      if len.toNat ≤ mem.length then
        some ((mem.take len.toNat).foldl step seed, (List.range len.toNat).map Ev.rd) else none := by
  rw [whileDecG_eq_byteLoop step _ logEv fuel len 0 seed [] h, byteLoop_access]

/-- `hr` has the shape of every `*_access` result -/
theorem reads_below {α : Type} {r : Option (α × List Ev)} {c : Prop} [Decidable c] {x : α} {n : Nat}
    (hr : r = if c then some (x, (List.range n).map Ev.rd) else none) (v : α) (t : List Ev) (h : r = some (v, t)) :
    ∀ e ∈ t, ∃ off, e = Ev.rd off ∧ off < n := by
  rw [hr] at h
  split at h <;> simp at h
  intro e he
  rw [← h.2] at he
  obtain ⟨off, ho, rfl⟩ := List.mem_map.mp he
  exact ⟨off, rfl, List.mem_range.mp ho⟩

/-- `n` = iterations left; `i` stays below 256, so `i++` never wraps -/
theorem forUpG_eq_byteLoop {α τ : Type} (step : α → Byte → α) (rd : Rd) (emit : Nat → τ → τ) (length : BitVec 8) :
    ∀ (fuel n : Nat) (i : BitVec 32) (crc : α) (t : τ), i.toNat + n = length.toNat → n < fuel →
      forUpG step rd emit length fuel i crc t = byteLoop step rd emit n i.toNat crc t
  | 0, _, _, _, _, _, h => by omega
  | f + 1, n, i, crc, t, hn, h => by
    have hl : length.toNat < 256 := length.isLt
    have hc : i < length.zeroExtend 32 ↔ i.toNat < length.toNat := by
      rw [BitVec.lt_def, BitVec.toNat_setWidth_of_le (by decide)]
    rw [forUpG]
    cases n with
    | zero => rw [if_neg (mt hc.mp (by omega)), byteLoop, readLoop]
    | succ k =>
      have hi : (i + 1).toNat = i.toNat + 1 := BitVec.toNat_add_of_lt (show i.toNat + 1 < 2 ^ 32 by omega)
      rw [if_pos (hc.mpr (by omega)), byteLoop, readLoop, memcpyG_one]
      cases rd i.toNat with
      | none => rfl
      | some b =>
        simp only [Option.map_some]
        rw [forUpG_eq_byteLoop step rd emit length f k (i + 1) _ _ (by omega) (by omega), hi]
        rfl

theorem forUpG_access {α : Type} (step : α → Byte → α) (mem : List Byte) (length : BitVec 8) (fuel : Nat) (crc : α)
    (h : length.toNat < fuel) :
    forUpG step (listRd mem) logEv length fuel 0 crc [] =
      if length.toNat ≤ mem.length then
        some ((mem.take length.toNat).foldl step crc, (List.range length.toNat).map Ev.rd) else none := by
  rw [forUpG_eq_byteLoop step _ logEv length fuel length.toNat 0 crc [] (by simp) h]
  exact byteLoop_access step mem _ crc

theorem mul4_toNat (i : BitVec 32) (h : i.toNat < 2 ^ 30) : (4#32 * i).toNat = 4 * i.toNat :=
  BitVec.toNat_mul_of_lt (show 4 * i.toNat < 2 ^ 32 by omega)

/-- the word loop of `igris_crc32` -/
abbrev wordLoop {τ : Type} (rd : Rd) (emit : Nat → τ → τ) : (n off : Nat) → BitVec 32 → τ → Option (BitVec 32 × τ) :=
  readLoop 4 (fun c bs => wordStep c (padWord bs)) rd emit

/-- `n` = words left; `bodySize < 2^30`, so neither `i++` nor the 32-bit `4 * i` wraps -/
theorem crc32LoopG_eq_wordLoop {τ : Type} (rd : Rd) (emit : Nat → τ → τ) (body : BitVec 32) (hb : body.toNat < 2 ^ 30) :
    ∀ (fuel n : Nat) (i : BitVec 32) (crc : BitVec 32) (t : τ), i.toNat + n = body.toNat → n < fuel →
      crc32LoopG rd emit body fuel i crc t = wordLoop rd emit n (4 * i.toNat) crc t
  | 0, _, _, _, _, _, h => by omega
  | f + 1, n, i, crc, t, hn, h => by
    rw [crc32LoopG]
    cases n with
    | zero => rw [if_neg (mt BitVec.lt_def.mp (by omega)), wordLoop, readLoop]
    | succ k =>
      have hi : (i + 1).toNat = i.toNat + 1 := BitVec.toNat_add_of_lt (show i.toNat + 1 < 2 ^ 32 by omega)
      rw [if_pos (BitVec.lt_def.mpr (by omega)), wordLoop, readLoop, mul4_toNat i (by omega)]
      cases memcpyG rd emit (4 * i.toNat) 4 t with
      | none => rfl
      | some p =>
        simp only
        rw [crc32LoopG_eq_wordLoop rd emit body hb f k (i + 1) _ _ (by omega) (by omega), hi, Nat.mul_succ]

theorem loadBytes_eq_memcpyG (mem : List Byte) : ∀ (n off : Nat),
    loadBytes mem off n = (memcpyG (listRd mem) logNone off n ()).map Prod.fst
  | 0, _ => rfl
  | n + 1, off => by
    rw [loadBytes, memcpyG, loadBytes_eq_memcpyG mem n (off + 1), listRd]
    cases mem[off]? with
    | none => rfl
    | some b => cases memcpyG (listRd mem) logNone (off + 1) n (logNone off ()) <;> rfl

theorem crc32BodyF_eq_wordLoop (mem : List Byte) : ∀ (n i : Nat) (crc : BitVec 32),
    crc32BodyF mem n i crc = (wordLoop (listRd mem) logNone n (4 * i) crc ()).map Prod.fst
  | 0, _, _ => rfl
  | n + 1, i, crc => by
    rw [crc32BodyF, wordLoop, readLoop, loadBytes_eq_memcpyG]
    cases memcpyG (listRd mem) logNone (4 * i) 4 () with
    | none => rfl
    | some p => exact crc32BodyF_eq_wordLoop mem n (i + 1) _

/-- `igris_crc32` with the counters as naturals: the word loop, then the tail `memcpy` -/
def crc32N {τ : Type} (rd : Rd) (emit : Nat → τ → τ) (n : Nat) (seed : BitVec 32) (t : τ) : Option (BitVec 32 × τ) :=
  match wordLoop rd emit (n / 4) 0 seed t with
  | none => none
  | some (crc, t) =>
    if n % 4 = 0 then some (crc, t) else
      match memcpyG rd emit (4 * (n / 4)) (n % 4) t with
      | none => none
      | some (bs, t) => some (wordStep crc (padWord bs), t)

theorem crc32_eq_crc32N (mem : List Byte) (n : Nat) (seed : BitVec 32) :
    crc32 mem n seed = (crc32N (listRd mem) logNone n seed ()).map Prod.fst := by
  rw [crc32, crc32N, crc32BodyF_eq_wordLoop, Nat.mul_zero]
  cases wordLoop (listRd mem) logNone (n / 4) 0 seed () with
  | none => rfl
  | some p =>
    by_cases h : n % 4 = 0
    · simp [h]
    · simp only [Option.map_some, Option.bind_eq_bind, Option.bind_some, if_neg h, loadBytes_eq_memcpyG]
      cases memcpyG (listRd mem) logNone (4 * (n / 4)) (n % 4) p.2 <;> rfl

theorem crc32G_eq_crc32N {τ : Type} (rd : Rd) (emit : Nat → τ → τ) (length seed : BitVec 32) (t : τ) :
    crc32G rd emit length seed t = crc32N rd emit length.toNat seed t := by
  have hl : length.toNat < 2 ^ 32 := length.isLt
  have hbody : (length / 4).toNat = length.toNat / 4 := by rw [BitVec.toNat_udiv]; rfl
  have htail : (length % 4).toNat = length.toNat % 4 := by rw [BitVec.toNat_umod]; rfl
  have hb30 : (length / 4).toNat < 2 ^ 30 := by rw [hbody]; omega
  have ht0 : (length % 4 ≠ 0) ↔ ¬ length.toNat % 4 = 0 := by
    rw [← htail]; exact not_congr (BitVec.toNat_inj (y := 0)).symm
  rw [crc32G, crc32N, crc32LoopG_eq_wordLoop _ emit (length / 4) hb30 (2 ^ 30) (length / 4).toNat 0 seed t (by simp) hb30,
    show BitVec.toNat (0 : BitVec 32) = 0 from rfl, Nat.mul_zero, mul4_toNat _ hb30, hbody, htail]
  simp only [ht0, ite_not]
  rfl

theorem crc32N_spec {τ : Type} (emit : Nat → τ → τ) (mem : List Byte) (n : Nat) (seed : BitVec 32) (t : τ) :
    crc32N (listRd mem) emit n seed t =
      if n ≤ mem.length then some (crc32Words (mem.take n) seed, logRange emit 0 n t) else none := by
  have e : 4 * (n / 4) + n % 4 = n := by omega
  rw [crc32N, wordLoop, readLoop_spec 4 _ crc32Words emit mem (fun _ => by simp [crc32Words]) crc32Words_word _ _ seed t
    (Nat.zero_le _), Nat.zero_add, List.drop_zero]
  by_cases hw : 4 * (n / 4) ≤ mem.length
  · rw [if_pos hw]
    simp only
    by_cases htz : n % 4 = 0
    · rw [if_pos htz, show 4 * (n / 4) = n by omega, if_pos (by omega)]
    · rw [if_neg htz, memcpyG_spec emit mem _ _ _ hw, e]
      by_cases hle : n ≤ mem.length
      · rw [if_pos hle, if_pos hle]
        simp only
        conv => rhs; rw [← e, List.take_add, logRange_add, Nat.zero_add]
        rw [crc32Words_append_aligned _ _ _ (by rw [List.length_take]; omega),
          crc32Words_tail ((mem.drop (4 * (n / 4))).take (n % 4)) _
            (by rw [List.length_take, List.length_drop]; omega)
            (by rw [List.length_take, List.length_drop]; omega)]
      · rw [if_neg hle, if_neg hle]
  · rw [if_neg hw, if_neg (by omega)]

theorem crc32G_spec {τ : Type} (emit : Nat → τ → τ) (mem : List Byte) (length seed : BitVec 32) (t : τ) :
    crc32G (listRd mem) emit length seed t =
      if length.toNat ≤ mem.length then
        some (crc32Words (mem.take length.toNat) seed, logRange emit 0 length.toNat t)
      else none := by
  rw [crc32G_eq_crc32N, crc32N_spec]

/-! ## the driver's byte tables = the model's byte steps -/

theorem ofFn_byte_getD {α : Type} (g : BitVec 8 → α) (d : α) (x : BitVec 8) :
    (Array.ofFn (n := 256) fun i => g (BitVec.ofNat 8 i.val)).getD x.toNat d = g x := by
  rw [Array.getD_eq_getD_getElem?, Array.getElem?_ofFn, dif_pos x.isLt]
  simp

theorem tabStep8_mkTab8 (f : BitVec 8 → BitVec 8 → BitVec 8) (h : ∀ c b, f c b = f (c ^^^ b) 0) :
    tabStep8 (mkTab8 (f 0)) = f := by
  funext c b; rw [tabStep8, mkTab8, ofFn_byte_getD, h c b, h 0]; exact congrArg (f · 0) BitVec.zero_xor

theorem strmTab_step : tabStep8 strmTab = strmStep := tabStep8_mkTab8 strmStep fun c b => by simp [strmStep]

theorem mmcTab_step : tabStep8 mmcTab = mmcStep := tabStep8_mkTab8 mmcStep fun c b => by simp [mmcStep]

theorem dowTab_step : tabStep8 dowTab = dowStep := tabStep8_mkTab8 dowStep dowStep_xor

theorem tblTab_step : tabStep8 tblTab = tblStep := tabStep8_mkTab8 tblStep tblStep_xor

theorem c16Tab_get (x : BitVec 8) : c16Tab.getD x.toNat 0 = crc16Step 0 x :=
  ofFn_byte_getD (crc16Step 0) 0 x

theorem c16Tab_step : tabStep16 = crc16Step := by
  funext crc b
  rw [tabStep16, c16Tab_get]
  simp [crc16Step, BitVec.xor_assoc]

/-! ## zero messages (for the exact set of split points) -/

theorem zeros_words (m : Nat) : crc32Words (List.replicate (4 * m) 0#8) 0#32 = 0#32 := by
  induction m with
  | zero => rfl
  | succ m ih =>
    have : 4 * (m + 1) = 4 * m + 4 := by omega
    rw [this, ← List.replicate_append_replicate, crc32Words_append_aligned _ _ _ (by simp), ih]
    decide +kernel

theorem zeros_append (n : Nat) (b : List Byte) :
    crc32Words (List.replicate n 0#8 ++ b) 0#32 = crc32Words (List.replicate (n % 4) 0#8 ++ b) 0#32 := by
  have : n = 4 * (n / 4) + n % 4 := by omega
  conv => lhs; rw [this, ← List.replicate_append_replicate, List.append_assoc]
  rw [crc32Words_append_aligned _ _ _ (by simp), zeros_words]

theorem zeros_crc (n : Nat) :
    crc32Words (List.replicate n 0#8) 0#32 = crc32Words (List.replicate (n % 4) 0#8) 0#32 := by
  have := zeros_append n []
  simpa using this

end Igris.C17
