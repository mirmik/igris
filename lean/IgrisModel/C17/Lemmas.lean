import IgrisModel.C17.Model
namespace Igris.C17
open Igris.Proto

theorem iter_add {α : Type} (f : α → α) (m n : Nat) (x : α) : iter f (m + n) x = iter f n (iter f m x) := by
  induction m generalizing x with
  | zero => rw [Nat.zero_add]; rfl
  | succ m ih => rw [Nat.succ_add, iter, iter, ih]

theorem iter_succ' {α : Type} (f : α → α) (n : Nat) (x : α) : iter f (n + 1) x = f (iter f n x) :=
  iter_add f n 1 x

theorem iter_iter {α : Type} (f : α → α) (a b : Nat) (x : α) : iter (iter f a) b x = iter f (a * b) x := by
  induction b generalizing x with
  | zero => rfl
  | succ b ih => rw [iter, ih, Nat.mul_succ, Nat.add_comm]; exact (iter_add f a (a * b) x).symm

theorem crc32Words_four (b0 b1 b2 b3 : Byte) (rest : List Byte) (crc : BitVec 32) :
    crc32Words (b0 :: b1 :: b2 :: b3 :: rest) crc = crc32Words rest (wordStep crc (padWord [b0, b1, b2, b3])) := by
  simp [crc32Words]

theorem crc32Words_tail (tl : List Byte) (c : BitVec 32) (h0 : 0 < tl.length) (h4 : tl.length < 4) :
    crc32Words tl c = wordStep c (padWord tl) := by
  match tl, h0, h4 with
  | [a], _, _ | [a, b], _, _ | [a, b, d], _, _ => simp [crc32Words]

theorem crc32Words_word (l rest : List Byte) (crc : BitVec 32) (h : l.length = 4) :
    crc32Words (l ++ rest) crc = crc32Words rest (wordStep crc (padWord l)) := by
  match l, h with
  | [b0, b1, b2, b3], _ => simp [crc32Words_four]

theorem crc32Words_append_aligned (seed : BitVec 32) (a b : List Byte) (h : a.length % 4 = 0) :
    crc32Words (a ++ b) seed = crc32Words b (crc32Words a seed) := by
  match a, h with
  | [], _ => simp [crc32Words]
  | [_], h | [_, _], h | [_, _, _], h => simp at h
  | b0 :: b1 :: b2 :: b3 :: rest, h =>
    simp only [List.cons_append, crc32Words_four]
    exact crc32Words_append_aligned _ rest b (by simp only [List.length_cons] at h; omega)

end Igris.C17
