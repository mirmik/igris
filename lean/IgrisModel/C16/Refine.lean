/-
  C16 — the manager refines the reference scheduler: the pending map `absM` commutes with every
  call and with the loop body, so a finished run of the loop is a run of the reference.
-/
import IgrisModel.C16.Lemmas
namespace Igris.C16

theorem absM_mem {m : Mgr} {i : Nat} (hi : i ∈ m.lst) :
    absM m i = some ((m.tm i).finish, (m.tm i).interval) := if_pos hi

theorem absM_not_mem {m : Mgr} {i : Nat} (hi : i ∉ m.lst) : absM m i = Option.none := if_neg hi

theorem absM_some {m : Mgr} {i : Nat} {d p : Int} (h : absM m i = some (d, p)) :
    i ∈ m.lst ∧ d = (m.tm i).finish := by
  by_cases hi : i ∈ m.lst
  · rw [absM_mem hi] at h; exact ⟨hi, (Prod.mk.inj (Option.some.inj h)).1.symm⟩
  · rw [absM_not_mem hi] at h; exact nomatch h

theorem absM_pending (m : Mgr) (i : Nat) : i ∈ m.lst ↔ absM m i ≠ Option.none := by
  by_cases hi : i ∈ m.lst
  · exact iff_of_true hi (absM_mem hi ▸ nofun)
  · exact iff_of_false hi (fun h => h (absM_not_mem hi))

theorem absM_head_le {m : Mgr} (hm : WF m) {i j : Nat} {rest : List Nat} (hl : m.lst = i :: rest)
    {d p : Int} (hp : absM m j = some (d, p)) : (m.tm i).finish ≤ d :=
  (absM_some hp).2 ▸ Sorted.head_le (hl ▸ hm.sorted) j (hl ▸ (absM_some hp).1)

theorem absM_unplan (m : Mgr) (j : Nat) : absM (m.unplan j) = (absM m).unplan j := by
  funext x
  by_cases hx : x = j
  · subst hx; exact (absM_not_mem (not_mem_unplan m x)).trans (if_pos rfl).symm
  · simp only [absM, Ref.unplan, mem_unplan, unplan_tm, hx, ne_eq, not_false_eq_true, and_true, if_false]

theorem absM_plan3 (m : Mgr) (j : Nat) (s iv : Int) : absM (m.plan3 j s iv) = (absM m).plan j s iv := by
  funext x
  by_cases hx : x = j
  · subst hx
    exact (absM_mem ((mem_plan3 m x x s iv).mpr (Or.inl rfl))).trans
      ((congrArg (fun t : Timer => some (t.finish, t.interval)) (setTm_same ..)).trans (if_pos rfl).symm)
  · simp only [absM, Ref.plan, mem_plan3, plan3_tm, hx, false_or, if_false, setTm_other _ _ hx]

theorem absM_applyAct (m : Mgr) (a : Action) : absM (applyAct m a) = (absM m).act a := by
  cases a with
  | unplan j => exact absM_unplan m j
  | plan j s iv => exact absM_plan3 m j s iv

theorem absM_runCb (m : Mgr) (l : List Action) : absM (runCb m l) = (absM m).acts l := by
  induction l generalizing m with
  | nil => rfl
  | cons a as ih => exact (ih _).trans (congrArg (Ref.acts · as) (absM_applyAct m a))

theorem Timer.eq_of_finish_interval {a b : Timer} (h1 : a.finish = b.finish) (h2 : a.interval = b.interval) : a = b := by
  obtain ⟨sa, ia⟩ := a; obtain ⟨sb, ib⟩ := b
  obtain rfl : ia = ib := h2
  exact congrArg (Timer.mk · ia) ((Int.add_left_inj ia).mp h1)

theorem absM_execBody (m : Mgr) (acts : List Action) (i : Nat) (hi : i ∈ m.lst) :
    absM (execBody acts m i) = (absM m).fired i acts := by
  unfold Ref.fired execBody
  rw [absM_mem hi, ← absM_runCb]
  dsimp only
  by_cases h1 : i ∈ (runCb m acts).lst
  · -- the re-arm is a `plan` call: to the deadline one period later, or to the values the timer has
    rw [rearm_mem _ i _ h1, absM_plan3, absM_mem h1]
    unfold Timer.rearmed
    split
    · rename_i h2
      rw [h2, if_pos rfl]
      funext x
      simp only [Ref.plan, Timer.shift, Timer.finish, Int.add_assoc]
    · rename_i h2
      rw [if_neg fun e => h2 (Timer.eq_of_finish_interval (Prod.mk.inj (Option.some.inj e)).1
        (Prod.mk.inj (Option.some.inj e)).2)]
      funext x
      unfold Ref.plan
      split
      · subst_vars; exact (absM_mem h1).symm
      · rfl
  · rw [rearm_not_mem _ i _ h1, absM_not_mem h1, if_neg nofun]

theorem Steps.refines {cb : Cb} {now : Int} {k : Nat} {m m' : Mgr} {fs : List Fire}
    (h : Steps cb now k m fs m') (hcb : CbPos cb) (hm : WF m) (hdone : m'.headDue now = Option.none) :
    Ref.Exec cb now k (absM m) fs (absM m') := by
  induction h with
  | nil k m =>
    exact Ref.Exec.done fun i d p hp => (absM_some hp).2 ▸ none_due hm hdone i (absM_some hp).1
  | @cons k m m' i fs hd tl ih =>
    obtain ⟨rest, hl, hdue⟩ := headDue_some hd
    have hi : i ∈ m.lst := hl ▸ List.mem_cons_self
    refine Ref.Exec.fire (absM_mem hi) hdue ?_ (absM_execBody m (cb k i) i hi ▸ ih (hm.execBody _ (hcb k i) i) hdone)
    exact fun j d' p' hp => absM_head_le hm hl hp

theorem Steps.due_runs {cb : Cb} {now : Int} {k : Nat} {m m' : Mgr} {fs : List Fire}
    (h : Steps cb now k m fs m') (hcb : CbPos cb) (hm : WF m) (hdone : m'.headDue now = Option.none)
    (i : Nat) (hi : i ∈ m.lst) (hdue : (m.tm i).finish ≤ now) :
    (∃ f ∈ fs, f.id = i ∧ f.deadline = (m.tm i).finish) ∨
    (∃ n f a, fs[n]? = some f ∧ a ∈ cb (k + n) f.id ∧ a.target = i) := by
  induction h with
  | nil k m => exact absurd (none_due hm hdone i hi) (Int.not_lt.mpr hdue)
  | @cons k m m' j fs hd tl ih =>
    by_cases hji : j = i
    · exact Or.inl ⟨_, List.mem_cons_self, hji, hji ▸ rfl⟩
    · by_cases ht : ∃ a ∈ cb k j, a.target = i
      · obtain ⟨a, ha, hta⟩ := ht
        exact Or.inr ⟨0, ⟨j, (m.tm j).finish⟩, a, rfl, ha, hta⟩
      · -- this callback leaves `i` as it is: the rest of the loop decides
        have hb := execBody_untouched_other m (cb k j) i j (fun a ha e => ht ⟨a, ha, e⟩) (Ne.symm hji)
        rcases ih (hm.execBody (cb k j) (hcb k j) j) hdone (hb.2.mpr hi) (hb.1 ▸ hdue) with
          ⟨f, hf, h1, h2⟩ | ⟨n, f, a, h1, h2, h3⟩
        · exact Or.inl ⟨f, List.mem_cons_of_mem _ hf, h1, h2.trans (congrArg Timer.finish hb.1)⟩
        · exact Or.inr ⟨n + 1, f, a, h1, Nat.add_right_comm k 1 n ▸ h2, h3⟩

end Igris.C16
