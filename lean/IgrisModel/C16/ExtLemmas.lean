/-
  C16 — the extended callbacks of `Ext.lean` and the guarded `exec` of `Guard.lean` agree with
  `execLoop` on plan / unplan scripts.
-/
import IgrisModel.C16.Guard
namespace Igris.C16

def statOfBool : Bool → Stat
  | true => .done
  | false => .running

theorem runActsX_ofAction (ex : Int → Nat → Mgr → Mgr × List Fire × Stat) (k : Nat) (m : Mgr) (b : Action)
    (as : List ActX) : runActsX ex k m (ActX.ofAction b :: as) = runActsX ex k (applyAct m b) as := by
  cases b <;> rfl

theorem runActsX_base (ex : Int → Nat → Mgr → Mgr × List Fire × Stat) (k : Nat) (m : Mgr) (acts : List Action) :
    runActsX ex k m (acts.map ActX.ofAction) = (runCb m acts, [], .done) := by
  induction acts generalizing m with
  | nil => rfl
  | cons a as ih => exact (runActsX_ofAction ex k m a _).trans (ih _)

theorem not_destroy_mem_base (i : Nat) (acts : List Action) : ActX.destroy i ∉ acts.map ActX.ofAction := by
  intro h
  obtain ⟨a, _, e⟩ := List.mem_map.mp h
  cases a <;> simp [ActX.ofAction] at e

theorem runActsX_guard (k : Nat) (m : Mgr) (acts : List ActG) :
    runActsX execReentered k m (acts.map ActG.toX) = (runCb m (acts.filterMap ActG.base?), [], .done) := by
  induction acts generalizing m k with
  | nil => rfl
  | cons a as ih =>
    cases a with
    | base b => exact (runActsX_ofAction _ k m b _).trans (ih _ _)
    | exec now =>
      -- the nested call returns at once with no callbacks, the numbering goes on from `k`
      simp only [List.map_cons, ActG.toX, runActsX, execReentered, List.filterMap_cons, ActG.base?, if_true,
        List.length_nil, Nat.add_zero, List.nil_append]
      rw [ih]

theorem not_destroy_mem_guard (i : Nat) (acts : List ActG) : ActX.destroy i ∉ acts.map ActG.toX := by
  intro h
  obtain ⟨a, _, e⟩ := List.mem_map.mp h
  cases a with
  | base b => cases b <;> simp [ActG.toX, ActX.ofAction] at e
  | exec now => simp [ActG.toX] at e

theorem execG_guard_aux (cb : Nat → Nat → List ActG) (fuel : Nat) (now : Int) (k : Nat) (m : Mgr) :
    execG (fun k i => (cb k i).map ActG.toX) fuel now k m =
      ((execLoop (fun k i => (cb k i).filterMap ActG.base?) now fuel k m).1,
       (execLoop (fun k i => (cb k i).filterMap ActG.base?) now fuel k m).2.1,
       statOfBool (execLoop (fun k i => (cb k i).filterMap ActG.base?) now fuel k m).2.2) := by
  induction fuel generalizing k m with
  | zero =>
    simp only [execG, execLoop]
    cases (m.headDue now) <;> rfl
  | succ n ih =>
    unfold execG execLoop
    cases hd : m.headDue now with
    | none => rfl
    | some i =>
      simp only [runActsX_guard, not_destroy_mem_guard, if_true, if_false, List.length_nil, Nat.add_zero,
        List.nil_append]
      rw [ih]
      rfl

end Igris.C16
