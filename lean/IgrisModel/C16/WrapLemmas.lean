/-
  C16 — the window of the counter range inside which a wrapping tick counter (`Wrap.lean`,
  `WrapN.lean`) reads the same as unbounded time: every planned timer has started, is at most `G`
  overdue and has an interval of at most `D`, with `G + D` less than half the range.
-/
import IgrisModel.C16.Lemmas
namespace Igris.C16

structure TWin (G D now : Int) (t : Timer) : Prop where
  pos : 0 < t.interval
  le : t.interval ≤ D
  start_le : t.start ≤ now
  fin_ge : now - G ≤ t.finish

def Win (G D now : Int) (m : Mgr) : Prop := ∀ i ∈ m.lst, TWin G D now (m.tm i)

def ActWin (G D now : Int) : Action → Prop
  | .unplan _ => True
  | .plan _ s iv => TWin G D now ⟨s, iv⟩

def CbWin (G D now : Int) (cb : Cb) : Prop := ∀ k i, ∀ a ∈ cb k i, ActWin G D now a

/-- the parameters: how late an `exec` may come (`G`), how long an interval may be (`D`) -/
structure Params (G D : Int) : Prop where
  g0 : 0 ≤ G
  gd : G + D < 2 ^ 31

/-- `H` stands for half the counter range: 2^31 in `Params`, 2^(w−1) in `ParamsN` -/
theorem TWin.small {G D now H : Int} (hg : 0 ≤ G) (hgd : G + D < H) {t : Timer} (h : TWin G D now t) :
    (0 ≤ t.interval ∧ t.interval < H) ∧ (0 ≤ now - t.start ∧ now - t.start < H) := by
  have := h.pos; have := h.le; have := h.start_le; have := h.fin_ge
  unfold Timer.finish at *
  omega

theorem TWin.close {G D now H : Int} (hgd : G + D < H) {a b : Timer} (ha : TWin G D now a)
    (hb : TWin G D now b) : -H ≤ a.finish - b.finish ∧ a.finish - b.finish < H := by
  have := ha.pos; have := ha.le; have := ha.start_le; have := ha.fin_ge
  have := hb.pos; have := hb.le; have := hb.start_le; have := hb.fin_ge
  unfold Timer.finish at *
  omega

theorem TWin.shift {G D now : Int} {t : Timer} (h : TWin G D now t) (hdue : t.finish ≤ now) :
    TWin G D now t.shift :=
  ⟨h.pos, h.le, hdue, by have := h.fin_ge; have := h.pos; rw [shift_finish]; omega⟩

theorem Win.unplan {G D now : Int} {m : Mgr} (h : Win G D now m) (i : Nat) : Win G D now (m.unplan i) :=
  fun x hx => h x ((mem_unplan m i x).mp hx).1

theorem CbWin.pos {G D now : Int} {cb : Cb} (h : CbWin G D now cb) : CbPos cb :=
  fun k i _ _ _ hm => (h k i _ hm).pos

/-- the invariant between two operations of a history; `lo` and `c` as in `HistWin` -/
def J (D lo c : Int) (m : Mgr) : Prop :=
  ∀ i ∈ m.lst, 0 < (m.tm i).interval ∧ (m.tm i).interval ≤ D ∧ (m.tm i).start ≤ c ∧ lo ≤ (m.tm i).finish

/-- the precondition on a history, read with `lo` = time of the previous `exec` (or of the
creation of the manager) and `c` = the latest time seen so far (`lo ≤ c`):
* `plan(i, s, iv)`: `0 < iv ≤ D`, the start is not more than `G` after the previous exec, the
  deadline is not before the previous exec;
* `exec(now)`: time does not go backwards (`now` is not before any start given to `plan` since),
  `exec` comes at most `G` after the previous one, the callbacks plan inside the window of `now`. -/
def HistWin (G D : Int) : Int → Int → List Op → Prop
  | _, _, [] => True
  | lo, c, .plan _ s iv :: ops => 0 < iv ∧ iv ≤ D ∧ s ≤ lo + G ∧ lo ≤ s + iv ∧ HistWin G D lo (max c s) ops
  | lo, c, .unplan _ :: ops => HistWin G D lo c ops
  | lo, c, .exec now cb _ :: ops => c ≤ now ∧ now ≤ lo + G ∧ CbWin G D now cb ∧ HistWin G D now now ops

theorem J.win {G D lo c now : Int} {m : Mgr} (h : J D lo c m) (h1 : c ≤ now) (h2 : now ≤ lo + G) :
    Win G D now m := by
  intro i hi
  obtain ⟨a, b, c', d⟩ := h i hi
  exact ⟨a, b, Int.le_trans c' h1, by omega⟩

theorem J.init (D lo c : Int) : J D lo c Mgr.init := fun _ hi => absurd hi List.not_mem_nil

theorem J.unplan {D lo c : Int} {m : Mgr} (h : J D lo c m) (i : Nat) : J D lo c (m.unplan i) :=
  fun x hx => h x ((mem_unplan m i x).mp hx).1

theorem J.plan3 {D lo c : Int} {m : Mgr} (h : J D lo c m) (i : Nat) {s iv : Int} (h1 : 0 < iv) (h2 : iv ≤ D)
    (h4 : lo ≤ s + iv) : J D lo (max c s) (m.plan3 i s iv) := by
  intro x hx
  rw [plan3_tm]
  by_cases hxi : x = i
  · rw [hxi, setTm_same]; exact ⟨h1, h2, Int.le_max_right c s, h4⟩
  · obtain ⟨a, b, c', d⟩ := h x (((mem_plan3 m i x s iv).mp hx).resolve_left hxi)
    rw [setTm_other _ _ hxi]; exact ⟨a, b, Int.le_trans c' (Int.le_max_left c s), d⟩

theorem J.of_win {G D now : Int} {m : Mgr} (hw : Win G D now m) (hnd : ∀ i ∈ m.lst, now < (m.tm i).finish) :
    J D now now m :=
  fun i hi => ⟨(hw i hi).pos, (hw i hi).le, (hw i hi).start_le, Int.le_of_lt (hnd i hi)⟩

theorem J.wfpos {D lo c : Int} {m : Mgr} (h : J D lo c m) : ∀ i ∈ m.lst, 0 < (m.tm i).interval :=
  fun i hi => (h i hi).1

end Igris.C16
