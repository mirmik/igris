/-
  C16 — "Timers fire exactly when due, in deadline order, without drift."

  Property theorems over the model `IgrisModel/C16/Model.lean` (igris::timer_manager after the
  repair 7f3b137, and stimer).  All statements are for EVERY manager state satisfying the
  invariant `WF` (which every history of plan/unplan/exec with positive intervals reaches:
  `sorted_inv`), EVERY `now`, EVERY callback behaviour `cb : Nat → Nat → List Action`
  (callback number → timer id → the plan/unplan calls it makes), EVERY fuel.

  Hypotheses that are really needed are named and visible:
  * `CbPos cb`        the callbacks plan with positive intervals (the property's "positive intervals");
  * `CbFuture now cb` the callbacks plan only deadlines `> now` — needed for termination ONLY
                      (`exec_terminates`; `exec_terminates_needs_future` shows a run that never
                      ends without it);
  * the hypothesis of `order_in_exec`: no callback plans a deadline earlier than the deadline
    of the timer it runs for.
  "Non-decreasing time" of the property text is not needed by any theorem: over `Int` the
  due rule `now - start ≥ interval` does not care where `now` comes from.
-/
import IgrisModel.C16.Refine
import IgrisModel.C16.Fifo
import IgrisModel.C16.ExtLemmas
import IgrisModel.C16.WrapNLemmas
import IgrisModel.C16.Delegate
namespace Igris.C16

/-! ### sorted_inv -/

/-- The invariant (no double link, list sorted by deadline, planned intervals positive) holds
after EVERY history of plan / unplan / exec — whatever the callbacks do, whether or not an
`exec` ran out of fuel. -/
theorem sorted_inv (ops : List Op) (hv : ∀ op ∈ ops, OpValid op) (m : Mgr) (hm : WF m) :
    WF (runOps m ops).1 := by
  induction ops generalizing m with
  | nil => exact hm
  | cons op ops ih =>
    exact ih (fun o ho => hv o (List.mem_cons_of_mem _ ho)) _ (hm.stepOp (hv op List.mem_cons_self))

theorem init_wf : WF Mgr.init := ⟨List.nodup_nil, List.Pairwise.nil, by simp [Mgr.init]⟩

theorem sorted_inv_init (ops : List Op) (hv : ∀ op ∈ ops, OpValid op) :
    Sorted (runOps Mgr.init ops).1.tm (runOps Mgr.init ops).1.lst :=
  (sorted_inv ops hv Mgr.init init_wf).sorted

/-- the invariant at every point of the `exec` loop (prefix of the loop = smaller fuel) -/
theorem sorted_inv_exec (cb : Cb) (now : Int) (fuel k : Nat) (m : Mgr) (hm : WF m) (hcb : CbPos cb) :
    WF (execLoop cb now fuel k m).1 :=
  (execLoop_steps cb now fuel k m).wf hcb hm

-- the hypotheses are satisfiable: two timers with equal deadlines, a callback that re-plans
example : WF ((Mgr.init.plan3 0 0 3).plan3 1 1 2) ∧ CbPos (fun _ _ => [Action.plan 0 7 2]) := by
  refine ⟨(init_wf.plan3 0 0 3 (by decide)).plan3 1 1 2 (by decide), ?_⟩
  intro k i j s iv h
  simp only [List.mem_singleton, Action.plan.injEq] at h
  omega

/-! ### not_early -/

/-- A callback never runs before its timer's deadline: every callback made by `exec(now)` has
`deadline ≤ now` (`deadline` = the timer's `start + interval` at that moment). -/
theorem not_early (cb : Cb) (now : Int) (fuel k : Nat) (m : Mgr) :
    ∀ f ∈ (execLoop cb now fuel k m).2.1, f.deadline ≤ now :=
  (execLoop_steps cb now fuel k m).not_early

/-! ### all_due_fire -/

/-- When `exec(now)` has returned, no planned timer has a deadline `≤ now`: everything that
was due has run (and has been re-armed past `now` or unplanned). -/
theorem all_due_fire (cb : Cb) (now : Int) (fuel k : Nat) (m : Mgr) (hm : WF m) (hcb : CbPos cb)
    (hfin : (execLoop cb now fuel k m).2.2 = true) :
    ∀ i ∈ (execLoop cb now fuel k m).1.lst, now < ((execLoop cb now fuel k m).1.tm i).finish :=
  none_due (sorted_inv_exec cb now fuel k m hm hcb) (execLoop_done cb now fuel k m hfin)

/-- Every planned timer whose deadline has passed runs during that `exec`: its callback is made
at exactly that deadline — unless an earlier callback of the same `exec` made a call naming
the timer (unplanned or re-planned it), which is the only way out. -/
theorem due_runs (cb : Cb) (now : Int) (fuel k : Nat) (m : Mgr) (hm : WF m) (hcb : CbPos cb)
    (hfin : (execLoop cb now fuel k m).2.2 = true) (i : Nat) (hi : i ∈ m.lst)
    (hdue : (m.tm i).finish ≤ now) :
    (∃ f ∈ (execLoop cb now fuel k m).2.1, f.id = i ∧ f.deadline = (m.tm i).finish) ∨
    (∃ n f a, (execLoop cb now fuel k m).2.1[n]? = some f ∧ a ∈ cb (k + n) f.id ∧ a.target = i) :=
  (execLoop_steps cb now fuel k m).due_runs hcb hm (execLoop_done cb now fuel k m hfin) i hi hdue

/-! ### order_in_exec -/

/-- Successive callbacks of one `exec`: the deadline does not decrease — unless the earlier of
the two callbacks itself planned the later timer at that earlier deadline. (Arbitrary callbacks.) -/
theorem order_in_exec_adjacent (cb : Cb) (now : Int) (fuel k : Nat) (m : Mgr) (hm : WF m) (hcb : CbPos cb)
    (n : Nat) (f g : Fire)
    (hf : (execLoop cb now fuel k m).2.1[n]? = some f)
    (hg : (execLoop cb now fuel k m).2.1[n + 1]? = some g) :
    f.deadline ≤ g.deadline ∨
    ∃ s iv, Action.plan g.id s iv ∈ cb (k + n) f.id ∧ g.deadline = s + iv :=
  (execLoop_steps cb now fuel k m).adjacent hcb hm n f g hf hg

/-- Callbacks within one `exec` run in non-decreasing deadline order, PROVIDED no callback
re-plans into the past: (`hnp`) the `n`-th callback, running for a timer with deadline `d`,
plans only deadlines `≥ d`. -/
theorem order_in_exec (cb : Cb) (now : Int) (fuel k : Nat) (m : Mgr) (hm : WF m) (hcb : CbPos cb)
    (hnp : ∀ n f, (execLoop cb now fuel k m).2.1[n]? = some f →
      ∀ j s iv, Action.plan j s iv ∈ cb (k + n) f.id → f.deadline ≤ s + iv) :
    ((execLoop cb now fuel k m).2.1.map (·.deadline)).Pairwise (· ≤ ·) := by
  apply chain_pairwise
  intro n a b h1 h2
  simp only [List.getElem?_map, Option.map_eq_some_iff] at h1 h2
  obtain ⟨f, hf, rfl⟩ := h1
  obtain ⟨g, hg, rfl⟩ := h2
  rcases order_in_exec_adjacent cb now fuel k m hm hcb n f g hf hg with h | ⟨s, iv, hmem, e⟩
  · exact h
  · rw [e]; exact hnp n f hf g.id s iv hmem

theorem order_in_exec_future (cb : Cb) (now : Int) (fuel k : Nat) (m : Mgr) (hm : WF m) (hcb : CbPos cb)
    (hfut : CbFuture now cb) :
    ((execLoop cb now fuel k m).2.1.map (·.deadline)).Pairwise (· ≤ ·) := by
  apply order_in_exec cb now fuel k m hm hcb
  intro n f hf j s iv hmem
  have h1 := not_early cb now fuel k m f (List.mem_of_getElem? hf)
  have h2 := hfut (k + n) f.id j s iv hmem
  omega

/-- the hypothesis of `order_in_exec` cannot be dropped: the first callback plans timer 1 into
the past and the deadlines come out as 5, 2 -/
theorem order_in_exec_witness :
    ((execLoop (fun k _ => if k = 0 then [Action.plan 1 0 2] else []) 6 10 0
        (Mgr.init.plan3 0 0 5)).2.1.map (·.deadline)).take 2 = [5, 2] := by
  decide

/-! ### rearm -/

/-- The loop body for the due head `i`, callback calls `acts`:
* the callback left the timer planned and did not touch its start/interval ⇒ it is re-armed at
  exactly previous deadline + interval, same interval (no drift);
* the callback re-planned its own timer ⇒ it keeps exactly what the callback asked for;
* the callback unplanned it ⇒ it stays unplanned. -/
theorem rearm_left_alone (m : Mgr) (acts : List Action) (i : Nat)
    (hpl : i ∈ (runCb m acts).lst) (hsame : (runCb m acts).tm i = m.tm i) :
    i ∈ (execBody acts m i).lst ∧
    ((execBody acts m i).tm i).finish = (m.tm i).finish + (m.tm i).interval ∧
    ((execBody acts m i).tm i).interval = (m.tm i).interval := by
  obtain ⟨h3, h4⟩ := execBody_left_alone m acts i hpl hsame
  exact ⟨h4, by rw [h3, shift_finish], by rw [h3, shift_interval]⟩

theorem rearm_replanned (m : Mgr) (acts : List Action) (i : Nat)
    (hpl : i ∈ (runCb m acts).lst) (hch : (runCb m acts).tm i ≠ m.tm i) :
    i ∈ (execBody acts m i).lst ∧ (execBody acts m i).tm i = (runCb m acts).tm i := by
  unfold execBody
  exact ⟨(mem_rearm ..).mpr hpl, (rearm_tm_self _ i _ hpl).trans (if_neg hch)⟩

theorem rearm_unplanned (m : Mgr) (acts : List Action) (i : Nat) (hun : i ∉ (runCb m acts).lst) :
    execBody acts m i = runCb m acts :=
  rearm_not_mem _ i _ hun

/-- and a self re-plan `plan(i, s, iv)` as the callback's last word about `i` gives deadline
`s + iv` exactly (this is the clause the unrepaired code violated: it gave `s + 2·iv`) -/
theorem rearm_self_replan (m : Mgr) (acts : List Action) (i : Nat) (s iv : Int)
    (hpl : i ∈ (runCb m acts).lst) (hlast : (runCb m acts).tm i = ⟨s, iv⟩) (hne : m.tm i ≠ ⟨s, iv⟩) :
    ((execBody acts m i).tm i).finish = s + iv := by
  rw [(rearm_replanned m acts i hpl (by rw [hlast]; exact Ne.symm hne)).2, hlast]
  rfl

/-- Catch-up without drift.  A planned timer `i` (deadline `d`, interval `iv`) that no callback
touches fires in one `exec(now)` exactly at the deadlines `d, d+iv, …, d+(n-1)·iv` — one firing
per elapsed period — and is left planned with deadline `d + n·iv`, where `n` is determined by
`d + (n-1)·iv ≤ now < d + n·iv` (`n = 0` if `now < d`). -/
theorem catch_up (cb : Cb) (now : Int) (fuel k : Nat) (m : Mgr) (hm : WF m) (hcb : CbPos cb)
    (hfin : (execLoop cb now fuel k m).2.2 = true) (i : Nat) (hu : Untouched cb i) (hi : i ∈ m.lst) :
    ∃ n : Nat,
      ((execLoop cb now fuel k m).2.1.filter (fun f => f.id = i)).map (·.deadline) =
        (List.range n).map (fun (q : Nat) => (m.tm i).finish + (q : Int) * (m.tm i).interval) ∧
      (execLoop cb now fuel k m).1.tm i =
        ⟨(m.tm i).start + (n : Int) * (m.tm i).interval, (m.tm i).interval⟩ ∧
      i ∈ (execLoop cb now fuel k m).1.lst ∧
      now < (m.tm i).finish + (n : Int) * (m.tm i).interval ∧
      (0 < n → (m.tm i).finish + ((n : Int) - 1) * (m.tm i).interval ≤ now) := by
  obtain ⟨n, h1, h2, h3⟩ := (execLoop_steps cb now fuel k m).catch_up i hu hi
  refine ⟨n, h1, h2, h3, ?_, fun hn => ?_⟩
  · -- `i` is still planned, so after the return its deadline lies after `now`
    have := all_due_fire cb now fuel k m hm hcb hfin i h3
    rw [h2] at this
    show now < (m.tm i).start + (m.tm i).interval + n * (m.tm i).interval
    rw [Int.add_right_comm]
    exact this
  · -- the last firing of `i` was not early
    have hlast : (m.tm i).finish + ((n - 1 : Nat) : Int) * (m.tm i).interval ∈
        ((execLoop cb now fuel k m).2.1.filter (fun f => f.id = i)).map (·.deadline) :=
      h1 ▸ List.mem_map.mpr ⟨n - 1, List.mem_range.mpr (Nat.sub_lt hn Nat.one_pos), rfl⟩
    obtain ⟨f, hf, hfd⟩ := List.mem_map.mp hlast
    rw [← show ((n - 1 : Nat) : Int) = (n : Int) - 1 from Int.natCast_sub hn, ← hfd]
    exact not_early cb now fuel k m f (List.mem_filter.mp hf).1

/-- the number of firings in `catch_up` as a quotient: `⌊(now - d)/iv⌋ + 1` for a due timer -/
theorem catch_up_count (now d iv : Int) (n : Nat) (hiv : 0 < iv) (hd : d ≤ now)
    (h1 : now < d + (n : Int) * iv) (h2 : 0 < n → d + ((n : Int) - 1) * iv ≤ now) :
    (n : Int) = (now - d) / iv + 1 := by
  have hn : 0 < n := Nat.pos_of_ne_zero fun e => by subst e; omega
  have h2 := h2 hn
  have : (now - d) / iv = (n : Int) - 1 := (Int.ediv_eq_iff_of_pos hiv).mpr (by rw [Int.sub_mul, Int.one_mul] at h2 ⊢; omega)
  omega

-- `Untouched` is satisfiable together with callbacks that do act (on other timers)
example : Untouched (fun _ _ => [Action.unplan 1, Action.plan 2 0 1]) 0 := by
  intro k x a ha
  simp only [List.mem_cons, List.mem_nil_iff, or_false] at ha
  rcases ha with rfl | rfl <;> simp [Action.target]

/-! ### unplanned_never_fires -/

/-- A timer that is not planned when `exec` starts and that no callback plans does not fire in
that `exec`, and is still not planned afterwards. -/
theorem unplanned_never_fires (cb : Cb) (now : Int) (fuel k : Nat) (m : Mgr) (i : Nat)
    (hi : i ∉ m.lst) (hnp : ∀ k x s iv, Action.plan i s iv ∉ cb k x) :
    (∀ f ∈ (execLoop cb now fuel k m).2.1, f.id ≠ i) ∧ i ∉ (execLoop cb now fuel k m).1.lst :=
  (execLoop_steps cb now fuel k m).not_mem i hnp hi

/-- History form: once a timer is unplanned, it never fires during any later operation until
somebody plans it again. -/
theorem unplanned_never_fires_history (ops : List Op) (m : Mgr) (i : Nat)
    (hops : ∀ op ∈ ops, OpNoPlan i op) :
    ∀ fs ∈ (runOps (m.unplan i) ops).2.1, ∀ f ∈ fs, f.id ≠ i := by
  suffices key : ∀ (ops : List Op) (m : Mgr), (∀ op ∈ ops, OpNoPlan i op) → i ∉ m.lst →
      ∀ fs ∈ (runOps m ops).2.1, ∀ f ∈ fs, f.id ≠ i from key ops _ hops (not_mem_unplan m i)
  intro ops
  induction ops with
  | nil => exact fun _ _ _ _ h => nomatch h
  | cons op ops ih =>
    intro m hops hi fs hfs
    have hop := hops op List.mem_cons_self
    -- no operation that does not plan `i` fires or links it
    have hstep : (∀ f ∈ (stepOp m op).2.1, f.id ≠ i) ∧ i ∉ (stepOp m op).1.lst := by
      cases op with
      | plan j s iv => exact ⟨nofun, fun h => ((mem_plan3 m j i s iv).mp h).elim (fun e => hop e.symm) hi⟩
      | unplan j => exact ⟨nofun, fun h => hi ((mem_unplan m j i).mp h).1⟩
      | exec now cb fuel => exact unplanned_never_fires cb now fuel 0 m i hi hop
    rcases List.mem_cons.mp hfs with rfl | e
    · exact hstep.1
    · exact ih _ (fun o ho => hops o (List.mem_cons_of_mem _ ho)) hstep.2 fs e

/-! ### exec_terminates -/

/-- `exec(now)` returns: with callbacks that plan only deadlines after `now`, the loop exits
after at most `lagSum now m` iterations (the sum over the planned timers of how far their
deadline lies behind `now`) -/
theorem exec_terminates (cb : Cb) (now : Int) (k : Nat) (m : Mgr) (hm : WF m) (hcb : CbPos cb)
    (hfut : CbFuture now cb) (fuel : Nat) (hfuel : lagSum now m ≤ fuel) :
    (execLoop cb now fuel k m).2.2 = true := by
  induction fuel generalizing k m with
  | zero =>
    simp only [execLoop, Option.isNone_iff_eq_none]
    cases hd : m.headDue now with
    | none => rfl
    | some i =>
      -- a due head means a positive measure: one more iteration would decrease it
      have := lagSum_execBody now m i (cb k i) hm (hcb k i) hd (hfut k i)
      omega
  | succ n ih =>
    unfold execLoop
    split
    · rfl
    · rename_i i hd
      apply ih
      · exact hm.execBody _ (hcb k i) i
      · have := lagSum_execBody now m i (cb k i) hm (hcb k i) hd (hfut k i)
        omega

/-- and the result does not depend on the fuel once the loop has exited -/
theorem exec_fuel_irrelevant (cb : Cb) (now : Int) (fuel fuel' k : Nat) (m : Mgr)
    (hfin : (execLoop cb now fuel k m).2.2 = true) (hle : fuel ≤ fuel') :
    execLoop cb now fuel' k m = execLoop cb now fuel k m := by
  induction fuel generalizing fuel' k m with
  | zero =>
    simp only [execLoop, Option.isNone_iff_eq_none] at hfin
    cases fuel' with
    | zero => rfl
    | succ n => simp [execLoop, hfin]
  | succ n ih =>
    cases fuel' with
    | zero => omega
    | succ n' =>
      unfold execLoop at hfin ⊢
      split
      · rfl
      · rename_i i hd
        simp only [hd] at hfin
        rw [ih n' (k + 1) _ hfin (by omega)]

/-- `CbFuture` cannot be dropped from `exec_terminates`: with one timer (start 0, interval 1),
`now = 5` and callbacks that re-plan the timer one tick further into the past each time
(positive interval, so `WF` and `CbPos` hold), the loop is still running after ANY number of
iterations — the real `exec` does not return. -/
theorem exec_terminates_needs_future :
    WF (Mgr.init.plan3 0 0 1) ∧ CbPos pastCb ∧
    ∀ fuel, (execLoop pastCb 5 fuel 0 (Mgr.init.plan3 0 0 1)).2.2 = false := by
  refine ⟨init_wf.plan3 0 0 1 (by decide), ?_, ?_⟩
  · intro k i j s iv h
    simp only [pastCb, List.mem_singleton, Action.plan.injEq] at h
    omega
  · intro fuel
    exact pastCb_never fuel 0 _ (by decide) (by simp [Mgr.plan3, Mgr.plan, Mgr.unplan])

-- the hypotheses of `exec_terminates` are satisfiable by callbacks that do re-plan
example : CbFuture 10 (fun _ i => [Action.plan i 10 1, Action.unplan (i + 1)]) := by
  intro k i j s iv h
  simp only [List.mem_cons, Action.plan.injEq, List.mem_nil_iff, or_false, reduceCtorEq] at h
  omega

/-! ### refines_reference -/

/-- The pending set of the manager after `plan` / `unplan` is the reference's. -/
theorem refines_reference_plan (m : Mgr) (j : Nat) (s iv : Int) :
    absM (m.plan3 j s iv) = (absM m).plan j s iv := absM_plan3 m j s iv

theorem refines_reference_unplan (m : Mgr) (j : Nat) : absM (m.unplan j) = (absM m).unplan j :=
  absM_unplan m j

/-- Every returned `exec(now)` is an execution of the reference scheduler with the same
callbacks in the same order and the same resulting pending set: each callback is a pending
timer with the EARLIEST reference deadline, that deadline is `≤ now`, the reference re-arms /
drops / keeps the timer by its own rule (`Ref.fired`), and the reference stops only when
nothing pending is due. -/
theorem refines_reference_exec (cb : Cb) (now : Int) (fuel k : Nat) (m : Mgr) (hm : WF m) (hcb : CbPos cb)
    (hfin : (execLoop cb now fuel k m).2.2 = true) :
    Ref.Exec cb now k (absM m) (execLoop cb now fuel k m).2.1 (absM (execLoop cb now fuel k m).1) :=
  (execLoop_steps cb now fuel k m).refines hcb hm (execLoop_done cb now fuel k m hfin)

/-- Whole histories: the manager's pending set and its callbacks are those of the reference
scheduler run on the same history. -/
theorem refines_reference (ops : List Op) (hv : ∀ op ∈ ops, OpValid op) (m : Mgr) (hm : WF m)
    (hfin : (runOps m ops).2.2 = true) :
    Ref.Hist (absM m) ops (runOps m ops).2.1 (absM (runOps m ops).1) := by
  induction ops generalizing m with
  | nil => exact Ref.Hist.nil _
  | cons op ops ih =>
    have hfin := runOps_cons_returned.mp hfin
    have hop := hv op List.mem_cons_self
    have tl := ih (fun o ho => hv o (List.mem_cons_of_mem _ ho)) _ (hm.stepOp hop) hfin.2
    cases op with
    | plan i s iv => exact Ref.Hist.plan (absM_plan3 m i s iv ▸ tl)
    | unplan i => exact Ref.Hist.unplan (absM_unplan m i ▸ tl)
    | exec now cb fuel => exact Ref.Hist.exec (refines_reference_exec cb now fuel 0 m hm hop hfin.1) tl

theorem refines_reference_init (ops : List Op) (hv : ∀ op ∈ ops, OpValid op)
    (hfin : (runOps Mgr.init ops).2.2 = true) :
    Ref.Hist Ref.none ops (runOps Mgr.init ops).2.1 (absM (runOps Mgr.init ops).1) := by
  have h := refines_reference ops hv Mgr.init init_wf hfin
  have e : absM Mgr.init = Ref.none := funext fun i => absM_not_mem (m := Mgr.init) List.not_mem_nil
  rwa [e] at h

/-- observables: `is_planned`, the deadline, `empty()`, `minimal_interval(now)` -/
theorem pending_eq (m : Mgr) (i : Nat) :
    (i ∈ m.lst ↔ absM m i ≠ none) ∧
    (i ∈ m.lst → absM m i = some ((m.tm i).finish, (m.tm i).interval)) :=
  ⟨absM_pending m i, absM_mem⟩

theorem empty_eq (m : Mgr) : m.empty = true ↔ (absM m).IsEmpty := by
  rw [Mgr.empty, List.isEmpty_iff]
  constructor
  · exact fun h i => absM_not_mem (h ▸ List.not_mem_nil)
  · exact fun h => List.eq_nil_iff_forall_not_mem.mpr fun x hx => (absM_pending m x).mp hx (h x)

/-- `minimal_interval(now)` is the reference's time to the earliest pending deadline -/
theorem minimal_interval_eq (m : Mgr) (hm : WF m) (now v : Int) (h : m.minimalInterval now = some v) :
    (absM m).Earliest (v + now) := by
  unfold Mgr.minimalInterval at h
  split at h
  · exact nomatch h
  · rename_i i rest hl
    obtain rfl : (m.tm i).finish - now = v := Option.some.inj h
    rw [Int.sub_add_cancel]
    exact ⟨⟨i, _, absM_mem (hl ▸ List.mem_cons_self)⟩, fun j d' p' hp => absM_head_le hm hl hp⟩

/-- FULL statement that does NOT hold: "for every manager `minimal_interval(now)` is the
reference's time to the next deadline".  On an empty manager there is no next deadline and the
code before the repair 4934f90 read `_start`/`_interval` through the list head (out of the manager
object; finding C16-minimal-interval-empty; the repaired code: `minimal_interval_total`).
`minimal_interval_eq` above is the `_partial` form (its hypothesis `= some v` is exactly "not
empty", see `minimal_interval_defined`); witness: -/
theorem minimal_interval_empty_witness : Mgr.init.empty = true ∧ ∀ now, Mgr.init.minimalInterval now = none :=
  ⟨rfl, fun _ => rfl⟩

theorem minimal_interval_defined (m : Mgr) (now : Int) :
    m.minimalInterval now = none ↔ m.empty = true := by
  unfold Mgr.minimalInterval Mgr.empty
  split <;> simp_all

/-! ### stimer -/

/-- the flag-style timer obeys the same due rule: due iff planned and the deadline
`start + interval` has been reached -/
theorem stimer_check_iff (t : STimer) (now : Int) :
    stimerCheck t now = true ↔ t.planed = true ∧ t.start + t.interval ≤ now := by
  simp only [stimerCheck, Bool.and_eq_true, decide_eq_true_eq]
  constructor <;> rintro ⟨h1, h2⟩ <;> exact ⟨h1, by omega⟩

/-- … which is the manager's `check()` for the same start / interval -/
theorem stimer_same_rule (t : STimer) (now : Int) (hp : t.planed = true) :
    stimerCheck t now = (Timer.check ⟨t.start, t.interval⟩ now) := by
  simp [stimerCheck, Timer.check, hp]

/-- no drift: after any sequence of polls the deadline is the initial deadline plus one interval
per firing, the interval and the planned flag are unchanged -/
theorem stimer_periodic_no_drift (t : STimer) (ts : List Int) :
    (stimerPolls t ts).1.start + (stimerPolls t ts).1.interval =
      t.start + t.interval + ((stimerPolls t ts).2.count true : Int) * t.interval ∧
    (stimerPolls t ts).1.interval = t.interval ∧ (stimerPolls t ts).1.planed = t.planed := by
  induction ts generalizing t with
  | nil => simp [stimerPolls]
  | cons now ts ih =>
    simp only [stimerPolls]
    by_cases hc : stimerCheck t now = true
    · rw [show stimerPeriodic t now = (stimerSwift t, true) from if_pos hc]
      obtain ⟨h1, h2, h3⟩ := ih (stimerSwift t)
      simp only [stimerSwift] at h1 h2 h3 ⊢
      refine ⟨?_, h2, h3⟩
      rw [h1, List.count_cons_self, Int.natCast_add, Int.add_mul]
      omega
    · rw [show stimerPeriodic t now = (t, false) from if_neg hc]
      obtain ⟨h1, h2, h3⟩ := ih t
      refine ⟨?_, h2, h3⟩
      rw [h1]
      simp

/-- a poll fires exactly when the timer is due, and then advances the deadline by exactly one interval -/
theorem stimer_periodic_rule (t : STimer) (now : Int) :
    ((stimerPeriodic t now).2 = true ↔ t.planed = true ∧ t.start + t.interval ≤ now) ∧
    ((stimerPeriodic t now).2 = true →
      (stimerPeriodic t now).1.start + (stimerPeriodic t now).1.interval = t.start + t.interval + t.interval) ∧
    ((stimerPeriodic t now).2 = false → (stimerPeriodic t now).1 = t) := by
  have h := stimer_check_iff t now
  unfold stimerPeriodic
  split
  · rename_i hc
    exact ⟨⟨fun _ => h.mp hc, fun _ => rfl⟩, fun _ => by simp [stimerSwift], fun e => by simp at e⟩
  · rename_i hc
    refine ⟨⟨fun e => by simp at e, fun e => absurd (h.mpr e) hc⟩, fun e => by simp at e, fun _ => rfl⟩


/-! ### naming of the theorems that carry a hypothesis which cannot be dropped

FULL statements that do NOT hold for the code (each with its kernel-checked witness above):
"callbacks within one exec run in non-decreasing deadline order" (`order_in_exec_witness`),
"minimal_interval(now) is the reference's time to the next deadline" (`minimal_interval_empty_witness`),
"exec(now) returns" (`exec_terminates_needs_future`).  The provable forms under their visible hypothesis: -/

theorem order_in_exec_partial (cb : Cb) (now : Int) (fuel k : Nat) (m : Mgr) (hm : WF m) (hcb : CbPos cb)
    (hnp : ∀ n f, (execLoop cb now fuel k m).2.1[n]? = some f →
      ∀ j s iv, Action.plan j s iv ∈ cb (k + n) f.id → f.deadline ≤ s + iv) :
    ((execLoop cb now fuel k m).2.1.map (·.deadline)).Pairwise (· ≤ ·) :=
  order_in_exec cb now fuel k m hm hcb hnp

theorem minimal_interval_eq_partial (m : Mgr) (hm : WF m) (now v : Int) (h : m.minimalInterval now = some v) :
    (absM m).Earliest (v + now) := minimal_interval_eq m hm now v h

theorem exec_terminates_partial (cb : Cb) (now : Int) (k : Nat) (m : Mgr) (hm : WF m) (hcb : CbPos cb)
    (hfut : CbFuture now cb) (fuel : Nat) (hfuel : lagSum now m ≤ fuel) :
    (execLoop cb now fuel k m).2.2 = true := exec_terminates cb now k m hm hcb hfut fuel hfuel

/-- outside "positive intervals": a planned due timer whose interval is `≤ 0` makes `exec` spin —
for EVERY fuel the loop is still running (callbacks that do nothing) -/
theorem nonpositive_interval_never_returns (now s iv : Int) (hiv : iv ≤ 0) (hdue : s + iv ≤ now) :
    ∀ fuel k, (execLoop (fun _ _ => []) now fuel k ⟨fun _ => ⟨s, iv⟩, [0]⟩).2.2 = false := by
  intro fuel k
  -- re-arming a due timer with an interval `≤ 0` leaves it due
  refine execLoop_never _ now (fun _ m => m.lst = [0] ∧ (m.tm 0).interval = iv ∧ (m.tm 0).finish ≤ now) ?_
    fuel k _ ⟨rfl, rfl, hdue⟩
  intro k m ⟨hl, h1, h2⟩
  have hb := execBody_untouched_self m [] 0 (fun _ h => nomatch h) (hl ▸ List.mem_cons_self)
  refine ⟨0, headDue_of_cons hl h2, ?_, by rw [hb.1]; exact h1, by rw [hb.1, shift_finish]; omega⟩
  simp [execBody, rearm, runCb, Mgr.unplan, Mgr.plan, insertBefore, hl]

-- the hypotheses are satisfiable: interval 0, deadline 5, now 5
example : (0 : Int) ≤ 0 ∧ (5 : Int) + 0 ≤ 5 := by omega

/-- a callback that re-plans its own timer with exactly the values it already has is "left
alone" for the code and for the reference alike: it asked for deadline `s + iv` and gets
`s + 2·iv` (this is what `rearm_self_replan` excludes by `hne`) -/
theorem rearm_self_replan_same_values_witness :
    ((execBody [Action.plan 0 0 3] (Mgr.init.plan3 0 0 3) 0).tm 0).finish = 6 ∧
    ((execBody [Action.plan 0 1 2] (Mgr.init.plan3 0 0 3) 0).tm 0).finish = 3 := by
  decide

/-! ### wrap-around: `timer_manager_basic<timer_spec<uint32_t>>` (model `Wrap.lean`)

Precondition on a history (`HistWin G D lo c ops`, `lo` = time of the previous `exec`, `c` = latest
time seen): positive intervals of at most `D`; time does not go backwards (an `exec` is not given
a time before a start handed to `plan` since); every `exec` comes at most `G` after the previous
one; no deadline is planned before the time of the previous `exec`; `G + D < 2^31`. -/

/-- one `exec(now)`: the 32-bit manager makes exactly the callbacks of the unbounded-time manager
(deadlines modulo 2^32), ends in its state modulo 2^32 and returns when it returns — so
`not_early`, `all_due_fire`, `due_runs`, `order_in_exec*`, `rearm_*`, `catch_up` hold ACROSS the wrap -/
theorem wrap_exec_refines {G D now : Int} (P : Params G D) (cb : Cb) (hcb : CbWin G D now cb) (fuel k : Nat)
    (m : Mgr) (hw : Win G D now m) :
    execLoopW .signedDiff (cbToW cb) (wr now) fuel k m.toW =
      ((execLoop cb now fuel k m).1.toW, (execLoop cb now fuel k m).2.1.map Fire.toW,
        (execLoop cb now fuel k m).2.2) := by
  have h := execLoopN_toW (cbToN 32 cb) (wrN 32 now) fuel k (m.toN 32)
  rw [(execLoop_simN false P.toN cb hcb fuel k m hw).1, ← cbToW_eq] at h
  rw [show m.toW = (m.toN 32).toW from rfl, show wr now = wrN 32 now from rfl, h, List.map_map]
  rfl

/-- whole histories across any number of wraps -/
theorem wrap_refines {G D : Int} (P : Params G D) (ops : List Op) (lo c : Int) (m : Mgr) (hm : WF m)
    (hj : J D lo c m) (hc : c ≤ lo + G) (hh : HistWin G D lo c ops) (hfin : (runOps m ops).2.2 = true) :
    runOpsW .signedDiff m.toW (ops.map Op.toW) =
      ((runOps m ops).1.toW, (runOps m ops).2.1.map (fun fs => fs.map Fire.toW), true) := by
  have e : ops.map Op.toW = (ops.map (Op.toN 32)).map OpN.toW := by
    rw [List.map_map]; exact List.map_congr_left fun op _ => op.toW_eq
  rw [e, show m.toW = (m.toN 32).toW from rfl, runOpsN_toW,
    runOps_simN false P.toN ops lo c m hm hj hc hh hfin]
  simp only [List.map_map, Function.comp_def]
  rfl

theorem HistWin.valid {G D : Int} : ∀ (ops : List Op) (lo c : Int), HistWin G D lo c ops → ∀ op ∈ ops, OpValid op
  | [], _, _, _ => nofun
  | .plan _ s _ :: ops, lo, c, h => List.forall_mem_cons.mpr ⟨h.1, HistWin.valid ops lo (max c s) h.2.2.2.2⟩
  | .unplan _ :: ops, lo, c, h => List.forall_mem_cons.mpr ⟨trivial, HistWin.valid ops lo c h⟩
  | .exec now _ _ :: ops, _, _, h => List.forall_mem_cons.mpr ⟨h.2.2.1.pos, HistWin.valid ops now now h.2.2.2⟩

/-- … hence from a fresh manager the 32-bit manager's callbacks and pending set are those of the
REFERENCE scheduler run in unbounded time on the same history, read modulo 2^32: timers fire
exactly when due and in deadline order across the wrap -/
theorem wrap_refines_reference {G D : Int} (P : Params G D) (ops : List Op) (t0 : Int)
    (hh : HistWin G D t0 t0 ops) (hfin : (runOps Mgr.init ops).2.2 = true) :
    ∃ (fss : List (List Fire)) (m' : Mgr),
      Ref.Hist Ref.none ops fss (absM m') ∧
      runOpsW .signedDiff MgrW.init (ops.map Op.toW) = (m'.toW, fss.map (fun fs => fs.map Fire.toW), true) := by
  refine ⟨(runOps Mgr.init ops).2.1, (runOps Mgr.init ops).1,
    refines_reference_init ops (HistWin.valid ops t0 t0 hh) hfin, ?_⟩
  exact wrap_refines P ops t0 t0 Mgr.init init_wf (J.init D t0 t0) (Int.le_add_of_nonneg_right P.g0) hh hfin

-- the precondition is satisfiable by a history that crosses the wrap (2^32 = 4294967296)
example : HistWin (2 ^ 30) (2 ^ 30) 4294967200 4294967200
    [Op.plan 0 4294967200 50, Op.exec 4294967290 (fun _ _ => [Action.plan 1 4294967290 10]) 9,
     Op.exec 4294967300 (fun _ _ => []) 9] := by
  refine ⟨by decide, by decide, by decide, by decide, by decide, by decide, ?_, by decide, by decide, ?_, trivial⟩
  · intro k i a ha
    simp only [List.mem_singleton] at ha
    subst ha
    exact ⟨by simp, by simp, by simp, by simp [Timer.finish]⟩
  · intro k i a ha; simp at ha

/-- the code AS SHIPPED (`finish < tim.finish()` on unsigned values): timer 0 has deadline
2^32 − 16, timer 1 deadline 2^32 + 5 (= 5 after the wrap) is sorted in front of it, and at
time 2^32 − 14 timer 0 is due but `exec` makes no callback; the repaired comparison runs it -/
theorem wrap_unsigned_less_witness :
    let plans (c : Cmp) := (MgrW.init.plan3 c 0 (wr 4294967264) (wr 16)).plan3 c 1 (wr 4294967264) (wr 37)
    (plans .less).lst = [1, 0] ∧
    ((plans .less).tm 0).check (wr 4294967282) = true ∧
    (execLoopW .less (fun _ _ => []) (wr 4294967282) 5 0 (plans .less)).2.1 = [] ∧
    (execLoopW .signedDiff (fun _ _ => []) (wr 4294967282) 5 0 (plans .signedDiff)).2.1 = [⟨0, wr 4294967280⟩] := by
  decide

/-- the precondition cannot be relaxed to "gap < 2^31 and interval < 2^31": 2^31 − 2 ticks after
the previous exec (time 0) a timer with interval 2^31 − 1 is planned while timer 0 (deadline 5) is
overdue; the difference of the deadlines does not fit `int32_t`, the new timer is put in front and
the overdue timer does not run although `exec` returns -/
theorem wrap_window_needed_witness :
    let m := (MgrW.init.plan3 .signedDiff 0 (wr 0) (wr 5)).plan3 .signedDiff 1 (wr 2147483646) (wr 2147483647)
    m.lst = [1, 0] ∧ (m.tm 0).check (wr 2147483646) = true ∧
    (execLoopW .signedDiff (fun _ _ => []) (wr 2147483646) 5 0 m).2 = ([], true) := by
  decide

/-- nor can "no start after the clock": an unsigned `check` reads a start 10 ticks in the future as
a start 2^32 − 10 ticks ago and runs the timer at once (the unbounded-time manager does not) -/
theorem wrap_future_start_witness :
    (execLoopW .signedDiff (fun _ _ => []) (wr 100) 1 0
        (MgrW.init.plan3 .signedDiff 0 (wr 110) (wr 1073741824))).2.1 = [⟨0, wr 1073741934⟩] ∧
    (execLoop (fun _ _ => []) 100 1 0 (Mgr.init.plan3 0 110 1073741824)).2.1 = [] := by
  decide

/-! ### stimer in the arithmetic of a `w`-bit `long` (model `stimerCheckN` …, `Wrap.lean`) -/

/-- the due rule against an independent statement: with the tick values read in unbounded time,
`stimer_check` (computed in wrapping `w`-bit arithmetic) says "due" exactly when the timer is
planned and the deadline `start + interval` has been reached — provided the poll is less than
half the range away from the start -/
theorem stimer_wrap_due_iff (w : Nat) (hw : 0 < w) (t : STimer) (now : Int)
    (h1 : -2 ^ (w - 1) ≤ now - t.start) (h2 : now - t.start < 2 ^ (w - 1))
    (h3 : -2 ^ (w - 1) ≤ t.interval) (h4 : t.interval < 2 ^ (w - 1)) :
    stimerCheckN (t.toN w) (BitVec.ofInt w now) = true ↔ t.planed = true ∧ t.start + t.interval ≤ now := by
  rw [stimerCheck_simN w hw t now h1 h2 h3 h4]
  exact stimer_check_iff t now

-- satisfiable across the wrap of a 32-bit long: start 2^31 − 6, poll at 2^31 + 10
example : (-2 ^ (32 - 1) : Int) ≤ 2147483658 - 2147483642 ∧ (2147483658 - 2147483642 : Int) < 2 ^ (32 - 1) := by
  omega

/-- the polls of a history stay within half the range of the (moving) start -/
def PollsWin (w : Nat) : STimer → List Int → Prop
  | _, [] => True
  | t, now :: ts =>
    (-2 ^ (w - 1) ≤ now - t.start ∧ now - t.start < 2 ^ (w - 1)) ∧ PollsWin w (stimerPeriodic t now).1 ts

def stimerPollsN {w : Nat} (t : STimerN w) : List (BitVec w) → STimerN w × List Bool
  | [] => (t, [])
  | now :: ts =>
    let r := stimerPeriodicN t now
    let r' := stimerPollsN r.1 ts
    (r'.1, r.2 :: r'.2)

/-- `STIMER_PERIODIC` polled across the wrap fires at the polls at which the unbounded-time timer
fires and ends in its state modulo 2^w — with `stimer_periodic_no_drift`: no drift across the wrap -/
theorem stimer_wrap_polls (w : Nat) (hw : 0 < w) (t : STimer) (ts : List Int)
    (h3 : -2 ^ (w - 1) ≤ t.interval) (h4 : t.interval < 2 ^ (w - 1)) (hp : PollsWin w t ts) :
    stimerPollsN (t.toN w) (ts.map (BitVec.ofInt w)) = ((stimerPolls t ts).1.toN w, (stimerPolls t ts).2) := by
  induction ts generalizing t with
  | nil => rfl
  | cons now ts ih =>
    obtain ⟨⟨a, b⟩, c⟩ := hp
    simp only [List.map_cons, stimerPollsN, stimerPolls, stimerPeriodic_simN w hw t now a b h3 h4]
    have hiv : (stimerPeriodic t now).1.interval = t.interval := by
      unfold stimerPeriodic; split <;> rfl
    rw [ih (stimerPeriodic t now).1 (by rw [hiv]; exact h3) (by rw [hiv]; exact h4) c]

example : PollsWin 32 ⟨2147483642, 10, true⟩ [2147483645, 2147483652, 2147483670] := by
  refine ⟨by dsimp only; omega, ?_⟩
  have e1 : (stimerPeriodic ⟨2147483642, 10, true⟩ 2147483645).1 = ⟨2147483642, 10, true⟩ := by decide
  rw [e1]
  refine ⟨by dsimp only; omega, ?_⟩
  have e2 : (stimerPeriodic ⟨2147483642, 10, true⟩ 2147483652).1 = ⟨2147483652, 10, true⟩ := by decide
  rw [e2]
  exact ⟨by dsimp only; omega, trivial⟩

/-- outside the window the wrapped rule and the unbounded rule differ (32-bit `long`): a poll 2^31
ticks after the start reads the elapsed time as negative — "not due" although the deadline passed -/
theorem stimer_wrap_window_needed_witness :
    stimerCheckN ((⟨0, 10, true⟩ : STimer).toN 32) (BitVec.ofInt 32 2147483648) = false ∧
    stimerCheck ⟨0, 10, true⟩ 2147483648 = true ∧
    -- inside the window, across the wrap of a 32-bit long, they agree
    stimerCheckN ((⟨2147483642, 10, true⟩ : STimer).toN 32) (BitVec.ofInt 32 2147483658) = true := by
  decide

/-! ### no drift over whole histories -/

def OpUntouched (i : Nat) : Op → Prop
  | .plan j _ _ => j ≠ i
  | .unplan j => j ≠ i
  | .exec _ cb _ => Untouched cb i

def execTimes : List Op → List Int
  | [] => []
  | .exec now _ _ :: ops => now :: execTimes ops
  | _ :: ops => execTimes ops

theorem execTimes_cons (op : Op) (ops : List Op) : execTimes (op :: ops) = execTimes [op] ++ execTimes ops := by
  cases op <;> rfl

/-- No drift at full strength: a planned periodic timer (deadline `f`, interval `d`) that no later
operation names fires — over the WHOLE history, however late and however irregular the `exec`
calls come, whatever the other timers and callbacks do — exactly at `f, f+d, …, f+(n-1)·d` in this
order, stays planned with deadline `f + n·d`, and `n` is the number of deadlines that lie at or
before the latest `exec` time: every exec time is `< f + n·d`, and (if `n > 0`) some exec time is
`≥ f + (n-1)·d`. -/
theorem no_drift_history (i : Nat) (ops : List Op) (m : Mgr) (hm : WF m) (hv : ∀ op ∈ ops, OpValid op)
    (hu : ∀ op ∈ ops, OpUntouched i op) (hfin : (runOps m ops).2.2 = true) (hi : i ∈ m.lst) :
    ∃ n : Nat,
      ((runOps m ops).2.1.flatten.filter (fun f => f.id = i)).map (·.deadline) =
        (List.range n).map (fun (q : Nat) => (m.tm i).finish + (q : Int) * (m.tm i).interval) ∧
      (runOps m ops).1.tm i = ⟨(m.tm i).start + (n : Int) * (m.tm i).interval, (m.tm i).interval⟩ ∧
      i ∈ (runOps m ops).1.lst ∧
      (∀ t ∈ execTimes ops, t < (m.tm i).finish + (n : Int) * (m.tm i).interval) ∧
      (0 < n → ∃ t ∈ execTimes ops, (m.tm i).finish + ((n : Int) - 1) * (m.tm i).interval ≤ t) := by
  suffices h : i ∈ (runOps m ops).1.lst ∧
      Periodic (m.tm i) (((runOps m ops).2.1.flatten.filter (fun f => f.id = i)).map (·.deadline))
        ((runOps m ops).1.tm i) (execTimes ops) by
    obtain ⟨h3, n, h1, h2, h4, h5⟩ := h
    exact ⟨n, h1, h2, h3, h4, h5⟩
  induction ops generalizing m with
  | nil => exact ⟨hi, Periodic.nil _⟩
  | cons op ops ih =>
    have hop := hv op List.mem_cons_self
    have huo := hu op List.mem_cons_self
    have hfin := runOps_cons_returned.mp hfin
    -- the first operation: no firing of `i` unless it is an `exec` (`catch_up`)
    have step : i ∈ (stepOp m op).1.lst ∧
        Periodic (m.tm i) (((stepOp m op).2.1.filter (fun f => f.id = i)).map (·.deadline))
          ((stepOp m op).1.tm i) (execTimes [op]) := by
      cases op with
      | plan j s iv =>
        exact ⟨(mem_plan3 m j i s iv).mpr (Or.inr hi), (setTm_other m.tm ⟨s, iv⟩ (Ne.symm huo)).symm ▸ Periodic.nil _⟩
      | unplan j => exact ⟨(mem_unplan m j i).mpr ⟨hi, Ne.symm huo⟩, Periodic.nil _⟩
      | exec now cb fuel =>
        obtain ⟨n1, c1, c2, c3, c4, c5⟩ := catch_up cb now fuel 0 m hm hop hfin.1 i huo hi
        exact ⟨c3, n1, c1, c2, fun t ht => List.mem_singleton.mp ht ▸ c4,
          fun hn => ⟨now, List.mem_singleton_self now, c5 hn⟩⟩
    obtain ⟨h3, hrest⟩ := ih _ (hm.stepOp hop) (fun o ho => hv o (List.mem_cons_of_mem _ ho))
      (fun o ho => hu o (List.mem_cons_of_mem _ ho)) hfin.2 step.1
    refine ⟨h3, ?_⟩
    have := step.2.append (hm.pos i hi) hrest
    rwa [← List.map_append, ← List.filter_append, ← execTimes_cons] at this

/-- … and as a count: if `T` is the latest `exec` time of the history and the timer was planned at
start `s` with interval `d` (deadline `s + d`), the number of its firings is `⌊(T − s)/d⌋`
(0 when `T < s + d`) — for every exec schedule -/
theorem firing_count_history (s d T : Int) (n : Nat) (times : List Int) (hd : 0 < d)
    (hT : T ∈ times) (hmax : ∀ t ∈ times, t ≤ T)
    (h1 : ∀ t ∈ times, t < (s + d) + (n : Int) * d)
    (h2 : 0 < n → ∃ t ∈ times, (s + d) + ((n : Int) - 1) * d ≤ t) :
    (n : Int) = ((T - s) / d).toNat := by
  have a := h1 T hT
  rcases Nat.eq_zero_or_pos n with e | e
  · subst e
    have : (T - s) / d < 1 := (Int.ediv_lt_iff_lt_mul hd).mpr (by omega)
    omega
  · obtain ⟨t, ht, hle⟩ := h2 e
    have := hmax t ht
    rw [Int.sub_mul, Int.one_mul] at hle
    have : (T - s) / d = n := (Int.ediv_eq_iff_of_pos hd).mpr (by omega)
    omega

-- satisfiable: planned at 0 with interval 3, execs at 4 and 10: 3 firings (3, 6, 9)
example : ((3 : Nat) : Int) = (((10 : Int) - 0) / 3).toNat := by decide

/-! ### FIFO among equal deadlines (the code has it: `plan` inserts before the first STRICTLY later deadline) -/

/-- a timer planned while `b` is planned with a deadline that is not later is linked behind `b` -/
theorem plan_behind_equal_deadline (m : Mgr) (hm : WF m) (a b : Nat) (s iv : Int) (hab : b ≠ a)
    (hb : b ∈ m.lst) (hle : (m.tm b).finish ≤ s + iv) :
    [b, a].Sublist (m.plan3 a s iv).lst := by
  have hu := (hm.unplan a).setTm a ⟨s, iv⟩ (not_mem_unplan m a)
  have hb' : b ∈ (m.unplan a).lst := (mem_unplan m a b).mpr ⟨hb, hab⟩
  rw [plan3_lst]
  apply insertBefore_after _ _ a b _ hu.sorted hb'
  show (setTm m.tm a ⟨s, iv⟩ b).finish ≤ s + iv
  rw [setTm_other _ _ hab]
  exact hle

/-- stability: if `a` stands behind `b` in the list (in particular: planned later with the same
deadline) and no callback names either of them, every callback of `a` in an `exec` is preceded by
a callback of `b` — equal deadlines run in the order in which they were planned -/
theorem fifo_equal_deadlines (cb : Cb) (now : Int) (fuel k : Nat) (m : Mgr) (hm : WF m) (hcb : CbPos cb)
    (a b : Nat) (hab : a ≠ b) (hp : [b, a].Sublist m.lst) (hua : Untouched cb a) (hub : Untouched cb b) :
    ∀ (n : Nat) (f : Fire), (execLoop cb now fuel k m).2.1[n]? = some f → f.id = a →
      ∃ (n' : Nat) (g : Fire), n' < n ∧ (execLoop cb now fuel k m).2.1[n']? = some g ∧ g.id = b :=
  (execLoop_steps cb now fuel k m).fifo hcb hm hab hp hua hub

-- two timers with the same deadline 3, planned 0 then 1: they run 0 then 1
example : (execLoop (fun _ _ => []) 3 5 0 ((Mgr.init.plan3 0 0 3).plan3 1 1 2)).2.1 = [⟨0, 3⟩, ⟨1, 3⟩] := by decide

/-! ### setters, `plan(tim)`, destruction, nested `exec` (model `Ext.lean`) -/

/-- on callbacks that only plan / unplan, the extended `exec` is the `exec` of the theorems above -/
theorem execX_conservative (cb : Cb) (fuel : Nat) (now : Int) (k : Nat) (m : Mgr) :
    execX (fun k i => (cb k i).map ActX.ofAction) fuel now k m =
      ((execLoop cb now fuel k m).1, (execLoop cb now fuel k m).2.1, statOfBool (execLoop cb now fuel k m).2.2) := by
  induction fuel generalizing k m with
  | zero =>
    simp only [execX, execLoop]
    cases (m.headDue now) <;> rfl
  | succ n ih =>
    unfold execX execLoop
    cases hd : m.headDue now with
    | none => rfl
    | some i =>
      simp only [runActsX_base, not_destroy_mem_base, if_true, if_false, List.length_nil, Nat.add_zero,
        List.nil_append]
      rw [ih]
      rfl

/-- which operations preserve the invariant: the setters on a timer that is NOT planned,
`plan(tim)` of a timer with a positive interval, destroying a timer, destroying the manager -/
theorem setters_on_unplanned_keep_invariant (m : Mgr) (hm : WF m) (i : Nat) (v : Int) (hi : i ∉ m.lst) :
    WF (m.setStart i v) ∧ WF (m.setInterval i v) :=
  ⟨hm.setTm i _ hi, hm.setTm i _ hi⟩

theorem replan_keeps_invariant (m : Mgr) (hm : WF m) (i : Nat) (hp : 0 < (m.tm i).interval) : WF (m.plan i) :=
  hm.plan i hp

theorem destroy_keeps_invariant (m : Mgr) (hm : WF m) (i : Nat) : WF (m.destroy i) ∧ WF m.dropMgr := by
  refine ⟨?_, ⟨List.nodup_nil, List.Pairwise.nil, by simp [Mgr.dropMgr]⟩⟩
  exact (hm.unplan i).setTm i {} (not_mem_unplan m i)

/-- destroying a timer is unplanning it (for the list and for every other timer) -/
theorem destroy_is_unplan (m : Mgr) (i : Nat) :
    (m.destroy i).lst = (m.unplan i).lst ∧ ∀ x, x ≠ i → (m.destroy i).tm x = m.tm x :=
  ⟨rfl, fun _ hx => setTm_other _ _ hx⟩

/-- the documented sequence `set_start; set_interval; plan(tim)` is `plan(tim, start, interval)`,
also on a planned timer (`plan` unlinks first) -/
theorem setters_then_plan (m : Mgr) (i : Nat) (s iv : Int) :
    ((m.setStart i s).setInterval i iv).plan i = m.plan3 i s iv := by
  unfold Mgr.plan3 Mgr.setStart Mgr.setInterval
  congr 2
  funext x
  simp only [setTm]
  split <;> simp_all

/-- the operation that does NOT preserve the invariant: a setter on a PLANNED timer.  Timers 0
(deadline 5) and 1 (deadline 7); `set_start(10)` on timer 0 moves its deadline to 15 but not its
place: the list is no longer sorted, at time 8 timer 1 is due and `exec` returns without running
it, and `minimal_interval` is not the time to the earliest deadline; `plan(tim)` repairs it -/
theorem set_start_on_planned_witness :
    let m := ((Mgr.init.plan3 0 0 5).plan3 1 0 7).setStart 0 10
    m.lst = [0, 1] ∧ (m.tm 0).finish = 15 ∧ (m.tm 1).finish = 7 ∧
    (execLoop (fun _ _ => []) 8 5 0 m).2 = ([], true) ∧
    m.minimalInterval 8 = some 7 ∧
    (execLoop (fun _ _ => []) 8 5 0 (m.plan 0)).2.1 = [⟨1, 7⟩] := by
  decide

/-- nested `exec` on the code before the re-entrancy guard 74727dc (`execX`; finding
C16-nested-exec-refires; the guarded code: `nested_exec_ignored`): the callback of timer 0
(deadline 5) calls `exec(5)`; its own timer is still at the head with its old fields, so the nested
exec runs the same callback again for the same deadline -/
theorem nested_exec_refires_witness :
    (execX (fun k _ => if k = 0 then [ActX.exec 5] else []) 5 5 0 ((Mgr.init.plan3 0 0 5).plan3 1 0 6)).2.1 =
      [⟨0, 5⟩, ⟨0, 5⟩] := by
  decide

/-- … while a callback that first takes its own timer out of the way (unplans it) and then calls
`exec` gets the other due timers run in order, each once -/
theorem nested_exec_after_unplan_witness :
    (execX (fun k _ => if k = 0 then [ActX.unplan 0, ActX.exec 6] else []) 5 5 0
        ((Mgr.init.plan3 0 0 5).plan3 1 0 6)).2.1 = [⟨0, 5⟩, ⟨1, 6⟩] := by
  decide

/-- destroying its own timer from a callback: `exec` then reads the dead object (finding
C16-destroy-self-in-callback); destroying the NEXT timer in the list is harmless -/
theorem destroy_in_callback_witness :
    (execX (fun k _ => if k = 0 then [ActX.destroy 0] else []) 5 5 0 ((Mgr.init.plan3 0 0 5).plan3 1 0 5)).2.2 = Stat.uaf ∧
    (execX (fun k _ => if k = 0 then [ActX.destroy 1] else []) 5 5 0 ((Mgr.init.plan3 0 0 5).plan3 1 0 5)).2 =
      ([⟨0, 5⟩], Stat.done) := by
  decide


/-! ### stimer.c in the arithmetic of a `w`-bit `long`, without any window (`w = 64`: the harness) -/

/-- `stimer_check` is true exactly when the timer is planned and the ELAPSED time — the difference
of the two `long` values reduced modulo 2^w into the signed range — has reached the interval
(all three read as signed `long`s).  Every timer, every `curtime`. -/
theorem stimer_check_elapsed_iff {w : Nat} (t : STimerN w) (c : BitVec w) :
    stimerCheckN t c = true ↔
      t.planed = true ∧ t.interval.toInt ≤ (c.toInt - t.start.toInt).bmod (2 ^ w) := by
  simp [stimerCheckN, BitVec.toInt_sub]

/-- what the model calls elapsed IS that residue -/
theorem stimer_elapsed_eq {w : Nat} (t : STimerN w) (c : BitVec w) :
    stimerElapsedN t c = (c.toInt - t.start.toInt).bmod (2 ^ w) := by
  simp [stimerElapsedN, BitVec.toInt_sub]

/-- TRANSFER to the due rule over the integers, with the EXACT admissible region: the wrapped
`stimer_check` agrees with `planned ∧ start + interval ≤ curtime` (no wrap, the `long` values read
as integers) IF AND ONLY IF the timer is not planned, or `curtime − start` lies in `[−2^(w−1),
2^(w−1))`, or it lies above and the interval is so small that the wrapped (negative) elapsed time
still reaches it, or it lies below and the interval is larger than the wrapped elapsed time. -/
theorem stimer_transfer_iff {w : Nat} (hw : 0 < w) (t : STimerN w) (c : BitVec w) :
    (stimerCheckN t c = true ↔ t.planed = true ∧ t.start.toInt + t.interval.toInt ≤ c.toInt) ↔
      (t.planed = false ∨
       (-(2 ^ (w - 1)) ≤ c.toInt - t.start.toInt ∧ c.toInt - t.start.toInt < 2 ^ (w - 1)) ∨
       (2 ^ (w - 1) ≤ c.toInt - t.start.toInt ∧ t.interval.toInt ≤ c.toInt - t.start.toInt - 2 ^ w) ∨
       (c.toInt - t.start.toInt < -(2 ^ (w - 1)) ∧ c.toInt - t.start.toInt + 2 ^ w < t.interval.toInt)) := by
  unfold stimerCheckN
  rw [toInt_sub_cases hw]
  cases t.planed with
  | false => simp
  | true =>
    simp only [Bool.true_and, decide_eq_true_eq, true_and, Bool.true_eq_false, false_or]
    exact reduced_agree_iff (two_pow_half w hw) ⟨BitVec.le_toInt _, BitVec.toInt_lt⟩

/-- inside the window (the clock is less than half the range away from the start point, on either
side) the integer rule holds for EVERY interval, also `LONG_MAX`, `LONG_MIN`, 0 and −1 -/
theorem stimer_transfer_in_window {w : Nat} (hw : 0 < w) (t : STimerN w) (c : BitVec w)
    (h1 : -(2 ^ (w - 1)) ≤ c.toInt - t.start.toInt) (h2 : c.toInt - t.start.toInt < 2 ^ (w - 1)) :
    stimerCheckN t c = true ↔ t.planed = true ∧ t.start.toInt + t.interval.toInt ≤ c.toInt :=
  (stimer_transfer_iff hw t c).mpr (Or.inr (Or.inl ⟨h1, h2⟩))

-- satisfiable: a parked flag timer (start 5250, interval LONG_MAX, clock 5000)
example : (-(2 ^ (64 - 1)) : Int) ≤ (5000#64).toInt - (5250#64).toInt ∧
    (5000#64).toInt - (5250#64).toInt < 2 ^ (64 - 1) := by decide

/-- a timer whose start point lies AHEAD of the clock (by at most half the range) is not due,
whatever non-negative interval it has — in particular the parked timer with interval `LONG_MAX` -/
theorem stimer_start_ahead_not_due {w : Nat} (hw : 0 < w) (t : STimerN w) (c : BitVec w)
    (hahead : c.toInt < t.start.toInt) (hwin : -(2 ^ (w - 1)) ≤ c.toInt - t.start.toInt)
    (hiv : 0 ≤ t.interval.toInt) : stimerCheckN t c = false := by
  have hp : (0 : Int) < 2 ^ (w - 1) := Int.pow_pos (by decide)
  have h := stimer_transfer_in_window hw t c hwin (by omega)
  cases hc : stimerCheckN t c with
  | false => rfl
  | true => have := (h.mp hc).2; omega

example : (5000#64).toInt < (5250#64).toInt ∧ (0 : Int) ≤ (9223372036854775807#64).toInt := by decide

/-- outside the region both directions of the disagreement occur (`w = 64`): start `LONG_MAX − 5`,
interval 10, clock `LONG_MIN + 10` (16 ticks later, across the wrap): due, while the integer rule
says not due; start `LONG_MIN`, interval 5, clock `LONG_MAX`: not due (elapsed reads −1), while the
integer rule says due -/
theorem stimer_transfer_outside_witness :
    let a : STimerN 64 := ⟨9223372036854775802#64, 10#64, true⟩
    let b : STimerN 64 := ⟨BitVec.ofInt 64 (-9223372036854775808), 5#64, true⟩
    stimerCheckN a (BitVec.ofInt 64 (-9223372036854775798)) = true ∧
    ¬ (a.start.toInt + a.interval.toInt ≤ (BitVec.ofInt 64 (-9223372036854775798)).toInt) ∧
    stimerCheckN b 9223372036854775807#64 = false ∧
    b.start.toInt + b.interval.toInt ≤ (9223372036854775807#64).toInt := by
  decide

/-- why `stimer_check` must compare the ELAPSED time with the interval and not the clock with
`stimer_finish()`: for the parked timer (start 5250, interval `LONG_MAX`, clock 5000) the code's
form says "not due", the form `(long)(curtime − stimer_finish(t)) ≥ 0` says "due" -/
theorem stimer_check_via_finish_witness :
    let t : STimerN 64 := ⟨5250#64, 9223372036854775807#64, true⟩
    stimerCheckN t 5000#64 = false ∧ (0 : Int) ≤ (5000#64 - stimerFinishN t).toInt := by
  decide

/-- `stimer_finish()` is `start + interval` over the integers reduced modulo 2^w (as `unsigned long`) -/
theorem stimer_finish_eq {w : Nat} (t : STimerN w) :
    ((stimerFinishN t).toNat : Int) = (t.start.toInt + t.interval.toInt) % 2 ^ w := by
  have e : stimerFinishN t = BitVec.ofInt w (t.start.toInt + t.interval.toInt) := by
    simp [stimerFinishN, BitVec.ofInt_add]
  rw [e, BitVec.toNat_ofInt, cast_two_pow]
  have : (0 : Int) < 2 ^ w := Int.pow_pos (by decide)
  have := Int.emod_nonneg (t.start.toInt + t.interval.toInt) (Int.ne_of_gt this)
  omega

/-- No drift in the `w`-bit arithmetic itself, for EVERY sequence of polls (no window): after any
polls `STIMER_PERIODIC` has advanced the start point by exactly (number of firings) · interval
modulo 2^w, and has changed neither the interval nor the planned flag -/
theorem stimer_periodicN_no_drift {w : Nat} (t : STimerN w) (ts : List (BitVec w)) :
    (stimerPollsN t ts).1.start = t.start + BitVec.ofNat w ((stimerPollsN t ts).2.count true) * t.interval ∧
    (stimerPollsN t ts).1.interval = t.interval ∧ (stimerPollsN t ts).1.planed = t.planed := by
  induction ts generalizing t with
  | nil => simp [stimerPollsN]
  | cons now ts ih =>
    simp only [stimerPollsN]
    by_cases hc : stimerCheckN t now = true
    · rw [show stimerPeriodicN t now = (stimerSwiftN t, true) from if_pos hc]
      obtain ⟨h1, h2, h3⟩ := ih (stimerSwiftN t)
      simp only [stimerSwiftN] at h1 h2 h3 ⊢
      refine ⟨?_, h2, h3⟩
      rw [h1, List.count_cons_self]
      generalize List.count true _ = n
      have : BitVec.ofNat w (n + 1) = BitVec.ofNat w n + 1#w := by simp [BitVec.ofNat_add]
      rw [this, BitVec.add_mul, BitVec.one_mul]
      ac_rfl
    · rw [show stimerPeriodicN t now = (t, false) from if_neg hc]
      obtain ⟨h1, h2, h3⟩ := ih t
      refine ⟨?_, h2, h3⟩
      rw [h1]; simp

/-! ### `timer_spec<T>` at every width, signed and unsigned (`WrapN.lean`)

`w = 64, sgn = true`: the shipped `timer_manager`; `w = 32, sgn = true`: `timer_spec<int32_t>` (a
1 kHz tick wraps after 24.8 days); `w = 32, sgn = false`: `timer_spec<uint32_t>`.  The window
precondition is the one of `wrap_refines` with `2^31` replaced by `2^(w−1)`. -/

/-- one `exec(now)`: the `w`-bit manager makes exactly the callbacks of the unbounded-time manager
(deadlines modulo 2^w), ends in its state modulo 2^w and returns when it returns -/
theorem wrapN_exec_refines {w : Nat} (sgn : Bool) {G D now : Int} (P : ParamsN w G D) (cb : Cb)
    (hcb : CbWin G D now cb) (fuel k : Nat) (m : Mgr) (hw : Win G D now m) :
    execLoopN sgn (cbToN w cb) (wrN w now) fuel k (m.toN w) =
      ((execLoop cb now fuel k m).1.toN w, (execLoop cb now fuel k m).2.1.map (Fire.toN w),
        (execLoop cb now fuel k m).2.2) :=
  (execLoop_simN sgn P cb hcb fuel k m hw).1

/-- whole histories, crossing the wrap of the counter any number of times -/
theorem wrapN_refines {w : Nat} (sgn : Bool) {G D : Int} (P : ParamsN w G D) (ops : List Op) (lo c : Int)
    (m : Mgr) (hm : WF m) (hj : J D lo c m) (hc : c ≤ lo + G) (hh : HistWin G D lo c ops)
    (hfin : (runOps m ops).2.2 = true) :
    runOpsN sgn (m.toN w) (ops.map (Op.toN w)) =
      ((runOps m ops).1.toN w, (runOps m ops).2.1.map (fun fs => fs.map (Fire.toN w)), true) :=
  runOps_simN sgn P ops lo c m hm hj hc hh hfin

/-- … hence from a fresh manager the callbacks and the pending set are those of the REFERENCE
scheduler run in unbounded time on the same history, read modulo 2^w: due exactly when due, in
deadline order, across the wrap — for int32_t, int64_t, uint32_t and every other width -/
theorem wrapN_refines_reference {w : Nat} (sgn : Bool) {G D : Int} (P : ParamsN w G D) (ops : List Op)
    (t0 : Int) (hh : HistWin G D t0 t0 ops) (hfin : (runOps Mgr.init ops).2.2 = true) :
    ∃ (fss : List (List Fire)) (m' : Mgr),
      Ref.Hist Ref.none ops fss (absM m') ∧
      runOpsN sgn MgrN.init (ops.map (Op.toN w)) = (m'.toN w, fss.map (fun fs => fs.map (Fire.toN w)), true) := by
  refine ⟨(runOps Mgr.init ops).2.1, (runOps Mgr.init ops).1,
    refines_reference_init ops (HistWin.valid ops t0 t0 hh) hfin, ?_⟩
  exact wrapN_refines sgn P ops t0 t0 Mgr.init init_wf (J.init D t0 t0) (Int.le_add_of_nonneg_right P.g0) hh hfin

-- the parameters exist for the three instances (gap and interval up to 2^30 resp. 2^62 ticks)
example : ParamsN 32 (2 ^ 30) (2 ^ 30 - 1) := ⟨by decide, by decide, by decide⟩
example : ParamsN 64 (2 ^ 62) (2 ^ 62 - 1) := ⟨by decide, by decide, by decide⟩
-- and a history that starts 10 ticks before the wrap of int32_t (2^31 = 2147483648) and crosses it
example : HistWin (2 ^ 30) (2 ^ 30 - 1) 2147483638 2147483638
    [Op.plan 0 2147483638 5, Op.exec 2147483644 (fun _ _ => []) 9, Op.exec 2147483700 (fun _ _ => []) 99] := by
  refine ⟨by decide, by decide, by decide, by decide, by decide, by decide, ?_, by decide, by decide, ?_, trivial⟩
  · intro k i a ha; simp at ha
  · intro k i a ha; simp at ha

/-- NO DRIFT ACROSS THE WRAP: a planned periodic timer (deadline `f`, interval `d`) that no later
operation names fires, on the `w`-bit manager, over the whole history and however often the
counter wraps, exactly at `f, f+d, …, f+(n−1)·d` read modulo 2^w — the k-th firing at start + k·interval
exactly —, stays planned, and `n` counts the deadlines up to the latest `exec` time -/
theorem wrapN_no_drift {w : Nat} (sgn : Bool) {G D : Int} (P : ParamsN w G D) (i : Nat) (ops : List Op)
    (lo c : Int) (m : Mgr) (hm : WF m) (hj : J D lo c m) (hc : c ≤ lo + G) (hh : HistWin G D lo c ops)
    (hu : ∀ op ∈ ops, OpUntouched i op) (hfin : (runOps m ops).2.2 = true) (hi : i ∈ m.lst) :
    ∃ n : Nat,
      ((runOpsN sgn (m.toN w) (ops.map (Op.toN w))).2.1.flatten.filter (fun f => f.id = i)).map (·.deadline) =
        (List.range n).map (fun (q : Nat) => wrN w ((m.tm i).finish + (q : Int) * (m.tm i).interval)) ∧
      (runOpsN sgn (m.toN w) (ops.map (Op.toN w))).1.tm i =
        ⟨wrN w ((m.tm i).start + (n : Int) * (m.tm i).interval), wrN w (m.tm i).interval⟩ ∧
      i ∈ (runOpsN sgn (m.toN w) (ops.map (Op.toN w))).1.lst ∧
      (∀ t ∈ execTimes ops, t < (m.tm i).finish + (n : Int) * (m.tm i).interval) ∧
      (0 < n → ∃ t ∈ execTimes ops, (m.tm i).finish + ((n : Int) - 1) * (m.tm i).interval ≤ t) := by
  obtain ⟨n, h1, h2, h3, h4, h5⟩ := no_drift_history i ops m hm (HistWin.valid ops lo c hh) hu hfin hi
  rw [wrapN_refines sgn P ops lo c m hm hj hc hh hfin]
  exact ⟨n, by rw [fires_toN, h1, List.map_map]; rfl, congrArg (Timer.toN w) h2, h3, h4, h5⟩

/-- `minimal_interval` is the unbounded one modulo 2^w (no precondition) -/
theorem wrapN_minimal_interval {w : Nat} (m : Mgr) (now : Int) :
    (m.toN w).minimalInterval (wrN w now) = (m.minimalInterval now).map (wrN w) := by
  unfold MgrN.minimalInterval Mgr.minimalInterval
  rw [Mgr.toN_lst]
  cases m.lst with
  | nil => rfl
  | cons i rest => simp only [Mgr.toN_tm, Timer.toN_finish, wrN_sub, Option.map_some]

/-- `minimal_interval` is the unbounded one modulo 2^32 (no precondition) -/
theorem wrap_minimal_interval (m : Mgr) (now : Int) :
    m.toW.minimalInterval (wr now) = (m.minimalInterval now).map wr :=
  (MgrN.minimalInterval_toW (m.toN 32) _).trans (wrapN_minimal_interval m now)

/-- signed and unsigned instances differ OUTSIDE the window: a start 10 ticks in the future is not
due on `timer_spec<int32_t>` (the elapsed time reads −10) and fires at once on `timer_spec<uint32_t>` -/
theorem wrapN_signed_future_start_witness :
    (execLoopN (w := 32) true (fun _ _ => []) (wrN 32 100) 1 0
        (MgrN.init.plan3 0 (wrN 32 110) (wrN 32 1073741824))).2.1 = [] ∧
    (execLoopN (w := 32) false (fun _ _ => []) (wrN 32 100) 1 0
        (MgrN.init.plan3 0 (wrN 32 110) (wrN 32 1073741824))).2.1 = [⟨0, wrN 32 1073741934⟩] := by
  decide

/-- the window cannot be widened to "gap < 2^(w−1) and interval < 2^(w−1)" on the signed instance
either: the overdue timer 0 is starved by a timer planned 2^31 − 2 ticks later with interval 2^31 − 1 -/
theorem wrapN_window_needed_witness :
    let m := ((MgrN.init (w := 32)).plan3 0 (wrN 32 0) (wrN 32 5)).plan3 1 (wrN 32 2147483646) (wrN 32 2147483647)
    m.lst = [1, 0] ∧ (m.tm 0).check true (wrN 32 2147483646) = true ∧
    (execLoopN true (fun _ _ => []) (wrN 32 2147483646) 5 0 m).2 = ([], true) := by
  decide

/-! ### time going backwards, time jumping far ahead -/

/-- `exec` with a time that is NOT LATER than the time of an `exec` that has returned (time going
backwards, or the same time again) makes no callback and changes nothing — whatever the callbacks
would do.  (Far AHEAD: `catch_up` / `catch_up_count` — one firing per missed period, `⌊(now−d)/iv⌋+1`
of them, at `d, d+iv, …`; "without drift" requires exactly that the k-th deadline is `d + k·iv`
however late `exec` comes.) -/
theorem exec_backwards_no_fire (m : Mgr) (now0 now : Int) (h0 : ∀ i ∈ m.lst, now0 < (m.tm i).finish)
    (hle : now ≤ now0) (cb : Cb) (fuel k : Nat) : execLoop cb now fuel k m = (m, [], true) := by
  have hd : m.headDue now = none := by
    cases hh : m.headDue now with
    | none => rfl
    | some i =>
      obtain ⟨rest, hl, hdue⟩ := headDue_some hh
      exact absurd (Int.lt_of_lt_of_le (h0 i (hl ▸ List.mem_cons_self)) (Int.le_trans hdue hle)) (Int.lt_irrefl _)
  cases fuel <;> simp [execLoop, hd]

/-- … in particular after any `exec(now0)` that returned (`all_due_fire` gives the hypothesis) -/
theorem exec_twice_backwards (cb cb' : Cb) (now0 now : Int) (fuel fuel' k k' : Nat) (m : Mgr) (hm : WF m)
    (hcb : CbPos cb) (hfin : (execLoop cb now0 fuel k m).2.2 = true) (hle : now ≤ now0) :
    execLoop cb' now fuel' k' (execLoop cb now0 fuel k m).1 = ((execLoop cb now0 fuel k m).1, [], true) :=
  exec_backwards_no_fire _ now0 now (all_due_fire cb now0 fuel k m hm hcb hfin) hle cb' fuel' k'

example : WF Mgr.init ∧ CbPos (fun _ _ => []) ∧ (execLoop (fun _ _ => []) 5 3 0 Mgr.init).2.2 = true :=
  ⟨init_wf, by intro k i j s iv h; simp at h, by decide⟩


/-! ### the repaired findings: re-entrant `exec`, `minimal_interval` of an empty manager (`Guard.lean`) -/

/-- RE-ENTRANT `exec` (repaired C16-nested-exec-refires): with callbacks that make plan / unplan
calls and call `exec(now')` of the same manager ANYWHERE in between — with any times, while their own
timer is still planned and due — `exec` is exactly the `exec` of the same callbacks without those
calls.  So every theorem above (`not_early`, `all_due_fire`, `order_in_exec*`, `rearm_*`, `catch_up`,
`refines_reference_exec` …) holds for such callbacks; in particular no timer's callback is run twice
for one deadline. -/
theorem nested_exec_ignored (cb : Nat → Nat → List ActG) (fuel : Nat) (now : Int) (k : Nat) (m : Mgr) :
    execG (fun k i => (cb k i).map ActG.toX) fuel now k m =
      ((execLoop (fun k i => (cb k i).filterMap ActG.base?) now fuel k m).1,
       (execLoop (fun k i => (cb k i).filterMap ActG.base?) now fuel k m).2.1,
       statOfBool (execLoop (fun k i => (cb k i).filterMap ActG.base?) now fuel k m).2.2) :=
  execG_guard_aux cb fuel now k m

/-- the scenario of `nested_exec_refires_witness` on the repaired code: timer 0 (deadline 5) calls
`exec(5)` from its callback — one callback, and it is re-armed at 10 -/
theorem nested_exec_no_refire_witness :
    let r := execG (fun k _ => if k = 0 then [ActX.exec 5] else []) 5 5 0 ((Mgr.init.plan3 0 0 5).plan3 1 0 6)
    r.2.1 = [⟨0, 5⟩] ∧ r.2.2 = Stat.done ∧ (r.1.tm 0).finish = 10 ∧ r.1.lst = [1, 0] := by
  decide

/-- `minimal_interval(now)` (repaired C16-minimal-interval-empty) at FULL strength, for every
manager: when nothing is planned the reference has nothing pending and the result is the "never"
value `numeric_limits<difftime_t>::max()`; otherwise it is the reference's time to the earliest
pending deadline -/
theorem minimal_interval_total (dmax : Int) (m : Mgr) (hm : WF m) (now : Int) :
    (m.empty = true → m.minimalIntervalC dmax now = dmax ∧ (absM m).IsEmpty) ∧
    (m.empty = false → (absM m).Earliest (m.minimalIntervalC dmax now + now)) := by
  refine ⟨fun he => ?_, fun he => ?_⟩
  · have hl : m.lst = [] := List.isEmpty_iff.mp he
    exact ⟨by simp [Mgr.minimalIntervalC, hl], (empty_eq m).mp he⟩
  · cases hl : m.lst with
    | nil => simp [Mgr.empty, hl] at he
    | cons i rest =>
      have h1 : m.minimalInterval now = some ((m.tm i).finish - now) := by simp [Mgr.minimalInterval, hl]
      have h2 : m.minimalIntervalC dmax now = (m.tm i).finish - now := by simp [Mgr.minimalIntervalC, hl]
      rw [h2]
      exact minimal_interval_eq m hm now _ h1


/-! ### `igris::delegate` (model `Delegate.lean`): the delegate invoked is the one stored, with its
argument, exactly once -/

/-- for every way of constructing an armed delegate, `invoke(arg)` makes exactly ONE call: of the
stored function with `arg`; of the stored external function with the stored object pointer (null
allowed) and `arg`; of the stored member function on the stored object with `arg` -/
theorem delegate_invokes_stored (arg : Int) :
    (∀ f, f ≠ 0 → (Dlg.ofFunction f).invoke arg = [Call.function f arg]) ∧
    (∀ f obj, f ≠ 0 → (Dlg.ofExt f obj).invoke arg = [Call.ext f obj arg]) ∧
    (∀ fn adj obj, fn ≠ 0 → obj ≠ 0 → adj ≠ BitVec.allOnes 64 →
      (Dlg.ofMethod fn adj obj).invoke arg = [Call.method fn adj obj arg]) := by
  refine ⟨fun f hf => ?_, fun f obj hf => ?_, fun fn adj obj hf ho ha => ?_⟩
  · simp [Dlg.invoke, Dlg.ofFunction, Dlg.armed, hf]
  · simp [Dlg.invoke, Dlg.ofExt, Dlg.armed, hf]
  · have ha' : ¬ adj = 18446744073709551615#64 := ha
    simp [Dlg.invoke, Dlg.ofMethod, Dlg.armed, hf, ho, ha']

example : (1 : Nat) ≠ 0 ∧ (0#64) ≠ BitVec.allOnes 64 := by decide

/-- an unarmed delegate (default constructed, cleaned, or after `invoke_and_reset`) calls nothing;
a copy calls exactly what the original calls; `invoke_and_reset` makes the call of the delegate as it
was and leaves it unarmed; `operator==` is "same stored target" -/
theorem delegate_unarmed_copy_reset (d : Dlg) (arg : Int) :
    (d.clean.invoke arg = [] ∧ d.clean.armed = false) ∧
    d.copy.invoke arg = d.invoke arg ∧
    ((d.invokeAndReset arg).2 = d.invoke arg ∧ (d.invokeAndReset arg).1.invoke arg = [] ∧
      (d.invokeAndReset arg).1.armed = false) ∧
    (∀ e : Dlg, d.eq e = true ↔ d = e) := by
  refine ⟨⟨by simp [Dlg.clean, Dlg.invoke, Dlg.armed], by simp [Dlg.clean, Dlg.armed]⟩, rfl,
    ⟨rfl, by simp [Dlg.invokeAndReset, Dlg.clean, Dlg.invoke, Dlg.armed],
      by simp [Dlg.invokeAndReset, Dlg.clean, Dlg.armed]⟩, fun e => ?_⟩
  cases d; cases e
  simp [Dlg.eq, and_assoc]
  constructor
  · rintro ⟨a, b, c⟩; exact ⟨c, a, b⟩
  · rintro ⟨a, b, c⟩; exact ⟨b, c, a⟩

/-- exactly once per due deadline: a timer whose `execute()` is `dlg(arg)` makes, in one `exec`, as
many calls of the stored target as the model makes callbacks of that timer -/
theorem delegate_once_per_due (d : Dlg) (arg : Int) (c : Call) (hd : d.invoke arg = [c]) (fires : List Fire) :
    fires.flatMap (fun _ => d.invoke arg) = List.replicate fires.length c := by
  induction fires with
  | nil => rfl
  | cons f fs ih =>
    rw [List.flatMap_cons, ih, hd, List.length_cons, List.replicate_succ]
    rfl

/-- where the representation does NOT do what was stored (not reachable through `make_delegate`
with a valid object): a member function stored with a NULL object pointer is called as a plain
function (the object test decides METHOD / FUNCTION) -/
theorem delegate_method_null_object_witness :
    (Dlg.ofMethod 7 0 0).invoke 1 = [Call.function 7 1] := by decide


/-! ### `check()` of the manager at the timer level: exact admissible regions -/

/-- signed instances (`int32_t`, `int64_t`, `timer_spec<uint32_t, int32_t>`): `check` agrees with
the integer rule `start + interval ≤ curtime` (fields read as signed values) EXACTLY in the
region of `stimer_transfer_iff` — it is the same rule -/
theorem timer_check_signed_transfer_iff {w : Nat} (hw : 0 < w) (t : TimerN w) (c : BitVec w) :
    (t.check true c = true ↔ t.start.toInt + t.interval.toInt ≤ c.toInt) ↔
      ((-(2 ^ (w - 1)) ≤ c.toInt - t.start.toInt ∧ c.toInt - t.start.toInt < 2 ^ (w - 1)) ∨
       (2 ^ (w - 1) ≤ c.toInt - t.start.toInt ∧ t.interval.toInt ≤ c.toInt - t.start.toInt - 2 ^ w) ∨
       (c.toInt - t.start.toInt < -(2 ^ (w - 1)) ∧ c.toInt - t.start.toInt + 2 ^ w < t.interval.toInt)) := by
  have e : t.check true c = stimerCheckN ⟨t.start, t.interval, true⟩ c := by
    simp [TimerN.check, TimerN.ivalue, TimerN.elapsed, stimerCheckN]
  have h := stimer_transfer_iff hw ⟨t.start, t.interval, true⟩ c
  simp only [true_and, Bool.true_eq_false, false_or] at h
  rw [e]
  exact h

/-- unsigned instance (`uint32_t`): `check` agrees with `start + interval ≤ curtime` on the
unsigned values EXACTLY when the counter has not wrapped since `start` (`start ≤ curtime`), or it
has and the interval is larger than the wrapped elapsed time -/
theorem timer_check_unsigned_transfer_iff {w : Nat} (t : TimerN w) (c : BitVec w) :
    (t.check false c = true ↔ t.start.toNat + t.interval.toNat ≤ c.toNat) ↔
      (t.start.toNat ≤ c.toNat ∨ c.toNat + 2 ^ w - t.start.toNat < t.interval.toNat) := by
  show (decide ((t.interval.toNat : Int) ≤ ((c - t.start).toNat : Int)) = true ↔ _) ↔ _
  rw [decide_eq_true_eq, Int.ofNat_le]
  -- `c - start` is the true difference if the counter has not wrapped since `start`; otherwise it is
  -- 2^w more, and the rule on the unsigned values says "not due"
  by_cases h : t.start ≤ c
  · have h' := BitVec.le_def.mp h
    rw [BitVec.toNat_sub_of_le h]
    exact iff_of_true (Nat.le_sub_iff_add_le' h') (Or.inl h')
  · have h' := BitVec.lt_def.mp (BitVec.not_le.mp h)
    rw [BitVec.toNat_sub_of_lt (BitVec.not_le.mp h), Nat.sub_sub_right _ (Nat.le_of_lt h'), Nat.add_comm,
      iff_false_right (Nat.not_le.mpr (Nat.lt_of_lt_of_le h' (Nat.le_add_right _ _))), Nat.not_le,
      or_iff_right (Nat.not_le.mpr h')]

-- both regions are inhabited on a 32-bit counter: before the wrap, and across it with a long interval
example : ((4294967290#32).toNat ≤ (4294967295#32).toNat) ∧
    ((5#32).toNat + 2 ^ 32 - (4294967290#32).toNat < (100#32).toNat) := by decide

end Igris.C16
