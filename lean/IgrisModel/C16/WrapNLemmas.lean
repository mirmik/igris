/-
  C16 — the `w`-bit manager of ANY integral instance (`WrapN.lean`: int32_t, int64_t, uint32_t …)
  simulates the unbounded-time manager (`Model.lean`) as long as the history stays inside a window
  of less than half the counter range (`WrapLemmas.lean`).  The uint32_t manager of `Wrap.lean` is
  the instance `w = 32` with the unsigned `check`, so its simulation is a corollary.
-/
import IgrisModel.C16.WrapLemmas
import IgrisModel.C16.WrapN
namespace Igris.C16

/-! ### truncation to `w` bits -/

theorem wrN_add (w : Nat) (a b : Int) : wrN w (a + b) = wrN w a + wrN w b := BitVec.ofInt_add ..

theorem wrN_sub (w : Nat) (a b : Int) : wrN w (a - b) = wrN w a - wrN w b := by
  simp only [wrN, Int.sub_eq_add_neg, BitVec.ofInt_add, BitVec.ofInt_neg, BitVec.sub_eq_add_neg]

theorem two_pow_half (w : Nat) (hw : 0 < w) : (2 : Int) ^ w = 2 * 2 ^ (w - 1) := by
  rw [← Int.pow_succ', Nat.sub_add_cancel hw]

theorem cast_two_pow (w : Nat) : ((2 ^ w : Nat) : Int) = (2 : Int) ^ w := Int.natCast_pow 2 w

theorem wrN_toInt (w : Nat) (hw : 0 < w) (x : Int) (h : -(2 ^ (w - 1)) ≤ x ∧ x < 2 ^ (w - 1)) :
    (wrN w x).toInt = x := BitVec.toInt_ofInt_eq_self hw h.1 h.2

theorem wrN_small (w : Nat) (hw : 0 < w) (x : Int) (h : 0 ≤ x ∧ x < 2 ^ (w - 1)) :
    (wrN w x).toInt = x ∧ ((wrN w x).toNat : Int) = x := by
  have hp := two_pow_half w hw
  refine ⟨wrN_toInt w hw x (by omega), ?_⟩
  rw [wrN, BitVec.toNat_ofInt, cast_two_pow, Int.emod_eq_of_lt h.1 (by omega), Int.toNat_of_nonneg h.1]

variable {w : Nat}

/-- the parameters: how late an `exec` may come (`G`), how long an interval may be (`D`); together
less than half the range of the `w`-bit counter -/
structure ParamsN (w : Nat) (G D : Int) : Prop where
  hw : 0 < w
  g0 : 0 ≤ G
  gd : G + D < 2 ^ (w - 1)

theorem Mgr.toN_lst (m : Mgr) : (m.toN w).lst = m.lst := rfl

theorem Mgr.toN_tm (m : Mgr) (i : Nat) : (m.toN w).tm i = (m.tm i).toN w := rfl

@[simp] theorem Timer.toN_finish (t : Timer) : (t.toN w).finish = wrN w t.finish := (wrN_add w _ _).symm

@[simp] theorem Timer.toN_shift (t : Timer) : (t.shift.toN w) = (t.toN w).shift :=
  congrArg (TimerN.mk · _) (wrN_add w _ _)

/-- inside the window the interval and the elapsed time are non-negative and below half the range,
so `check` sees their true values whether it reads them as signed or as unsigned -/
theorem check_simN (sgn : Bool) {G D now : Int} (P : ParamsN w G D) {t : Timer} (h : TWin G D now t) :
    (t.toN w).check sgn (wrN w now) = t.check now := by
  obtain ⟨hi, he⟩ := h.small P.g0 P.gd
  obtain ⟨ai, an⟩ := wrN_small w P.hw t.interval hi
  obtain ⟨bi, bn⟩ := wrN_small w P.hw (now - t.start) he
  cases sgn with
  | false =>
    show decide (((wrN w t.interval).toNat : Int) ≤ ((wrN w now - wrN w t.start).toNat : Int)) = _
    rw [← wrN_sub, an, bn]; rfl
  | true =>
    show decide ((wrN w t.interval).toInt ≤ (wrN w now - wrN w t.start).toInt) = _
    rw [← wrN_sub, ai, bi]; rfl

theorem earlier_simN (hw : 0 < w) {a b : Int} (h : -(2 ^ (w - 1)) ≤ a - b ∧ a - b < 2 ^ (w - 1)) :
    earlierN (wrN w a) (wrN w b) = decide (a < b) := by
  rw [earlierN, ← wrN_sub, wrN_toInt w hw (a - b) h]
  exact decide_eq_decide.mpr ⟨Int.lt_of_sub_neg, Int.sub_neg_of_lt⟩

theorem Timer.toN_inj {G D now : Int} (P : ParamsN w G D) {a b : Timer} (ha : TWin G D now a) (hb : TWin G D now b)
    (h : (a.toN w) = (b.toN w)) : a = b := by
  -- intervals and elapsed times are small, so they can be read back from their truncations
  obtain ⟨sa, ia⟩ := a; obtain ⟨sb, ib⟩ := b
  obtain ⟨hia, hea⟩ := ha.small P.g0 P.gd
  obtain ⟨hib, heb⟩ := hb.small P.g0 P.gd
  injection h with e1 e2
  have ei : ia = ib := by rw [← (wrN_small w P.hw ia hia).1, e2, (wrN_small w P.hw ib hib).1]
  have es : now - sa = now - sb := by
    rw [← (wrN_small w P.hw _ hea).1, wrN_sub, e1, ← wrN_sub, (wrN_small w P.hw _ heb).1]
  rw [ei, (Int.sub_right_inj now).mp es]

/-! ### the operations commute with truncation -/

theorem insertBefore_simN (hw : 0 < w) (tm : Nat → Timer) (fin : Int) (i : Nat) (l : List Nat)
    (h : ∀ j ∈ l, -(2 ^ (w - 1)) ≤ fin - (tm j).finish ∧ fin - (tm j).finish < 2 ^ (w - 1)) :
    insertBeforeN (fun x => (tm x).toN w) (wrN w fin) i l = insertBefore tm fin i l := by
  induction l with
  | nil => rfl
  | cons j rest ih =>
    simp only [insertBeforeN, insertBefore, Timer.toN_finish, earlier_simN hw (h j List.mem_cons_self),
      ih (fun x hx => h x (List.mem_cons_of_mem _ hx)), decide_eq_true_eq]

theorem Mgr.toN_unplan (m : Mgr) (i : Nat) : (m.unplan i).toN w = (m.toN w).unplan i := rfl

theorem Mgr.toN_setTm (m : Mgr) (i : Nat) (t : Timer) :
    ({ m with tm := setTm m.tm i t } : Mgr).toN w = { (m.toN w) with tm := setTmN (m.toN w).tm i (t.toN w) } := by
  simp only [Mgr.toN, MgrN.mk.injEq, and_true]
  funext x
  simp only [setTm, setTmN]
  split <;> rfl

theorem plan_simN {G D now : Int} (P : ParamsN w G D) (m : Mgr) (i : Nat) (hw : Win G D now (m.unplan i))
    (hi : TWin G D now (m.tm i)) :
    (m.plan i).toN w = (m.toN w).plan i ∧ Win G D now (m.plan i) := by
  refine ⟨?_, fun x hx => ?_⟩
  · simp only [Mgr.plan, MgrN.plan, Mgr.toN, MgrN.unplan, Mgr.unplan, Timer.toN_finish, MgrN.mk.injEq, true_and]
    exact (insertBefore_simN P.hw _ _ i _ fun j hj => hi.close P.gd (hw j hj)).symm
  · by_cases hxi : x = i
    · exact hxi ▸ hi
    · exact hw x ((mem_unplan m i x).mpr ⟨((mem_plan m i x).mp hx).resolve_left hxi, hxi⟩)

/-- `plan(tim)` after the fields of `tim` have been overwritten (`plan(tim, s, iv)`, the re-arm) -/
theorem plan_setTm_simN {G D now : Int} (P : ParamsN w G D) (m : Mgr) (i : Nat) (t : Timer)
    (hw : Win G D now m) (ht : TWin G D now t) :
    (({ m with tm := setTm m.tm i t } : Mgr).plan i).toN w =
      ({ m.toN w with tm := setTmN (m.toN w).tm i (t.toN w) } : MgrN w).plan i ∧
    Win G D now (({ m with tm := setTm m.tm i t } : Mgr).plan i) := by
  rw [← Mgr.toN_setTm]
  refine plan_simN P _ i (fun x hx => ?_) ?_
  · have hx' := (mem_unplan _ i x).mp hx
    show TWin G D now (setTm m.tm i t x)
    rw [setTm_other _ _ hx'.2]; exact hw x hx'.1
  · show TWin G D now (setTm m.tm i t i)
    rw [setTm_same]; exact ht

theorem applyAct_simN {G D now : Int} (P : ParamsN w G D) (m : Mgr) (a : Action) (hw : Win G D now m)
    (ha : ActWin G D now a) :
    (applyAct m a).toN w = applyActN (m.toN w) (a.toN w) ∧ Win G D now (applyAct m a) := by
  cases a with
  | unplan j => exact ⟨rfl, hw.unplan j⟩
  | plan j s iv => exact plan_setTm_simN P m j ⟨s, iv⟩ hw ha

theorem runCb_simN {G D now : Int} (P : ParamsN w G D) (m : Mgr) (acts : List Action) (hw : Win G D now m)
    (ha : ∀ a ∈ acts, ActWin G D now a) :
    (runCb m acts).toN w = runCbN (m.toN w) (acts.map (Action.toN w)) ∧ Win G D now (runCb m acts) := by
  induction acts generalizing m with
  | nil => exact ⟨rfl, hw⟩
  | cons a as ih =>
    have h1 := applyAct_simN P m a hw (ha a List.mem_cons_self)
    have h2 := ih (applyAct m a) h1.2 (fun b hb => ha b (List.mem_cons_of_mem _ hb))
    exact ⟨h2.1.trans (congrArg (runCbN · _) h1.1), h2.2⟩

/-- the re-arm: the comparison with the snapshot gives the same answer on the truncated fields
because two timers in the window with equal truncations are equal (`Timer.toN_inj`) -/
theorem rearm_simN {G D now : Int} (P : ParamsN w G D) (m1 : Mgr) (i : Nat) (t0 : Timer) (hw : Win G D now m1)
    (ht0 : TWin G D now t0) (hdue : t0.finish ≤ now) :
    (rearm m1 i t0).toN w = rearmN (m1.toN w) i (t0.toN w) ∧ Win G D now (rearm m1 i t0) := by
  by_cases hi : i ∈ m1.lst
  · have hiN : i ∈ (m1.toN w).lst := hi
    by_cases he : m1.tm i = t0
    · have heN : ((m1.toN w).unplan i).tm i = t0.toN w := congrArg (Timer.toN w) he
      rw [rearm_same m1 i t0 hi he]
      have h := plan_setTm_simN P (m1.unplan i) i t0.shift (hw.unplan i) (ht0.shift hdue)
      refine ⟨h.1.trans ?_, h.2⟩
      simp only [rearmN, hiN, if_true, heN, Timer.toN_shift, Mgr.toN_unplan]
    · have heN : ¬ ((m1.toN w).unplan i).tm i = t0.toN w := fun e => he (Timer.toN_inj P (hw i hi) ht0 e)
      rw [rearm_changed m1 i t0 hi he]
      have h := plan_simN P (m1.unplan i) i ((hw.unplan i).unplan i) (hw i hi)
      refine ⟨h.1.trans ?_, h.2⟩
      simp only [rearmN, hiN, if_true, heN, if_false, Mgr.toN_unplan]
  · rw [rearm_not_mem m1 i t0 hi]
    exact ⟨(if_neg (show i ∉ (m1.toN w).lst from hi)).symm, hw⟩

theorem headDue_simN (sgn : Bool) {G D now : Int} (P : ParamsN w G D) (m : Mgr) (hw : Win G D now m) :
    (m.toN w).headDue sgn (wrN w now) = m.headDue now := by
  unfold MgrN.headDue Mgr.headDue
  rw [Mgr.toN_lst]
  cases hl : m.lst with
  | nil => rfl
  | cons i rest => simp only [Mgr.toN_tm, check_simN sgn P (hw i (hl ▸ List.mem_cons_self))]

theorem execBody_simN {G D now : Int} (P : ParamsN w G D) (m : Mgr) (i : Nat) (acts : List Action)
    (hw : Win G D now m) (hi : i ∈ m.lst) (hdue : (m.tm i).finish ≤ now) (ha : ∀ a ∈ acts, ActWin G D now a) :
    (execBody acts m i).toN w = execBodyN (acts.map (Action.toN w)) (m.toN w) i ∧
      Win G D now (execBody acts m i) := by
  have h1 := runCb_simN P m acts hw ha
  have h2 := rearm_simN P (runCb m acts) i (m.tm i) h1.2 (hw i hi) hdue
  exact ⟨h2.1.trans (congrArg (rearmN · i _) h1.1), h2.2⟩

theorem execLoop_simN (sgn : Bool) {G D now : Int} (P : ParamsN w G D) (cb : Cb) (hcb : CbWin G D now cb) (fuel k : Nat) (m : Mgr)
    (hw : Win G D now m) :
    execLoopN sgn (cbToN w cb) (wrN w now) fuel k (m.toN w) =
      ((execLoop cb now fuel k m).1.toN w, (execLoop cb now fuel k m).2.1.map (Fire.toN w),
        (execLoop cb now fuel k m).2.2) ∧
    Win G D now (execLoop cb now fuel k m).1 := by
  induction fuel generalizing k m with
  | zero => exact ⟨by simp only [execLoopN, execLoop, headDue_simN sgn P m hw, List.map_nil], hw⟩
  | succ n ih =>
    unfold execLoopN execLoop
    rw [headDue_simN sgn P m hw]
    cases hd : m.headDue now with
    | none => exact ⟨rfl, hw⟩
    | some i =>
      obtain ⟨rest, hl, hdue⟩ := headDue_some hd
      have hb := execBody_simN P m i (cb k i) hw (hl ▸ List.mem_cons_self) hdue (hcb k i)
      have h := ih (k + 1) (execBody (cb k i) m i) hb.2
      refine ⟨?_, h.2⟩
      show (let r := execLoopN sgn (cbToN w cb) (wrN w now) n (k + 1) (execBodyN ((cb k i).map (Action.toN w)) (m.toN w) i);
        (r.1, (⟨i, ((m.tm i).toN w).finish⟩ : FireN w) :: r.2.1, r.2.2)) = _
      rw [← hb.1, h.1, Timer.toN_finish]
      rfl

theorem runOps_simN (sgn : Bool) {G D : Int} (P : ParamsN w G D) (ops : List Op) (lo c : Int) (m : Mgr) (hm : WF m)
    (hj : J D lo c m) (hc : c ≤ lo + G) (hh : HistWin G D lo c ops) (hfin : (runOps m ops).2.2 = true) :
    runOpsN sgn (m.toN w) (ops.map (Op.toN w)) =
      ((runOps m ops).1.toN w, (runOps m ops).2.1.map (fun fs => fs.map (Fire.toN w)), true) := by
  induction ops generalizing lo c m with
  | nil => rfl
  | cons op ops ih =>
    have hfin := runOps_cons_returned.mp hfin
    obtain ⟨hs, hrest⟩ :
        stepOpN sgn (m.toN w) (op.toN w) =
          ((stepOp m op).1.toN w, (stepOp m op).2.1.map (Fire.toN w), (stepOp m op).2.2) ∧
        runOpsN sgn ((stepOp m op).1.toN w) (ops.map (Op.toN w)) =
          ((runOps (stepOp m op).1 ops).1.toN w,
            (runOps (stepOp m op).1 ops).2.1.map (fun fs => fs.map (Fire.toN w)), true) := by
      cases op with
      | plan i s iv =>
        obtain ⟨h1, h2, h3, h4, h5⟩ := hh
        have hcs : max c s ≤ lo + G := Int.max_le.mpr ⟨hc, h3⟩
        have hs := plan_setTm_simN P m i ⟨s, iv⟩ (hj.win (Int.le_max_left c s) hcs)
          ⟨h1, h2, Int.le_max_right c s, by show max c s - G ≤ s + iv; omega⟩
        exact ⟨congrArg (·, [], true) hs.1.symm,
          ih lo (max c s) _ (hm.plan3 i s iv h1) (hj.plan3 i h1 h2 h4) hcs h5 hfin.2⟩
      | unplan i => exact ⟨rfl, ih lo c _ (hm.unplan i) (hj.unplan i) hc hh hfin.2⟩
      | exec now cb fuel =>
        obtain ⟨h1, h2, h3, h4⟩ := hh
        have hs := execLoop_simN sgn P cb h3 fuel 0 m (hj.win h1 h2)
        have hm' : WF (execLoop cb now fuel 0 m).1 := (execLoop_steps cb now fuel 0 m).wf h3.pos hm
        exact ⟨hs.1, ih now now _ hm' (J.of_win hs.2 (none_due hm' (execLoop_done cb now fuel 0 m hfin.1)))
          (Int.le_add_of_nonneg_right P.g0) h4 hfin.2⟩
    show (let r := stepOpN sgn (m.toN w) (op.toN w); let r' := runOpsN sgn r.1 (ops.map (Op.toN w));
      (r'.1, r.2.1 :: r'.2.1, r.2.2 && r'.2.2)) = _
    rw [hs]
    dsimp only
    rw [hrest, hfin.1]
    rfl

theorem fires_toN (w : Nat) (i : Nat) (fss : List (List Fire)) :
    (((fss.map (fun fs => fs.map (Fire.toN w))).flatten.filter (fun f => f.id = i)).map (·.deadline)) =
      ((fss.flatten.filter (fun f => f.id = i)).map (·.deadline)).map (wrN w) := by
  rw [← List.map_flatten, List.filter_map, List.map_map, List.map_map]
  rfl

/-! ### stimer in wrapping arithmetic -/

theorem stimerCheck_simN (w : Nat) (hw : 0 < w) (t : STimer) (now : Int)
    (h1 : -2 ^ (w - 1) ≤ now - t.start) (h2 : now - t.start < 2 ^ (w - 1))
    (h3 : -2 ^ (w - 1) ≤ t.interval) (h4 : t.interval < 2 ^ (w - 1)) :
    stimerCheckN (t.toN w) (BitVec.ofInt w now) = stimerCheck t now := by
  show (t.planed && decide ((wrN w t.interval).toInt ≤ (wrN w now - wrN w t.start).toInt)) = _
  rw [← wrN_sub, wrN_toInt w hw _ ⟨h1, h2⟩, wrN_toInt w hw _ ⟨h3, h4⟩]
  rfl

theorem stimerSwift_simN (w : Nat) (t : STimer) : stimerSwiftN (t.toN w) = (stimerSwift t).toN w :=
  congrArg (STimerN.mk · _ _) (wrN_add w _ _).symm

theorem stimerPeriodic_simN (w : Nat) (hw : 0 < w) (t : STimer) (now : Int)
    (h1 : -2 ^ (w - 1) ≤ now - t.start) (h2 : now - t.start < 2 ^ (w - 1))
    (h3 : -2 ^ (w - 1) ≤ t.interval) (h4 : t.interval < 2 ^ (w - 1)) :
    stimerPeriodicN (t.toN w) (BitVec.ofInt w now) =
      ((stimerPeriodic t now).1.toN w, (stimerPeriodic t now).2) := by
  unfold stimerPeriodicN stimerPeriodic
  rw [stimerCheck_simN w hw t now h1 h2 h3 h4]
  split
  · rw [stimerSwift_simN]
  · rfl

/-! Without a window: `(a - b).toInt` is the integer difference brought back into `[−2^(w−1), 2^(w−1))`
by at most one turn of the counter, and the due rule on it agrees with the rule on the integers exactly
in the region that `stimer_transfer_iff` states. -/

theorem bmod_eq_self {m : Nat} {H x : Int} (hm : (m : Int) = 2 * H) (h : -H ≤ x ∧ x < H) :
    x.bmod m = x := by
  apply Int.bmod_eq_of_le <;> rw [hm]
  · rw [Int.mul_ediv_cancel_left _ (by decide)]; exact h.1
  · rw [Int.add_comm, Int.add_mul_ediv_left _ _ (by decide)]; exact (Int.zero_add H).symm ▸ h.2

theorem bmod_cases (hw : 0 < w) (e : Int) (h1 : -(2 ^ w : Int) < e) (h2 : e < 2 ^ w) :
    e.bmod (2 ^ w) = if e < -(2 ^ (w - 1)) then e + 2 ^ w else if e < 2 ^ (w - 1) then e else e - 2 ^ w := by
  have hm : ((2 ^ w : Nat) : Int) = 2 * 2 ^ (w - 1) := (cast_two_pow w).trans (two_pow_half w hw)
  rw [two_pow_half w hw] at h1 h2 ⊢
  -- in each of the three ranges the claimed value lies in [−2^(w−1), 2^(w−1)) and differs from `e`
  -- by a multiple of 2^w
  split
  · rw [← Int.add_bmod_right, hm]; exact bmod_eq_self hm (by omega)
  · split
    · exact bmod_eq_self hm (by omega)
    · rw [← Int.sub_bmod_right, hm]; exact bmod_eq_self hm (by omega)

theorem toInt_sub_cases (hw : 0 < w) (a b : BitVec w) :
    (a - b).toInt = if a.toInt - b.toInt < -(2 ^ (w - 1)) then a.toInt - b.toInt + 2 ^ w
      else if a.toInt - b.toInt < 2 ^ (w - 1) then a.toInt - b.toInt else a.toInt - b.toInt - 2 ^ w := by
  have hp := two_pow_half w hw
  have a1 := BitVec.le_toInt a; have a2 := BitVec.toInt_lt (x := a)
  have b1 := BitVec.le_toInt b; have b2 := BitVec.toInt_lt (x := b)
  have r : -(2 ^ w : Int) < a.toInt - b.toInt ∧ a.toInt - b.toInt < 2 ^ w := by omega
  rw [BitVec.toInt_sub]
  exact bmod_cases hw _ r.1 r.2

/-- the due rule `v ≤ ·` on the difference `c − s` reduced into `[−H, H)` by one turn `M = 2H` of the
counter (the shape `toInt_sub_cases` gives), against the rule on the difference itself -/
theorem reduced_agree_iff {H M v s c : Int} (hM : M = 2 * H) (hv : -H ≤ v ∧ v < H) :
    (v ≤ (if c - s < -H then c - s + M else if c - s < H then c - s else c - s - M) ↔ s + v ≤ c) ↔
      ((-H ≤ c - s ∧ c - s < H) ∨ (H ≤ c - s ∧ v ≤ c - s - M) ∨ (c - s < -H ∧ c - s + M < v)) := by
  subst hM
  split
  · rename_i h1
    have hb : ¬ (s + v ≤ c) ∧ ¬ (-H ≤ c - s) ∧ ¬ (H ≤ c - s) := by omega
    simp only [hb, iff_false, h1, true_and, false_and, false_or, Int.not_le]
  · rename_i h1
    split
    · rename_i h2
      exact iff_of_true (by omega) (Or.inl ⟨Int.not_lt.mp h1, h2⟩)
    · rename_i h2
      have hb : s + v ≤ c ∧ H ≤ c - s := by omega
      simp only [hb, iff_true, h1, h2, true_and, and_false, false_and, false_or, or_false]

/-! ### `timer_spec<uint32_t>` (`Wrap.lean`, repaired comparison) is the instance `w = 32`, unsigned

Field by field the same object; every operation of `Wrap.lean` with `Cmp.signedDiff` is the
operation of `WrapN.lean` at `sgn = false`.  No window is involved. -/

def TimerN.toW (t : TimerN 32) : TimerW := ⟨t.start, t.interval⟩
def MgrN.toW (m : MgrN 32) : MgrW := ⟨fun i => (m.tm i).toW, m.lst⟩
def ActionN.toW : ActionN 32 → ActionW
  | .unplan j => .unplan j
  | .plan j s iv => .plan j s iv
def FireN.toW (f : FireN 32) : FireW := ⟨f.id, f.deadline⟩
def OpN.toW : OpN 32 → OpW
  | .plan i s iv => .plan i s iv
  | .unplan i => .unplan i
  | .exec now cb fuel => .exec now (fun k i => (cb k i).map ActionN.toW) fuel

theorem MgrN.toW_lst (m : MgrN 32) : m.toW.lst = m.lst := rfl

theorem MgrN.toW_tm (m : MgrN 32) (i : Nat) : m.toW.tm i = (m.tm i).toW := rfl

theorem TimerN.toW_inj {a b : TimerN 32} : a.toW = b.toW ↔ a = b := by
  cases a; cases b; simp only [TimerN.toW, TimerW.mk.injEq, TimerN.mk.injEq]

theorem TimerN.toW_check (t : TimerN 32) (c : W32) : t.toW.check c = t.check false c :=
  decide_eq_decide.mpr (BitVec.le_def.trans Int.ofNat_le.symm)

theorem insertBeforeN_toW (tm : Nat → TimerN 32) (fin : W32) (i : Nat) (l : List Nat) :
    insertBeforeW .signedDiff (fun x => (tm x).toW) fin i l = insertBeforeN tm fin i l := by
  induction l with
  | nil => rfl
  | cons j rest ih => simp only [insertBeforeW, insertBeforeN, ih]; rfl

theorem MgrN.plan_toW (m : MgrN 32) (i : Nat) : (m.plan i).toW = m.toW.plan .signedDiff i :=
  congrArg (MgrW.mk _) (insertBeforeN_toW ..).symm

theorem MgrN.setTm_toW (m : MgrN 32) (i : Nat) (t : TimerN 32) :
    ({ m with tm := setTmN m.tm i t } : MgrN 32).toW = { m.toW with tm := setTmW m.toW.tm i t.toW } := by
  simp only [MgrN.toW, MgrW.mk.injEq, and_true]
  funext x
  simp only [setTmN, setTmW]
  split <;> rfl

theorem applyActN_toW (m : MgrN 32) (a : ActionN 32) :
    (applyActN m a).toW = applyActW .signedDiff m.toW a.toW := by
  cases a with
  | unplan j => rfl
  | plan j s iv => exact (MgrN.plan_toW _ j).trans (congrArg (MgrW.plan _ · j) (MgrN.setTm_toW m j ⟨s, iv⟩))

theorem runCbN_toW (m : MgrN 32) (acts : List (ActionN 32)) :
    (runCbN m acts).toW = runCbW .signedDiff m.toW (acts.map ActionN.toW) := by
  induction acts generalizing m with
  | nil => rfl
  | cons a as ih => exact (ih _).trans (congrArg (runCbW _ · _) (applyActN_toW m a))

theorem rearmN_toW (m : MgrN 32) (i : Nat) (t0 : TimerN 32) :
    (rearmN m i t0).toW = rearmW .signedDiff m.toW i t0.toW := by
  unfold rearmN rearmW
  by_cases hi : i ∈ m.lst
  · by_cases he : (m.unplan i).tm i = t0
    · have heW : (m.toW.unplan i).tm i = t0.toW := congrArg TimerN.toW he
      simp only [if_pos hi, if_pos (show i ∈ m.toW.lst from hi), if_pos he, if_pos heW]
      exact (MgrN.plan_toW _ i).trans (congrArg (MgrW.plan _ · i) (MgrN.setTm_toW (m.unplan i) i _))
    · have heW : ¬ (m.toW.unplan i).tm i = t0.toW := fun e => he (TimerN.toW_inj.mp e)
      simp only [if_pos hi, if_pos (show i ∈ m.toW.lst from hi), if_neg he, if_neg heW]
      exact MgrN.plan_toW _ i
  · simp only [if_neg hi, if_neg (show i ∉ m.toW.lst from hi)]

theorem MgrN.headDue_toW (m : MgrN 32) (now : W32) : m.toW.headDue now = m.headDue false now := by
  unfold MgrW.headDue MgrN.headDue
  rw [MgrN.toW_lst]
  cases m.lst with
  | nil => rfl
  | cons i _ => simp only [MgrN.toW_tm, TimerN.toW_check]

theorem MgrN.minimalInterval_toW (m : MgrN 32) (now : W32) :
    m.toW.minimalInterval now = m.minimalInterval now := by
  unfold MgrW.minimalInterval MgrN.minimalInterval
  rw [MgrN.toW_lst]
  cases m.lst <;> rfl

theorem execLoopN_toW (cb : CbN 32) (now : W32) (fuel k : Nat) (m : MgrN 32) :
    execLoopW .signedDiff (fun k i => (cb k i).map ActionN.toW) now fuel k m.toW =
      ((execLoopN false cb now fuel k m).1.toW, (execLoopN false cb now fuel k m).2.1.map FireN.toW,
        (execLoopN false cb now fuel k m).2.2) := by
  induction fuel generalizing k m with
  | zero => simp only [execLoopW, execLoopN, MgrN.headDue_toW, List.map_nil]
  | succ n ih =>
    unfold execLoopW execLoopN
    rw [MgrN.headDue_toW]
    cases m.headDue false now with
    | none => rfl
    | some i =>
      have hb : execBodyW .signedDiff ((cb k i).map ActionN.toW) m.toW i = (execBodyN (cb k i) m i).toW :=
        ((rearmN_toW _ i _).trans (congrArg (rearmW _ · i _) (runCbN_toW m (cb k i)))).symm
      simp only [hb, ih, List.map_cons]
      rfl

theorem stepOpN_toW (m : MgrN 32) (op : OpN 32) :
    stepOpW .signedDiff m.toW op.toW =
      ((stepOpN false m op).1.toW, (stepOpN false m op).2.1.map FireN.toW, (stepOpN false m op).2.2) := by
  cases op with
  | plan i s iv => exact congrArg (·, [], true) (applyActN_toW m (.plan i s iv)).symm
  | unplan i => rfl
  | exec now cb fuel => exact execLoopN_toW cb now fuel 0 m

theorem runOpsN_toW (m : MgrN 32) (ops : List (OpN 32)) :
    runOpsW .signedDiff m.toW (ops.map OpN.toW) =
      ((runOpsN false m ops).1.toW, (runOpsN false m ops).2.1.map (fun fs => fs.map FireN.toW),
        (runOpsN false m ops).2.2) := by
  induction ops generalizing m with
  | nil => rfl
  | cons op ops ih => simp only [List.map_cons, runOpsW, runOpsN, stepOpN_toW, ih]

theorem Action.toW_eq (a : Action) : a.toW = (a.toN 32).toW := by cases a <;> rfl

theorem cbToW_eq (cb : Cb) : cbToW cb = fun k i => (cbToN 32 cb k i).map ActionN.toW := by
  funext k i
  simp only [cbToW, cbToN, List.map_map]
  exact List.map_congr_left fun a _ => a.toW_eq

theorem Op.toW_eq (op : Op) : op.toW = (op.toN 32).toW := by
  cases op with
  | exec now cb fuel => exact congrArg (OpW.exec _ · _) (cbToW_eq cb)
  | _ => rfl

theorem Params.toN {G D : Int} (P : Params G D) : ParamsN 32 G D := ⟨by decide, P.g0, P.gd⟩

end Igris.C16
