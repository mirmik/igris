/-
  C16 — FIFO among equal deadlines: a pair of timers that no call names keeps its order in the list
  through `plan`, `unplan`, callbacks and the re-arm, so the one in front runs first.
-/
import IgrisModel.C16.Lemmas
namespace Igris.C16

theorem insertBefore_sublist (tm : Nat → Timer) (fin : Int) (i : Nat) (l : List Nat) :
    l.Sublist (insertBefore tm fin i l) := by
  induction l with
  | nil => simp [insertBefore]
  | cons j rest ih =>
    simp only [insertBefore]
    split
    · exact List.Sublist.cons _ (List.Sublist.refl _)
    · exact List.Sublist.cons_cons _ ih

theorem insertBefore_after (tm : Nat → Timer) (fin : Int) (i b : Nat) (l : List Nat) (hs : Sorted tm l)
    (hb : b ∈ l) (hle : (tm b).finish ≤ fin) : [b, i].Sublist (insertBefore tm fin i l) := by
  induction l with
  | nil => exact nomatch hb
  | cons j rest ih =>
    -- the head `j` is not later than `b`, hence not later than `fin`: the scan goes past it
    have hnot : ¬ fin < (tm j).finish := Int.not_lt.mpr (Int.le_trans (Sorted.head_le hs b hb) hle)
    simp only [insertBefore, hnot, if_false]
    rcases List.mem_cons.mp hb with rfl | e
    · exact List.Sublist.cons_cons _ (List.singleton_sublist.mpr ((mem_insertBefore ..).mpr (Or.inl rfl)))
    · exact List.Sublist.cons _ (ih (List.pairwise_cons.mp hs).2 e)

theorem pair_filter_ne {a b j : Nat} {l : List Nat} (h : [b, a].Sublist l) (ha : a ≠ j) (hb : b ≠ j) :
    [b, a].Sublist (l.filter (· != j)) := by
  have := h.filter (· != j)
  simpa [ha, hb] using this

theorem pair_plan3 {a b j : Nat} {m : Mgr} (s iv : Int) (h : [b, a].Sublist m.lst) (ha : a ≠ j) (hb : b ≠ j) :
    [b, a].Sublist (m.plan3 j s iv).lst :=
  (pair_filter_ne h ha hb).trans (insertBefore_sublist _ _ _ _)

theorem pair_execBody {a b i : Nat} {m : Mgr} (acts : List Action) (h : [b, a].Sublist m.lst)
    (ha : ∀ x ∈ acts, x.target ≠ a) (hb : ∀ x ∈ acts, x.target ≠ b) (hai : a ≠ i) (hbi : b ≠ i) :
    [b, a].Sublist (execBody acts m i).lst :=
  execBody_induct (I := fun m' => [b, a].Sublist m'.lst)
    (fun _ _ hj h => pair_filter_ne h (Ne.symm (ha _ hj)) (Ne.symm (hb _ hj)))
    (fun _ _ s iv hj h => pair_plan3 s iv h (Ne.symm (ha _ hj)) (Ne.symm (hb _ hj)))
    (fun _ _ h => pair_plan3 _ _ h hai hbi) h

theorem pair_head {a b i : Nat} {rest : List Nat} (h : [b, a].Sublist (i :: rest)) (hn : (i :: rest).Nodup)
    (hab : a ≠ b) : a ≠ i := by
  intro e
  subst e
  have hnr : a ∉ rest := (List.nodup_cons.mp hn).1
  cases h with
  | cons _ h' => exact hnr (h'.subset (by simp))
  | cons_cons _ h' => exact hab rfl

theorem Steps.fifo {cb : Cb} {now : Int} {k : Nat} {m m' : Mgr} {fs : List Fire}
    (h : Steps cb now k m fs m') (hcb : CbPos cb) (hm : WF m) {a b : Nat} (hab : a ≠ b)
    (hp : [b, a].Sublist m.lst) (hua : Untouched cb a) (hub : Untouched cb b) :
    ∀ (n : Nat) (f : Fire), fs[n]? = some f → f.id = a → ∃ (n' : Nat) (g : Fire), n' < n ∧ fs[n']? = some g ∧ g.id = b := by
  induction h with
  | nil => exact nofun
  | @cons k m m' i fs hd tl ih =>
    obtain ⟨rest, hl, _⟩ := headDue_some hd
    -- the head is not `a`: `b` stands in front of `a`
    have hai : a ≠ i := pair_head (hl ▸ hp) (hl ▸ hm.nodup) hab
    intro n f hf hfa
    cases n with
    | zero => exact absurd ((congrArg Fire.id (Option.some.inj hf)).trans hfa).symm hai
    | succ n =>
      by_cases hbi : b = i
      · exact ⟨0, _, Nat.succ_pos n, rfl, hbi.symm⟩
      · obtain ⟨n', g, h1, h2, h3⟩ := ih (hm.execBody _ (hcb _ _) _)
          (pair_execBody _ hp (hua k i) (hub k i) hai hbi) n f hf hfa
        exact ⟨n' + 1, g, Nat.succ_lt_succ h1, h2, h3⟩

end Igris.C16
