/-
  C16 — the loop of `exec` is studied as the relation `Steps` (one constructor per callback), so
  that the order, catch-up and never-fires results are inductions over `Steps` and not over the
  fuel of `execLoop`; `WF` is carried through every API call and the loop body.
  Inside `exec` the manager changes only by `unplan` and `plan(tim, s, iv)` calls: the re-arm of a
  planned timer is one (`rearm_mem`).  So what these two calls keep, callback scripts and the loop body
  keep (`runCb_induct`, `execBody_induct`).
-/
import IgrisModel.C16.Spec
namespace Igris.C16

@[simp] theorem setTm_same (tm : Nat → Timer) (i : Nat) (t : Timer) : setTm tm i t i = t := by
  simp [setTm]

theorem setTm_other (tm : Nat → Timer) {i x : Nat} (t : Timer) (h : x ≠ i) : setTm tm i t x = tm x := by
  simp [setTm, h]

theorem setTm_self (tm : Nat → Timer) (i : Nat) : setTm tm i (tm i) = tm := by
  funext x
  unfold setTm
  split
  · subst_vars; rfl
  · rfl

/-! ### sortedness by deadline -/

theorem Sorted.congr {tm tm' : Nat → Timer} {l : List Nat} (h : ∀ x ∈ l, tm x = tm' x)
    (hs : Sorted tm l) : Sorted tm' l := by
  unfold Sorted at *
  refine List.Pairwise.imp_of_mem ?_ hs
  intro a b ha hb hab
  rw [← h a ha, ← h b hb]; exact hab

theorem Sorted.head_le {tm : Nat → Timer} {i : Nat} {l : List Nat} (h : Sorted tm (i :: l)) :
    ∀ x ∈ i :: l, (tm i).finish ≤ (tm x).finish := by
  intro x hx
  rcases List.mem_cons.mp hx with h' | h'
  · subst h'; omega
  · exact (List.pairwise_cons.mp h).1 x h'

/-! ### insertBefore -/

theorem insertBefore_perm (tm : Nat → Timer) (fin : Int) (i : Nat) (l : List Nat) :
    (insertBefore tm fin i l).Perm (i :: l) := by
  induction l with
  | nil => exact .refl _
  | cons j rest ih =>
    unfold insertBefore
    split
    · exact .refl _
    · exact (ih.cons j).trans (.swap i j rest)

theorem mem_insertBefore (tm : Nat → Timer) (fin : Int) (i x : Nat) (l : List Nat) :
    x ∈ insertBefore tm fin i l ↔ x = i ∨ x ∈ l :=
  (insertBefore_perm tm fin i l).mem_iff.trans List.mem_cons

theorem nodup_insertBefore (tm : Nat → Timer) (fin : Int) (i : Nat) (l : List Nat)
    (hi : i ∉ l) (hl : l.Nodup) : (insertBefore tm fin i l).Nodup :=
  (insertBefore_perm tm fin i l).nodup_iff.mpr (List.nodup_cons.mpr ⟨hi, hl⟩)

theorem sorted_insertBefore (tm : Nat → Timer) (i : Nat) (l : List Nat)
    (hs : Sorted tm l) : Sorted tm (insertBefore tm (tm i).finish i l) := by
  induction l with
  | nil => exact List.pairwise_singleton _ _
  | cons j rest ih =>
    have hs' := List.pairwise_cons.mp hs
    unfold insertBefore
    split
    · -- `i` is earlier than `j`, which is not later than the rest
      rename_i hlt
      refine List.pairwise_cons.mpr ⟨fun x hx => ?_, hs⟩
      rcases List.mem_cons.mp hx with rfl | h
      · exact Int.le_of_lt hlt
      · exact Int.le_trans (Int.le_of_lt hlt) (hs'.1 x h)
    · rename_i hge
      refine List.pairwise_cons.mpr ⟨fun x hx => ?_, ih hs'.2⟩
      rcases (mem_insertBefore tm _ i x rest).mp hx with rfl | h
      · exact Int.not_lt.mp hge
      · exact hs'.1 x h

theorem insertBefore_congr {tm tm' : Nat → Timer} (fin : Int) (i : Nat) (l : List Nat)
    (h : ∀ x ∈ l, tm x = tm' x) : insertBefore tm fin i l = insertBefore tm' fin i l := by
  induction l with
  | nil => rfl
  | cons j rest ih =>
    unfold insertBefore
    rw [h j (by simp), ih (fun x hx => h x (by simp [hx]))]

/-! ### unplan / plan / plan3 -/

theorem filter_bne_of_not_mem {i : Nat} {l : List Nat} (h : i ∉ l) : l.filter (· != i) = l :=
  List.filter_eq_self.mpr fun _ ha => bne_iff_ne.mpr fun e => h (e ▸ ha)

@[simp] theorem unplan_tm (m : Mgr) (i : Nat) : (m.unplan i).tm = m.tm := rfl

theorem mem_unplan (m : Mgr) (i x : Nat) : x ∈ (m.unplan i).lst ↔ x ∈ m.lst ∧ x ≠ i := by
  simp [Mgr.unplan]

theorem not_mem_unplan (m : Mgr) (i : Nat) : i ∉ (m.unplan i).lst := by
  simp [mem_unplan]

theorem unplan_of_not_mem (m : Mgr) (i : Nat) (h : i ∉ m.lst) : m.unplan i = m := by
  cases m with
  | mk tm lst => exact congrArg (Mgr.mk tm) (filter_bne_of_not_mem h)

theorem WF.unplan {m : Mgr} (h : WF m) (i : Nat) : WF (m.unplan i) where
  nodup := List.Pairwise.filter _ h.nodup
  sorted := by
    have := h.sorted
    unfold Sorted at *
    exact List.Pairwise.filter _ this
  pos := fun x hx => h.pos x ((mem_unplan m i x).mp hx).1

@[simp] theorem plan_tm (m : Mgr) (i : Nat) : (m.plan i).tm = m.tm := rfl

theorem mem_plan (m : Mgr) (i x : Nat) : x ∈ (m.plan i).lst ↔ x = i ∨ x ∈ m.lst := by
  by_cases hx : x = i <;> simp [Mgr.plan, mem_insertBefore, mem_unplan, hx]

theorem WF.plan {m : Mgr} (h : WF m) (i : Nat) (hp : 0 < (m.tm i).interval) : WF (m.plan i) := by
  have hu := h.unplan i
  refine ⟨?_, ?_, ?_⟩
  · exact nodup_insertBefore _ _ _ _ (not_mem_unplan m i) hu.nodup
  · exact sorted_insertBefore m.tm i _ hu.sorted
  · intro x hx
    rcases (mem_plan m i x).mp hx with h' | h'
    · subst h'; exact hp
    · exact h.pos x h'

theorem WF.setTm {m : Mgr} (h : WF m) (i : Nat) (t : Timer) (hi : i ∉ m.lst) :
    WF { m with tm := setTm m.tm i t } := by
  have hc : ∀ x ∈ m.lst, m.tm x = Igris.C16.setTm m.tm i t x := by
    intro x hx
    rw [setTm_other]
    intro h'; subst h'; exact hi hx
  refine ⟨h.nodup, h.sorted.congr hc, ?_⟩
  intro x hx
  show 0 < (Igris.C16.setTm m.tm i t x).interval
  rw [← hc x hx]; exact h.pos x hx

theorem plan3_eq (m : Mgr) (i : Nat) (s iv : Int) :
    m.plan3 i s iv = ({ m.unplan i with tm := setTm m.tm i ⟨s, iv⟩ } : Mgr).plan i := by
  simp [Mgr.plan3, Mgr.plan, Mgr.unplan, List.filter_filter]

@[simp] theorem plan3_tm (m : Mgr) (i : Nat) (s iv : Int) :
    (m.plan3 i s iv).tm = setTm m.tm i ⟨s, iv⟩ := rfl

theorem plan3_lst (m : Mgr) (i : Nat) (s iv : Int) :
    (m.plan3 i s iv).lst = insertBefore (setTm m.tm i ⟨s, iv⟩) (s + iv) i (m.unplan i).lst := by
  show insertBefore _ (setTm m.tm i ⟨s, iv⟩ i).finish i _ = _
  rw [setTm_same]; rfl

theorem mem_plan3 (m : Mgr) (i x : Nat) (s iv : Int) :
    x ∈ (m.plan3 i s iv).lst ↔ x = i ∨ x ∈ m.lst := by
  unfold Mgr.plan3
  rw [mem_plan]

theorem WF.plan3 {m : Mgr} (h : WF m) (i : Nat) (s iv : Int) (hp : 0 < iv) : WF (m.plan3 i s iv) := by
  rw [plan3_eq]
  apply WF.plan
  · exact (h.unplan i).setTm i ⟨s, iv⟩ (not_mem_unplan m i)
  · simpa using hp

/-! ### callbacks -/

theorem runCb_cons (m : Mgr) (a : Action) (as : List Action) :
    runCb m (a :: as) = runCb (applyAct m a) as := rfl

@[simp] theorem runCb_nil (m : Mgr) : runCb m [] = m := rfl

theorem runCb_induct {I : Mgr → Prop} {acts : List Action}
    (hu : ∀ m j, Action.unplan j ∈ acts → I m → I (m.unplan j))
    (hp : ∀ m j s iv, Action.plan j s iv ∈ acts → I m → I (m.plan3 j s iv))
    {m : Mgr} (h : I m) : I (runCb m acts) := by
  induction acts generalizing m with
  | nil => exact h
  | cons a as ih =>
    refine ih (fun m j hj => hu m j (List.mem_cons_of_mem _ hj))
      (fun m j s iv hj => hp m j s iv (List.mem_cons_of_mem _ hj)) ?_
    cases a with
    | unplan j => exact hu m j List.mem_cons_self h
    | plan j s iv => exact hp m j s iv List.mem_cons_self h

theorem applyAct_other (m : Mgr) (a : Action) (i : Nat) (h : a.target ≠ i) :
    (applyAct m a).tm i = m.tm i ∧ (i ∈ (applyAct m a).lst ↔ i ∈ m.lst) := by
  cases a with
  | unplan j => exact ⟨rfl, (mem_unplan m j i).trans (and_iff_left (Ne.symm h))⟩
  | plan j s iv =>
    exact ⟨setTm_other _ _ (Ne.symm h), (mem_plan3 m j i s iv).trans (or_iff_right (Ne.symm h))⟩

theorem runCb_frame (m : Mgr) (acts : List Action) (x : Nat) (hx : x ∈ (runCb m acts).lst) :
    ((runCb m acts).tm x = m.tm x ∧ x ∈ m.lst) ∨
    ∃ s iv, Action.plan x s iv ∈ acts ∧ (runCb m acts).tm x = ⟨s, iv⟩ := by
  induction acts generalizing m with
  | nil => exact Or.inl ⟨rfl, hx⟩
  | cons a as ih =>
    rcases ih (applyAct m a) hx with ⟨h1, h2⟩ | ⟨s, iv, h1, h2⟩
    · by_cases ht : a.target = x
      · cases a with
        | unplan j => obtain rfl : j = x := ht; exact absurd h2 (not_mem_unplan m j)
        | plan j s iv =>
          obtain rfl : j = x := ht
          exact Or.inr ⟨s, iv, List.mem_cons_self, h1.trans (setTm_same ..)⟩
      · have ho := applyAct_other m a x ht
        exact Or.inl ⟨h1.trans ho.1, ho.2.mp h2⟩
    · exact Or.inr ⟨s, iv, List.mem_cons_of_mem _ h1, h2⟩

theorem runCb_untouched (m : Mgr) (acts : List Action) (i : Nat) (h : ∀ a ∈ acts, a.target ≠ i) :
    (runCb m acts).tm i = m.tm i ∧ (i ∈ (runCb m acts).lst ↔ i ∈ m.lst) := by
  induction acts generalizing m with
  | nil => simp
  | cons a as ih =>
    rw [runCb_cons]
    have h1 := applyAct_other m a i (h a (by simp))
    have h2 := ih (applyAct m a) (fun b hb => h b (by simp [hb]))
    exact ⟨h2.1.trans h1.1, h2.2.trans h1.2⟩

/-! ### the loop body -/

theorem headDue_some {m : Mgr} {now : Int} {i : Nat} (h : m.headDue now = some i) :
    ∃ rest, m.lst = i :: rest ∧ (m.tm i).finish ≤ now := by
  unfold Mgr.headDue at h
  split at h
  · exact nomatch h
  · rename_i j rest hl
    split at h
    · rename_i hc
      obtain rfl := Option.some.inj h
      exact ⟨rest, hl, Int.add_le_of_le_sub_left (of_decide_eq_true hc)⟩
    · exact nomatch h

theorem headDue_of_cons {m : Mgr} {now : Int} {i : Nat} {rest : List Nat} (hl : m.lst = i :: rest)
    (hdue : (m.tm i).finish ≤ now) : m.headDue now = some i := by
  unfold Mgr.headDue
  rw [hl]
  exact if_pos (decide_eq_true (Int.le_sub_left_of_add_le hdue))

theorem headDue_none {m : Mgr} {now : Int} (h : m.headDue now = none) :
    m.lst = [] ∨ ∃ i rest, m.lst = i :: rest ∧ now < (m.tm i).finish := by
  cases hl : m.lst with
  | nil => exact Or.inl rfl
  | cons j rest =>
    exact Or.inr ⟨j, rest, rfl, Int.not_le.mp fun hle => nomatch h.symm.trans (headDue_of_cons hl hle)⟩

theorem none_due {m : Mgr} {now : Int} (hm : WF m) (h : m.headDue now = none) :
    ∀ i ∈ m.lst, now < (m.tm i).finish := by
  rcases headDue_none h with e | ⟨j, rest, hl, hlt⟩
  · exact fun i hi => nomatch e ▸ hi
  · exact fun i hi => Int.lt_of_lt_of_le hlt (Sorted.head_le (hl ▸ hm.sorted) i (hl ▸ hi))

@[simp] theorem shift_interval (t : Timer) : t.shift.interval = t.interval := rfl
@[simp] theorem shift_finish (t : Timer) : t.shift.finish = t.finish + t.interval := by
  simp [Timer.shift, Timer.finish]

theorem rearm_not_mem (m1 : Mgr) (i : Nat) (t0 : Timer) (h : i ∉ m1.lst) : rearm m1 i t0 = m1 := by
  simp [rearm, h]

theorem rearm_same (m1 : Mgr) (i : Nat) (t0 : Timer) (h : i ∈ m1.lst) (he : m1.tm i = t0) :
    rearm m1 i t0 = ({ m1.unplan i with tm := setTm m1.tm i t0.shift } : Mgr).plan i := by
  simp [rearm, h, he]

theorem rearm_changed (m1 : Mgr) (i : Nat) (t0 : Timer) (h : i ∈ m1.lst) (he : m1.tm i ≠ t0) :
    rearm m1 i t0 = (m1.unplan i).plan i := by
  simp [rearm, h, he]

/-- what the re-arm makes of a planned timer's fields `t`, `t0` being the snapshot from before the callback -/
def Timer.rearmed (t t0 : Timer) : Timer := if t = t0 then t0.shift else t

theorem rearmed_interval (t t0 : Timer) : (t.rearmed t0).interval = t.interval := by
  unfold Timer.rearmed
  split
  · subst_vars; rfl
  · rfl

theorem rearm_mem (m : Mgr) (i : Nat) (t0 : Timer) (h : i ∈ m.lst) :
    rearm m i t0 = m.plan3 i ((m.tm i).rearmed t0).start ((m.tm i).rearmed t0).interval := by
  rw [plan3_eq]
  unfold Timer.rearmed
  by_cases he : m.tm i = t0
  · rw [if_pos he]; exact rearm_same m i t0 h he
  · rw [if_neg he, rearm_changed m i t0 h he, setTm_self]; rfl

theorem mem_rearm (m : Mgr) (i x : Nat) (t0 : Timer) : x ∈ (rearm m i t0).lst ↔ x ∈ m.lst := by
  by_cases hi : i ∈ m.lst
  · rw [rearm_mem m i t0 hi, mem_plan3]
    exact or_iff_right_of_imp fun e => e ▸ hi
  · rw [rearm_not_mem m i t0 hi]

theorem rearm_tm_self (m : Mgr) (i : Nat) (t0 : Timer) (h : i ∈ m.lst) :
    (rearm m i t0).tm i = (m.tm i).rearmed t0 := by
  rw [rearm_mem m i t0 h]; exact setTm_same ..

theorem rearm_other (m1 : Mgr) (j i : Nat) (t0 : Timer) (h : i ≠ j) : (rearm m1 j t0).tm i = m1.tm i := by
  by_cases hj : j ∈ m1.lst
  · rw [rearm_mem m1 j t0 hj]; exact setTm_other _ _ h
  · rw [rearm_not_mem m1 j t0 hj]

theorem execBody_induct {I : Mgr → Prop} {acts : List Action} {i : Nat} {m : Mgr}
    (hu : ∀ m j, Action.unplan j ∈ acts → I m → I (m.unplan j))
    (hp : ∀ m j s iv, Action.plan j s iv ∈ acts → I m → I (m.plan3 j s iv))
    (hr : ∀ m1 : Mgr, i ∈ m1.lst → I m1 →
      I (m1.plan3 i ((m1.tm i).rearmed (m.tm i)).start ((m1.tm i).rearmed (m.tm i)).interval))
    (h : I m) : I (execBody acts m i) := by
  unfold execBody
  by_cases hi : i ∈ (runCb m acts).lst
  · rw [rearm_mem _ i _ hi]; exact hr _ hi (runCb_induct hu hp h)
  · rw [rearm_not_mem _ i _ hi]; exact runCb_induct hu hp h

theorem WF.execBody {m : Mgr} (h : WF m) (acts : List Action) (ha : ActsPos acts) (i : Nat) :
    WF (execBody acts m i) :=
  execBody_induct (fun _ j _ h => h.unplan j) (fun _ j s iv hj h => h.plan3 j s iv (ha j s iv hj))
    (fun _ hi h => h.plan3 i _ _ ((rearmed_interval ..).symm ▸ h.pos i hi)) h

theorem execBody_frame (m : Mgr) (acts : List Action) (i x : Nat) (hi : i ∈ m.lst)
    (hx : x ∈ (execBody acts m i).lst) :
    ((execBody acts m i).tm x = (if x = i then (m.tm x).shift else m.tm x) ∧ x ∈ m.lst) ∨
    ∃ s iv, Action.plan x s iv ∈ acts ∧ (execBody acts m i).tm x = ⟨s, iv⟩ := by
  unfold execBody at hx ⊢
  have hx1 := (mem_rearm _ i x _).mp hx
  by_cases hxi : x = i
  · subst hxi
    rw [rearm_tm_self _ _ _ hx1, if_pos rfl, Timer.rearmed]
    split
    · exact Or.inl ⟨rfl, hi⟩
    · rename_i hne
      exact (runCb_frame m acts x hx1).imp (fun h => absurd h.1 hne) id
  · rw [rearm_other _ i x _ hxi, if_neg hxi]
    exact runCb_frame m acts x hx1

/-! ### the loop as a relation -/

/-- `Steps cb now k m fs m'`: starting with callback number `k` in state `m`, the loop of
`exec(now)` can make the callbacks `fs` (in this order) and be in state `m'` -/
inductive Steps (cb : Cb) (now : Int) : Nat → Mgr → List Fire → Mgr → Prop
  | nil (k : Nat) (m : Mgr) : Steps cb now k m [] m
  | cons {k : Nat} {m m' : Mgr} {i : Nat} {fs : List Fire} (hd : m.headDue now = some i)
      (tl : Steps cb now (k + 1) (execBody (cb k i) m i) fs m') :
      Steps cb now k m (⟨i, (m.tm i).finish⟩ :: fs) m'

theorem execLoop_steps (cb : Cb) (now : Int) (fuel k : Nat) (m : Mgr) :
    Steps cb now k m (execLoop cb now fuel k m).2.1 (execLoop cb now fuel k m).1 := by
  induction fuel generalizing k m with
  | zero => exact Steps.nil k m
  | succ n ih =>
    unfold execLoop
    split
    · exact Steps.nil k m
    · rename_i i hd
      exact Steps.cons hd (ih (k + 1) _)

theorem execLoop_done (cb : Cb) (now : Int) (fuel k : Nat) (m : Mgr)
    (h : (execLoop cb now fuel k m).2.2 = true) : (execLoop cb now fuel k m).1.headDue now = none := by
  induction fuel generalizing k m with
  | zero => simpa [execLoop] using h
  | succ n ih =>
    unfold execLoop at h ⊢
    split
    · assumption
    · rename_i i hd
      simp only [hd] at h
      exact ih (k + 1) _ h

theorem Steps.wf {cb : Cb} {now : Int} {k : Nat} {m m' : Mgr} {fs : List Fire}
    (h : Steps cb now k m fs m') (hcb : CbPos cb) (hm : WF m) : WF m' := by
  induction h with
  | nil => exact hm
  | cons hd _ ih => exact ih (hm.execBody _ (hcb _ _) _)

theorem WF.stepOp {m : Mgr} (hm : WF m) {op : Op} (hop : OpValid op) : WF (stepOp m op).1 := by
  cases op with
  | plan i s iv => exact hm.plan3 i s iv hop
  | unplan i => exact hm.unplan i
  | exec now cb fuel => exact (execLoop_steps cb now fuel 0 m).wf hop hm

theorem runOps_cons_returned {m : Mgr} {op : Op} {ops : List Op} :
    (runOps m (op :: ops)).2.2 = true ↔
      (stepOp m op).2.2 = true ∧ (runOps (stepOp m op).1 ops).2.2 = true :=
  Bool.and_eq_true_iff

theorem Steps.not_early {cb : Cb} {now : Int} {k : Nat} {m m' : Mgr} {fs : List Fire}
    (h : Steps cb now k m fs m') : ∀ f ∈ fs, f.deadline ≤ now := by
  induction h with
  | nil => exact nofun
  | cons hd tl ih =>
    obtain ⟨_, _, hdue⟩ := headDue_some hd
    exact List.forall_mem_cons.mpr ⟨hdue, ih⟩

/-! ### weighted sums over the timer list (termination measure) -/

@[simp] theorem wsum_nil (f : Nat → Nat) : wsum f [] = 0 := rfl
@[simp] theorem wsum_cons (f : Nat → Nat) (x : Nat) (l : List Nat) : wsum f (x :: l) = f x + wsum f l := by
  simp [wsum]

theorem wsum_filter_le (f : Nat → Nat) (p : Nat → Bool) (l : List Nat) : wsum f (l.filter p) ≤ wsum f l := by
  induction l with
  | nil => simp
  | cons x rest ih =>
    simp only [List.filter_cons]
    split <;> simp only [wsum_cons] <;> omega

theorem wsum_perm {f : Nat → Nat} {l l' : List Nat} (h : l.Perm l') : wsum f l = wsum f l' :=
  (h.map f).sum_nat

theorem wsum_filter_ne (f : Nat → Nat) (i : Nat) (l : List Nat) (hn : l.Nodup) (hi : i ∈ l) :
    wsum f (l.filter (· != i)) + f i = wsum f l := by
  induction l with
  | nil => exact nomatch hi
  | cons x rest ih =>
    have hn' := List.nodup_cons.mp hn
    by_cases hx : x = i
    · subst hx
      rw [List.filter_cons_of_neg (by simp), filter_bne_of_not_mem hn'.1, wsum_cons, Nat.add_comm]
    · rw [List.filter_cons_of_pos (by simpa using hx), wsum_cons, wsum_cons, Nat.add_assoc,
        ih hn'.2 ((List.mem_cons.mp hi).resolve_left (Ne.symm hx))]

theorem wsum_le_of_dominated {f g : Nat → Nat} {l' l : List Nat} (hn' : l'.Nodup) (hn : l.Nodup)
    (h : ∀ x ∈ l', g x = 0 ∨ (x ∈ l ∧ g x ≤ f x)) : wsum g l' ≤ wsum f l := by
  induction l' generalizing l with
  | nil => exact Nat.zero_le _
  | cons x r ih =>
    have hx := List.nodup_cons.mp hn'
    rw [wsum_cons]
    rcases h x List.mem_cons_self with h0 | ⟨hxl, hle⟩
    · rw [h0, Nat.zero_add]; exact ih hx.2 hn fun y hy => h y (List.mem_cons_of_mem _ hy)
    · -- take `x` out of both sums
      rw [← wsum_filter_ne f x l hn hxl, Nat.add_comm]
      refine Nat.add_le_add (ih hx.2 (hn.filter _) fun y hy => ?_) hle
      refine (h y (List.mem_cons_of_mem _ hy)).imp_right fun ⟨hyl, e⟩ => ⟨List.mem_filter.mpr ⟨hyl, ?_⟩, e⟩
      exact bne_iff_ne.mpr fun e => hx.1 (e ▸ hy)

/-! ### the termination measure -/

theorem lagSum_unplan_le (now : Int) (m : Mgr) (j : Nat) : lagSum now (m.unplan j) ≤ lagSum now m :=
  wsum_filter_le _ _ _

theorem lagSum_split (now : Int) (m : Mgr) (i : Nat) (hn : m.lst.Nodup) (hi : i ∈ m.lst) :
    lagSum now (m.unplan i) + lag now (m.tm i) = lagSum now m :=
  wsum_filter_ne _ i m.lst hn hi

theorem lag_future {now : Int} {t : Timer} (h : now < t.finish) : lag now t = 0 :=
  Int.toNat_of_nonpos (by omega)

theorem lag_pos {now : Int} {t : Timer} (h : t.finish ≤ now) : 0 < lag now t := by
  unfold lag; omega

theorem lag_shift_lt {now : Int} {t : Timer} (h : t.finish ≤ now) (hp : 0 < t.interval) :
    lag now t.shift < lag now t := by
  unfold lag; rw [shift_finish]; omega

theorem lagSum_plan (now : Int) (m : Mgr) (i : Nat) :
    lagSum now (m.plan i) = lag now (m.tm i) + lagSum now (m.unplan i) :=
  (wsum_perm (insertBefore_perm ..)).trans (wsum_cons ..)

theorem lagSum_execBody (now : Int) (m : Mgr) (i : Nat) (acts : List Action) (hm : WF m)
    (ha : ActsPos acts) (hd : m.headDue now = some i) (hf : ActsFuture now acts) :
    lagSum now (execBody acts m i) < lagSum now m := by
  have hm' := hm.execBody acts ha i
  obtain ⟨rest, hl, hdue⟩ := headDue_some hd
  have hi : i ∈ m.lst := hl ▸ List.mem_cons_self
  -- the other timers: where the callback planned them (lag 0), or as they were
  have hrest : lagSum now ((execBody acts m i).unplan i) ≤ lagSum now (m.unplan i) :=
    wsum_le_of_dominated (hm'.unplan i).nodup (hm.unplan i).nodup fun x hx => by
      obtain ⟨hx', hxi⟩ := (mem_unplan _ i x).mp hx
      rcases execBody_frame m acts i x hi hx' with ⟨e, hxl⟩ | ⟨s, iv, hmem, e⟩
      · exact Or.inr ⟨(mem_unplan m i x).mpr ⟨hxl, hxi⟩, Nat.le_of_eq (congrArg (lag now) (e.trans (if_neg hxi)))⟩
      · exact Or.inl (e ▸ lag_future (hf x s iv hmem))
  rw [← lagSum_split now m i hm.nodup hi]
  by_cases h1 : i ∈ (execBody acts m i).lst
  · -- `i` comes back one period later, or where its callback planned it
    rw [← lagSum_split now _ i hm'.nodup h1]
    refine Nat.add_lt_add_of_le_of_lt hrest ?_
    rcases execBody_frame m acts i i hi h1 with ⟨e, _⟩ | ⟨s, iv, hmem, e⟩
    · rw [e, if_pos rfl]; exact lag_shift_lt hdue (hm.pos i hi)
    · rw [e, lag_future (hf i s iv hmem)]; exact lag_pos hdue
  · rw [← unplan_of_not_mem _ i h1]
    exact Nat.lt_of_le_of_lt hrest (Nat.lt_add_of_pos_right (lag_pos hdue))

/-! ### a run that never ends (callbacks re-planning into the past) -/

theorem execLoop_never (cb : Cb) (now : Int) (I : Nat → Mgr → Prop)
    (step : ∀ k m, I k m → ∃ i, m.headDue now = some i ∧ I (k + 1) (execBody (cb k i) m i))
    (fuel k : Nat) (m : Mgr) (h : I k m) : (execLoop cb now fuel k m).2.2 = false := by
  obtain ⟨i, hd, hI⟩ := step k m h
  induction fuel generalizing k m i with
  | zero => simp only [execLoop, hd]; rfl
  | succ n ih =>
    obtain ⟨i', hd', hI'⟩ := step _ _ hI
    unfold execLoop
    simp only [hd]
    exact ih (k + 1) _ hI i' hd' hI'

theorem pastCb_never (fuel k : Nat) (m : Mgr) (hl : m.lst = [0]) (ht : m.tm 0 = ⟨-(k : Int), 1⟩) :
    (execLoop pastCb 5 fuel k m).2.2 = false := by
  refine execLoop_never pastCb 5 (fun k m => m.lst = [0] ∧ m.tm 0 = ⟨-(k : Int), 1⟩) ?_ fuel k m ⟨hl, ht⟩
  intro k m ⟨hl, ht⟩
  refine ⟨0, headDue_of_cons hl (by rw [ht]; show -(k : Int) + 1 ≤ 5; omega), ?_⟩
  -- the callback moves the only timer to start `-k - 1`; the re-arm keeps what the callback set
  have h1l : (runCb m (pastCb k 0)).lst = [0] := by
    simp [pastCb, runCb, applyAct, Mgr.plan3, Mgr.plan, Mgr.unplan, hl, insertBefore]
  have h1t : (runCb m (pastCb k 0)).tm 0 = ⟨-(k : Int) - 1, 1⟩ := by
    simp [pastCb, runCb, applyAct]
  have hmem : 0 ∈ (runCb m (pastCb k 0)).lst := by rw [h1l]; simp
  have hne : (runCb m (pastCb k 0)).tm 0 ≠ m.tm 0 := by
    rw [h1t, ht]; simp only [ne_eq, Timer.mk.injEq, and_true]; omega
  unfold execBody
  refine ⟨?_, ?_⟩
  · rw [rearm_mem _ 0 _ hmem, plan3_lst]; simp [Mgr.unplan, h1l, insertBefore]
  · rw [rearm_tm_self _ 0 _ hmem, Timer.rearmed, if_neg hne, h1t, Timer.mk.injEq]; omega

/-! ### order of the callbacks inside one exec -/

theorem execBody_lower {m : Mgr} {now : Int} {i : Nat} (acts : List Action) (hm : WF m)
    (hd : m.headDue now = some i) :
    ∀ x ∈ (execBody acts m i).lst,
      (m.tm i).finish ≤ ((execBody acts m i).tm x).finish ∨
      ∃ s iv, Action.plan x s iv ∈ acts ∧ ((execBody acts m i).tm x).finish = s + iv := by
  obtain ⟨rest, hl, _⟩ := headDue_some hd
  have hmin := Sorted.head_le (hl ▸ hm.sorted)
  have hi : i ∈ m.lst := hl ▸ List.mem_cons_self
  intro x hx
  refine (execBody_frame m acts i x hi hx).imp (fun ⟨e, hxl⟩ => ?_) fun ⟨s, iv, hmem, e⟩ => ⟨s, iv, hmem, by rw [e]; rfl⟩
  rw [e]
  split
  · subst_vars; rw [shift_finish]; have := hm.pos x hi; omega
  · exact hmin x (hl ▸ hxl)

theorem Steps.adjacent {cb : Cb} {now : Int} {k : Nat} {m m' : Mgr} {fs : List Fire}
    (h : Steps cb now k m fs m') (hcb : CbPos cb) (hm : WF m) :
    ∀ n f g, fs[n]? = some f → fs[n + 1]? = some g →
      f.deadline ≤ g.deadline ∨
      ∃ s iv, Action.plan g.id s iv ∈ cb (k + n) f.id ∧ g.deadline = s + iv := by
  induction h with
  | nil => exact nofun
  | @cons k m m' i fs hd tl ih =>
    intro n f g h1 h2
    cases n with
    | zero =>
      -- the second callback is the head of the list after the first body: `execBody_lower`
      obtain rfl : _ = f := Option.some.inj h1
      cases tl with
      | nil => exact nomatch h2
      | @cons _ _ _ j _ hd2 _ =>
        obtain rfl : _ = g := Option.some.inj h2
        obtain ⟨rest, hl, _⟩ := headDue_some hd2
        exact execBody_lower (cb k i) hm hd j (hl ▸ List.mem_cons_self)
    | succ n' =>
      have := ih (hm.execBody (cb k i) (hcb k i) i) n' f g h1 h2
      rwa [Nat.add_right_comm, Nat.add_assoc] at this

theorem chain_pairwise (l : List Int)
    (h : ∀ n a b, l[n]? = some a → l[n + 1]? = some b → a ≤ b) : l.Pairwise (· ≤ ·) := by
  induction l with
  | nil => exact List.Pairwise.nil
  | cons x xs ih =>
    have hxs := ih fun n a b h1 h2 => h (n + 1) a b h1 h2
    refine List.pairwise_cons.mpr ⟨fun y hy => ?_, hxs⟩
    cases xs with
    | nil => exact nomatch hy
    | cons z zs =>
      have hxz : x ≤ z := h 0 x z rfl rfl
      rcases List.mem_cons.mp hy with rfl | e
      · exact hxz
      · exact Int.le_trans hxz ((List.pairwise_cons.mp hxs).1 y e)

/-! ### catch-up of a timer no callback touches -/

theorem execBody_untouched_other (m : Mgr) (acts : List Action) (i j : Nat)
    (hu : ∀ a ∈ acts, a.target ≠ i) (hij : i ≠ j) :
    (execBody acts m j).tm i = m.tm i ∧ (i ∈ (execBody acts m j).lst ↔ i ∈ m.lst) := by
  unfold execBody
  have h1 := runCb_untouched m acts i hu
  have h2 := rearm_other (runCb m acts) j i (m.tm j) hij
  exact ⟨h2.trans h1.1, (mem_rearm _ j i _).trans h1.2⟩

theorem execBody_left_alone (m : Mgr) (acts : List Action) (i : Nat)
    (hpl : i ∈ (runCb m acts).lst) (hsame : (runCb m acts).tm i = m.tm i) :
    (execBody acts m i).tm i = (m.tm i).shift ∧ i ∈ (execBody acts m i).lst := by
  unfold execBody
  exact ⟨(rearm_tm_self _ i _ hpl).trans (if_pos hsame), (mem_rearm ..).mpr hpl⟩

theorem execBody_untouched_self (m : Mgr) (acts : List Action) (i : Nat)
    (hu : ∀ a ∈ acts, a.target ≠ i) (hi : i ∈ m.lst) :
    (execBody acts m i).tm i = (m.tm i).shift ∧ i ∈ (execBody acts m i).lst :=
  have h1 := runCb_untouched m acts i hu
  execBody_left_alone m acts i (h1.2.mpr hi) h1.1

theorem range_map_add (n1 n2 : Nat) (f d : Int) :
    (List.range (n1 + n2)).map (fun (q : Nat) => f + (q : Int) * d) =
      (List.range n1).map (fun (q : Nat) => f + (q : Int) * d) ++
      (List.range n2).map (fun (q : Nat) => (f + (n1 : Int) * d) + (q : Int) * d) := by
  rw [List.range_add, List.map_append, List.map_map]
  refine congrArg _ (List.map_congr_left fun q _ => ?_)
  show f + ((n1 + q : Nat) : Int) * d = _
  rw [Int.natCast_add, Int.add_mul, Int.add_assoc]

theorem Steps.catch_up {cb : Cb} {now : Int} {k : Nat} {m m' : Mgr} {fs : List Fire}
    (h : Steps cb now k m fs m') (i : Nat) (hu : Untouched cb i) (hi : i ∈ m.lst) :
    ∃ n : Nat,
      (fs.filter (fun f => f.id = i)).map (·.deadline) =
        (List.range n).map (fun (q : Nat) => (m.tm i).finish + (q : Int) * (m.tm i).interval) ∧
      m'.tm i = ⟨(m.tm i).start + (n : Int) * (m.tm i).interval, (m.tm i).interval⟩ ∧ i ∈ m'.lst := by
  induction h with
  | nil k m => exact ⟨0, rfl, by simp, hi⟩
  | @cons k m m' j fs hd tl ih =>
    by_cases hji : j = i
    · -- `i` fires and is shifted by one interval: one more firing in front
      subst hji
      have hb := execBody_untouched_self m (cb k j) j (hu k j) hi
      obtain ⟨n, h1, h2, h3⟩ := ih hb.2
      rw [hb.1] at h1 h2
      refine ⟨1 + n, ?_, ?_, h3⟩
      · rw [List.filter_cons_of_pos (by simp), List.map_cons, h1, range_map_add]
        simp [Timer.shift, Timer.finish, Int.add_assoc]
      · rw [h2, Int.natCast_add, Int.add_mul]
        simp [Timer.shift, Int.add_assoc]
    · have hb := execBody_untouched_other m (cb k j) i j (hu k j) (Ne.symm hji)
      obtain ⟨n, h1, h2, h3⟩ := ih (hb.2.mpr hi)
      rw [hb.1] at h1 h2
      exact ⟨n, by rw [List.filter_cons_of_neg (by simpa using hji)]; exact h1, h2, h3⟩

/-- a periodic timer went from `t` to `t'`, firing at the deadlines `ds`, while `exec` was called at
the times `ts` -/
def Periodic (t : Timer) (ds : List Int) (t' : Timer) (ts : List Int) : Prop :=
  ∃ n : Nat,
    ds = (List.range n).map (fun (q : Nat) => t.finish + (q : Int) * t.interval) ∧
    t' = ⟨t.start + (n : Int) * t.interval, t.interval⟩ ∧
    (∀ x ∈ ts, x < t.finish + (n : Int) * t.interval) ∧
    (0 < n → ∃ x ∈ ts, t.finish + ((n : Int) - 1) * t.interval ≤ x)

theorem Periodic.nil (t : Timer) : Periodic t [] t [] :=
  ⟨0, rfl, by simp, nofun, nofun⟩

theorem Periodic.append {t t1 t2 : Timer} {ds1 ds2 ts1 ts2 : List Int} (hpos : 0 < t.interval)
    (h1 : Periodic t ds1 t1 ts1) (h2 : Periodic t1 ds2 t2 ts2) :
    Periodic t (ds1 ++ ds2) t2 (ts1 ++ ts2) := by
  obtain ⟨n1, c1, rfl, c4, c5⟩ := h1
  obtain ⟨n2, d1, d2, d4, d5⟩ := h2
  have hf : (⟨t.start + (n1 : Int) * t.interval, t.interval⟩ : Timer).finish =
      t.finish + (n1 : Int) * t.interval := Int.add_right_comm ..
  rw [hf] at d1 d4 d5
  dsimp only at d1 d2 d4 d5
  have hn2 : (0 : Int) ≤ (n2 : Int) * t.interval :=
    Int.mul_nonneg (Int.natCast_nonneg n2) (Int.le_of_lt hpos)
  have hadd : ∀ x : Int, x + ((n1 + n2 : Nat) : Int) * t.interval =
      x + (n1 : Int) * t.interval + (n2 : Int) * t.interval :=
    fun x => by rw [Int.natCast_add, Int.add_mul, Int.add_assoc]
  refine ⟨n1 + n2, by rw [c1, d1, range_map_add], d2.trans (congrArg (Timer.mk · _) (hadd _).symm), ?_,
    fun hn => ?_⟩
  · rw [hadd]
    intro x hx
    rcases List.mem_append.mp hx with e | e
    · exact Int.lt_of_lt_of_le (c4 x e) (Int.le_add_of_nonneg_right hn2)
    · exact d4 x e
  · by_cases hn2' : 0 < n2
    · obtain ⟨x, hx, hle⟩ := d5 hn2'
      exact ⟨x, List.mem_append_right _ hx,
        by rwa [Int.natCast_add, Int.add_sub_assoc, Int.add_mul, ← Int.add_assoc]⟩
    · obtain rfl : n2 = 0 := Nat.eq_zero_of_not_pos hn2'
      obtain ⟨x, hx, hle⟩ := c5 hn
      exact ⟨x, List.mem_append_left _ hx, hle⟩

/-! ### timers that are not planned -/

theorem Steps.not_mem {cb : Cb} {now : Int} {k : Nat} {m m' : Mgr} {fs : List Fire}
    (h : Steps cb now k m fs m') (i : Nat) (hnp : ∀ k x s iv, Action.plan i s iv ∉ cb k x)
    (hi : i ∉ m.lst) : (∀ f ∈ fs, f.id ≠ i) ∧ i ∉ m'.lst := by
  induction h with
  | nil => exact ⟨nofun, hi⟩
  | @cons k m m' j fs hd tl ih =>
    obtain ⟨rest, hl, _⟩ := headDue_some hd
    -- the head is linked, so it is not `i`; neither its callback nor its re-arm links `i`
    have hji : i ≠ j := fun e => hi (e ▸ hl ▸ List.mem_cons_self)
    obtain ⟨h3, h4⟩ := ih <| execBody_induct (I := fun m' => i ∉ m'.lst)
      (fun m' j' _ h hx => h ((mem_unplan m' j' i).mp hx).1)
      (fun m' j' s iv hj h hx => ((mem_plan3 m' j' i s iv).mp hx).elim (fun e => hnp k j s iv (e ▸ hj)) h)
      (fun m' _ h hx => ((mem_plan3 m' j i _ _).mp hx).elim hji h) hi
    exact ⟨List.forall_mem_cons.mpr ⟨Ne.symm hji, h3⟩, h4⟩

end Igris.C16
