/-
  C08 — the loops that write.  memset and the word stores write a run of bytes (`stored`); memcpy's loops keep
  the invariant `CopiedFwd` (overlap with `dst ≤ src` allowed), memmove's backward loop is taken from the right end; the
  string copies (strcpy, strncpy, strlcpy, strcat, strncat) and strlwr/strupr copy byte by byte until a NUL or a
  bound and share `copy_advance`, the writing counterpart of `advance`.
-/
import IgrisModel.C08.Scan
namespace Igris.C08
open Igris.Proto

/-! ## memset, word load and store -/

theorem storeL_eq (w : List Byte) (m : Mem) (a : Nat) (h : Mapped m a w.length) :
    storeL w m a = some (stored m a w) := by
  induction w generalizing m a with
  | nil => rfl
  | cons b w ih =>
    rw [List.length_cons, mapped_succ] at h
    rw [storeL, wr_bind h.1, ih _ _ (mapped_upd h.2)]; rfl

theorem memsetLoop_eq_storeL (v : Byte) : ∀ n m p, memsetLoop v n m p = storeL (List.replicate n v) m p
  | 0, _, _ => rfl
  | n + 1, m, p => by simp only [memsetLoop, List.replicate_succ, storeL, memsetLoop_eq_storeL v n]

theorem memsetLoop_eq (v : Byte) (n : Nat) (m : Mem) (p : Nat) (h : Mapped m p n) :
    memsetLoop v n m p = some (stored m p (List.replicate n v)) :=
  (memsetLoop_eq_storeL v n m p).trans (storeL_eq _ m p (by rwa [List.length_replicate]))

theorem loadN_spec (m : Mem) (c a : Nat) (h : Mapped m a c) :
    ∃ w, loadN m c a = some w ∧ w.length = c ∧ ∀ i, i < c → w[i]? = m (a + i) := by
  induction c generalizing a with
  | zero => exact ⟨[], rfl, rfl, fun i hi => by omega⟩
  | succ c ih =>
    rw [mapped_succ] at h
    obtain ⟨w, e, hl, hw⟩ := ih (a + 1) h.2
    obtain ⟨b, hb⟩ := Option.isSome_iff_exists.mp h.1
    refine ⟨b :: w, by simp [loadN, hb, e], by simp [hl], ?_⟩
    intro i hi
    cases i with
    | zero => simp [hb]
    | succ i =>
      have := hw i (by omega)
      simp only [List.getElem?_cons_succ, this]
      congr 1; omega

/-! ## forward copy (memcpy) -/

/-- the invariant of memcpy's loops after `k` bytes, against the initial memory `m0`: by the second clause the source bytes
not yet copied are intact when `d ≤ s` or the ranges are disjoint -/
def CopiedFwd (m0 m : Mem) (d s k : Nat) : Prop :=
  (∀ i, i < k → m (d + i) = m0 (s + i)) ∧ (∀ j, ¬(d ≤ j ∧ j < d + k) → m j = m0 j)

theorem CopiedFwd.zero (m0 : Mem) (d s : Nat) : CopiedFwd m0 m0 d s 0 :=
  ⟨fun i hi => by omega, fun _ _ => rfl⟩

theorem CopiedFwd.holds {m0 m' : Mem} {d s : Nat} {src : List Byte} (h : CopiedFwd m0 m' d s src.length)
    (hs : Holds m0 s src) : Holds m' d src := by
  intro i hi; rw [h.1 i hi]; exact hs i hi

/-- the chunk of `c` bytes is all loaded first, then all stored, as a word copy does -/
theorem copyChunk_fwd {m0 m : Mem} {d s n k : Nat} (c : Nat) (hov : d ≤ s ∨ s + n ≤ d)
    (hms : Mapped m0 s n) (hmd : Mapped m0 d n) (inv : CopiedFwd m0 m d s k) (hk : k + c ≤ n) :
    ∃ w m', loadN m c (s + k) = some w ∧ storeL w m (d + k) = some m' ∧ CopiedFwd m0 m' d s (k + c) := by
  have hsrc : ∀ i, i < c → m (s + k + i) = m0 (s + k + i) := by
    intro i hi; apply inv.2; omega
  have hmap : Mapped m (s + k) c := by
    intro i hi; rw [hsrc i hi]
    have := hms (k + i) (by omega); rwa [← Nat.add_assoc] at this
  obtain ⟨w, e, hl, hw⟩ := loadN_spec m c (s + k) hmap
  have hmapd : Mapped m (d + k) w.length := by
    intro i hi; rw [hl] at hi
    rw [inv.2 (d + k + i) (by omega)]
    have := hmd (k + i) (by omega); rwa [← Nat.add_assoc] at this
  have hh := holds_stored m (d + k) w
  have ho := sameOutside_stored m (d + k) w
  refine ⟨w, _, e, storeL_eq w m (d + k) hmapd, ?_, ?_⟩
  · intro i hi
    by_cases hik : i < k
    · rw [ho (d + i) (by omega)]; exact inv.1 i hik
    · have h1 := hh (i - k) (by omega)
      have e1 : d + k + (i - k) = d + i := by omega
      rw [e1] at h1
      rw [h1, hw (i - k) (by omega), hsrc (i - k) (by omega)]
      congr 1; omega
  · intro j hj
    rw [ho j (by omega)]; apply inv.2; omega

theorem copyWord_fwd {m0 m : Mem} {d s n k : Nat} (hov : d ≤ s ∨ s + n ≤ d)
    (hms : Mapped m0 s n) (hmd : Mapped m0 d n) (inv : CopiedFwd m0 m d s k) (hk : k + 8 ≤ n) :
    ∃ m', copyWord m (d + k) (s + k) = some m' ∧ CopiedFwd m0 m' d s (k + 8) := by
  obtain ⟨w, m', e, e', h⟩ := copyChunk_fwd 8 hov hms hmd inv hk
  exact ⟨m', by simp [copyWord, BLOCK_SZ, e, e'], h⟩

theorem memcpyBytes_succ (n : Nat) (m : Mem) (d s : Nat) :
    memcpyBytes (n + 1) m d s =
      loadN m 1 s >>= fun w => storeL w m d >>= fun m' => memcpyBytes n m' (d + 1) (s + 1) := by
  simp only [memcpyBytes, loadN, storeL, bind_assoc, pure_bind]
  rfl

theorem memcpyBytes_fwd {m0 : Mem} {d s n : Nat} (hov : d ≤ s ∨ s + n ≤ d)
    (hms : Mapped m0 s n) (hmd : Mapped m0 d n) (r : Nat) (m : Mem) (k : Nat)
    (inv : CopiedFwd m0 m d s k) (hk : k + r = n) :
    ∃ m', memcpyBytes r m (d + k) (s + k) = some m' ∧ CopiedFwd m0 m' d s n := by
  induction r generalizing m k with
  | zero => exact ⟨m, rfl, by rw [← hk]; exact inv⟩
  | succ r ih =>
    obtain ⟨w, m1, e, e', inv1⟩ := copyChunk_fwd 1 hov hms hmd inv (by omega)
    obtain ⟨m', e2, h⟩ := ih m1 (k + 1) inv1 (by omega)
    exact ⟨m', by rw [memcpyBytes_succ, e, some_bind, e', some_bind, Nat.add_assoc, Nat.add_assoc]; exact e2, h⟩

theorem memcpyLoop4_fwd {m0 : Mem} {d s n : Nat} (hov : d ≤ s ∨ s + n ≤ d)
    (hms : Mapped m0 s n) (hmd : Mapped m0 d n) (fuel : Nat) (m : Mem) (r k : Nat)
    (inv : CopiedFwd m0 m d s k) (hk : k + r = n) (hf : r < fuel) :
    ∃ m' r' k', memcpyLoop4 fuel m r (d + k) (s + k) = some (m', r', d + k', s + k') ∧
      CopiedFwd m0 m' d s k' ∧ k' + r' = n ∧ r' < 32 := by
  induction fuel generalizing m r k with
  | zero => omega
  | succ f ih =>
    by_cases h32 : r ≥ 32
    · obtain ⟨m1, e1, i1⟩ := copyWord_fwd hov hms hmd inv (by omega)
      obtain ⟨m2, e2, i2⟩ := copyWord_fwd hov hms hmd i1 (by omega)
      obtain ⟨m3, e3, i3⟩ := copyWord_fwd hov hms hmd i2 (by omega)
      obtain ⟨m4, e4, i4⟩ := copyWord_fwd hov hms hmd i3 (by omega)
      obtain ⟨m', r', k', e, h⟩ := ih m4 (r - 32) (k + 8 + 8 + 8 + 8) i4 (by omega) (by omega)
      refine ⟨m', r', k', ?_, h⟩
      simp only [Nat.add_assoc] at e1 e2 e3 e4 e
      simp [memcpyLoop4, BLOCK_SZ, h32, e1, e2, e3, e4, Nat.add_assoc, e]
    · exact ⟨m, r, k, by simp [memcpyLoop4, BLOCK_SZ, h32], inv, hk, by omega⟩

theorem memcpyLoop1_fwd {m0 : Mem} {d s n : Nat} (hov : d ≤ s ∨ s + n ≤ d)
    (hms : Mapped m0 s n) (hmd : Mapped m0 d n) (fuel : Nat) (m : Mem) (r k : Nat)
    (inv : CopiedFwd m0 m d s k) (hk : k + r = n) (hf : r < fuel) :
    ∃ m' r' k', memcpyLoop1 fuel m r (d + k) (s + k) = some (m', r', d + k', s + k') ∧
      CopiedFwd m0 m' d s k' ∧ k' + r' = n ∧ r' < 8 := by
  induction fuel generalizing m r k with
  | zero => omega
  | succ f ih =>
    by_cases h8 : r ≥ 8
    · obtain ⟨m1, e1, i1⟩ := copyWord_fwd hov hms hmd inv (by omega)
      obtain ⟨m', r', k', e, h⟩ := ih m1 (r - 8) (k + 8) i1 (by omega) (by omega)
      refine ⟨m', r', k', ?_, h⟩
      simp [memcpyLoop1, BLOCK_SZ, h8, e1, Nat.add_assoc, e]
    · exact ⟨m, r, k, by simp [memcpyLoop1, BLOCK_SZ, h8], inv, hk, by omega⟩

/-- memcpy copies correctly whenever the destination does not start inside the
source above its beginning: disjoint ranges (ISO C) **and** `d ≤ s` with any
overlap (what memmove relies on) -/
theorem memcpy_fwd (m0 : Mem) (d s n : Nat) (hov : d ≤ s ∨ s + n ≤ d)
    (hms : Mapped m0 s n) (hmd : Mapped m0 d n) :
    ∃ m', memcpy m0 d s n = some (m', d) ∧ CopiedFwd m0 m' d s n := by
  unfold memcpy
  split
  · obtain ⟨m1, r1, k1, e1, i1, hk1, _⟩ :=
      memcpyLoop4_fwd hov hms hmd (n + 1) m0 n 0 (CopiedFwd.zero m0 d s) (by omega) (by omega)
    obtain ⟨m2, r2, k2, e2, i2, hk2, _⟩ :=
      memcpyLoop1_fwd hov hms hmd (r1 + 1) m1 r1 k1 i1 hk1 (by omega)
    obtain ⟨m3, e3, i3⟩ := memcpyBytes_fwd hov hms hmd r2 m2 k2 i2 hk2
    simp only [Nat.add_zero] at e1
    exact ⟨m3, by simp [e1, e2, e3], i3⟩
  · obtain ⟨m3, e3, i3⟩ := memcpyBytes_fwd hov hms hmd n m0 0 (CopiedFwd.zero m0 d s) (by omega)
    simp only [Nat.add_zero] at e3
    exact ⟨m3, by simp [e3], i3⟩

theorem memcpy_fwd_spec (m : Mem) (dst src : Nat) (data : List Byte) (hs : Holds m src data)
    (hd : Mapped m dst data.length) (hov : dst ≤ src ∨ src + data.length ≤ dst) :
    ∃ m', memcpy m dst src data.length = some (m', dst) ∧ Holds m' dst data ∧
      SameOutside m m' dst data.length := by
  obtain ⟨m', e, h⟩ := memcpy_fwd m dst src data.length hov hs.mapped hd
  exact ⟨m', e, h.holds hs, h.2⟩

theorem strndup_copy (malloc : Alloc) (m m1 : Mem) (s ret : Nat) (p : List Byte) (size : Nat)
    (hlen : strnlen m s size = some p.length) (h : Holds m s p)
    (hal : malloc m (p.length + 1) = some (m1, ret)) (hok : AllocOk m m1 ret (p.length + 1))
    (hdis : ret + (p.length + 1) ≤ s ∨ s + p.length ≤ ret) :
    ∃ m', strndup malloc m s size = some (m', some ret) ∧ Holds m' ret (p ++ [0#8]) ∧
      SameOutside m1 m' ret (p.length + 1) := by
  have h1 : Holds m1 s p := holds_of_sameOutside h hok.2 (by omega)
  obtain ⟨m2, e2, hh, ho⟩ := memcpy_fwd_spec m1 ret s p h1 (fun i hi => hok.1 i (by omega)) (by omega)
  have hmap : (m2 (ret + p.length)).isSome := by
    rw [ho _ (by omega)]; exact hok.1 _ (by omega)
  refine ⟨upd m2 (ret + p.length) 0#8, ?_, ?_, ?_⟩
  · simp only [strndup, hlen, bind, Option.bind, hal, e2, BitVec.ofNat_eq_ofNat, wr_upd hmap]
    rfl
  · rw [holds_snoc]
    exact ⟨holds_upd_outside _ hh (by omega), upd_same _ _ _⟩
  · intro j hj; rw [upd_other _ _ (by omega)]; exact ho j (by omega)

/-! ## backward copy (memmove) -/

/-- `while (n--) *--dst = *--src;` with the source not above the destination: what is overwritten has been read -/
theorem memmoveBack_eq (p : List Byte) (m : Mem) (d s : Nat) (hs : Holds m s p) (hd : Mapped m d p.length)
    (hsd : s ≤ d) : memmoveBack p.length m (d + p.length) (s + p.length) = some (stored m d p) := by
  obtain ⟨n, hn⟩ : ∃ n, p.length = n := ⟨_, rfl⟩
  induction n generalizing p m with
  | zero => rw [List.eq_nil_of_length_eq_zero hn]; rfl
  | succ n ih =>
    rcases List.eq_nil_or_concat p with rfl | ⟨q, b, rfl⟩
    · cases hn
    · rw [List.concat_eq_append] at hs hd hn ⊢
      rw [List.length_append, List.length_singleton] at hd hn ⊢
      rw [holds_snoc] at hs
      have := ih q (upd m (d + q.length) b) (holds_upd_outside b hs.1 (by omega))
        (mapped_upd (fun i hi => hd i (by omega))) (by omega)
      rw [← Nat.add_assoc, ← Nat.add_assoc, memmoveBack, Nat.add_sub_cancel, Nat.add_sub_cancel, rd_bind hs.2,
        wr_bind (hd _ (by omega)), this, stored_upd_comm b (by omega), stored_snoc]

/-! ## byte-by-byte copies that stop at a NUL or a bound -/

/-- `L fuel k m'` is a copying loop with `fuel` left, `k` bytes beyond source `s` and destination `d`, on the
memory `m'` it has produced so far.  The destination may overlap the source from below (`d ≤ s`: what is
overwritten has been read), as in `memcpy`; `d = s` is an update in place. -/
theorem copy_advance {α : Type} {g : Byte → Byte} {p : List Byte} (h0 : 0#8 ∉ p) :
    ∀ {m : Mem} {d s : Ptr} (L : Nat → Nat → Mem → Option α)
      (_ : ∀ f k m' b, m' (s + k) = some b → b ≠ 0 → (m' (d + k)).isSome →
        L (f + 1) k m' = L f (k + 1) (upd m' (d + k) (g b)))
      (_ : Holds m s p) (_ : Mapped m d p.length) (_ : d ≤ s ∨ s + p.length ≤ d) (f : Nat),
      L (f + p.length) 0 m = L f p.length (stored m d (p.map g)) := by
  induction p with
  | nil => intros; rfl
  | cons b p ih =>
    intro m d s L step hs hd hov f
    rw [holds_cons] at hs
    rw [List.length_cons, mapped_succ] at hd
    rw [List.mem_cons, not_or] at h0
    rw [List.length_cons] at hov
    have := ih h0.2 (m := upd m d (g b)) (d := d + 1) (s := s + 1) (fun f k m' => L f (k + 1) m')
      (fun f k m' b hb hPb hm => by
        have := step f (k + 1) m' b (by rwa [Nat.add_assoc, Nat.add_comm 1] at hb) hPb
          (by rwa [Nat.add_assoc, Nat.add_comm 1] at hm)
        rwa [← Nat.add_assoc d, Nat.add_right_comm d] at this)
      (holds_upd_outside _ hs.2 (by omega)) (mapped_upd hd.2) (by omega) f
    exact (step _ 0 m b hs.1 (Ne.symm h0.1) hd.1).trans this

theorem strcpyLoop_eq (l : List Byte) (m : Mem) (d s fuel : Nat) (hs : CStr m s l)
    (hd : Mapped m d (l.length + 1)) (hdis : Disjoint d (l.length + 1) s (l.length + 1))
    (hf : l.length < fuel) : strcpyLoop fuel m d s = some (stored m d (l ++ [0#8])) := by
  obtain ⟨f, rfl⟩ := fuel_split hf
  unfold Disjoint at hdis
  have run := copy_advance (g := id) hs.2 (fun f k m' => strcpyLoop f m' (d + k) (s + k))
    (fun f k m' b hb hP hm => by
      rw [strcpyLoop, rd_bind hb, wr_bind hm, if_pos hP, Nat.add_assoc, Nat.add_assoc]; rfl)
    hs.holds (fun i hi => hd i (by omega)) (by omega) (f + 1)
  rw [List.map_id] at run
  have hnul : stored m d l (s + l.length) = some 0#8 := by rw [stored_outside (by omega)]; exact hs.nul
  have hmap : (stored m d l (d + l.length)).isSome := by rw [stored_outside (by omega)]; exact hd _ (by omega)
  refine run.trans ?_
  rw [strcpyLoop, rd_bind hnul, wr_bind hmap, if_neg (fun h => h rfl), stored_snoc]; rfl

theorem strncpyLoop_long (p : List Byte) (m : Mem) (d s : Nat) (hs : Holds m s p) (h0 : 0#8 ∉ p)
    (hd : Mapped m d p.length) (hdis : Disjoint d p.length s p.length) :
    strncpyLoop p.length m d s = some (stored m d p) := by
  unfold Disjoint at hdis
  have run := copy_advance (g := id) h0
    (fun f k m' => strncpyLoop f m' (d + k) (s + k))
    (fun f k m' b hb hP hm => by
      rw [strncpyLoop, rd_bind hb, wr_bind hm, if_pos hP, Nat.add_assoc, Nat.add_assoc]; rfl)
    hs hd (by omega) 0
  rw [List.map_id, Nat.zero_add] at run
  exact run

theorem strncpyLoop_short (l : List Byte) (m : Mem) (d s n : Nat) (hs : CStr m s l) (hn : l.length < n)
    (hd : Mapped m d n) (hdis : Disjoint d n s (l.length + 1)) :
    strncpyLoop n m d s = some (stored m d (l ++ List.replicate (n - l.length) 0#8)) := by
  obtain ⟨f, rfl⟩ := fuel_split hn
  unfold Disjoint at hdis
  have run := copy_advance (g := id) hs.2 (fun f k m' => strncpyLoop f m' (d + k) (s + k))
    (fun f k m' b hb hP hm => by
      rw [strncpyLoop, rd_bind hb, wr_bind hm, if_pos hP, Nat.add_assoc, Nat.add_assoc]; rfl)
    hs.holds (fun i hi => hd i (by omega)) (by omega) (f + 1)
  rw [List.map_id] at run
  have hnul : stored m d l (s + l.length) = some 0#8 := by rw [stored_outside (by omega)]; exact hs.nul
  have hmap : (stored m d l (d + l.length)).isSome := by rw [stored_outside (by omega)]; exact hd _ (by omega)
  have hpad : Mapped (upd (stored m d l) (d + l.length) 0#8) (d + l.length + 1) f :=
    mapped_upd (mapped_stored (fun i hi => by rw [Nat.add_assoc, Nat.add_assoc]; exact hd _ (by omega)))
  refine run.trans ?_
  rw [strncpyLoop, rd_bind hnul, wr_bind hmap, if_neg (fun h => h rfl), memsetLoop_eq _ _ _ _ hpad, Nat.add_sub_cancel,
    List.replicate_succ, ← List.singleton_append, ← List.append_assoc, stored_append, stored_snoc,
    List.length_append, List.length_singleton, Nat.add_assoc]
  rfl

theorem strlcpyLoop_run {p : List Byte} {m : Mem} {d s : Nat} (hs : Holds m s p) (h0 : 0#8 ∉ p)
    (hd : Mapped m d p.length) (hov : d ≤ s ∨ s + p.length ≤ d) (f : Nat) :
    strlcpyLoop (f + p.length + 1) m d s = strlcpyLoop (f + 1) (stored m d p) (d + p.length) (s + p.length) := by
  have run := copy_advance (g := id) h0
    (fun f k m' => strlcpyLoop (f + 1) m' (d + k) (s + k))
    (fun f k m' b hb hP hm => by
      rw [strlcpyLoop, rd_bind hb, if_neg hP, wr_bind hm, Nat.add_assoc, Nat.add_assoc]; rfl)
    hs hd hov f
  rwa [List.map_id] at run

theorem strlcpyLoop_eq (l : List Byte) (m : Mem) (d s n : Nat) (hs : CStr m s l) (hn : 0 < n)
    (hd : Mapped m d (min l.length (n - 1)))
    (hdis : Disjoint d (min l.length (n - 1)) s (l.length + 1)) :
    strlcpyLoop n m d s =
      some (stored m d (l.take (n - 1)), d + min l.length (n - 1), s + min l.length (n - 1)) := by
  obtain ⟨n, rfl⟩ : ∃ k, n = k + 1 := ⟨n - 1, by omega⟩
  rw [Nat.add_sub_cancel] at hd hdis ⊢
  unfold Disjoint at hdis
  by_cases hln : l.length ≤ n
  · -- the whole string fits: the loop stops at the terminator, or `n` is used up exactly there
    obtain ⟨f, rfl⟩ := Nat.exists_eq_add_of_le' hln
    rw [Nat.min_eq_left hln] at hd hdis ⊢
    rw [List.take_of_length_le hln, strlcpyLoop_run hs.holds hs.2 hd (by omega)]
    cases f with
    | zero => rfl
    | succ f => rw [strlcpyLoop, rd_bind (by rw [stored_outside (by omega)]; exact hs.nul)]; rfl
  · have hlen : (l.take n).length = n := by rw [List.length_take]; omega
    rw [Nat.min_eq_right (by omega)] at hd hdis ⊢
    have := strlcpyLoop_run (hs.holds.take n) (fun e => hs.2 (List.mem_of_mem_take e))
      (by rwa [hlen]) (by omega) 0
    rw [hlen, Nat.zero_add] at this
    rw [this]; rfl

/-- `do { c = *s2++; *++s1 = c; } while (c);` is strcpy's loop with the destination pointer one behind (`*++s1` for `*cp++`) -/
theorem strcatCopy_eq_strcpyLoop : ∀ f m s1 s2, strcatCopy f m s1 s2 = strcpyLoop f m (s1 + 1) s2
  | 0, _, _, _ => rfl
  | f + 1, m, s1, s2 => by simp only [strcatCopy, strcpyLoop, strcatCopy_eq_strcpyLoop f]

theorem catStep_eq {m : Mem} {s1 s2 : Nat} {b : Byte} (hb : m s2 = some b) (hm : (m (s1 + 1)).isSome) :
    catStep m s1 s2 = some (upd m (s1 + 1) b, b) := by
  rw [catStep, rd_bind hb, wr_bind hm]; rfl

/-! the 4× unrolled loop is the simple loop, for all arguments (faults included) -/

/-- Both sides are the same four steps: with the binds reassociated and the continuation taken into the early returns
(`ite_bind`) they agree up to `rfl`. -/
theorem tail_unroll4 (n : Nat) (m : Mem) (s1 s2 : Nat) (c0 : Byte) :
    strncatTail (n + 4) m s1 s2 c0 =
      cat4Body m s1 s2 >>= fun r =>
        match r.2 with
        | none => some r.1
        | some c => strncatTail n r.1 (s1 + 4) (s2 + 4) c := by
  simp only [strncatTail, cat4Body, bind_assoc, ite_bind, pure_bind, Nat.add_assoc]
  rfl

theorem strncat4_eq_tail (k r : Nat) (m : Mem) (s1 s2 : Nat) (c0 : Byte) :
    strncatTail (4 * (k + 1) + r) m s1 s2 c0 =
      (strncat4 k m s1 s2).bind fun x =>
        match x.2 with
        | none => some x.1
        | some (s1', s2', c) => strncatTail r x.1 s1' s2' c := by
  show _ = strncat4 k m s1 s2 >>= _
  induction k generalizing m s1 s2 c0 with
  | zero =>
    rw [show 4 * (0 + 1) + r = r + 4 by omega, tail_unroll4]
    simp only [strncat4, bind_assoc]
    refine bind_congr fun x => ?_
    obtain ⟨m', res⟩ := x
    cases res <;> rfl
  | succ k ih =>
    rw [show 4 * (k + 1 + 1) + r = (4 * (k + 1) + r) + 4 by omega, tail_unroll4]
    simp only [strncat4, bind_assoc]
    refine bind_congr fun x => ?_
    obtain ⟨m', res⟩ := x
    cases res with
    | none => rfl
    | some c => exact ih ..

theorem strncat_eq (m : Mem) (s1 s2 n fuel : Nat) :
    strncat m s1 s2 n fuel =
      scanNul m fuel s1 >>= fun e => strncatTail n m (e - 2) s2 0 >>= fun m' => pure (m', s1) := by
  unfold strncat
  refine bind_congr fun e => ?_
  split
  · have hn : n = 4 * (n / 4 - 1 + 1) + n % 4 := by omega
    conv => rhs; rw [hn, strncat4_eq_tail]
    show _ = (strncat4 (n / 4 - 1) m (e - 2) s2 >>= _) >>= _
    rw [bind_assoc]
    refine bind_congr fun x => ?_
    obtain ⟨m', res⟩ := x
    cases res <;> rfl
  · rfl

/-- the last character is only looked at to see whether a terminator is still owed -/
theorem strncatTail_nz (n : Nat) (m : Mem) (s1 s2 : Nat) {c c' : Byte} (hc : c ≠ 0) (hc' : c' ≠ 0) :
    strncatTail n m s1 s2 c = strncatTail n m s1 s2 c' := by
  cases n with
  | zero => rw [strncatTail, strncatTail, if_pos hc, if_pos hc']
  | succ n => rfl

theorem strncatTail_eq (c : List Byte) (n : Nat) (m : Mem) (s1 s2 : Nat) (c0 : Byte)
    (hs : Holds m s2 c) (h0 : 0#8 ∉ c) (hn : c.length ≤ n)
    (hend : c.length < n → m (s2 + c.length) = some 0#8)
    (hc0 : c0 ≠ 0#8 ∨ m (s1 + 1) = some 0#8)
    (hd : Mapped m (s1 + 1) (c.length + 1)) (hdis : Disjoint (s1 + 1) (c.length + 1) s2 (c.length + 1)) :
    strncatTail n m s1 s2 c0 = some (stored m (s1 + 1) (c ++ [0#8])) := by
  obtain ⟨f, rfl⟩ := Nat.exists_eq_add_of_le' hn
  unfold Disjoint at hdis
  have run := copy_advance (g := id) h0
    (fun f k m' => strncatTail f m' (s1 + k) (s2 + k) (if k = 0 then c0 else 1#8))
    (fun f k m' b hb hP hm => by
      rw [Nat.add_right_comm] at hm
      rw [strncatTail, catStep_eq hb hm, if_neg (Nat.succ_ne_zero k), Nat.add_right_comm s1 1]
      exact (if_neg hP).trans (strncatTail_nz f _ _ _ hP (by decide)))
    hs (fun i hi => hd i (by omega)) (by omega) f
  rw [List.map_id] at run
  have hmap : (stored m (s1 + 1) c (s1 + c.length + 1)).isSome := by
    rw [stored_outside (by omega), Nat.add_right_comm]; exact hd _ (by omega)
  refine run.trans ?_
  rw [stored_snoc, Nat.add_right_comm s1 1]
  cases f with
  | zero =>
    rw [strncatTail]
    by_cases hc : c.length = 0
    · rw [if_pos hc]
      by_cases hz : c0 = 0
      · -- nothing is copied and the terminator of the destination string is still in place
        rw [if_neg (fun h => h hz), List.eq_nil_of_length_eq_zero hc]
        exact congrArg some (upd_self (hc0.resolve_left (fun h => h hz))).symm
      · rw [if_pos hz]; exact wr_upd hmap
    · rw [if_neg hc, if_pos (by decide)]; exact wr_upd hmap
  | succ f =>
    have hnul : stored m (s1 + 1) c (s2 + c.length) = some 0#8 := by
      rw [stored_outside (by omega)]; exact hend (by omega)
    rw [strncatTail, catStep_eq hnul hmap]; rfl

/-- `K` is the appending loop of strcat / strncat, started two below where the scan for the end of `a` stopped
(`s1 -= 2`, then `*++s1`) -/
theorem cat_spec {m : Mem} {s1 fuel : Nat} {a b : List Byte} (hdest : 0 < s1) (ha : CStr m s1 a) (hf : a.length < fuel)
    (K : Nat → Option Mem) (hK : ∀ p, p + 1 = s1 + a.length → K p = some (stored m (s1 + a.length) (b ++ [0#8]))) :
    ∃ m', (scanNul m fuel s1 >>= fun e => K (e - 2) >>= fun m' => pure (m', s1)) = some (m', s1) ∧
      Holds m' s1 (a ++ b ++ [0#8]) ∧ SameOutside m m' (s1 + a.length) (b.length + 1) := by
  refine ⟨_, ?_, by rw [List.append_assoc]; exact holds_append_stored ha.holds _,
    by simpa using sameOutside_stored m (s1 + a.length) (b ++ [0#8])⟩
  rw [scanNul_spec m a s1 fuel ha hf, some_bind, hK _ (by omega)]; rfl

theorem caseLoop_spec (lo hi : Int) (delta : Byte) (g : Byte → Byte)
    (hg : ∀ b, g b = if lo ≤ scInt b ∧ scInt b ≤ hi then b + delta else b)
    (l : List Byte) (m : Mem) (s fuel : Nat) (h : CStr m s l) (hf : l.length < fuel) :
    ∃ m', (caseLoop lo hi delta fuel m s >>= fun m' => pure (m', s)) = some (m', s) ∧
      Holds m' s (l.map g ++ [0#8]) ∧ SameOutside m m' s l.length := by
  have hnul : stored m s (l.map g) (s + l.length) = some 0#8 := by
    rw [stored_outside (by rw [List.length_map]; omega)]; exact h.nul
  have e : caseLoop lo hi delta fuel m s = some (stored m s (l.map g)) := by
    obtain ⟨f, rfl⟩ := fuel_split hf
    refine (copy_advance (g := g) h.2 (fun f k m' => caseLoop lo hi delta f m' (s + k))
      (fun f k m' b hb hP hm => by
        rw [caseLoop, rd_bind hb, if_pos hP, hg b]
        split
        · rw [wr_bind hm, Nat.add_assoc]
        · rw [upd_self hb, Nat.add_assoc])
      h.holds h.holds.mapped (Or.inl (Nat.le_refl _)) (f + 1)).trans ?_
    rw [caseLoop, rd_bind hnul, if_neg (fun h => h rfl)]; rfl
  refine ⟨_, by rw [e]; rfl, holds_snoc.mpr ⟨holds_stored _ _ _, ?_⟩, by simpa using sameOutside_stored m s (l.map g)⟩
  rw [List.length_map]; exact hnul

theorem scInt_range (b : Byte) (lo hi : Int) (hlo : 0 ≤ lo) (hhi : hi < 128) :
    (lo ≤ scInt b ∧ scInt b ≤ hi) ↔ (lo ≤ (b.toNat : Int) ∧ (b.toNat : Int) ≤ hi) := by
  unfold scInt
  rw [BitVec.toInt_eq_toNat_cond]
  have := b.isLt
  split <;> omega

theorem lowerB_eq (b : Byte) : lowerB b = if (65 : Int) ≤ scInt b ∧ scInt b ≤ 90 then b + 32#8 else b := by
  unfold lowerB
  have := scInt_range b 65 90 (by omega) (by omega)
  by_cases h : 65 ≤ b.toNat ∧ b.toNat ≤ 90
  · rw [if_pos h, if_pos (this.mpr (by omega))]
  · rw [if_neg h, if_neg (fun c => h (by have := this.mp c; omega))]

theorem upperB_eq (b : Byte) : upperB b = if (97 : Int) ≤ scInt b ∧ scInt b ≤ 122 then b + (-32#8) else b := by
  unfold upperB
  have := scInt_range b 97 122 (by omega) (by omega)
  by_cases h : 97 ≤ b.toNat ∧ b.toNat ≤ 122
  · rw [if_pos h, if_pos (this.mpr (by omega)), BitVec.sub_eq_add_neg]
  · rw [if_neg h, if_neg (fun c => h (by have := this.mp c; omega))]

/-! ## strtok_r: two scans and at most one write -/

/-- `x` ends the token: a delimiter, which is overwritten by NUL, or the terminator, which is left alone -/
theorem strtok_r_found (m : Mem) (str save : Option Nat) (start delim : Nat) (D q t : List Byte) (x : Byte)
    (fuel : Nat) (hstart : tokStart str save = some start) (hD : CStr m delim D)
    (h : Holds m start (q ++ t ++ [x])) (h0 : 0#8 ∉ q ++ t) (hq : ∀ y ∈ q, y ∈ D) (ht : ∀ y ∈ t, y ∉ D)
    (htne : t ≠ []) (hx : x = 0#8 ∨ x ∈ D) (hf : D.length < fuel) (hg : (q ++ t).length < fuel) :
    strtok_r m str delim save fuel =
      some (if x = 0#8 then m else upd m (start + q.length + t.length) 0#8,
        some (start + q.length + t.length + if x = 0#8 then 0 else 1), some (start + q.length)) := by
  obtain ⟨t0, t', rfl⟩ := List.exists_cons_of_ne_nil htne
  rw [List.mem_append, not_or, List.mem_cons, not_or] at h0
  rw [List.forall_mem_cons] at ht
  rw [List.append_assoc, holds_append, List.cons_append, holds_cons] at h
  obtain ⟨hq', h1, ht'⟩ := h
  rw [List.length_append, List.length_cons] at hg
  have e1 := tokSkip_spec m D delim fuel hD hf q t0 start fuel (holds_snoc.mpr ⟨hq', h1⟩) h0.1 hq (Or.inr ht.1)
    (by omega)
  rw [if_neg (Ne.symm h0.2.1)] at e1
  have e2 := strcspnLoop_spec m D delim fuel hD hf t' x (start + q.length + 1) fuel 0 ht' h0.2.2 ht.2 hx (by omega)
  have hsp := (holds_snoc.mp ht').2
  simp only [strtok_r, hstart, bind, Option.bind, e1, strcspn, e2, Nat.zero_add, rd_eq, hsp]
  by_cases hz : x = 0#8
  · subst hz; simp; omega
  · have hmap : (m (start + q.length + 1 + t'.length)).isSome := by rw [hsp]; rfl
    have e : start + q.length + 1 + t'.length = start + q.length + (t'.length + 1) := by omega
    simp [hz, wr_upd hmap]
    exact ⟨by rw [e], e⟩

/-- one call of a history: the save pointer is left on the rest `l'` of the string, from which `tokHistory` goes on -/
theorem strtok_r_step (m : Mem) (str save : Option Nat) (pos d : Nat) (D l : List Byte) (fuel : Nat)
    (hstart : tokStart str save = some pos) (hD : CStr m d D) (hl : CStr m pos l)
    (hf : D.length < fuel) (hg : l.length < fuel) :
    ∃ m1 k l', strtok_r m str d save fuel = some (m1, some (pos + k), (tokRef D l).map (pos + ·.1)) ∧
      CStr m1 (pos + k) l' ∧ k + l'.length ≤ l.length ∧ SameOutside m m1 pos l.length ∧
      ∀ Ds, tokHistory (D :: Ds) l = (tokRef D l).map (·.1) :: (tokHistory Ds l').map (Option.map (k + ·)) := by
  rcases tokRef_cases D l with ⟨hT, hall⟩ | ⟨q, t, hq, ht, htne, ⟨hT, rfl⟩ | ⟨dl, r, hdD, hT, rfl⟩⟩
  · have e1 := tokSkip_spec m D d fuel hD hf l 0#8 pos fuel hl.1 hl.2 hall (Or.inl rfl) hg
    exact ⟨m, l.length, [], by simp only [strtok_r, hstart, bind, Option.bind, e1, hT]; rfl,
      cstr_nil.mpr hl.nul, Nat.le_refl _, SameOutside.refl _ _ _, fun Ds => by rw [tokHistory, hT]; rfl⟩
  · have e := strtok_r_found m str save pos d D q t 0#8 fuel hstart hD hl.1 hl.2 hq ht htne (Or.inl rfl) hf hg
    rw [if_pos rfl, if_pos rfl, Nat.add_zero, Nat.add_assoc] at e
    exact ⟨m, q.length + t.length, [], by rw [hT]; exact e,
      cstr_nil.mpr (by rw [← List.length_append]; exact hl.nul), by simp, SameOutside.refl _ _ _,
      fun Ds => by rw [tokHistory, hT]; rfl⟩
  · have h0 : 0#8 ∉ q ++ t := fun e => hl.2 (List.mem_append_left _ e)
    have hd0 : dl ≠ 0#8 := fun e => hl.2 (by simp [e])
    have e := strtok_r_found m str save pos d D q t dl fuel hstart hD hl.upto h0 hq ht htne (Or.inr hdD) hf
      (by simp at hg ⊢; omega)
    rw [if_neg hd0, if_neg hd0, Nat.add_assoc, Nat.add_assoc] at e
    have hrest := cstr_suffix (p := q ++ t ++ [dl]) (r := r)
      (by rw [List.append_assoc (q ++ t), List.singleton_append]; exact hl)
    rw [List.length_append, List.length_append, List.length_singleton, Nat.add_assoc] at hrest
    have ho : SameOutside m (upd m (pos + (q.length + t.length)) 0#8) pos (q ++ t ++ dl :: r).length :=
      fun j hj => upd_other _ _ (by simp at hj; omega)
    exact ⟨_, q.length + (t.length + 1), r, by rw [hT]; exact e,
      cstr_of_sameOutside (d := pos + (q.length + t.length)) (n := 1) hrest (fun j hj => upd_other _ _ (by omega))
        (Or.inr (by omega)),
      by simp; omega, ho, fun Ds => by rw [tokHistory, hT]; simp [Nat.add_assoc]⟩

end Igris.C08
