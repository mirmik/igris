/-
  C08 — the loops that only read.  They walk forward over bytes until one makes them stop, so one lemma
  (`advance_at`, where stopping may depend on the position, as in strstr's outer loop; `advance2` for two pointers
  in step) says that a run of bytes on which an iteration merely advances is skipped; what a loop does with the
  byte it stops at is then read off its definition.  memrchr walks downwards and has an induction of its own.
  The comparison and search functions exist twice, plain and case-folding: their theorems are stated once, over a
  `Fold` (the code's map on `int`, the specification's map on bytes).
-/
import IgrisModel.C08.Mem
import IgrisModel.Common.ListScan
namespace Igris.C08
open Igris.Proto

/-- `L fuel k` is a loop with `fuel` (or a bound) left, `k` bytes beyond `s`. -/
theorem advance_at {α : Type} {m : Mem} {P : Nat → Byte → Prop} {p : List Byte} (hP : ∀ i (h : i < p.length), P i p[i]) :
    ∀ {s : Ptr} (L : Nat → Nat → Option α)
      (_ : ∀ f k b, m (s + k) = some b → P k b → L (f + 1) k = L f (k + 1))
      (_ : Holds m s p) (f : Nat), L (f + p.length) 0 = L f p.length := by
  induction p generalizing P with
  | nil => intros; rfl
  | cons b p ih =>
    intro s L step h f
    rw [holds_cons] at h
    have := ih (P := fun i => P (i + 1)) (fun i hi => hP (i + 1) (Nat.succ_lt_succ hi)) (s := s + 1)
      (fun f k => L f (k + 1))
      (fun f k b hb hPb => step f (k + 1) b (by rwa [Nat.add_assoc, Nat.add_comm 1] at hb) hPb) h.2 f
    exact (step _ 0 b h.1 (hP 0 (Nat.zero_lt_succ _))).trans this

theorem advance {α : Type} {m : Mem} {P : Byte → Prop} {p : List Byte} (hP : ∀ y ∈ p, P y) :
    ∀ {s : Ptr} (L : Nat → Nat → Option α)
      (_ : ∀ f k b, m (s + k) = some b → P b → L (f + 1) k = L f (k + 1))
      (_ : Holds m s p) (f : Nat), L (f + p.length) 0 = L f p.length :=
  advance_at (P := fun _ => P) fun _ _ => hP _ (List.getElem_mem _)

/-- the runs two pointers walk over in step: of the same length, and related by `R` byte by byte -/
inductive Rel2 (R : Byte → Byte → Prop) : List Byte → List Byte → Prop
  | nil : Rel2 R [] []
  | cons {a b : Byte} {l1 l2 : List Byte} : R a b → Rel2 R l1 l2 → Rel2 R (a :: l1) (b :: l2)

theorem Rel2.refl {R : Byte → Byte → Prop} (h : ∀ a, R a a) : ∀ l, Rel2 R l l
  | [] => .nil
  | a :: l => .cons (h a) (Rel2.refl h l)

theorem Rel2.length_eq {R : Byte → Byte → Prop} {l1 l2 : List Byte} (h : Rel2 R l1 l2) : l1.length = l2.length := by
  induction h with
  | nil => rfl
  | cons _ _ ih => rw [List.length_cons, List.length_cons, ih]

theorem advance2 {α : Type} {m : Mem} {P : Byte → Prop} {R : Byte → Byte → Prop} {p1 p2 : List Byte}
    (hR : Rel2 R p1 p2) (hP : ∀ y ∈ p1, P y) :
    ∀ {s1 s2 : Ptr} (L : Nat → Nat → Option α)
      (_ : ∀ f k a b, m (s1 + k) = some a → m (s2 + k) = some b → P a → R a b → L (f + 1) k = L f (k + 1))
      (_ : Holds m s1 p1) (_ : Holds m s2 p2) (f : Nat), L (f + p1.length) 0 = L f p1.length := by
  induction hR with
  | nil => intros; rfl
  | @cons a b l1 l2 hab _ ih =>
    intro s1 s2 L step h1 h2 f
    rw [holds_cons] at h1 h2
    rw [List.forall_mem_cons] at hP
    have := ih hP.2 (s1 := s1 + 1) (s2 := s2 + 1) (fun f k => L f (k + 1))
      (fun f k a b ha hb => step f (k + 1) a b (by rwa [Nat.add_assoc, Nat.add_comm 1] at ha)
        (by rwa [Nat.add_assoc, Nat.add_comm 1] at hb)) h1.2 h2.2 f
    exact (step _ 0 a b h1.1 h2.1 hP.1 hab).trans this

theorem fuel_split {n fuel : Nat} (h : n < fuel) : ∃ f, fuel = f + 1 + n := ⟨fuel - 1 - n, by omega⟩

theorem memchrLoop_skip {m : Mem} {d : Byte} {p : List Byte} {s : Nat} (hl : Holds m s p) (hd : d ∉ p) (f : Nat) :
    memchrLoop m d (f + p.length) s = memchrLoop m d f (s + p.length) :=
  advance (P := (· ≠ d)) (fun _ hy e => hd (e ▸ hy)) (fun f k => memchrLoop m d f (s + k))
    (fun f k b hb hP => by rw [memchrLoop, rd_bind hb, if_neg hP, Nat.add_assoc]) hl f

theorem memchrLoop_absent (m : Mem) (d : Byte) (l : List Byte) (s : Nat) (hl : Holds m s l) (hd : d ∉ l) :
    memchrLoop m d l.length s = some none := by
  rw [← Nat.zero_add l.length, memchrLoop_skip hl hd]; rfl

theorem memchrLoop_found (m : Mem) (d : Byte) (p : List Byte) (s n : Nat) (hl : Holds m s (p ++ [d]))
    (hd : d ∉ p) (hn : p.length < n) :
    memchrLoop m d n s = some (some (s + p.length)) := by
  obtain ⟨f, rfl⟩ := fuel_split hn
  rw [holds_snoc] at hl
  rw [memchrLoop_skip hl.1 hd, memchrLoop, rd_bind hl.2, if_pos rfl]; rfl

theorem memrchrLoop_skip (m : Mem) (d : Byte) (q r : List Byte) (s f : Nat) (hl : Holds m s (q ++ r)) (hr : d ∉ r) :
    memrchrLoop m d (f + r.length) (s + q.length + r.length) = memrchrLoop m d f (s + q.length) := by
  induction r generalizing q f with
  | nil => rfl
  | cons b r ih =>
    rw [List.mem_cons, not_or] at hr
    have h1 := (holds_snoc.mp hl.upto).2
    rw [← List.singleton_append, ← List.append_assoc] at hl
    have := ih (q ++ [b]) (f + 1) hl hr.2
    rw [List.length_append, List.length_singleton, ← Nat.add_assoc] at this
    rw [List.length_cons, ← Nat.add_assoc, ← Nat.add_assoc, Nat.add_right_comm f, Nat.add_right_comm (s + q.length),
      this, memrchrLoop, Nat.add_sub_cancel, rd_bind h1, if_neg (Ne.symm hr.1)]

theorem memrchrLoop_absent (m : Mem) (d : Byte) (l : List Byte) (s : Nat) (hl : Holds m s l) (hd : d ∉ l) :
    memrchrLoop m d l.length (s + l.length) = some none := by
  have := memrchrLoop_skip m d [] l s 0 hl hd
  rwa [Nat.zero_add] at this

theorem memrchrLoop_found (m : Mem) (d : Byte) (p r : List Byte) (s : Nat) (hl : Holds m s (p ++ d :: r))
    (hr : d ∉ r) :
    memrchrLoop m d (p ++ d :: r).length (s + (p ++ d :: r).length) = some (some (s + p.length)) := by
  have h1 := (holds_snoc.mp hl.upto).2
  rw [← List.singleton_append, ← List.append_assoc] at hl
  have := memrchrLoop_skip m d (p ++ [d]) r s (p.length + 1) hl hr
  rw [List.length_append, List.length_singleton, ← Nat.add_assoc] at this
  rw [List.length_append, List.length_cons, Nat.add_comm r.length, ← Nat.add_assoc, ← Nat.add_assoc, ← Nat.add_assoc,
    this, memrchrLoop, Nat.add_sub_cancel, rd_bind h1, if_pos rfl]; rfl

theorem diffAtF_eq (f : Int → Int) (m : Mem) (s1 s2 : Nat) (x y : Byte) (h1 : m s1 = some x) (h2 : m s2 = some y) :
    diffAtF f m s1 s2 = some (f (ucInt x) - f (ucInt y)) := by
  rw [diffAtF, rd_bind h1, rd_bind h2]; rfl

theorem diffAt_eq (m : Mem) (d s : Nat) (x y : Byte) (h1 : m d = some x) (h2 : m s = some y) :
    diffAt m d s = some (ucInt x - ucInt y) :=
  diffAtF_eq id m d s x y h1 h2

theorem memcmpLoop_spec (m : Mem) (p : List Byte) (x y : Byte) (k d s : Nat) (hd : Holds m d (p ++ [x]))
    (hs : Holds m s (p ++ [y])) (hxy : p.length = k ∨ x ≠ y) (hk : p.length ≤ k) :
    memcmpLoop m k d s = some (ucInt x - ucInt y) := by
  obtain ⟨f, rfl⟩ := Nat.exists_eq_add_of_le' hk
  rw [holds_snoc] at hd hs
  refine (advance2 (P := fun _ => True) (Rel2.refl (fun _ => rfl) p) (fun _ _ => trivial)
    (fun f k => memcmpLoop m f (d + k) (s + k))
    (fun f k a b ha hb _ hab => by rw [memcmpLoop, rd_bind ha, rd_bind hb, if_pos hab, Nat.add_assoc, Nat.add_assoc])
    hd.1 hs.1 f).trans ?_
  have e := diffAt_eq m _ _ x y hd.2 hs.2
  cases f with
  | zero => exact e
  | succ f => rw [memcmpLoop, rd_bind hd.2, rd_bind hs.2, if_neg (hxy.resolve_left (by omega)), e]

theorem scanNul_spec (m : Mem) (l : List Byte) (s fuel : Nat) (h : CStr m s l) (hf : l.length < fuel) :
    scanNul m fuel s = some (s + l.length + 1) := by
  obtain ⟨f, rfl⟩ := fuel_split hf
  refine (advance (P := (· ≠ 0)) h.ne_zero (fun f k => scanNul m f (s + k))
    (fun f k b hb hP => by rw [scanNul, rd_bind hb, if_pos hP, Nat.add_assoc]) h.holds (f + 1)).trans ?_
  rw [scanNul, rd_bind h.nul, if_neg (fun h => h rfl)]; rfl

theorem strnlenLoop_skip {m : Mem} {p : List Byte} {s : Nat} (h : Holds m s p) (h0 : 0#8 ∉ p) (f len : Nat) :
    strnlenLoop m (f + p.length) len s = strnlenLoop m f (len + p.length) (s + p.length) :=
  advance (P := (· ≠ 0)) (ne_zero_of_not_mem h0) (fun f k => strnlenLoop m f (len + k) (s + k))
    (fun f k b hb hP => by rw [strnlenLoop, rd_bind hb, if_neg hP, Nat.add_assoc, Nat.add_assoc]) h f

theorem strnlenLoop_long (m : Mem) (p : List Byte) (s len : Nat) (h : Holds m s p) (h0 : 0#8 ∉ p) :
    strnlenLoop m p.length len s = some (len + p.length) := by
  have := strnlenLoop_skip h h0 0 len
  rwa [Nat.zero_add] at this

theorem strnlenLoop_nul (m : Mem) (p : List Byte) (s r len : Nat) (h : CStr m s p) (hr : p.length < r) :
    strnlenLoop m r len s = some (len + p.length) := by
  obtain ⟨f, rfl⟩ := fuel_split hr
  rw [strnlenLoop_skip h.holds h.2, strnlenLoop, rd_bind h.nul]; rfl

theorem strnlenLoop_cstr (m : Mem) (l : List Byte) (s r len : Nat) (h : CStr m s l) :
    strnlenLoop m r len s = some (len + min l.length r) := by
  by_cases hr : l.length < r
  · rw [strnlenLoop_nul m l s r len h hr, Nat.min_eq_left (Nat.le_of_lt hr)]
  · have hlen : (l.take r).length = r := by rw [List.length_take]; omega
    have := strnlenLoop_long m (l.take r) s len (h.holds.take r) (fun e => h.2 (List.mem_of_mem_take e))
    rw [hlen] at this
    rw [this, Nat.min_eq_right (Nat.le_of_not_lt hr)]

theorem strchrnulLoop_spec (m : Mem) (c : Byte) (p : List Byte) (x : Byte) (s fuel : Nat)
    (h : Holds m s (p ++ [x])) (h0 : 0#8 ∉ p) (hc : c ∉ p) (hx : x = 0#8 ∨ x = c)
    (hf : p.length < fuel) : strchrnulLoop m c fuel s = some (s + p.length) := by
  obtain ⟨f, rfl⟩ := fuel_split hf
  rw [holds_snoc] at h
  refine (advance (P := fun b => b ≠ 0 ∧ b ≠ c) (fun y hy => ⟨ne_zero_of_not_mem h0 _ hy, fun e => hc (e ▸ hy)⟩)
    (fun f k => strchrnulLoop m c f (s + k))
    (fun f k b hb hP => by rw [strchrnulLoop, rd_bind hb, if_pos hP, Nat.add_assoc]) h.1 (f + 1)).trans ?_
  rw [strchrnulLoop, rd_bind h.2, if_neg (by rcases hx with e | e <;> simp [e])]; rfl

theorem strchr_stop (m : Mem) (p : List Byte) (x : Byte) (s : Nat) (ch : Int) (fuel : Nat)
    (h : Holds m s (p ++ [x])) (h0 : 0#8 ∉ p) (hp : toChar ch ∉ p) (hx : x = 0#8 ∨ x = toChar ch)
    (hf : p.length < fuel) :
    strchr m s ch fuel = some (if x = toChar ch then some (s + p.length) else none) := by
  rw [strchr, strchrnul, strchrnulLoop_spec m _ p x s fuel h h0 hp hx hf]
  show (rd m (s + p.length) >>= _) = _
  rw [rd_bind (holds_snoc.mp h).2]
  by_cases hz : x = 0
  · rw [if_pos hz]; simp only [eq_comm (a := toChar ch)]; rfl
  · rw [if_neg hz, if_pos (hx.resolve_left hz)]; rfl

theorem strchr_first (m : Mem) (p : List Byte) (s : Nat) (ch : Int) (fuel : Nat)
    (h : Holds m s (p ++ [toChar ch])) (h0 : 0#8 ∉ p) (hp : toChar ch ∉ p)
    (hf : p.length < fuel) : strchr m s ch fuel = some (some (s + p.length)) := by
  rw [strchr_stop m p _ s ch fuel h h0 hp (Or.inr rfl) hf, if_pos rfl]

theorem strchr_none (m : Mem) (l : List Byte) (s : Nat) (ch : Int) (fuel : Nat) (h : CStr m s l)
    (hc : toChar ch ∉ l) (hz : toChar ch ≠ 0#8) (hf : l.length < fuel) :
    strchr m s ch fuel = some none := by
  rw [strchr_stop m l _ s ch fuel h.1 h.2 hc (Or.inl rfl) hf, if_neg (Ne.symm hz)]

theorem strrchrLoop_none (m : Mem) (l : List Byte) (s : Nat) (ch : Int) (fuel g : Nat) (found : Option Nat)
    (h : CStr m s l) (hc : toChar ch ∉ l) (hz : toChar ch ≠ 0#8) (hf : l.length < fuel) (hg : 0 < g) :
    strrchrLoop m ch fuel g s found = some found := by
  obtain ⟨g, rfl⟩ : ∃ k, g = k + 1 := ⟨g - 1, by omega⟩
  rw [strrchrLoop, strchr_none m l s ch fuel h hc hz hf]; rfl

theorem strrchrLoop_last (m : Mem) (p r : List Byte) (s : Nat) (ch : Int) (fuel g : Nat) (found : Option Nat)
    (h : CStr m s (p ++ toChar ch :: r)) (hr : toChar ch ∉ r) (hz : toChar ch ≠ 0#8)
    (hf : (p ++ toChar ch :: r).length < fuel) (hg : p.length + 1 < g) :
    strrchrLoop m ch fuel g s found = some (some (s + p.length)) := by
  induction hn : p.length using Nat.strongRecOn generalizing p s g found with
  | _ n ih =>
    obtain ⟨g, rfl⟩ : ∃ k, g = k + 1 := ⟨g - 1, by omega⟩
    by_cases hp : toChar ch ∈ p
    · obtain ⟨p1, p2, rfl, hp1⟩ := List.eq_append_cons_of_mem hp
      rw [List.append_assoc, List.cons_append] at h hf
      have e1 := strchr_first m p1 s ch fuel h.upto (fun e => h.2 (List.mem_append_left _ e)) hp1
        (by simp at hf; omega)
      have hsuf : CStr m (s + p1.length + 1) (p2 ++ toChar ch :: r) := by
        rw [← List.singleton_append, ← List.append_assoc] at h
        simpa [Nat.add_assoc] using cstr_suffix h
      rw [strrchrLoop, e1, some_bind]
      refine (ih p2.length (by subst hn; simp; omega) p2 (s + p1.length + 1) g (some (s + p1.length)) hsuf
        (by simp at hf ⊢; omega) (by subst hn; simp at hg; omega) rfl).trans ?_
      subst hn; simp; omega
    · have e1 := strchr_first m p s ch fuel h.upto (fun e => h.2 (List.mem_append_left _ e)) hp
        (by simp at hf; omega)
      have hsuf : CStr m (s + p.length + 1) r := by
        rw [← List.singleton_append, ← List.append_assoc] at h
        simpa [Nat.add_assoc] using cstr_suffix h
      rw [strrchrLoop, e1, some_bind, ← hn]
      exact strrchrLoop_none m r (s + p.length + 1) ch fuel g (some (s + p.length)) hsuf hr hz
        (by simp at hf; omega) (by omega)

theorem pbrkInner_eq_strchrnulLoop (m : Mem) (x : Byte) : ∀ f c, pbrkInner m x f c = strchrnulLoop m x f c
  | 0, _ => rfl
  | f + 1, c => by
    rw [pbrkInner, strchrnulLoop]
    cases h : m c with
    | none => rw [rd, h]; rfl
    | some b =>
      rw [rd_bind h, rd_bind h]
      by_cases hb : b ≠ 0
      · by_cases hx : x = b
        · rw [if_pos hb, if_pos hx, if_neg (fun h => h.2 hx.symm)]
        · rw [if_pos hb, if_neg hx, if_pos ⟨hb, Ne.symm hx⟩]; exact pbrkInner_eq_strchrnulLoop m x f _
      · rw [if_neg hb, if_neg (fun h => hb h.1)]

theorem CStr.stop_at {m : Mem} {a : Nat} {A : List Byte} (h : CStr m a A) (c : Byte) :
    ∃ p, p.length ≤ A.length ∧ 0#8 ∉ p ∧ c ∉ p ∧ Holds m a (p ++ [if c ∈ A then c else 0#8]) ∧ (c ∉ A → p = A) := by
  by_cases hc : c ∈ A
  · obtain ⟨p, r, rfl, hp⟩ := List.eq_append_cons_of_mem hc
    exact ⟨p, by simp, fun e => h.2 (List.mem_append_left _ e), hp, by rw [if_pos hc]; exact h.upto, fun h => absurd hc h⟩
  · exact ⟨A, Nat.le_refl _, h.2, hc, by rw [if_neg hc]; exact h.1, fun _ => rfl⟩

theorem pbrkInner_spec (m : Mem) (x : Byte) (A : List Byte) (a fuel : Nat) (hA : CStr m a A) (hf : A.length < fuel) :
    ∃ q, pbrkInner m x fuel a = some q ∧ m q = some (if x ∈ A then x else 0#8) ∧ (x ∉ A → q = a + A.length) := by
  obtain ⟨p, hpl, h0, hc, hh, hpA⟩ := hA.stop_at x
  refine ⟨a + p.length, ?_, (holds_snoc.mp hh).2, fun h => by rw [hpA h]⟩
  rw [pbrkInner_eq_strchrnulLoop]
  exact strchrnulLoop_spec m x p _ a fuel hh h0 hc (by split <;> simp)
    (Nat.lt_of_le_of_lt hpl hf)

theorem spnInner_eq_pbrkInner (m : Mem) (c : Byte) : ∀ f a, spnInner m c f a = pbrkInner m c f a >>= rd m
  | 0, _ => rfl
  | f + 1, a => by
    rw [spnInner, pbrkInner]
    cases h : m a with
    | none => rw [rd, h]; rfl
    | some b =>
      rw [rd_bind h, rd_bind h]
      split
      · split
        · exact h.symm
        · exact spnInner_eq_pbrkInner m c f _
      · exact h.symm

theorem spnInner_spec (m : Mem) (c : Byte) (A : List Byte) (a fuel : Nat) (hA : CStr m a A) (hf : A.length < fuel) :
    spnInner m c fuel a = some (if c ∈ A then c else 0#8) := by
  obtain ⟨q, e, hq, _⟩ := pbrkInner_spec m c A a fuel hA hf
  rw [spnInner_eq_pbrkInner, e]; exact hq

theorem strspnLoop_spec (m : Mem) (A : List Byte) (accept fuel : Nat) (hA : CStr m accept A)
    (hf : A.length < fuel) (q : List Byte) (x : Byte) (p g count : Nat)
    (h : Holds m p (q ++ [x])) (h0 : 0#8 ∉ q) (hq : ∀ y ∈ q, y ∈ A) (hx : x = 0#8 ∨ x ∉ A)
    (hg : q.length < g) : strspnLoop m accept fuel g p count = some (count + q.length) := by
  obtain ⟨f, rfl⟩ := fuel_split hg
  rw [holds_snoc] at h
  refine (advance (P := fun b => b ≠ 0 ∧ b ∈ A) (fun y hy => ⟨ne_zero_of_not_mem h0 _ hy, hq y hy⟩)
    (fun f k => strspnLoop m accept fuel f (p + k) (count + k))
    (fun f k b hb hP => by
      rw [strspnLoop, rd_bind hb, if_pos hP.1, spnInner_spec m b A accept fuel hA hf, if_pos hP.2, some_bind,
        if_neg hP.1, Nat.add_assoc, Nat.add_assoc]) h.1 (f + 1)).trans ?_
  rw [strspnLoop, rd_bind h.2]
  by_cases hz : x = 0
  · rw [if_neg (fun h => h hz)]; rfl
  · rw [if_pos hz, spnInner_spec m x A accept fuel hA hf, if_neg (hx.resolve_left hz)]; rfl

theorem toChar_scInt (b : Byte) : toChar (scInt b) = b := by
  unfold toChar scInt; exact BitVec.ofInt_toInt

/-- strchr as a membership test (what strcspn and strtok_r use it for) -/
theorem strchr_mem (m : Mem) (c : Byte) (R : List Byte) (a fuel : Nat) (hR : CStr m a R) (hc : c ∈ R)
    (hf : R.length < fuel) : ∃ q, strchr m a (scInt c) fuel = some (some q) := by
  obtain ⟨p, hpl, h0, hp, hh, _⟩ := hR.stop_at c
  rw [if_pos hc] at hh
  exact ⟨a + p.length, strchr_first m p a (scInt c) fuel (by rwa [toChar_scInt]) h0 (by rwa [toChar_scInt]) (by omega)⟩

theorem strchr_not_mem (m : Mem) (c : Byte) (R : List Byte) (a fuel : Nat) (hR : CStr m a R) (hc : c ∉ R)
    (hz : c ≠ 0#8) (hf : R.length < fuel) : strchr m a (scInt c) fuel = some none :=
  strchr_none m R a (scInt c) fuel hR (by rw [toChar_scInt]; exact hc) (by rw [toChar_scInt]; exact hz) hf

theorem strcspnLoop_spec (m : Mem) (R : List Byte) (reject fuel : Nat) (hR : CStr m reject R)
    (hf : R.length < fuel) (q : List Byte) (x : Byte) (s g count : Nat)
    (h : Holds m s (q ++ [x])) (h0 : 0#8 ∉ q) (hq : ∀ y ∈ q, y ∉ R) (hx : x = 0#8 ∨ x ∈ R)
    (hg : q.length < g) : strcspnLoop m reject fuel g s count = some (count + q.length) := by
  obtain ⟨f, rfl⟩ := fuel_split hg
  rw [holds_snoc] at h
  refine (advance (P := fun b => b ≠ 0 ∧ b ∉ R) (fun y hy => ⟨ne_zero_of_not_mem h0 _ hy, hq y hy⟩)
    (fun f k => strcspnLoop m reject fuel f (s + k) (count + k))
    (fun f k b hb hP => by
      rw [strcspnLoop, rd_bind hb, if_pos hP.1, strchr_not_mem m b R reject fuel hR hP.2 hP.1 hf, some_bind,
        Nat.add_assoc, Nat.add_assoc]) h.1 (f + 1)).trans ?_
  rw [strcspnLoop, rd_bind h.2]
  by_cases hz : x = 0
  · rw [if_neg (fun h => h hz)]; rfl
  · obtain ⟨w, e⟩ := strchr_mem m x R reject fuel hR (hx.resolve_left hz) hf
    rw [if_pos hz, e]; rfl

/-- `hne`: strpbrk enters the outer loop only on a string that is not empty (it has looked).  Whatever `c0` was,
the body has overwritten it. -/
theorem pbrkOuter_spec (m : Mem) (A : List Byte) (s2 fuel : Nat) (hA : CStr m s2 A) (hf : A.length < fuel)
    (q : List Byte) (x : Byte) (s1 g c0 : Nat) (h : Holds m s1 (q ++ [x])) (h0 : 0#8 ∉ q)
    (hq : ∀ y ∈ q, y ∉ A) (hx : x = 0#8 ∨ x ∈ A) (hne : q = [] → x ≠ 0#8) (hg : q.length < g) :
    ∃ c, pbrkOuter m s2 fuel g s1 c0 = some (s1 + q.length, c) ∧
      m c = some (if x ∈ A then x else 0#8) := by
  obtain ⟨f, rfl⟩ := fuel_split hg
  rw [holds_snoc] at h
  -- after an iteration on a byte outside the set, `c` rests on the terminator of the set string
  have run : pbrkOuter m s2 fuel (f + 1 + q.length) s1 c0 =
      pbrkOuter m s2 fuel (f + 1) (s1 + q.length) (if q.length = 0 then c0 else s2 + A.length) :=
    advance (P := fun b => b ≠ 0 ∧ b ∉ A) (fun y hy => ⟨ne_zero_of_not_mem h0 _ hy, hq y hy⟩)
    (fun f k => pbrkOuter m s2 fuel f (s1 + k) (if k = 0 then c0 else s2 + A.length))
    (fun f k b hb hP => by
      obtain ⟨c, e, hc, hcA⟩ := pbrkInner_spec m b A s2 fuel hA hf
      rw [if_neg hP.2] at hc
      rw [pbrkOuter, rd_bind hb, if_pos hP.1, e, some_bind, rd_bind hc, if_neg (fun h => h rfl), hcA hP.2,
        Nat.add_assoc, if_neg (Nat.succ_ne_zero k)]) h.1 (f + 1)
  rw [run, pbrkOuter, rd_bind h.2]
  by_cases hz : x = 0
  · have hq0 : q.length ≠ 0 := fun e => hne (List.eq_nil_of_length_eq_zero e) hz
    exact ⟨s2 + A.length, by rw [if_neg (fun h => h hz), if_neg hq0]; rfl,
      by rw [if_neg (fun hxA => hA.ne_zero x hxA hz)]; exact hA.nul⟩
  · obtain ⟨c, e, hc, _⟩ := pbrkInner_spec m x A s2 fuel hA hf
    have hxA := hx.resolve_left hz
    rw [if_pos hxA] at hc
    exact ⟨c, by rw [if_pos hz, e, some_bind, rd_bind hc, if_pos hz]; rfl, by rw [if_pos hxA]; exact hc⟩

theorem tokSkip_spec (m : Mem) (D : List Byte) (delim fuel : Nat) (hD : CStr m delim D)
    (hf : D.length < fuel) (q : List Byte) (x : Byte) (str g : Nat)
    (h : Holds m str (q ++ [x])) (h0 : 0#8 ∉ q) (hq : ∀ y ∈ q, y ∈ D) (hx : x = 0#8 ∨ x ∉ D)
    (hg : q.length < g) :
    tokSkip m delim fuel g str =
      some (if x = 0#8 then .inl (str + q.length) else .inr (str + q.length + 1)) := by
  obtain ⟨f, rfl⟩ := fuel_split hg
  rw [holds_snoc] at h
  refine (advance (P := fun b => b ≠ 0 ∧ b ∈ D) (fun y hy => ⟨ne_zero_of_not_mem h0 _ hy, hq y hy⟩)
    (fun f k => tokSkip m delim fuel f (str + k))
    (fun f k b hb hP => by
      obtain ⟨w, e⟩ := strchr_mem m b D delim fuel hD hP.2 hf
      rw [tokSkip, rd_bind hb, if_neg hP.1, e]; rfl) h.1 (f + 1)).trans ?_
  rw [tokSkip, rd_bind h.2]
  by_cases hz : x = 0
  · rw [if_pos hz, if_pos (show x = 0#8 from hz)]; rfl
  · rw [if_neg hz, if_neg (show ¬ x = 0#8 from hz), strchr_not_mem m x D delim fuel hD (hx.resolve_left hz) hz hf]; rfl

/-- two plain `char`s compare equal in the inner loop: `f(*h) == f(*n)` -/
def EqS (f : Int → Int) (a b : Byte) : Prop := f (scInt a) = f (scInt b)

/-- two characters compare equal in the loop: `f(*s1) == f(*s2)` on `unsigned char` -/
def EqF (f : Int → Int) (a b : Byte) : Prop := f (ucInt a) = f (ucInt b)

theorem ucInt_inj {a b : Byte} (h : ucInt a = ucInt b) : a = b := by
  unfold ucInt at h; exact BitVec.eq_of_toNat_eq (by omega)

theorem ucInt_sub_eq_zero (a b : Byte) : ucInt a - ucInt b = 0 ↔ a = b :=
  ⟨fun e => ucInt_inj (by omega), fun e => by rw [e, Int.sub_self]⟩

theorem eqF_id {a b : Byte} : EqF id a b ↔ a = b :=
  ⟨fun h => ucInt_inj h, fun h => by subst h; rfl⟩

theorem tolowerI_ucInt (a : Byte) : tolowerI (ucInt a) = ucInt (lowerB a) := by
  unfold tolowerI ucInt lowerB
  have := a.isLt
  by_cases h : 65 ≤ a.toNat ∧ a.toNat ≤ 90
  · rw [if_pos (by omega), if_pos h, BitVec.toNat_add]
    simp; omega
  · rw [if_neg (by omega), if_neg h]

theorem eqF_lower {a b : Byte} : EqF tolowerI a b ↔ lowerB a = lowerB b := by
  unfold EqF; rw [tolowerI_ucInt, tolowerI_ucInt]
  exact ⟨ucInt_inj, fun h => by rw [h]⟩

theorem lowerB_eq_zero {a : Byte} : lowerB a = 0#8 ↔ a = 0#8 := by
  unfold lowerB
  constructor
  · intro h
    by_cases c : 65 ≤ a.toNat ∧ a.toNat ≤ 90
    · rw [if_pos c] at h
      have := congrArg BitVec.toNat h
      rw [BitVec.toNat_add] at this; simp at this; omega
    · rwa [if_neg c] at h
  · intro h; subst h; decide

theorem scInt_inj {a b : Byte} (h : scInt a = scInt b) : a = b := by
  unfold scInt at h; exact BitVec.eq_of_toInt_eq h

theorem tolowerI_scInt : ∀ a : Byte, tolowerI (scInt a) = scInt (lowerB a) := by
  decide +kernel

/-- a character map `f` of the code (`id`, or `tolower` on `int`) and the byte map `g` of the specification
(`id`, `lowerB`) it amounts to, whichever way the character became an `int` -/
structure Fold (f : Int → Int) (g : Byte → Byte) : Prop where
  eqS : ∀ a b, f (scInt a) = f (scInt b) ↔ g a = g b
  eqF : ∀ a b, EqF f a b ↔ g a = g b
  uc : ∀ a, f (ucInt a) = ucInt (g a)
  zero : ∀ a, g a = 0#8 ↔ a = 0#8

theorem Fold.id : Fold id id :=
  ⟨fun a b => ⟨fun e => scInt_inj e, fun (e : a = b) => e ▸ rfl⟩, fun _ _ => eqF_id, fun _ => rfl, fun _ => Iff.rfl⟩

theorem Fold.lower : Fold tolowerI lowerB :=
  ⟨fun a b => by rw [tolowerI_scInt, tolowerI_scInt]; exact ⟨scInt_inj, fun h => by rw [h]⟩,
    fun _ _ => eqF_lower, tolowerI_ucInt, fun _ => lowerB_eq_zero⟩

theorem Fold.eq_zero_of_eqS {f : Int → Int} {g : Byte → Byte} (h : Fold f g) (a : Byte)
    (e : f (scInt a) = f (scInt 0#8)) : a = 0#8 :=
  (h.zero a).mp (((h.eqS a 0#8).mp e).trans ((h.zero 0#8).mpr rfl))

theorem Fold.rel2 {f : Int → Int} {g : Byte → Byte} (h : Fold f g) {l1 l2 : List Byte}
    (e : l1.map g = l2.map g) : Rel2 (EqF f) l1 l2 := by
  induction l1 generalizing l2 with
  | nil => cases l2 with
    | nil => exact .nil
    | cons b l2 => simp at e
  | cons a l1 ih => cases l2 with
    | nil => simp at e
    | cons b l2 =>
      simp only [List.map_cons, List.cons.injEq] at e
      exact .cons ((h.eqF a b).mpr e.1) (ih e.2)

theorem Fold.matchAt {f : Int → Int} {g : Byte → Byte} (h : Fold f g) (nd hay : List Byte) :
    MatchAt (EqS f) nd hay ↔ nd.map g <+: hay.map g := by
  induction nd generalizing hay with
  | nil => simp [MatchAt]
  | cons b nd ih =>
    cases hay with
    | nil => simp [MatchAt]
    | cons a hay =>
      simp only [MatchAt, EqS, h.eqS, ih, List.map_cons, List.cons_prefix_cons]
      exact and_congr_left' eq_comm

/-- the first pair that differs under `g` may have a terminator as one of the two -/
theorem first_diff_cstr {g : Byte → Byte} (hz : ∀ a, g a = 0#8 ↔ a = 0#8) : ∀ (l1 l2 : List Byte), 0#8 ∉ l1 → 0#8 ∉ l2 →
    l1.map g = l2.map g ∨ ∃ p1 p2 x y r1 r2, l1 ++ [0#8] = p1 ++ x :: r1 ∧ l2 ++ [0#8] = p2 ++ y :: r2 ∧
      p1.map g = p2.map g ∧ g x ≠ g y ∧ 0#8 ∉ p1
  | [], [], _, _ => Or.inl rfl
  | [], b :: l2, _, h2 => Or.inr ⟨[], [], 0#8, b, [], l2 ++ [0#8], rfl, rfl, rfl,
      fun e => h2 (by rw [(hz b).mp (e ▸ (hz 0#8).mpr rfl)]; exact List.mem_cons_self), by simp⟩
  | a :: l1, [], h1, _ => Or.inr ⟨[], [], a, 0#8, l1 ++ [0#8], [], rfl, rfl, rfl,
      fun e => h1 (by rw [(hz a).mp (e ▸ (hz 0#8).mpr rfl)]; exact List.mem_cons_self), by simp⟩
  | a :: l1, b :: l2, h1, h2 => by
    by_cases hab : g a = g b
    · rcases first_diff_cstr hz l1 l2 (fun e => h1 (by simp [e])) (fun e => h2 (by simp [e])) with
        e | ⟨p1, p2, x, y, r1, r2, e1, e2, hp, hxy, h0⟩
      · exact Or.inl (by simp [hab, e])
      · refine Or.inr ⟨a :: p1, b :: p2, x, y, r1, r2, by simp [e1], by simp [e2], by simp [hab, hp], hxy, ?_⟩
        intro hm; simp only [List.mem_cons] at hm
        rcases hm with hm | hm
        · exact h1 (by simp [hm])
        · exact h0 hm
    · exact Or.inr ⟨[], [], a, b, l1 ++ [0#8], l2 ++ [0#8], rfl, rfl, rfl, hab, by simp⟩

theorem take_append_cons_ne {α : Type} (q : List α) {a b : α} (ra rb : List α) {n : Nat} (hab : a ≠ b)
    (h : q.length < n) : (q ++ a :: ra).take n ≠ (q ++ b :: rb).take n := by
  intro ht
  have := congrArg (fun l => l[q.length]?) ht
  simp [h] at this
  exact hab this

/-! ## strcmp, strncmp and their case-folding twins: the same two loops at `id` and at `tolower` -/
section
variable {f : Int → Int} {g : Byte → Byte} (h : Fold f g)
include h

theorem strncmpF_diff (m : Mem) (s1 s2 : Nat) (p1 p2 : List Byte) (x y : Byte) (k : Nat)
    (h1 : Holds m s1 (p1 ++ [x])) (h2 : Holds m s2 (p2 ++ [y])) (he : p1.map g = p2.map g) (h0 : 0#8 ∉ p1)
    (hxy : p1.length = k ∨ x = 0#8 ∨ g x ≠ g y) (hk : p1.length ≤ k) :
    strncmpLoop f m k s1 s2 = some (ucInt (g x) - ucInt (g y)) := by
  obtain ⟨r, rfl⟩ := Nat.exists_eq_add_of_le' hk
  rw [holds_snoc] at h1 h2
  rw [← (h.rel2 he).length_eq] at h2
  refine (advance2 (P := (· ≠ 0)) (h.rel2 he) (ne_zero_of_not_mem h0)
    (fun r k => strncmpLoop f m r (s1 + k) (s2 + k))
    (fun r k a b ha hb hP (hab : f (ucInt a) = f (ucInt b)) => by
      rw [strncmpLoop, rd_bind ha, if_pos hP, rd_bind hb, if_pos hab, Nat.add_assoc, Nat.add_assoc])
    h1.1 h2.1 r).trans ?_
  have e := diffAtF_eq f m _ _ x y h1.2 h2.2
  rw [h.uc, h.uc] at e
  cases r with
  | zero => exact e
  | succ r =>
    rw [strncmpLoop, rd_bind h1.2]
    by_cases hz : x = 0
    · rw [if_neg (fun h => h hz), e]
    · rw [if_pos hz, rd_bind h2.2,
        if_neg (show ¬ f (ucInt x) = f (ucInt y) from fun e' =>
          (hxy.resolve_left (by omega)).resolve_left hz ((h.eqF x y).mp e')), e]

theorem strcmpF_diff (m : Mem) (s1 s2 : Nat) (p1 p2 : List Byte) (x y : Byte) (fuel : Nat)
    (h1 : Holds m s1 (p1 ++ [x])) (h2 : Holds m s2 (p2 ++ [y])) (he : p1.map g = p2.map g) (h0 : 0#8 ∉ p1)
    (hxy : x = 0#8 ∨ g x ≠ g y) (hf : p1.length < fuel) :
    strcmpLoop f m fuel s1 s2 = some (ucInt (g x) - ucInt (g y)) := by
  obtain ⟨r, rfl⟩ := fuel_split hf
  rw [holds_snoc] at h1 h2
  rw [← (h.rel2 he).length_eq] at h2
  refine (advance2 (P := (· ≠ 0)) (h.rel2 he) (ne_zero_of_not_mem h0)
    (fun r k => strcmpLoop f m r (s1 + k) (s2 + k))
    (fun r k a b ha hb hP (hab : f (ucInt a) = f (ucInt b)) => by
      rw [strcmpLoop, rd_bind ha, if_pos hP, rd_bind hb, if_pos hab, Nat.add_assoc, Nat.add_assoc])
    h1.1 h2.1 (r + 1)).trans ?_
  have e := diffAtF_eq f m _ _ x y h1.2 h2.2
  rw [h.uc, h.uc] at e
  rw [strcmpLoop, rd_bind h1.2]
  by_cases hz : x = 0
  · rw [if_neg (fun h => h hz), e]
  · rw [if_pos hz, rd_bind h2.2,
      if_neg (show ¬ f (ucInt x) = f (ucInt y) from fun e' => hxy.resolve_left hz ((h.eqF x y).mp e')), e]

theorem strcmpF_total (m : Mem) (s1 s2 : Nat) (l1 l2 : List Byte) (fuel : Nat) (h1 : CStr m s1 l1)
    (h2 : CStr m s2 l2) (hf : l1.length < fuel) :
    ∃ r, strcmpLoop f m fuel s1 s2 = some r ∧ (r = 0 ↔ l1.map g = l2.map g) := by
  rcases first_diff_cstr h.zero l1 l2 h1.2 h2.2 with e | ⟨p1, p2, x, y, r1, r2, e1, e2, hp, hxy, h0⟩
  · exact ⟨_, strcmpF_diff h m s1 s2 l1 l2 0#8 0#8 fuel h1.1 h2.1 e h1.2 (Or.inl rfl) hf, by simp [e]⟩
  · have g1 := h1.1; have g2 := h2.1
    rw [e1] at g1; rw [e2] at g2
    have hpl : p1.length ≤ l1.length := by have := congrArg List.length e1; simp at this; omega
    refine ⟨_, strcmpF_diff h m s1 s2 p1 p2 x y fuel g1.upto g2.upto hp h0 (Or.inr hxy) (by omega), ?_⟩
    rw [ucInt_sub_eq_zero]
    refine ⟨fun e => absurd e hxy, fun hmap => ?_⟩
    have : (l1 ++ [0#8]).map g = (l2 ++ [0#8]).map g := by simp [hmap]
    rw [e1, e2, List.map_append, List.map_append, hp, List.map_cons, List.map_cons] at this
    exact absurd (List.cons.inj (List.append_cancel_left this)).1 hxy

/-- arrays, not C strings: the bound is used up at character `k` and nothing behind it is read, so no terminator
is needed -/
theorem strncmpF_cut (m : Mem) (s1 s2 : Nat) (P1 P2 : List Byte) (k : Nat)
    (h1 : Holds m s1 P1) (h2 : Holds m s2 P2) (he : P1.map g = P2.map g) (h0 : 0#8 ∉ P1)
    (hk : k < P1.length) : strncmpLoop f m k s1 s2 = some 0 := by
  have hk2 : k < P2.length := by have := congrArg List.length he; simp at this; omega
  have g1 := h1.take (k + 1)
  have g2 := h2.take (k + 1)
  rw [List.take_succ_eq_append_getElem hk] at g1
  rw [List.take_succ_eq_append_getElem hk2] at g2
  have hxk : g P1[k] = g P2[k] := by
    have := congrArg (fun l => l[k]?) he
    simpa [hk, hk2] using this
  have := strncmpF_diff h m s1 s2 (P1.take k) (P2.take k) P1[k] P2[k] k g1 g2
    (by rw [List.map_take, List.map_take, he]) (fun e => h0 (List.mem_of_mem_take e))
    (Or.inl (by rw [List.length_take]; omega)) (by rw [List.length_take]; omega)
  rwa [hxk, Int.sub_self] at this

theorem strncmpF_total (m : Mem) (s1 s2 : Nat) (l1 l2 : List Byte) (n : Nat) (h1 : CStr m s1 l1)
    (h2 : CStr m s2 l2) :
    ∃ r, (if n = 0 then some 0 else strncmpLoop f m (n - 1) s1 s2) = some r ∧
      (r = 0 ↔ ((l1 ++ [0#8]).take n).map g = ((l2 ++ [0#8]).take n).map g) := by
  cases n with
  | zero => exact ⟨0, rfl, by simp⟩
  | succ k =>
    rw [if_neg (Nat.succ_ne_zero k), Nat.add_sub_cancel]
    rcases first_diff_cstr h.zero l1 l2 h1.2 h2.2 with e | ⟨p1, p2, x, y, r1, r2, e1, e2, hp, hxy, h0⟩
    · refine ⟨0, ?_, by simp [List.map_take, e]⟩
      by_cases hn : l1.length ≤ k
      · have := strncmpF_diff h m s1 s2 l1 l2 0#8 0#8 k h1.1 h2.1 e h1.2 (Or.inr (Or.inl rfl)) hn
        rwa [Int.sub_self] at this
      · exact strncmpF_cut h m s1 s2 l1 l2 k h1.holds h2.holds e h1.2 (by omega)
    · have g1 := h1.1; have g2 := h2.1
      rw [e1] at g1; rw [e2] at g2
      have m1 : (l1 ++ [0#8]).map g = p1.map g ++ g x :: r1.map g := by rw [e1]; simp
      have m2 : (l2 ++ [0#8]).map g = p1.map g ++ g y :: r2.map g := by rw [e2, hp]; simp
      rw [List.map_take, List.map_take, m1, m2]
      by_cases hn : p1.length ≤ k
      · refine ⟨_, strncmpF_diff h m s1 s2 p1 p2 x y k g1.upto g2.upto hp h0 (Or.inr (Or.inr hxy)) hn, ?_⟩
        rw [ucInt_sub_eq_zero]
        exact ⟨fun e => absurd e hxy, fun ht => absurd ht (take_append_cons_ne _ _ _ hxy (by simp; omega))⟩
      · refine ⟨0, strncmpF_cut h m s1 s2 p1 p2 k (holds_append.mp g1).1 (holds_append.mp g2).1 hp h0 (by omega), ?_⟩
        simp [List.take_append_of_le_length (show k + 1 ≤ (p1.map g).length by simp; omega)]

end

/-! ## strstr and strcasestr: `strstrF` at `id` and at `tolower` -/

theorem exists_least (P : Nat → Prop) : ∀ n, P n → ∃ k, P k ∧ ∀ i, i < k → ¬ P i := by
  intro n
  induction n using Nat.strongRecOn with
  | _ n ih =>
    intro hn
    by_cases h : ∃ i, i < n ∧ P i
    · obtain ⟨i, hi, hp⟩ := h; exact ih i hi hp
    · exact ⟨n, hn, fun i hi hp => h ⟨i, hi, hp⟩⟩

theorem strstrF_empty_needle (f : Int → Int) (m : Mem) (haystack needle fuel : Nat) (hn : m needle = some 0#8) :
    strstrF f m haystack needle fuel = some (some haystack) := by
  rw [strstrF, rd_bind hn]; rfl

theorem matchAt_cons_nil {R : Byte → Byte → Prop} {b : Byte} {nd : List Byte} : ¬ MatchAt R (b :: nd) [] := by
  simp [MatchAt]

section
variable {f : Int → Int} {g : Byte → Byte} (h : Fold f g)
include h

theorem strstrInner_spec (m : Mem)
    (nd hl : List Byte) (hy n fuel : Nat) (hH : CStr m hy hl) (hN : CStr m n nd) (hfu : hl.length < fuel) :
    ∃ n' b, strstrInner f m fuel hy n = some n' ∧ m n' = some b ∧ (b = 0#8 ↔ MatchAt (EqS f) nd hl) := by
  induction nd generalizing hl hy n fuel with
  | nil =>
    obtain ⟨r, rfl⟩ : ∃ k, fuel = k + 1 := ⟨fuel - 1, by omega⟩
    have hn := cstr_nil.mp hN
    refine ⟨n, 0#8, ?_, hn, by simp [MatchAt]⟩
    cases hl with
    | nil => simp [strstrInner, cstr_nil.mp hH]
    | cons a hl =>
      obtain ⟨h1, h2, _⟩ := cstr_cons.mp hH
      have : ¬ f (scInt a) = f (scInt 0#8) := fun e => h2 (h.eq_zero_of_eqS a e)
      simp [strstrInner, h1, h2, hn, this]
  | cons b nd ih =>
    obtain ⟨r, rfl⟩ : ∃ k, fuel = k + 1 := ⟨fuel - 1, by omega⟩
    obtain ⟨n1, n2, n3⟩ := cstr_cons.mp hN
    cases hl with
    | nil =>
      exact ⟨n, b, by simp [strstrInner, cstr_nil.mp hH], n1, by simp [MatchAt, n2]⟩
    | cons a hl =>
      obtain ⟨h1, h2, h3⟩ := cstr_cons.mp hH
      simp only [List.length_cons] at hfu
      by_cases hab : f (scInt a) = f (scInt b)
      · obtain ⟨n', b', e, hb', hiff⟩ := ih hl (hy + 1) (n + 1) r h3 n3 (by omega)
        refine ⟨n', b', by simp [strstrInner, h1, h2, n1, hab, e], hb', ?_⟩
        simp only [MatchAt, EqS, hab, true_and]; exact hiff
      · exact ⟨n, b, by simp [strstrInner, h1, h2, n1, hab], n1, by simp [MatchAt, EqS, hab, n2]⟩

theorem strstrOuter_skip (m : Mem)
    (nd : List Byte) (needle fuel : Nat) (hN : CStr m needle nd) (p rest : List Byte) (hs r : Nat)
    (hH : CStr m hs (p ++ rest)) (hno : ∀ i, i < p.length → ¬ MatchAt (EqS f) nd ((p ++ rest).drop i))
    (hfu : (p ++ rest).length < fuel) :
    strstrOuter f m needle fuel (r + p.length) hs = strstrOuter f m needle fuel r (hs + p.length) :=
  advance_at (P := fun k b => b ≠ 0 ∧ k < p.length)
    (fun i hi => ⟨hH.ne_zero _ (List.mem_append_left _ (List.getElem_mem hi)), hi⟩)
    (fun r k => strstrOuter f m needle fuel r (hs + k))
    (fun r k b hb hP => by
      have hk := cstr_suffix (p := (p ++ rest).take k) (r := (p ++ rest).drop k) (by rwa [List.take_append_drop])
      rw [List.length_take, Nat.min_eq_left (by rw [List.length_append]; omega)] at hk
      obtain ⟨n', b', e, hb', hiff⟩ := strstrInner_spec h m nd _ (hs + k) needle fuel hk hN
        (by rw [List.length_drop]; omega)
      rw [strstrOuter, rd_bind hb, if_pos hP.1, e, some_bind, rd_bind hb',
        if_neg (show ¬ b' = 0 from fun e0 => hno k hP.2 (hiff.mp e0)), Nat.add_assoc])
    (holds_append.mp hH.holds).1 r

theorem strstrOuter_found (m : Mem)
    (nd : List Byte) (needle fuel : Nat) (hN : CStr m needle nd) (hne : nd ≠ [])
    (p rest : List Byte) (hs r : Nat) (hH : CStr m hs (p ++ rest)) (hm : MatchAt (EqS f) nd rest)
    (hno : ∀ i, i < p.length → ¬ MatchAt (EqS f) nd ((p ++ rest).drop i))
    (hfu : (p ++ rest).length < fuel) (hg : p.length < r) :
    strstrOuter f m needle fuel r hs = some (some (hs + p.length)) := by
  obtain ⟨r, rfl⟩ := fuel_split hg
  rw [strstrOuter_skip h m nd needle fuel hN p rest hs (r + 1) hH hno hfu]
  have hR := cstr_suffix hH
  obtain ⟨n', b, e, hb, hiff⟩ := strstrInner_spec h m nd rest _ needle fuel hR hN
    (by rw [List.length_append] at hfu; omega)
  cases rest with
  | nil =>
    cases nd with
    | nil => exact absurd rfl hne
    | cons _ _ => exact absurd hm matchAt_cons_nil
  | cons a rest =>
    obtain ⟨h1, h2, _⟩ := cstr_cons.mp hR
    rw [strstrOuter, rd_bind h1, if_pos (show a ≠ 0 from h2), e, some_bind, rd_bind hb,
      if_pos (show b = 0 from hiff.mpr hm)]; rfl

theorem strstrOuter_none (m : Mem)
    (nd : List Byte) (needle fuel : Nat) (hN : CStr m needle nd)
    (hl : List Byte) (hs r : Nat) (hH : CStr m hs hl)
    (hno : ∀ i, i < hl.length → ¬ MatchAt (EqS f) nd (hl.drop i))
    (hfu : hl.length < fuel) (hg : hl.length < r) :
    strstrOuter f m needle fuel r hs = some none := by
  obtain ⟨r, rfl⟩ := fuel_split hg
  rw [strstrOuter_skip h m nd needle fuel hN hl [] hs (r + 1) (by rwa [List.append_nil])
    (by rwa [List.append_nil]) (by rwa [List.append_nil]), strstrOuter, rd_bind hH.nul, if_neg (fun h => h rfl)]; rfl

theorem strstrF_found (m : Mem) (haystack needle : Nat) (nd p mid r : List Byte) (fuel : Nat)
    (hH : CStr m haystack (p ++ mid ++ r)) (hN : CStr m needle nd) (hne : nd ≠ [])
    (hmid : mid.map g = nd.map g)
    (hfirst : ∀ i, i < p.length → ¬ nd.map g <+: ((p ++ mid ++ r).drop i).map g)
    (hf : (p ++ mid ++ r).length < fuel) :
    strstrF f m haystack needle fuel = some (some (haystack + p.length)) := by
  obtain ⟨b, nd', rfl⟩ := List.exists_cons_of_ne_nil hne
  obtain ⟨n1, n2, _⟩ := cstr_cons.mp hN
  rw [List.append_assoc] at hH hfirst hf
  rw [strstrF, rd_bind n1, if_neg (show ¬ b = 0 from n2)]
  exact strstrOuter_found h m (b :: nd') needle fuel hN hne p (mid ++ r) haystack fuel hH
    ((h.matchAt _ _).mpr (by rw [List.map_append, hmid]; exact List.prefix_append _ _))
    (fun i hi hm => hfirst i hi ((h.matchAt _ _).mp hm)) hf (by simp at hf; omega)

theorem strstrF_absent (m : Mem) (haystack needle : Nat) (nd l : List Byte) (fuel : Nat)
    (hH : CStr m haystack l) (hN : CStr m needle nd) (hne : nd ≠ [])
    (hno : ∀ i, i < l.length → ¬ nd.map g <+: (l.drop i).map g) (hf : l.length < fuel) :
    strstrF f m haystack needle fuel = some none := by
  obtain ⟨b, nd', rfl⟩ := List.exists_cons_of_ne_nil hne
  obtain ⟨n1, n2, _⟩ := cstr_cons.mp hN
  rw [strstrF, rd_bind n1, if_neg (show ¬ b = 0 from n2)]
  exact strstrOuter_none h m (b :: nd') needle fuel hN l haystack fuel hH
    (fun i hi hm => hno i hi ((h.matchAt _ _).mp hm)) hf hf

theorem strstrF_first_match (m : Mem) (haystack needle : Nat) (nd l : List Byte) (fuel k : Nat)
    (hH : CStr m haystack l) (hN : CStr m needle nd) (hf : l.length < fuel)
    (hk : k ≤ l.length) (hm : nd.map g <+: (l.drop k).map g)
    (hfirst : ∀ i, i < k → ¬ nd.map g <+: (l.drop i).map g) :
    strstrF f m haystack needle fuel = some (some (haystack + k)) := by
  cases nd with
  | nil =>
    cases k with
    | zero => exact strstrF_empty_needle f m haystack needle fuel (cstr_nil.mp hN)
    | succ j => exact absurd (by simp) (hfirst 0 (by omega))
  | cons b nd' =>
    obtain ⟨t, ht⟩ := hm
    have el : l = l.take k ++ (l.drop k).take (b :: nd').length ++ (l.drop k).drop (b :: nd').length := by
      rw [List.append_assoc, List.take_append_drop, List.take_append_drop]
    have hmid : ((l.drop k).take (b :: nd').length).map g = (b :: nd').map g := by
      rw [List.map_take, ← ht]; simp
    have hpl : (l.take k).length = k := by simp [Nat.min_eq_left hk]
    have := strstrF_found h m haystack needle (b :: nd') (l.take k) _ _ fuel (by rw [← el]; exact hH) hN
      (by simp) hmid (by rw [← el, hpl]; exact hfirst) (by rw [← el]; exact hf)
    rwa [hpl] at this

theorem strstrF_total (m : Mem) (haystack needle : Nat) (nd l : List Byte) (fuel : Nat)
    (hH : CStr m haystack l) (hN : CStr m needle nd) (hf : l.length < fuel) :
    ∃ r, strstrF f m haystack needle fuel = some r ∧
      (r = none ↔ ∀ i, i ≤ l.length → ¬ nd.map g <+: (l.drop i).map g) ∧
      (∀ k, r = some (haystack + k) → k ≤ l.length →
        (nd.map g <+: (l.drop k).map g ∧ ∀ i, i < k → ¬ nd.map g <+: (l.drop i).map g)) := by
  by_cases hex : ∃ k, k ≤ l.length ∧ nd.map g <+: (l.drop k).map g
  · obtain ⟨k0, hk0⟩ := hex
    obtain ⟨k, ⟨hk, hm⟩, hmin⟩ := exists_least (fun k => k ≤ l.length ∧ nd.map g <+: (l.drop k).map g) k0 hk0
    have hfirst : ∀ i, i < k → ¬ nd.map g <+: (l.drop i).map g := fun i hi hp => hmin i hi ⟨by omega, hp⟩
    refine ⟨_, strstrF_first_match h m haystack needle nd l fuel k hH hN hf hk hm hfirst, ?_, ?_⟩
    · exact ⟨fun e => by simp at e, fun e => absurd hm (e k hk)⟩
    · intro k' hk' _
      have : k' = k := by simp at hk'; omega
      subst this; exact ⟨hm, hfirst⟩
  · have hno : ∀ i, i ≤ l.length → ¬ nd.map g <+: (l.drop i).map g := fun i hi hp => hex ⟨i, hi, hp⟩
    have hne : nd ≠ [] := fun e => hno 0 (by omega) (by rw [e]; simp)
    refine ⟨none, strstrF_absent h m haystack needle nd l fuel hH hN hne (fun i hi => hno i (by omega)) hf, ?_, ?_⟩
    · exact ⟨fun _ => hno, fun _ => rfl⟩
    · intro k hk; simp at hk

end

/-! ## list facts behind the totality and closed-form theorems of Props.lean and behind `strtok_r_step` -/

theorem span_spec (p : Byte → Bool) (l : List Byte) :
    l = l.takeWhile p ++ l.dropWhile p ∧ (∀ y ∈ l.takeWhile p, p y = true) ∧
    (∀ x r', l.dropWhile p = x :: r' → p x = false) :=
  ⟨List.takeWhile_append_dropWhile.symm, fun _ => mem_takeWhile_sat, fun _ _ => dropWhile_head⟩

theorem CStr.span {m : Mem} {s : Nat} {l : List Byte} (h : CStr m s l) (p : Byte → Bool) :
    ∃ x, Holds m s (l.takeWhile p ++ [x]) ∧ 0#8 ∉ l.takeWhile p ∧ (l.takeWhile p).length ≤ l.length ∧
      (∀ y ∈ l.takeWhile p, p y = true) ∧
      (l.dropWhile p = [] ∧ x = 0#8 ∨ ∃ r, l.dropWhile p = x :: r ∧ p x = false) := by
  obtain ⟨e, hq, hr⟩ := span_spec p l
  have h0 : 0#8 ∉ l.takeWhile p := fun e0 => h.2 ((List.takeWhile_sublist p).mem e0)
  have hlen := length_takeWhile_le p l
  cases hd : l.dropWhile p with
  | nil =>
    rw [hd, List.append_nil] at e
    exact ⟨0#8, by rw [← e]; exact h.1, h0, hlen, hq, Or.inl ⟨rfl, rfl⟩⟩
  | cons x r =>
    rw [hd] at e
    exact ⟨x, by rw [e] at h; exact h.upto, h0, hlen, hq, Or.inr ⟨r, rfl, hr x r hd⟩⟩

theorem tokRef_cases (D l : List Byte) :
    (tokRef D l = none ∧ ∀ y ∈ l, y ∈ D) ∨
    ∃ q t, (∀ y ∈ q, y ∈ D) ∧ (∀ y ∈ t, y ∉ D) ∧ t ≠ [] ∧
      ((tokRef D l = some (q.length, t, none) ∧ l = q ++ t) ∨
       ∃ d r, d ∈ D ∧ tokRef D l = some (q.length, t, some r) ∧ l = q ++ t ++ d :: r) := by
  obtain ⟨e1, hq, hr⟩ := span_spec (fun x => decide (x ∈ D)) l
  unfold tokRef
  cases hdr : l.dropWhile (fun x => decide (x ∈ D)) with
  | nil =>
    rw [hdr, List.append_nil] at e1
    exact Or.inl ⟨rfl, fun y hy => by simpa using hq y (e1 ▸ hy)⟩
  | cons x r =>
    obtain ⟨e2, ht, hr2⟩ := span_spec (fun y => decide (y ∉ D)) (x :: r)
    have hxD : x ∉ D := by simpa using hr x r hdr
    refine Or.inr ⟨_, _, fun y hy => by simpa using hq y hy, fun y hy => by simpa using ht y hy,
      by simp [hxD], ?_⟩
    rw [hdr] at e1
    cases hd2 : (x :: r).dropWhile (fun y => decide (y ∉ D)) with
    | nil =>
      rw [hd2, List.append_nil] at e2
      exact Or.inl ⟨by simp only [hd2], by rw [← e2]; exact e1⟩
    | cons dl r3 =>
      rw [hd2] at e2
      exact Or.inr ⟨dl, r3, by simpa using hr2 dl r3 hd2, by simp only [hd2], by rw [List.append_assoc, ← e2]; exact e1⟩

theorem first_diff : ∀ (l1 l2 : List Byte), l1.length = l2.length →
    l1 = l2 ∨ ∃ p x y r1 r2, l1 = p ++ x :: r1 ∧ l2 = p ++ y :: r2 ∧ x ≠ y
  | [], [], _ => Or.inl rfl
  | [], _ :: _, h => by simp at h
  | _ :: _, [], h => by simp at h
  | a :: l1, b :: l2, h => by
    by_cases hab : a = b
    · subst hab
      rcases first_diff l1 l2 (by simpa using h) with e | ⟨p, x, y, r1, r2, e1, e2, hxy⟩
      · exact Or.inl (by rw [e])
      · exact Or.inr ⟨a :: p, x, y, r1, r2, by simp [e1], by simp [e2], hxy⟩
    · exact Or.inr ⟨[], a, b, l1, l2, rfl, rfl, hab⟩

theorem last_split {c : Byte} : ∀ {l : List Byte}, c ∈ l → ∃ p r, l = p ++ c :: r ∧ c ∉ r
  | [], h => by simp at h
  | a :: l, h => by
    by_cases hin : c ∈ l
    · obtain ⟨p, r, e, hr⟩ := last_split hin
      exact ⟨a :: p, r, by rw [e]; rfl, hr⟩
    · have : c = a := (List.mem_cons.mp h).resolve_right hin
      subst this
      exact ⟨[], l, rfl, hin⟩

end Igris.C08
