/-
  C08 - the linear-time form (Fast.lean) computes what the literal model computes.
  `absA c` is the memory the array `c` stands for.  For every definition `fA` of Fast.lean:
      f (absA c) args = (fA c args).map <abs on the memory component>
  i.e. the same fault / no-fault behaviour, the same return value, and the resulting array stands for
  the resulting memory of the literal model (for memset and strncpy, which are their loop and a return, and
  memmove, which chooses between such a loop and memcpy, in Props.lean).  Each definition is walked once, as in
  Monotone.lean, `bind_sim` taking a step's equation the way `OLe.bind` takes its `_le`.
-/
import IgrisModel.C08.Fast
namespace Igris.C08
open Igris.Proto

def absP {α : Type} (p : AMem × α) : Mem × α := (absA p.1, p.2)

@[simp] theorem rd_absA (c : AMem) (a : Ptr) : rd (absA c) a = rdA c a := rfl

theorem absA_set (c : AMem) (a : Ptr) (v : Byte) (h : a < c.size) :
    absA (c.setIfInBounds a (some v)) = fun j => if j = a then some v else absA c j := by
  funext j
  simp only [absA, Array.getD_eq_getD_getElem?, Array.getElem?_setIfInBounds]
  by_cases hj : j = a
  · subst hj; simp [h]
  · have : ¬ a = j := fun e => hj e.symm
    simp [hj, this]

@[simp] theorem wr_absA (c : AMem) (a : Ptr) (v : Byte) : wr (absA c) a v = (wrA c a v).map absA := by
  unfold wr wrA
  have e : absA c a = c.getD a none := rfl
  rw [e]
  cases h : c.getD a none with
  | none => rfl
  | some b =>
    have hlt : a < c.size := by
      by_cases hlt : a < c.size
      · exact hlt
      · simp [Array.getD_eq_getD_getElem?, Array.getElem?_eq_none (Nat.le_of_not_lt hlt)] at h
    simp [absA_set c a v hlt]

section
variable {α β γ : Type}

theorem bind_sim {x : Option AMem} {y : Option Mem} {f : AMem → Option β} {g : Mem → Option γ} {φ : β → γ}
    (hx : y = x.map absA) (h : ∀ c, g (absA c) = (f c).map φ) : y >>= g = (x >>= f).map φ := by
  subst hx; cases x <;> simp [h]

theorem bind_simP {x : Option (AMem × α)} {y : Option (Mem × α)} {f : AMem × α → Option β} {g : Mem × α → Option γ}
    {φ : β → γ} (hx : y = x.map absP) (h : ∀ c a, g (absA c, a) = (f (c, a)).map φ) : y >>= g = (x >>= f).map φ := by
  subst hx
  cases x with
  | none => rfl
  | some p => obtain ⟨c, a⟩ := p; simp [absP, h]

/-- also for a read: `rd (absA c) a` is `rdA c a` by definition -/
theorem bind_same {x : Option α} {f : α → Option β} {g : α → Option γ} {φ : β → γ}
    (h : ∀ a, g a = (f a).map φ) : x >>= g = (x >>= f).map φ := by
  cases x <;> simp [h]

theorem ite_sim {c : Prop} [Decidable c] {a a' : Option β} {b b' : Option γ} {φ : β → γ}
    (ht : c → b = a.map φ) (he : ¬c → b' = a'.map φ) : (if c then b else b') = (if c then a else a').map φ := by
  by_cases hc : c
  · simpa [hc] using ht hc
  · simpa [hc] using he hc
end

/-- `do let m ← loop; pure (m, a)`: how the writers return -/
theorem ret_sim {α : Type} {x : Option AMem} {y : Option Mem} (h : y = x.map absA) (a : α) :
    (y >>= fun m => pure (m, a)) = (x >>= fun c => pure (c, a)).map absP := by
  subst h; cases x <;> rfl

theorem loadN_absA (c : AMem) : ∀ k a, loadN (absA c) k a = loadNA c k a
  | 0, _ => rfl
  | k + 1, a => by simp only [loadN, loadNA, rd_absA, loadN_absA c k]

theorem scanNul_absA (c : AMem) : ∀ f s, scanNul (absA c) f s = scanNulA c f s
  | 0, _ => rfl
  | f + 1, s => by simp only [scanNul, scanNulA, rd_absA, scanNul_absA c f]

theorem strlen_absA (c : AMem) (s fuel : Nat) : strlen (absA c) s fuel = strlenA c s fuel := by
  simp only [strlen, strlenA, scanNul_absA]

theorem strnlenLoop_absA (c : AMem) : ∀ r len s, strnlenLoop (absA c) r len s = strnlenLoopA c r len s
  | 0, _, _ => rfl
  | r + 1, len, s => by simp only [strnlenLoop, strnlenLoopA, rd_absA, strnlenLoop_absA c r]

theorem strnlen_absA (c : AMem) (s n : Nat) : strnlen (absA c) s n = strnlenA c s n := strnlenLoop_absA c _ _ _

theorem memsetLoop_absA (v : Byte) : ∀ n (c : AMem) p,
    memsetLoop v n (absA c) p = (memsetLoopA v n c p).map absA
  | 0, _, _ => rfl
  | n + 1, c, p => by
    simp only [memsetLoopA, memsetLoop]
    refine bind_sim (wr_absA ..) fun _ => ?_
    exact memsetLoop_absA v n _ _

theorem storeL_absA : ∀ (w : List Byte) (c : AMem) a, storeL w (absA c) a = (storeLA w c a).map absA
  | [], _, _ => rfl
  | b :: tl, c, a => by
    simp only [storeL, storeLA]
    refine bind_sim (wr_absA ..) fun _ => ?_
    exact storeL_absA tl _ _

theorem copyWord_absA (c : AMem) (d s : Ptr) : copyWord (absA c) d s = (copyWordA c d s).map absA := by
  simp only [copyWord, copyWordA, loadN_absA]
  refine bind_same fun _ => ?_
  exact storeL_absA _ _ _

theorem memcpyLoop4_absA : ∀ f (c : AMem) n d s,
    memcpyLoop4 f (absA c) n d s = (memcpyLoop4A f c n d s).map absP
  | 0, _, _, _, _ => rfl
  | f + 1, c, n, d, s => by
    simp only [memcpyLoop4, memcpyLoop4A]
    refine ite_sim (fun _ => ?_) (fun _ => rfl)
    refine bind_sim (copyWord_absA ..) fun _ => ?_
    refine bind_sim (copyWord_absA ..) fun _ => ?_
    refine bind_sim (copyWord_absA ..) fun _ => ?_
    refine bind_sim (copyWord_absA ..) fun _ => ?_
    exact memcpyLoop4_absA f _ _ _ _

theorem memcpyLoop1_absA : ∀ f (c : AMem) n d s,
    memcpyLoop1 f (absA c) n d s = (memcpyLoop1A f c n d s).map absP
  | 0, _, _, _, _ => rfl
  | f + 1, c, n, d, s => by
    simp only [memcpyLoop1, memcpyLoop1A]
    refine ite_sim (fun _ => ?_) (fun _ => rfl)
    refine bind_sim (copyWord_absA ..) fun _ => ?_
    exact memcpyLoop1_absA f _ _ _ _

theorem memcpyBytes_absA : ∀ n (c : AMem) d s,
    memcpyBytes n (absA c) d s = (memcpyBytesA n c d s).map absA
  | 0, _, _, _ => rfl
  | n + 1, c, d, s => by
    simp only [memcpyBytes, memcpyBytesA]
    refine bind_same fun _ => ?_
    refine bind_sim (wr_absA ..) fun _ => ?_
    exact memcpyBytes_absA n _ _ _

theorem memcpy_absA (c : AMem) (dst src : Ptr) (n : Nat) :
    memcpy (absA c) dst src n = (memcpyA c dst src n).map absP := by
  simp only [memcpy, memcpyA]
  refine ite_sim (fun _ => ?_) (fun _ => ?_)
  · refine bind_simP (memcpyLoop4_absA ..) fun c1 a1 => ?_
    obtain ⟨n1, d1, s1⟩ := a1
    dsimp only
    refine bind_simP (memcpyLoop1_absA ..) fun c2 a2 => ?_
    obtain ⟨n2, d2, s2⟩ := a2
    dsimp only
    exact ret_sim (memcpyBytes_absA ..) _
  · exact ret_sim (memcpyBytes_absA ..) _

theorem memmoveBack_absA : ∀ n (c : AMem) d s,
    memmoveBack n (absA c) d s = (memmoveBackA n c d s).map absA
  | 0, _, _, _ => rfl
  | n + 1, c, d, s => by
    simp only [memmoveBack, memmoveBackA]
    refine bind_same fun _ => ?_
    refine bind_sim (wr_absA ..) fun _ => ?_
    exact memmoveBack_absA n _ _ _

theorem strcpyLoop_absA : ∀ f (c : AMem) cp src,
    strcpyLoop f (absA c) cp src = (strcpyLoopA f c cp src).map absA
  | 0, _, _, _ => rfl
  | f + 1, c, cp, src => by
    simp only [strcpyLoop, strcpyLoopA]
    refine bind_same fun _ => ?_
    refine bind_sim (wr_absA ..) fun _ => ?_
    exact ite_sim (fun _ => strcpyLoop_absA f _ _ _) (fun _ => rfl)

theorem strcpy_absA (c : AMem) (d s fuel : Nat) : strcpy (absA c) d s fuel = (strcpyA c d s fuel).map absP :=
  ret_sim (strcpyLoop_absA _ _ _ _) _

theorem strncpyLoop_absA : ∀ n (c : AMem) dst src,
    strncpyLoop n (absA c) dst src = (strncpyLoopA n c dst src).map absA
  | 0, _, _, _ => rfl
  | n + 1, c, dst, src => by
    simp only [strncpyLoop, strncpyLoopA]
    refine bind_same fun _ => ?_
    refine bind_sim (wr_absA ..) fun _ => ?_
    exact ite_sim (fun _ => strncpyLoop_absA n _ _ _) (fun _ => memsetLoop_absA _ _ _ _)

theorem strlcpyLoop_absA : ∀ n (c : AMem) dst s,
    strlcpyLoop n (absA c) dst s = (strlcpyLoopA n c dst s).map absP
  | 0, _, _, _ => rfl
  | 1, _, _, _ => rfl
  | n + 2, c, dst, s => by
    simp only [strlcpyLoop, strlcpyLoopA]
    refine bind_same fun _ => ?_
    refine ite_sim (fun _ => rfl) (fun _ => ?_)
    refine bind_sim (wr_absA ..) fun _ => ?_
    exact strlcpyLoop_absA (n + 1) _ _ _

theorem strlcpy_absA (c : AMem) (d s size fuel : Nat) :
    strlcpy (absA c) d s size fuel = (strlcpyA c d s size fuel).map absP := by
  simp only [strlcpy, strlcpyA]
  refine ite_sim (fun _ => ?_) (fun _ => ?_)
  · rw [strlen_absA]
    refine bind_same fun _ => ?_
    rfl
  · refine bind_simP (strlcpyLoop_absA ..) fun c1 a1 => ?_
    obtain ⟨d1, s1⟩ := a1
    dsimp only
    refine bind_sim (wr_absA ..) fun _ => ?_
    rw [strlen_absA]
    refine bind_same fun _ => ?_
    rfl

theorem strcatCopy_absA : ∀ f (c : AMem) s1 s2,
    strcatCopy f (absA c) s1 s2 = (strcatCopyA f c s1 s2).map absA
  | 0, _, _, _ => rfl
  | f + 1, c, s1, s2 => by
    simp only [strcatCopy, strcatCopyA]
    refine bind_same fun _ => ?_
    refine bind_sim (wr_absA ..) fun _ => ?_
    exact ite_sim (fun _ => strcatCopy_absA f _ _ _) (fun _ => rfl)

theorem strcat_absA (c : AMem) (d s fuel : Nat) : strcat (absA c) d s fuel = (strcatA c d s fuel).map absP := by
  simp only [strcat, strcatA, scanNul_absA]
  refine bind_same fun _ => ?_
  exact ret_sim (strcatCopy_absA ..) _

theorem catStep_absA (c : AMem) (s1 s2 : Ptr) : catStep (absA c) s1 s2 = (catStepA c s1 s2).map absP := by
  simp only [catStep, catStepA]
  refine bind_same fun _ => ?_
  refine bind_sim (wr_absA ..) fun _ => ?_
  rfl

theorem cat4Body_absA (c : AMem) (s1 s2 : Ptr) : cat4Body (absA c) s1 s2 = (cat4BodyA c s1 s2).map absP := by
  simp only [cat4Body, cat4BodyA]
  refine bind_simP (catStep_absA ..) fun _ _ => ?_
  dsimp only
  refine ite_sim (fun _ => rfl) (fun _ => ?_)
  refine bind_simP (catStep_absA ..) fun _ _ => ?_
  dsimp only
  refine ite_sim (fun _ => rfl) (fun _ => ?_)
  refine bind_simP (catStep_absA ..) fun _ _ => ?_
  dsimp only
  refine ite_sim (fun _ => rfl) (fun _ => ?_)
  refine bind_simP (catStep_absA ..) fun _ _ => ?_
  dsimp only
  exact ite_sim (fun _ => rfl) (fun _ => rfl)

theorem strncat4_absA : ∀ k (c : AMem) s1 s2,
    strncat4 k (absA c) s1 s2 = (strncat4A k c s1 s2).map absP
  | 0, c, s1, s2 => by
    simp only [strncat4, strncat4A]
    refine bind_simP (cat4Body_absA ..) fun c1 r => ?_
    cases r <;> rfl
  | k + 1, c, s1, s2 => by
    simp only [strncat4, strncat4A]
    refine bind_simP (cat4Body_absA ..) fun c1 r => ?_
    cases r with
    | none => rfl
    | some x => exact strncat4_absA k _ _ _

theorem strncatTail_absA : ∀ n (c : AMem) s1 s2 x,
    strncatTail n (absA c) s1 s2 x = (strncatTailA n c s1 s2 x).map absA
  | 0, c, s1, s2, x => by
    simp only [strncatTail, strncatTailA]
    exact ite_sim (fun _ => wr_absA _ _ _) (fun _ => rfl)
  | n + 1, c, s1, s2, x => by
    simp only [strncatTail, strncatTailA]
    refine bind_simP (catStep_absA ..) fun _ _ => ?_
    dsimp only
    exact ite_sim (fun _ => rfl) (fun _ => strncatTail_absA n _ _ _ _)

theorem strncat_absA (c : AMem) (s1 s2 n fuel : Nat) :
    strncat (absA c) s1 s2 n fuel = (strncatA c s1 s2 n fuel).map absP := by
  simp only [strncat, strncatA, scanNul_absA]
  refine bind_same fun _ => ?_
  refine ite_sim (fun _ => ?_) (fun _ => ?_)
  · refine bind_simP (strncat4_absA ..) fun c1 r => ?_
    cases r with
    | none => rfl
    | some t =>
      obtain ⟨x, y, z⟩ := t
      dsimp only
      exact ret_sim (strncatTail_absA ..) _
  · exact ret_sim (strncatTail_absA ..) _

/-! ### strdup / strndup: the allocator is a parameter in both forms; `AllocSim` says the two forms agree -/

def AllocSim (malloc : Alloc) (mallocA : AllocA) : Prop :=
  ∀ c n, malloc (absA c) n = (mallocA c n).map absP

theorem strdup_absA {malloc : Alloc} {mallocA : AllocA} (hm : AllocSim malloc mallocA) (c : AMem) (s fuel : Nat) :
    strdup malloc (absA c) s fuel = (strdupA mallocA c s fuel).map absP := by
  simp only [strdup, strdupA, strlen_absA]
  refine bind_same fun l => ?_
  rw [hm c (l + 1)]
  cases mallocA c (l + 1) with
  | none => rfl
  | some x =>
    obtain ⟨c1, p⟩ := x
    simp only [Option.map_some, absP]
    refine bind_simP (strcpy_absA ..) fun c2 a2 => ?_
    rfl

theorem strndup_absA {malloc : Alloc} {mallocA : AllocA} (hm : AllocSim malloc mallocA) (c : AMem) (s size : Nat) :
    strndup malloc (absA c) s size = (strndupA mallocA c s size).map absP := by
  simp only [strndup, strndupA, strnlen_absA]
  refine bind_same fun l => ?_
  rw [hm c (l + 1)]
  cases mallocA c (l + 1) with
  | none => rfl
  | some x =>
    obtain ⟨c1, p⟩ := x
    simp only [Option.map_some, absP]
    refine bind_simP (memcpy_absA ..) fun c2 a2 => ?_
    dsimp only
    refine bind_sim (wr_absA ..) fun _ => ?_
    rfl

theorem absA_grow (c : AMem) (k : Nat) : absA (growA c k) = absA c := by
  unfold growA
  split
  · funext j
    simp only [absA, Array.getD_eq_getD_getElem?, Array.getElem?_append]
    by_cases hj : j < c.size
    · simp [hj]
    · simp only [hj, if_false]
      rw [Array.getElem?_eq_none (Nat.le_of_not_lt hj), Array.getElem?_replicate]
      split <;> rfl
  · rfl

theorem size_grow (c : AMem) (k : Nat) : k ≤ (growA c k).size := by
  unfold growA
  split
  · simp; omega
  · omega

theorem absA_fill : ∀ n (c : AMem) a, a + n ≤ c.size →
    absA (fillA n c a) = fun j => if a ≤ j ∧ j < a + n then some 0xA5#8 else absA c j
  | 0, c, a, _ => by
    funext j
    have : ¬(a ≤ j ∧ j < a + 0) := by omega
    simp only [fillA, if_neg this]
  | n + 1, c, a, h => by
    rw [fillA, absA_fill n _ (a + 1) (by simp; omega), absA_set c a _ (by omega)]
    funext j
    by_cases h1 : a + 1 ≤ j ∧ j < a + 1 + n
    · have h2 : a ≤ j ∧ j < a + (n + 1) := by omega
      simp [h1, h2]
    · by_cases hja : j = a
      · simp [hja]
      · have h2 : ¬(a ≤ j ∧ j < a + (n + 1)) := by omega
        simp [h1, h2, hja]

end Igris.C08
