/-
  C08 — the partial memory: what reads and writes do to the regions the specifications speak of
  (`Holds`, `Mapped`, `CStr`, `SameOutside`), and `stored`, the memory after a run of bytes has been written.
-/
import IgrisModel.C08.Spec
namespace Igris.C08
open Igris.Proto

@[simp] theorem rd_eq (m : Mem) (a : Ptr) : rd m a = m a := rfl

theorem rd_bind {α : Type} {m : Mem} {a : Ptr} {b : Byte} {f : Byte → Option α} (h : m a = some b) :
    (rd m a >>= f) = f b := by rw [rd, h]; rfl

theorem some_bind {α β : Type} (a : α) (f : α → Option β) : (some a >>= f) = f a := rfl

theorem ite_bind {α β : Type} (c : Prop) [Decidable c] (x y : Option α) (K : α → Option β) :
    (if c then x else y) >>= K = if c then x >>= K else y >>= K := by
  split <;> rfl

theorem wr_eq_some {m m' : Mem} {a : Ptr} {v : Byte} (h : wr m a v = some m') :
    (m a).isSome ∧ m' = fun j => if j = a then some v else m j := by
  unfold wr at h
  cases hm : m a with
  | none => simp [hm] at h
  | some x => simp [hm] at h; simp [h]

theorem Holds.nil (m : Mem) (a : Ptr) : Holds m a [] := by
  intro i h; simp at h

theorem forall_lt_succ_shift {Q : Nat → Nat → Prop} {a n : Nat} :
    (∀ i, i < n + 1 → Q i (a + i)) ↔ Q 0 a ∧ ∀ i, i < n → Q (i + 1) (a + 1 + i) := by
  constructor
  · intro h
    refine ⟨h 0 (Nat.succ_pos n), fun i hi => ?_⟩
    rw [Nat.add_right_comm]; exact h (i + 1) (Nat.succ_lt_succ hi)
  · rintro ⟨h0, h1⟩ i hi
    cases i with
    | zero => exact h0
    | succ i => have := h1 i (Nat.lt_of_succ_lt_succ hi); rwa [Nat.add_right_comm] at this

theorem holds_cons {m : Mem} {a : Ptr} {b : Byte} {l : List Byte} :
    Holds m a (b :: l) ↔ m a = some b ∧ Holds m (a + 1) l :=
  forall_lt_succ_shift (Q := fun i j => m j = (b :: l)[i]?)

theorem holds_append {m : Mem} {a : Ptr} {l1 l2 : List Byte} :
    Holds m a (l1 ++ l2) ↔ Holds m a l1 ∧ Holds m (a + l1.length) l2 := by
  induction l1 generalizing a with
  | nil => simp [Holds.nil]
  | cons b l ih =>
    simp only [List.cons_append, holds_cons, ih, List.length_cons]
    have e : a + 1 + l.length = a + (l.length + 1) := by omega
    rw [e]; exact and_assoc.symm

theorem holds_one {m : Mem} {a : Ptr} {x : Byte} : Holds m a [x] ↔ m a = some x := by
  rw [holds_cons]; exact and_iff_left (Holds.nil _ _)

theorem holds_snoc {m : Mem} {a : Ptr} {p : List Byte} {x : Byte} :
    Holds m a (p ++ [x]) ↔ Holds m a p ∧ m (a + p.length) = some x := by
  rw [holds_append, holds_one]

theorem Holds.upto {m : Mem} {a : Ptr} {p r : List Byte} {x : Byte} (h : Holds m a (p ++ x :: r)) :
    Holds m a (p ++ [x]) := by
  rw [← List.singleton_append, ← List.append_assoc] at h
  exact (holds_append.mp h).1

theorem Holds.take {m : Mem} {a : Ptr} {l : List Byte} (h : Holds m a l) (n : Nat) : Holds m a (l.take n) := by
  rw [← List.take_append_drop n l] at h
  exact (holds_append.mp h).1

theorem Holds.mapped {m : Mem} {a : Ptr} {l : List Byte} (h : Holds m a l) : Mapped m a l.length := by
  intro i hi; rw [h i hi]; simp [hi]

theorem mapped_succ {m : Mem} {a : Ptr} {n : Nat} :
    Mapped m a (n + 1) ↔ (m a).isSome ∧ Mapped m (a + 1) n :=
  forall_lt_succ_shift (Q := fun _ j => (m j).isSome)

theorem SameOutside.refl (m : Mem) (a n : Nat) : SameOutside m m a n := fun _ _ => rfl

/-- the memory `wr m a v` returns where `a` is mapped (`wr_upd`), as a total function -/
def upd (m : Mem) (a : Nat) (v : Byte) : Mem := fun j => if j = a then some v else m j

theorem wr_upd {m : Mem} {a : Nat} {v : Byte} (h : (m a).isSome) : wr m a v = some (upd m a v) := by
  unfold wr
  cases hm : m a with
  | none => simp [hm] at h
  | some x => rfl

theorem wr_bind {α : Type} {m : Mem} {a : Ptr} {v : Byte} {f : Mem → Option α} (h : (m a).isSome) :
    (wr m a v >>= f) = f (upd m a v) := by rw [wr_upd h]; rfl

@[simp] theorem upd_same (m : Mem) (a : Nat) (v : Byte) : upd m a v a = some v := by simp [upd]
theorem upd_other (m : Mem) {a j : Nat} (v : Byte) (h : j ≠ a) : upd m a v j = m j := by simp [upd, h]

theorem upd_self {m : Mem} {a : Nat} {v : Byte} (h : m a = some v) : upd m a v = m := by
  funext j; unfold upd; split
  · next e => rw [e, h]
  · rfl

theorem mapped_upd {m : Mem} {a : Nat} {v : Byte} {p n : Nat} (h : Mapped m p n) : Mapped (upd m a v) p n := by
  intro i hi
  unfold upd
  split
  · rfl
  · exact h i hi

theorem holds_upd_outside {m : Mem} {a x : Nat} {l : List Byte} (v : Byte) (h : Holds m a l)
    (hx : x < a ∨ a + l.length ≤ x) : Holds (upd m x v) a l := by
  intro i hi; rw [upd_other _ _ (by omega)]; exact h i hi

/-- the memory after the bytes `l` have been written at `a` -/
def stored (m : Mem) (a : Nat) : List Byte → Mem
  | [] => m
  | b :: l => stored (upd m a b) (a + 1) l

theorem stored_outside {m : Mem} {a : Nat} {l : List Byte} {j : Nat} (hj : ¬(a ≤ j ∧ j < a + l.length)) :
    stored m a l j = m j := by
  induction l generalizing m a with
  | nil => rfl
  | cons b l ih =>
    simp only [List.length_cons] at hj
    rw [stored, ih (by omega), upd_other _ _ (by omega)]

theorem sameOutside_stored (m : Mem) (a : Nat) (l : List Byte) : SameOutside m (stored m a l) a l.length :=
  fun _ hj => stored_outside hj

theorem holds_stored (m : Mem) (a : Nat) (l : List Byte) : Holds (stored m a l) a l := by
  induction l generalizing m a with
  | nil => exact Holds.nil _ _
  | cons b l ih =>
    rw [holds_cons, stored]
    exact ⟨by rw [stored_outside (by omega), upd_same], ih _ _⟩

theorem stored_spec {α : Type} {m : Mem} {d n : Nat} {l : List Byte} {a : α} {r : Option (Mem × α)}
    (e : r = some (stored m d l, a)) (hn : l.length = n) :
    ∃ m', r = some (m', a) ∧ Holds m' d l ∧ SameOutside m m' d n :=
  ⟨_, e, holds_stored _ _ _, hn ▸ sameOutside_stored m d l⟩

theorem stored_append (m : Mem) (a : Nat) (l1 l2 : List Byte) :
    stored m a (l1 ++ l2) = stored (stored m a l1) (a + l1.length) l2 := by
  induction l1 generalizing m a with
  | nil => rfl
  | cons b l ih => simp only [List.cons_append, stored, ih, List.length_cons, Nat.add_assoc, Nat.add_comm 1]

theorem stored_snoc (m : Mem) (a : Nat) (l : List Byte) (x : Byte) :
    stored m a (l ++ [x]) = upd (stored m a l) (a + l.length) x := stored_append m a l [x]

theorem upd_comm (m : Mem) {a a' : Nat} (v v' : Byte) (h : a ≠ a') :
    upd (upd m a' v') a v = upd (upd m a v) a' v' := by
  funext j; unfold upd
  by_cases h1 : j = a
  · rw [if_pos h1, if_neg (h1 ▸ h), if_pos h1]
  · rw [if_neg h1, if_neg h1]

theorem stored_upd_comm {m : Mem} {a a' : Nat} {l : List Byte} (v : Byte) (h : a' < a ∨ a + l.length ≤ a') :
    stored (upd m a' v) a l = upd (stored m a l) a' v := by
  induction l generalizing m a with
  | nil => rfl
  | cons b l ih =>
    rw [List.length_cons] at h
    rw [stored, stored, upd_comm m b v (by omega), ih (by omega)]

theorem sameMapping_stored {m : Mem} {a : Nat} {l : List Byte} (h : Mapped m a l.length) :
    SameMapping m (stored m a l) := by
  intro j
  by_cases hj : a ≤ j ∧ j < a + l.length
  · have h1 := holds_stored m a l (j - a) (by omega)
    have h2 := h (j - a) (by omega)
    rw [show a + (j - a) = j by omega] at h1 h2
    rw [h1, h2]; simp; omega
  · rw [stored_outside hj]

theorem holds_append_stored {m : Mem} {a : Nat} {l1 : List Byte} (h : Holds m a l1) (l2 : List Byte) :
    Holds (stored m (a + l1.length) l2) a (l1 ++ l2) :=
  holds_append.mpr ⟨fun i hi => by rw [stored_outside (by omega)]; exact h i hi, holds_stored _ _ _⟩

theorem mapped_stored {m : Mem} {a : Nat} {l : List Byte} {p n : Nat} (h : Mapped m p n) :
    Mapped (stored m a l) p n := by
  induction l generalizing m a with
  | nil => exact h
  | cons b l ih => exact ih (mapped_upd h)

theorem holds_of_sameOutside {m m' : Mem} {a d n : Nat} {l : List Byte} (h : Holds m a l)
    (ho : SameOutside m m' d n) (hd : a + l.length ≤ d ∨ d + n ≤ a) : Holds m' a l := by
  intro i hi; rw [ho (a + i) (by omega)]; exact h i hi

theorem cstr_of_sameOutside {m m' : Mem} {a d n : Nat} {l : List Byte} (h : CStr m a l)
    (ho : SameOutside m m' d n) (hd : a + l.length + 1 ≤ d ∨ d + n ≤ a) : CStr m' a l :=
  ⟨holds_of_sameOutside h.1 ho (by simp; omega), h.2⟩

theorem DelimsOk.transport {m m' : Mem} {fuel lo hi x n : Nat} (ho : SameOutside m m' x n) (hx : lo ≤ x ∧ x + n ≤ hi) :
    ∀ {ds : List Nat} {Ds : List (List Byte)}, DelimsOk m fuel lo hi ds Ds → DelimsOk m' fuel lo hi ds Ds
  | [], [], _ => trivial
  | _ :: _, _ :: _, h => ⟨⟨cstr_of_sameOutside h.1.1 ho (by have := h.1.2.2; omega), h.1.2.1, h.1.2.2⟩, DelimsOk.transport ho hx h.2⟩
  | [], _ :: _, h => h.elim
  | _ :: _, [], h => h.elim

theorem cstr_nil {m : Mem} {a : Nat} : CStr m a [] ↔ m a = some 0#8 := by
  simp [CStr, holds_cons, Holds.nil]

theorem cstr_cons {m : Mem} {a : Nat} {b : Byte} {l : List Byte} :
    CStr m a (b :: l) ↔ m a = some b ∧ b ≠ 0#8 ∧ CStr m (a + 1) l := by
  simp only [CStr, List.cons_append, holds_cons, List.mem_cons, not_or]
  constructor
  · rintro ⟨⟨h1, h2⟩, h3, h4⟩; exact ⟨h1, fun e => h3 e.symm, h2, h4⟩
  · rintro ⟨h1, h2, h3, h4⟩; exact ⟨⟨h1, h3⟩, fun e => h2 e.symm, h4⟩

theorem CStr.holds {m : Mem} {a : Nat} {l : List Byte} (h : CStr m a l) : Holds m a l := (holds_snoc.mp h.1).1

theorem CStr.nul {m : Mem} {a : Nat} {l : List Byte} (h : CStr m a l) : m (a + l.length) = some 0#8 :=
  (holds_snoc.mp h.1).2

/-- in the form the loops test it: `b ≠ 0` -/
theorem ne_zero_of_not_mem {q : List Byte} (h0 : 0#8 ∉ q) : ∀ y ∈ q, y ≠ 0 :=
  fun _ hy (e : _ = 0#8) => h0 (e ▸ hy)

theorem CStr.ne_zero {m : Mem} {a : Nat} {l : List Byte} (h : CStr m a l) : ∀ y ∈ l, y ≠ 0#8 :=
  ne_zero_of_not_mem h.2

theorem CStr.upto {m : Mem} {a : Nat} {p r : List Byte} {x : Byte} (h : CStr m a (p ++ x :: r)) :
    Holds m a (p ++ [x]) := by
  have := h.1
  rw [List.append_assoc, List.cons_append] at this
  exact this.upto

theorem cstr_suffix {m : Mem} {s : Nat} {p r : List Byte} (h : CStr m s (p ++ r)) :
    CStr m (s + p.length) r := by
  obtain ⟨h1, h2⟩ := h
  rw [List.append_assoc, holds_append] at h1
  exact ⟨h1.2, fun e => h2 (List.mem_append_right _ e)⟩

end Igris.C08
