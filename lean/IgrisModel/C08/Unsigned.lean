/-
  C08 - the UNSIGNED-char instance.  Model.lean transcribes the code for a target on
  which plain `char` is signed (`scInt`: `char -> int` sign-extends).  The functions below are the definitions of
  Model.lean that convert a plain `char` to `int` - strstr / strcasestr (`tolower(*h)`), strcspn and strtok_r
  (`strchr(set, *s)`), strlwr / strupr (`'A' <= *cp`) - with that conversion replaced by the zero-extending one
  (`ucInt`), generated textually from Model.lean.  Props.lean (`*_char_sign_free`) proves that they are the SAME
  functions: no result of the library depends on the signedness of plain char.  (The harness confirms it on the
  real code: the whole correspondence stream is green when the code under test is compiled with -funsigned-char.)
-/
import IgrisModel.C08.Copy
namespace Igris.C08
open Igris.Proto

def strstrInnerU (f : Int → Int) (m : Mem) : Nat → Ptr → Ptr → Option Ptr
  | 0, _, _ => none
  | fuel + 1, h, n => do
      let a ← rd m h
      if a ≠ 0 then
        let b ← rd m n
        if f (ucInt a) = f (ucInt b) then strstrInnerU f m fuel (h + 1) (n + 1) else pure n
      else pure n

def strstrOuterU (f : Int → Int) (m : Mem) (needle : Ptr) (fuel : Nat) : Nat → Ptr → Option (Option Ptr)
  | 0, _ => none
  | g + 1, haystack => do
      let a ← rd m haystack
      if a ≠ 0 then
        let n ← strstrInnerU f m fuel haystack needle
        let b ← rd m n
        if b = 0 then pure (some haystack) else strstrOuterU f m needle fuel g (haystack + 1)
      else pure none

def strstrFU (f : Int → Int) (m : Mem) (haystack needle : Ptr) (fuel : Nat) : Option (Option Ptr) := do
  let b ← rd m needle
  if b = 0 then pure (some haystack) else strstrOuterU f m needle fuel fuel haystack

def strstrU := strstrFU id

def strcasestrU := strstrFU tolowerI

def strcspnLoopU (m : Mem) (reject : Ptr) (fuel : Nat) : Nat → Ptr → Nat → Option Nat
  | 0, _, _ => none
  | g + 1, s, count => do
      let c ← rd m s
      if c ≠ 0 then
        match ← strchr m reject (ucInt c) fuel with
        | none => strcspnLoopU m reject fuel g (s + 1) (count + 1)
        | some _ => pure count
      else pure count

def strcspnU (m : Mem) (s reject : Ptr) (fuel : Nat) : Option Nat := strcspnLoopU m reject fuel fuel s 0

def tokSkipU (m : Mem) (delim : Ptr) (fuel : Nat) : Nat → Ptr → Option (Sum Ptr Ptr)
  | 0, _ => none
  | g + 1, str => do
      let ch ← rd m str
      if ch = 0 then pure (.inl str) else
      match ← strchr m delim (ucInt ch) fuel with
      | some _ => tokSkipU m delim fuel g (str + 1)
      | none => pure (.inr (str + 1))

def strtok_rU (m : Mem) (str : Option Ptr) (delim : Ptr) (save : Option Ptr) (fuel : Nat) :
    Option (Mem × Option Ptr × Option Ptr) := do
  -- if (str == NULL && (NULL == (str = *saveptr))) return NULL;
  match tokStart str save with
  | none => pure (m, save, none)
  | some str =>
    match ← tokSkipU m delim fuel fuel str with
    | .inl e => pure (m, some e, none)
    | .inr str =>
      -- *saveptr = str + strcspnU(str, delim);
      let k ← strcspnU m str delim fuel
      let sp := str + k
      let b ← rd m sp
      if b ≠ 0 then
        let m ← wr m sp 0
        pure (m, some (sp + 1), some (str - 1))
      else pure (m, some sp, some (str - 1))

def caseLoopU (lo hi : Int) (delta : Byte) : Nat → Mem → Ptr → Option Mem
  | 0, _, _ => none
  | f + 1, m, cp => do
      let b ← rd m cp
      if b ≠ 0 then
        if lo ≤ ucInt b ∧ ucInt b ≤ hi then
          let m ← wr m cp (b + delta)
          caseLoopU lo hi delta f m (cp + 1)
        else caseLoopU lo hi delta f m (cp + 1)
      else pure m

def strlwrU (m : Mem) (s : Ptr) (fuel : Nat) : Option (Mem × Ptr) := do
  let m ← caseLoopU 65 90 32 fuel m s
  pure (m, s)

def struprU (m : Mem) (s : Ptr) (fuel : Nat) : Option (Mem × Ptr) := do
  let m ← caseLoopU 97 122 (-32) fuel m s
  pure (m, s)

/-! ### equality with the signed instance -/

theorem strchr_char_only (m : Mem) (s : Ptr) (a b : Int) (fuel : Nat) (h : toChar a = toChar b) :
    strchr m s a fuel = strchr m s b fuel := by
  simp only [strchr, strchrnul, h]

theorem toChar_ucInt (b : Byte) : toChar (ucInt b) = b := by
  unfold toChar ucInt
  apply BitVec.eq_of_toNat_eq
  have := b.isLt
  simp

theorem strchr_uc_sc (m : Mem) (s : Ptr) (c : Byte) (fuel : Nat) :
    strchr m s (ucInt c) fuel = strchr m s (scInt c) fuel :=
  strchr_char_only m s _ _ fuel (by rw [toChar_ucInt, toChar_scInt])

/-- the comparison of the inner loop of strstr / strcasestr does not depend on the conversion -/
theorem Fold.uc_iff_sc {f : Int → Int} {g : Byte → Byte} (hf : Fold f g) (a b : Byte) :
    f (ucInt a) = f (ucInt b) ↔ f (scInt a) = f (scInt b) :=
  (hf.eqF a b).trans (hf.eqS a b).symm

theorem strstrInnerU_eq {f : Int → Int} {g : Byte → Byte} (hf : Fold f g) (m : Mem) :
    ∀ fuel h n, strstrInnerU f m fuel h n = strstrInner f m fuel h n
  | 0, _, _ => rfl
  | fuel + 1, h, n => by
    simp only [strstrInnerU, strstrInner, hf.uc_iff_sc, strstrInnerU_eq hf m fuel]

theorem strstrOuterU_eq {f : Int → Int} {g : Byte → Byte} (hf : Fold f g) (m : Mem) (needle fuel : Nat) :
    ∀ k h, strstrOuterU f m needle fuel k h = strstrOuter f m needle fuel k h
  | 0, _ => rfl
  | k + 1, h => by
    simp only [strstrOuterU, strstrOuter, strstrInnerU_eq hf, strstrOuterU_eq hf m needle fuel k]

theorem strstrFU_eq {f : Int → Int} {g : Byte → Byte} (hf : Fold f g) (m : Mem) (h n fuel : Nat) :
    strstrFU f m h n fuel = strstrF f m h n fuel := by
  simp only [strstrFU, strstrF, strstrOuterU_eq hf]

theorem strcspnLoopU_eq (m : Mem) (reject fuel : Nat) :
    ∀ g s count, strcspnLoopU m reject fuel g s count = strcspnLoop m reject fuel g s count
  | 0, _, _ => rfl
  | g + 1, s, count => by
    simp only [strcspnLoopU, strcspnLoop, strchr_uc_sc, strcspnLoopU_eq m reject fuel g]
    rfl

theorem tokSkipU_eq (m : Mem) (delim fuel : Nat) :
    ∀ g str, tokSkipU m delim fuel g str = tokSkip m delim fuel g str
  | 0, _ => rfl
  | g + 1, str => by
    simp only [tokSkipU, tokSkip, strchr_uc_sc, tokSkipU_eq m delim fuel g]
    rfl

theorem ucInt_range (b : Byte) (lo hi : Int) (hlo : 0 ≤ lo) (hhi : hi < 128) :
    (lo ≤ ucInt b ∧ ucInt b ≤ hi) ↔ (lo ≤ scInt b ∧ scInt b ≤ hi) := by
  rw [scInt_range b lo hi hlo hhi]; rfl

theorem caseLoopU_eq (lo hi : Int) (hlo : 0 ≤ lo) (hhi : hi < 128) (delta : Byte) :
    ∀ f m cp, caseLoopU lo hi delta f m cp = caseLoop lo hi delta f m cp
  | 0, _, _ => rfl
  | f + 1, m, cp => by
    simp only [caseLoopU, caseLoop, ucInt_range _ lo hi hlo hhi, caseLoopU_eq lo hi hlo hhi delta f]

end Igris.C08
