/-
  C08 — PROPERTY THEOREMS.

  Property: "Each memory and string function of the bundled libc returns the
  result its standard definition prescribes (value, sign, or pointer offset)
  and leaves the destination bytes the definition prescribes.  It reads and
  writes no byte outside the ranges the definition allows, for every content,
  length (including 0), alignment and, for memmove, overlap."

  Reading the statements.  `m : Mem` is ONE partial memory shared by all
  arguments; every theorem quantifies over all of it, all addresses (hence all
  alignments and all relative positions) and all byte contents.
    * `Holds m a l`   — the cells a, a+1, … contain the list `l`
    * `Mapped m a n`  — n cells at a exist;  `CStr m a l` — `l` then NUL, no NUL in `l`
    * a result `some …` means: no fault.  Since the hypotheses only say that the
      ranges named in them are mapped, the function never touches a cell
      outside those ranges (it would fault in the memory where nothing else is
      mapped) — this is the "reads and writes no byte outside" clause;
    * `SameOutside m m' d n` — nothing outside `[d, d+n)` was modified.
  The ISO/POSIX definitions are stated on lists: `l = p ++ c :: r` with `c ∉ p`
  says "the first occurrence of `c` in `l` is at index `p.length`", etc.
  `fuel` is the model's bound for "until NUL" loops; every theorem says how
  much is enough (string length + 1 or + 2).
-/
import IgrisModel.C08.Copy
import IgrisModel.C08.Monotone
import IgrisModel.C08.Linear
import IgrisModel.C08.Unsigned
import IgrisModel.C08.Ctype
namespace Igris.C08
open Igris.Proto

/-! ### memset -/

/-- memset fills exactly `[dest, dest+n)` with `(unsigned char)c`, returns `dest` -/
theorem memset_spec (m : Mem) (dest : Nat) (c : Int) (n : Nat) (h : Mapped m dest n) :
    ∃ m', memset m dest c n = some (m', dest) ∧ Holds m' dest (List.replicate n (toChar c)) ∧
      SameOutside m m' dest n :=
  stored_spec (by rw [memset, memsetLoop_eq _ n m dest h]; rfl) List.length_replicate

/-! ### memchr / memrchr -/

/-- first occurrence: `l = p ++ d :: r`, `d ∉ p` ⇒ pointer to index `|p|` -/
theorem memchr_found (m : Mem) (s : Nat) (c : Int) (p r : List Byte)
    (hl : Holds m s (p ++ toChar c :: r)) (hp : toChar c ∉ p) :
    memchr m s c (p ++ toChar c :: r).length = some (some (s + p.length)) := by
  exact memchrLoop_found m _ p s _ hl.upto hp (by simp)

/-- no occurrence in the `n` bytes ⇒ NULL (for `n = 0` too) -/
theorem memchr_absent (m : Mem) (s : Nat) (c : Int) (l : List Byte)
    (hl : Holds m s l) (hc : toChar c ∉ l) : memchr m s c l.length = some none :=
  memchrLoop_absent m _ l s hl hc

/-- C11 7.24.5.1: memchr behaves as if it read sequentially and stopped at the
first match — `n` may exceed the object when a match exists; only `p ++ [d]`
needs to be mapped -/
theorem memchr_stops_at_first_match (m : Mem) (s : Nat) (c : Int) (p : List Byte) (n : Nat)
    (hl : Holds m s (p ++ [toChar c])) (hp : toChar c ∉ p) (hn : p.length < n) :
    memchr m s c n = some (some (s + p.length)) :=
  memchrLoop_found m _ p s n hl hp hn

/-- last occurrence: `l = p ++ d :: r`, `d ∉ r` ⇒ pointer to index `|p|` -/
theorem memrchr_found (m : Mem) (s : Nat) (c : Int) (p r : List Byte)
    (hl : Holds m s (p ++ toChar c :: r)) (hr : toChar c ∉ r) :
    memrchr m s c (p ++ toChar c :: r).length = some (some (s + p.length)) :=
  memrchrLoop_found m _ p r s hl hr

/-- no occurrence ⇒ NULL; with `l = []` this is the `n == 0` case, which reads nothing -/
theorem memrchr_absent (m : Mem) (s : Nat) (c : Int) (l : List Byte)
    (hl : Holds m s l) (hc : toChar c ∉ l) : memrchr m s c l.length = some none :=
  memrchrLoop_absent m _ l s hl hc

/-- `memrchr(s, c, 0)` on a zero-sized object (nothing mapped at all) is NULL, no access -/
theorem memrchr_zero (s : Nat) (c : Int) : memrchr (fun _ => none) s c 0 = some none := rfl

/-- historical (before `fix: memrchr with n == 0`): the do-while form read
`s[-1]` — in a memory where only `s[0]` exists, `n = 0` faults -/
theorem memrchrOrig_n0_witness :
    memrchrOrig (ofBufs [(8, [1#8])]) 8 0 0 100 = none := by decide

/-! ### memcmp -/

/-- equal blocks ⇒ 0 (for `n = 0` too: nothing is read) -/
theorem memcmp_equal (m : Mem) (d s : Nat) (l : List Byte) (hd : Holds m d l) (hs : Holds m s l) :
    memcmp m d s l.length = some 0 := by
  rcases List.eq_nil_or_concat l with rfl | ⟨p, x, rfl⟩
  · rfl
  · rw [List.concat_eq_append] at hd hs ⊢
    rw [memcmp, if_neg (by simp)]
    have := memcmpLoop_spec m p x x ((p ++ [x]).length - 1) d s hd hs (Or.inl (by simp)) (by simp)
    rwa [Int.sub_self] at this

/-- first differing pair `x ≠ y` after a common prefix `p` ⇒ the result is
`(unsigned char)x - (unsigned char)y`, so its sign is that of the first
difference; the bytes after it are not even required to exist -/
theorem memcmp_first_difference (m : Mem) (d s : Nat) (p : List Byte) (x y : Byte) (n : Nat)
    (hd : Holds m d (p ++ [x])) (hs : Holds m s (p ++ [y])) (hxy : x ≠ y) (hn : p.length < n) :
    memcmp m d s n = some (ucInt x - ucInt y) := by
  unfold memcmp
  rw [if_neg (by omega)]
  exact memcmpLoop_spec m p x y _ d s hd hs (Or.inr hxy) (by omega)

/-- the sign is the order of the two bytes as unsigned values -/
theorem ucInt_sub_sign (x y : Byte) : (ucInt x - ucInt y < 0 ↔ x.toNat < y.toNat) ∧
    (ucInt x - ucInt y = 0 ↔ x = y) :=
  ⟨by unfold ucInt; omega, ucInt_sub_eq_zero x y⟩

/-! ### memcpy / memmove -/

/-- ISO C memcpy (non-overlapping objects): the `n` source bytes arrive at
`dst`, nothing outside `[dst, dst+n)` changes, `dst` is returned; holds on the
byte path and on the word path alike (no alignment hypothesis) -/
theorem memcpy_spec (m : Mem) (dst src : Nat) (data : List Byte)
    (hs : Holds m src data) (hd : Mapped m dst data.length)
    (hdis : Disjoint dst data.length src data.length) :
    ∃ m', memcpy m dst src data.length = some (m', dst) ∧ Holds m' dst data ∧
      SameOutside m m' dst data.length :=
  memcpy_fwd_spec m dst src data hs hd (by unfold Disjoint at hdis; omega)

/-- what memmove's fall-through relies on: the forward copy (word loops
included — each word is loaded before it is stored) is also correct for
overlapping ranges as long as `dst ≤ src` -/
theorem memcpy_forward_overlap (m : Mem) (dst src : Nat) (data : List Byte)
    (hs : Holds m src data) (hd : Mapped m dst data.length) (hle : dst ≤ src) :
    ∃ m', memcpy m dst src data.length = some (m', dst) ∧ Holds m' dst data ∧
      SameOutside m m' dst data.length :=
  memcpy_fwd_spec m dst src data hs hd (Or.inl hle)

/-- memmove for EVERY relative position of source and destination -/
theorem memmove_spec (m : Mem) (dst src : Nat) (data : List Byte)
    (hs : Holds m src data) (hd : Mapped m dst data.length) :
    ∃ m', memmove m dst src data.length = some (m', dst) ∧ Holds m' dst data ∧
      SameOutside m m' dst data.length := by
  unfold memmove
  split
  · next h =>
    exact stored_spec (by rw [memmoveBack_eq data m dst src hs hd (by omega)]; rfl) rfl
  · next h => exact memcpy_fwd_spec m dst src data hs hd (by omega)

/-! ### strlen / strnlen -/

/-- strlen returns the index of the terminator and reads `[s, s+len]` only -/
theorem strlen_spec (m : Mem) (s : Nat) (l : List Byte) (fuel : Nat) (h : CStr m s l)
    (hf : l.length < fuel) : strlen m s fuel = some l.length := by
  rw [strlen, scanNul_spec m l s fuel h hf]
  exact congrArg some (by omega)

theorem strnlen_spec (m : Mem) (s : Nat) (l : List Byte) (maxlen : Nat) (h : CStr m s l) :
    strnlen m s maxlen = some (min l.length maxlen) := by
  simpa [strnlen] using strnlenLoop_cstr m l s maxlen 0 h

/-- strnlen never examines more than `maxlen` bytes: on an array of `maxlen`
non-NUL bytes WITHOUT terminator (only those bytes mapped) it returns `maxlen` -/
theorem strnlen_unterminated (m : Mem) (s : Nat) (l : List Byte) (h : Holds m s l) (h0 : 0#8 ∉ l) :
    strnlen m s l.length = some l.length := by
  simpa [strnlen] using strnlenLoop_long m l s 0 h h0

/-! ### strcpy / strncpy / strlcpy  (ISO: objects must not overlap) -/

theorem strcpy_spec (m : Mem) (dest src : Nat) (l : List Byte) (fuel : Nat) (hs : CStr m src l)
    (hd : Mapped m dest (l.length + 1)) (hdis : Disjoint dest (l.length + 1) src (l.length + 1))
    (hf : l.length < fuel) :
    ∃ m', strcpy m dest src fuel = some (m', dest) ∧ Holds m' dest (l ++ [0#8]) ∧
      SameOutside m m' dest (l.length + 1) :=
  stored_spec (by rw [strcpy, strcpyLoop_eq l m dest src fuel hs hd hdis hf]; rfl) List.length_append

/-- source string shorter than `n`: copied, then NUL-padded to exactly `n` bytes -/
theorem strncpy_short (m : Mem) (dst src : Nat) (l : List Byte) (n : Nat) (hs : CStr m src l)
    (hn : l.length < n) (hd : Mapped m dst n) (hdis : Disjoint dst n src (l.length + 1)) :
    ∃ m', strncpy m dst src n = some (m', dst) ∧
      Holds m' dst (l ++ List.replicate (n - l.length) 0#8) ∧ SameOutside m m' dst n :=
  stored_spec (by rw [strncpy, strncpyLoop_short l m dst src n hs hn hd hdis]; rfl) (by simp; omega)

/-- source array with at least `n` characters before any NUL: exactly `n` are
copied, no terminator is written, and nothing after the first `n` source
bytes is read (the source need not be terminated).  `n = 0` is `p = []`. -/
theorem strncpy_long (m : Mem) (dst src : Nat) (p : List Byte) (hs : Holds m src p) (h0 : 0#8 ∉ p)
    (hd : Mapped m dst p.length) (hdis : Disjoint dst p.length src p.length) :
    ∃ m', strncpy m dst src p.length = some (m', dst) ∧ Holds m' dst p ∧
      SameOutside m m' dst p.length :=
  stored_spec (by rw [strncpy, strncpyLoop_long p m dst src hs h0 hd hdis]; rfl) rfl

/-- strlcpy with `size > 0`: the first `min(len, size-1)` characters and a
terminator are stored, the return value is `strlen(src)` — also when the copy
was truncated (`fix: strlcpy returns strlen(src)`) -/
theorem strlcpy_spec (m : Mem) (dst src : Nat) (l : List Byte) (size fuel : Nat) (hs : CStr m src l)
    (hsz : 0 < size) (hd : Mapped m dst (min l.length (size - 1) + 1))
    (hdis : Disjoint dst (min l.length (size - 1) + 1) src (l.length + 1)) (hf : l.length < fuel) :
    ∃ m', strlcpy m dst src size fuel = some (m', l.length) ∧
      Holds m' dst (l.take (size - 1) ++ [0#8]) ∧
      SameOutside m m' dst (min l.length (size - 1) + 1) := by
  unfold Disjoint at hdis
  have hlen : (l.take (size - 1)).length = min l.length (size - 1) := by rw [List.length_take, Nat.min_comm]
  have e := strlcpyLoop_eq l m dst src size hs hsz (fun i hi => hd i (by omega)) (by unfold Disjoint; omega)
  have hkl : min l.length (size - 1) ≤ l.length := Nat.min_le_left _ _
  generalize min l.length (size - 1) = k at *
  -- the terminator goes behind what was copied
  have hmap : (stored m dst (l.take (size - 1)) (dst + k)).isSome := by
    rw [stored_outside (by omega)]; exact hd _ (by omega)
  have hupd : upd (stored m dst (l.take (size - 1))) (dst + k) (0 : Byte) =
      stored m dst (l.take (size - 1) ++ [0#8]) := by rw [stored_snoc, hlen]; rfl
  -- the source is untouched, and strlen measures what is left of it
  have hrest : CStr (stored m dst (l.take (size - 1) ++ [0#8])) (src + k) (l.drop k) := by
    have := cstr_suffix (p := l.take k) (r := l.drop k) (by rwa [List.take_append_drop])
    rw [List.length_take, Nat.min_eq_left hkl] at this
    refine cstr_of_sameOutside this (sameOutside_stored _ _ _) ?_
    rw [List.length_append, hlen, List.length_drop, List.length_singleton]; omega
  have e3 := strlen_spec _ _ _ fuel hrest (by rw [List.length_drop]; omega)
  refine stored_spec ?_ (by rw [List.length_append, hlen]; rfl)
  rw [strlcpy, if_neg (Nat.pos_iff_ne_zero.mp hsz), e, some_bind]
  show (wr _ _ _ >>= _) = _
  rw [wr_bind hmap, hupd, e3]
  exact congrArg some (Prod.ext rfl (by rw [List.length_drop]; show src + k - src + (l.length - k) = l.length; omega))

/-- `size == 0`: nothing is written, the result is still `strlen(src)` -/
theorem strlcpy_size0 (m : Mem) (dst src : Nat) (l : List Byte) (fuel : Nat) (hs : CStr m src l)
    (hf : l.length < fuel) : strlcpy m dst src 0 fuel = some (m, l.length) := by
  simp [strlcpy, strlen_spec m src l fuel hs hf]

/-- historical (before the fix): on truncation the unfixed code returns `size - 1` -/
theorem strlcpyOrig_witness :
    (strlcpyOrig (ofBufs [(8, [0xA5#8]), (16, [65#8, 66#8, 0#8])]) 8 16 1 10).map (·.2) = some 0 := by
  decide

/-! ### strcmp / strncmp -/

theorem strcmp_equal (m : Mem) (s1 s2 : Nat) (l : List Byte) (fuel : Nat) (h1 : CStr m s1 l)
    (h2 : CStr m s2 l) (hf : l.length < fuel) : strcmp m s1 s2 fuel = some 0 := by
  have := strcmpF_diff Fold.id m s1 s2 l l 0#8 0#8 fuel h1.1 h2.1 rfl h1.2 (Or.inl rfl) hf
  simpa [strcmp] using this

/-- first differing pair after a common prefix (either byte may be the
terminator, i.e. one string may be a proper prefix of the other) ⇒ the
difference of the two bytes as `unsigned char`; nothing after it is read -/
theorem strcmp_first_difference (m : Mem) (s1 s2 : Nat) (p : List Byte) (x y : Byte) (fuel : Nat)
    (h1 : Holds m s1 (p ++ [x])) (h2 : Holds m s2 (p ++ [y])) (h0 : 0#8 ∉ p) (hxy : x ≠ y)
    (hf : p.length < fuel) : strcmp m s1 s2 fuel = some (ucInt x - ucInt y) := by
  have := strcmpF_diff Fold.id m s1 s2 p p x y fuel h1 h2 rfl h0 (Or.inr hxy) hf
  simpa [strcmp] using this

/-- `n == 0` ⇒ 0 without any access -/
theorem strncmp_zero (m : Mem) (s1 s2 : Nat) : strncmp m s1 s2 0 = some 0 := rfl

/-- the first `n` characters agree (none of the first `n-1` is NUL) ⇒ 0, and
nothing beyond the `n`-th character is read: the arrays need no terminator -/
theorem strncmp_equal_prefix (m : Mem) (s1 s2 : Nat) (p : List Byte) (x : Byte)
    (h1 : Holds m s1 (p ++ [x])) (h2 : Holds m s2 (p ++ [x])) (h0 : 0#8 ∉ p) :
    strncmp m s1 s2 (p.length + 1) = some 0 := by
  have := strncmpF_diff Fold.id m s1 s2 p p x x p.length h1 h2 rfl h0 (Or.inl rfl) (Nat.le_refl _)
  simpa [strncmp] using this

theorem strncmp_equal (m : Mem) (s1 s2 : Nat) (l : List Byte) (n : Nat) (h1 : CStr m s1 l)
    (h2 : CStr m s2 l) : strncmp m s1 s2 n = some 0 := by
  obtain ⟨r, e, hr⟩ := strncmpF_total Fold.id m s1 s2 l l n h1 h2
  rw [strncmp, e, hr.mpr rfl]

theorem strncmp_first_difference (m : Mem) (s1 s2 : Nat) (p : List Byte) (x y : Byte) (n : Nat)
    (h1 : Holds m s1 (p ++ [x])) (h2 : Holds m s2 (p ++ [y])) (h0 : 0#8 ∉ p) (hxy : x ≠ y)
    (hn : p.length < n) : strncmp m s1 s2 n = some (ucInt x - ucInt y) := by
  have := strncmpF_diff Fold.id m s1 s2 p p x y (n - 1) h1 h2 rfl h0 (Or.inr (Or.inr hxy)) (by omega)
  simpa [strncmp, Nat.pos_iff_ne_zero.mp (Nat.zero_lt_of_lt hn)] using this

/-! ### strchrnul / strchr / strrchr   (`c` = `ch` converted to `char`) -/

/-- strchrnul: first occurrence of `c`, else the terminator; `x` is the byte it stops at -/
theorem strchrnul_spec (m : Mem) (s : Nat) (ch : Int) (p : List Byte) (x : Byte) (fuel : Nat)
    (h : Holds m s (p ++ [x])) (h0 : 0#8 ∉ p) (hc : toChar ch ∉ p) (hx : x = 0#8 ∨ x = toChar ch)
    (hf : p.length < fuel) : strchrnul m s ch fuel = some (s + p.length) :=
  strchrnulLoop_spec m (toChar ch) p x s fuel h h0 hc hx hf

/-- strchr: first occurrence — `l = p ++ c :: r`, `c ∉ p` ⇒ `s + |p|`; only `p ++ [c]` is read -/
theorem strchr_found (m : Mem) (s : Nat) (ch : Int) (p : List Byte) (fuel : Nat)
    (h : Holds m s (p ++ [toChar ch])) (h0 : 0#8 ∉ p) (hp : toChar ch ∉ p) (hf : p.length < fuel) :
    strchr m s ch fuel = some (some (s + p.length)) :=
  strchr_first m p s ch fuel h h0 hp hf

theorem strchr_absent (m : Mem) (s : Nat) (ch : Int) (l : List Byte) (fuel : Nat) (h : CStr m s l)
    (hc : toChar ch ∉ l) (hz : toChar ch ≠ 0#8) (hf : l.length < fuel) :
    strchr m s ch fuel = some none :=
  strchr_none m l s ch fuel h hc hz hf

/-- strchr: the terminator is part of the string — every `ch` whose conversion
to `char` is 0 (0, 256, -256, …) finds it (`fix: strchr converts ch to char`) -/
theorem strchr_terminator (m : Mem) (s : Nat) (ch : Int) (l : List Byte) (fuel : Nat) (h : CStr m s l)
    (hc : toChar ch = 0#8) (hf : l.length < fuel) :
    strchr m s ch fuel = some (some (s + l.length)) := by
  rw [strchr_stop m l _ s ch fuel h.1 h.2 (hc ▸ h.2) (Or.inl rfl) hf, if_pos hc.symm]

/-- historical (before the fix): `strchr("a", 256)` is NULL in the unfixed code -/
theorem strchrOrig_witness : strchrOrig (ofBufs [(8, [97#8, 0#8])]) 8 256 10 = some none := by decide

/-- strrchr: last occurrence — `l = p ++ c :: r`, `c ∉ r` ⇒ `s + |p|` -/
theorem strrchr_found (m : Mem) (s : Nat) (ch : Int) (p r : List Byte) (fuel : Nat)
    (h : CStr m s (p ++ toChar ch :: r)) (hr : toChar ch ∉ r)
    (hf : (p ++ toChar ch :: r).length + 1 < fuel) :
    strrchr m s ch fuel = some (some (s + p.length)) := by
  have hz : toChar ch ≠ 0#8 := fun e => h.2 (by rw [← e]; simp)
  have hz' : ¬ toChar ch = 0 := hz
  unfold strrchr
  rw [if_neg hz']
  exact strrchrLoop_last m p r s ch fuel fuel none h hr hz (by omega) (by simp at hf; omega)

theorem strrchr_absent (m : Mem) (s : Nat) (ch : Int) (l : List Byte) (fuel : Nat) (h : CStr m s l)
    (hc : toChar ch ∉ l) (hz : toChar ch ≠ 0#8) (hf : l.length < fuel) :
    strrchr m s ch fuel = some none := by
  have hz' : ¬ toChar ch = 0 := hz
  unfold strrchr
  rw [if_neg hz']
  exact strrchrLoop_none m l s ch fuel fuel none h hc hz hf (by omega)

theorem strrchr_terminator (m : Mem) (s : Nat) (ch : Int) (l : List Byte) (fuel : Nat) (h : CStr m s l)
    (hc : toChar ch = 0#8) (hf : l.length < fuel) :
    strrchr m s ch fuel = some (some (s + l.length)) := by
  simp [strrchr, hc, strlen_spec m s l fuel h hf]

/-! ### strcasecmp / strncasecmp — strcmp/strncmp of the strings mapped through the
C-locale `tolower` (`lowerB`) -/

theorem strcasecmp_equal (m : Mem) (s1 s2 : Nat) (l1 l2 : List Byte) (fuel : Nat) (h1 : CStr m s1 l1)
    (h2 : CStr m s2 l2) (he : l1.map lowerB = l2.map lowerB) (hf : l1.length < fuel) :
    strcasecmp m s1 s2 fuel = some 0 := by
  have := strcmpF_diff Fold.lower m s1 s2 l1 l2 0#8 0#8 fuel h1.1 h2.1 he h1.2 (Or.inl rfl) hf
  simpa [strcasecmp] using this

theorem strcasecmp_first_difference (m : Mem) (s1 s2 : Nat) (p1 p2 : List Byte) (x y : Byte) (fuel : Nat)
    (h1 : Holds m s1 (p1 ++ [x])) (h2 : Holds m s2 (p2 ++ [y])) (he : p1.map lowerB = p2.map lowerB)
    (h0 : 0#8 ∉ p1) (hxy : lowerB x ≠ lowerB y) (hf : p1.length < fuel) :
    strcasecmp m s1 s2 fuel = some (ucInt (lowerB x) - ucInt (lowerB y)) := by
  have := strcmpF_diff Fold.lower m s1 s2 p1 p2 x y fuel h1 h2 he h0 (Or.inr hxy) hf
  simpa [strcasecmp] using this

theorem strncasecmp_zero (m : Mem) (s1 s2 : Nat) : strncasecmp m s1 s2 0 = some 0 := rfl

/-- the first `n` characters agree up to case ⇒ 0; nothing after them is read -/
theorem strncasecmp_equal_prefix (m : Mem) (s1 s2 : Nat) (p1 p2 : List Byte) (x y : Byte)
    (h1 : Holds m s1 (p1 ++ [x])) (h2 : Holds m s2 (p2 ++ [y])) (he : p1.map lowerB = p2.map lowerB)
    (hxy : lowerB x = lowerB y) (h0 : 0#8 ∉ p1) :
    strncasecmp m s1 s2 (p1.length + 1) = some 0 := by
  have := strncmpF_diff Fold.lower m s1 s2 p1 p2 x y p1.length h1 h2 he h0 (Or.inl rfl) (Nat.le_refl _)
  simpa [strncasecmp, hxy] using this

theorem strncasecmp_first_difference (m : Mem) (s1 s2 : Nat) (p1 p2 : List Byte) (x y : Byte) (n : Nat)
    (h1 : Holds m s1 (p1 ++ [x])) (h2 : Holds m s2 (p2 ++ [y])) (he : p1.map lowerB = p2.map lowerB)
    (h0 : 0#8 ∉ p1) (hxy : lowerB x ≠ lowerB y) (hn : p1.length < n) :
    strncasecmp m s1 s2 n = some (ucInt (lowerB x) - ucInt (lowerB y)) := by
  have := strncmpF_diff Fold.lower m s1 s2 p1 p2 x y (n - 1) h1 h2 he h0 (Or.inr (Or.inr hxy)) (by omega)
  simpa [strncasecmp, Nat.pos_iff_ne_zero.mp (Nat.zero_lt_of_lt hn)] using this

/-- equal up to case, both terminated ⇒ 0 for every `n` that reaches the terminator -/
theorem strncasecmp_equal (m : Mem) (s1 s2 : Nat) (l1 l2 : List Byte) (n : Nat) (h1 : CStr m s1 l1)
    (h2 : CStr m s2 l2) (he : l1.map lowerB = l2.map lowerB) (hn : l1.length < n) :
    strncasecmp m s1 s2 n = some 0 := by
  have := strncmpF_diff Fold.lower m s1 s2 l1 l2 0#8 0#8 (n - 1) h1.1 h2.1 he h1.2 (Or.inr (Or.inl rfl)) (by omega)
  simpa [strncasecmp, Nat.pos_iff_ne_zero.mp (Nat.zero_lt_of_lt hn)] using this

/-! ### strlwr / strupr — in place, ASCII letters only, bytes ≥ 0x80 untouched -/

theorem strlwr_spec (m : Mem) (s : Nat) (l : List Byte) (fuel : Nat) (h : CStr m s l) (hf : l.length < fuel) :
    ∃ m', strlwr m s fuel = some (m', s) ∧ Holds m' s (l.map lowerB ++ [0#8]) ∧
      SameOutside m m' s l.length :=
  caseLoop_spec 65 90 32 lowerB lowerB_eq l m s fuel h hf

theorem strupr_spec (m : Mem) (s : Nat) (l : List Byte) (fuel : Nat) (h : CStr m s l) (hf : l.length < fuel) :
    ∃ m', strupr m s fuel = some (m', s) ∧ Holds m' s (l.map upperB ++ [0#8]) ∧
      SameOutside m m' s l.length :=
  caseLoop_spec 97 122 (-32) upperB upperB_eq l m s fuel h hf

/-! ### strcat -/

/-- strcat appends `b` and a terminator after `a`; only `[dest+|a|, dest+|a|+|b|]` is written -/
theorem strcat_spec (m : Mem) (dest src : Nat) (a b : List Byte) (fuel : Nat) (hdest : 0 < dest)
    (ha : CStr m dest a) (hb : CStr m src b) (hd : Mapped m (dest + a.length) (b.length + 1))
    (hdis : Disjoint dest (a.length + b.length + 1) src (b.length + 1))
    (hf : a.length + b.length < fuel) :
    ∃ m', strcat m dest src fuel = some (m', dest) ∧ Holds m' dest (a ++ b ++ [0#8]) ∧
      SameOutside m m' (dest + a.length) (b.length + 1) := by
  exact cat_spec hdest ha (show a.length < fuel by omega) (fun p => strcatCopy fuel m p src) fun p hp => by
    rw [strcatCopy_eq_strcpyLoop, hp]
    exact strcpyLoop_eq b m (dest + a.length) src fuel hb hd (by unfold Disjoint at hdis ⊢; omega) (by omega)

/-! ### strdup / strndup — `malloc` is a parameter; what is assumed of it: on
success the block `[ret, ret+size)` is mapped, does not overlap the argument
string, and the rest of the memory is as before -/

theorem strdup_spec (malloc : Alloc) (m m1 : Mem) (s ret : Nat) (l : List Byte) (fuel : Nat)
    (h : CStr m s l) (hal : malloc m (l.length + 1) = some (m1, ret)) (hok : AllocOk m m1 ret (l.length + 1))
    (hdis : Disjoint ret (l.length + 1) s (l.length + 1)) (hf : l.length < fuel) :
    ∃ m', strdup malloc m s fuel = some (m', some ret) ∧ Holds m' ret (l ++ [0#8]) ∧
      SameOutside m1 m' ret (l.length + 1) := by
  have h1 : CStr m1 s l := cstr_of_sameOutside h hok.2 (by unfold Disjoint at hdis; omega)
  obtain ⟨m', e, hh⟩ := strcpy_spec m1 ret s l fuel h1 hok.1 hdis hf
  exact ⟨m', by simp [strdup, strlen_spec m s l fuel h hf, hal, e], hh⟩

/-- allocation failure ⇒ NULL, memory untouched -/
theorem strdup_nomem (malloc : Alloc) (m : Mem) (s : Nat) (l : List Byte) (fuel : Nat)
    (h : CStr m s l) (hal : malloc m (l.length + 1) = none) (hf : l.length < fuel) :
    strdup malloc m s fuel = some (m, none) := by
  simp [strdup, strlen_spec m s l fuel h hf, hal]

/-- strndup of an array of `size` non-NUL characters WITHOUT terminator: reads
exactly those (`fix: strndup does not read past size bytes`), result `p ++ [0]` -/
theorem strndup_array (malloc : Alloc) (m m1 : Mem) (s ret : Nat) (p : List Byte)
    (h : Holds m s p) (h0 : 0#8 ∉ p) (hal : malloc m (p.length + 1) = some (m1, ret))
    (hok : AllocOk m m1 ret (p.length + 1)) (hdis : Disjoint ret (p.length + 1) s p.length) :
    ∃ m', strndup malloc m s p.length = some (m', some ret) ∧ Holds m' ret (p ++ [0#8]) ∧
      SameOutside m1 m' ret (p.length + 1) := by
  exact strndup_copy malloc m m1 s ret p p.length (strnlen_unterminated m s p h h0) h hal hok
    (by unfold Disjoint at hdis; omega)

/-- strndup of a string: the first `min(len, size)` characters and a terminator -/
theorem strndup_string (malloc : Alloc) (m m1 : Mem) (s ret : Nat) (l : List Byte) (size : Nat)
    (h : CStr m s l) (hal : malloc m (min l.length size + 1) = some (m1, ret))
    (hok : AllocOk m m1 ret (min l.length size + 1))
    (hdis : Disjoint ret (min l.length size + 1) s (l.length + 1)) :
    ∃ m', strndup malloc m s size = some (m', some ret) ∧ Holds m' ret (l.take size ++ [0#8]) ∧
      SameOutside m1 m' ret (min l.length size + 1) := by
  have hlen : (l.take size).length = min l.length size := by rw [List.length_take, Nat.min_comm]
  rw [← hlen] at hal hok hdis ⊢
  exact strndup_copy malloc m m1 s ret (l.take size) size
    (by rw [hlen]; exact strnlen_spec m s l size h) (h.holds.take size) hal hok
    (by unfold Disjoint at hdis; omega)

/-- historical (before the fix): strndup of a 1-byte array without terminator read past it -/
theorem strndupOrig_witness :
    strndupOrig (fun m _ => some (m, 64)) (ofBufs [(8, [0x7a#8]), (64, [0#8, 0#8])]) 8 1 10 = none := by
  decide

/-! ### strspn / strcspn / strpbrk — `A` is the set argument (a C string) -/

/-- strspn: length of the longest prefix `q` consisting of bytes of `A`; `x` is
the byte that ends it (the terminator or a byte not in `A`) -/
theorem strspn_spec (m : Mem) (s accept : Nat) (A q : List Byte) (x : Byte) (fuel : Nat)
    (hA : CStr m accept A) (h : Holds m s (q ++ [x])) (h0 : 0#8 ∉ q) (hq : ∀ y ∈ q, y ∈ A)
    (hx : x = 0#8 ∨ x ∉ A) (hf : A.length < fuel) (hg : q.length < fuel) :
    strspn m s accept fuel = some q.length := by
  simpa [strspn] using strspnLoop_spec m A accept fuel hA hf q x s fuel 0 h h0 hq hx hg

/-- strcspn: length of the longest prefix `q` free of bytes of `R` -/
theorem strcspn_spec (m : Mem) (s reject : Nat) (R q : List Byte) (x : Byte) (fuel : Nat)
    (hR : CStr m reject R) (h : Holds m s (q ++ [x])) (h0 : 0#8 ∉ q) (hq : ∀ y ∈ q, y ∉ R)
    (hx : x = 0#8 ∨ x ∈ R) (hf : R.length < fuel) (hg : q.length < fuel) :
    strcspn m s reject fuel = some q.length := by
  simpa [strcspn] using strcspnLoop_spec m R reject fuel hR hf q x s fuel 0 h h0 hq hx hg

/-- strpbrk: pointer to the first byte of `s1` that is in `A` -/
theorem strpbrk_found (m : Mem) (s1 s2 : Nat) (A q : List Byte) (x : Byte) (fuel : Nat)
    (hA : CStr m s2 A) (h : Holds m s1 (q ++ [x])) (h0 : 0#8 ∉ q) (hq : ∀ y ∈ q, y ∉ A) (hx : x ∈ A)
    (hf : A.length < fuel) (hg : q.length < fuel) :
    strpbrk m s1 s2 fuel = some (some (s1 + q.length)) := by
  have hx0 : x ≠ 0#8 := fun e => hA.2 (e ▸ hx)
  obtain ⟨b, hb, hb0⟩ : ∃ b, m s1 = some b ∧ b ≠ 0#8 := by
    cases q with
    | nil => exact ⟨x, holds_one.mp h, hx0⟩
    | cons b q => exact ⟨b, (holds_cons.mp h).1, fun e => h0 (by simp [e])⟩
  obtain ⟨c, e, hc⟩ := pbrkOuter_spec m A s2 fuel hA hf q x s1 fuel s2 h h0 hq (Or.inr hx) (fun _ => hx0) hg
  rw [if_pos hx] at hc
  rw [strpbrk, rd_bind hb, if_neg (show ¬ b = 0 from hb0), e, some_bind]
  show (rd m c >>= _) = _
  rw [rd_bind hc, if_neg (show ¬ x = 0 from hx0)]; rfl

/-- strpbrk: no byte of `s1` is in `A` (or `s1` is empty) ⇒ NULL -/
theorem strpbrk_absent (m : Mem) (s1 s2 : Nat) (A l : List Byte) (fuel : Nat)
    (hA : CStr m s2 A) (h : CStr m s1 l) (hq : ∀ y ∈ l, y ∉ A)
    (hf : A.length < fuel) (hg : l.length < fuel) :
    strpbrk m s1 s2 fuel = some none := by
  cases l with
  | nil => simp [strpbrk, cstr_nil.mp h]
  | cons b' q =>
    obtain ⟨h1, h2, _⟩ := cstr_cons.mp h
    obtain ⟨c, e, hc⟩ := pbrkOuter_spec m A s2 fuel hA hf (b' :: q) 0#8 s1 fuel s2 h.1 h.2 hq (Or.inl rfl)
      (fun e => absurd e (List.cons_ne_nil _ _)) hg
    rw [if_neg hA.2] at hc
    rw [strpbrk, rd_bind h1, if_neg (show ¬ b' = 0 from h2), e, some_bind]
    show (rd m c >>= _) = _
    rw [rd_bind hc]; rfl

/-! ### strtok_r (strtok is strtok_r on a static save pointer).  `D` is the
delimiter string; `start` is where the search starts: `str`, or the saved
pointer when `str == NULL`.  The string at `start` is `q ++ t ++ rest`: `q`
leading delimiters, `t` the token. -/

/-- token followed by a delimiter `d`: the token's address is returned, `d` is
overwritten by NUL (so the token is a C string), the save pointer is the byte
after it; nothing else is written -/
theorem strtok_r_token (m : Mem) (str save : Option Nat) (start delim : Nat) (D q t r : List Byte)
    (d : Byte) (fuel : Nat)
    (hstart : tokStart str save = some start)
    (hD : CStr m delim D) (h : CStr m start (q ++ t ++ d :: r)) (hq : ∀ y ∈ q, y ∈ D)
    (ht : ∀ y ∈ t, y ∉ D) (htne : t ≠ []) (hd : d ∈ D)
    (hf : D.length < fuel) (hg : (q ++ t ++ d :: r).length < fuel) :
    ∃ m', strtok_r m str delim save fuel =
        some (m', some (start + q.length + t.length + 1), some (start + q.length)) ∧
      CStr m' (start + q.length) t ∧ SameOutside m m' (start + q.length + t.length) 1 := by
  have h0 : 0#8 ∉ q ++ t ++ d :: r := h.2
  have h0' : 0#8 ∉ q ++ t := fun e => h0 (List.mem_append_left _ e)
  have hd0 : d ≠ 0#8 := fun e => h0 (by simp [e])
  have hm := h.upto
  have e := strtok_r_found m str save start delim D q t d fuel hstart hD hm h0' hq ht htne (Or.inr hd) hf
    (by simp at hg ⊢; omega)
  rw [if_neg hd0, if_neg hd0] at e
  refine ⟨_, e, ⟨?_, fun e => h0' (List.mem_append_right _ e)⟩, fun j hj => upd_other _ _ (by omega)⟩
  rw [List.append_assoc, holds_append] at hm
  rw [holds_snoc]
  exact ⟨holds_upd_outside _ (holds_snoc.mp hm.2).1 (by omega), by rw [Nat.add_assoc]; exact upd_same _ _ _⟩

/-- the token runs to the end of the string: memory untouched, the save pointer
rests on the terminator (later calls return NULL) -/
theorem strtok_r_last_token (m : Mem) (str save : Option Nat) (start delim : Nat) (D q t : List Byte)
    (fuel : Nat) (hstart : tokStart str save = some start)
    (hD : CStr m delim D) (h : CStr m start (q ++ t)) (hq : ∀ y ∈ q, y ∈ D)
    (ht : ∀ y ∈ t, y ∉ D) (htne : t ≠ [])
    (hf : D.length < fuel) (hg : (q ++ t).length < fuel) :
    strtok_r m str delim save fuel =
      some (m, some (start + q.length + t.length), some (start + q.length)) := by
  have e := strtok_r_found m str save start delim D q t 0#8 fuel hstart hD h.1 h.2 hq ht htne (Or.inl rfl) hf hg
  rwa [if_pos rfl, if_pos rfl] at e

/-- only delimiters left (or the empty string): NULL, and the save pointer is
moved to the terminator (`fix: strtok_r stores the save pointer`) -/
theorem strtok_r_no_token (m : Mem) (str save : Option Nat) (start delim : Nat) (D q : List Byte)
    (fuel : Nat) (hstart : tokStart str save = some start)
    (hD : CStr m delim D) (h : CStr m start q) (hq : ∀ y ∈ q, y ∈ D)
    (hf : D.length < fuel) (hg : q.length < fuel) :
    strtok_r m str delim save fuel = some (m, some (start + q.length), none) := by
  have e1 := tokSkip_spec m D delim fuel hD hf q 0#8 start fuel h.1 h.2 hq (Or.inl rfl) hg
  simp only [strtok_r, hstart, bind, Option.bind, e1]
  simp

/-- `str == NULL` and nothing saved: NULL without any access -/
theorem strtok_r_null (m : Mem) (delim fuel : Nat) :
    strtok_r m none delim none fuel = some (m, none, none) := rfl

/-- historical (before the fix): after "no token" the save pointer kept its old
value — here the stale `some 99` instead of moving to the terminator -/
theorem strtok_rOrig_witness :
    (strtok_rOrig (ofBufs [(8, [44#8, 0#8]), (16, [44#8, 0#8])]) (some 8) 16 (some 99) 10).map (·.2.1)
      = some (some 99) := by decide

/-! ### strstr / strcasestr — first position at which the needle is a prefix of
the rest of the haystack (for strcasestr: after the C-locale `tolower`) -/

/-- empty needle ⇒ the haystack itself; the haystack is not even read -/
theorem strstr_empty_needle (m : Mem) (haystack needle fuel : Nat) (h : m needle = some 0#8) :
    strstr m haystack needle fuel = some (some haystack) := by
  exact strstrF_empty_needle id m haystack needle fuel h

theorem strcasestr_empty_needle (m : Mem) (haystack needle fuel : Nat) (h : m needle = some 0#8) :
    strcasestr m haystack needle fuel = some (some haystack) := by
  exact strstrF_empty_needle tolowerI m haystack needle fuel h

theorem strstr_found (m : Mem) (haystack needle : Nat) (nd p r : List Byte) (fuel : Nat)
    (hH : CStr m haystack (p ++ nd ++ r)) (hN : CStr m needle nd) (hne : nd ≠ [])
    (hfirst : ∀ i, i < p.length → ¬ nd <+: (p ++ nd ++ r).drop i)
    (hf : (p ++ nd ++ r).length < fuel) :
    strstr m haystack needle fuel = some (some (haystack + p.length)) := by
  exact strstrF_found Fold.id m haystack needle nd p nd r fuel hH hN hne rfl (by simpa using hfirst) hf

theorem strstr_absent (m : Mem) (haystack needle : Nat) (nd l : List Byte) (fuel : Nat)
    (hH : CStr m haystack l) (hN : CStr m needle nd) (hne : nd ≠ [])
    (hno : ∀ i, i < l.length → ¬ nd <+: l.drop i) (hf : l.length < fuel) :
    strstr m haystack needle fuel = some none := by
  exact strstrF_absent Fold.id m haystack needle nd l fuel hH hN hne (by simpa using hno) hf

theorem strcasestr_found (m : Mem) (haystack needle : Nat) (nd p mid r : List Byte) (fuel : Nat)
    (hH : CStr m haystack (p ++ mid ++ r)) (hN : CStr m needle nd) (hne : nd ≠ [])
    (hmid : mid.map lowerB = nd.map lowerB)
    (hfirst : ∀ i, i < p.length → ¬ nd.map lowerB <+: ((p ++ mid ++ r).drop i).map lowerB)
    (hf : (p ++ mid ++ r).length < fuel) :
    strcasestr m haystack needle fuel = some (some (haystack + p.length)) := by
  exact strstrF_found Fold.lower m haystack needle nd p mid r fuel hH hN hne hmid hfirst hf

theorem strcasestr_absent (m : Mem) (haystack needle : Nat) (nd l : List Byte) (fuel : Nat)
    (hH : CStr m haystack l) (hN : CStr m needle nd) (hne : nd ≠ [])
    (hno : ∀ i, i < l.length → ¬ nd.map lowerB <+: (l.drop i).map lowerB) (hf : l.length < fuel) :
    strcasestr m haystack needle fuel = some none := by
  exact strstrF_absent Fold.lower m haystack needle nd l fuel hH hN hne hno hf

/-! ### strncat — `c` is what gets appended: the first `min(n, strlen(s2))`
characters of the source (either `n` characters, and then nothing after them
is read, or fewer followed by the source's terminator) -/

theorem strncat_eq_simple_loop (m : Mem) (s1 s2 n fuel e : Nat) (he : scanNul m fuel s1 = some e) :
    strncat m s1 s2 n fuel = (strncatTail n m (e - 2) s2 0).map fun m' => (m', s1) := by
  rw [strncat_eq, he]
  exact bind_pure_comp (m := Option) ..

theorem strncat_spec (m : Mem) (s1 s2 : Nat) (a c : List Byte) (n fuel : Nat) (hdest : 0 < s1)
    (ha : CStr m s1 a) (hs : Holds m s2 c) (h0 : 0#8 ∉ c) (hn : c.length ≤ n)
    (hend : c.length < n → m (s2 + c.length) = some 0#8)
    (hd : Mapped m (s1 + a.length) (c.length + 1))
    (hdis : Disjoint s1 (a.length + c.length + 1) s2 (c.length + 1)) (hf : a.length < fuel) :
    ∃ m', strncat m s1 s2 n fuel = some (m', s1) ∧ Holds m' s1 (a ++ c ++ [0#8]) ∧
      SameOutside m m' (s1 + a.length) (c.length + 1) := by
  rw [strncat_eq]
  exact cat_spec hdest ha hf (fun p => strncatTail n m p s2 0) fun p hp => by
    rw [← hp]
    exact strncatTail_eq c n m p s2 0 hs h0 hn hend (Or.inr (hp ▸ ha.nul)) (hp ▸ hd)
      (by rw [hp]; unfold Disjoint at hdis ⊢; omega)

/-! ### TOTALITY: the cases above (found / absent, equal / first difference ...) are exhaustive.  On EVERY content
of the mapped objects the call returns (no fault) and the result is characterised by an `iff`. -/

/-- memcmp is TOTAL on two mapped n-byte objects (never a fault, whatever the contents), its result
is 0 exactly when the two objects are equal, and otherwise it is the difference of the first
differing pair read as `unsigned char` -/
theorem memcmp_total (m : Mem) (d s : Nat) (l1 l2 : List Byte) (hlen : l1.length = l2.length)
    (h1 : Holds m d l1) (h2 : Holds m s l2) :
    ∃ r, memcmp m d s l1.length = some r ∧ (r = 0 ↔ l1 = l2) ∧
      (l1 ≠ l2 → ∃ p x y r1 r2, l1 = p ++ x :: r1 ∧ l2 = p ++ y :: r2 ∧ x ≠ y ∧ r = ucInt x - ucInt y) := by
  rcases first_diff l1 l2 hlen with e | ⟨p, x, y, r1, r2, e1, e2, hxy⟩
  · subst e
    exact ⟨0, memcmp_equal m d s l1 h1 h2, by simp, fun h => absurd rfl h⟩
  · have g1 : Holds m d (p ++ [x]) := by
      rw [e1] at h1; exact h1.upto
    have g2 : Holds m s (p ++ [y]) := by
      rw [e2] at h2; exact h2.upto
    have hr := memcmp_first_difference m d s p x y l1.length g1 g2 hxy (by rw [e1]; simp)
    have hne : l1 ≠ l2 := by
      rw [e1, e2]; intro h
      have := List.append_cancel_left h
      exact hxy (List.cons.inj this).1
    have hnz : ucInt x - ucInt y ≠ 0 := fun h0 => hxy ((ucInt_sub_sign x y).2.mp h0)
    exact ⟨_, hr, ⟨fun h0 => absurd h0 hnz, fun h => absurd h hne⟩, fun _ => ⟨p, x, y, r1, r2, e1, e2, hxy, rfl⟩⟩

/-- strcmp is TOTAL on two C strings: no fault, and 0 exactly for equal strings (what the result is otherwise:
`strcmp_first_difference`, where the terminator counts as a character) -/
theorem strcmp_total (m : Mem) (s1 s2 : Nat) (l1 l2 : List Byte) (fuel : Nat) (h1 : CStr m s1 l1) (h2 : CStr m s2 l2)
    (hf : l1.length < fuel) :
    ∃ r, strcmp m s1 s2 fuel = some r ∧ (r = 0 ↔ l1 = l2) := by
  simpa [strcmp] using strcmpF_total Fold.id m s1 s2 l1 l2 fuel h1 h2 hf

/-- memchr is TOTAL on a mapped n-byte object: NULL exactly when the byte does not occur, otherwise
the pointer to its FIRST occurrence -/
theorem memchr_total (m : Mem) (s : Nat) (c : Int) (l : List Byte) (hl : Holds m s l) :
    ∃ r, memchr m s c l.length = some r ∧ (r = none ↔ toChar c ∉ l) ∧
      (toChar c ∈ l → ∃ p rest, l = p ++ toChar c :: rest ∧ toChar c ∉ p ∧ r = some (s + p.length)) := by
  by_cases hc : toChar c ∈ l
  · obtain ⟨p, rest, rfl, hp⟩ := List.eq_append_cons_of_mem hc
    exact ⟨_, memchr_found m s c p rest hl hp, ⟨fun h => by simp at h, fun h => absurd hc h⟩,
      fun _ => ⟨p, rest, rfl, hp, rfl⟩⟩
  · exact ⟨none, memchr_absent m s c l hl hc, ⟨fun _ => hc, fun _ => rfl⟩, fun h => absurd h hc⟩

/-- strnlen is TOTAL on a mapped array of maxlen bytes with ANY contents: the index of the first
NUL, or maxlen when there is none -/
theorem strnlen_total (m : Mem) (s : Nat) (l : List Byte) (h : Holds m s l) :
    ∃ k, strnlen m s l.length = some k ∧ k ≤ l.length ∧ 0#8 ∉ l.take k ∧ (k < l.length → l[k]? = some 0#8) := by
  by_cases h0 : 0#8 ∈ l
  · obtain ⟨p, rest, rfl, hp⟩ := List.eq_append_cons_of_mem h0
    refine ⟨p.length, ?_, by simp, by simpa using hp, fun _ => by simp⟩
    rw [strnlen_spec m s p _ ⟨h.upto, hp⟩, Nat.min_eq_left (by simp)]
  · exact ⟨l.length, strnlen_unterminated m s l h h0, Nat.le_refl _, by simpa using h0, fun hk => absurd hk (Nat.lt_irrefl _)⟩

/-- strchr is TOTAL on a C string, for every `int` ch: the terminator when `(char)ch == 0`, the
FIRST occurrence when the character occurs, NULL otherwise -/
theorem strchr_total (m : Mem) (s : Nat) (ch : Int) (l : List Byte) (fuel : Nat) (h : CStr m s l)
    (hf : l.length < fuel) :
    ∃ r, strchr m s ch fuel = some r ∧
      (toChar ch = 0#8 → r = some (s + l.length)) ∧
      (toChar ch ≠ 0#8 → toChar ch ∉ l → r = none) ∧
      (toChar ch ∈ l → ∃ p rest, l = p ++ toChar ch :: rest ∧ toChar ch ∉ p ∧ r = some (s + p.length)) := by
  by_cases hz : toChar ch = 0#8
  · refine ⟨_, strchr_terminator m s ch l fuel h hz hf, fun _ => rfl, fun h' => absurd hz h', fun hin => ?_⟩
    exact absurd (hz ▸ hin) h.2
  · by_cases hin : toChar ch ∈ l
    · obtain ⟨p, rest, rfl, hp⟩ := List.eq_append_cons_of_mem hin
      exact ⟨_, strchr_found m s ch p fuel h.upto (fun e0 => h.2 (List.mem_append_left _ e0)) hp
        (by simp at hf; omega), fun h' => absurd h' hz, fun _ hn => absurd hin hn, fun _ => ⟨p, rest, rfl, hp, rfl⟩⟩
    · exact ⟨_, strchr_absent m s ch l fuel h hin hz hf, fun h' => absurd h' hz, fun _ _ => rfl, fun h' => absurd h' hin⟩

/-- memrchr is TOTAL on a mapped n-byte object: NULL exactly when the byte does not occur, otherwise
the pointer to its LAST occurrence -/
theorem memrchr_total (m : Mem) (s : Nat) (c : Int) (l : List Byte) (hl : Holds m s l) :
    ∃ r, memrchr m s c l.length = some r ∧ (r = none ↔ toChar c ∉ l) ∧
      (toChar c ∈ l → ∃ p rest, l = p ++ toChar c :: rest ∧ toChar c ∉ rest ∧ r = some (s + p.length)) := by
  by_cases hc : toChar c ∈ l
  · obtain ⟨p, rest, rfl, hp⟩ := last_split hc
    exact ⟨_, memrchr_found m s c p rest hl hp, ⟨fun h => by simp at h, fun h => absurd hc h⟩,
      fun _ => ⟨p, rest, rfl, hp, rfl⟩⟩
  · exact ⟨none, memrchr_absent m s c l hl hc, ⟨fun _ => hc, fun _ => rfl⟩, fun h => absurd h hc⟩

/-- strrchr is TOTAL on a C string, for every `int` ch: the terminator when `(char)ch == 0`, the LAST
occurrence when the character occurs, NULL otherwise -/
theorem strrchr_total (m : Mem) (s : Nat) (ch : Int) (l : List Byte) (fuel : Nat) (h : CStr m s l)
    (hf : l.length + 1 < fuel) :
    ∃ r, strrchr m s ch fuel = some r ∧
      (toChar ch = 0#8 → r = some (s + l.length)) ∧
      (toChar ch ≠ 0#8 → toChar ch ∉ l → r = none) ∧
      (toChar ch ∈ l → ∃ p rest, l = p ++ toChar ch :: rest ∧ toChar ch ∉ rest ∧ r = some (s + p.length)) := by
  by_cases hz : toChar ch = 0#8
  · refine ⟨_, strrchr_terminator m s ch l fuel h hz (by omega), fun _ => rfl, fun h' => absurd hz h', fun hin => ?_⟩
    exact absurd (hz ▸ hin) h.2
  · by_cases hin : toChar ch ∈ l
    · obtain ⟨p, rest, rfl, hp⟩ := last_split hin
      exact ⟨_, strrchr_found m s ch p rest fuel h hp hf, fun h' => absurd h' hz, fun _ hn => absurd hin hn,
        fun _ => ⟨p, rest, rfl, hp, rfl⟩⟩
    · exact ⟨_, strrchr_absent m s ch l fuel h hin hz (by omega), fun h' => absurd h' hz, fun _ _ => rfl,
        fun h' => absurd h' hin⟩

/-- strlen is TOTAL in the sense of its definition: for ANY mapped byte array that contains a NUL the
result is the index of the first one, and nothing behind it is read -/
theorem strlen_first_nul (m : Mem) (s : Nat) (l : List Byte) (fuel : Nat) (h : Holds m s l) (h0 : 0#8 ∈ l)
    (hf : l.length < fuel) :
    ∃ p rest, l = p ++ 0#8 :: rest ∧ 0#8 ∉ p ∧ strlen m s fuel = some p.length := by
  obtain ⟨p, rest, rfl, hp⟩ := List.eq_append_cons_of_mem h0
  exact ⟨p, rest, rfl, hp, strlen_spec m s p fuel ⟨h.upto, hp⟩ (by simp at hf; omega)⟩

/-- strncmp is TOTAL on two C strings for EVERY n (0, smaller, equal, larger than the lengths, SIZE_MAX):
no fault, and the result is 0 exactly when the first n characters - the terminator counts as a
character, nothing behind it is compared - agree -/
theorem strncmp_total (m : Mem) (s1 s2 : Nat) (l1 l2 : List Byte) (n : Nat) (h1 : CStr m s1 l1) (h2 : CStr m s2 l2) :
    ∃ r, strncmp m s1 s2 n = some r ∧ (r = 0 ↔ (l1 ++ [0#8]).take n = (l2 ++ [0#8]).take n) := by
  simpa [strncmp] using strncmpF_total Fold.id m s1 s2 l1 l2 n h1 h2

/-- strcasecmp is TOTAL on two C strings: no fault, and 0 exactly when the strings agree after the
"C"-locale tolower -/
theorem strcasecmp_total (m : Mem) (s1 s2 : Nat) (l1 l2 : List Byte) (fuel : Nat) (h1 : CStr m s1 l1)
    (h2 : CStr m s2 l2) (hf : l1.length < fuel) :
    ∃ r, strcasecmp m s1 s2 fuel = some r ∧ (r = 0 ↔ l1.map lowerB = l2.map lowerB) := by
  exact strcmpF_total Fold.lower m s1 s2 l1 l2 fuel h1 h2 hf

theorem strstr_first_match (m : Mem) (haystack needle : Nat) (nd l : List Byte) (fuel k : Nat)
    (hH : CStr m haystack l) (hN : CStr m needle nd) (hf : l.length < fuel)
    (hk : k ≤ l.length) (hm : nd <+: l.drop k) (hfirst : ∀ i, i < k → ¬ nd <+: l.drop i) :
    strstr m haystack needle fuel = some (some (haystack + k)) := by
  exact strstrF_first_match Fold.id m haystack needle nd l fuel k hH hN hf hk (by simpa using hm)
    (by simpa using hfirst)

/-- strstr is TOTAL on two C strings (the needle may be empty, longer than the haystack, or match only
at the very end): NULL exactly when the needle is a prefix of no suffix of the haystack, otherwise the
pointer to the FIRST position where it is -/
theorem strstr_total (m : Mem) (haystack needle : Nat) (nd l : List Byte) (fuel : Nat)
    (hH : CStr m haystack l) (hN : CStr m needle nd) (hf : l.length < fuel) :
    ∃ r, strstr m haystack needle fuel = some r ∧
      (r = none ↔ ∀ i, i ≤ l.length → ¬ nd <+: l.drop i) ∧
      (∀ k, r = some (haystack + k) → k ≤ l.length → (nd <+: l.drop k ∧ ∀ i, i < k → ¬ nd <+: l.drop i)) := by
  simpa [strstr] using strstrF_total Fold.id m haystack needle nd l fuel hH hN hf

/-! ### closed forms -/

/-- strspn in closed form, for EVERY pair of C strings: the length of the longest prefix made of bytes of the set -/
theorem strspn_closed (m : Mem) (s accept : Nat) (A l : List Byte) (fuel : Nat)
    (hA : CStr m accept A) (h : CStr m s l) (hf : A.length < fuel) (hg : l.length < fuel) :
    strspn m s accept fuel = some (l.takeWhile (fun x => decide (x ∈ A))).length := by
  obtain ⟨x, hh, h0, hlen, hq, hx⟩ := h.span (fun x => decide (x ∈ A))
  exact strspn_spec m s accept A _ x fuel hA hh h0 (fun y hy => by simpa using hq y hy)
    (hx.imp (·.2) (fun ⟨_, _, e⟩ => by simpa using e)) hf (by omega)

/-- strcspn in closed form: the length of the longest prefix free of bytes of the set -/
theorem strcspn_closed (m : Mem) (s reject : Nat) (R l : List Byte) (fuel : Nat)
    (hR : CStr m reject R) (h : CStr m s l) (hf : R.length < fuel) (hg : l.length < fuel) :
    strcspn m s reject fuel = some (l.takeWhile (fun x => decide (x ∉ R))).length := by
  obtain ⟨x, hh, h0, hlen, hq, hx⟩ := h.span (fun x => decide (x ∉ R))
  exact strcspn_spec m s reject R _ x fuel hR hh h0 (fun y hy => by simpa using hq y hy)
    (hx.imp (·.2) (fun ⟨_, _, e⟩ => by simpa using e)) hf (by omega)

/-- strpbrk in closed form: NULL when no byte of the string is in the set, otherwise the pointer
behind the longest prefix free of the set -/
theorem strpbrk_closed (m : Mem) (s1 s2 : Nat) (A l : List Byte) (fuel : Nat)
    (hA : CStr m s2 A) (h : CStr m s1 l) (hf : A.length < fuel) (hg : l.length < fuel) :
    strpbrk m s1 s2 fuel = some (if (l.dropWhile (fun x => decide (x ∉ A))).isEmpty then none
      else some (s1 + (l.takeWhile (fun x => decide (x ∉ A))).length)) := by
  obtain ⟨x, hh, h0, hlen, hq, hx⟩ := h.span (fun x => decide (x ∉ A))
  have hq' : ∀ y ∈ l.takeWhile (fun x => decide (x ∉ A)), y ∉ A := fun y hy => by simpa using hq y hy
  rcases hx with ⟨hd, rfl⟩ | ⟨r, hd, hx⟩
  · have e : l.takeWhile (fun x => decide (x ∉ A)) = l := by
      have := List.takeWhile_append_dropWhile (p := fun x => decide (x ∉ A)) (l := l)
      rwa [hd, List.append_nil] at this
    rw [hd]
    simpa using strpbrk_absent m s1 s2 A l fuel hA h (fun y hy => hq' y (e.symm ▸ hy)) hf hg
  · rw [hd]
    simpa using strpbrk_found m s1 s2 A _ x fuel hA hh h0 hq' (by simpa using hx) hf (by omega)

/-! ### strtok / strtok_r HISTORIES.  A sequence of calls on one
string — the first with the string, the later ones with NULL, call i with its
own delimiter string `ds[i]` (contents `Ds[i]`; the sets may change from call
to call) — returns exactly what the list-level reference automaton
`tokHistory` (Spec.lean: `takeWhile`/`dropWhile` only) prescribes: the tokens in
order, each as a pointer into the string, then NULL for ever; the save pointer
is threaded from call to call as `*saveptr` is.  Nothing outside the string's
characters is modified (the terminator is not rewritten either), and every
call succeeds when only the string and the delimiter strings are mapped.
`strtok` is `strtok_r` on its static pointer (`rfl` below), so the same holds
for it with the static as the threaded state. -/

/-- the general form of the history theorem (any state of the save pointer) -/
theorem strtokCalls_history (fuel lo hi : Nat) : ∀ (Ds : List (List Byte)) (ds : List Nat) (m : Mem)
    (str save : Option Nat) (pos : Nat) (l : List Byte),
    tokStart str save = some pos → CStr m pos l → lo ≤ pos → pos + l.length + 1 ≤ hi → l.length < fuel →
    DelimsOk m fuel lo hi ds Ds →
    ∃ m' sv, strtokCalls m fuel ds str save =
        some (m', sv, (tokHistory Ds l).map (Option.map (pos + ·))) ∧
      SameOutside m m' pos l.length := by
  intro Ds
  induction Ds with
  | nil =>
    intro ds m str save pos l _ _ _ _ _ hD
    cases ds with
    | cons _ _ => exact hD.elim
    | nil => exact ⟨m, save, rfl, SameOutside.refl _ _ _⟩
  | cons D Ds ih =>
    intro ds m str save pos l hstart hl hlo hhi hfl hD
    cases ds with
    | nil => exact hD.elim
    | cons d ds' =>
    obtain ⟨m1, k, l', hcall, hl', hk, ho1, hT⟩ :=
      strtok_r_step m str save pos d D l fuel hstart hD.1.1 hl hD.1.2.1 hfl
    obtain ⟨m', sv, e, ho⟩ := ih ds' m1 none (some (pos + k)) (pos + k) l' rfl hl' (by omega) (by omega) (by omega)
      (hD.2.transport ho1 (by omega))
    refine ⟨m', sv, ?_, fun j hj => by rw [ho j (by omega), ho1 j hj]⟩
    rw [strtokCalls, hcall, some_bind]
    show (strtokCalls m1 fuel ds' none (some (pos + k)) >>= _) = _
    rw [e, hT]
    simp [Function.comp_def, Nat.add_assoc]

theorem strtok_r_history (m : Mem) (start fuel : Nat) (l : List Byte) (ds : List Nat) (Ds : List (List Byte))
    (save : Option Nat) (h : CStr m start l) (hf : l.length < fuel)
    (hD : DelimsOk m fuel start (start + l.length + 1) ds Ds) :
    ∃ m' sv, strtokCalls m fuel ds (some start) save =
        some (m', sv, (tokHistory Ds l).map (Option.map (start + ·))) ∧
      SameOutside m m' start l.length :=
  strtokCalls_history fuel start (start + l.length + 1) Ds ds m (some start) save start l rfl h
    (Nat.le_refl _) (Nat.le_refl _) hf hD

/-- a history that is CONTINUED (all calls with NULL) from a save pointer that rests at `pos` -/
theorem strtok_r_history_continued (m : Mem) (pos fuel lo hi : Nat) (l : List Byte) (ds : List Nat)
    (Ds : List (List Byte)) (h : CStr m pos l) (hlo : lo ≤ pos) (hhi : pos + l.length + 1 ≤ hi)
    (hf : l.length < fuel) (hD : DelimsOk m fuel lo hi ds Ds) :
    ∃ m' sv, strtokCalls m fuel ds none (some pos) =
        some (m', sv, (tokHistory Ds l).map (Option.map (pos + ·))) ∧
      SameOutside m m' pos l.length :=
  strtokCalls_history fuel lo hi Ds ds m none (some pos) pos l rfl h hlo hhi hf hD

/-- strtok's static is the threaded save pointer: the two functions are the same function -/
theorem strtok_is_strtok_r : @strtok = @strtok_r := rfl

/-- the reference automaton on "a,,b;c" with the delimiter sets ",", ",", ";", ";": tokens "a", "b;c"
(the second call still splits at ','), then nothing is left for ';' -/
example : tokHistory [[44#8], [44#8], [59#8], [59#8]] [97#8, 44#8, 44#8, 98#8, 59#8, 99#8] =
    [some 0, some 3, none, none] := by decide
/-- ... and with the set changed to ";" for the second call: "a", then ",b" (the commas are no delimiters now), "c" -/
example : tokHistory [[44#8], [59#8], [59#8], [59#8]] [97#8, 44#8, 44#8, 98#8, 59#8, 99#8] =
    [some 0, some 2, some 5, none] := by decide
/-- the model on the same history (string at 8, "," at 32, ";" at 40): same pointers, and the
hypotheses of `strtok_r_history` hold for this memory -/
example : (strtokCalls (ofBufs [(8, [97#8, 44#8, 44#8, 98#8, 59#8, 99#8, 0#8]), (32, [44#8, 0#8]), (40, [59#8, 0#8])])
    20 [32, 40, 40, 40] (some 8) none).map (·.2.2) = some [some 8, some 10, some 13, none] := by decide

/-- strndup: allocation failure ⇒ NULL, memory untouched -/
theorem strndup_nomem (malloc : Alloc) (m : Mem) (s : Nat) (p : List Byte) (size : Nat)
    (h : Holds m s p) (h0 : 0#8 ∉ p) (hsz : size = p.length ∨ (p.length < size ∧ m (s + p.length) = some 0#8))
    (hal : malloc m (p.length + 1) = none) :
    strndup malloc m s size = some (m, none) := by
  have e1 : strnlen m s size = some p.length := by
    rcases hsz with rfl | ⟨hlt, hz⟩
    · exact strnlen_unterminated m s p h h0
    · rw [strnlen_spec m s p size ⟨holds_snoc.mpr ⟨h, hz⟩, h0⟩, Nat.min_eq_left (Nat.le_of_lt hlt)]
  simp [strndup, e1, hal]

/-! ### ctype: igris/util/ctype.h and the libc wrappers of compat/libc/include/ctype.h
  For EVERY argument ISO C 7.4 allows (EOF and the 256 values of `unsigned char`:
  `ctypeArg i`, `i : Fin 257`) each classification function is non-zero exactly
  on the members of its "C"-locale class (class table `cLocaleTable` in
  Spec.lean, written independently of the range tests of the code) and each
  conversion moves exactly the letters of the other case.  The table is checked
  once against the sets of codes (`table_rows`, Ctype.lean); the functions are
  range tests and agree with those sets for every `int` (`*_class`), of which
  the 257 arguments are instances.  `iscntrl`, `isgraph`, `ispunct` are commented out in
  the header (not provided), so there is nothing to state for them. -/

theorem isupper_c_locale : ∀ i : Fin 257, (isupperI (ctypeArg i) != 0) = inClass (ctypeArg i) CL_U := fun _ => isupperI_class _
theorem islower_c_locale : ∀ i : Fin 257, (islowerI (ctypeArg i) != 0) = inClass (ctypeArg i) CL_L := fun _ => islowerI_class _
theorem isdigit_c_locale : ∀ i : Fin 257, (isdigitI (ctypeArg i) != 0) = inClass (ctypeArg i) CL_D := fun _ => isdigitI_class _
theorem isalpha_c_locale : ∀ i : Fin 257, (isalphaI (ctypeArg i) != 0) = inClass (ctypeArg i) (CL_U ||| CL_L) := fun _ => isalphaI_class _
theorem isalnum_c_locale : ∀ i : Fin 257, (isalnumI (ctypeArg i) != 0) = inClass (ctypeArg i) (CL_U ||| CL_L ||| CL_D) := fun _ => isalnumI_class _
theorem isxdigit_c_locale : ∀ i : Fin 257, (isxdigitI (ctypeArg i) != 0) = inClass (ctypeArg i) (CL_D ||| CL_X) := fun _ => isxdigitI_class _
theorem isspace_c_locale : ∀ i : Fin 257, (isspaceI (ctypeArg i) != 0) = inClass (ctypeArg i) CL_S := fun _ => isspaceI_class _
theorem isblank_c_locale : ∀ i : Fin 257, (isblankI (ctypeArg i) != 0) = inClass (ctypeArg i) CL_B := fun _ => isblankI_class _
/-- printing characters: letters, digits, punctuation and the space character -/
theorem isprint_c_locale : ∀ i : Fin 257, (isprintI (ctypeArg i) != 0) =
    inClass (ctypeArg i) (CL_U ||| CL_L ||| CL_D ||| CL_P ||| CL_SP) := fun _ => isprintI_class _
/-- tolower: an upper-case letter goes to the letter 32 above it; everything else (EOF included) is returned unchanged -/
theorem tolower_c_locale : ∀ i : Fin 257, tolowerC (ctypeArg i) =
    if inClass (ctypeArg i) CL_U then ctypeArg i + 32 else ctypeArg i := fun _ => tolowerC_class _
theorem toupper_c_locale : ∀ i : Fin 257, toupperC (ctypeArg i) =
    if inClass (ctypeArg i) CL_L then ctypeArg i - 32 else ctypeArg i := fun _ => toupperC_class _
/-- toascii keeps the low seven bits (EOF ↦ 127) -/
theorem toascii_c_locale : ∀ i : Fin 257, toasciiI (ctypeArg i) = ctypeArg i % 128 := fun _ => toasciiI_eq _
/-- every classification function returns exactly 0 or 1 (a C truth value), for every `int` -/
theorem ctype_results_are_0_or_1 (c : Int) :
    ∀ f ∈ [isupperI, islowerI, isdigitI, isalphaI, isalnumI, isxdigitI, isspaceI, isblankI, isprintI, isasciiI],
      f c = 0 ∨ f c = 1 := by
  have ite01 : ∀ (p : Prop) [Decidable p], (if p then (1 : Int) else 0) = 0 ∨ (if p then (1 : Int) else 0) = 1 := by
    intro p _; split <;> simp
  intro f hf
  simp only [List.mem_cons, List.not_mem_nil, or_false] at hf
  rcases hf with rfl | rfl | rfl | rfl | rfl | rfl | rfl | rfl | rfl | rfl <;> exact ite01 _
/-- for EVERY `int` outside 0..127 (not only the 257 ISO arguments): no class, conversions are the identity -/
theorem ctype_outside_ascii (c : Int) (h : c < 0 ∨ 127 < c) :
    isupperI c = 0 ∧ islowerI c = 0 ∧ isdigitI c = 0 ∧ isalphaI c = 0 ∧ isalnumI c = 0 ∧ isxdigitI c = 0 ∧
    isspaceI c = 0 ∧ isblankI c = 0 ∧ isprintI c = 0 ∧ tolowerC c = c ∧ toupperC c = c := by
  have z : ∀ {x : Int} {mask : Nat}, (x != 0) = inClass c mask → x = 0 := fun e => by
    simpa [inClass_outside h] using e
  exact ⟨z (isupperI_class c), z (islowerI_class c), z (isdigitI_class c), z (isalphaI_class c), z (isalnumI_class c),
    z (isxdigitI_class c), z (isspaceI_class c), z (isblankI_class c), z (isprintI_class c),
    by rw [tolowerC_class, inClass_outside h]; rfl, by rw [toupperC_class, inClass_outside h]; rfl⟩
/-- the two spellings of the conversions agree for every `int`: `tolowerI/toupperI` (range test inlined; used by
strcasecmp & co.) = `tolowerC/toupperC` (through the predicate, as igris/util/ctype.h writes them) -/
theorem tolower_twins_agree (c : Int) : tolowerC c = tolowerI c ∧ toupperC c = toupperI c := by
  simp only [tolowerC, tolowerI, toupperC, toupperI, isupperI, islowerI, ite01_ne]
  exact ⟨rfl, rfl⟩
/-- isascii (POSIX: defined on ALL integer values, true exactly for 0..127) — for every 32-bit `int`
(`fix: isascii converts to unsigned`) -/
theorem isascii_spec (c : Int) (hc : -2147483648 ≤ c ∧ c ≤ 2147483647) :
    isasciiI c = if 0 ≤ c ∧ c ≤ 127 then 1 else 0 := by
  unfold isasciiI
  rw [BitVec.toNat_ofInt]
  by_cases h : 0 ≤ c ∧ c ≤ 127
  · rw [if_pos h, if_pos (by omega)]
  · rw [if_neg h, if_neg (by omega)]
/-- historical: `((unsigned char)(c)) <= 0x7f` called 321 (= 256 + 'A') an ASCII character -/
theorem isasciiOrig_witness : isasciiOrig 321 = 1 := by decide

/-! ### strncasecmp / strcasestr in iff form -/

/-- the first `n` characters of two ARRAYS agree up to case and none of them is a NUL: 0, and nothing behind
the n-th character is read (the arrays need no terminator); `n` may be smaller than the arrays -/
theorem strncasecmp_cut (m : Mem) (s1 s2 : Nat) (P1 P2 : List Byte) (n : Nat)
    (h1 : Holds m s1 P1) (h2 : Holds m s2 P2) (he : P1.map lowerB = P2.map lowerB) (h0 : 0#8 ∉ P1)
    (hn : n ≤ P1.length) : strncasecmp m s1 s2 n = some 0 := by
  cases n with
  | zero => rfl
  | succ k => simpa [strncasecmp] using strncmpF_cut Fold.lower m s1 s2 P1 P2 k h1 h2 he h0 (by omega)

/-- strncasecmp is TOTAL on two C strings for EVERY n (0, smaller, equal, larger than the lengths, SIZE_MAX): no
fault, and the result is 0 exactly when the first n characters (the terminator counts as a character, nothing
behind it is compared) agree after the "C"-locale tolower -/
theorem strncasecmp_total (m : Mem) (s1 s2 : Nat) (l1 l2 : List Byte) (n : Nat) (h1 : CStr m s1 l1)
    (h2 : CStr m s2 l2) :
    ∃ r, strncasecmp m s1 s2 n = some r ∧
      (r = 0 ↔ ((l1 ++ [0#8]).take n).map lowerB = ((l2 ++ [0#8]).take n).map lowerB) :=
  strncmpF_total Fold.lower m s1 s2 l1 l2 n h1 h2

theorem strcasestr_first_match (m : Mem) (haystack needle : Nat) (nd l : List Byte) (fuel k : Nat)
    (hH : CStr m haystack l) (hN : CStr m needle nd) (hf : l.length < fuel)
    (hk : k ≤ l.length) (hm : nd.map lowerB <+: (l.drop k).map lowerB)
    (hfirst : ∀ i, i < k → ¬ nd.map lowerB <+: (l.drop i).map lowerB) :
    strcasestr m haystack needle fuel = some (some (haystack + k)) := by
  exact strstrF_first_match Fold.lower m haystack needle nd l fuel k hH hN hf hk hm hfirst

theorem strcasestr_total (m : Mem) (haystack needle : Nat) (nd l : List Byte) (fuel : Nat)
    (hH : CStr m haystack l) (hN : CStr m needle nd) (hf : l.length < fuel) :
    ∃ r, strcasestr m haystack needle fuel = some r ∧
      (r = none ↔ ∀ i, i ≤ l.length → ¬ nd.map lowerB <+: (l.drop i).map lowerB) ∧
      (∀ k, r = some (haystack + k) → k ≤ l.length →
        (nd.map lowerB <+: (l.drop k).map lowerB ∧ ∀ i, i < k → ¬ nd.map lowerB <+: (l.drop i).map lowerB)) := by
  exact strstrF_total Fold.lower m haystack needle nd l fuel hH hN hf

/-! ### ACCESS MONOTONICITY.  `MemLe m m'` (Monotone.lean): `m'` extends `m` - every cell
mapped in `m` is mapped in `m'` with the same content; `m'` may map any number of further cells with any
content.  For EVERY function of the model, for ALL arguments (also those outside the hypotheses of the
specification theorems): if the call succeeds on `m`, it succeeds on `m'` with the SAME result, and for the
writers the resulting memories are related again.  Together with the specification theorems (success when
only the allowed ranges are mapped) this is the "reads and writes no byte outside" clause without a reading
convention: the behaviour on any memory that contains the allowed ranges IS the behaviour on the memory
that contains nothing else; the additional cells are neither needed nor looked at (a fault is the only way
the model can observe a cell, and it does not occur). -/

theorem memchr_access_monotone {m m' : Mem} (h : MemLe m m') (s : Nat) (c : Int) (n : Nat) (r : Option Nat)
    (e : memchr m s c n = some r) : memchr m' s c n = some r := (memchrLoop_le h _ _ _).eq e
theorem memrchr_access_monotone {m m' : Mem} (h : MemLe m m') (s : Nat) (c : Int) (n : Nat) (r : Option Nat)
    (e : memrchr m s c n = some r) : memrchr m' s c n = some r := (memrchrLoop_le h _ _ _).eq e
theorem memcmp_access_monotone {m m' : Mem} (h : MemLe m m') (d s n : Nat) (r : Int)
    (e : memcmp m d s n = some r) : memcmp m' d s n = some r := (memcmp_le h d s n).eq e
theorem strlen_access_monotone {m m' : Mem} (h : MemLe m m') (s fuel : Nat) (r : Nat)
    (e : strlen m s fuel = some r) : strlen m' s fuel = some r := (strlen_le h s fuel).eq e
theorem strnlen_access_monotone {m m' : Mem} (h : MemLe m m') (s n : Nat) (r : Nat)
    (e : strnlen m s n = some r) : strnlen m' s n = some r := (strnlen_le h s n).eq e
theorem strcmp_access_monotone {m m' : Mem} (h : MemLe m m') (a b fuel : Nat) (r : Int)
    (e : strcmp m a b fuel = some r) : strcmp m' a b fuel = some r := (strcmpLoop_le h id fuel a b).eq e
theorem strcasecmp_access_monotone {m m' : Mem} (h : MemLe m m') (a b fuel : Nat) (r : Int)
    (e : strcasecmp m a b fuel = some r) : strcasecmp m' a b fuel = some r := (strcmpLoop_le h tolowerI fuel a b).eq e
theorem strncmp_access_monotone {m m' : Mem} (h : MemLe m m') (a b n : Nat) (r : Int)
    (e : strncmp m a b n = some r) : strncmp m' a b n = some r := (strncmpF_le h id a b n).eq e
theorem strncasecmp_access_monotone {m m' : Mem} (h : MemLe m m') (a b n : Nat) (r : Int)
    (e : strncasecmp m a b n = some r) : strncasecmp m' a b n = some r := (strncmpF_le h tolowerI a b n).eq e
theorem strchrnul_access_monotone {m m' : Mem} (h : MemLe m m') (s : Nat) (ch : Int) (fuel : Nat) (r : Nat)
    (e : strchrnul m s ch fuel = some r) : strchrnul m' s ch fuel = some r := (strchrnulLoop_le h (toChar ch) fuel s).eq e
theorem strchr_access_monotone {m m' : Mem} (h : MemLe m m') (s : Nat) (ch : Int) (fuel : Nat) (r : Option Nat)
    (e : strchr m s ch fuel = some r) : strchr m' s ch fuel = some r := (strchr_le h s ch fuel).eq e
theorem strrchr_access_monotone {m m' : Mem} (h : MemLe m m') (s : Nat) (ch : Int) (fuel : Nat) (r : Option Nat)
    (e : strrchr m s ch fuel = some r) : strrchr m' s ch fuel = some r := (strrchr_le h s ch fuel).eq e
theorem strstr_access_monotone {m m' : Mem} (h : MemLe m m') (hs nd fuel : Nat) (r : Option Nat)
    (e : strstr m hs nd fuel = some r) : strstr m' hs nd fuel = some r := (strstrF_le h id hs nd fuel).eq e
theorem strcasestr_access_monotone {m m' : Mem} (h : MemLe m m') (hs nd fuel : Nat) (r : Option Nat)
    (e : strcasestr m hs nd fuel = some r) : strcasestr m' hs nd fuel = some r := (strstrF_le h tolowerI hs nd fuel).eq e
theorem strspn_access_monotone {m m' : Mem} (h : MemLe m m') (s a fuel : Nat) (r : Nat)
    (e : strspn m s a fuel = some r) : strspn m' s a fuel = some r := (strspnLoop_le h _ _ _ _ _).eq e
theorem strcspn_access_monotone {m m' : Mem} (h : MemLe m m') (s a fuel : Nat) (r : Nat)
    (e : strcspn m s a fuel = some r) : strcspn m' s a fuel = some r := (strcspn_le h s a fuel).eq e
theorem strpbrk_access_monotone {m m' : Mem} (h : MemLe m m') (s a fuel : Nat) (r : Option Nat)
    (e : strpbrk m s a fuel = some r) : strpbrk m' s a fuel = some r := (strpbrk_le h s a fuel).eq e

theorem memcpy_access_monotone {m m' : Mem} (h : MemLe m m') (d s n : Nat) (m1 : Mem) (r : Nat)
    (e : memcpy m d s n = some (m1, r)) : ∃ m1', memcpy m' d s n = some (m1', r) ∧ MemLe m1 m1' := (memcpy_le h d s n).mv e
theorem memmove_access_monotone {m m' : Mem} (h : MemLe m m') (d s n : Nat) (m1 : Mem) (r : Nat)
    (e : memmove m d s n = some (m1, r)) : ∃ m1', memmove m' d s n = some (m1', r) ∧ MemLe m1 m1' := (OLe.ite (fun _ => OLe.ret (memmoveBack_le _ h _ _) _) fun _ => memcpy_le h _ _ _).mv e
theorem memset_access_monotone {m m' : Mem} (h : MemLe m m') (d : Nat) (c : Int) (n : Nat) (m1 : Mem) (r : Nat)
    (e : memset m d c n = some (m1, r)) : ∃ m1', memset m' d c n = some (m1', r) ∧ MemLe m1 m1' := (OLe.ret (memsetLoop_le _ _ h _) _).mv e
theorem strcpy_access_monotone {m m' : Mem} (h : MemLe m m') (d s fuel : Nat) (m1 : Mem) (r : Nat)
    (e : strcpy m d s fuel = some (m1, r)) : ∃ m1', strcpy m' d s fuel = some (m1', r) ∧ MemLe m1 m1' := (strcpy_le h d s fuel).mv e
theorem strncpy_access_monotone {m m' : Mem} (h : MemLe m m') (d s n : Nat) (m1 : Mem) (r : Nat)
    (e : strncpy m d s n = some (m1, r)) : ∃ m1', strncpy m' d s n = some (m1', r) ∧ MemLe m1 m1' := (OLe.ret (strncpyLoop_le _ h _ _) _).mv e
theorem strlcpy_access_monotone {m m' : Mem} (h : MemLe m m') (d s size fuel : Nat) (m1 : Mem) (r : Nat)
    (e : strlcpy m d s size fuel = some (m1, r)) : ∃ m1', strlcpy m' d s size fuel = some (m1', r) ∧ MemLe m1 m1' := (strlcpy_le h d s size fuel).mv e
theorem strcat_access_monotone {m m' : Mem} (h : MemLe m m') (d s fuel : Nat) (m1 : Mem) (r : Nat)
    (e : strcat m d s fuel = some (m1, r)) : ∃ m1', strcat m' d s fuel = some (m1', r) ∧ MemLe m1 m1' := (strcat_le h d s fuel).mv e
theorem strncat_access_monotone {m m' : Mem} (h : MemLe m m') (d s n fuel : Nat) (m1 : Mem) (r : Nat)
    (e : strncat m d s n fuel = some (m1, r)) : ∃ m1', strncat m' d s n fuel = some (m1', r) ∧ MemLe m1 m1' := (strncat_le h d s n fuel).mv e
theorem strlwr_access_monotone {m m' : Mem} (h : MemLe m m') (s fuel : Nat) (m1 : Mem) (r : Nat)
    (e : strlwr m s fuel = some (m1, r)) : ∃ m1', strlwr m' s fuel = some (m1', r) ∧ MemLe m1 m1' := (OLe.ret (caseLoop_le _ _ _ _ h _) _).mv e
theorem strupr_access_monotone {m m' : Mem} (h : MemLe m m') (s fuel : Nat) (m1 : Mem) (r : Nat)
    (e : strupr m s fuel = some (m1, r)) : ∃ m1', strupr m' s fuel = some (m1', r) ∧ MemLe m1 m1' := (OLe.ret (caseLoop_le _ _ _ _ h _) _).mv e
theorem strtok_r_access_monotone {m m' : Mem} (h : MemLe m m') (str : Option Nat) (delim : Nat) (save : Option Nat) (fuel : Nat) (m1 : Mem) (r : Option Nat × Option Nat)
    (e : strtok_r m str delim save fuel = some (m1, r)) : ∃ m1', strtok_r m' str delim save fuel = some (m1', r) ∧ MemLe m1 m1' := (strtok_r_le h str delim save fuel).mv e
theorem strtok_access_monotone {m m' : Mem} (h : MemLe m m') (str : Option Nat) (delim : Nat) (save : Option Nat) (fuel : Nat) (m1 : Mem) (r : Option Nat × Option Nat)
    (e : strtok m str delim save fuel = some (m1, r)) : ∃ m1', strtok m' str delim save fuel = some (m1', r) ∧ MemLe m1 m1' := (strtok_r_le h str delim save fuel).mv e
theorem strdup_access_monotone {malloc : Alloc} (ha : AllocMono malloc) {m m' : Mem} (h : MemLe m m') (s fuel : Nat) (m1 : Mem) (r : Option Nat)
    (e : strdup malloc m s fuel = some (m1, r)) : ∃ m1', strdup malloc m' s fuel = some (m1', r) ∧ MemLe m1 m1' := (strdup_le ha h s fuel).mv e
theorem strndup_access_monotone {malloc : Alloc} (ha : AllocMono malloc) {m m' : Mem} (h : MemLe m m') (s size : Nat) (m1 : Mem) (r : Option Nat)
    (e : strndup malloc m s size = some (m1, r)) : ∃ m1', strndup malloc m' s size = some (m1', r) ∧ MemLe m1 m1' := (strndup_le ha h s size).mv e

/-- a whole strtok history on a larger memory: the same tokens, the same final save pointer -/
theorem strtokCalls_access_monotone {m m' : Mem} (h : MemLe m m') (fuel : Nat) (ds : List Nat) (str save : Option Nat)
    (m1 : Mem) (r : Option Nat × List (Option Nat))
    (e : strtokCalls m fuel ds str save = some (m1, r)) :
    ∃ m1', strtokCalls m' fuel ds str save = some (m1', r) ∧ MemLe m1 m1' := (strtokCalls_le fuel ds h str save).mv e

/-- the driver's allocator (a fresh block at a fixed address) satisfies `AllocMono` -/
example (base : Nat) : AllocMono (fun m n => some ((fun a => if base ≤ a ∧ a < base + n then some 0xA5#8 else m a), base)) := by
  intro m m' n h
  refine ⟨fun e => by simp at e, fun m1 p e => ?_⟩
  simp only [Option.some.injEq, Prod.mk.injEq] at e
  obtain ⟨e1, e2⟩ := e
  subst e1; subst e2
  refine ⟨_, rfl, ?_⟩
  intro a v hv
  by_cases c : base ≤ a ∧ a < base + n
  · simpa [c] using hv
  · simp only [if_neg c] at hv ⊢; exact h a v hv
/-- and so does the allocator that always fails -/
example : AllocMono (fun _ _ => none) := fun _ _ _ _ => ⟨fun _ => rfl, fun _ _ e => by simp at e⟩

/-- `MemLe` is not vacuous: "abc\0" alone vs. the same string with a second object next to it; strlen, which
succeeds on the small memory, gives the same value on the large one (and the converse fails: the large memory
lets strlen run on the second object, the small one faults there) -/
example : MemLe (ofBufs [(8, [97#8, 98#8, 99#8, 0#8])]) (ofBufs [(8, [97#8, 98#8, 99#8, 0#8]), (12, [1#8, 0#8])]) :=
  memLe_ofBufs_append [_] [_]
example : strlen (ofBufs [(8, [97#8, 98#8, 99#8, 0#8]), (12, [1#8, 0#8])]) 8 10 = some 3 ∧
    strlen (ofBufs [(8, [97#8, 98#8, 99#8, 0#8]), (12, [1#8, 0#8])]) 12 10 = some 1 ∧
    strlen (ofBufs [(8, [97#8, 98#8, 99#8, 0#8])]) 12 10 = none := by decide
/-- `strncasecmp_total`: "aB" vs "Ac": equal up to case on the first character only; `strcasestr_total`: "xAb" / "aB" -/
example : strncasecmp (ofBufs [(8, [97#8, 66#8, 0#8]), (32, [65#8, 99#8, 0#8])]) 8 32 1 = some 0 ∧
    strncasecmp (ofBufs [(8, [97#8, 66#8, 0#8]), (32, [65#8, 99#8, 0#8])]) 8 32 2 = some (-1) ∧
    strcasestr (ofBufs [(8, [120#8, 65#8, 98#8, 0#8]), (32, [97#8, 66#8, 0#8])]) 8 32 10 = some (some 9) := by decide

/-! ### the LINEAR-TIME FORM of the model (Fast.lean) IS the model.  `AMem` is an array of cells,
`absA c` the partial memory it stands for.  The ten functions that write O(n) bytes are defined a second time
over `AMem` - the text of Model.lean with `rd`/`wr` replaced by the O(1) `rdA`/`wrA` - and these theorems say that
the array version faults exactly when the literal model faults on `absA c`, returns the same value, and ends in
an array that stands for the literal model's resulting memory.  The driver runs the array versions on the
64 KiB / 300 KiB inputs of the writers: by these theorems that is a run of the literal model (closure memory:
O(n^2), out of reach), not of a second specification. -/

theorem memcpy_linear_form (c : AMem) (d s n : Nat) :
    (memcpyA c d s n).map absP = memcpy (absA c) d s n := (memcpy_absA c d s n).symm
theorem memmove_linear_form (c : AMem) (d s n : Nat) :
    (memmoveA c d s n).map absP = memmove (absA c) d s n := (ite_sim (fun _ => ret_sim (memmoveBack_absA _ _ _ _) _) fun _ => memcpy_absA _ _ _ _).symm
theorem memset_linear_form (c : AMem) (d : Nat) (x : Int) (n : Nat) :
    (memsetA c d x n).map absP = memset (absA c) d x n := (ret_sim (memsetLoop_absA _ _ _ _) _).symm
theorem strcpy_linear_form (c : AMem) (d s fuel : Nat) :
    (strcpyA c d s fuel).map absP = strcpy (absA c) d s fuel := (strcpy_absA c d s fuel).symm
theorem strncpy_linear_form (c : AMem) (d s n : Nat) :
    (strncpyA c d s n).map absP = strncpy (absA c) d s n := (ret_sim (strncpyLoop_absA _ _ _ _) _).symm
theorem strlcpy_linear_form (c : AMem) (d s size fuel : Nat) :
    (strlcpyA c d s size fuel).map absP = strlcpy (absA c) d s size fuel := (strlcpy_absA c d s size fuel).symm
theorem strcat_linear_form (c : AMem) (d s fuel : Nat) :
    (strcatA c d s fuel).map absP = strcat (absA c) d s fuel := (strcat_absA c d s fuel).symm
theorem strncat_linear_form (c : AMem) (d s n fuel : Nat) :
    (strncatA c d s n fuel).map absP = strncat (absA c) d s n fuel := (strncat_absA c d s n fuel).symm
theorem strdup_linear_form {malloc : Alloc} {mallocA : AllocA} (hm : AllocSim malloc mallocA) (c : AMem) (s fuel : Nat) :
    (strdupA mallocA c s fuel).map absP = strdup malloc (absA c) s fuel := (strdup_absA hm c s fuel).symm
theorem strndup_linear_form {malloc : Alloc} {mallocA : AllocA} (hm : AllocSim malloc mallocA) (c : AMem) (s size : Nat) :
    (strndupA mallocA c s size).map absP = strndup malloc (absA c) s size := (strndup_absA hm c s size).symm
/-- the allocator of the driver (a fresh block filled with 0xA5 at a fixed address, or NULL) in its two forms -/
theorem driver_malloc_linear_form (fail : Bool) (base : Nat) : AllocSim (mallocFn fail base) (mallocArr fail base) := by
  intro c n
  unfold mallocFn mallocArr
  cases fail with
  | true => rfl
  | false =>
    simp only [Bool.false_eq_true, if_false, Option.map_some, absP]
    rw [absA_fill n _ base (size_grow c (base + n)), absA_grow]
/-- the two primitives: reading a cell, and writing one (fault on an unmapped cell included) -/
theorem rd_wr_linear_form (c : AMem) (a : Nat) (v : Byte) :
    rdA c a = rd (absA c) a ∧ (wrA c a v).map absA = wr (absA c) a v := ⟨rfl, (wr_absA c a v).symm⟩
/-- `absA` is onto the finitely mapped memories the driver builds: an array and the memory it stands for, and a
memmove with overlap run in both forms -/
example : (memmoveA #[none, some 1#8, some 2#8, some 3#8, some 4#8, none] 2 1 3).map (fun r => (r.1, r.2)) =
    some (#[none, some 1#8, some 1#8, some 2#8, some 3#8, none], 2) := by decide
example : (memmove (absA #[none, some 1#8, some 2#8, some 3#8, some 4#8, none]) 2 1 3).map (fun r => (readOut r.1 1 4, r.2)) =
    some (some [1#8, 1#8, 2#8, 3#8], 2) := by decide
example : memmoveA #[none, some 1#8, some 2#8, some 3#8, some 4#8, none] 3 1 3 = none := by decide

/-! ### NO RESULT DEPENDS ON THE SIGNEDNESS OF PLAIN `char`.  Unsigned.lean holds the
definitions of Model.lean that convert a plain `char` to `int`, with the zero-extending conversion of a target
whose `char` is unsigned (ARM, PowerPC) instead of the sign-extending one.  They are the same functions - for
all memories, arguments and fuels.  (All other functions of the library convert through `unsigned char`
explicitly or compare bytes only, so their transcription does not mention the conversion at all.) -/

theorem strstr_char_sign_free : @strstrU = @strstr := by
  funext m h n fuel; exact strstrFU_eq Fold.id m h n fuel
theorem strcasestr_char_sign_free : @strcasestrU = @strcasestr := by
  funext m h n fuel; exact strstrFU_eq Fold.lower m h n fuel
theorem strcspn_char_sign_free : @strcspnU = @strcspn := by
  funext m s r fuel; exact strcspnLoopU_eq m r fuel fuel s 0
theorem strtok_r_char_sign_free : @strtok_rU = @strtok_r := by
  funext m str delim save fuel
  simp only [strtok_rU, strtok_r, tokSkipU_eq, strcspn_char_sign_free]
  rfl
theorem strlwr_char_sign_free : @strlwrU = @strlwr := by
  funext m s fuel; simp only [strlwrU, strlwr, caseLoopU_eq 65 90 (by decide) (by decide)]
theorem strupr_char_sign_free : @struprU = @strupr := by
  funext m s fuel; simp only [struprU, strupr, caseLoopU_eq 97 122 (by decide) (by decide)]
/-- strchr, and through it strrchr / strcspn / strtok, looks only at `(char)ch`: any two `int`s with the same low
byte - in particular the sign-extended and the zero-extended value of a character - give the same call -/
theorem strchr_depends_on_char_only (m : Mem) (s : Nat) (a b : Int) (fuel : Nat) (h : toChar a = toChar b) :
    strchr m s a fuel = strchr m s b fuel := strchr_char_only m s a b fuel h
/-- the two conversions really differ (on every byte >= 0x80), so the theorems above are not vacuous -/
example : scInt 0xE1#8 = -31 ∧ ucInt 0xE1#8 = 225 ∧ toChar (-31) = toChar 225 := by decide

/-- the class table is not degenerate: 26 + 26 letters, 10 digits, 6 white-space characters, 95 printing ones -/
example : ((List.range 128).filter fun c => inClass (c : Nat) CL_U).length = 26 ∧
    ((List.range 128).filter fun c => inClass (c : Nat) CL_L).length = 26 ∧
    ((List.range 128).filter fun c => inClass (c : Nat) CL_D).length = 10 ∧
    ((List.range 128).filter fun c => inClass (c : Nat) CL_S).length = 6 ∧
    ((List.range 128).filter fun c => inClass (c : Nat) (CL_U ||| CL_L ||| CL_D ||| CL_P ||| CL_SP)).length = 95 := by
  -- counted on the range tests of the code, which decide the classes
  simp only [← isupperI_class, ← islowerI_class, ← isdigitI_class, ← isspaceI_class, ← isprintI_class]
  decide +kernel
example : ctypeArg 0 = -1 ∧ ctypeArg 256 = 255 := by decide

/-! composite hypothesis sets are satisfiable: concrete memories on which the
conclusions of the theorems are observed on the model -/

/-- `strstr_found` / `strstr_total`: "xab" at 8, needle "ab" at 32 — first match at offset 1, the very end -/
example : strstr (ofBufs [(8, [120#8, 97#8, 98#8, 0#8]), (32, [97#8, 98#8, 0#8])]) 8 32 10 = some (some 9) := by decide
/-- needle longer than the haystack -/
example : strstr (ofBufs [(8, [97#8, 0#8]), (32, [97#8, 98#8, 0#8])]) 8 32 10 = some none := by decide
/-- `strncat_spec` with n = 2 < strlen(s2): two characters and a terminator are appended, the byte behind them survives -/
example : (strncat (ofBufs [(8, [97#8, 0#8, 7#8, 7#8, 7#8]), (32, [98#8, 99#8, 100#8, 0#8])]) 8 32 2 10).map
    (fun r => (r.2, readOut r.1 8 5)) = some (8, some [97#8, 98#8, 99#8, 0#8, 7#8]) := by decide
/-- `strncmp_total`: "ab" vs "ac" agree on the first character only -/
example : strncmp (ofBufs [(8, [97#8, 98#8, 0#8]), (32, [97#8, 99#8, 0#8])]) 8 32 1 = some 0 ∧
    (strncmp (ofBufs [(8, [97#8, 98#8, 0#8]), (32, [97#8, 99#8, 0#8])]) 8 32 2) = some (-1) := by decide
/-- `memcmp_total` on bytes >= 0x80: 0x80 > 0x7f as unsigned char -/
example : memcmp (ofBufs [(8, [0x80#8]), (32, [0x7f#8])]) 8 32 1 = some 1 := by decide
/-- `strspn_closed` / `strcspn_closed` -/
example : strspn (ofBufs [(8, [97#8, 98#8, 44#8, 0#8]), (32, [98#8, 97#8, 0#8])]) 8 32 10 = some 2 ∧
    strcspn (ofBufs [(8, [97#8, 98#8, 44#8, 0#8]), (32, [44#8, 0#8])]) 8 32 10 = some 2 := by decide

/-! ### non-vacuity: the hypotheses used above are satisfiable (concrete memories) -/

example : CStr exMem 8 [97#8, 98#8, 99#8] :=
  ⟨holds_cons.mpr ⟨by decide, holds_cons.mpr ⟨by decide, holds_cons.mpr ⟨by decide, holds_one.mpr (by decide)⟩⟩⟩,
    by decide⟩

example : Holds exMem 32 [1#8, 2#8, 3#8, 4#8, 5#8, 6#8] :=
  holds_cons.mpr ⟨by decide, holds_cons.mpr ⟨by decide, holds_cons.mpr ⟨by decide, holds_cons.mpr ⟨by decide,
    holds_cons.mpr ⟨by decide, holds_one.mpr (by decide)⟩⟩⟩⟩⟩

example : Mapped exMem 32 6 :=
  mapped_succ.mpr ⟨by decide, mapped_succ.mpr ⟨by decide, mapped_succ.mpr ⟨by decide, mapped_succ.mpr ⟨by decide,
    mapped_succ.mpr ⟨by decide, mapped_succ.mpr ⟨by decide, fun _ h => absurd h (Nat.not_lt_zero _)⟩⟩⟩⟩⟩⟩

example : Disjoint 32 4 8 4 := by unfold Disjoint; omega

/-- memmove's hypotheses hold for an overlapping pair (dst = src + 2 inside the
6-byte object), and the model's run agrees with the theorem's conclusion -/
example : (memmove exMem 34 32 4).map (fun r => (r.2, readOut r.1 32 6)) =
    some (34, some [1#8, 2#8, 1#8, 2#8, 3#8, 4#8]) := by decide

/-- forward overlap (dst below src) goes through memcpy -/
example : (memmove exMem 32 33 5).map (fun r => readOut r.1 32 6) =
    some (some [2#8, 3#8, 4#8, 5#8, 6#8, 6#8]) := by decide

/-- the first-occurrence decomposition used by memchr/strchr: `98 ∉ [97]` -/
example : ([97#8, 98#8, 99#8] : List Byte) = [97#8] ++ 98#8 :: [99#8] ∧ (98#8 : Byte) ∉ [97#8] := by decide

/-- the access-range reading of the theorems: with only "abc\0" mapped, strlen
succeeds; with the terminator unmapped it faults -/
example : strlen (ofBufs [(8, [97#8, 98#8, 99#8, 0#8])]) 8 10 = some 3 := by decide
example : strlen (ofBufs [(8, [97#8, 98#8, 99#8])]) 8 10 = none := by decide

/-- an allocator satisfying `AllocOk` (the driver's `mallocAt` has this shape) -/
example (m : Mem) (n : Nat) :
    AllocOk m (fun a => if 64 ≤ a ∧ a < 64 + n then some 0xA5#8 else m a) 64 n := by
  constructor
  · intro i hi; simp [hi]
  · intro j hj; simp only; rw [if_neg hj]

end Igris.C08
