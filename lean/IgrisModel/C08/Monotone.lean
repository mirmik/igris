/-
  C08 — access monotonicity.

  The theorems of Props.lean carry the "reads and writes no byte outside the
  allowed ranges" clause by the reading "the call does not fault on the memory
  in which only those ranges are mapped".  The other half of that reading is
  that a run on a LARGER memory does the same thing: if a call succeeds on
  `m` it succeeds on every extension `m'` with the SAME result, and for the
  writers the resulting memories are again related by `MemLe` (so the cells
  `m'` has in addition are neither needed nor - by the frame theorems -
  modified).  A fault is the only way the model can observe that a cell is not
  mapped; these lemmas are the proof of that remark, loop by loop, and function by function where a body is
  more than its loop and a return (memmove, which chooses between such a loop and memcpy, is put together in
  Props.lean).
-/
import IgrisModel.C08.Copy
namespace Igris.C08
open Igris.Proto

def MemLe (m m' : Mem) : Prop := ∀ a v, m a = some v → m' a = some v

theorem MemLe.refl (m : Mem) : MemLe m m := fun _ _ h => h
theorem MemLe.trans {a b c : Mem} (h1 : MemLe a b) (h2 : MemLe b c) : MemLe a c :=
  fun x v h => h2 x v (h1 x v h)

/-- `ofBufs` looks a cell up in the first buffer that covers it -/
theorem memLe_ofBufs_append : ∀ (bs cs : List (Ptr × List Byte)), MemLe (ofBufs bs) (ofBufs (bs ++ cs))
  | [], _ => fun _ _ h => by cases h
  | (p, b) :: bs, cs => fun a v h => by
    rw [List.cons_append]
    unfold ofBufs at h ⊢
    split at h
    · next hc => rw [if_pos hc]; exact h
    · next hc => rw [if_neg hc]; exact memLe_ofBufs_append bs cs a v h

/-- `x` is the run on the smaller memory, `y` the run on the larger; `R` is `Eq` for the readers, `MemLe` or `MV` for
the writers -/
def OLe {α β : Type} (R : α → β → Prop) (x : Option α) (y : Option β) : Prop :=
  ∀ a, x = some a → ∃ b, y = some b ∧ R a b

section
variable {α β γ δ : Type}

theorem OLe.fail {R : α → β → Prop} {y : Option β} : OLe R (none : Option α) y := fun _ h => by cases h

theorem OLe.val {R : α → β → Prop} {a : α} {b : β} (h : R a b) : OLe R (some a) (some b) :=
  fun _ e => by cases e; exact ⟨b, rfl, h⟩

theorem OLe.bind {R : α → β → Prop} {S : γ → δ → Prop} {x : Option α} {y : Option β}
    {f : α → Option γ} {g : β → Option δ}
    (h : OLe R x y) (hf : ∀ a b, R a b → OLe S (f a) (g b)) : OLe S (x >>= f) (y >>= g) := by
  intro c hc
  cases x with
  | none => simp at hc
  | some a =>
    obtain ⟨b, hb, r⟩ := h a rfl
    subst hb
    exact hf a b r c (by simpa using hc)

theorem OLe.bindEq {R : β → γ → Prop} {x y : Option α} {f : α → Option β} {g : α → Option γ}
    (h : OLe Eq x y) (hf : ∀ a, OLe R (f a) (g a)) : OLe R (x >>= f) (y >>= g) :=
  OLe.bind h fun a _ e => e ▸ hf a

theorem OLe.ite {R : α → β → Prop} {c : Prop} [Decidable c] {a a' : Option α} {b b' : Option β}
    (ht : c → OLe R a b) (he : ¬c → OLe R a' b') : OLe R (if c then a else a') (if c then b else b') := by
  by_cases hc : c
  · simpa [hc] using ht hc
  · simpa [hc] using he hc

theorem OLe.eq {x y : Option α} (h : OLe Eq x y) {r : α} (e : x = some r) : y = some r := by
  obtain ⟨b, hb, rfl⟩ := h r e; exact hb

theorem OLe.map {R : α → β → Prop} {S : γ → δ → Prop} {x : Option α} {y : Option β} {f : α → γ} {g : β → δ}
    (h : OLe R x y) (hf : ∀ a b, R a b → S (f a) (g b)) : OLe S (x.map f) (y.map g) := by
  rw [Option.map_eq_bind, Option.map_eq_bind]
  exact OLe.bind h fun a b r => OLe.val (hf a b r)
end

/-- what a writer returns on the smaller and on the larger memory: memories related by `MemLe`, the same value -/
def MV {α : Type} (p q : Mem × α) : Prop := MemLe p.1 q.1 ∧ p.2 = q.2

theorem OLe.bindMV {α γ δ : Type} {S : γ → δ → Prop} {x y : Option (Mem × α)} {f : Mem × α → Option γ}
    {g : Mem × α → Option δ} (h : OLe MV x y)
    (hf : ∀ m1 m1' a, MemLe m1 m1' → OLe S (f (m1, a)) (g (m1', a))) : OLe S (x >>= f) (y >>= g) :=
  OLe.bind h fun p q r => by
    obtain ⟨m1, a⟩ := p; obtain ⟨m2, b⟩ := q; obtain ⟨r1, r2⟩ := r
    simp only at r1 r2; subst r2; exact hf m1 m2 a r1

/-- `do let m ← loop; pure (m, a)`: how the writers return -/
theorem OLe.ret {α : Type} {x y : Option Mem} (h : OLe MemLe x y) (a : α) :
    OLe MV (x >>= fun m => some (m, a)) (y >>= fun m => some (m, a)) :=
  OLe.bind h fun _ _ h1 => OLe.val ⟨h1, rfl⟩

theorem OLe.mv {α : Type} {x y : Option (Mem × α)} (h : OLe MV x y) {m1 : Mem} {r : α} (e : x = some (m1, r)) :
    ∃ m1', y = some (m1', r) ∧ MemLe m1 m1' := by
  obtain ⟨⟨m2, r2⟩, e2, hle, hr⟩ := h (m1, r) e
  simp only at hle hr
  subst hr
  exact ⟨m2, e2, hle⟩

theorem rd_le {m m' : Mem} (h : MemLe m m') (a : Ptr) : OLe Eq (rd m a) (rd m' a) :=
  fun b e => ⟨b, h a b e, rfl⟩

theorem OLe.rd {α β : Type} {R : α → β → Prop} {m m' : Mem} (h : MemLe m m') (a : Ptr) {f : Byte → Option α}
    {g : Byte → Option β} (hf : ∀ b, OLe R (f b) (g b)) : OLe R (rd m a >>= f) (rd m' a >>= g) :=
  OLe.bindEq (rd_le h a) hf

theorem wr_le {m m' : Mem} (h : MemLe m m') (a : Ptr) (v : Byte) : OLe MemLe (wr m a v) (wr m' a v) := by
  intro m1 e
  obtain ⟨hs, rfl⟩ := wr_eq_some e
  obtain ⟨b, hb⟩ := Option.isSome_iff_exists.mp hs
  refine ⟨upd m' a v, wr_upd (by rw [h a b hb]; rfl), fun j w (hj : upd m a v j = some w) => ?_⟩
  by_cases hja : j = a
  · rw [hja, upd_same] at hj ⊢; exact hj
  · rw [upd_other _ _ hja] at hj ⊢; exact h j w hj

theorem memchrLoop_le {m m' : Mem} (h : MemLe m m') (d : Byte) :
    ∀ n s, OLe Eq (memchrLoop m d n s) (memchrLoop m' d n s)
  | 0, _ => OLe.val rfl
  | n + 1, s => by
    simp only [memchrLoop]
    refine OLe.rd h _ fun b => ?_
    exact OLe.ite (fun _ => OLe.val rfl) (fun _ => memchrLoop_le h d n _)

theorem memrchrLoop_le {m m' : Mem} (h : MemLe m m') (d : Byte) :
    ∀ n s, OLe Eq (memrchrLoop m d n s) (memrchrLoop m' d n s)
  | 0, _ => OLe.val rfl
  | n + 1, s => by
    simp only [memrchrLoop]
    refine OLe.rd h _ fun b => ?_
    exact OLe.ite (fun _ => OLe.val rfl) (fun _ => memrchrLoop_le h d n _)

theorem diffAtF_le {m m' : Mem} (h : MemLe m m') (f : Int → Int) (a b : Ptr) :
    OLe Eq (diffAtF f m a b) (diffAtF f m' a b) := by
  simp only [diffAtF]
  refine OLe.rd h _ fun _ => ?_
  refine OLe.rd h _ fun _ => ?_
  exact OLe.val rfl

theorem diffAt_le {m m' : Mem} (h : MemLe m m') (d s : Ptr) : OLe Eq (diffAt m d s) (diffAt m' d s) :=
  diffAtF_le h id d s

theorem memcmpLoop_le {m m' : Mem} (h : MemLe m m') :
    ∀ k d s, OLe Eq (memcmpLoop m k d s) (memcmpLoop m' k d s)
  | 0, d, s => by simp only [memcmpLoop]; exact diffAt_le h d s
  | k + 1, d, s => by
    simp only [memcmpLoop]
    refine OLe.rd h _ fun a => ?_
    refine OLe.rd h _ fun b => ?_
    exact OLe.ite (fun _ => memcmpLoop_le h k _ _) (fun _ => diffAt_le h d s)

theorem memcmp_le {m m' : Mem} (h : MemLe m m') (d s : Ptr) (n : Nat) :
    OLe Eq (memcmp m d s n) (memcmp m' d s n) := by
  simp only [memcmp]
  exact OLe.ite (fun _ => OLe.val rfl) (fun _ => memcmpLoop_le h _ _ _)

theorem scanNul_le {m m' : Mem} (h : MemLe m m') : ∀ f s, OLe Eq (scanNul m f s) (scanNul m' f s)
  | 0, _ => by simp only [scanNul]; exact OLe.fail
  | f + 1, s => by
    simp only [scanNul]
    refine OLe.rd h _ fun _ => ?_
    exact OLe.ite (fun _ => scanNul_le h f _) (fun _ => OLe.val rfl)

theorem strlen_le {m m' : Mem} (h : MemLe m m') (s fuel : Nat) : OLe Eq (strlen m s fuel) (strlen m' s fuel) :=
  OLe.bindEq (scanNul_le h _ _) fun _ => OLe.val rfl

theorem strnlenLoop_le {m m' : Mem} (h : MemLe m m') : ∀ r len s, OLe Eq (strnlenLoop m r len s) (strnlenLoop m' r len s)
  | 0, _, _ => OLe.val rfl
  | r + 1, len, s => by
    simp only [strnlenLoop]
    refine OLe.rd h _ fun _ => ?_
    exact OLe.ite (fun _ => OLe.val rfl) (fun _ => strnlenLoop_le h r _ _)

theorem strnlen_le {m m' : Mem} (h : MemLe m m') (s n : Nat) : OLe Eq (strnlen m s n) (strnlen m' s n) :=
  strnlenLoop_le h _ _ _

theorem strcmpLoop_le {m m' : Mem} (h : MemLe m m') (f : Int → Int) :
    ∀ fuel a b, OLe Eq (strcmpLoop f m fuel a b) (strcmpLoop f m' fuel a b)
  | 0, _, _ => by simp only [strcmpLoop]; exact OLe.fail
  | fuel + 1, a, b => by
    simp only [strcmpLoop]
    refine OLe.rd h _ fun _ => ?_
    refine OLe.ite (fun _ => ?_) (fun _ => diffAtF_le h f _ _)
    refine OLe.rd h _ fun _ => ?_
    exact OLe.ite (fun _ => strcmpLoop_le h f fuel _ _) (fun _ => diffAtF_le h f _ _)

theorem strncmpLoop_le {m m' : Mem} (h : MemLe m m') (f : Int → Int) :
    ∀ k a b, OLe Eq (strncmpLoop f m k a b) (strncmpLoop f m' k a b)
  | 0, _, _ => by simp only [strncmpLoop]; exact diffAtF_le h f _ _
  | k + 1, a, b => by
    simp only [strncmpLoop]
    refine OLe.rd h _ fun _ => ?_
    refine OLe.ite (fun _ => ?_) (fun _ => diffAtF_le h f _ _)
    refine OLe.rd h _ fun _ => ?_
    exact OLe.ite (fun _ => strncmpLoop_le h f k _ _) (fun _ => diffAtF_le h f _ _)

theorem strncmpF_le {m m' : Mem} (h : MemLe m m') (f : Int → Int) (a b n : Nat) :
    OLe Eq (if n = 0 then some 0 else strncmpLoop f m (n - 1) a b)
      (if n = 0 then some 0 else strncmpLoop f m' (n - 1) a b) :=
  OLe.ite (fun _ => OLe.val rfl) (fun _ => strncmpLoop_le h f _ _ _)

theorem strchrnulLoop_le {m m' : Mem} (h : MemLe m m') (c : Byte) :
    ∀ f s, OLe Eq (strchrnulLoop m c f s) (strchrnulLoop m' c f s)
  | 0, _ => by simp only [strchrnulLoop]; exact OLe.fail
  | f + 1, s => by
    simp only [strchrnulLoop]
    refine OLe.rd h _ fun _ => ?_
    exact OLe.ite (fun _ => strchrnulLoop_le h c f _) (fun _ => OLe.val rfl)

theorem strchr_le {m m' : Mem} (h : MemLe m m') (s : Ptr) (ch : Int) (fuel : Nat) :
    OLe Eq (strchr m s ch fuel) (strchr m' s ch fuel) := by
  simp only [strchr, strchrnul]
  refine OLe.bindEq (strchrnulLoop_le h _ _ _) fun _ => ?_
  refine OLe.rd h _ fun _ => ?_
  exact OLe.ite (fun _ => OLe.val rfl) (fun _ => OLe.val rfl)

theorem strrchrLoop_le {m m' : Mem} (h : MemLe m m') (ch : Int) (fuel : Nat) :
    ∀ g s found, OLe Eq (strrchrLoop m ch fuel g s found) (strrchrLoop m' ch fuel g s found)
  | 0, _, _ => by simp only [strrchrLoop]; exact OLe.fail
  | g + 1, s, found => by
    simp only [strrchrLoop]
    refine OLe.bindEq (strchr_le h _ _ _) fun x => ?_
    cases x with
    | none => exact OLe.val rfl
    | some p => exact strrchrLoop_le h ch fuel g _ _

theorem strrchr_le {m m' : Mem} (h : MemLe m m') (s : Ptr) (ch : Int) (fuel : Nat) :
    OLe Eq (strrchr m s ch fuel) (strrchr m' s ch fuel) := by
  simp only [strrchr]
  refine OLe.ite (fun _ => ?_) (fun _ => strrchrLoop_le h _ _ _ _ _)
  exact OLe.bindEq (strlen_le h _ _) fun _ => OLe.val rfl

theorem strstrInner_le {m m' : Mem} (h : MemLe m m') (f : Int → Int) :
    ∀ fuel a n, OLe Eq (strstrInner f m fuel a n) (strstrInner f m' fuel a n)
  | 0, _, _ => by simp only [strstrInner]; exact OLe.fail
  | fuel + 1, a, n => by
    simp only [strstrInner]
    refine OLe.rd h _ fun _ => ?_
    refine OLe.ite (fun _ => ?_) (fun _ => OLe.val rfl)
    refine OLe.rd h _ fun _ => ?_
    exact OLe.ite (fun _ => strstrInner_le h f fuel _ _) (fun _ => OLe.val rfl)

theorem strstrOuter_le {m m' : Mem} (h : MemLe m m') (f : Int → Int) (needle fuel : Nat) :
    ∀ g hs, OLe Eq (strstrOuter f m needle fuel g hs) (strstrOuter f m' needle fuel g hs)
  | 0, _ => by simp only [strstrOuter]; exact OLe.fail
  | g + 1, hs => by
    simp only [strstrOuter]
    refine OLe.rd h _ fun _ => ?_
    refine OLe.ite (fun _ => ?_) (fun _ => OLe.val rfl)
    refine OLe.bindEq (strstrInner_le h f _ _ _) fun _ => ?_
    refine OLe.rd h _ fun _ => ?_
    exact OLe.ite (fun _ => OLe.val rfl) (fun _ => strstrOuter_le h f needle fuel g _)

theorem strstrF_le {m m' : Mem} (h : MemLe m m') (f : Int → Int) (hs nd fuel : Nat) :
    OLe Eq (strstrF f m hs nd fuel) (strstrF f m' hs nd fuel) := by
  simp only [strstrF]
  refine OLe.rd h _ fun _ => ?_
  exact OLe.ite (fun _ => OLe.val rfl) (fun _ => strstrOuter_le h f _ _ _ _)

theorem pbrkInner_le {m m' : Mem} (h : MemLe m m') (x : Byte) (f c : Nat) :
    OLe Eq (pbrkInner m x f c) (pbrkInner m' x f c) := by
  rw [pbrkInner_eq_strchrnulLoop, pbrkInner_eq_strchrnulLoop]; exact strchrnulLoop_le h x f c

theorem spnInner_le {m m' : Mem} (h : MemLe m m') (c : Byte) (f a : Nat) :
    OLe Eq (spnInner m c f a) (spnInner m' c f a) := by
  rw [spnInner_eq_pbrkInner, spnInner_eq_pbrkInner]
  exact OLe.bindEq (pbrkInner_le h c f a) fun _ => rd_le h _

theorem strspnLoop_le {m m' : Mem} (h : MemLe m m') (accept fuel : Nat) :
    ∀ g p count, OLe Eq (strspnLoop m accept fuel g p count) (strspnLoop m' accept fuel g p count)
  | 0, _, _ => by simp only [strspnLoop]; exact OLe.fail
  | g + 1, p, count => by
    simp only [strspnLoop]
    refine OLe.rd h _ fun _ => ?_
    refine OLe.ite (fun _ => ?_) (fun _ => OLe.val rfl)
    refine OLe.bindEq (spnInner_le h _ _ _) fun _ => ?_
    exact OLe.ite (fun _ => OLe.val rfl) (fun _ => strspnLoop_le h accept fuel g _ _)

theorem strcspnLoop_le {m m' : Mem} (h : MemLe m m') (reject fuel : Nat) :
    ∀ g s count, OLe Eq (strcspnLoop m reject fuel g s count) (strcspnLoop m' reject fuel g s count)
  | 0, _, _ => by simp only [strcspnLoop]; exact OLe.fail
  | g + 1, s, count => by
    simp only [strcspnLoop]
    refine OLe.rd h _ fun _ => ?_
    refine OLe.ite (fun _ => ?_) (fun _ => OLe.val rfl)
    refine OLe.bindEq (strchr_le h _ _ _) fun x => ?_
    cases x with
    | none => exact strcspnLoop_le h reject fuel g _ _
    | some p => exact OLe.val rfl

theorem pbrkOuter_le {m m' : Mem} (h : MemLe m m') (s2 fuel : Nat) :
    ∀ g s1 c, OLe Eq (pbrkOuter m s2 fuel g s1 c) (pbrkOuter m' s2 fuel g s1 c)
  | 0, _, _ => by simp only [pbrkOuter]; exact OLe.fail
  | g + 1, s1, c => by
    simp only [pbrkOuter]
    refine OLe.rd h _ fun _ => ?_
    refine OLe.ite (fun _ => ?_) (fun _ => OLe.val rfl)
    refine OLe.bindEq (pbrkInner_le h _ _ _) fun _ => ?_
    refine OLe.rd h _ fun _ => ?_
    exact OLe.ite (fun _ => OLe.val rfl) (fun _ => pbrkOuter_le h s2 fuel g _ _)

theorem strpbrk_le {m m' : Mem} (h : MemLe m m') (s1 s2 fuel : Nat) :
    OLe Eq (strpbrk m s1 s2 fuel) (strpbrk m' s1 s2 fuel) := by
  simp only [strpbrk]
  refine OLe.rd h _ fun _ => ?_
  refine OLe.ite (fun _ => OLe.val rfl) (fun _ => ?_)
  refine OLe.bindEq (pbrkOuter_le h _ _ _ _ _) fun x => ?_
  obtain ⟨p, c⟩ := x
  dsimp only
  refine OLe.rd h _ fun _ => ?_
  exact OLe.ite (fun _ => OLe.val rfl) (fun _ => OLe.val rfl)

/-! ### the writers -/

theorem loadN_le {m m' : Mem} (h : MemLe m m') : ∀ k a, OLe Eq (loadN m k a) (loadN m' k a)
  | 0, _ => OLe.val rfl
  | k + 1, a => by
    simp only [loadN]
    refine OLe.rd h _ fun _ => ?_
    exact OLe.bindEq (loadN_le h k _) fun _ => OLe.val rfl

theorem storeL_le : ∀ (w : List Byte) {m m' : Mem} (_ : MemLe m m') a, OLe MemLe (storeL w m a) (storeL w m' a)
  | [], _, _, h, _ => OLe.val h
  | b :: tl, _, _, h, a => by
    simp only [storeL]
    exact OLe.bind (wr_le h _ _) fun _ _ h1 => storeL_le tl h1 _

theorem memsetLoop_le (v : Byte) (n : Nat) {m m' : Mem} (h : MemLe m m') (p : Ptr) :
    OLe MemLe (memsetLoop v n m p) (memsetLoop v n m' p) := by
  rw [memsetLoop_eq_storeL, memsetLoop_eq_storeL]; exact storeL_le _ h p

theorem copyWord_le {m m' : Mem} (h : MemLe m m') (d s : Ptr) : OLe MemLe (copyWord m d s) (copyWord m' d s) :=
  OLe.bindEq (loadN_le h _ _) fun _ => storeL_le _ h _

theorem memcpyLoop4_le : ∀ f {m m' : Mem} (_ : MemLe m m') n d s,
    OLe MV (memcpyLoop4 f m n d s) (memcpyLoop4 f m' n d s)
  | 0, _, _, _, _, _, _ => by simp only [memcpyLoop4]; exact OLe.fail
  | f + 1, _, _, h, n, d, s => by
    simp only [memcpyLoop4]
    refine OLe.ite (fun _ => ?_) (fun _ => OLe.val ⟨h, rfl⟩)
    refine OLe.bind (copyWord_le h _ _) fun _ _ h1 => ?_
    refine OLe.bind (copyWord_le h1 _ _) fun _ _ h2 => ?_
    refine OLe.bind (copyWord_le h2 _ _) fun _ _ h3 => ?_
    refine OLe.bind (copyWord_le h3 _ _) fun _ _ h4 => ?_
    exact memcpyLoop4_le f h4 _ _ _

theorem memcpyLoop1_le : ∀ f {m m' : Mem} (_ : MemLe m m') n d s,
    OLe MV (memcpyLoop1 f m n d s) (memcpyLoop1 f m' n d s)
  | 0, _, _, _, _, _, _ => by simp only [memcpyLoop1]; exact OLe.fail
  | f + 1, _, _, h, n, d, s => by
    simp only [memcpyLoop1]
    refine OLe.ite (fun _ => ?_) (fun _ => OLe.val ⟨h, rfl⟩)
    refine OLe.bind (copyWord_le h _ _) fun _ _ h1 => ?_
    exact memcpyLoop1_le f h1 _ _ _

theorem memcpyBytes_le : ∀ n {m m' : Mem} (_ : MemLe m m') d s,
    OLe MemLe (memcpyBytes n m d s) (memcpyBytes n m' d s)
  | 0, _, _, h, _, _ => OLe.val h
  | n + 1, _, _, h, d, s => by
    simp only [memcpyBytes]
    refine OLe.rd h _ fun _ => ?_
    exact OLe.bind (wr_le h _ _) fun _ _ h1 => memcpyBytes_le n h1 _ _

theorem memcpy_le {m m' : Mem} (h : MemLe m m') (dst src : Ptr) (n : Nat) :
    OLe MV (memcpy m dst src n) (memcpy m' dst src n) := by
  simp only [memcpy]
  refine OLe.ite (fun _ => ?_) (fun _ => ?_)
  · refine OLe.bindMV (memcpyLoop4_le _ h _ _ _) fun m1 _ a r1 => ?_
    obtain ⟨n1, d1, s1⟩ := a
    dsimp only
    refine OLe.bindMV (memcpyLoop1_le _ r1 _ _ _) fun m3 _ a r3 => ?_
    obtain ⟨n3, d3, s3⟩ := a
    dsimp only
    exact OLe.ret (memcpyBytes_le _ r3 _ _) _
  · exact OLe.ret (memcpyBytes_le _ h _ _) _

theorem memmoveBack_le : ∀ n {m m' : Mem} (_ : MemLe m m') d s,
    OLe MemLe (memmoveBack n m d s) (memmoveBack n m' d s)
  | 0, _, _, h, _, _ => OLe.val h
  | n + 1, _, _, h, d, s => by
    simp only [memmoveBack]
    refine OLe.rd h _ fun _ => ?_
    exact OLe.bind (wr_le h _ _) fun _ _ h1 => memmoveBack_le n h1 _ _

theorem strcpyLoop_le : ∀ f {m m' : Mem} (_ : MemLe m m') cp src,
    OLe MemLe (strcpyLoop f m cp src) (strcpyLoop f m' cp src)
  | 0, _, _, _, _, _ => by simp only [strcpyLoop]; exact OLe.fail
  | f + 1, _, _, h, cp, src => by
    simp only [strcpyLoop]
    refine OLe.rd h _ fun _ => ?_
    refine OLe.bind (wr_le h _ _) fun _ _ h1 => ?_
    exact OLe.ite (fun _ => strcpyLoop_le f h1 _ _) (fun _ => OLe.val h1)

theorem strcpy_le {m m' : Mem} (h : MemLe m m') (d s fuel : Nat) :
    OLe MV (strcpy m d s fuel) (strcpy m' d s fuel) :=
  OLe.ret (strcpyLoop_le _ h _ _) _

theorem strncpyLoop_le : ∀ n {m m' : Mem} (_ : MemLe m m') dst src,
    OLe MemLe (strncpyLoop n m dst src) (strncpyLoop n m' dst src)
  | 0, _, _, h, _, _ => OLe.val h
  | n + 1, _, _, h, dst, src => by
    simp only [strncpyLoop]
    refine OLe.rd h _ fun _ => ?_
    refine OLe.bind (wr_le h _ _) fun _ _ h1 => ?_
    exact OLe.ite (fun _ => strncpyLoop_le n h1 _ _) (fun _ => memsetLoop_le _ _ h1 _)

theorem strlcpyLoop_le : ∀ n {m m' : Mem} (_ : MemLe m m') dst s,
    OLe MV (strlcpyLoop n m dst s) (strlcpyLoop n m' dst s)
  | 0, _, _, _, _, _ => by simp only [strlcpyLoop]; exact OLe.fail
  | 1, _, _, h, _, _ => by simp only [strlcpyLoop]; exact OLe.val ⟨h, rfl⟩
  | n + 2, _, _, h, dst, s => by
    simp only [strlcpyLoop]
    refine OLe.rd h _ fun _ => ?_
    refine OLe.ite (fun _ => OLe.val ⟨h, rfl⟩) (fun _ => ?_)
    exact OLe.bind (wr_le h _ _) fun _ _ h1 => strlcpyLoop_le (n + 1) h1 _ _

theorem strlcpy_le {m m' : Mem} (h : MemLe m m') (d s size fuel : Nat) :
    OLe MV (strlcpy m d s size fuel) (strlcpy m' d s size fuel) := by
  simp only [strlcpy]
  refine OLe.ite (fun _ => ?_) (fun _ => ?_)
  · exact OLe.bindEq (strlen_le h _ _) fun _ => OLe.val ⟨h, rfl⟩
  · refine OLe.bindMV (strlcpyLoop_le _ h _ _) fun m1 _ a r1 => ?_
    obtain ⟨d1, s1⟩ := a
    dsimp only
    refine OLe.bind (wr_le r1 _ _) fun _ _ h1 => ?_
    exact OLe.bindEq (strlen_le h1 _ _) fun _ => OLe.val ⟨h1, rfl⟩

theorem strcat_le {m m' : Mem} (h : MemLe m m') (d s fuel : Nat) :
    OLe MV (strcat m d s fuel) (strcat m' d s fuel) := by
  simp only [strcat, strcatCopy_eq_strcpyLoop]
  refine OLe.bindEq (scanNul_le h _ _) fun _ => ?_
  exact OLe.ret (strcpyLoop_le _ h _ _) _

theorem caseLoop_le (lo hi : Int) (delta : Byte) : ∀ f {m m' : Mem} (_ : MemLe m m') cp,
    OLe MemLe (caseLoop lo hi delta f m cp) (caseLoop lo hi delta f m' cp)
  | 0, _, _, _, _ => by simp only [caseLoop]; exact OLe.fail
  | f + 1, _, _, h, cp => by
    simp only [caseLoop]
    refine OLe.rd h _ fun _ => ?_
    refine OLe.ite (fun _ => ?_) (fun _ => OLe.val h)
    refine OLe.ite (fun _ => ?_) (fun _ => caseLoop_le lo hi delta f h _)
    exact OLe.bind (wr_le h _ _) fun _ _ h1 => caseLoop_le lo hi delta f h1 _

theorem catStep_le {m m' : Mem} (h : MemLe m m') (s1 s2 : Ptr) : OLe MV (catStep m s1 s2) (catStep m' s1 s2) := by
  simp only [catStep]
  refine OLe.rd h _ fun _ => ?_
  exact OLe.ret (wr_le h _ _) _

theorem strncatTail_le : ∀ n {m m' : Mem} (_ : MemLe m m') s1 s2 c,
    OLe MemLe (strncatTail n m s1 s2 c) (strncatTail n m' s1 s2 c)
  | 0, _, _, h, s1, _, c => by
    simp only [strncatTail]
    exact OLe.ite (fun _ => wr_le h _ _) (fun _ => OLe.val h)
  | n + 1, _, _, h, s1, s2, _ => by
    simp only [strncatTail]
    refine OLe.bindMV (catStep_le h _ _) fun m1 _ c1 r1 => ?_
    dsimp only
    exact OLe.ite (fun _ => OLe.val r1) (fun _ => strncatTail_le n r1 _ _ _)

theorem strncat_le {m m' : Mem} (h : MemLe m m') (s1 s2 n fuel : Nat) :
    OLe MV (strncat m s1 s2 n fuel) (strncat m' s1 s2 n fuel) := by
  rw [strncat_eq, strncat_eq]
  exact OLe.bindEq (scanNul_le h _ _) fun _ => OLe.ret (strncatTail_le _ h _ _ _) _

theorem strcspn_le {m m' : Mem} (h : MemLe m m') (s r fuel : Nat) :
    OLe Eq (strcspn m s r fuel) (strcspn m' s r fuel) := strcspnLoop_le h _ _ _ _ _

theorem tokSkip_le {m m' : Mem} (h : MemLe m m') (delim fuel : Nat) :
    ∀ g str, OLe Eq (tokSkip m delim fuel g str) (tokSkip m' delim fuel g str)
  | 0, _ => by simp only [tokSkip]; exact OLe.fail
  | g + 1, str => by
    simp only [tokSkip]
    refine OLe.rd h _ fun _ => ?_
    refine OLe.ite (fun _ => OLe.val rfl) (fun _ => ?_)
    refine OLe.bindEq (strchr_le h _ _ _) fun x => ?_
    cases x with
    | none => exact OLe.val rfl
    | some p => exact tokSkip_le h delim fuel g _

theorem strtok_r_le {m m' : Mem} (h : MemLe m m') (str : Option Ptr) (delim : Ptr) (save : Option Ptr) (fuel : Nat) :
    OLe MV (strtok_r m str delim save fuel) (strtok_r m' str delim save fuel) := by
  simp only [strtok_r]
  cases tokStart str save with
  | none => exact OLe.val ⟨h, rfl⟩
  | some p =>
    dsimp only
    refine OLe.bindEq (tokSkip_le h _ _ _ _) fun x => ?_
    cases x with
    | inl e0 => exact OLe.val ⟨h, rfl⟩
    | inr q =>
      dsimp only
      refine OLe.bindEq (strcspn_le h _ _ _) fun _ => ?_
      refine OLe.rd h _ fun _ => ?_
      refine OLe.ite (fun _ => ?_) (fun _ => OLe.val ⟨h, rfl⟩)
      exact OLe.ret (wr_le h _ _) _

theorem strtokCalls_le (fuel : Nat) : ∀ (ds : List Ptr) {m m' : Mem} (_ : MemLe m m') (str save : Option Ptr),
    OLe MV (strtokCalls m fuel ds str save) (strtokCalls m' fuel ds str save)
  | [], _, _, h, _, _ => by simp only [strtokCalls]; exact OLe.val ⟨h, rfl⟩
  | d :: ds, _, _, h, str, save => by
    simp only [strtokCalls]
    refine OLe.bindMV (strtok_r_le h _ _ _ _) fun m1 _ a q1 => ?_
    obtain ⟨sv1, r1⟩ := a
    dsimp only
    refine OLe.bindMV (strtokCalls_le fuel ds q1 _ _) fun m3 _ a q3 => ?_
    exact OLe.val ⟨q3, rfl⟩

/-- what monotonicity of strdup/strndup assumes of the allocator parameter -/
def AllocMono (malloc : Alloc) : Prop :=
  ∀ m m' n, MemLe m m' →
    (malloc m n = none → malloc m' n = none) ∧
    (∀ m1 p, malloc m n = some (m1, p) → ∃ m1', malloc m' n = some (m1', p) ∧ MemLe m1 m1')

theorem strdup_le {malloc : Alloc} (ha : AllocMono malloc) {m m' : Mem} (h : MemLe m m') (s fuel : Nat) :
    OLe MV (strdup malloc m s fuel) (strdup malloc m' s fuel) := by
  simp only [strdup]
  refine OLe.bindEq (strlen_le h _ _) fun l => ?_
  obtain ⟨hn, hs⟩ := ha m m' (l + 1) h
  cases hm : malloc m (l + 1) with
  | none => rw [hn hm]; exact OLe.val ⟨h, rfl⟩
  | some x =>
    obtain ⟨m1, p⟩ := x
    obtain ⟨m1', e', h1⟩ := hs m1 p hm
    rw [e']
    dsimp only
    exact OLe.bindMV (strcpy_le h1 _ _ _) fun _ _ _ r => OLe.val ⟨r, rfl⟩

theorem strndup_le {malloc : Alloc} (ha : AllocMono malloc) {m m' : Mem} (h : MemLe m m') (s size : Nat) :
    OLe MV (strndup malloc m s size) (strndup malloc m' s size) := by
  simp only [strndup]
  refine OLe.bindEq (strnlen_le h _ _) fun l => ?_
  obtain ⟨hn, hs⟩ := ha m m' (l + 1) h
  cases hm : malloc m (l + 1) with
  | none => rw [hn hm]; exact OLe.val ⟨h, rfl⟩
  | some x =>
    obtain ⟨m1, p⟩ := x
    obtain ⟨m1', e', h1⟩ := hs m1 p hm
    rw [e']
    dsimp only
    refine OLe.bindMV (memcpy_le h1 _ _ _) fun _ _ _ r => ?_
    exact OLe.ret (wr_le r _ _) _

end Igris.C08
