/-
  C08 — the ctype functions against the "C"-locale class table.  The table is finite, so it is
  checked once, row by row, against the sets of codes ISO C 7.4 names (`table_rows`); the
  functions of the model are range tests, and are compared with those sets for every `int`.
-/
import IgrisModel.C08.Spec
namespace Igris.C08
open Igris.Proto

/-- what row `x` of the class table says about code `n`: the classes `<ctype.h>` asks for, each as a set of codes -/
def RowOk (x : Nat) (n : Int) : Prop :=
  (x &&& CL_U != 0) = decide (65 ≤ n ∧ n ≤ 90) ∧ (x &&& CL_L != 0) = decide (97 ≤ n ∧ n ≤ 122) ∧
  (x &&& CL_D != 0) = decide (48 ≤ n ∧ n ≤ 57) ∧
  (x &&& CL_S != 0) = decide (n = 32 ∨ n = 9 ∨ n = 13 ∨ n = 10 ∨ n = 12 ∨ n = 11) ∧
  (x &&& CL_B != 0) = decide (n = 32 ∨ n = 9) ∧ (x &&& CL_X != 0) = decide (97 ≤ n ∧ n ≤ 102 ∨ 65 ≤ n ∧ n ≤ 70) ∧
  (x &&& (CL_U ||| CL_L ||| CL_D ||| CL_P ||| CL_SP) != 0) = decide (32 ≤ n ∧ n ≤ 126)

instance (x : Nat) (n : Int) : Decidable (RowOk x n) := by unfold RowOk; infer_instance

/-- one pass over the table; indexing the list once per code would walk it 128 times -/
theorem table_rows : ∀ p ∈ cLocaleTable.zipIdx, RowOk p.1 p.2 := by decide +kernel

theorem rowOk_zero (c : Int) (h : c < 0 ∨ 128 ≤ c) : RowOk 0 c := by
  simp only [RowOk, Nat.zero_and, bne_self_eq_false, Bool.false_eq, decide_eq_false_iff_not]
  omega

theorem classOf_row (c : Int) : RowOk (classOf c) c := by
  unfold classOf
  split
  · next h =>
    have hn : c.toNat < cLocaleTable.length := by simp [cLocaleTable]; omega
    have := table_rows (cLocaleTable[c.toNat], c.toNat)
      (List.mk_mem_zipIdx_iff_getElem?.mpr (List.getElem?_eq_getElem hn))
    simpa [List.getD_eq_getElem?_getD, List.getElem?_eq_getElem hn, Int.toNat_of_nonneg h.1] using this
  · exact rowOk_zero _ (by omega)

theorem inClass_or (c : Int) (a b : Nat) : inClass c (a ||| b) = (inClass c a || inClass c b) := by
  unfold inClass; rw [Nat.and_or_distrib_left, Bool.eq_iff_iff]
  simp only [bne_iff_ne, ne_eq, Nat.or_eq_zero_iff, Bool.or_eq_true]
  omega

theorem inClass_outside {c : Int} (h : c < 0 ∨ 127 < c) (mask : Nat) : inClass c mask = false := by
  simp [inClass, classOf, show ¬(0 ≤ c ∧ c < 128) by omega]

theorem ite01_bne (p : Prop) [Decidable p] : ((if p then (1 : Int) else 0) != 0) = decide p := by
  split <;> simp [*]

theorem ite01_ne (p : Prop) [Decidable p] : (if p then (1 : Int) else 0) ≠ 0 ↔ p := by
  split <;> simp [*]

theorem ite01_or_bne (a b : Int) : ((if a ≠ 0 ∨ b ≠ 0 then (1 : Int) else 0) != 0) = (a != 0 || b != 0) := by
  rw [ite01_bne, Bool.decide_or, decide_not, decide_not]; rfl

theorem isupperI_class (c : Int) : (isupperI c != 0) = inClass c CL_U :=
  (ite01_bne _).trans (classOf_row c).1.symm
theorem islowerI_class (c : Int) : (islowerI c != 0) = inClass c CL_L :=
  (ite01_bne _).trans (classOf_row c).2.1.symm
theorem isdigitI_class (c : Int) : (isdigitI c != 0) = inClass c CL_D :=
  (ite01_bne _).trans (classOf_row c).2.2.1.symm
theorem isspaceI_class (c : Int) : (isspaceI c != 0) = inClass c CL_S :=
  (ite01_bne _).trans (classOf_row c).2.2.2.1.symm
theorem isblankI_class (c : Int) : (isblankI c != 0) = inClass c CL_B :=
  (ite01_bne _).trans (classOf_row c).2.2.2.2.1.symm
theorem isxdigitHelperI_class (c : Int) : (isxdigitHelperI c != 0) = inClass c CL_X :=
  (ite01_bne _).trans (classOf_row c).2.2.2.2.2.1.symm
theorem isalphaI_class (c : Int) : (isalphaI c != 0) = inClass c (CL_U ||| CL_L) := by
  rw [inClass_or, Bool.or_comm, ← isupperI_class, ← islowerI_class, isupperI, islowerI, ite01_bne, ite01_bne,
    ← Bool.decide_or]
  exact ite01_bne _
theorem isalnumI_class (c : Int) : (isalnumI c != 0) = inClass c (CL_U ||| CL_L ||| CL_D) := by
  rw [inClass_or, ← isalphaI_class, ← isdigitI_class]; exact ite01_or_bne _ _
theorem isxdigitI_class (c : Int) : (isxdigitI c != 0) = inClass c (CL_D ||| CL_X) := by
  rw [inClass_or, ← isdigitI_class, ← isxdigitHelperI_class]; exact ite01_or_bne _ _
/-- letters and digits lie inside `' '..'~'`: the first two disjuncts of `igris_isprint` add nothing -/
theorem isprintI_class (c : Int) :
    (isprintI c != 0) = inClass c (CL_U ||| CL_L ||| CL_D ||| CL_P ||| CL_SP) := by
  rw [inClass, (classOf_row c).2.2.2.2.2.2, isprintI, ite01_bne, isalphaI, isdigitI]
  exact decide_eq_decide.mpr (by split <;> split <;> omega)

theorem tolowerC_class (c : Int) : tolowerC c = if inClass c CL_U then c + 32 else c := by
  simp only [tolowerC, ← isupperI_class, bne_iff_ne]; rfl
theorem toupperC_class (c : Int) : toupperC c = if inClass c CL_L then c - 32 else c := by
  simp only [toupperC, ← islowerI_class, bne_iff_ne]; rfl

/-- `(unsigned char)c & 0x7f` is `c mod 128`, for every `int` -/
theorem toasciiI_eq (c : Int) : toasciiI c = c % 128 := by
  unfold toasciiI toChar
  rw [BitVec.toNat_ofInt, show (0x7f : Nat) = 2 ^ 7 - 1 from rfl, Nat.and_two_pow_sub_one_eq_mod]
  omega

end Igris.C08
