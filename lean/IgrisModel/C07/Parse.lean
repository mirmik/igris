/-
  C07 — the parsers: the `igris_ato*` loop on any memory (grammar, digit strings, round trips),
  libc `atol`, `hex_to_uintNN`, and transcriptions of the routines as they were before the repairs.
-/
import IgrisModel.C07.Lemmas
namespace Igris.C07
open Igris.Proto

/-! ### the `igris_atou32/64` loop -/

theorem mod_step (M b r d : Nat) : ((r % M) * b + d) % M = (r * b + d) % M := by
  conv => rhs; rw [Nat.add_mod, Nat.mul_mod]
  conv => lhs; rw [Nat.add_mod, Nat.mul_mod, Nat.mod_mod]

theorem atouLoop_any (M b : Nat) : ∀ (m : List Byte) (r pos : Nat),
    atouLoop M b m (r % M) pos
      = if m.all (fun c => decide (digitValue c < b)) then none
        else some (((m.takeWhile (fun c => decide (digitValue c < b))).map digitValue).foldl (fun a d => a * b + d) r % M,
                   pos + (m.takeWhile (fun c => decide (digitValue c < b))).length) := by
  intro m
  induction m with
  | nil => intro r pos; simp [atouLoop]
  | cons c cs ih =>
    intro r pos
    by_cases hc : digitValue c < b
    · simp only [atouLoop, hc, if_true, List.all_cons, decide_true, Bool.true_and, List.takeWhile_cons,
        List.map_cons, List.foldl_cons, List.length_cons]
      rw [mod_step, ih (r * b + digitValue c) (pos + 1)]
      split
      · rfl
      · congr 2; omega
    · simp [atouLoop, hc]

theorem atouLoop_parse (M b : Nat) (chars : List Byte) (t : Byte) (rest : List Byte) (pos : Nat)
    (h : ∀ c ∈ chars, digitValue c < b) (ht : ¬ digitValue t < b) :
    atouLoop M b (chars ++ t :: rest) 0 pos
      = some (ofDigits b (chars.map digitValue) % M, pos + chars.length) := by
  have := atouLoop_any M b (chars ++ t :: rest) 0 pos
  rw [Nat.zero_mod, takeWhile_append_stop rest (by simpa using h) (by simpa using ht)] at this
  rw [this, if_neg (by simp [ht]), ofDigits]

/-! the grammar, written with the list operations of Spec.lean -/

/-- `digitValue` inverts `digitChar`, so no position but `digitValue c` can match -/
theorem findIdx_alphabet (up : Bool) (al : List Char) (hlen : al.length = 36)
    (hal : ∀ (j : Nat) (h : j < al.length), BitVec.ofNat 8 al[j].toNat = digitChar up j) (c : Byte) :
    al.findIdx? (fun ch => BitVec.ofNat 8 ch.toNat == c)
      = if digitValue c < 36 ∧ c = digitChar up (digitValue c) then some (digitValue c) else none := by
  have hmatch : ∀ (j : Nat) (h : j < al.length), (BitVec.ofNat 8 al[j].toNat == c) = true →
      c = digitChar up j ∧ digitValue c = j := by
    intro j h hp
    have : digitChar up j = c := by rw [← hal j h]; exact eq_of_beq hp
    exact ⟨this.symm, by rw [← this]; exact digitValue_digitChar j (by omega) up⟩
  split
  · next hc =>
    rw [List.findIdx?_eq_some_iff_getElem]
    refine ⟨by omega, ?_, fun j hj hp => ?_⟩
    · rw [hal, ← hc.2]; exact beq_self_eq_true c
    · have := (hmatch j (by omega) hp).2; omega
  · next hc =>
    rw [List.findIdx?_eq_none_iff]
    intro x hx
    obtain ⟨j, hj, rfl⟩ := List.mem_iff_getElem.1 hx
    rw [Bool.eq_false_iff]
    intro hp
    obtain ⟨h1, h2⟩ := hmatch j hj hp
    exact hc ⟨by omega, by rw [h2]; exact h1⟩

theorem digitChar_getElem (up : Bool) (j : Nat) (h : j < (if up then alphabetUpper else alphabetLower).length) :
    BitVec.ofNat 8 ((if up then alphabetUpper else alphabetLower)[j]).toNat = digitChar up j := by
  rw [digitChar, List.getD_eq_getElem?_getD, List.getElem?_eq_getElem h]; rfl

theorem charDigit_eq (c : Byte) : charDigit c = if digitValue c = 255 then none else some (digitValue c) := by
  rw [charDigit, findIdx_alphabet false alphabetLower rfl (digitChar_getElem false) c,
    findIdx_alphabet true alphabetUpper rfl (digitChar_getElem true) c]
  rcases digitValue_classify c with h | ⟨hlt, hc⟩
  · have e : ∀ up, ¬ (digitValue c < 36 ∧ c = digitChar up (digitValue c)) := fun _ h' => by omega
    rw [if_neg (e false), if_neg (e true), if_pos h]
  · rw [if_neg (show ¬ digitValue c = 255 by omega)]
    by_cases hlow : c = digitChar false (digitValue c)
    · rw [if_pos ⟨hlt, hlow⟩]
    · rw [if_neg (fun h => hlow h.2), if_pos ⟨hlt, hc.resolve_right hlow⟩]

theorem isDigitOf_eq_decide (b : Nat) (hb : b ≤ 255) (c : Byte) : isDigitOf b c = decide (digitValue c < b) := by
  unfold isDigitOf
  rw [charDigit_eq]
  by_cases h : digitValue c = 255
  · simp [h]; omega
  · simp [h]

theorem filterMap_charDigit (b : Nat) (hb : b ≤ 255) : ∀ l : List Byte, (∀ c ∈ l, digitValue c < b) →
    l.filterMap charDigit = l.map digitValue := by
  intro l
  induction l with
  | nil => intro _; rfl
  | cons c cs ih =>
    intro h
    have hc := h c (by simp)
    have : digitValue c ≠ 255 := by omega
    simp only [List.filterMap_cons, charDigit_eq, this, if_false, List.map_cons]
    rw [ih (fun x hx => h x (by simp [hx]))]

/-- `pos` is the offset the caller starts at (1 behind a sign) -/
theorem atou_grammar_pos (M : Nat) (base : BitVec 8) (m : List Byte) (pos : Nat) :
    atouLoop M base.toNat m 0 pos
      = if m.all (isDigitOf base.toNat) then none
        else some (prefixValue base.toNat m % M, pos + (numberPrefix base.toNat m).length) := by
  have hb : base.toNat ≤ 255 := by have := base.isLt; omega
  have h := atouLoop_any M base.toNat m 0 pos
  rw [Nat.zero_mod] at h
  rw [h, prefixValue, numberPrefix, show isDigitOf base.toNat = _ from funext (isDigitOf_eq_decide _ hb)]
  rw [filterMap_charDigit _ hb _ (fun c hc => by simpa using mem_takeWhile_sat hc)]
  simp [ofDigits]

theorem isDigitOf_of_not_digit (b : Nat) (hb : b ≤ 255) {c : Byte} (hc : digitValue c = 255) : isDigitOf b c = false := by
  rw [isDigitOf_eq_decide b hb, hc]; simp; omega

theorem ofDigits_leading_zeros (b : Nat) (ds : List Nat) : ∀ k, ofDigits b (List.replicate k 0 ++ ds) = ofDigits b ds := by
  intro k
  induction k with
  | zero => simp
  | succ k ih =>
    simp only [List.replicate_succ, List.cons_append, ofDigits, List.foldl_cons] at ih ⊢
    simpa using ih

/-! ### the entry points -/

/-- `igris_atou32` / `igris_atou64` with the width of the accumulator as a variable -/
def atouW (w : Nat) (m : List Byte) (off : Nat) (base : BitVec 8) : Option (BitVec w × Nat) :=
  (atouLoop (2 ^ w) base.toNat (m.drop off) 0 off).map fun (v, e) => (BitVec.ofNat w v, e)

/-- `igris_atoi32` / `igris_atoi64` likewise -/
def atoiW (w : Nat) (m : List Byte) (base : BitVec 8) : Option (BitVec w × Nat) :=
  match m[0]? with
  | none => none
  | some c =>
    let minus := c == 0x2D#8
    (atouW w m (if minus then 1 else 0) base).map fun (u, e) => (if minus then -u else u, e)

theorem atou32_eq : atou32 = atouW 32 := rfl

theorem atou64_eq : atou64 = atouW 64 := rfl

theorem atoi32_eq : atoi32 = atoiW 32 := rfl

theorem atoi64_eq : atoi64 = atoiW 64 := rfl

theorem ofNat_mod (w n : Nat) : BitVec.ofNat w (n % 2 ^ w) = BitVec.ofNat w n := by
  apply BitVec.eq_of_toNat_eq; simp

theorem atoiW_minus (w : Nat) (s : List Byte) (base : BitVec 8) :
    atoiW w (0x2D#8 :: s) base
      = (atouLoop (2 ^ w) base.toNat s 0 1).map fun (v, e) => (-(BitVec.ofNat w v), e) := by
  have : (0x2D#8 == 0x2D#8) = true := by decide
  simp only [atoiW, List.getElem?_cons_zero, this, if_true, atouW, List.drop_succ_cons, List.drop_zero, Option.map_map]
  rfl

theorem atouW_digit_string (w : Nat) (base : BitVec 8) (chars : List Byte) (t : Byte) (rest : List Byte)
    (h : ∀ c ∈ chars, digitValue c < base.toNat) (ht : ¬ digitValue t < base.toNat) :
    atouW w (chars ++ t :: rest) 0 base
      = some (BitVec.ofNat w (ofDigits base.toNat (chars.map digitValue)), chars.length) := by
  simp [atouW, atouLoop_parse _ _ chars t rest 0 h ht, ofNat_mod w]

theorem atoiW_digit_string (w : Nat) (base : BitVec 8) (chars : List Byte) (t : Byte) (rest : List Byte)
    (h : ∀ c ∈ chars, digitValue c < base.toNat) (ht : ¬ digitValue t < base.toNat) :
    atoiW w (0x2D#8 :: chars ++ t :: rest) base
      = some (-(BitVec.ofNat w (ofDigits base.toNat (chars.map digitValue))), chars.length + 1) := by
  rw [List.cons_append, atoiW_minus, atouLoop_parse _ _ chars t rest 1 h ht]
  simp [ofNat_mod w, Nat.add_comm]

theorem atouW_grammar (w : Nat) (m : List Byte) (base : BitVec 8) :
    atouW w m 0 base
      = if m.all (isDigitOf base.toNat) then none
        else some (BitVec.ofNat w (prefixValue base.toNat m), (numberPrefix base.toNat m).length) := by
  simp only [atouW, List.drop_zero, atou_grammar_pos, Nat.zero_add]
  split <;> simp [ofNat_mod w]

theorem atoiW_without_sign (w : Nat) (base : BitVec 8) (m : List Byte) (c : Byte) (h0 : m[0]? = some c)
    (hc : c ≠ 0x2D#8) : atoiW w m base = atouW w m 0 base := by
  have : (c == 0x2D#8) = false := by simpa using hc
  simp only [atoiW, h0, this, Bool.false_eq_true, if_false]
  cases atouW w m 0 base <;> simp

theorem atoiW_grammar (w : Nat) (c : Byte) (s : List Byte) (base : BitVec 8) :
    atoiW w (c :: s) base
      = if c = 0x2D#8 then
          (if s.all (isDigitOf base.toNat) then none
           else some (-(BitVec.ofNat w (prefixValue base.toNat s)), (numberPrefix base.toNat s).length + 1))
        else atouW w (c :: s) 0 base := by
  by_cases hc : c = 0x2D#8
  · subst hc
    rw [atoiW_minus, atou_grammar_pos]
    split <;> simp [ofNat_mod w, Nat.add_comm]
  · rw [if_neg hc]; exact atoiW_without_sign w base (c :: s) c rfl hc

theorem atoW_total (w : Nat) (m : List Byte) (base : BitVec 8) (h : 0#8 ∈ m) :
    (atouW w m 0 base).isSome ∧ (atoiW w m base).isSome := by
  have hb : base.toNat ≤ 255 := by have := base.isLt; omega
  have hall : ∀ l : List Byte, 0#8 ∈ l → l.all (isDigitOf base.toNat) = false := by
    intro l hl
    rw [Bool.eq_false_iff]; intro hc
    have := List.all_eq_true.1 hc 0#8 hl
    rw [isDigitOf_of_not_digit _ hb digitValue_nul] at this; exact absurd this (by decide)
  have hu : (atouW w m 0 base).isSome := by rw [atouW_grammar, hall m h]; simp
  refine ⟨hu, ?_⟩
  cases m with
  | nil => simp at h
  | cons c s =>
    rw [atoiW_grammar]
    by_cases hc : c = 0x2D#8
    · have hs : 0#8 ∈ s := by
        rcases List.mem_cons.1 h with h0 | h0
        · subst hc; exact absurd h0 (by decide)
        · exact h0
      simp [hc, hall s hs]
    · simp only [hc, if_false]; exact hu

theorem atouW_canon (w : Nat) (base : BitVec 8) (hb : 2 ≤ base.toNat) (hb36 : base.toNat ≤ 36) (up : Bool) (n : Nat)
    (tail : List Byte) :
    atouW w (canonNat up base.toNat n ++ 0#8 :: tail) 0 base
      = some (BitVec.ofNat w n, (canonNat up base.toNat n).length) := by
  have := atouW_digit_string w base (canonNat up base.toNat n) 0#8 tail (canonNat_accepted hb hb36 up n)
    (by rw [digitValue_nul]; omega)
  rwa [canonNat_digitValue hb hb36, ofDigits_digits hb] at this

theorem ofNat_natAbs_neg (w : Nat) (z : Int) (h : z < 0) : -(BitVec.ofNat w z.natAbs) = BitVec.ofInt w z := by
  rw [← BitVec.ofInt_natCast, ← BitVec.ofInt_neg, Int.ofNat_natAbs_of_nonpos (by omega)]; simp

theorem ofNat_natAbs_nonneg (w : Nat) (z : Int) (h : ¬ z < 0) : BitVec.ofNat w z.natAbs = BitVec.ofInt w z := by
  rw [← BitVec.ofInt_natCast, Int.natAbs_of_nonneg (by omega)]

theorem atoiW_canon (w : Nat) (base : BitVec 8) (hb : 2 ≤ base.toNat) (hb36 : base.toNat ≤ 36) (up : Bool) (z : Int)
    (tail : List Byte) :
    atoiW w (canonInt up base.toNat z ++ 0#8 :: tail) base
      = some (BitVec.ofInt w z, (canonInt up base.toNat z).length) := by
  by_cases hneg : z < 0
  · have := atoiW_digit_string w base (canonNat up base.toNat z.natAbs) 0#8 tail (canonNat_accepted hb hb36 up _)
      (by rw [digitValue_nul]; omega)
    rw [canonNat_digitValue hb hb36, ofDigits_digits hb, ofNat_natAbs_neg w z hneg] at this
    simpa [canonInt, hneg] using this
  · obtain ⟨d, tl, hd, hh⟩ := canonNat_head up hb hb36 z.natAbs
    have := atouW_canon w base hb hb36 up z.natAbs tail
    rw [ofNat_natAbs_nonneg w z hneg, hh] at this
    simp only [canonInt, hneg, if_false, List.nil_append, hh]
    rw [List.cons_append, atoiW_grammar, if_neg (digitChar_ne_of_not_digit (by decide) d hd up)]
    exact this

theorem setWidth_ofInt {v w : Nat} (h : w ≤ v) (z : Int) : (BitVec.ofInt v z).setWidth w = BitVec.ofInt w z := by
  apply BitVec.eq_of_toNat_eq
  rw [BitVec.toNat_setWidth, BitVec.toNat_ofInt, BitVec.toNat_ofInt]
  have hv : ((2 ^ v : Nat) : Int) ≠ 0 := Int.natCast_ne_zero.2 (Nat.ne_of_gt (Nat.two_pow_pos v))
  have hw : ((2 ^ w : Nat) : Int) ≠ 0 := Int.natCast_ne_zero.2 (Nat.ne_of_gt (Nat.two_pow_pos w))
  have hdvd : ((2 ^ w : Nat) : Int) ∣ ((2 ^ v : Nat) : Int) := Int.natCast_dvd_natCast.2 (Nat.pow_dvd_pow 2 h)
  apply Int.ofNat.inj
  rw [Int.ofNat_eq_natCast, Int.ofNat_eq_natCast, Int.natCast_emod,
    Int.toNat_of_nonneg (Int.emod_nonneg z hv), Int.toNat_of_nonneg (Int.emod_nonneg z hw),
    Int.emod_emod_of_dvd z hdvd]

/-- the signed parsers negate in the unsigned type -/
theorem setWidth_neg_ofNat {v w : Nat} (h : w ≤ v) (x : Nat) :
    (-(BitVec.ofNat v x)).setWidth w = -(BitVec.ofNat w x) := by
  rw [← BitVec.ofInt_natCast, ← BitVec.ofInt_neg, setWidth_ofInt h, BitVec.ofInt_neg, BitVec.ofInt_natCast]

/-! ### libc atol -/

theorem foldl10_ge : ∀ (ds : List Nat) (acc : Nat), acc ≤ ds.foldl (fun a d => a * 10 + d) acc := by
  intro ds; induction ds with
  | nil => intro acc; simp
  | cons d ds ih => intro acc; have := ih (acc * 10 + d); simp only [List.foldl_cons]; omega

theorem dec_char_facts : ∀ d, d < 10 →
    isdigitC (digitChar false d) = true ∧ ((digitChar false d).toNat : Int) - 48 = d
    ∧ isspaceC (digitChar false d) = false ∧ (digitChar false d == 0x2D#8) = false
    ∧ (digitChar false d == 0x2B#8) = false := by decide

theorem inLong_iff (x : Int) : inLong x = true ↔ -9223372036854775808 ≤ x ∧ x < 9223372036854775808 := by
  simp [inLong]

/-- the repaired `atol` accumulates negatively, so that the `2^63` of `LONG_MIN` fits.
    Partial values only grow, so the first test that fails decides. -/
theorem atolDigits_run : ∀ (ds : List Nat) (acc : Nat) (t : Byte) (rest : List Byte),
    (∀ d ∈ ds, d < 10) → isdigitC t = false → acc ≤ 2 ^ 63 →
    atolDigits (ds.map (digitChar false) ++ t :: rest) (-(acc : Int))
      = if ds.foldl (fun a d => a * 10 + d) acc ≤ 2 ^ 63
        then some (-((ds.foldl (fun a d => a * 10 + d) acc : Nat) : Int)) else none := by
  intro ds
  induction ds with
  | nil => intro acc t rest _ ht hacc; simp [atolDigits, ht, hacc]
  | cons d ds ih =>
    intro acc t rest hlt ht hacc
    have hd := dec_char_facts d (hlt d (by simp))
    have hge := foldl10_ge ds (acc * 10 + d)
    have e : 10 * (-(acc : Int)) - (((digitChar false d).toNat : Int) - 48) = -((acc * 10 + d : Nat) : Int) := by
      rw [hd.2.1]; push_cast; omega
    simp only [List.map_cons, List.cons_append, atolDigits, hd.1, if_true, List.foldl_cons]
    rw [e]
    by_cases hle : acc * 10 + d ≤ 2 ^ 63
    · rw [(inLong_iff (10 * -(acc : Int))).2 (by omega), (inLong_iff (-((acc * 10 + d : Nat) : Int))).2 (by omega)]
      exact ih (acc * 10 + d) t rest (fun x hx => hlt x (by simp [hx])) ht hle
    · have hbig : ¬ ds.foldl (fun a d => a * 10 + d) (acc * 10 + d) ≤ 2 ^ 63 := by omega
      rw [show inLong (-((acc * 10 + d : Nat) : Int)) = false by rw [Bool.eq_false_iff, Ne, inLong_iff]; omega]
      simp [hbig]

theorem isspaceC_eq_decide (c : Byte) : isspaceC c = decide (c ∈ spaceChars) := by
  rw [Bool.eq_iff_iff]
  simp only [isspaceC, spaceChars, List.mem_cons, List.not_mem_nil, or_false, ← BitVec.toNat_inj, BitVec.toNat_ofNat,
    Bool.and_eq_true, Bool.or_eq_true, beq_iff_eq, decide_eq_true_eq, Nat.reducePow, Nat.reduceMod]
  omega

theorem isdigitC_eq_decide (c : Byte) : isdigitC c = decide (c ∈ decimalChars) := by
  rw [Bool.eq_iff_iff]
  simp only [isdigitC, decimalChars, List.mem_cons, List.not_mem_nil, or_false, ← BitVec.toNat_inj, BitVec.toNat_ofNat,
    Bool.and_eq_true, decide_eq_true_eq, Nat.reducePow, Nat.reduceMod]
  omega

theorem skipSpace_append (ws : List Byte) (x : Byte) (tl : List Byte) (hws : ∀ c ∈ ws, isspaceC c = true)
    (hx : isspaceC x = false) : skipSpace (ws ++ x :: tl) = x :: tl := by
  induction ws with
  | nil => simp [skipSpace, hx]
  | cons w ws ih =>
    simp only [List.cons_append, skipSpace, hws w (by simp), if_true]
    exact ih (fun c hc => hws c (by simp [hc]))

theorem atol_tail (neg : Bool) (ds : List Nat) (t : Byte) (rest : List Byte) (hds : ∀ d ∈ ds, d < 10)
    (ht : isdigitC t = false) :
    ((atolDigits (ds.map (digitChar false) ++ t :: rest) 0).bind fun total =>
        if neg then some (BitVec.ofInt 64 total)
        else if inLong (-total) then some (BitVec.ofInt 64 (-total)) else none)
      = if neg then (if ofDigits 10 ds ≤ 2 ^ 63 then some (BitVec.ofInt 64 (-(ofDigits 10 ds : Int))) else none)
        else (if ofDigits 10 ds < 2 ^ 63 then some (BitVec.ofInt 64 (ofDigits 10 ds : Int)) else none) := by
  have := atolDigits_run ds 0 t rest hds ht (by omega)
  rw [show (-((0 : Nat) : Int)) = 0 by simp] at this
  rw [this, ofDigits]
  by_cases hle : ds.foldl (fun a d => a * 10 + d) 0 ≤ 2 ^ 63
  · rw [if_pos hle, if_pos hle]
    cases neg
    · simp only [Option.bind_some, Int.neg_neg, Bool.false_eq_true, if_false]
      by_cases hlt : ds.foldl (fun a d => a * 10 + d) 0 < 2 ^ 63
      · rw [if_pos ((inLong_iff _).2 (by omega)), if_pos hlt]
      · rw [if_neg (by rw [inLong_iff]; omega), if_neg hlt]
    · simp
  · have hlt : ¬ ds.foldl (fun a d => a * 10 + d) 0 < 2 ^ 63 := by omega
    rw [if_neg hle, if_neg hle, if_neg hlt]
    cases neg <;> rfl

theorem atol_text (ws sg : List Byte) (ds : List Nat) (t : Byte) (rest : List Byte)
    (hws : ∀ c ∈ ws, c ∈ spaceChars) (hsg : sg = [] ∨ sg = [0x2B#8] ∨ sg = [0x2D#8]) (hds : ∀ d ∈ ds, d < 10)
    (ht : t ∉ decimalChars) (hfirst : sg = [] → ds = [] → t ∉ spaceChars ∧ t ≠ 0x2B#8 ∧ t ≠ 0x2D#8) :
    atol (ws ++ sg ++ ds.map (digitChar false) ++ t :: rest)
      = if sg = [0x2D#8] then
          (if ofDigits 10 ds ≤ 2 ^ 63 then some (BitVec.ofInt 64 (-(ofDigits 10 ds : Int))) else none)
        else (if ofDigits 10 ds < 2 ^ 63 then some (BitVec.ofInt 64 (ofDigits 10 ds : Int)) else none) := by
  have hws' : ∀ c ∈ ws, isspaceC c = true := by
    intro c hc; rw [isspaceC_eq_decide]; simpa using hws c hc
  have ht' : isdigitC t = false := by rw [isdigitC_eq_decide]; simpa using ht
  -- behind the blanks `atol` looks at one character `x`: a sign, or the first character of the number
  have blanks : ∀ (x : Byte) (tl : List Byte), isspaceC x = false →
      atol (ws ++ x :: tl)
        = (atolDigits (if x == 0x2D#8 || x == 0x2B#8 then tl else x :: tl) 0).bind fun total =>
            if x == 0x2D#8 then some (BitVec.ofInt 64 total)
            else if inLong (-total) then some (BitVec.ofInt 64 (-total)) else none := by
    intro x tl hx; rw [atol, skipSpace_append ws x tl hws' hx]
  rcases hsg with rfl | rfl | rfl
  · -- no sign: that character is a digit or `t`, neither a blank nor a sign
    obtain ⟨x, tl, hL, hsp, hm, hp⟩ : ∃ x tl, ds.map (digitChar false) ++ t :: rest = x :: tl ∧
        isspaceC x = false ∧ (x == 0x2D#8) = false ∧ (x == 0x2B#8) = false := by
      cases ds with
      | nil =>
        obtain ⟨h1, h2, h3⟩ := hfirst rfl rfl
        exact ⟨t, rest, rfl, by rw [isspaceC_eq_decide]; simpa using h1, by simpa using h3, by simpa using h2⟩
      | cons d ds =>
        have hf := dec_char_facts d (hds d (by simp))
        exact ⟨_, _, rfl, hf.2.2.1, hf.2.2.2.1, hf.2.2.2.2⟩
    have := atol_tail false ds t rest hds ht'
    rw [hL] at this
    rw [List.append_nil, List.append_assoc, hL, blanks x tl hsp]
    simpa [hm, hp] using this
  · have := atol_tail false ds t rest hds ht'
    rw [List.append_assoc, List.append_assoc, List.singleton_append, blanks _ _ (by decide)]
    simpa using this
  · have := atol_tail true ds t rest hds ht'
    rw [List.append_assoc, List.append_assoc, List.singleton_append, blanks _ _ (by decide)]
    simpa using this

theorem atol_canonInt (z : Int) (hlo : -(2 ^ 63) ≤ z) (hhi : z < 2 ^ 63) (tail : List Byte) :
    atol (canonInt false 10 z ++ 0#8 :: tail) = some (BitVec.ofInt 64 z) := by
  have := atol_text [] (if z < 0 then [0x2D#8] else []) (digits 10 z.natAbs) 0#8 tail (by simp)
    (by split <;> simp) (digits_lt (by omega) _) (by decide) (fun _ h => absurd h (digits_ne_nil 10 z.natAbs))
  rw [ofDigits_digits (by omega)] at this
  rw [canonInt, canonNat, List.nil_append] at *
  rw [this]
  by_cases hneg : z < 0
  · rw [if_pos hneg, if_pos rfl, if_pos (by omega), show -(z.natAbs : Int) = z by omega]
  · rw [if_neg hneg, if_neg (by simp), if_pos (by omega), show (z.natAbs : Int) = z by omega]

theorem atol_canon (v : BitVec 64) (tail : List Byte) : atol (canonInt false 10 v.toInt ++ 0#8 :: tail) = some v := by
  have h1 := @BitVec.toInt_lt 64 v
  have h2 := BitVec.le_toInt v
  rw [atol_canonInt v.toInt (by simpa using h2) (by simpa using h1), BitVec.ofInt_toInt]

/-! ### hexascii.h, the parsing half -/

theorem ofBytesLE_bytesLE {w : Nat} : ∀ (k : Nat) (a : BitVec w), ofBytesLE (bytesLE a k) = a.toNat % 256 ^ k := by
  intro k
  induction k with
  | zero => intro a; simp [bytesLE, ofBytesLE, Nat.mod_one]
  | succ k ih =>
    intro a
    simp only [bytesLE, ofBytesLE, ih]
    rw [(low_byte_toNat a).1, (low_byte_toNat a).2, Nat.pow_succ, Nat.mul_comm (256 ^ k) 256, Nat.mod_mul]

theorem hex2half_digit : ∀ d, d < 16 → ∀ up, (hex2half (digitChar up d)).toNat = d := by decide

theorem hex2byte_digits (up : Bool) (b : Byte) :
    hex2byte (digitChar up (b.toNat / 16)) (digitChar up (b.toNat % 16)) = b := by
  have := b.isLt
  apply BitVec.eq_of_toNat_eq
  rw [hex2byte, hex2half_digit _ (by omega), hex2half_digit _ (by omega), Nat.shiftLeft_eq]
  show (b.toNat / 16 * 2 ^ 4 + b.toNat % 16) % 256 = b.toNat
  omega

theorem hexPairs_digits (up : Bool) : ∀ (bs rest : List Byte),
    hexPairs bs.length (bs.flatMap (fun b => (fixedDigits 16 2 b.toNat).map (digitChar up)) ++ rest) = some bs := by
  intro bs
  induction bs with
  | nil => intro rest; simp [hexPairs]
  | cons b bs ih =>
    intro rest
    rw [List.length_cons, List.flatMap_cons, fixedDigits16_2_map]
    simp only [List.cons_append, List.nil_append, hexPairs]
    rw [ih rest, hex2byte_digits]
    rfl

theorem hexToUint_fixedDigits {w : Nat} (up : Bool) (k : Nat) (hw : 2 ^ w = 256 ^ k) (a : BitVec w) (rest : List Byte) :
    hexToUint w k ((fixedDigits 16 (2 * k) a.toNat).map (digitChar up) ++ rest) = some a := by
  have hl : ((bytesLE a k).reverse).length = k := by simp [bytesLE_length]
  have := hexPairs_digits up (bytesLE a k).reverse rest
  rw [hl, flatMap_bytesLE (digitChar up) 16 2 rfl _ (fun _ => rfl)] at this
  simp only [hexToUint, this, Option.map_some, List.reverse_reverse, ofBytesLE_bytesLE]
  congr 1
  apply BitVec.eq_of_toNat_eq
  rw [BitVec.toNat_ofNat, ← hw, Nat.mod_mod]
  exact Nat.mod_eq_of_lt a.isLt

/-! ### the routines as they were before the `fix:` commits (for the witness theorems) -/

/-- hexascii.h before `fix: hex2half accepts lower-case hex digits` -/
def hex2halfOrig (c : Byte) : Byte := if c.toInt ≤ 57 then c - 48#8 else c - 65#8 + 10#8

def isxdigitC (c : Byte) : Bool :=
  (48 ≤ c.toNat && c.toNat ≤ 57) || (97 ≤ c.toNat && c.toNat ≤ 102) || (65 ≤ c.toNat && c.toNat ≤ 70)

/-- igris_atou32 before the repairs: `for (c = *buf; (c = *buf) && igris_isxdigit(c); buf++)
    res = res * base + hex2half(c);  *end = buf - 1;` — the end offset is an `Int` because it can be -1 -/
def atou32OrigLoop (base : Nat) : List Byte → Nat → Nat → Option (Nat × Int)
  | [], _, _ => none
  | c :: cs, res, pos =>
    if c ≠ 0#8 ∧ isxdigitC c = true then
      atou32OrigLoop base cs ((res * base + (hex2halfOrig c).toNat) % 2 ^ 32) (pos + 1)
    else some (res, (pos : Int) - 1)

/-- compat libc atol before the repair of fix-C11: `total = 10 * total + (c - '0')`, then
    `sign == '-' ? -total : total`; signed overflow = `none` -/
def atolDigitsOrig : List Byte → Int → Option Int
  | [], _ => none
  | c :: cs, total =>
    if isdigitC c then
      if inLong (10 * total) && inLong (10 * total + ((c.toNat : Int) - 48)) then
        atolDigitsOrig cs (10 * total + ((c.toNat : Int) - 48))
      else none
    else some total

def atolOrig (m : List Byte) : Option (BitVec 64) :=
  match skipSpace m with
  | [] => none
  | sign :: rest =>
    let digits := if sign == 0x2D#8 || sign == 0x2B#8 then rest else sign :: rest
    (atolDigitsOrig digits 0).bind fun total =>
      if sign == 0x2D#8 then (if inLong (-total) then some (BitVec.ofInt 64 (-total)) else none)
      else some (BitVec.ofInt 64 total)

theorem atolDigits_inLong : ∀ (l : List Byte) (acc t : Int), inLong acc = true → atolDigits l acc = some t → inLong t = true := by
  intro l
  induction l with
  | nil => intro acc t _ h; simp [atolDigits] at h
  | cons c cs ih =>
    intro acc t hacc h
    rw [atolDigits] at h
    split at h
    · split at h
      · next hin => exact ih _ t (by simp only [Bool.and_eq_true] at hin; exact hin.2) h
      · cases h
    · cases h; exact hacc

/-- the unrepaired loop accumulates `+`: it is the repaired one (which accumulates `-`), except that it cannot hold
    the magnitude `2^63` -/
theorem atolDigitsOrig_eq : ∀ (l : List Byte) (a : Int), 0 ≤ a → a < 9223372036854775808 →
    atolDigitsOrig l a = (atolDigits l (-a)).bind fun t => if inLong (-t) then some (-t) else none := by
  intro l
  induction l with
  | nil => intro a _ _; rfl
  | cons c cs ih =>
    intro a h0 ha
    rw [atolDigitsOrig, atolDigits]
    by_cases hc : isdigitC c = true
    · rw [if_pos hc, if_pos hc]
      have hd : 0 ≤ (c.toNat : Int) - 48 ∧ (c.toNat : Int) - 48 ≤ 9 := by
        simp only [isdigitC, Bool.and_eq_true, decide_eq_true_eq] at hc; omega
      generalize (c.toNat : Int) - 48 = d at hd
      have e : 10 * -a - d = -(10 * a + d) := by omega
      rw [e]
      by_cases hlt : 10 * a + d < 9223372036854775808
      · rw [if_pos (by simp only [Bool.and_eq_true, inLong_iff]; omega),
          if_pos (by simp only [Bool.and_eq_true, inLong_iff]; omega)]
        exact ih _ (by omega) hlt
      · rw [if_neg (by simp only [Bool.and_eq_true, inLong_iff]; omega)]
        by_cases heq : 10 * a + d = 9223372036854775808
        · -- the repaired loop holds -2^63; it returns it, or overflows at the next digit
          rw [if_pos (by simp only [Bool.and_eq_true, inLong_iff]; omega), heq]
          cases cs with
          | nil => rfl
          | cons c' cs' =>
            rw [atolDigits]
            split
            · rw [if_neg (by simp only [Bool.and_eq_true, inLong_iff]; omega)]; rfl
            · rw [Option.bind_some, if_neg (by simp only [inLong_iff]; omega)]
        · rw [if_neg (by simp only [Bool.and_eq_true, inLong_iff]; omega)]; rfl
    · rw [if_neg hc, if_neg hc, Option.bind_some, Int.neg_neg, if_pos (by simp only [inLong_iff]; omega)]

theorem atolOrig_eq (m : List Byte) :
    atolOrig m = if atol m = some (BitVec.ofInt 64 (-9223372036854775808)) then none else atol m := by
  rw [atolOrig, atol]
  cases skipSpace m with
  | nil => simp
  | cons sign rest =>
    simp only []
    have h0 := atolDigitsOrig_eq (if sign == 0x2D#8 || sign == 0x2B#8 then rest else sign :: rest) 0 (by decide) (by decide)
    rw [Int.neg_zero] at h0
    rw [h0]
    cases h : atolDigits (if sign == 0x2D#8 || sign == 0x2B#8 then rest else sign :: rest) 0 with
    | none => simp
    | some t =>
      -- `t` fits a `long`, so `BitVec.ofInt 64` is `LONG_MIN` only at `t = -2^63`, where `-t` does not fit
      have ht := atolDigits_inLong _ 0 t rfl h
      have hr := (inLong_iff t).1 ht
      have hmin : ∀ s : Int, inLong s = true → s ≠ -9223372036854775808 →
          some (BitVec.ofInt 64 s) ≠ some (BitVec.ofInt 64 (-9223372036854775808)) := by
        intro s hs hne h
        rw [inLong_iff] at hs
        have := congrArg BitVec.toInt (Option.some.inj h)
        rw [BitVec.toInt_ofInt, BitVec.toInt_ofInt, Int.bmod_def, Int.bmod_def] at this
        omega
      simp only [Option.bind_some]
      by_cases hi : inLong (-t) = true
      · have hr' := (inLong_iff _).1 hi
        rw [if_pos hi, Option.bind_some, Int.neg_neg, if_pos ht]
        by_cases hs : (sign == 0x2D#8) = true
        · rw [if_pos hs, if_pos hs, if_neg (hmin t ht (by omega))]
        · rw [if_neg hs, if_neg hs, if_pos hi, if_neg (hmin (-t) hi (by omega))]
      · rw [if_neg hi, Option.bind_none]
        have ht2 : t = -9223372036854775808 := by rw [inLong_iff] at hi; omega
        by_cases hs : (sign == 0x2D#8) = true
        · rw [if_pos hs, ht2, if_pos rfl]
        · rw [if_neg hs, if_neg hi, if_neg nofun]

end Igris.C07
