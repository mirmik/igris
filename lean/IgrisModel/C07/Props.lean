/-
  C07 — PROPERTY THEOREMS (statements use only Model.lean and Spec.lean, and in sections G and L
  the transcriptions of the unrepaired routines at the end of Parse.lean).

  Property: "Integer <-> text conversion is exact and invertible for every
  value and base.  Every integer of every supported width (8..64 bit, signed
  and unsigned) renders in every base 2..36 to the canonical digit string
  (optional '-', no leading zeros, NUL terminated, returned pointer at the
  terminator), identical to a reference rendering, writing no more than the
  digits need.  Parsing that text in the same base returns the original value,
  accepts letters of either case, stops at the first character that cannot
  continue the number and reports that position.  The libc-style
  itoa/utoa/ltoa/ultoa shims and the debug-print decimal/hex/binary renderers
  emit the same canonical text."

  Reading guide.  A buffer is the list of bytes from `buf` to the end of the
  object; a routine returns `some (memory', offset)` or `none` when it would
  touch a byte outside the list.  "`f v m b = some (text ++ 0 :: m.drop (L+1), L)`
  for every `m` with at least `L + 1` bytes" therefore says at once: the text
  is the canonical one, it is NUL terminated, the returned pointer is the
  terminator, exactly `L + 1` bytes are written (everything behind them is
  unchanged, and a buffer of exactly `L + 1` bytes suffices).
-/
import IgrisModel.C07.Parse
import IgrisModel.C07.Stream
namespace Igris.C07
open Igris.Proto

/-! ## A. the reference: `digits` is positional notation, and it is canonical -/

theorem digits_value (b n : Nat) (hb : 2 ≤ b) : ofDigits b (digits b n) = n := ofDigits_digits hb n

theorem digits_lt_base (b n : Nat) (hb : 2 ≤ b) : ∀ d ∈ digits b n, d < b := digits_lt hb n

theorem digits_no_leading_zero (b n : Nat) (hb : 2 ≤ b) :
    (n = 0 → digits b n = [0]) ∧ (n ≠ 0 → (digits b n).head? ≠ some 0) := by
  refine ⟨fun h => by subst h; simp [digits, lsd_small (show 0 < b by omega)], fun hn => ?_⟩
  rw [digits, List.head?_reverse]
  exact lsd_getLast_ne_zero hb n hn

/-- canonical = unique: ANY digit string without a leading zero that denotes `n` is `digits b n` -/
theorem digits_unique (b : Nat) (hb : 2 ≤ b) (ds : List Nat) (hne : ds ≠ []) (hlt : ∀ d ∈ ds, d < b)
    (hlead : ds = [0] ∨ ds.head? ≠ some 0) : digits b (ofDigits b ds) = ds := by
  have h := lsd_ofLsd hb ds.reverse (by simpa using hne) (fun d hd => hlt d (by simpa using hd))
    (by rw [List.getLast?_reverse]; simpa using hlead)
  rw [← ofDigits_reverse, List.reverse_reverse] at h
  rw [digits, h, List.reverse_reverse]

/-- a 64-bit magnitude has at most 64 digits in any base ≥ 2: the text of any supported
    value, with sign and terminator, fits 66 bytes -/
theorem digits_length_le_64 (b n : Nat) (hb : 2 ≤ b) (hn : n < 2 ^ 64) : (digits b n).length ≤ 64 := by
  have := digits_length_le hb 64 n hn
  omega

theorem canonInt_bytes_le_66 (up : Bool) (b : Nat) (hb : 2 ≤ b) (v : Int) (hv : v.natAbs < 2 ^ 64) :
    (canonInt up b v).length + 1 ≤ 66 := by
  have := digits_length_le_64 b v.natAbs hb hv
  have := canonInt_length_le up b v
  omega

/-! ## B. rendering (`toa_canonical`): every width, signedness, value and base 2..36 -/

/-- igris_i64toa: lower-case canonical text of the signed value, NUL terminated, returned
    offset at the terminator, exactly `length + 1` bytes written -/
theorem i64toa_canonical (num : BitVec 64) (base : BitVec 8) (hb : 2 ≤ base.toNat ∧ base.toNat ≤ 36)
    (m : List Byte) (hm : (canonInt false base.toNat num.toInt).length + 1 ≤ m.length) :
    i64toa num m base
      = some (canonInt false base.toNat num.toInt ++ 0#8 :: m.drop ((canonInt false base.toNat num.toInt).length + 1),
              (canonInt false base.toNat num.toInt).length) := by
  rw [i64toa_eq]
  exact toaBody_spec toaChar_lower hb.1 hb.2 _ (natAbs_toInt_lt num) m hm

theorem i32toa_canonical (num : BitVec 32) (base : BitVec 8) (hb : 2 ≤ base.toNat ∧ base.toNat ≤ 36)
    (m : List Byte) (hm : (canonInt false base.toNat num.toInt).length + 1 ≤ m.length) :
    i32toa num m base
      = some (canonInt false base.toNat num.toInt ++ 0#8 :: m.drop ((canonInt false base.toNat num.toInt).length + 1),
              (canonInt false base.toNat num.toInt).length) := by
  have h := i64toa_canonical (num.signExtend 64) base hb m
  rw [BitVec.toInt_signExtend_of_le (show 32 ≤ 64 by omega)] at h
  exact h hm

theorem i16toa_canonical (num : BitVec 16) (base : BitVec 8) (hb : 2 ≤ base.toNat ∧ base.toNat ≤ 36)
    (m : List Byte) (hm : (canonInt false base.toNat num.toInt).length + 1 ≤ m.length) :
    i16toa num m base
      = some (canonInt false base.toNat num.toInt ++ 0#8 :: m.drop ((canonInt false base.toNat num.toInt).length + 1),
              (canonInt false base.toNat num.toInt).length) := by
  have h := i64toa_canonical (num.signExtend 64) base hb m
  rw [BitVec.toInt_signExtend_of_le (show 16 ≤ 64 by omega)] at h
  exact h hm

theorem i8toa_canonical (num : BitVec 8) (base : BitVec 8) (hb : 2 ≤ base.toNat ∧ base.toNat ≤ 36)
    (m : List Byte) (hm : (canonInt false base.toNat num.toInt).length + 1 ≤ m.length) :
    i8toa num m base
      = some (canonInt false base.toNat num.toInt ++ 0#8 :: m.drop ((canonInt false base.toNat num.toInt).length + 1),
              (canonInt false base.toNat num.toInt).length) := by
  have h := i64toa_canonical (num.signExtend 64) base hb m
  rw [BitVec.toInt_signExtend_of_le (show 8 ≤ 64 by omega)] at h
  exact h hm

/-- igris_u64toa: UPPER-case canonical text of the unsigned value -/
theorem u64toa_canonical (num : BitVec 64) (base : BitVec 8) (hb : 2 ≤ base.toNat ∧ base.toNat ≤ 36)
    (m : List Byte) (hm : (canonNat true base.toNat num.toNat).length + 1 ≤ m.length) :
    u64toa num m base
      = some (canonNat true base.toNat num.toNat ++ 0#8 :: m.drop ((canonNat true base.toNat num.toNat).length + 1),
              (canonNat true base.toNat num.toNat).length) := by
  rw [u64toa_eq]
  exact toaBody_unsigned toaChar_upper hb.1 hb.2 _ num.isLt m hm

theorem u32toa_canonical (num : BitVec 32) (base : BitVec 8) (hb : 2 ≤ base.toNat ∧ base.toNat ≤ 36)
    (m : List Byte) (hm : (canonNat true base.toNat num.toNat).length + 1 ≤ m.length) :
    u32toa num m base
      = some (canonNat true base.toNat num.toNat ++ 0#8 :: m.drop ((canonNat true base.toNat num.toNat).length + 1),
              (canonNat true base.toNat num.toNat).length) := by
  have h := u64toa_canonical (num.zeroExtend 64) base hb m
  rw [BitVec.toNat_setWidth_of_le (show 32 ≤ 64 by omega)] at h
  exact h hm

theorem u16toa_canonical (num : BitVec 16) (base : BitVec 8) (hb : 2 ≤ base.toNat ∧ base.toNat ≤ 36)
    (m : List Byte) (hm : (canonNat true base.toNat num.toNat).length + 1 ≤ m.length) :
    u16toa num m base
      = some (canonNat true base.toNat num.toNat ++ 0#8 :: m.drop ((canonNat true base.toNat num.toNat).length + 1),
              (canonNat true base.toNat num.toNat).length) := by
  have h := u64toa_canonical (num.zeroExtend 64) base hb m
  rw [BitVec.toNat_setWidth_of_le (show 16 ≤ 64 by omega)] at h
  exact h hm

theorem u8toa_canonical (num : BitVec 8) (base : BitVec 8) (hb : 2 ≤ base.toNat ∧ base.toNat ≤ 36)
    (m : List Byte) (hm : (canonNat true base.toNat num.toNat).length + 1 ≤ m.length) :
    u8toa num m base
      = some (canonNat true base.toNat num.toNat ++ 0#8 :: m.drop ((canonNat true base.toNat num.toNat).length + 1),
              (canonNat true base.toNat num.toNat).length) := by
  have h := u64toa_canonical (num.zeroExtend 64) base hb m
  rw [BitVec.toNat_setWidth_of_le (show 8 ≤ 64 by omega)] at h
  exact h hm

/-- ... and all of them are needed: `length + 1` is exactly the number of bytes the routine
    touches — with a buffer one byte shorter (or less) it runs outside the object -/
theorem toa_needs_every_byte (num : BitVec 64) (base : BitVec 8) (hb : 2 ≤ base.toNat ∧ base.toNat ≤ 36)
    (m : List Byte) :
    (m.length ≤ (canonInt false base.toNat num.toInt).length → i64toa num m base = none) ∧
    (m.length ≤ (canonNat true base.toNat num.toNat).length → u64toa num m base = none) :=
  ⟨fun h => by
    rw [canonInt_length] at h
    rw [i64toa_eq, toaBody_eq 97 hb.1 hb.2 _ _ (natAbs_toInt_lt num),
      if_neg (by simp only [decide_eq_true_eq]; omega)],
   fun h => by
    rw [canonNat_length] at h
    rw [u64toa_eq, toaBody_eq 65 hb.1 hb.2 _ _ num.isLt, if_neg (by simp only [Bool.false_eq_true, if_false]; omega)]⟩

/-- never more than 66 bytes (sign + 64 binary digits + NUL), whatever the value and base -/
theorem i64toa_bytes_le_66 (num : BitVec 64) (base : BitVec 8) (hb : 2 ≤ base.toNat) :
    (canonInt false base.toNat num.toInt).length + 1 ≤ 66 :=
  canonInt_bytes_le_66 false base.toNat hb num.toInt (natAbs_toInt_lt num)

/-- a base outside 2..36: the empty string, returned pointer = buf (what the code does) -/
theorem toa_base_out_of_range (num : BitVec 64) (base : BitVec 8) (h : base.toNat < 2 ∨ base.toNat > 36)
    (x : Byte) (rest : List Byte) :
    i64toa num (x :: rest) base = some (0#8 :: rest, 0) ∧ u64toa num (x :: rest) base = some (0#8 :: rest, 0) :=
  ⟨by rw [i64toa_eq]; exact toaBody_badbase _ _ _ _ h x rest, toaBody_badbase 65 _ false _ h x rest⟩

-- the hypotheses are satisfiable, and the theorems compute what one expects
example : canonInt false 10 (-42) = [0x2D#8, 0x34#8, 0x32#8] := by
  simp [canonInt, canonNat, digits, lsd]; decide
example : i64toa (BitVec.ofInt 64 (-42)) (List.replicate 4 0xA5#8) 10#8 = some ([0x2D#8, 0x34#8, 0x32#8, 0#8], 3) := by decide
example : u64toa 255#64 (List.replicate 3 0xA5#8) 16#8 = some ([0x46#8, 0x46#8, 0#8], 2) := by decide
-- a buffer one byte short faults (the NUL is really written)
example : i64toa (BitVec.ofInt 64 (-42)) (List.replicate 3 0xA5#8) 10#8 = none := by decide

/-! ## C. parsing (`ato_inverse`) -/

/-- Letters of either case: both characters of a digit have its value. -/
theorem digit_either_case (d : Nat) (hd : d < 36) :
    digitValue (digitChar true d) = d ∧ digitValue (digitChar false d) = d :=
  ⟨digitValue_digitChar d hd true, digitValue_digitChar d hd false⟩

/-- The characters accepted in base `b ≤ 36` are EXACTLY the digits of that base
    (in either case): nothing else continues a number. -/
theorem accepted_iff_digit_of_base (c : Byte) (b : Nat) (hb : b ≤ 36) :
    digitValue c < b ↔ ∃ d, d < b ∧ (c = digitChar true d ∨ c = digitChar false d) := by
  constructor
  · intro h
    rcases digitValue_classify c with h255 | ⟨_, hc⟩
    · omega
    · exact ⟨digitValue c, h, hc⟩
  · rintro ⟨d, hd, rfl | rfl⟩
    · rw [digitValue_digitChar d (by omega) true]; exact hd
    · rw [digitValue_digitChar d (by omega) false]; exact hd

/-- igris_atou64 on ANY digit string: a run `chars` of characters that are digits of the
    base, followed by a character `t` that is not (any terminator, the NUL included), then
    anything.  The value is the positional value of the digits modulo 2^64, `*end` is the
    offset of `t`: parsing stops at the first character that cannot continue the number and
    reports that position. -/
theorem atou64_digit_string (base : BitVec 8) (chars : List Byte) (t : Byte) (rest : List Byte)
    (h : ∀ c ∈ chars, digitValue c < base.toNat) (ht : ¬ digitValue t < base.toNat) :
    atou64 (chars ++ t :: rest) 0 base
      = some (BitVec.ofNat 64 (ofDigits base.toNat (chars.map digitValue)), chars.length) :=
  atouW_digit_string 64 base chars t rest h ht

theorem atou32_digit_string (base : BitVec 8) (chars : List Byte) (t : Byte) (rest : List Byte)
    (h : ∀ c ∈ chars, digitValue c < base.toNat) (ht : ¬ digitValue t < base.toNat) :
    atou32 (chars ++ t :: rest) 0 base
      = some (BitVec.ofNat 32 (ofDigits base.toNat (chars.map digitValue)), chars.length) :=
  atouW_digit_string 32 base chars t rest h ht

/-- the 8- and 16-bit parsers return the 32-bit result narrowed: the positional value modulo 2^8 / 2^16 -/
theorem atou16_atou8_digit_string (base : BitVec 8) (chars : List Byte) (t : Byte) (rest : List Byte)
    (h : ∀ c ∈ chars, digitValue c < base.toNat) (ht : ¬ digitValue t < base.toNat) :
    atou16 (chars ++ t :: rest) 0 base
      = some (BitVec.ofNat 16 (ofDigits base.toNat (chars.map digitValue)), chars.length) ∧
    atou8 (chars ++ t :: rest) 0 base
      = some (BitVec.ofNat 8 (ofDigits base.toNat (chars.map digitValue)), chars.length) := by
  simp [atou16, atou8, atou32_digit_string base chars t rest h ht, BitVec.truncate_eq_setWidth,
    BitVec.setWidth_ofNat_of_le]

/-- without a leading `'-'` the signed parsers are the unsigned ones (value reinterpreted) -/
theorem atoi_without_sign (base : BitVec 8) (m : List Byte) (c : Byte) (h0 : m[0]? = some c) (hc : c ≠ 0x2D#8) :
    atoi64 m base = atou64 m 0 base ∧ atoi32 m base = atou32 m 0 base :=
  ⟨atoiW_without_sign 64 base m c h0 hc, atoiW_without_sign 32 base m c h0 hc⟩

/-- the NUL terminates a number in every base (`uint8_t base` ≤ 255 = digit_value('\0')) -/
theorem nul_stops (base : BitVec 8) : ¬ digitValue 0#8 < base.toNat := by
  rw [digitValue_nul]; have := base.isLt; omega

/-- signed parsers: a leading `'-'` negates (in the unsigned type: wraps, never traps);
    `*end` counts the sign -/
theorem atoi64_digit_string (base : BitVec 8) (chars : List Byte) (t : Byte) (rest : List Byte)
    (h : ∀ c ∈ chars, digitValue c < base.toNat) (ht : ¬ digitValue t < base.toNat) :
    atoi64 (0x2D#8 :: chars ++ t :: rest) base
      = some (-(BitVec.ofNat 64 (ofDigits base.toNat (chars.map digitValue))), chars.length + 1) :=
  atoiW_digit_string 64 base chars t rest h ht

theorem atoi32_digit_string (base : BitVec 8) (chars : List Byte) (t : Byte) (rest : List Byte)
    (h : ∀ c ∈ chars, digitValue c < base.toNat) (ht : ¬ digitValue t < base.toNat) :
    atoi32 (0x2D#8 :: chars ++ t :: rest) base
      = some (-(BitVec.ofNat 32 (ofDigits base.toNat (chars.map digitValue))), chars.length + 1) :=
  atoiW_digit_string 32 base chars t rest h ht

/-! Round trips: parsing what `*toa` wrote, in the same base, returns the value, and `*end`
    is the offset `*toa` returned (the terminator).  Stated on the memory the renderer
    leaves behind, for every width. -/

theorem ato_inverse_i64 (v : BitVec 64) (base : BitVec 8) (hb : 2 ≤ base.toNat ∧ base.toNat ≤ 36)
    (m : List Byte) (hm : (canonInt false base.toNat v.toInt).length + 1 ≤ m.length) :
    ∃ m' e, i64toa v m base = some (m', e) ∧ atoi64 m' base = some (v, e) :=
  ⟨_, _, i64toa_canonical v base hb m hm, by rw [atoi64_eq, atoiW_canon 64 base hb.1 hb.2, BitVec.ofInt_toInt]⟩

theorem ato_inverse_i32 (v : BitVec 32) (base : BitVec 8) (hb : 2 ≤ base.toNat ∧ base.toNat ≤ 36)
    (m : List Byte) (hm : (canonInt false base.toNat v.toInt).length + 1 ≤ m.length) :
    ∃ m' e, i32toa v m base = some (m', e) ∧ atoi32 m' base = some (v, e) :=
  ⟨_, _, i32toa_canonical v base hb m hm, by rw [atoi32_eq, atoiW_canon 32 base hb.1 hb.2, BitVec.ofInt_toInt]⟩

theorem ato_inverse_i16 (v : BitVec 16) (base : BitVec 8) (hb : 2 ≤ base.toNat ∧ base.toNat ≤ 36)
    (m : List Byte) (hm : (canonInt false base.toNat v.toInt).length + 1 ≤ m.length) :
    ∃ m' e, i16toa v m base = some (m', e) ∧ atoi16 m' base = some (v, e) :=
  ⟨_, _, i16toa_canonical v base hb m hm, by
    simp [atoi16, atoi32_eq, atoiW_canon 32 base hb.1 hb.2, BitVec.truncate_eq_setWidth, setWidth_ofInt (show 16 ≤ 32 by omega), BitVec.ofInt_toInt]⟩

theorem ato_inverse_i8 (v : BitVec 8) (base : BitVec 8) (hb : 2 ≤ base.toNat ∧ base.toNat ≤ 36)
    (m : List Byte) (hm : (canonInt false base.toNat v.toInt).length + 1 ≤ m.length) :
    ∃ m' e, i8toa v m base = some (m', e) ∧ atoi8 m' base = some (v, e) :=
  ⟨_, _, i8toa_canonical v base hb m hm, by
    simp [atoi8, atoi32_eq, atoiW_canon 32 base hb.1 hb.2, BitVec.truncate_eq_setWidth, setWidth_ofInt (show 8 ≤ 32 by omega), BitVec.ofInt_toInt]⟩

theorem ato_inverse_u64 (v : BitVec 64) (base : BitVec 8) (hb : 2 ≤ base.toNat ∧ base.toNat ≤ 36)
    (m : List Byte) (hm : (canonNat true base.toNat v.toNat).length + 1 ≤ m.length) :
    ∃ m' e, u64toa v m base = some (m', e) ∧ atou64 m' 0 base = some (v, e) :=
  ⟨_, _, u64toa_canonical v base hb m hm, by rw [atou64_eq, atouW_canon 64 base hb.1 hb.2]; simp⟩

theorem ato_inverse_u32 (v : BitVec 32) (base : BitVec 8) (hb : 2 ≤ base.toNat ∧ base.toNat ≤ 36)
    (m : List Byte) (hm : (canonNat true base.toNat v.toNat).length + 1 ≤ m.length) :
    ∃ m' e, u32toa v m base = some (m', e) ∧ atou32 m' 0 base = some (v, e) :=
  ⟨_, _, u32toa_canonical v base hb m hm, by rw [atou32_eq, atouW_canon 32 base hb.1 hb.2]; simp⟩

theorem ato_inverse_u16 (v : BitVec 16) (base : BitVec 8) (hb : 2 ≤ base.toNat ∧ base.toNat ≤ 36)
    (m : List Byte) (hm : (canonNat true base.toNat v.toNat).length + 1 ≤ m.length) :
    ∃ m' e, u16toa v m base = some (m', e) ∧ atou16 m' 0 base = some (v, e) :=
  ⟨_, _, u16toa_canonical v base hb m hm, by
    simp [atou16, atou32_eq, atouW_canon 32 base hb.1 hb.2, BitVec.truncate_eq_setWidth]⟩

theorem ato_inverse_u8 (v : BitVec 8) (base : BitVec 8) (hb : 2 ≤ base.toNat ∧ base.toNat ≤ 36)
    (m : List Byte) (hm : (canonNat true base.toNat v.toNat).length + 1 ≤ m.length) :
    ∃ m' e, u8toa v m base = some (m', e) ∧ atou8 m' 0 base = some (v, e) :=
  ⟨_, _, u8toa_canonical v base hb m hm, by
    simp [atou8, atou32_eq, atouW_canon 32 base hb.1 hb.2, BitVec.truncate_eq_setWidth]⟩

/-- ... and with the case of every letter flipped the text parses to the same value:
    the signed parser reads the UPPER-case text, the unsigned parser the lower-case one -/
theorem ato_inverse_other_case (v : BitVec 64) (base : BitVec 8) (hb : 2 ≤ base.toNat ∧ base.toNat ≤ 36)
    (tail : List Byte) :
    atoi64 (canonInt true base.toNat v.toInt ++ 0#8 :: tail) base = some (v, (canonInt true base.toNat v.toInt).length)
    ∧ atou64 (canonNat false base.toNat v.toNat ++ 0#8 :: tail) 0 base = some (v, (canonNat false base.toNat v.toNat).length) := by
  refine ⟨by rw [atoi64_eq, atoiW_canon 64 base hb.1 hb.2, BitVec.ofInt_toInt], by rw [atou64_eq, atouW_canon 64 base hb.1 hb.2]; simp⟩

-- non-vacuity / sanity: "12ab" in base 10 is 12 with end at 'a'; "7fZ" in base 16 is 0x7f, end 2
example : atou32 [0x31#8, 0x32#8, 0x61#8, 0x62#8, 0#8] 0 10#8 = some (12#32, 2) := by decide
example : atou32 [0x37#8, 0x66#8, 0x5A#8, 0#8] 0 16#8 = some (0x7f#32, 2) := by decide
example : atoi32 [0x2D#8, 0x7A#8, 0#8] 36#8 = some (BitVec.ofInt 32 (-35), 2) := by decide

/-! ## D. the libc-style shims (compat/libc/stdlib/itoa.c) emit the same canonical text

  `base` is an `unsigned short` here; the shims return `buf` (offset 0), write lower-case
  letters, and — after the repair — handle INT_MIN / LONG_MIN like every other value. -/

theorem itoa_canonical (num : BitVec 32) (base : BitVec 16) (hb : 2 ≤ base.toNat ∧ base.toNat ≤ 36)
    (m : List Byte) (hm : (canonInt false base.toNat num.toInt).length + 1 ≤ m.length) :
    itoa num m base
      = some (canonInt false base.toNat num.toInt ++ 0#8 :: m.drop ((canonInt false base.toNat num.toInt).length + 1), 0) := by
  rw [itoa_eq, toaBody_spec toaChar_lower hb.1 hb.2 _ (natAbs_toInt_lt64 (by omega) num) m hm]
  rfl

theorem ltoa_canonical (num : BitVec 64) (base : BitVec 16) (hb : 2 ≤ base.toNat ∧ base.toNat ≤ 36)
    (m : List Byte) (hm : (canonInt false base.toNat num.toInt).length + 1 ≤ m.length) :
    ltoa num m base
      = some (canonInt false base.toNat num.toInt ++ 0#8 :: m.drop ((canonInt false base.toNat num.toInt).length + 1), 0) := by
  rw [ltoa_eq, toaBody_spec toaChar_lower hb.1 hb.2 _ (natAbs_toInt_lt num) m hm]
  rfl

theorem utoa_canonical (num : BitVec 32) (base : BitVec 16) (hb : 2 ≤ base.toNat ∧ base.toNat ≤ 36)
    (m : List Byte) (hm : (canonNat false base.toNat num.toNat).length + 1 ≤ m.length) :
    utoa num m base
      = some (canonNat false base.toNat num.toNat ++ 0#8 :: m.drop ((canonNat false base.toNat num.toNat).length + 1), 0) := by
  rw [utoa_eq, toaBody_unsigned toaChar_lower hb.1 hb.2 _ (Nat.lt_of_lt_of_le num.isLt (by decide)) m hm]
  rfl

theorem ultoa_canonical (num : BitVec 64) (base : BitVec 16) (hb : 2 ≤ base.toNat ∧ base.toNat ≤ 36)
    (m : List Byte) (hm : (canonNat false base.toNat num.toNat).length + 1 ≤ m.length) :
    ultoa num m base
      = some (canonNat false base.toNat num.toNat ++ 0#8 :: m.drop ((canonNat false base.toNat num.toNat).length + 1), 0) := by
  rw [ultoa_eq, toaBody_unsigned toaChar_lower hb.1 hb.2 _ num.isLt m hm]
  rfl

/-- itoa and igris_i32toa (ltoa and igris_i64toa) leave the same bytes in the buffer -/
theorem itoa_same_text_as_i32toa (num : BitVec 32) (base : BitVec 8) (hb : 2 ≤ base.toNat ∧ base.toNat ≤ 36)
    (m : List Byte) (hm : (canonInt false base.toNat num.toInt).length + 1 ≤ m.length) :
    (itoa num m (base.zeroExtend 16)).map Prod.fst = (i32toa num m base).map Prod.fst := by
  have hi := itoa_canonical num (base.zeroExtend 16)
  rw [toNat_zeroExtend16] at hi
  rw [i32toa_canonical num base hb m hm, hi hb m hm]
  rfl

theorem ltoa_same_text_as_i64toa (num : BitVec 64) (base : BitVec 8) (hb : 2 ≤ base.toNat ∧ base.toNat ≤ 36)
    (m : List Byte) (hm : (canonInt false base.toNat num.toInt).length + 1 ≤ m.length) :
    (ltoa num m (base.zeroExtend 16)).map Prod.fst = (i64toa num m base).map Prod.fst := by
  have hl := ltoa_canonical num (base.zeroExtend 16)
  rw [toNat_zeroExtend16] at hl
  rw [i64toa_canonical num base hb m hm, hl hb m hm]
  rfl

-- INT_MIN, the value the unrepaired shim mangled (`int ud = -num`)
example : itoa (BitVec.ofInt 32 (-2147483648)) (List.replicate 12 0xA5#8) 10#16
    = some ([0x2D#8, 0x32#8, 0x31#8, 0x34#8, 0x37#8, 0x34#8, 0x38#8, 0x33#8, 0x36#8, 0x34#8, 0x38#8, 0#8], 0) := by decide

/-- atol / atoi (with the LONG_MIN repair of fix-C11) invert ltoa / itoa in base 10:
    the decimal text of every `long`, LONG_MIN included, parses back to it -/
theorem atol_ltoa_inverse (v : BitVec 64) (m : List Byte)
    (hm : (canonInt false 10 v.toInt).length + 1 ≤ m.length) :
    ∃ m', ltoa v m 10#16 = some (m', 0) ∧ atol m' = some v := by
  have h10 : (10#16 : BitVec 16).toNat = 10 := rfl
  have h := ltoa_canonical v 10#16
  rw [h10] at h
  exact ⟨_, h (by omega) m hm, atol_canon v _⟩

theorem atoi_itoa_inverse (v : BitVec 32) (m : List Byte)
    (hm : (canonInt false 10 v.toInt).length + 1 ≤ m.length) :
    ∃ m', itoa v m 10#16 = some (m', 0) ∧ atoi m' = some v := by
  have h10 : (10#16 : BitVec 16).toNat = 10 := rfl
  have h := itoa_canonical v 10#16
  rw [h10] at h
  refine ⟨_, h (by omega) m hm, ?_⟩
  have h1 := @BitVec.toInt_lt 32 v
  have h2 := BitVec.le_toInt v
  simp at h1 h2
  rw [atoi, atol_canonInt v.toInt (by omega) (by omega)]
  simp only [Option.map_some, BitVec.truncate_eq_setWidth, setWidth_ofInt (show 32 ≤ 64 by omega), BitVec.ofInt_toInt]

/-! ## E. the debug-print renderers emit the same canonical text

  The result of a printer is the sequence of characters it hands to `debug_putchar`. -/

/-- debug_printdec_uint64: the canonical decimal text; the 24-byte local buffer is never overrun.
    (The unsigned_* / uint8..32 wrappers zero-extend into it: `printdec_typed_entry_points`.) -/
theorem printdec_unsigned_canonical (x : BitVec 64) : printdecU64 x = some (canonNat false 10 x.toNat) :=
  printdecU64_spec x

/-- debug_printdec_signed_long_long: the canonical decimal text of the signed value, LLONG_MIN
    included.  (The signed_* wrappers sign-extend into it: `printdec_typed_entry_points`.) -/
theorem printdec_signed_canonical (x : BitVec 64) : printdecSLL x = some (canonInt false 10 x.toInt) := by
  rw [printdecSLL, slt_zero_eq_decide, canonInt, natAbs_toInt]
  by_cases h : x.toInt < 0 <;> simp [h, printdecU64_spec]

/-- debug_printdec_* and igris_i64toa / igris_u64toa(base 10) agree character for character -/
theorem printdec_same_text_as_toa (x : BitVec 64) (m : List Byte) (hm : 66 ≤ m.length) :
    (∃ s, printdecSLL x = some s ∧ (i64toa x m 10#8).map (fun r => r.1.take r.2) = some s) ∧
    (∃ s, printdecU64 x = some s ∧ (u64toa x m 10#8).map (fun r => r.1.take r.2) = some s) := by
  have h10 : (10#8 : BitVec 8).toNat = 10 := rfl
  have hi := i64toa_canonical x 10#8
  have hu := u64toa_canonical x 10#8
  rw [h10] at hi hu
  have b1 := (canon_bytes_by_width false (b := 10) (by omega) 63 x).1
  have b2 := (canon_bytes_by_width true (b := 10) (by omega) 63 x).2
  refine ⟨⟨_, printdec_signed_canonical x, ?_⟩, ⟨_, printdecU64_spec x, ?_⟩⟩
  · rw [hi (by omega) m (by omega)]; simp
  · rw [hu (by omega) m (by omega)]
    have := canonNat_dec x.toNat
    simp [this]

/-- the hexadecimal printers `debug_printhex_uint8/16/32/64`: the upper-case base-16 digits at the
    full width of the type (`2 * bytes` characters, most significant first).  (The `unsigned_short …
    signed_long_long` family goes through `debug_printhex_n`: `printhex_typed_entry_points`.) -/
theorem printhex_fixed_width (a16 : BitVec 16) (a32 : BitVec 32) (a64 : BitVec 64) (a8 : Byte) :
    printhexU8 a8 = (fixedDigits 16 2 a8.toNat).map (digitChar true) ∧
    printhexU16 a16 = (fixedDigits 16 4 a16.toNat).map (digitChar true) ∧
    printhexU32 a32 = (fixedDigits 16 8 a32.toNat).map (digitChar true) ∧
    printhexU64 a64 = (fixedDigits 16 16 a64.toNat).map (digitChar true) :=
  ⟨printhexU8_spec a8, printhexBytes_spec 2 a16, printhexBytes_spec 4 a32, printhexBytes_spec 8 a64⟩

/-- the binary printers: the base-2 digits at the full width of the type -/
theorem printbin_fixed_width (a16 : BitVec 16) (a32 : BitVec 32) (a64 : BitVec 64) (a8 : Byte) :
    printbinU8 a8 = (fixedDigits 2 8 a8.toNat).map (digitChar true) ∧
    printbinU16 a16 = (fixedDigits 2 16 a16.toNat).map (digitChar true) ∧
    printbinU32 a32 = (fixedDigits 2 32 a32.toNat).map (digitChar true) ∧
    printbinU64 a64 = (fixedDigits 2 64 a64.toNat).map (digitChar true) :=
  ⟨printbinU8_spec a8, printbinBytes_spec 2 a16, printbinBytes_spec 4 a32, printbinBytes_spec 8 a64⟩

/-- the nibble printers, for the values they are meant for -/
theorem print_nibble (b : Byte) (h : b.toNat < 16) :
    printhexU4 b = (fixedDigits 16 1 b.toNat).map (digitChar true) ∧
    printbinU4 b = (fixedDigits 2 4 b.toNat).map (digitChar true) :=
  ⟨by rw [printhexU4_eq, toaChar_upper _ (by omega)]; simp [fixedDigits, Nat.mod_eq_of_lt h],
   by rw [printbinU4_spec, Nat.mod_eq_of_lt h]⟩

/-- "fixed width" is the canonical text, zero-padded on the left: the same digits that
    igris_u64toa writes, preceded by as many `0` as the width requires -/
theorem fixed_width_is_padded_canonical (b w n : Nat) (hb : 2 ≤ b) (hn : n < b ^ (w + 1)) :
    (fixedDigits b (w + 1) n).map (digitChar true)
      = List.replicate (w + 1 - (canonNat true b n).length) (digitChar true 0) ++ canonNat true b n := by
  rw [fixedDigits_eq_pad hb w n hn, canonNat_length]
  simp [canonNat]

/-! ## F. vt100_left: `ESC [ <decimal> D`, NUL terminated, returns the length -/

theorem vt100_left_text (arg : BitVec 32) (m : List Byte)
    (hm : (canonInt false 10 arg.toInt).length + 4 ≤ m.length) :
    vt100Left m arg
      = some (0x1B#8 :: 0x5B#8 :: canonInt false 10 arg.toInt ++ 0x44#8 :: 0#8
                :: m.drop ((canonInt false 10 arg.toInt).length + 4),
              (canonInt false 10 arg.toInt).length + 3) := by
  match m, hm with
  | x0 :: x1 :: rest, hm =>
    have hr : (canonInt false 10 arg.toInt).length + 2 ≤ rest.length := by simp at hm; omega
    have h10 : (10#8 : BitVec 8).toNat = 10 := rfl
    have hi := i32toa_canonical arg 10#8
    rw [h10] at hi
    have hi := hi (by omega) rest (by omega)
    have hsplit := List.drop_eq_getElem_cons (l := rest) (i := (canonInt false 10 arg.toInt).length + 1) (by omega)
    unfold vt100Left
    simp only [wr, Option.bind_some, Option.map_some, List.drop_succ_cons, List.drop_zero, List.take_succ_cons,
      List.take_zero]
    rw [hi]
    simp only [Option.bind_some]
    rw [hsplit]
    have a1 : ∀ (t : List Byte) (r : List Byte) (v : Byte) (z : Byte),
        wr ([0x1B#8, 0x5B#8] ++ (t ++ z :: r)) (2 + t.length) v = some ([0x1B#8, 0x5B#8] ++ (t ++ v :: r)) := by
      intro t r v z
      have := wr_mid ([0x1B#8, 0x5B#8] ++ t) z r (2 + t.length) v (by simp; omega)
      simpa using this
    rw [a1]
    simp only [Option.bind_some]
    have a2 : ∀ (t : List Byte) (r : List Byte) (v d : Byte) (z : Byte),
        wr ([0x1B#8, 0x5B#8] ++ (t ++ d :: z :: r)) (2 + t.length + 1) v = some ([0x1B#8, 0x5B#8] ++ (t ++ d :: v :: r)) := by
      intro t r v d z
      have := wr_mid ([0x1B#8, 0x5B#8] ++ t ++ [d]) z r (2 + t.length + 1) v (by simp; omega)
      simpa using this
    rw [a2]
    simp only [Option.bind_some, List.cons_append, List.nil_append, Option.some.injEq, Prod.mk.injEq]
    refine ⟨?_, by omega⟩
    congr 5
    simp

/-! ## G. what was false on the unchanged tree (witnesses on models of the ORIGINAL code)

  Every full statement above holds for the code after the `fix:` commits of branch fix-C07.
  The theorems below document, on transcriptions of the original routines (end of
  Parse.lean), the inputs on which the statements of section C failed; each was first
  reported by the correspondence oracle (corpus/C07/01-defects-found.ops). -/

/-- `*end = buf - 1`: "123x" in base 10 reported the '3' (offset 2), not the 'x' (offset 3);
    the empty number reported offset -1, one byte before the string -/
theorem atouOrig_end_witness :
    atou32OrigLoop 10 [0x31#8, 0x32#8, 0x33#8, 0x78#8, 0#8] 0 0 = some (123, 2) ∧
    atou32OrigLoop 10 [0#8] 0 0 = some (0, -1) := by decide

/-- any hex digit was accepted in any base: "12ab" in base 10 gave 1663 -/
theorem atouOrig_hex_in_base10_witness :
    atou32OrigLoop 10 [0x31#8, 0x32#8, 0x61#8, 0x62#8, 0#8] 0 0 = some (1663, 3) := by decide

/-- `hex2half('f') = 47`: the text igris_i64toa(255, 16) = "ff" parsed back as 799 -/
theorem atouOrig_lowercase_witness :
    atou32OrigLoop 16 [0x66#8, 0x66#8, 0#8] 0 0 = some (799, 1) ∧ hex2halfOrig 0x61#8 = 42#8 := by decide

/-- letters above 'f' were not digits: base-36 "Z" parsed as 0 -/
theorem atouOrig_base36_witness : atou32OrigLoop 36 [0x5A#8, 0#8] 0 0 = some (0, -1) := by decide

/-- the repaired parser on the same inputs -/
theorem atou_repaired_on_witnesses :
    atou32 [0x31#8, 0x32#8, 0x33#8, 0x78#8, 0#8] 0 10#8 = some (123#32, 3) ∧
    atou32 [0#8] 0 10#8 = some (0#32, 0) ∧
    atou32 [0x31#8, 0x32#8, 0x61#8, 0x62#8, 0#8] 0 10#8 = some (12#32, 2) ∧
    atou32 [0x66#8, 0x66#8, 0#8] 0 16#8 = some (255#32, 2) ∧
    atou32 [0x5A#8, 0#8] 0 36#8 = some (35#32, 1) := by decide

/-
  FULL STATEMENT for atol on the tree of branch fix-C07 alone (atol.c unrepaired there):
      ∀ v : long, atolOrig (text of v ++ NUL) = some v
  is FALSE for v = LONG_MIN: the positive accumulator overflows (undefined behaviour).
  atol.c belongs to C11, which repairs it on branch fix-C11; `atol_ltoa_inverse` above is
  the full statement for that repaired code.  Recorded finding: C07-atol-longmin (probes
  `@F:C07-atol-longmin`); every other value is in the compared stream.
-/
theorem atolOrig_ltoa_inverse_partial (v : BitVec 64) (hv : v ≠ BitVec.ofInt 64 (-9223372036854775808))
    (tail : List Byte) : atolOrig (canonInt false 10 v.toInt ++ 0#8 :: tail) = some v := by
  rw [atolOrig_eq, atol_canon, if_neg (fun h => hv (Option.some.inj h))]

-- the excluded value is the only one excluded; the hypothesis is satisfiable
example : (0#64 : BitVec 64) ≠ BitVec.ofInt 64 (-9223372036854775808) := by decide

theorem atolOrig_longmin_witness :
    atolOrig [0x2D#8, 0x39#8, 0x32#8, 0x32#8, 0x33#8, 0x33#8, 0x37#8, 0x32#8, 0x30#8, 0x33#8, 0x36#8, 0x38#8,
              0x35#8, 0x34#8, 0x37#8, 0x37#8, 0x35#8, 0x38#8, 0x30#8, 0x38#8, 0#8] = none ∧
    atol [0x2D#8, 0x39#8, 0x32#8, 0x32#8, 0x33#8, 0x33#8, 0x37#8, 0x32#8, 0x30#8, 0x33#8, 0x36#8, 0x38#8,
          0x35#8, 0x34#8, 0x37#8, 0x37#8, 0x35#8, 0x38#8, 0x30#8, 0x38#8, 0#8] = some (BitVec.ofInt 64 (-9223372036854775808)) := by
  decide


/-! ## H. how long the text is, exactly; the buffer every routine needs -/

theorem digits_length_le_iff (b k n : Nat) (hb : 2 ≤ b) : (digits b n).length ≤ k + 1 ↔ n < b ^ (k + 1) :=
  digits_length_le_iff' hb k n

/-- every power of the base is a length boundary of the text, and there are no others -/
theorem digits_length_eq_iff (b k n : Nat) (hb : 2 ≤ b) :
    (digits b n).length = k + 1 ↔ (k = 0 ∨ b ^ k ≤ n) ∧ n < b ^ (k + 1) :=
  digits_length_eq_iff' hb k n

/-- for a `(w+1)`-bit type the longest text in any base is that of the minimum (signed:
    `-2^w`) and of the maximum (unsigned: `2^(w+1) - 1`) — for ALL values of the type -/
theorem toa_longest_text (w : Nat) (num : BitVec (w + 1)) (b : Nat) (hb : 2 ≤ b) :
    (canonInt false b num.toInt).length ≤ (canonInt false b (-(2 ^ w : Int))).length ∧
    (canonNat true b num.toNat).length ≤ (canonNat true b (2 ^ (w + 1) - 1)).length := by
  rw [canonInt_neg_two_pow_length, canonNat_length, canonNat_length]
  exact ⟨Nat.le_trans (canonInt_length_le false b _) (Nat.succ_le_succ (digits_length_mono hb (natAbs_toInt_le num))),
    digits_length_mono hb (by have := num.isLt; omega)⟩

/-- bytes written (text + NUL) by width, any base ≥ 2: at most `bits + 2` for the signed and
    `bits + 1` for the unsigned routines — 10/9, 18/17, 34/33, 66/65 bytes for 8..64 bit -/
theorem toa_bytes_by_width (w : Nat) (num : BitVec (w + 1)) (b : Nat) (hb : 2 ≤ b) :
    (canonInt false b num.toInt).length + 1 ≤ (w + 1) + 2 ∧
    (canonNat true b num.toNat).length + 1 ≤ (w + 1) + 1 :=
  ⟨(canon_bytes_by_width false hb w num).1, (canon_bytes_by_width true hb w num).2⟩

/-- ... and the bound is attained in base 2 by the minimum / the maximum: sign + `bits`
    binary digits + NUL — it cannot be lowered -/
theorem toa_bytes_bound_attained (w : Nat) :
    (canonInt false 2 (-(2 ^ w : Int))).length + 1 = (w + 1) + 2 ∧
    (canonNat true 2 (2 ^ (w + 1) - 1)).length + 1 = (w + 1) + 1 := by
  have hp : 0 < 2 ^ w := Nat.two_pow_pos w
  have e1 : (digits 2 (2 ^ w)).length = w + 1 :=
    (digits_length_eq_iff' (by omega) w (2 ^ w)).2 ⟨Or.inr (Nat.le_refl _), by rw [Nat.pow_succ]; omega⟩
  have e2 : (digits 2 (2 ^ (w + 1) - 1)).length = w + 1 :=
    (digits_length_eq_iff' (by omega) w (2 ^ (w + 1) - 1)).2
      ⟨Or.inr (by rw [Nat.pow_succ]; omega), by have := Nat.two_pow_pos (w + 1); omega⟩
  rw [canonInt_neg_two_pow_length, canonNat_length, e1, e2]
  omega

/-- the longest DECIMAL texts of the eight kinds: "-128" 4, "-32768" 6, "-2147483648" 11,
    "-9223372036854775808" 20 characters; "255" 3, "65535" 5, "4294967295" 10,
    "18446744073709551615" 20 -/
theorem toa_decimal_longest :
    (canonInt false 10 (-(2 ^ 7 : Int))).length = 4 ∧ (canonInt false 10 (-(2 ^ 15 : Int))).length = 6 ∧
    (canonInt false 10 (-(2 ^ 31 : Int))).length = 11 ∧ (canonInt false 10 (-(2 ^ 63 : Int))).length = 20 ∧
    (canonNat true 10 (2 ^ 8 - 1)).length = 3 ∧ (canonNat true 10 (2 ^ 16 - 1)).length = 5 ∧
    (canonNat true 10 (2 ^ 32 - 1)).length = 10 ∧ (canonNat true 10 (2 ^ 64 - 1)).length = 20 := by
  have e (k n : Nat) (h : (k = 0 ∨ 10 ^ k ≤ n) ∧ n < 10 ^ (k + 1)) : (digits 10 n).length = k + 1 :=
    (digits_length_eq_iff' (by omega) k n).2 h
  simp only [canonInt_neg_two_pow_length, canonNat_length]
  exact ⟨by rw [e 2 _ (by decide)], by rw [e 4 _ (by decide)], by rw [e 9 _ (by decide)], by rw [e 18 _ (by decide)],
    e 2 _ (by decide), e 4 _ (by decide), e 9 _ (by decide), e 19 _ (by decide)⟩

/-- vt100_left never needs more than 15 bytes: ESC [ -2147483648 D NUL -/
theorem vt100_left_bytes_le_15 (arg : BitVec 32) : (canonInt false 10 arg.toInt).length + 4 ≤ 15 := by
  have h := (toa_longest_text 31 arg 10 (by omega)).1
  have := toa_decimal_longest.2.2.1
  omega

/-! ## I. the parsers on EVERY input (grammar: the longest prefix of digits of the base) -/

/-- igris_atou64 / igris_atou32 on any memory `m` (from `buf` to the end of the object): the
    routine reads outside the object iff every byte of it is a digit of the base; otherwise the
    value is the positional value of the longest digit prefix modulo 2^width and `*end` is its
    length.  `isDigitOf`, `numberPrefix`, `prefixValue` are list operations over the two
    alphabets (Spec.lean). -/
theorem atou64_grammar (m : List Byte) (base : BitVec 8) :
    atou64 m 0 base
      = if m.all (isDigitOf base.toNat) then none
        else some (BitVec.ofNat 64 (prefixValue base.toNat m), (numberPrefix base.toNat m).length) :=
  atouW_grammar 64 m base

theorem atou32_grammar (m : List Byte) (base : BitVec 8) :
    atou32 m 0 base
      = if m.all (isDigitOf base.toNat) then none
        else some (BitVec.ofNat 32 (prefixValue base.toNat m), (numberPrefix base.toNat m).length) :=
  atouW_grammar 32 m base

/-- the signed parsers: exactly one leading `'-'` is a sign (the value is negated in the unsigned
    type, `*end` counts it); anything else — `'+'`, a blank, a second `'-'` — is not part of a number -/
theorem atoi64_grammar (c : Byte) (s : List Byte) (base : BitVec 8) :
    atoi64 (c :: s) base
      = if c = 0x2D#8 then
          (if s.all (isDigitOf base.toNat) then none
           else some (-(BitVec.ofNat 64 (prefixValue base.toNat s)), (numberPrefix base.toNat s).length + 1))
        else atou64 (c :: s) 0 base :=
  atoiW_grammar 64 c s base

theorem atoi32_grammar (c : Byte) (s : List Byte) (base : BitVec 8) :
    atoi32 (c :: s) base
      = if c = 0x2D#8 then
          (if s.all (isDigitOf base.toNat) then none
           else some (-(BitVec.ofNat 32 (prefixValue base.toNat s)), (numberPrefix base.toNat s).length + 1))
        else atou32 (c :: s) 0 base :=
  atoiW_grammar 32 c s base

/-- the igris parsers invert the libc shims in EVERY base 2..36 and for EVERY value of the type
    (libc's own atol/atoi read base 10 only): parse(render(v, b), b) = v with `*end` at the terminator -/
theorem ato_inverse_libc (v32 : BitVec 32) (v64 : BitVec 64) (base : BitVec 8) (hb : 2 ≤ base.toNat ∧ base.toNat ≤ 36)
    (m : List Byte) (hm : 66 ≤ m.length) :
    (∃ m', itoa v32 m (base.zeroExtend 16) = some (m', 0) ∧
        atoi32 m' base = some (v32, (canonInt false base.toNat v32.toInt).length)) ∧
    (∃ m', utoa v32 m (base.zeroExtend 16) = some (m', 0) ∧
        atou32 m' 0 base = some (v32, (canonNat false base.toNat v32.toNat).length)) ∧
    (∃ m', ltoa v64 m (base.zeroExtend 16) = some (m', 0) ∧
        atoi64 m' base = some (v64, (canonInt false base.toNat v64.toInt).length)) ∧
    (∃ m', ultoa v64 m (base.zeroExtend 16) = some (m', 0) ∧
        atou64 m' 0 base = some (v64, (canonNat false base.toNat v64.toNat).length)) := by
  have hi := itoa_canonical v32 (base.zeroExtend 16)
  have hu := utoa_canonical v32 (base.zeroExtend 16)
  have hl := ltoa_canonical v64 (base.zeroExtend 16)
  have hul := ultoa_canonical v64 (base.zeroExtend 16)
  rw [toNat_zeroExtend16] at hi hu hl hul
  have b32 := canon_bytes_by_width false hb.1 31 v32
  have b64 := canon_bytes_by_width false hb.1 63 v64
  exact ⟨⟨_, hi hb m (by omega), by rw [atoi32_eq, atoiW_canon 32 base hb.1 hb.2, BitVec.ofInt_toInt]⟩,
    ⟨_, hu hb m (by omega), by rw [atou32_eq, atouW_canon 32 base hb.1 hb.2]; simp⟩,
    ⟨_, hl hb m (by omega), by rw [atoi64_eq, atoiW_canon 64 base hb.1 hb.2, BitVec.ofInt_toInt]⟩,
    ⟨_, hul hb m (by omega), by rw [atou64_eq, atouW_canon 64 base hb.1 hb.2]; simp⟩⟩

/-- totality: on a NUL-terminated string (a NUL anywhere in the object) no parser ever reads
    outside the object, whatever the bytes and the base -/
theorem ato_total_on_c_strings (m : List Byte) (base : BitVec 8) (h : 0#8 ∈ m) :
    (atou64 m 0 base).isSome ∧ (atou32 m 0 base).isSome ∧ (atoi64 m base).isSome ∧ (atoi32 m base).isSome :=
  ⟨(atoW_total 64 m base h).1, (atoW_total 32 m base h).1, (atoW_total 64 m base h).2, (atoW_total 32 m base h).2⟩

/-- non-canonical inputs, every base: the empty number is 0 with `*end = buf`; a lone `'-'` is 0
    with `*end` behind it; `'+'`, a blank and a second `'-'` are not accepted (0, nothing or only
    the sign consumed) -/
theorem ato_noncanonical_inputs (base : BitVec 8) (rest : List Byte) :
    atou64 (0#8 :: rest) 0 base = some (0#64, 0) ∧
    atoi64 (0x2D#8 :: 0#8 :: rest) base = some (0#64, 1) ∧
    atoi64 (0x2B#8 :: rest) base = some (0#64, 0) ∧
    atou64 (0x2B#8 :: rest) 0 base = some (0#64, 0) ∧
    atoi64 (0x20#8 :: rest) base = some (0#64, 0) ∧
    atoi64 (0x2D#8 :: 0x2D#8 :: rest) base = some (0#64, 1) := by
  have hb : base.toNat ≤ 255 := by have := base.isLt; omega
  have nd : ∀ c : Byte, digitValue c = 255 → isDigitOf base.toNat c = false :=
    fun _ hc => isDigitOf_of_not_digit _ hb hc
  have h0 := nd 0#8 (by decide)
  have hplus := nd 0x2B#8 (by decide)
  have hsp := nd 0x20#8 (by decide)
  have hmin := nd 0x2D#8 (by decide)
  refine ⟨?_, ?_, ?_, ?_, ?_, ?_⟩
  · simp [atou64_grammar, h0, prefixValue, numberPrefix, ofDigits]
  · simp [atoi64_grammar, h0, prefixValue, numberPrefix, ofDigits]
  · rw [atoi64_grammar]; simp [atou64_grammar, hplus, prefixValue, numberPrefix, ofDigits]
  · simp [atou64_grammar, hplus, prefixValue, numberPrefix, ofDigits]
  · rw [atoi64_grammar]; simp [atou64_grammar, hsp, prefixValue, numberPrefix, ofDigits]
  · simp [atoi64_grammar, hmin, prefixValue, numberPrefix, ofDigits]

/-- leading zeros are digits: they are consumed and do not change the value -/
theorem ato_leading_zeros (b k : Nat) (hb : 1 ≤ b) (s : List Byte) :
    prefixValue b (List.replicate k 0x30#8 ++ s) = prefixValue b s ∧
    (numberPrefix b (List.replicate k 0x30#8 ++ s)).length = k + (numberPrefix b s).length := by
  have hc : charDigit 0x30#8 = some 0 := by decide
  have hp : numberPrefix b (List.replicate k 0x30#8 ++ s) = List.replicate k 0x30#8 ++ numberPrefix b s :=
    List.takeWhile_append_of_pos fun c h => by
      rw [List.eq_of_mem_replicate h]; simp [isDigitOf, hc]; omega
  rw [prefixValue, hp, List.filterMap_append, List.filterMap_replicate_of_some hc, ofDigits_leading_zeros]
  exact ⟨rfl, by simp⟩

/-- the 8/16-bit signed parsers on any digit string: the 32-bit result narrowed -/
theorem atoi16_atoi8_digit_string (base : BitVec 8) (chars : List Byte) (t : Byte) (rest : List Byte)
    (h : ∀ c ∈ chars, digitValue c < base.toNat) (ht : ¬ digitValue t < base.toNat) :
    atoi16 (0x2D#8 :: chars ++ t :: rest) base
      = some (-(BitVec.ofNat 16 (ofDigits base.toNat (chars.map digitValue))), chars.length + 1) ∧
    atoi8 (0x2D#8 :: chars ++ t :: rest) base
      = some (-(BitVec.ofNat 8 (ofDigits base.toNat (chars.map digitValue))), chars.length + 1) := by
  constructor
  · rw [atoi16, atoi32_digit_string base chars t rest h ht]
    simp only [Option.map_some, BitVec.truncate_eq_setWidth, setWidth_neg_ofNat (show 16 ≤ 32 by omega)]
  · rw [atoi8, atoi32_digit_string base chars t rest h ht]
    simp only [Option.map_some, BitVec.truncate_eq_setWidth, setWidth_neg_ofNat (show 8 ≤ 32 by omega)]

example : ∃ (c : Byte), digitValue c < (10#8 : BitVec 8).toNat ∧ ¬ digitValue 0#8 < (10#8 : BitVec 8).toNat := ⟨0x35#8, by decide⟩

/-- libc atol on EVERY text of the shape  blanks* [+|-] decimal-digits* non-digit ... :
    the value of the digits with the sign applied when it fits a `long`, and undefined behaviour
    (signed overflow, `none`) exactly when it does not — `LONG_MIN` is accepted, `2^63` is not.
    Leading zeros, `+`, no digits at all (value 0) are all covered. -/
theorem atol_grammar (ws sg : List Byte) (ds : List Nat) (t : Byte) (rest : List Byte)
    (hws : ∀ c ∈ ws, c ∈ spaceChars) (hsg : sg = [] ∨ sg = [0x2B#8] ∨ sg = [0x2D#8]) (hds : ∀ d ∈ ds, d < 10)
    (ht : t ∉ decimalChars) (hfirst : sg = [] → ds = [] → t ∉ spaceChars ∧ t ≠ 0x2B#8 ∧ t ≠ 0x2D#8) :
    atol (ws ++ sg ++ ds.map (digitChar false) ++ t :: rest)
      = if sg = [0x2D#8] then
          (if ofDigits 10 ds ≤ 2 ^ 63 then some (BitVec.ofInt 64 (-(ofDigits 10 ds : Int))) else none)
        else (if ofDigits 10 ds < 2 ^ 63 then some (BitVec.ofInt 64 (ofDigits 10 ds : Int)) else none) :=
  atol_text ws sg ds t rest hws hsg hds ht hfirst

-- satisfiable: "  +0012x" is 12
example : atol [0x20#8, 0x20#8, 0x2B#8, 0x30#8, 0x30#8, 0x31#8, 0x32#8, 0x78#8, 0#8] = some 12#64 := by decide


/-! ### letter case, per function.  The property's "same canonical text" is up to the
    case of the letters: igris_i*toa and the four libc shims write LOWER case, igris_u*toa, the
    debug hex printers and uintNN_to_hex write UPPER case; every parser reads both
    (`digit_either_case`, `ato_inverse_other_case`).  The statements below are about what each
    function leaves in the buffer (`take e` = the text in front of the terminator). -/

/-- igris_i64toa (and, through it, i32/i16/i8toa): no upper-case letter -/
theorem i64toa_letters_lower (num : BitVec 64) (base : BitVec 8) (hb : 2 ≤ base.toNat ∧ base.toNat ≤ 36)
    (m : List Byte) (hm : 66 ≤ m.length) :
    ∃ m' e, i64toa num m base = some (m', e) ∧ ∀ c ∈ m'.take e, ¬ (65 ≤ c.toNat ∧ c.toNat ≤ 90) := by
  have hl := i64toa_bytes_le_66 num base hb.1
  refine ⟨_, _, i64toa_canonical num base hb m (by omega), ?_⟩
  intro c hc
  simp only [List.take_left'] at hc
  exact (canonInt_lower hb.1 hb.2 _ c hc).2

/-- igris_u64toa (and u32/u16/u8toa): no lower-case letter -/
theorem u64toa_letters_upper (num : BitVec 64) (base : BitVec 8) (hb : 2 ≤ base.toNat ∧ base.toNat ≤ 36)
    (m : List Byte) (hm : 66 ≤ m.length) :
    ∃ m' e, u64toa num m base = some (m', e) ∧ ∀ c ∈ m'.take e, ¬ (97 ≤ c.toNat ∧ c.toNat ≤ 122) := by
  have hl := (canon_bytes_by_width true hb.1 63 num).2
  refine ⟨_, _, u64toa_canonical num base hb m (by omega), ?_⟩
  intro c hc
  simp only [List.take_left'] at hc
  obtain ⟨d, hd, rfl⟩ := canonNat_mem hb.1 true _ c hc
  exact digitChar_upper_not_lower d (by omega)

/-- the libc shims: all four write lower case — `utoa`/`ultoa` differ from igris_u32toa/u64toa
    in the case of the letters (bases above 10), and only in that -/
theorem lc_letters_lower (n32 : BitVec 32) (n64 : BitVec 64) (base : BitVec 16) (hb : 2 ≤ base.toNat ∧ base.toNat ≤ 36)
    (m : List Byte) (hm : 66 ≤ m.length) (c : Byte) :
    (∀ m', itoa n32 m base = some (m', 0) → c ∈ m'.takeWhile (· ≠ 0#8) → ¬ (65 ≤ c.toNat ∧ c.toNat ≤ 90)) ∧
    (∀ m', utoa n32 m base = some (m', 0) → c ∈ m'.takeWhile (· ≠ 0#8) → ¬ (65 ≤ c.toNat ∧ c.toNat ≤ 90)) ∧
    (∀ m', ltoa n64 m base = some (m', 0) → c ∈ m'.takeWhile (· ≠ 0#8) → ¬ (65 ≤ c.toNat ∧ c.toNat ≤ 90)) ∧
    (∀ m', ultoa n64 m base = some (m', 0) → c ∈ m'.takeWhile (· ≠ 0#8) → ¬ (65 ≤ c.toNat ∧ c.toNat ≤ 90)) := by
  have key : ∀ (r : Option (List Byte × Nat)) (v : Int) (tl : List Byte),
      r = some (canonInt false base.toNat v ++ 0#8 :: tl, 0) →
      ∀ m', r = some (m', 0) → c ∈ m'.takeWhile (· ≠ 0#8) → ¬ (65 ≤ c.toNat ∧ c.toNat ≤ 90) := by
    intro r v tl hr m' h hc
    rw [hr] at h
    cases h
    rw [takeWhile_nul _ tl (fun x hx => (canonInt_lower hb.1 hb.2 v x hx).1)] at hc
    exact (canonInt_lower hb.1 hb.2 v c hc).2
  have b32 := canon_bytes_by_width false hb.1 31 n32
  have b64 := canon_bytes_by_width false hb.1 63 n64
  exact ⟨key _ _ _ (itoa_canonical n32 base hb m (by omega)),
    key _ n32.toNat _ (by rw [canonInt_natCast]; exact utoa_canonical n32 base hb m (by omega)),
    key _ _ _ (ltoa_canonical n64 base hb m (by omega)),
    key _ n64.toNat _ (by rw [canonInt_natCast]; exact ultoa_canonical n64 base hb m (by omega))⟩

-- the hypotheses are satisfiable and the conclusion is not vacuous: utoa(255, 16) = "ff", igris_u32toa gives "FF"
example : utoa 255#32 (List.replicate 66 0xA5#8) 16#16 = some (0x66#8 :: 0x66#8 :: 0#8 :: List.replicate 63 0xA5#8, 0) := by decide
example : (u32toa 255#32 (List.replicate 66 0xA5#8) 16#8).map (fun r => r.1.take r.2) = some [0x46#8, 0x46#8] := by decide


/-! ## J. the remaining renderers of dprint_func_impl.c and the hexascii.h helpers -/

/-- debug_writehex / debug_writebin: the bytes `ptr[0 .. size)` in order, each as two upper-case
    hex digits / eight binary digits; the routine reads exactly that range (a `size` that reaches
    past the object is an out-of-bounds read, `size = 0` reads nothing) -/
theorem writehex_writebin_spec (mem : List Byte) (p : Nat) (size : BitVec 16) :
    writehex mem p size
      = (if size.toNat = 0 ∨ p + size.toNat ≤ mem.length then
          some (((mem.drop p).take size.toNat).flatMap fun b => (fixedDigits 16 2 b.toNat).map (digitChar true))
         else none) ∧
    writebin mem p size
      = (if size.toNat = 0 ∨ p + size.toNat ≤ mem.length then
          some (((mem.drop p).take size.toNat).flatMap fun b => (fixedDigits 2 8 b.toNat).map (digitChar true))
         else none) :=
  ⟨writeFwd_run printhexU8_spec mem p size.toNat, writeFwd_run printbinU8_spec mem p size.toNat⟩

/-- debug_writehex_reversed / debug_writebin_reversed / debug_printhex_n: the same range, highest
    address first -/
theorem writehex_reversed_spec (mem : List Byte) (p : Nat) (size : BitVec 16) (n : Nat) :
    writehexReversed mem p size
      = (if size.toNat = 0 ∨ p + size.toNat ≤ mem.length then
          some (((mem.drop p).take size.toNat).reverse.flatMap fun b => (fixedDigits 16 2 b.toNat).map (digitChar true))
         else none) ∧
    writebinReversed mem p size
      = (if size.toNat = 0 ∨ p + size.toNat ≤ mem.length then
          some (((mem.drop p).take size.toNat).reverse.flatMap fun b => (fixedDigits 2 8 b.toNat).map (digitChar true))
         else none) ∧
    printhexN mem p n
      = (if n = 0 ∨ p + n ≤ mem.length then
          some (((mem.drop p).take n).reverse.flatMap fun b => (fixedDigits 16 2 b.toNat).map (digitChar true))
         else none) :=
  ⟨writeRev_run printhexU8_spec mem p size.toNat, writeRev_run printbinU8_spec mem p size.toNat, by
    rw [printhexN, hexNLoop_eq]; exact writeRev_run printhexU8_spec mem p n⟩

example : writehex [0x01#8, 0xAB#8] 0 2#16 = some [0x30#8, 0x31#8, 0x41#8, 0x42#8] := by decide
example : writehexReversed [0x01#8, 0xAB#8] 0 2#16 = some [0x41#8, 0x42#8, 0x30#8, 0x31#8] := by decide
example : writehex [0x01#8] 0 2#16 = none := by decide

/-- the typed hexadecimal entry points (`debug_printhex_unsigned_short … signed_long_long`, which go
    through the pointer loop of debug_printhex_n on the object representation) and
    debug_printhex_ptr: the upper-case base-16 digits at the full width of the type -/
theorem printhex_typed_entry_points (a8 : BitVec 8) (a16 : BitVec 16) (a32 : BitVec 32) (a64 : BitVec 64) :
    printhexChar a8 = some ((fixedDigits 16 2 a8.toNat).map (digitChar true)) ∧
    printhexShort a16 = some ((fixedDigits 16 4 a16.toNat).map (digitChar true)) ∧
    printhexInt a32 = some ((fixedDigits 16 8 a32.toNat).map (digitChar true)) ∧
    printhexLong a64 = some ((fixedDigits 16 16 a64.toNat).map (digitChar true)) ∧
    printhexPtr a64 = some ((fixedDigits 16 16 a64.toNat).map (digitChar true)) :=
  ⟨by rw [printhexChar, printhexU8_spec], printhexN_bytesLE 2 a16, printhexN_bytesLE 4 a32, printhexN_bytesLE 8 a64,
    printhexPtr_spec a64⟩

/-- the fixed-width hex/binary text IS the canonical text, zero-padded on the left to the width
    of the type (`fixed_width_is_padded_canonical` instantiated for the shipped widths) -/
theorem printhex_is_padded_canonical (a8 : Byte) (a16 : BitVec 16) (a32 : BitVec 32) (a64 : BitVec 64) :
    printhexU8 a8 = List.replicate (2 - (canonNat true 16 a8.toNat).length) 0x30#8 ++ canonNat true 16 a8.toNat ∧
    printhexU16 a16 = List.replicate (4 - (canonNat true 16 a16.toNat).length) 0x30#8 ++ canonNat true 16 a16.toNat ∧
    printhexU32 a32 = List.replicate (8 - (canonNat true 16 a32.toNat).length) 0x30#8 ++ canonNat true 16 a32.toNat ∧
    printhexU64 a64 = List.replicate (16 - (canonNat true 16 a64.toNat).length) 0x30#8 ++ canonNat true 16 a64.toNat ∧
    printbinU64 a64 = List.replicate (64 - (canonNat true 2 a64.toNat).length) 0x30#8 ++ canonNat true 2 a64.toNat := by
  have z : digitChar true 0 = 0x30#8 := by decide
  obtain ⟨h8, h16, h32, h64⟩ := printhex_fixed_width a16 a32 a64 a8
  have b64 := (printbin_fixed_width a16 a32 a64 a8).2.2.2
  refine ⟨?_, ?_, ?_, ?_, ?_⟩
  · rw [h8, fixed_width_is_padded_canonical 16 1 _ (by omega) (by have := a8.isLt; omega), z]
  · rw [h16, fixed_width_is_padded_canonical 16 3 _ (by omega) (by have := a16.isLt; omega), z]
  · rw [h32, fixed_width_is_padded_canonical 16 7 _ (by omega) (by have := a32.isLt; omega), z]
  · rw [h64, fixed_width_is_padded_canonical 16 15 _ (by omega) (by have := a64.isLt; omega), z]
  · rw [b64, fixed_width_is_padded_canonical 2 63 _ (by omega) (by have := a64.isLt; omega), z]

/-- the literal clause "same canonical text" does NOT hold for the hex printers: 5 prints as "05" -/
theorem printhex_not_canonical_witness : printhexU8 5#8 ≠ canonNat true 16 5 := by
  intro h
  have hl := congrArg List.length h
  rw [canonNat_length, digits, lsd_small (by omega)] at hl
  revert hl; decide

/-- every decimal entry point at its own C type: the canonical decimal text of the
    value of that type — zero extension for the unsigned, sign extension for the signed ones,
    the most negative value of every width included -/
theorem printdec_typed_entry_points (x8 : BitVec 8) (x16 : BitVec 16) (x32 : BitVec 32) (x64 : BitVec 64) :
    printdecU8 x8 = some (canonNat false 10 x8.toNat) ∧ printdecU16 x16 = some (canonNat false 10 x16.toNat) ∧
    printdecU32 x32 = some (canonNat false 10 x32.toNat) ∧
    printdecUChar x8 = some (canonNat false 10 x8.toNat) ∧ printdecUShort x16 = some (canonNat false 10 x16.toNat) ∧
    printdecUInt x32 = some (canonNat false 10 x32.toNat) ∧ printdecULong x64 = some (canonNat false 10 x64.toNat) ∧
    printdecULL x64 = some (canonNat false 10 x64.toNat) ∧
    printdecSChar x8 = some (canonInt false 10 x8.toInt) ∧ printdecSShort x16 = some (canonInt false 10 x16.toInt) ∧
    printdecSInt x32 = some (canonInt false 10 x32.toInt) ∧ printdecSLong x64 = some (canonInt false 10 x64.toInt) := by
  have z8 : (x8.zeroExtend 64).toNat = x8.toNat := BitVec.toNat_setWidth_of_le (by omega)
  have z16 : (x16.zeroExtend 64).toNat = x16.toNat := BitVec.toNat_setWidth_of_le (by omega)
  have z32 : (x32.zeroExtend 64).toNat = x32.toNat := BitVec.toNat_setWidth_of_le (by omega)
  have s8 : (x8.signExtend 64).toInt = x8.toInt := BitVec.toInt_signExtend_of_le (by omega)
  have s16 : (x16.signExtend 64).toInt = x16.toInt := BitVec.toInt_signExtend_of_le (by omega)
  have s32 : (x32.signExtend 64).toInt = x32.toInt := BitVec.toInt_signExtend_of_le (by omega)
  simp only [printdecU8, printdecU16, printdecU32, printdecUChar, printdecUShort, printdecUInt, printdecULong,
    printdecULL, printdecSChar, printdecSShort, printdecSInt, printdecSLong, printdecU64_spec, printdec_signed_canonical,
    z8, z16, z32, s8, s16, s32, and_self]

/-- a base outside 2..36 (an `unsigned short` here: 0, 1, 37, 266, 65535 …) makes every libc
    shim store the empty string and return `buf` -/
theorem lc_base_out_of_range (n32 : BitVec 32) (n64 : BitVec 64) (base : BitVec 16)
    (h : base.toNat < 2 ∨ base.toNat > 36) (x : Byte) (rest : List Byte) :
    itoa n32 (x :: rest) base = some (0#8 :: rest, 0) ∧ utoa n32 (x :: rest) base = some (0#8 :: rest, 0) ∧
    ltoa n64 (x :: rest) base = some (0#8 :: rest, 0) ∧ ultoa n64 (x :: rest) base = some (0#8 :: rest, 0) := by
  simp [itoa, utoa, ltoa, ultoa, wr, h]

/-- hexascii.h: `uint8/16/32/64_to_hex` write the upper-case base-16 digits at the full width of
    the type (2, 4, 8, 16 characters, no terminator) -/
theorem uint_to_hex_fixed_width (a8 : Byte) (a16 : BitVec 16) (a32 : BitVec 32) (a64 : BitVec 64) :
    uint8ToHex a8 = (fixedDigits 16 2 a8.toNat).map (digitChar true) ∧
    uintToHex a16 2 = (fixedDigits 16 4 a16.toNat).map (digitChar true) ∧
    uintToHex a32 4 = (fixedDigits 16 8 a32.toNat).map (digitChar true) ∧
    uintToHex a64 8 = (fixedDigits 16 16 a64.toNat).map (digitChar true) := by
  rw [uint8ToHex_eq, uintToHex_eq, uintToHex_eq, uintToHex_eq]
  exact printhex_fixed_width a16 a32 a64 a8

/-- ... and `hex_to_uint8/16/32/64` invert them for EVERY value of the type; the text may be
    followed by anything (no terminator is read) -/
theorem hex_to_uint_inverse (a8 : Byte) (a16 : BitVec 16) (a32 : BitVec 32) (a64 : BitVec 64) (rest : List Byte) :
    hexToUint 8 1 (uint8ToHex a8 ++ rest) = some a8 ∧ hexToUint 16 2 (uintToHex a16 2 ++ rest) = some a16 ∧
    hexToUint 32 4 (uintToHex a32 4 ++ rest) = some a32 ∧ hexToUint 64 8 (uintToHex a64 8 ++ rest) = some a64 := by
  obtain ⟨h8, h16, h32, h64⟩ := uint_to_hex_fixed_width a8 a16 a32 a64
  rw [h8, h16, h32, h64]
  exact ⟨hexToUint_fixedDigits true 1 (by decide) a8 rest, hexToUint_fixedDigits true 2 (by decide) a16 rest,
    hexToUint_fixedDigits true 4 (by decide) a32 rest, hexToUint_fixedDigits true 8 (by decide) a64 rest⟩

/-- `hex_to_uintNN` reads the digits in either case: the fixed-width text written with lower-case
    (or upper-case) letters parses to the value; `hex2half` maps both characters of a hex digit
    to its value (the unrepaired `hex2half('a')` was 42) -/
theorem hex_to_uint_either_case (up : Bool) (a8 : BitVec 8) (a16 : BitVec 16) (a32 : BitVec 32) (a64 : BitVec 64)
    (rest : List Byte) :
    hexToUint 8 1 ((fixedDigits 16 2 a8.toNat).map (digitChar up) ++ rest) = some a8 ∧
    hexToUint 16 2 ((fixedDigits 16 4 a16.toNat).map (digitChar up) ++ rest) = some a16 ∧
    hexToUint 32 4 ((fixedDigits 16 8 a32.toNat).map (digitChar up) ++ rest) = some a32 ∧
    hexToUint 64 8 ((fixedDigits 16 16 a64.toNat).map (digitChar up) ++ rest) = some a64 ∧
    (∀ d, d < 16 → (hex2half (digitChar up d)).toNat = d) :=
  ⟨hexToUint_fixedDigits up 1 (by decide) a8 rest, hexToUint_fixedDigits up 2 (by decide) a16 rest,
   hexToUint_fixedDigits up 4 (by decide) a32 rest, hexToUint_fixedDigits up 8 (by decide) a64 rest,
   fun d hd => hex2half_digit d hd up⟩

/-- the `debug_asmlink_args*` self-test printers: every argument as its fixed-width upper-case
    hex text followed by `':'`; `dprptr` / `dprptrln`: the 16 hex digits of the pointer (+ CR LF) -/
theorem asmlink_and_dprptr_text (v8 : List (BitVec 8)) (v16 : List (BitVec 16)) (v32 : List (BitVec 32)) (p : BitVec 64) :
    asmlinkArgs8 v8 = v8.flatMap (fun a => (fixedDigits 16 2 a.toNat).map (digitChar true) ++ [0x3A#8]) ∧
    asmlinkArgs16 v16 = v16.flatMap (fun a => (fixedDigits 16 4 a.toNat).map (digitChar true) ++ [0x3A#8]) ∧
    asmlinkArgs32 v32 = v32.flatMap (fun a => (fixedDigits 16 8 a.toNat).map (digitChar true) ++ [0x3A#8]) ∧
    dprptr p = some ((fixedDigits 16 16 p.toNat).map (digitChar true)) ∧
    dprptrln p = some ((fixedDigits 16 16 p.toNat).map (digitChar true) ++ [0x0D#8, 0x0A#8]) := by
  refine ⟨?_, ?_, ?_, printhexPtr_spec p, by rw [dprptrln, printhexPtr_spec]; rfl⟩
  · simp only [asmlinkArgs8]; congr 1; funext a; rw [printhexU8_spec]
  · simp only [asmlinkArgs16]; congr 1; funext a; rw [printhexU16, printhexBytes_spec 2 a]
  · simp only [asmlinkArgs32]; congr 1; funext a; rw [printhexU32, printhexBytes_spec 4 a]


/-! ## K. debug_print_dump and igris/util/ctype.h -/

/-- debug_print_dump(mem, len) emits exactly `dumpSpec` (Spec.lean: rows of eight, address column
    `0x` + 16 upper-case hex digits + `:`, cells `HH `, three blanks past the data, the ASCII
    column — the byte itself iff it is printable 0x20..0x7E, else `.` — and CR LF), and it reads
    exactly `mem[0 .. len)`: with fewer bytes in the object it reads outside it.
    (The unrepaired routine tested `isprint(mem[0] + j)`: fix d5b3512.) -/
theorem print_dump_spec (addr : BitVec 64) (mem : List Byte) (len : BitVec 16) :
    printDump addr mem len
      = if len.toNat ≤ mem.length then some (dumpSpec addr.toNat (mem.take len.toNat)) else none := by
  simp only [printDump, dump_padded_length]
  rw [dumpLoop_eq addr mem len.toNat _ 0 [] (by omega)]
  by_cases h : len.toNat ≤ mem.length
  · rw [if_pos (Or.inl h), if_pos h]
    simp only [Option.map_some, emit_nil_reverse, dumpSpec, List.length_take, Nat.min_eq_left h]
  · rw [if_neg (by omega), if_neg h]; rfl

-- one full row and a partial one: 9 bytes "AB\n…"
example : (printDump 0x1000#64 [0x41#8, 0x42#8, 0x0A#8, 0xFF#8, 0x20#8, 0x7E#8, 0x7F#8, 0x30#8, 0x31#8] 9#16).map List.length
    = some 106 := by decide

/-- igris ctype.h against the digit alphabets: `igris_isxdigit` is "digit of base 16",
    `igris_isalnum` is "digit of base 36", `igris_isdigit` "digit of base 10";
    `igris_toupper` / `igris_tolower` never change the digit value (letters of either case);
    `igris_isprint` is 0x20..0x7E; a negative `char` (byte ≥ 0x80) is in no class -/
theorem ctype_matches_digit_alphabets (c : Byte) :
    (isxdigitI c.toInt = true ↔ digitValue c < 16) ∧
    (isalnumI c.toInt = true ↔ digitValue c < 36) ∧
    (isdigitI c.toInt = true ↔ digitValue c < 10) ∧
    digitValue (BitVec.ofInt 8 (toupperI c.toInt)) = digitValue c ∧
    digitValue (BitVec.ofInt 8 (tolowerI c.toInt)) = digitValue c ∧
    (isprintI c.toInt = true ↔ 32 ≤ c.toNat ∧ c.toNat ≤ 126) ∧
    (128 ≤ c.toNat → isalnumI c.toInt = false ∧ isspaceI c.toInt = false ∧ isprintI c.toInt = false) := by
  revert c; decide +kernel


/-! ## L. the `_partial` theorem of section G made exact -/

/-- the excluded region of `atolOrig_ltoa_inverse_partial` is exactly `{LONG_MIN}`, and inside it
    the behaviour is: signed overflow at the last digit, whatever follows the text — for the
    UNREPAIRED atol the round trip holds iff `v ≠ LONG_MIN` (the repaired one: `atol_ltoa_inverse`,
    `atol_grammar`) -/
theorem atolOrig_ltoa_inverse_iff (v : BitVec 64) (tail : List Byte) :
    atolOrig (canonInt false 10 v.toInt ++ 0#8 :: tail) = some v ↔ v ≠ BitVec.ofInt 64 (-9223372036854775808) := by
  rw [atolOrig_eq, atol_canon]
  by_cases hv : v = BitVec.ofInt 64 (-9223372036854775808)
  · rw [if_pos (congrArg some hv)]; exact ⟨nofun, fun h => absurd hv h⟩
  · rw [if_neg (fun h => hv (Option.some.inj h))]; exact ⟨fun _ => hv, fun _ => rfl⟩


/-! ## M. the arguments outside the contracts, and the width wrappers -/

/-- debug_printhex_uint4 on EVERY `uint8_t` argument: always exactly one character, the code of the argument
    plus `'0'` (below 10) or `'A' - 10` (from 10 on) in `uint8_t`; for every argument below 36 that is the
    upper-case digit of the argument (16..35 continue into the base-36 alphabet); it is the hex digit of the
    low nibble IF AND ONLY IF the argument is below 16 — the routine does not mask, `print_nibble`'s hypothesis
    is exact.  debug_printbin_uint4 tests four bits: for every argument the four binary digits of the argument
    mod 16 (the high nibble is ignored). -/
theorem print_nibble_total (b : Byte) :
    (∃ c, printhexU4 b = [c] ∧ c.toNat = (b.toNat + (if b.toNat < 10 then 48 else 55)) % 256) ∧
    (b.toNat < 36 → printhexU4 b = [digitChar true b.toNat]) ∧
    (printhexU4 b = (fixedDigits 16 1 (b.toNat % 16)).map (digitChar true) ↔ b.toNat < 16) ∧
    printbinU4 b = (fixedDigits 2 4 (b.toNat % 16)).map (digitChar true) := by
  rw [printhexU4_eq]
  refine ⟨⟨_, rfl, ?_⟩, fun h => by rw [toaChar_upper _ h], ?_, printbinU4_spec b⟩
  · rw [toaChar_toNat]; split <;> omega
  · simp only [fixedDigits, List.nil_append, List.map_cons, List.map_nil, Nat.mod_mod,
      ← toaChar_upper _ (show b.toNat % 16 < 36 by omega), List.cons.injEq, and_true]
    constructor
    · -- above 15 the character of the argument and that of its low nibble have different codes
      intro h
      have := congrArg BitVec.toNat h
      rw [toaChar_toNat, toaChar_toNat] at this
      split at this <;> split at this <;> omega
    · intro h; rw [Nat.mod_eq_of_lt h]

example : printhexU4 0x1F#8 = [0x56#8] ∧ printbinU4 0xF5#8 = [0x30#8, 0x31#8, 0x30#8, 0x31#8] := by decide

/-- debug_printhex_n with `int n` at its C width, on every memory, every `arg` and EVERY 32-bit `n`:
    defined exactly when `n ≥ 0` and the `n` bytes lie inside the object (nothing is read for `n = 0`), and then
    the two upper-case hex digits of each byte, highest address first. -/
theorem printhexN_int_spec (mem : List Byte) (arg : Nat) (n : BitVec 32) :
    printhexNI mem arg n
      = if 0 ≤ n.toInt ∧ (n.toNat = 0 ∨ arg + n.toNat ≤ mem.length) then
          some (((mem.drop arg).take n.toNat).reverse.flatMap fun b => (fixedDigits 16 2 b.toNat).map (digitChar true))
        else none := by
  rw [printhexNI_eq, printhexN, hexNLoop_eq, writeRev_run printhexU8_spec]
  by_cases hn : n.toInt < 0
  · rw [if_pos hn, if_neg (by omega)]
  · rw [if_neg hn]
    by_cases hc : n.toNat = 0 ∨ arg + n.toNat ≤ mem.length
    · rw [if_pos hc, if_pos ⟨by omega, hc⟩]
    · rw [if_neg hc, if_neg (fun h => hc h.2)]

/-- ... in particular a negative `n` is undefined whatever the memory looks like: the pointer starts in front
    of `arg` and the loop can only end in a load outside the object or in `n--` on INT_MIN.  (No caller passes
    one: every call site passes a `sizeof`.) -/
theorem printhexN_negative_undefined (mem : List Byte) (arg : Nat) (n : BitVec 32) (h : n.toInt < 0) :
    printhexNI mem arg n = none := by
  rw [printhexN_int_spec, if_neg (by omega)]

example : (0xFFFFFFFF#32).toInt < 0 := by decide
example : printhexNI [0x12#8, 0xAB#8] 0 2#32 = some [0x41#8, 0x42#8, 0x31#8, 0x32#8] := by decide

/-- letter case of the six width wrappers: igris_i32/i16/i8toa
    write no upper-case letter, igris_u32/u16/u8toa no lower-case letter, for every value and base 2..36 -/
theorem toa_wrappers_letter_case (n32 : BitVec 32) (n16 : BitVec 16) (n8 : BitVec 8) (base : BitVec 8)
    (hb : 2 ≤ base.toNat ∧ base.toNat ≤ 36) (m : List Byte) (hm : 66 ≤ m.length) :
    (∃ m' e, i32toa n32 m base = some (m', e) ∧ ∀ c ∈ m'.take e, ¬ (65 ≤ c.toNat ∧ c.toNat ≤ 90)) ∧
    (∃ m' e, i16toa n16 m base = some (m', e) ∧ ∀ c ∈ m'.take e, ¬ (65 ≤ c.toNat ∧ c.toNat ≤ 90)) ∧
    (∃ m' e, i8toa n8 m base = some (m', e) ∧ ∀ c ∈ m'.take e, ¬ (65 ≤ c.toNat ∧ c.toNat ≤ 90)) ∧
    (∃ m' e, u32toa n32 m base = some (m', e) ∧ ∀ c ∈ m'.take e, ¬ (97 ≤ c.toNat ∧ c.toNat ≤ 122)) ∧
    (∃ m' e, u16toa n16 m base = some (m', e) ∧ ∀ c ∈ m'.take e, ¬ (97 ≤ c.toNat ∧ c.toNat ≤ 122)) ∧
    (∃ m' e, u8toa n8 m base = some (m', e) ∧ ∀ c ∈ m'.take e, ¬ (97 ≤ c.toNat ∧ c.toNat ≤ 122)) :=
  ⟨i64toa_letters_lower _ base hb m hm, i64toa_letters_lower _ base hb m hm, i64toa_letters_lower _ base hb m hm,
   u64toa_letters_upper _ base hb m hm, u64toa_letters_upper _ base hb m hm, u64toa_letters_upper _ base hb m hm⟩

example : (i32toa 0xFFFFFF01#32 (List.replicate 66 0#8) 16#8).map (fun r => r.1.take r.2) = some [0x2D#8, 0x66#8, 0x66#8] ∧
    (u32toa 0xFF#32 (List.replicate 66 0#8) 16#8).map (fun r => r.1.take r.2) = some [0x46#8, 0x46#8] := by decide

end Igris.C07
