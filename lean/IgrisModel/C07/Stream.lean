/-
  C07 — the printers that walk memory and push onto the output stream: `debug_writehex*` /
  `debug_writebin*`, `debug_printhex_n` (also at the width of its `int n`), `debug_print_dump`.
-/
import IgrisModel.C07.Lemmas
namespace Igris.C07
open Igris.Proto

theorem emit_emit (out a b : List Byte) : emit (emit out a) b = emit out (a ++ b) := by
  simp [emit]

theorem emit_nil_reverse (s : List Byte) : (emit [] s).reverse = s := by simp [emit]

theorem writeFwdLoop_spec (f : Byte → List Byte) (mem : List Byte) : ∀ (n p : Nat) (out : List Byte),
    writeFwdLoop f mem.toArray n p out
      = if n = 0 ∨ p + n ≤ mem.length then some (emit out (((mem.drop p).take n).flatMap f)) else none := by
  intro n
  induction n with
  | zero => intro p out; simp [writeFwdLoop, emit]
  | succ n ih =>
    intro p out
    rw [writeFwdLoop, List.getElem?_toArray]
    by_cases hp : p < mem.length
    · rw [List.getElem?_eq_getElem hp]
      simp only []
      rw [ih, emit_emit, List.drop_eq_getElem_cons hp, List.take_succ_cons, List.flatMap_cons]
      by_cases h : p + (n + 1) ≤ mem.length
      · rw [if_pos (by omega), if_pos (Or.inr h)]
      · rw [if_neg (by omega), if_neg (by omega)]
    · rw [List.getElem?_eq_none (by omega), if_neg (by omega)]

/-- the downward loop, started where every caller starts it: at `mem + p + n` -/
theorem writeRevLoop_spec (f : Byte → List Byte) (mem : List Byte) (p : Nat) : ∀ (n : Nat) (out : List Byte),
    writeRevLoop f mem.toArray n (p + n) out
      = if n = 0 ∨ p + n ≤ mem.length then some (emit out (((mem.drop p).take n).reverse.flatMap f)) else none := by
  intro n
  induction n with
  | zero => intro out; simp [writeRevLoop, emit]
  | succ n ih =>
    intro out
    rw [writeRevLoop, if_neg (by omega), show p + (n + 1) - 1 = p + n by omega, List.getElem?_toArray]
    by_cases hp : p + n < mem.length
    · rw [List.getElem?_eq_getElem hp, if_pos (Or.inr (by omega))]
      simp only []
      rw [ih, if_pos (Or.inr (by omega)), emit_emit, List.take_add_one, List.getElem?_drop,
        List.getElem?_eq_getElem hp]
      simp
    · rw [List.getElem?_eq_none (by omega), if_neg (by omega)]

theorem hexNLoop_eq (mem : Array Byte) : ∀ (n p : Nat) (out : List Byte),
    hexNLoop mem n p out = writeRevLoop printhexU8 mem n p out := by
  intro n
  induction n with
  | zero => intro p out; rfl
  | succ n ih =>
    intro p out
    simp only [hexNLoop, writeRevLoop]
    split
    · rfl
    · split
      · rfl
      · exact ih _ _

/-- `g` is what `f` emits, as the specification writes it -/
theorem writeFwd_run {f g : Byte → List Byte} (hfg : ∀ b, f b = g b) (mem : List Byte) (p n : Nat) :
    (writeFwdLoop f mem.toArray n p []).map List.reverse
      = if n = 0 ∨ p + n ≤ mem.length then some (((mem.drop p).take n).flatMap g) else none := by
  rw [writeFwdLoop_spec, ← funext hfg]
  split <;> simp [emit_nil_reverse]

theorem writeRev_run {f g : Byte → List Byte} (hfg : ∀ b, f b = g b) (mem : List Byte) (p n : Nat) :
    (writeRevLoop f mem.toArray n (p + n) []).map List.reverse
      = if n = 0 ∨ p + n ≤ mem.length then some (((mem.drop p).take n).reverse.flatMap g) else none := by
  rw [writeRevLoop_spec, ← funext hfg]
  split <;> simp [emit_nil_reverse]

theorem printhexN_bytesLE {w : Nat} (k : Nat) (a : BitVec w) :
    printhexN (bytesLE a k) 0 k = some ((fixedDigits 16 (2 * k) a.toNat).map (digitChar true)) := by
  rw [printhexN, hexNLoop_eq, writeRev_run (fun _ => rfl), if_pos (by rw [bytesLE_length]; omega), List.drop_zero,
    List.take_of_length_le (by rw [bytesLE_length]; omega)]
  exact congrArg some (printhexBytes_spec k a)

/-- from a negative `n` no test reads 0: every path ends in a load in front of the object or in `n--` on INT_MIN -/
theorem hexNLoopI_eq (mem : Array Byte) : ∀ (fuel : Nat) (n : Int) (p : Nat) (out : List Byte), n < fuel →
    hexNLoopI mem fuel n p out = if n < 0 then none else hexNLoop mem n.toNat p out := by
  intro fuel
  induction fuel with
  | zero => intro n p out h; rw [if_pos (by omega)]; rfl
  | succ fuel ih =>
    intro n p out hn
    rw [hexNLoopI]
    by_cases hneg : n < 0
    · rw [if_pos hneg]
      split
      · rfl
      · rw [if_neg (by omega)]
        split
        · rfl
        · split
          · rfl
          · rw [ih _ _ _ (by omega), if_pos (by omega)]
    · rw [if_neg hneg, if_neg (by omega)]
      obtain ⟨k, rfl⟩ := Int.eq_ofNat_of_zero_le (Int.not_lt.1 hneg)
      cases k with
      | zero => rfl
      | succ k =>
        rw [if_neg (by omega), Int.toNat_natCast, hexNLoop]
        split
        · rfl
        · split
          · rfl
          · rw [ih _ _ _ (by omega), if_neg (by omega)]; congr 1; omega

theorem printhexNI_eq (mem : List Byte) (arg : Nat) (n : BitVec 32) :
    printhexNI mem arg n = if n.toInt < 0 then none else printhexN mem arg n.toNat := by
  have hlt : n.toInt < (4294967297 : Nat) := by have := @BitVec.toInt_lt 32 n; simp at this; omega
  rw [printhexNI, hexNLoopI_eq _ _ _ _ _ hlt, printhexN]
  by_cases hn : n.toInt < 0
  · rw [if_pos hn, if_pos hn]; split <;> rfl
  · have e : n.toInt = (n.toNat : Int) := by
      rw [BitVec.toInt_eq_toNat_cond] at hn ⊢
      split at hn
      · rw [if_pos ‹_›]
      · omega
    rw [if_neg hn, if_neg hn, if_neg (by omega), e, Int.toNat_natCast]
    congr 3

theorem printhexPtr_spec (a : BitVec 64) :
    printhexPtr a = some ((fixedDigits 16 16 a.toNat).map (digitChar true)) := by
  rw [printhexPtr, writehexReversed, ← hexNLoop_eq]; exact printhexN_bytesLE 8 a

/-! ### debug_print_dump -/

/-- `igris_isprint` on a `char` (sign-extended): the three ranges lie below 0x80, a negative value is in none -/
theorem isprintI_byte (b : Byte) : isprintI b.toInt = decide (32 ≤ b.toNat ∧ b.toNat ≤ 126) := by
  rw [Bool.eq_iff_iff]
  simp only [isprintI, isalphaI, isdigitI, Bool.and_eq_true, Bool.or_eq_true, decide_eq_true_eq,
    BitVec.toInt_eq_toNat_cond]
  split <;> omega

/-- the character of position `j` in the ASCII column, as `dumpCellSpec` writes it -/
def asciiOf (bytes : List Byte) (j : Nat) : Byte :=
  match bytes[j]? with
  | some b => if 32 ≤ b.toNat ∧ b.toNat ≤ 126 then b else 0x2E#8
  | none => 0x20#8

theorem dumpAscii_spec (mem : List Byte) (len : Nat) : ∀ (cnt j : Nat) (out : List Byte),
    (len ≤ mem.length ∨ j + cnt ≤ mem.length) →
    dumpAscii mem.toArray len cnt j out = some (emit out ((List.range' j cnt).map (asciiOf (mem.take len)))) := by
  intro cnt
  induction cnt with
  | zero => intro j out _; simp [dumpAscii, emit]
  | succ cnt ih =>
    intro j out h
    simp only [dumpAscii, List.getElem?_toArray, List.range'_succ, List.map_cons]
    by_cases hj : j ≥ len
    · rw [if_pos hj, ih (j + 1) _ (by omega), emit_emit]
      have : asciiOf (mem.take len) j = 0x20#8 := by
        simp only [asciiOf, List.getElem?_take]
        rw [if_neg (by omega)]
      rw [this]; rfl
    · rw [if_neg hj]
      have hm : j < mem.length := by omega
      rw [List.getElem?_eq_getElem hm]
      simp only []
      rw [ih (j + 1) _ (by omega), emit_emit]
      have : asciiOf (mem.take len) j = if isprintI mem[j].toInt then mem[j] else 0x2E#8 := by
        simp only [asciiOf, List.getElem?_take]
        rw [if_pos (by omega), List.getElem?_eq_getElem hm, isprintI_byte]
        simp
      rw [this]; rfl

theorem dumpLoop_step (addr : BitVec 64) (mem : List Byte) (len : Nat) (left i : Nat) (out : List Byte)
    (h : len ≤ mem.length ∨ i < mem.length) :
    dumpLoop addr mem.toArray len (left + 1) i out
      = dumpLoop addr mem.toArray len left (i + 1) (emit out (dumpCellSpec addr.toNat (mem.take len) i)) := by
  have hptr : (addr + BitVec.ofNat 64 i).toNat = (addr.toNat + i) % 2 ^ 64 := by
    simp [BitVec.toNat_add]
  have p1 : ∀ o : List Byte,
      (if i % 8 = 0 then
          (printhexPtr (addr + BitVec.ofNat 64 i)).map fun s => emit (emit (emit o [0x30#8, 0x78#8]) s) [0x3A#8]
        else some o)
      = some (emit o (if i % 8 = 0 then [0x30#8, 0x78#8] ++ (fixedDigits 16 16 ((addr.toNat + i) % 2 ^ 64)).map (digitChar true) ++ [0x3A#8] else [])) := by
    intro o
    by_cases h0 : i % 8 = 0
    · rw [if_pos h0, if_pos h0, printhexPtr_spec, hptr]
      simp [emit_emit]
    · rw [if_neg h0, if_neg h0]; simp [emit]
  have p2 : ∀ o : List Byte,
      (if i < len then (mem[i]?).map fun b => emit (emit o (printhexU8 b)) [0x20#8]
        else some (emit o [0x20#8, 0x20#8, 0x20#8]))
      = some (emit o (match (mem.take len)[i]? with
          | some b => (fixedDigits 16 2 b.toNat).map (digitChar true) ++ [0x20#8]
          | none => [0x20#8, 0x20#8, 0x20#8])) := by
    intro o
    by_cases hi : i < len
    · have hm : i < mem.length := by omega
      rw [if_pos hi, List.getElem?_take, if_pos hi, List.getElem?_eq_getElem hm]
      simp only [Option.map_some, emit_emit, printhexU8_spec]
    · rw [if_neg hi, List.getElem?_take, if_neg hi]
  have p3 : ∀ o : List Byte,
      (if i % 8 = 7 then (dumpAscii mem.toArray len 8 (i - 7) o).map fun o => emit o [0x0D#8, 0x0A#8]
        else some o)
      = some (emit o (if i % 8 = 7 then (List.range' (i - 7) 8).map (asciiOf (mem.take len)) ++ [0x0D#8, 0x0A#8] else [])) := by
    intro o
    by_cases h7 : i % 8 = 7
    · rw [if_pos h7, if_pos h7, dumpAscii_spec mem len 8 (i - 7) o (by omega)]
      simp [emit_emit]
    · rw [if_neg h7, if_neg h7]; simp [emit]
  simp only [dumpLoop, List.getElem?_toArray]
  rw [p1]; simp only [Option.bind_some]
  rw [p2]; simp only [Option.bind_some]
  rw [p3]; simp only [Option.bind_some]
  simp only [emit_emit, List.append_assoc, dumpCellSpec]
  rfl  -- `asciiOf bytes` unfolds to the function `dumpCellSpec` maps over the row

/-- the loop reads `mem[j]` at every position `j < len` it visits: it faults iff it reaches the end of the object
    before `len` -/
theorem dumpLoop_eq (addr : BitVec 64) (mem : List Byte) (len : Nat) :
    ∀ (left i : Nat) (out : List Byte), len ≤ mem.length ∨ i ≤ mem.length →
    dumpLoop addr mem.toArray len left i out
      = if len ≤ mem.length ∨ i + left ≤ mem.length
        then some (emit out ((List.range' i left).flatMap (dumpCellSpec addr.toNat (mem.take len)))) else none := by
  intro left
  induction left with
  | zero => intro i out h; rw [if_pos (by omega)]; simp [dumpLoop, emit]
  | succ left ih =>
    intro i out h
    by_cases hi : len ≤ mem.length ∨ i < mem.length
    · rw [dumpLoop_step addr mem len left i out hi, ih (i + 1) _ (by omega), emit_emit, List.range'_succ,
        List.flatMap_cons]
      by_cases hc : len ≤ mem.length ∨ i + (left + 1) ≤ mem.length
      · rw [if_pos hc, if_pos (by omega)]
      · rw [if_neg hc, if_neg (by omega)]
    · -- `i = mem.length < len`: the cell is read outside the object
      rw [if_neg (by omega)]
      simp only [dumpLoop, List.getElem?_toArray, if_pos (show i < len by omega),
        List.getElem?_eq_none (show mem.length ≤ i by omega), printhexPtr_spec]
      split <;> rfl

/-- `len + pad` of `debug_print_dump`: the length rounded up to whole rows of eight -/
theorem dump_padded_length (n : Nat) : n + (if n % 8 ≠ 0 then 8 - n % 8 else 0) = 8 * ((n + 7) / 8) := by
  split <;> omega

end Igris.C07
