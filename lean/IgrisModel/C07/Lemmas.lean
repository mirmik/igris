/-
  C07 — the reference notation, the character arithmetic of the routines, and the renderers
  (`igris_*toa`, the libc shims, `debug_printdec_*`, the fixed-width hex / binary printers).
  Core Lean only.
-/
import IgrisModel.C07.Model
import IgrisModel.C07.Spec
import IgrisModel.Common.ListScan
namespace Igris.C07
open Igris.Proto

/-! ### the specification is positional notation -/

theorem lsd_small {b n : Nat} (h : n < b) : lsd b n = [n] := by
  rw [lsd]; simp [h]

theorem lsd_big {b n : Nat} (hb : 2 ≤ b) (h : b ≤ n) : lsd b n = n % b :: lsd b (n / b) := by
  rw [lsd]; simp; omega

theorem lsd_ne_nil (b n : Nat) : lsd b n ≠ [] := by
  rw [lsd]; split <;> simp

theorem lsd_length_pos (b n : Nat) : 0 < (lsd b n).length :=
  List.length_pos_iff.2 (lsd_ne_nil b n)

theorem lsd_induction {b : Nat} (hb : 2 ≤ b) {P : Nat → Prop} (small : ∀ n, n < b → P n)
    (big : ∀ n, b ≤ n → P (n / b) → P n) (n : Nat) : P n := by
  induction n using Nat.strongRecOn with
  | _ n ih =>
    by_cases h : n < b
    · exact small n h
    · exact big n (by omega) (ih (n / b) (Nat.div_lt_self (by omega) (by omega)))

theorem lsd_lt {b : Nat} (hb : 2 ≤ b) (n : Nat) : ∀ d ∈ lsd b n, d < b := by
  induction n using lsd_induction hb with
  | small n h => rw [lsd_small h]; simp [h]
  | big n h ih =>
    rw [lsd_big hb h]
    intro d hd
    rcases List.mem_cons.mp hd with rfl | hd
    · exact Nat.mod_lt _ (by omega)
    · exact ih d hd

/-- value of a digit list, least significant digit first -/
def ofLsd (b : Nat) : List Nat → Nat
  | [] => 0
  | d :: ds => d + b * ofLsd b ds

theorem ofLsd_lsd {b : Nat} (hb : 2 ≤ b) (n : Nat) : ofLsd b (lsd b n) = n := by
  induction n using lsd_induction hb with
  | small n h => rw [lsd_small h]; simp [ofLsd]
  | big n h ih =>
    rw [lsd_big hb h]
    simp only [ofLsd]
    rw [ih]
    exact Nat.mod_add_div n b

theorem foldl_horner (b : Nat) (ds : List Nat) (acc : Nat) :
    ds.foldl (fun a d => a * b + d) acc = acc * b ^ ds.length + ds.foldl (fun a d => a * b + d) 0 := by
  induction ds generalizing acc with
  | nil => simp
  | cons d ds ih =>
    simp only [List.foldl_cons, List.length_cons]
    rw [ih (acc * b + d), ih (0 * b + d)]
    simp [Nat.pow_succ, Nat.add_mul, Nat.mul_assoc, Nat.add_assoc, Nat.mul_comm b]

theorem ofDigits_reverse (b : Nat) (ds : List Nat) : ofDigits b ds.reverse = ofLsd b ds := by
  induction ds with
  | nil => rfl
  | cons d ds ih =>
    simp only [ofDigits, List.reverse_cons, List.foldl_append, List.foldl_cons, List.foldl_nil, ofLsd] at *
    rw [ih, Nat.mul_comm]; omega

theorem ofDigits_digits {b : Nat} (hb : 2 ≤ b) (n : Nat) : ofDigits b (digits b n) = n := by
  rw [digits, ofDigits_reverse, ofLsd_lsd hb]

theorem digits_lt {b : Nat} (hb : 2 ≤ b) (n : Nat) : ∀ d ∈ digits b n, d < b := by
  intro d hd; exact lsd_lt hb n d (by simpa [digits] using hd)

theorem digits_ne_nil (b n : Nat) : digits b n ≠ [] := by
  simpa [digits] using lsd_ne_nil b n

theorem digits_big {b n : Nat} (hb : 2 ≤ b) (h : b ≤ n) : digits b n = digits b (n / b) ++ [n % b] := by
  simp [digits, lsd_big hb h]

theorem lsd_getLast_ne_zero {b : Nat} (hb : 2 ≤ b) (n : Nat) : n ≠ 0 → (lsd b n).getLast? ≠ some 0 := by
  induction n using lsd_induction hb with
  | small n h => intro hn; simp [lsd_small h, hn]
  | big n hbig ih =>
    intro _
    have hq : n / b ≠ 0 := by have : 0 < n / b := Nat.div_pos hbig (by omega); omega
    have := ih hq
    rw [lsd_big hb hbig]
    cases e : lsd b (n / b) with
    | nil => exact absurd e (lsd_ne_nil b _)
    | cons x xs => rwa [List.getLast?_cons_cons, ← e]

theorem lsd_ofLsd {b : Nat} (hb : 2 ≤ b) : ∀ (ls : List Nat), ls ≠ [] → (∀ d ∈ ls, d < b) →
    (ls = [0] ∨ ls.getLast? ≠ some 0) → lsd b (ofLsd b ls) = ls := by
  intro ls
  induction ls with
  | nil => intro h; exact absurd rfl h
  | cons d tl ih =>
    intro _ hlt hlast
    have hd : d < b := hlt d (by simp)
    cases tl with
    | nil => simp only [ofLsd, Nat.mul_zero, Nat.add_zero]; exact lsd_small hd
    | cons d2 tl2 =>
      have hl : (d2 :: tl2).getLast? ≠ some 0 := by
        rcases hlast with h | h
        · simp at h
        · rwa [List.getLast?_cons_cons] at h
      have hrec := ih (by simp) (fun x hx => hlt x (by simp [hx])) (Or.inr hl)
      -- else `hrec` makes `d2 :: tl2 = [0]`, whose last digit is 0
      have hq : ofLsd b (d2 :: tl2) ≠ 0 := by
        intro h0
        rw [h0, lsd_small (by omega)] at hrec
        exact hl (by simp [← hrec])
      have hval : ofLsd b (d :: d2 :: tl2) = d + b * ofLsd b (d2 :: tl2) := rfl
      rw [hval]
      have hpos : b ≤ b * ofLsd b (d2 :: tl2) := Nat.le_mul_of_pos_right b (by omega)
      rw [lsd_big hb (by omega)]
      have h1 : (d + b * ofLsd b (d2 :: tl2)) % b = d := by
        rw [Nat.add_mul_mod_self_left]; exact Nat.mod_eq_of_lt hd
      have h2 : (d + b * ofLsd b (d2 :: tl2)) / b = ofLsd b (d2 :: tl2) := by
        rw [Nat.add_mul_div_left _ _ (by omega), Nat.div_eq_of_lt hd, Nat.zero_add]
      rw [h1, h2, hrec]

/-! the length of a digit string, exactly -/

theorem lsd_length_le_iff {b : Nat} (hb : 2 ≤ b) : ∀ (k n : Nat), ((lsd b n).length ≤ k + 1 ↔ n < b ^ (k + 1)) := by
  intro k
  induction k with
  | zero =>
    intro n
    by_cases h : n < b
    · rw [lsd_small h]; simp [h]
    · rw [lsd_big hb (by omega)]
      have := lsd_length_pos b (n / b)
      simp only [List.length_cons, Nat.zero_add, Nat.pow_one]
      omega
  | succ k ih =>
    intro n
    by_cases h : n < b
    · rw [lsd_small h]
      have : b ^ 1 ≤ b ^ (k + 1 + 1) := Nat.pow_le_pow_right (by omega) (by omega)
      simp only [List.length_cons, List.length_nil]
      rw [Nat.pow_one] at this
      omega
    · rw [lsd_big hb (by omega)]
      have := ih (n / b)
      simp only [List.length_cons]
      rw [Nat.pow_succ b (k + 1), ← Nat.div_lt_iff_lt_mul (by omega)]
      omega

theorem lsd_length_le_pow {b : Nat} (hb : 2 ≤ b) : ∀ (k n : Nat), n < b ^ k → (lsd b n).length ≤ max k 1
  | 0, n, hn => by
    have : n = 0 := by simpa using hn
    subst this; rw [lsd_small (by omega)]; simp
  | k + 1, n, hn => by have := (lsd_length_le_iff hb k n).2 hn; omega

theorem digits_length_le {b : Nat} (hb : 2 ≤ b) (k n : Nat) (hn : n < 2 ^ k) : (digits b n).length ≤ max k 1 := by
  rw [digits, List.length_reverse]
  exact lsd_length_le_pow hb k n (Nat.lt_of_lt_of_le hn (Nat.pow_le_pow_left hb k))

theorem digits_length_le_iff' {b : Nat} (hb : 2 ≤ b) (k n : Nat) : (digits b n).length ≤ k + 1 ↔ n < b ^ (k + 1) := by
  simpa [digits] using lsd_length_le_iff hb k n

theorem digits_length_pos (b n : Nat) : 0 < (digits b n).length := by
  simpa [digits] using lsd_length_pos b n

theorem digits_length_mono {b : Nat} (hb : 2 ≤ b) {n m : Nat} (h : n ≤ m) : (digits b n).length ≤ (digits b m).length := by
  have hp := digits_length_pos b m
  obtain ⟨k, hk⟩ : ∃ k, (digits b m).length = k + 1 := ⟨(digits b m).length - 1, by omega⟩
  rw [hk, digits_length_le_iff' hb]
  have := (digits_length_le_iff' hb k m).1 (by omega)
  omega

theorem digits_length_eq_iff' {b : Nat} (hb : 2 ≤ b) (k n : Nat) :
    (digits b n).length = k + 1 ↔ (k = 0 ∨ b ^ k ≤ n) ∧ n < b ^ (k + 1) := by
  have hp := digits_length_pos b n
  -- exactly `k + 1` digits: at most `k + 1`, and (for `k > 0`) not at most `k`
  rw [← digits_length_le_iff' hb k n]
  cases k with
  | zero => omega
  | succ j => rw [← Nat.not_lt (a := n) (b := b ^ (j + 1)), ← digits_length_le_iff' hb j n]; omega

theorem canonNat_length (up : Bool) (b n : Nat) : (canonNat up b n).length = (digits b n).length := by
  simp [canonNat]

theorem canonNat_ne_nil (up : Bool) (b n : Nat) : canonNat up b n ≠ [] := by
  intro h
  exact digits_ne_nil b n (List.map_eq_nil_iff.1 h)

theorem canonInt_length (up : Bool) (b : Nat) (v : Int) :
    (canonInt up b v).length = (if v < 0 then 1 else 0) + (digits b v.natAbs).length := by
  by_cases h : v < 0 <;> simp [canonInt, canonNat, h]; omega

theorem canonInt_natCast (up : Bool) (b n : Nat) : canonInt up b (n : Int) = canonNat up b n := by
  have h0 : ¬ ((n : Int) < 0) := by omega
  simp [canonInt, h0]

theorem canonInt_length_le (up : Bool) (b : Nat) (v : Int) : (canonInt up b v).length ≤ (digits b v.natAbs).length + 1 := by
  rw [canonInt_length]; split <;> omega

theorem canonInt_neg_two_pow_length (up : Bool) (b w : Nat) :
    (canonInt up b (-(2 ^ w : Int))).length = (digits b (2 ^ w)).length + 1 := by
  have hneg : (-(2 ^ w : Int)) < 0 := Int.neg_neg_of_pos (Int.pow_pos (by omega))
  have habs : (-(2 ^ w : Int)).natAbs = 2 ^ w := by rw [Int.natAbs_neg]; exact Int.natAbs_pow 2 w
  rw [canonInt_length, habs, if_pos hneg, Nat.add_comm]

theorem fixedDigits_length (b : Nat) : ∀ w n, (fixedDigits b w n).length = w := by
  intro w; induction w with
  | zero => intro n; rfl
  | succ w ih => intro n; simp [fixedDigits, ih]

theorem fixedDigits_append (b : Nat) (w1 : Nat) : ∀ (w2 n : Nat),
    fixedDigits b (w1 + w2) n = fixedDigits b w1 (n / b ^ w2) ++ fixedDigits b w2 (n % b ^ w2) := by
  intro w2
  induction w2 with
  | zero => intro n; simp [fixedDigits]
  | succ w2 ih =>
    intro n
    have e1 : n / b / b ^ w2 = n / b ^ (w2 + 1) := by
      rw [Nat.div_div_eq_div_mul, Nat.pow_succ, Nat.mul_comm]
    have e2 : n % b ^ (w2 + 1) / b = n / b % b ^ w2 := by
      rw [Nat.pow_succ, Nat.mul_comm, Nat.mod_mul_right_div_self]
    have e3 : n % b ^ (w2 + 1) % b = n % b := by
      rw [Nat.pow_succ, Nat.mul_comm, Nat.mod_mul_right_mod]
    show fixedDigits b (w1 + w2 + 1) n = _
    simp only [fixedDigits]
    rw [ih (n / b), e1, e2, e3, List.append_assoc]

theorem fixedDigits_mod (b w n : Nat) : fixedDigits b w (n % b ^ w) = fixedDigits b w n := by
  have := fixedDigits_append b 0 w n
  simpa [fixedDigits] using this.symm

theorem fixedDigits_zero (b : Nat) : ∀ w, fixedDigits b w 0 = List.replicate w 0 := by
  intro w; induction w with
  | zero => rfl
  | succ w ih => simp [fixedDigits, ih, List.replicate_succ']

theorem fixedDigits_eq_pad {b : Nat} (hb : 2 ≤ b) : ∀ (w n : Nat), n < b ^ (w + 1) →
    fixedDigits b (w + 1) n = List.replicate (w + 1 - (digits b n).length) 0 ++ digits b n := by
  intro w
  induction w with
  | zero =>
    intro n hn
    have hn' : n < b := by simpa using hn
    simp [fixedDigits, digits, lsd_small hn', Nat.mod_eq_of_lt hn']
  | succ w ih =>
    intro n hn
    by_cases h : n < b
    · simp [fixedDigits, digits, lsd_small h, Nat.mod_eq_of_lt h, Nat.div_eq_of_lt h, fixedDigits_zero,
        List.replicate_succ']
    · have hq : n / b < b ^ (w + 1) := by
        apply Nat.div_lt_of_lt_mul; rw [Nat.pow_succ, Nat.mul_comm] at hn; exact hn
      have e : fixedDigits b (w + 1 + 1) n = fixedDigits b (w + 1) (n / b) ++ [n % b] := rfl
      have hbn : b ≤ n := by omega
      rw [e, ih (n / b) hq, digits_big (n := n) hb hbn]
      simp only [List.length_append, List.length_cons, List.length_nil, List.append_assoc]
      congr 2; omega

theorem fixedDigits16_2_map (g : Nat → Byte) (b : Byte) :
    (fixedDigits 16 2 b.toNat).map g = [g (b.toNat / 16), g (b.toNat % 16)] := by
  simp only [fixedDigits, List.nil_append, List.cons_append, List.map_cons, List.map_nil]
  rw [Nat.mod_eq_of_lt (by omega : b.toNat / 16 < 16)]

theorem fixedDigits16_2 : ∀ b : Byte, (fixedDigits 16 2 b.toNat).map (digitChar true)
    = [digitChar true (b.toNat / 16), digitChar true (b.toNat % 16)] :=
  fixedDigits16_2_map _

/-! ### character arithmetic: the alphabets of the specification against `toaChar` and `digitValue` -/

theorem byteOfNat_eq (x : Nat) : byteOfNat x = BitVec.ofNat 8 x := by
  apply BitVec.eq_of_toNat_eq; simp [byteOfNat]

theorem toaChar_lower : ∀ d, d < 36 → toaChar 97 d = digitChar false d := by decide

theorem toaChar_upper : ∀ d, d < 36 → toaChar 65 d = digitChar true d := by decide

theorem toaChar_toNat (letterA r : Nat) :
    (toaChar letterA r).toNat = if r < 10 then (r + 48) % 256 else (r + letterA - 10) % 256 := by
  unfold toaChar; split <;> rfl

theorem map_toaChar {letterA : Nat} {up : Bool} (hA : ∀ d, d < 36 → toaChar letterA d = digitChar up d)
    {b : Nat} (hb : 2 ≤ b) (hb36 : b ≤ 36) (n : Nat) : (digits b n).map (toaChar letterA) = canonNat up b n :=
  List.map_congr_left fun d hd => hA d (by have := digits_lt hb n d hd; omega)

/-- `digit_value` read literally, with `char` signed: range tests on the
    sign-extended value, result narrowed to `uint8_t` -/
def digitValueSigned (c : Byte) : Byte :=
  if 48 ≤ c.toInt ∧ c.toInt ≤ 57 then c - 48#8
  else if 97 ≤ c.toInt ∧ c.toInt ≤ 122 then c - 97#8 + 10#8
  else if 65 ≤ c.toInt ∧ c.toInt ≤ 90 then c - 65#8 + 10#8
  else 0xFF#8

theorem digitValue_signed : ∀ c : Byte, (digitValueSigned c).toNat = digitValue c := by decide +kernel

theorem digitValue_digitChar : ∀ d, d < 36 → ∀ up, digitValue (digitChar up d) = d := by decide

theorem digitValue_classify : ∀ c : Byte, digitValue c = 255 ∨
    (digitValue c < 36 ∧ (c = digitChar true (digitValue c) ∨ c = digitChar false (digitValue c))) := by decide +kernel

theorem digitValue_nul : digitValue 0#8 = 255 := by decide

theorem digitChar_ne_of_not_digit {c : Byte} (hc : digitValue c = 255) (d : Nat) (hd : d < 36) (up : Bool) :
    digitChar up d ≠ c := by
  intro h
  have := digitValue_digitChar d hd up
  rw [h, hc] at this; omega

theorem digitChar_lower_not_upper : ∀ d, d < 36 → ¬ (65 ≤ (digitChar false d).toNat ∧ (digitChar false d).toNat ≤ 90) := by decide

theorem digitChar_upper_not_lower : ∀ d, d < 36 → ¬ (97 ≤ (digitChar true d).toNat ∧ (digitChar true d).toNat ≤ 122) := by decide

theorem digitChar_dec : ∀ d, d < 10 → digitChar true d = digitChar false d := by decide

theorem canonNat_dec (n : Nat) : canonNat true 10 n = canonNat false 10 n := by
  unfold canonNat
  exact List.map_congr_left fun d hd => digitChar_dec d (digits_lt (b := 10) (by omega) n d hd)

theorem canonNat_mem {b : Nat} (hb : 2 ≤ b) (up : Bool) (n : Nat) (c : Byte) (hc : c ∈ canonNat up b n) :
    ∃ d, d < b ∧ c = digitChar up d := by
  simp only [canonNat, List.mem_map] at hc
  obtain ⟨d, hd, rfl⟩ := hc
  exact ⟨d, digits_lt hb n d hd, rfl⟩

theorem canonInt_mem {b : Nat} (hb : 2 ≤ b) (up : Bool) (v : Int) (c : Byte) (hc : c ∈ canonInt up b v) :
    c = 0x2D#8 ∨ ∃ d, d < b ∧ c = digitChar up d := by
  simp only [canonInt, List.mem_append] at hc
  rcases hc with hc | hc
  · left; split at hc <;> simp_all
  · right; exact canonNat_mem hb up _ c hc

theorem canonInt_lower {b : Nat} (hb : 2 ≤ b) (hb36 : b ≤ 36) (v : Int) :
    ∀ x ∈ canonInt false b v, x ≠ 0#8 ∧ ¬ (65 ≤ x.toNat ∧ x.toNat ≤ 90) := by
  intro x hx
  rcases canonInt_mem hb false _ x hx with rfl | ⟨d, hd, rfl⟩
  · decide
  · exact ⟨digitChar_ne_of_not_digit digitValue_nul d (by omega) false, digitChar_lower_not_upper d (by omega)⟩

theorem canonNat_head (up : Bool) {b : Nat} (hb : 2 ≤ b) (hb36 : b ≤ 36) (n : Nat) :
    ∃ d tl, d < 36 ∧ canonNat up b n = digitChar up d :: tl := by
  cases h : digits b n with
  | nil => exact absurd h (digits_ne_nil b n)
  | cons d tl =>
    refine ⟨d, tl.map (digitChar up), ?_, by simp [canonNat, h]⟩
    have := digits_lt hb n d (by simp [h]); omega

theorem canonNat_digitValue {b : Nat} (hb : 2 ≤ b) (hb36 : b ≤ 36) (up : Bool) (n : Nat) :
    (canonNat up b n).map digitValue = digits b n := by
  unfold canonNat
  rw [List.map_map]
  have : ∀ d ∈ digits b n, (digitValue ∘ digitChar up) d = id d := by
    intro d hd
    have := digits_lt hb n d hd
    simp [digitValue_digitChar d (by omega) up]
  rw [List.map_congr_left this, List.map_id]

theorem canonNat_accepted {b : Nat} (hb : 2 ≤ b) (hb36 : b ≤ 36) (up : Bool) (n : Nat) :
    ∀ c ∈ canonNat up b n, digitValue c < b := by
  intro c hc
  obtain ⟨d, hd, rfl⟩ := canonNat_mem hb up n c hc
  rw [digitValue_digitChar d (by omega) up]; exact hd

/-! ### the divide loop writes the digits, least significant first -/

theorem wr_mid (a : List Byte) (x : Byte) (c : List Byte) (i : Nat) (v : Byte) (hi : i = a.length) :
    wr (a ++ x :: c) i v = some (a ++ v :: c) := by
  subst hi
  induction a with
  | nil => simp [wr]
  | cons h t ih => simp [wr, ih]

theorem get_mid (a : List Byte) (x : Byte) (c : List Byte) (i : Nat) (hi : i = a.length) :
    (a ++ x :: c)[i]? = some x := by
  subst hi; simp

theorem wr_end (a : List Byte) (i : Nat) (v : Byte) (hi : a.length ≤ i) : wr a i v = none := by
  induction a generalizing i with
  | nil => simp [wr]
  | cons h t ih =>
    cases i with
    | zero => simp at hi
    | succ i => simp [wr, ih i (by simpa using hi)]

theorem divLoop_eq (letterA b : Nat) (hb : 2 ≤ b) :
    ∀ (fuel ud : Nat) (a seg : List Byte), ud < 2 ^ fuel → 0 < fuel →
      divLoop letterA b fuel ud (a ++ seg) a.length
        = if (lsd b ud).length ≤ seg.length
          then some (a ++ (lsd b ud).map (toaChar letterA) ++ seg.drop (lsd b ud).length,
                     a.length + (lsd b ud).length)
          else none := by
  intro fuel
  induction fuel with
  | zero => intro _ _ _ _ h0; omega
  | succ f ih =>
    intro ud a seg hud _
    have hpos := lsd_length_pos b ud
    match seg with
    | [] => rw [if_neg (by rw [List.length_nil]; omega)]; simp [divLoop, wr_end]
    | s :: seg' =>
      rw [divLoop, wr_mid a s seg' a.length _ rfl, Option.bind_some]
      by_cases hsmall : ud < b
      · rw [if_neg (by rw [Nat.div_eq_of_lt hsmall]; simp), lsd_small hsmall, Nat.mod_eq_of_lt hsmall]
        simp
      · have hbig : b ≤ ud := by omega
        have hq : 0 < ud / b := Nat.div_pos hbig (by omega)
        have hlt : ud / b < 2 ^ f := by
          have h1 : ud / b ≤ ud / 2 := Nat.div_le_div_left hb (by omega)
          rw [Nat.pow_succ] at hud; omega
        have hf : 0 < f := by
          cases f with
          | zero => simp at hlt; omega
          | succ _ => omega
        have := ih (ud / b) (a ++ [toaChar letterA (ud % b)]) seg' hlt hf
        rw [List.append_assoc, List.singleton_append, List.length_append, List.length_singleton] at this
        rw [if_pos (by omega), this, lsd_big hb hbig]
        simp only [List.length_cons, Nat.add_le_add_iff_right, List.map_cons, List.drop_succ_cons,
          List.append_assoc, List.singleton_append]
        split
        · simp only [Option.some.injEq, Prod.mk.injEq, true_and]; omega
        · rfl

/-! ### the reverse loop reverses the segment `[p1, p2]` in place -/

theorem revLoop_done (fuel : Nat) (m : List Byte) (p1 p2 : Nat) (h : ¬ p1 < p2) : revLoop fuel m p1 p2 = some m := by
  cases fuel <;> rw [revLoop, if_neg h]

theorem revLoop_spec :
    ∀ (n : Nat) (seg a c : List Byte) (fuel : Nat), seg.length = n → n ≤ fuel →
      revLoop fuel (a ++ seg ++ c) a.length (a.length + seg.length - 1)
        = some (a ++ seg.reverse ++ c) := by
  intro n
  induction n using Nat.strongRecOn with
  | _ n ih =>
    intro seg a c fuel hn hfuel
    match seg, hn with
    | [], _ => rw [revLoop_done _ _ _ _ (by simp)]; simp
    | [x], _ => rw [revLoop_done _ _ _ _ (by simp)]; simp
    | x :: y0 :: rest, hn =>
      rcases List.eq_nil_or_concat (y0 :: rest) with h | ⟨mid, y, h⟩
      · simp at h
      · rw [h, List.concat_eq_append]
        have hmid : mid.length + 2 = n := by
          have := congrArg List.length h
          simp at this hn; omega
        cases fuel with
        | zero => omega
        | succ f =>
          have hlt : a.length < a.length + (x :: (mid ++ [y])).length - 1 := by simp <;> omega
          have hp2 : a.length + (x :: (mid ++ [y])).length - 1 = (a ++ x :: mid).length := by simp <;> omega
          have hm : a ++ x :: (mid ++ [y]) ++ c = (a ++ x :: mid) ++ y :: c := by simp
          have hx : a ++ x :: (mid ++ [y]) ++ c = a ++ x :: (mid ++ [y] ++ c) := by simp
          rw [revLoop, if_pos hlt]
          have g1 : (a ++ x :: (mid ++ [y]) ++ c)[a.length]? = some x := by
            rw [hx]; exact get_mid _ _ _ _ rfl
          have g2 : (a ++ x :: (mid ++ [y]) ++ c)[a.length + (x :: (mid ++ [y])).length - 1]? = some y := by
            rw [hm]; exact get_mid _ _ _ _ hp2
          rw [g1, g2]
          simp only []
          have w1 : wr (a ++ x :: (mid ++ [y]) ++ c) a.length y = some (a ++ y :: (mid ++ [y] ++ c)) := by
            rw [hx]; exact wr_mid _ _ _ _ _ rfl
          rw [w1]
          simp only [Option.bind_some]
          have w2 : wr (a ++ y :: (mid ++ [y] ++ c)) (a.length + (x :: (mid ++ [y])).length - 1) x
              = some ((a ++ y :: mid) ++ x :: c) := by
            have : a ++ y :: (mid ++ [y] ++ c) = (a ++ y :: mid) ++ y :: c := by simp
            rw [this]; exact wr_mid _ _ _ _ _ (by simp <;> omega)
          rw [w2]
          simp only [Option.bind_some]
          have := ih mid.length (by omega) mid (a ++ [y]) (x :: c) f rfl (by omega)
          have e1 : (a ++ [y]).length = a.length + 1 := by simp
          have e2 : a.length + 1 + mid.length - 1 = a.length + (x :: (mid ++ [y])).length - 1 - 1 := by
            simp <;> omega
          rw [e1] at this
          rw [e2] at this
          have e3 : a ++ [y] ++ mid ++ x :: c = (a ++ y :: mid) ++ x :: c := by simp
          rw [e3] at this
          rw [this]
          simp

/-! ### the common tail of all six `*toa` functions -/

/-- `none`: a store (of a digit, or of the NUL) falls outside the object -/
theorem toaTail_eq (letterA b ud : Nat) (hb : 2 ≤ b) (hud : ud < 2 ^ 64) (a seg : List Byte) :
    toaTail letterA b ud (a ++ seg) a.length
      = if (digits b ud).length + 1 ≤ seg.length
        then some (a ++ (digits b ud).map (toaChar letterA) ++ 0#8 :: seg.drop ((digits b ud).length + 1),
                   a.length + (digits b ud).length)
        else none := by
  have hL : (digits b ud).length = (lsd b ud).length := by simp [digits]
  have hlen : (a ++ (lsd b ud).map (toaChar letterA)).length = a.length + (lsd b ud).length := by simp
  rw [hL, toaTail, divLoop_eq letterA b hb 64 ud a seg hud (by omega)]
  by_cases h2 : (lsd b ud).length + 1 ≤ seg.length
  · rw [if_pos (by omega), if_pos h2, List.drop_eq_getElem_cons (by omega)]
    simp only [Option.bind_some]
    rw [wr_mid _ _ _ _ _ hlen.symm]
    simp only [Option.bind_some]
    have := revLoop_spec _ ((lsd b ud).map (toaChar letterA)) a (0#8 :: seg.drop ((lsd b ud).length + 1))
      (a.length + (lsd b ud).length) rfl (by simp)
    rw [List.length_map] at this
    rw [this]
    simp [digits, List.map_reverse]
  · rw [if_neg h2]
    by_cases h1 : (lsd b ud).length ≤ seg.length
    · rw [if_pos h1, List.drop_of_length_le (by omega), List.append_nil]
      simp only [Option.bind_some]
      rw [wr_end _ _ _ (by rw [hlen]; omega)]
      rfl
    · rw [if_neg h1]; rfl

/-! ### the six `*toa` routines are one body -/

/-- what `igris_i64toa`, `igris_u64toa` and the four libc shims share: `*buf = '\0'`, the base check, an
    optional `'-'`, then `toaTail` on the magnitude.  They differ in the letter, in where sign and magnitude
    come from, and (the shims) in the returned pointer. -/
def toaBody (letterA base : Nat) (neg : Bool) (ud : Nat) (m : List Byte) : Option (List Byte × Nat) :=
  (wr m 0 0#8).bind fun m =>
    if base < 2 ∨ base > 36 then some (m, 0)
    else if neg then (wr m 0 0x2D#8).bind fun m => toaTail letterA base ud m 1
    else toaTail letterA base ud m 0

theorem toaBody_badbase (letterA base : Nat) (neg : Bool) (ud : Nat) (h : base < 2 ∨ base > 36)
    (x : Byte) (rest : List Byte) : toaBody letterA base neg ud (x :: rest) = some (0#8 :: rest, 0) := by
  simp [toaBody, wr, h]

theorem toaBody_eq (letterA : Nat) {b : Nat} (hb : 2 ≤ b) (hb36 : b ≤ 36) (neg : Bool) (ud : Nat)
    (hud : ud < 2 ^ 64) (m : List Byte) :
    toaBody letterA b neg ud m
      = if (if neg then 1 else 0) + (digits b ud).length + 1 ≤ m.length
        then some ((if neg then [0x2D#8] else []) ++ (digits b ud).map (toaChar letterA)
                    ++ 0#8 :: m.drop ((if neg then 1 else 0) + (digits b ud).length + 1),
                   (if neg then 1 else 0) + (digits b ud).length)
        else none := by
  have hbase : ¬ (b < 2 ∨ b > 36) := by omega
  unfold toaBody
  match m with
  | [] => rw [if_neg (by simp)]; rfl
  | x :: tl =>
    simp only [wr, Option.bind_some, hbase, if_false]
    cases neg
    · have := toaTail_eq letterA b ud hb hud [] (0#8 :: tl)
      simp only [List.nil_append, List.length_nil, Nat.zero_add, List.length_cons, List.drop_succ_cons] at this
      simpa using this
    · have := toaTail_eq letterA b ud hb hud [0x2D#8] tl
      simp only [List.singleton_append, List.length_singleton] at this
      simp only [if_true, this, List.length_cons, List.cons_append]
      rw [show 1 + (digits b ud).length + 1 = ((digits b ud).length + 1) + 1 by omega, List.drop_succ_cons]
      simp only [Nat.add_le_add_iff_right, List.nil_append]

theorem toaBody_spec {letterA : Nat} {up : Bool} (hA : ∀ d, d < 36 → toaChar letterA d = digitChar up d)
    {b : Nat} (hb : 2 ≤ b) (hb36 : b ≤ 36) (v : Int) (hv : v.natAbs < 2 ^ 64)
    (m : List Byte) (hm : (canonInt up b v).length + 1 ≤ m.length) :
    toaBody letterA b (decide (v < 0)) v.natAbs m
      = some (canonInt up b v ++ 0#8 :: m.drop ((canonInt up b v).length + 1), (canonInt up b v).length) := by
  have hlen : (canonInt up b v).length = (if decide (v < 0) then 1 else 0) + (digits b v.natAbs).length := by
    rw [canonInt_length]; simp
  have htext : canonInt up b v = (if decide (v < 0) then [0x2D#8] else []) ++ canonNat up b v.natAbs := by simp [canonInt]
  rw [toaBody_eq letterA hb hb36 _ _ hv, ← hlen, if_pos hm, map_toaChar hA hb hb36, ← htext]

theorem toaBody_unsigned {letterA : Nat} {up : Bool} (hA : ∀ d, d < 36 → toaChar letterA d = digitChar up d)
    {b : Nat} (hb : 2 ≤ b) (hb36 : b ≤ 36) (n : Nat) (hn : n < 2 ^ 64)
    (m : List Byte) (hm : (canonNat up b n).length + 1 ≤ m.length) :
    toaBody letterA b false n m
      = some (canonNat up b n ++ 0#8 :: m.drop ((canonNat up b n).length + 1), (canonNat up b n).length) := by
  have h := toaBody_spec hA hb hb36 (n : Int) (by simpa using hn) m (by rwa [canonInt_natCast])
  rwa [canonInt_natCast, Int.natAbs_natCast, decide_eq_false (Int.not_lt.2 (Int.natCast_nonneg n))] at h

/-! sign and magnitude of a two's-complement value, any width -/

theorem slt_zero_eq_decide {w : Nat} (x : BitVec w) : x.slt 0#w = decide (x.toInt < 0) := by
  simp [BitVec.slt]

theorem natAbs_toInt {w : Nat} (x : BitVec w) :
    x.toInt.natAbs = if x.toInt < 0 then (0#w - x).toNat else x.toNat := by
  have hx := x.isLt
  rw [BitVec.toNat_sub, BitVec.toInt_eq_toNat_cond]
  simp only [BitVec.toNat_ofNat, Nat.zero_mod, Nat.add_zero]
  split
  · rw [if_neg (by omega)]; omega
  · rw [if_pos (by omega), Nat.mod_eq_of_lt (by omega)]; omega

theorem natAbs_toInt_lt {w : Nat} (x : BitVec w) : x.toInt.natAbs < 2 ^ w := by
  rw [natAbs_toInt]; split <;> exact BitVec.isLt _

theorem natAbs_toInt_lt64 {w : Nat} (hw : w ≤ 64) (x : BitVec w) : x.toInt.natAbs < 2 ^ 64 :=
  Nat.lt_of_lt_of_le (natAbs_toInt_lt x) (Nat.pow_le_pow_right (by omega) hw)

theorem natAbs_toInt_le {w : Nat} (x : BitVec (w + 1)) : x.toInt.natAbs ≤ 2 ^ w := by
  have hx := x.isLt
  rw [Nat.pow_succ] at hx
  rw [BitVec.toInt_eq_toNat_cond, Nat.pow_succ]; split <;> omega

theorem canon_bytes_by_width (up : Bool) {b : Nat} (hb : 2 ≤ b) (w : Nat) (x : BitVec (w + 1)) :
    (canonInt up b x.toInt).length + 1 ≤ (w + 1) + 2 ∧ (canonNat up b x.toNat).length + 1 ≤ (w + 1) + 1 := by
  have l1 := digits_length_le hb (w + 1) _
    (Nat.lt_of_le_of_lt (natAbs_toInt_le x) (Nat.pow_lt_pow_right (by omega) (by omega)))
  have l2 := digits_length_le hb (w + 1) x.toNat x.isLt
  have := canonInt_length_le up b x.toInt
  rw [canonNat_length]
  omega

/-! the routines as instances of the body -/

theorem i64toa_eq (num : BitVec 64) (m : List Byte) (base : BitVec 8) :
    i64toa num m base = toaBody 97 base.toNat (decide (num.toInt < 0)) num.toInt.natAbs m := by
  rw [i64toa, toaBody, slt_zero_eq_decide, natAbs_toInt]
  by_cases h : num.toInt < 0 <;> simp [h]

theorem u64toa_eq (num : BitVec 64) (m : List Byte) (base : BitVec 8) :
    u64toa num m base = toaBody 65 base.toNat false num.toNat m := rfl

theorem toNat_zeroExtend16 (base : BitVec 8) : (base.zeroExtend 16).toNat = base.toNat :=
  BitVec.toNat_setWidth_of_le (by omega)

/-- the libc shims return `buf`: the same body with the returned offset forgotten -/
theorem retBuf_toaBody (letterA base : Nat) (neg : Bool) (ud : Nat) (m : List Byte) :
    retBuf (toaBody letterA base neg ud m)
      = (wr m 0 0#8).bind fun m =>
          if base < 2 ∨ base > 36 then some (m, 0)
          else if neg then (wr m 0 0x2D#8).bind fun m => retBuf (toaTail letterA base ud m 1)
          else retBuf (toaTail letterA base ud m 0) := by
  unfold toaBody
  cases wr m 0 0#8 with
  | none => rfl
  | some m1 =>
    simp only [Option.bind_some]
    split
    · rfl
    · split
      · cases wr m1 0 0x2D#8 <;> rfl
      · rfl

theorem ltoa_eq (num : BitVec 64) (m : List Byte) (base : BitVec 16) :
    ltoa num m base = retBuf (toaBody 97 base.toNat (decide (num.toInt < 0)) num.toInt.natAbs m) := by
  rw [retBuf_toaBody, ltoa, slt_zero_eq_decide, natAbs_toInt]
  by_cases h : num.toInt < 0 <;> simp [h]

theorem itoa_eq (num : BitVec 32) (m : List Byte) (base : BitVec 16) :
    itoa num m base = retBuf (toaBody 97 base.toNat (decide (num.toInt < 0)) num.toInt.natAbs m) := by
  rw [retBuf_toaBody, itoa, slt_zero_eq_decide, natAbs_toInt]
  by_cases h : num.toInt < 0 <;> simp [h]

theorem ultoa_eq (num : BitVec 64) (m : List Byte) (base : BitVec 16) :
    ultoa num m base = retBuf (toaBody 97 base.toNat false num.toNat m) := by
  rw [retBuf_toaBody]; rfl

theorem utoa_eq (num : BitVec 32) (m : List Byte) (base : BitVec 16) :
    utoa num m base = retBuf (toaBody 97 base.toNat false num.toNat m) := by
  rw [retBuf_toaBody]; rfl

/-! ### debug_printdec_uint64 -/

/-- the digits the loop `for (; x != 0; x /= 10)` writes: those of `lsd`, except that 0 has none -/
def lsdz (b n : Nat) : List Nat := if n = 0 then [] else lsd b n

theorem lsd_step {b : Nat} (hb : 2 ≤ b) (n : Nat) : lsd b n = n % b :: lsdz b (n / b) := by
  by_cases h : n < b
  · rw [lsd_small h, Nat.mod_eq_of_lt h, Nat.div_eq_of_lt h]; simp [lsdz]
  · have hq : n / b ≠ 0 := by have : 0 < n / b := Nat.div_pos (by omega) (by omega); omega
    rw [lsd_big hb (by omega)]; simp [lsdz, hq]

/-- `(x % 10) + '0'` as `decLoop` stores it -/
def decChar (d : Nat) : Byte := byteOfNat (d + 48)

theorem decLoop_spec : ∀ (fuel x : Nat) (pre0 junk suf : List Byte),
    (lsdz 10 x).length < fuel → junk.length = (lsdz 10 x).length →
    decLoop fuel x (pre0 ++ junk ++ suf) (pre0.length + junk.length)
      = some (pre0 ++ (lsdz 10 x).reverse.map decChar ++ suf, pre0.length) := by
  intro fuel
  induction fuel with
  | zero => intro _ _ _ _ h; omega
  | succ f ih =>
    intro x pre0 junk suf hf hj
    by_cases hx : x = 0
    · subst hx
      simp only [lsdz, if_true, List.length_nil] at hj ⊢
      have : junk = [] := List.eq_nil_of_length_eq_zero hj
      subst this
      simp [decLoop]
    · have hl : lsdz 10 x = x % 10 :: lsdz 10 (x / 10) := by
        simp only [lsdz, hx, if_false]; rw [lsd_step (by omega)]; simp [lsdz]
      rw [hl] at hj hf ⊢
      rcases List.eq_nil_or_concat junk with h | ⟨junk0, j, h⟩
      · subst h; simp at hj
      · subst h
        rw [List.concat_eq_append] at hj ⊢
        have hj0 : junk0.length = (lsdz 10 (x / 10)).length := by simpa using hj
        have hp : pre0.length + (junk0 ++ [j]).length ≠ 0 := by simp
        have hp1 : pre0.length + (junk0 ++ [j]).length - 1 = (pre0 ++ junk0).length := by simp <;> omega
        rw [decLoop, if_pos hx, if_neg hp, hp1]
        have hm : pre0 ++ (junk0 ++ [j]) ++ suf = (pre0 ++ junk0) ++ j :: suf := by simp
        rw [hm, wr_mid _ _ _ _ _ rfl]
        simp only [Option.bind_some]
        have := ih (x / 10) pre0 junk0 (byteOfNat (x % 10 + 48) :: suf) (by simp at hf; omega) hj0
        rw [List.length_append, this]
        simp [decChar]

theorem takeWhile_nul (l r : List Byte) (h : ∀ x ∈ l, x ≠ 0#8) :
    (l ++ 0#8 :: r).takeWhile (· ≠ 0#8) = l :=
  takeWhile_append_stop r (by simpa using h) (by simp)

theorem decChar_eq : ∀ d, d < 10 → decChar d = digitChar false d ∧ decChar d ≠ 0#8 := by decide

theorem printdecU64_spec (x : BitVec 64) : printdecU64 x = some (canonNat false 10 x.toNat) := by
  have hlen : (lsdz 10 x.toNat).length ≤ 20 := by
    unfold lsdz; split
    · simp
    · have := lsd_length_le_pow (b := 10) (by omega) 20 x.toNat (by have := x.isLt; omega)
      omega
  have hc : wr (List.replicate 24 0xA5#8) 23 0#8 = some (List.replicate 23 0xA5#8 ++ [0#8]) := by decide
  have hsplit : List.replicate 23 (0xA5#8 : Byte)
      = List.replicate (23 - (lsdz 10 x.toNat).length) 0xA5#8 ++ List.replicate (lsdz 10 x.toNat).length 0xA5#8 := by
    rw [List.replicate_append_replicate]; congr 1; omega
  unfold printdecU64
  rw [hc]
  simp only [Option.bind_some]
  have := decLoop_spec 24 x.toNat (List.replicate (23 - (lsdz 10 x.toNat).length) 0xA5#8)
    (List.replicate (lsdz 10 x.toNat).length 0xA5#8) [0#8] (by omega) (by simp)
  have e : (List.replicate (23 - (lsdz 10 x.toNat).length) (0xA5#8 : Byte)).length
      + (List.replicate (lsdz 10 x.toNat).length (0xA5#8 : Byte)).length = 23 := by simp; omega
  rw [e, ← hsplit] at this
  rw [this]
  simp only [Option.bind_some, cstrAt]
  rw [List.append_assoc, List.drop_left]
  have hd10 : ∀ d ∈ lsdz 10 x.toNat, d < 10 := by
    intro d hd; unfold lsdz at hd; split at hd
    · simp at hd
    · exact lsd_lt (by omega) _ d hd
  rw [takeWhile_nul _ _ (by
    intro c hc
    simp only [List.mem_map, List.mem_reverse] at hc
    obtain ⟨d, hd, rfl⟩ := hc
    exact (decChar_eq d (hd10 d hd)).2)]
  by_cases hx : x = 0#64
  · subst hx; simp [lsdz, canonNat, digits, lsd_small]; decide
  · have hxn : x.toNat ≠ 0 := fun h => hx (BitVec.eq_of_toNat_eq (by simpa using h))
    simp only [hx, if_false, List.nil_append, canonNat, digits]
    have : lsdz 10 x.toNat = lsd 10 x.toNat := by simp [lsdz, hxn]
    rw [← this]
    exact congrArg some (List.map_congr_left fun d hd => (decChar_eq d (hd10 d (by simpa using hd))).1)

/-! ### fixed-width hexadecimal / binary printers -/

/-- `debug_printhex_uint4` does the digit arithmetic of `igris_u64toa` on its whole `uint8_t` argument -/
theorem printhexU4_eq (b : Byte) : printhexU4 b = [toaChar 65 b.toNat] := by
  simp only [printhexU4, List.cons.injEq, and_true]
  apply BitVec.eq_of_toNat_eq
  rw [toaChar_toNat]
  split <;> simp [BitVec.toNat_add, BitVec.toNat_sub] <;> omega

theorem nibbles_toNat (b : Byte) :
    ((b &&& 0xF0#8) >>> 4).toNat = b.toNat / 16 ∧ (b &&& 0x0F#8).toNat = b.toNat % 16 := by
  have := b.isLt
  constructor
  · rw [BitVec.toNat_ushiftRight, BitVec.toNat_and, Nat.shiftRight_and_distrib]
    have : (0xF0#8 : BitVec 8).toNat >>> 4 = 2 ^ 4 - 1 := rfl
    rw [this, Nat.and_two_pow_sub_one_eq_mod, Nat.shiftRight_eq_div_pow]; omega
  · rw [BitVec.toNat_and]
    have : (0x0F#8 : BitVec 8).toNat = 2 ^ 4 - 1 := rfl
    rw [this, Nat.and_two_pow_sub_one_eq_mod]

theorem printhexU8_eq (b : Byte) :
    printhexU8 b = [digitChar true (b.toNat / 16), digitChar true (b.toNat % 16)] := by
  have := b.isLt
  rw [printhexU8, printhexU4_eq, printhexU4_eq, (nibbles_toNat b).1, (nibbles_toNat b).2,
    toaChar_upper _ (by omega), toaChar_upper _ (by omega)]
  rfl

theorem printhexU8_spec (b : Byte) : printhexU8 b = (fixedDigits 16 2 b.toNat).map (digitChar true) := by
  rw [printhexU8_eq, fixedDigits16_2]

theorem and_two_pow_eq_zero_iff (x i : Nat) : x &&& 2 ^ i = 0 ↔ x.testBit i = false := by
  constructor
  · intro h
    have := Nat.testBit_and x (2 ^ i) i
    rw [h, Nat.zero_testBit, Nat.testBit_two_pow_self, Bool.and_true] at this
    exact this.symm
  · intro h
    apply Nat.eq_of_testBit_eq
    intro j
    rw [Nat.testBit_and, Nat.testBit_two_pow, Nat.zero_testBit]
    by_cases hj : i = j
    · subst hj; rw [h]; rfl
    · simp [hj]

theorem binChar_eq (b mask : Byte) (i : Nat) (hm : mask.toNat = 2 ^ i) :
    binChar b mask = digitChar true (b.toNat / 2 ^ i % 2) := by
  have h01 : digitChar true 0 = 0x30#8 ∧ digitChar true 1 = 0x31#8 := by decide
  have hz : b &&& mask = 0#8 ↔ b.toNat.testBit i = false := by
    rw [← BitVec.toNat_inj, BitVec.toNat_and, hm]; exact and_two_pow_eq_zero_iff _ _
  rw [Nat.testBit_eq_decide_div_mod_eq, decide_eq_false_iff_not] at hz
  unfold binChar
  by_cases h : b.toNat / 2 ^ i % 2 = 1
  · rw [if_pos (fun hc => hz.1 hc h), h, h01.2]
  · rw [if_neg (by rw [Ne, Decidable.not_not]; exact hz.2 h), show b.toNat / 2 ^ i % 2 = 0 by omega, h01.1]

theorem printbinU8_spec (b : Byte) : printbinU8 b = (fixedDigits 2 8 b.toNat).map (digitChar true) := by
  simp only [printbinU8, binChar_eq b 0x80 7 rfl, binChar_eq b 0x40 6 rfl, binChar_eq b 0x20 5 rfl,
    binChar_eq b 0x10 4 rfl, binChar_eq b 0x08 3 rfl, binChar_eq b 0x04 2 rfl, binChar_eq b 0x02 1 rfl,
    binChar_eq b 0x01 0 rfl, fixedDigits, List.nil_append, List.cons_append, List.map_cons, List.map_nil,
    Nat.div_div_eq_div_mul, Nat.reducePow, Nat.reduceMul, Nat.div_one]

/-- `debug_printbin_uint4` tests the four low bits and nothing else -/
theorem printbinU4_spec (b : Byte) : printbinU4 b = (fixedDigits 2 4 (b.toNat % 16)).map (digitChar true) := by
  rw [show (16 : Nat) = 2 ^ 4 from rfl, fixedDigits_mod]
  simp only [printbinU4, binChar_eq b 0x08 3 rfl, binChar_eq b 0x04 2 rfl, binChar_eq b 0x02 1 rfl,
    binChar_eq b 0x01 0 rfl, fixedDigits, List.nil_append, List.cons_append, List.map_cons, List.map_nil,
    Nat.div_div_eq_div_mul, Nat.reducePow, Nat.reduceMul, Nat.div_one]

theorem low_byte_toNat {w : Nat} (a : BitVec w) :
    (a.truncate 8).toNat = a.toNat % 256 ∧ (a >>> 8).toNat = a.toNat / 256 := by
  simp [BitVec.truncate_eq_setWidth, BitVec.toNat_ushiftRight, Nat.shiftRight_eq_div_pow]

theorem bytesLE_length {w : Nat} : ∀ (k : Nat) (a : BitVec w), (bytesLE a k).length = k := by
  intro k
  induction k with
  | zero => intro a; rfl
  | succ k ih => intro a; simp [bytesLE, ih]

/-- the printers go through the object from the highest address down, hence `reverse` -/
theorem flatMap_bytesLE {w : Nat} (g : Nat → Byte) (b d : Nat) (hbd : b ^ d = 256) (f : Byte → List Byte)
    (hf : ∀ x, f x = (fixedDigits b d x.toNat).map g) : ∀ (k : Nat) (a : BitVec w),
    (bytesLE a k).reverse.flatMap f = (fixedDigits b (d * k) a.toNat).map g := by
  intro k
  induction k with
  | zero => intro a; rfl
  | succ k ih =>
    intro a
    rw [bytesLE, List.reverse_cons, List.flatMap_append, ih, List.flatMap_singleton, hf, Nat.mul_succ,
      fixedDigits_append, hbd, List.map_append, (low_byte_toNat a).1, (low_byte_toNat a).2]

theorem printhexBytes_spec {w : Nat} (k : Nat) (a : BitVec w) :
    printhexBytes (bytesLE a k) = (fixedDigits 16 (2 * k) a.toNat).map (digitChar true) :=
  flatMap_bytesLE _ 16 2 rfl _ printhexU8_spec k a

theorem printbinBytes_spec {w : Nat} (k : Nat) (a : BitVec w) :
    printbinBytes (bytesLE a k) = (fixedDigits 2 (8 * k) a.toNat).map (digitChar true) :=
  flatMap_bytesLE _ 2 8 rfl _ printbinU8_spec k a

/-! hexascii.h, the rendering half -/

theorem half2hex_eq (n : Byte) : half2hex n = toaChar 65 n.toNat := by
  unfold half2hex toaChar
  split
  · rw [Nat.add_comm]
  · congr 1; omega

theorem halves_toNat (b : Byte) : (hiHalf b).toNat = b.toNat / 16 ∧ (loHalf b).toNat = b.toNat % 16 := by
  have := b.isLt
  constructor
  · rw [hiHalf, BitVec.toNat_and, BitVec.toNat_ushiftRight, show (0x0F#8 : BitVec 8).toNat = 2 ^ 4 - 1 from rfl,
      Nat.and_two_pow_sub_one_eq_mod, Nat.shiftRight_eq_div_pow]; omega
  · exact (nibbles_toNat b).2

theorem uint8ToHex_eq (b : Byte) : uint8ToHex b = printhexU8 b := by
  have := b.isLt
  rw [printhexU8_eq, uint8ToHex, half2hex_eq, half2hex_eq, (halves_toNat b).1, (halves_toNat b).2,
    toaChar_upper _ (by omega), toaChar_upper _ (by omega)]

theorem uintToHex_eq {w : Nat} (a : BitVec w) (k : Nat) : uintToHex a k = printhexBytes (bytesLE a k) := by
  simp only [uintToHex, printhexBytes]
  congr 1
  funext b
  exact uint8ToHex_eq b

end Igris.C07
