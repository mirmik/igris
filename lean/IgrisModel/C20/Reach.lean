/-
  The three sets of reachable states, `Reach ⊆ ReachS ⊆ ReachP head` (shipped code; with spurious returns of the
  condition-variable wait; with `unwait_all` draining the queue in any order), and the rule by which every
  invariant of this transition system is proved on the largest of them: `ReachP.invariant`.
-/
import IgrisModel.C20.WaitStep
import IgrisModel.C20.Spur
namespace Igris.C20

/-- `unwait_all` may take ANY queued waiter next: `pick q ∈ q`. `unwait_one` (all = false) still takes the head. -/
def stepP (pick : List Tid → Tid) (s : State) (t : Tid) : Option State :=
  match s.pc t with
  | .uUnlink f true =>
    if s.waitq = [] then step false s t
    else
      let w := pick s.waitq
      some (setPc { s with waitq := s.waitq.erase w, fut := upd s.fut w f, ulk := upd s.ulk w true } t (.sLock w f true))
  | _ => step false s t

def actP (pick : List Tid → Tid) (s : State) : Act → Option State
  | .run t => stepP pick s t
  | .spur t => spurious s t

def GoodPick (pick : List Tid → Tid) : Prop := ∀ q, q ≠ [] → pick q ∈ q

inductive ReachP (pick : List Tid → Tid) (prog : Tid → List Op) (q0 : List (Tid × Int)) : State → Prop
  | init : ReachP pick prog q0 (init prog q0)
  | act {s s' a} : ReachP pick prog q0 s → actP pick s a = some s' → ReachP pick prog q0 s'

theorem spurious_some {s s' : State} {t} (hs : spurious s t = some s') :
    s.pc t = .wSleep ∧ s' = setPc s t .wReacq := by
  obtain ⟨hpc, e⟩ := Option.ite_none_right_eq_some.mp hs
  exact ⟨hpc, (Option.some.inj e).symm⟩

theorem stepP_cases {pick : List Tid → Tid} {s s' : State} {t : Tid} (hs : stepP pick s t = some s') :
    (step false s t = some s' ∧ ∀ f, s.pc t = .uUnlink f true → s.waitq = []) ∨
    (∃ f, s.pc t = .uUnlink f true ∧ s.waitq ≠ [] ∧
      s' = setPc { s with waitq := s.waitq.erase (pick s.waitq), fut := upd s.fut (pick s.waitq) f,
                          ulk := upd s.ulk (pick s.waitq) true } t (.sLock (pick s.waitq) f true)) := by
  unfold stepP at hs
  split at hs
  · rename_i f hpc
    split at hs
    · rename_i hq; exact Or.inl ⟨hs, fun _ _ => hq⟩
    · rename_i hne
      cases hs
      exact Or.inr ⟨f, hpc, hne, rfl⟩
  · rename_i hno
    exact Or.inl ⟨hs, fun f h => absurd h (hno f)⟩

theorem ReachP.invariant {pick prog q0} {I : State → Prop} (h0 : I (C20.init prog q0))
    (hstep : ∀ {s s' t}, ReachP pick prog q0 s → I s → step false s t = some s' → I s')
    (hspur : ∀ {s t}, I s → s.pc t = .wSleep → I (setPc s t .wReacq))
    (hunl : ∀ {s t f}, ReachP pick prog q0 s → I s → s.pc t = .uUnlink f true → s.waitq ≠ [] →
      I (setPc { s with waitq := s.waitq.erase (pick s.waitq), fut := upd s.fut (pick s.waitq) f,
                        ulk := upd s.ulk (pick s.waitq) true } t (.sLock (pick s.waitq) f true)))
    {s} (h : ReachP pick prog q0 s) : I s := by
  induction h with
  | init => exact h0
  | @act s s' a hr hs ih =>
    cases a with
    | run t =>
      rcases stepP_cases hs with ⟨h1, _⟩ | ⟨f, hpc, hne, rfl⟩
      · exact hstep hr ih h1
      · exact hunl hr ih hpc hne
    | spur t =>
      obtain ⟨hpc, rfl⟩ := spurious_some hs
      exact hspur ih hpc

theorem stepP_head (s : State) (t : Tid) : stepP (fun q => q.headD 0) s t = step false s t := by
  unfold stepP
  split
  · rename_i f hpc
    split
    · rfl
    · rename_i hne
      unfold step
      rw [hpc]
      dsimp only
      cases hq : s.waitq with
      | nil => exact absurd hq hne
      | cons w r => simp [List.erase_cons_head]
  · rfl

theorem reachS_is_reachP {prog q0 s} (h : ReachS prog q0 s) : ReachP (fun q => q.headD 0) prog q0 s := by
  induction h with
  | init => exact .init
  | @act _ _ a _ hs ih =>
    refine .act (a := a) ih ?_
    cases a with
    | run t => exact (stepP_head ..).trans hs
    | spur t => exact hs

theorem Reach.reachS {prog q0 s} (h : Reach prog q0 s) : ReachS prog q0 s := by
  induction h with
  | init => exact .init
  | step _ hs ih => exact .act (a := .run _) ih hs

theorem goodPick_head : GoodPick (fun q => q.headD 0) := by
  intro q hq
  cases q with
  | nil => exact absurd rfl hq
  | cons a r => simp

theorem goodPick_last : GoodPick (fun q => q.getLast?.getD 0) := by
  intro q hq
  show q.getLast?.getD 0 ∈ q
  rw [List.getLast?_eq_some_getLast hq]
  simp

example : GoodPick (fun q => q.getLast?.getD 0) := goodPick_last
example : GoodPick (fun q => q.headD 0) := goodPick_head

theorem spurious_CI {s s' : State} {t} (h : CI s) (hs : spurious s t = some s') : CI s' := by
  obtain ⟨hpc, rfl⟩ := spurious_some hs
  exact CI_setPc_wReacq h hpc

theorem spurious_MI {s s' : State} {t} (h : MI s) (hs : spurious s t = some s') : MI s' :=
  (spurious_some hs).2 ▸ setPc_MI h

theorem spurious_QI {s s' : State} {t} (h : QI s) (hs : spurious s t = some s') : QI s' :=
  (spurious_some hs).2 ▸ setPc_QI h

theorem reachP_MI {pick prog q0 s} (h : ReachP pick prog q0 s) : MI s :=
  h.invariant (MI_init ..) (fun _ h => step_MI h) (fun h _ => setPc_MI h)
    fun _ h _ _ => MI_congr h rfl rfl rfl

theorem reachP_QI {pick prog q0 s} (h : ReachP pick prog q0 s) : QI s :=
  h.invariant (by simp [QI, init]) (fun _ h => step_QI h) (fun h _ => setPc_QI h)
    fun _ h _ _ => QI_congr h rfl rfl rfl

theorem reachP_CI {pick prog q0 s} (hp : GoodPick pick) (h : ReachP pick prog q0 s) : CI s :=
  h.invariant (CI_init ..) (fun _ h => step_CI h) (fun h hpc => CI_setPc_wReacq h hpc)
    fun _ h hpc hne => unlink_CI h hpc (hp _ hne) (h.nodup.erase _) (fun x => (h.nodup.mem_erase_iff.mp x).1 rfl)
      fun _ hx => (h.nodup.mem_erase_iff.mp hx).2

theorem reachS_MI {prog q0 s} (h : ReachS prog q0 s) : MI s := reachP_MI (reachS_is_reachP h)
theorem reachS_CI {prog q0 s} (h : ReachS prog q0 s) : CI s := reachP_CI goodPick_head (reachS_is_reachP h)
theorem reachS_QI {prog q0 s} (h : ReachS prog q0 s) : QI s := reachP_QI (reachS_is_reachP h)

theorem reach_MI {prog q0 s} (h : Reach prog q0 s) : MI s := reachS_MI h.reachS
theorem reach_CI {prog q0 s} (h : Reach prog q0 s) : CI s := reachS_CI h.reachS
theorem reach_QI {prog q0 s} (h : Reach prog q0 s) : QI s := reachS_QI h.reachS

end Igris.C20
