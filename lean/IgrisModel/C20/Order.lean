/-
  The order of the wait queue as an invariant over every schedule (with spurious returns): priority
  waiters in front, newest first (`move_front`), ordinary waiters behind them in arrival order
  (`move_back`); only the enqueue and the unlink touch the queue and its ghost clock (`SameQ`).
  The semaphore of safe_queue is a binary mutex: `sem ≤ 1`, at most one thread between `sem.wait()`
  and `sem.post()`.
-/
import IgrisModel.C20.Reach
namespace Igris.C20

def SameQ (s s' : State) : Prop :=
  s'.waitq = s.waitq ∧ s'.stamp = s.stamp ∧ s'.prio = s.prio ∧ s'.clock = s.clock

theorem SameQ.refl {s : State} : SameQ s s := ⟨rfl, rfl, rfl, rfl⟩

theorem sameQ_setPc (s : State) (t p) : SameQ s (setPc s t p) := ⟨rfl, rfl, rfl, rfl⟩
theorem sameQ_setEv (s : State) (w e) : SameQ s (setEv s w e) := ⟨rfl, rfl, rfl, rfl⟩
theorem sameQ_touch (s : State) (w) : SameQ s (touch s w) := by
  unfold touch; split
  · exact SameQ.refl
  · exact ⟨rfl, rfl, rfl, rfl⟩
theorem sameQ_mtxUnlock (s : State) : SameQ s (mtxUnlock s) := ⟨rfl, rfl, rfl, rfl⟩
theorem LockFrame.sameQ {s s' : State} (f : LockFrame s s') : SameQ s s' := ⟨f.waitq, f.stamp, f.prio, f.clock⟩

theorem stepIdle_sameQ {s s' : State} {t : Tid} {op rest}
    (hs : stepIdle false s t op rest = some s') : SameQ s s' := by
  rcases stepIdle_cases hs with hl | ⟨s1, _, h1, rfl, _⟩ | ⟨_, _, _, _, _, _, _, rfl⟩
  · exact hl.frame.sameQ
  · exact (sysLock_frame h1).sameQ
  · exact ⟨rfl, rfl, rfl, rfl⟩

/-- only the enqueue of wait_current_schedee and the unlink of unwait_one /
    unwait_all change the wait queue (and its ghost clock, stamps, priorities) -/
theorem step_sameQ {s s' : State} {t : Tid} (hs : step false s t = some s')
    (h1 : ∀ p, s.pc t ≠ .wEnq p) (h2 : ∀ f a, s.pc t ≠ .uUnlink f a) : SameQ s s' := by
  rcases step_cases hs with ⟨_, f⟩ | ⟨_, _, _, h0⟩ | ⟨p, hp, _⟩ | ⟨_, _, rfl, _, _⟩ | ⟨f, a, hp, _⟩ | ⟨_, rfl⟩
  · exact ⟨f.waitq, f.stamp, f.prio, f.clock⟩
  · exact stepIdle_sameQ h0
  · exact absurd hp (h1 p)
  · exact (sysUnlock_frame s t).sameQ
  · exact absurd hp (h2 f a)
  · exact ⟨rfl, rfl, rfl, rfl⟩

/-- `a` is served before `b`: a priority waiter before an ordinary one; among
    priority waiters the one that arrived LAST (`move_front`); among ordinary
    waiters the one that arrived FIRST (`move_back`) -/
def Before (s : State) (a b : Tid) : Prop :=
  (s.prio a = true ∧ s.prio b = false) ∨
  (s.prio a = true ∧ s.prio b = true ∧ s.stamp b < s.stamp a) ∨
  (s.prio a = false ∧ s.prio b = false ∧ s.stamp a < s.stamp b)

theorem Before.ordinary {s : State} {a b : Tid} (h : Before s a b) (hp : s.prio a = false) :
    s.prio b = false ∧ s.stamp a < s.stamp b := by
  rcases h with ⟨x, _⟩ | ⟨x, _, _⟩ | ⟨_, y, z⟩
  · rw [hp] at x; cases x
  · rw [hp] at x; cases x
  · exact ⟨y, z⟩

theorem Before.prioritised {s : State} {a b : Tid} (h : Before s a b) (hp : s.prio b = true) :
    s.prio a = true ∧ s.stamp b < s.stamp a := by
  rcases h with ⟨_, y⟩ | ⟨x, _, z⟩ | ⟨_, y, _⟩
  · rw [hp] at y; cases y
  · exact ⟨x, z⟩
  · rw [hp] at y; cases y

structure OQ (s : State) : Prop where
  sorted : s.waitq.Pairwise (Before s)
  fresh : ∀ w, w ∈ s.waitq → s.stamp w < s.clock

theorem OQ_init (prog q0) : OQ (init prog q0) := by
  constructor <;> simp [init]

theorem OQ_sublist {s s' : State} (h : OQ s) (hq : s'.waitq.Sublist s.waitq) (f2 : s'.stamp = s.stamp)
    (f3 : s'.prio = s.prio) (f4 : s'.clock = s.clock) : OQ s' := by
  constructor
  · refine (h.sorted.sublist hq).imp ?_
    intro a b hab
    unfold Before at *
    rw [f2, f3]; exact hab
  · intro w hw
    rw [f2, f4]; exact h.fresh w (hq.subset hw)

theorem OQ_congr {s s' : State} (h : OQ s) (f : SameQ s s') : OQ s' :=
  OQ_sublist h (f.1 ▸ List.Sublist.refl _) f.2.1 f.2.2.1 f.2.2.2

theorem before_arrival {s s' : State} {t b : Tid} {p : Bool} (hst : s'.stamp = upd s.stamp t s.clock)
    (hp : s'.prio = upd s.prio t p) (hb : b ≠ t) (hf : s.stamp b < s.clock) :
    (p = true → Before s' t b) ∧ (p = false → Before s' b t) := by
  unfold Before
  rw [hst, hp]
  simp only [upd_same, upd_other _ _ _ _ hb]
  cases p <;> cases s.prio b <;> simp [hf]

theorem enq_OQ {s s' : State} {t : Tid} {p : Bool} (h : OQ s) (hn : t ∉ s.waitq)
    (hq : s'.waitq = if p then t :: s.waitq else s.waitq ++ [t]) (hc : s'.clock = s.clock + 1)
    (hst : s'.stamp = upd s.stamp t s.clock) (hp : s'.prio = upd s.prio t p) : OQ s' := by
  have ne : ∀ b, b ∈ s.waitq → b ≠ t := fun b hb e => hn (e ▸ hb)
  -- `Before` reads only the stamps and priorities of the two threads compared, and `t` is not queued
  have hs : s.waitq.Pairwise (Before s') :=
    h.sorted.imp_of_mem fun ha hb hab => by
      unfold Before at *
      rw [hst, hp]
      simp only [upd, ne _ ha, ne _ hb, if_false]
      exact hab
  constructor
  · rw [hq]
    cases p with
    | true => exact List.pairwise_cons.mpr ⟨fun b hb => (before_arrival hst hp (ne b hb) (h.fresh b hb)).1 rfl, hs⟩
    | false =>
      refine List.pairwise_append.mpr ⟨hs, List.pairwise_singleton _ _, fun a ha b hb => ?_⟩
      cases List.mem_singleton.mp hb
      exact (before_arrival hst hp (ne a ha) (h.fresh a ha)).2 rfl
  · intro w hw
    rw [hq] at hw
    rw [hst, hc]
    by_cases e : w = t
    · simp [upd, e]
    · have := h.fresh w (mem_of_mem_enqueue hw e)
      simp [upd, e]; omega

theorem step_OQ {s s' : State} {t : Tid} (h : OQ s) (hc : CI s) (hs : step false s t = some s') : OQ s' := by
  by_cases h1 : ∃ p, s.pc t = .wEnq p
  · obtain ⟨p, hpc⟩ := h1
    have hn : t ∉ s.waitq := hc.not_mem_waitq (by rw [hpc]; rfl)
    simp only [step, hpc] at hs
    cases hs
    exact enq_OQ h hn rfl rfl rfl rfl
  · by_cases h2 : ∃ f a, s.pc t = .uUnlink f a
    · obtain ⟨f, a, hpc⟩ := h2
      simp only [step, hpc] at hs
      split at hs
      · cases hs; exact OQ_congr h ⟨rfl, rfl, rfl, rfl⟩
      · rename_i w r hq
        cases hs
        exact OQ_sublist h (hq ▸ List.sublist_cons_self w r) rfl rfl rfl
    · exact OQ_congr h (step_sameQ hs (fun p e => h1 ⟨p, e⟩) (fun f a e => h2 ⟨f, a, e⟩))

theorem reachP_OQ {pick prog q0 s} (hp : GoodPick pick) (h : ReachP pick prog q0 s) : OQ s :=
  h.invariant (OQ_init ..) (fun hr h hs => step_OQ h (reachP_CI hp hr) hs) (fun h _ => OQ_congr h (sameQ_setPc ..))
    fun _ h _ _ => OQ_sublist h List.erase_sublist rfl rfl rfl

theorem reachS_OQ {prog q0 s} (h : ReachS prog q0 s) : OQ s := reachP_OQ goodPick_head (reachS_is_reachP h)

/-- `sem.wait()` … `sem.post()` brackets: either the semaphore is free (1) and
    nobody is between the two, or it is taken (0) by exactly one thread -/
def SI (s : State) : Prop :=
  (s.sem = 1 ∧ ∀ t, s.pc t ≠ .qPost) ∨
  (s.sem = 0 ∧ ∃ t, s.pc t = .qPost ∧ ∀ u, s.pc u = .qPost → u = t)

def SameS (s s' : State) : Prop := s'.sem = s.sem ∧ ∀ u, s'.pc u = .qPost ↔ s.pc u = .qPost

theorem SI_congr {s s' : State} (h : SI s) (f : SameS s s') : SI s' := by
  obtain ⟨f1, f2⟩ := f
  unfold SI at *
  rcases h with ⟨a, b⟩ | ⟨a, t, b, c⟩
  · exact Or.inl ⟨f1.trans a, fun u e => b u ((f2 u).mp e)⟩
  · exact Or.inr ⟨f1.trans a, t, (f2 t).mpr b, fun u e => c u ((f2 u).mp e)⟩

theorem SameS.trans {a b c : State} (h1 : SameS a b) (h2 : SameS b c) : SameS a c :=
  ⟨h2.1.trans h1.1, fun u => (h2.2 u).trans (h1.2 u)⟩
theorem SameS.of_eq {s s' : State} (h1 : s'.sem = s.sem) (h2 : s'.pc = s.pc) : SameS s s' :=
  ⟨h1, fun u => by rw [h2]⟩

theorem sameS_setPc {s s1 : State} {t p} (hs : s1.sem = s.sem) (hpc : s1.pc = s.pc) (h1 : s.pc t ≠ .qPost)
    (h2 : p ≠ .qPost) : SameS s (setPc s1 t p) := by
  refine ⟨hs, fun u => ?_⟩
  simp only [setPc, upd, hpc]
  split
  · rename_i e; subst e; exact ⟨fun e => absurd e h2, fun e => absurd e h1⟩
  · exact Iff.rfl

theorem sameS_setEv (s : State) (w e) : SameS s (setEv s w e) := SameS.of_eq rfl rfl
theorem sameS_touch (s : State) (w) : SameS s (touch s w) := SameS.of_eq (touch_sem s w) (touch_pc s w)
theorem LockFrame.sameS {s s' : State} (f : LockFrame s s') : SameS s s' := SameS.of_eq f.sem f.pc

theorem take_SI {s : State} {t} (h : SI s) (hpos : 0 < s.sem) {s1 : State}
    (h1 : s1.sem = s.sem - 1) (h2 : s1.pc = s.pc) : SI (setPc s1 t .qPost) := by
  unfold SI at *
  rcases h with ⟨a, b⟩ | ⟨a, _⟩
  · refine Or.inr ⟨by show s1.sem = 0; omega, t, by simp [setPc], ?_⟩
    intro u hu
    by_cases e : u = t
    · exact e
    · simp only [setPc, upd, e, if_false, h2] at hu
      exact absurd hu (b u)
  · omega

theorem stepIdle_SI {s s' : State} {t : Tid} {op rest} (h : SI s) (hpc : s.pc t = .idle)
    (hs : stepIdle false s t op rest = some s') : SI s' := by
  have hq : s.pc t ≠ .qPost := by rw [hpc]; nofun
  rcases stepIdle_cases hs with hl | ⟨s1, _, h1, rfl, hp⟩ | ⟨hpos, _, _, _, _, _, _, rfl⟩
  · exact SI_congr h hl.frame.sameS
  · have f := sysLock_frame h1
    refine SI_congr h (sameS_setPc f.sem f.pc hq ?_)
    rcases hp with ⟨_, rfl⟩ | rfl | ⟨_, _, rfl⟩ <;> nofun
  · exact take_SI h hpos rfl rfl

theorem step_SI {s s' : State} {t : Tid} (h : SI s) (hs : step false s t = some s') : SI s' := by
  rcases step_cases hs with ⟨he, f⟩ | ⟨hpc, _, _, h0⟩ | ⟨_, hpc, rfl⟩ | ⟨_, hpc, rfl, hp, _⟩ |
    ⟨_, _, hpc, rfl | ⟨_, _, _, rfl⟩⟩ | ⟨hq, rfl⟩
  · refine SI_congr h ⟨f.sem, fun u => ?_⟩
    by_cases e : u = t
    · subst e
      exact ⟨fun x => absurd x f.notq, fun x => by rw [x] at he; cases he⟩
    · rcases f.pc u e with a | ⟨a, b⟩
      · rw [a]
      · rw [a, b]; exact ⟨nofun, nofun⟩
  · exact stepIdle_SI h hpc h0
  · exact SI_congr h (sameS_setPc rfl rfl (by rw [hpc]; nofun) nofun)
  · exact SI_congr h (sameS_setPc (sysUnlock_frame s t).sem (sysUnlock_frame s t).pc
      (by rcases hpc with a | a <;> rw [a] <;> nofun) hp)
  · exact SI_congr h (sameS_setPc rfl rfl (by rw [hpc]; nofun) nofun)
  · exact SI_congr h (sameS_setPc rfl rfl (by rw [hpc]; nofun) nofun)
  · -- sem.post(): the one thread between wait and post leaves
    unfold SI at *
    rcases h with ⟨_, b⟩ | ⟨a, k, b, c⟩
    · exact absurd hq (b t)
    · have hk : k = t := (c t hq).symm
      subst hk
      refine Or.inl ⟨by show s.sem + 1 = 1; omega, ?_⟩
      intro u hu
      by_cases e : u = k
      · subst e; simp [setPc] at hu
      · simp only [setPc, upd, e, if_false] at hu
        exact e (c u hu)

theorem reachP_SI {pick prog q0 s} (h : ReachP pick prog q0 s) : SI s :=
  h.invariant (.inl ⟨rfl, fun _ => nofun⟩) (fun _ h => step_SI h)
    (fun h hpc => SI_congr h (sameS_setPc rfl rfl (by rw [hpc]; nofun) nofun))
    fun _ h hpc _ => SI_congr h (sameS_setPc rfl rfl (by rw [hpc]; nofun) nofun)

theorem reachS_SI {prog q0 s} (h : ReachS prog q0 s) : SI s := reachP_SI (reachS_is_reachP h)

/-- `head->move_front(lnk)` for a prioritised waiter, `head->move_back(lnk)` otherwise -/
def enq (q : List Tid) (a : Tid × Bool) : List Tid := if a.2 then a.1 :: q else q ++ [a.1]

theorem enq_foldl (arr : List (Tid × Bool)) : ∀ q : List Tid,
    arr.foldl enq q =
      ((arr.filter (fun a => a.2)).reverse.map (·.1)) ++ q ++ ((arr.filter (fun a => !a.2)).map (·.1)) := by
  induction arr with
  | nil => intro q; simp
  | cons a rest ih =>
    intro q
    rw [List.foldl_cons, ih]
    cases h : a.2 <;> simp [enq, h]

end Igris.C20
