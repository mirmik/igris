/-
  `CI` is preserved by every step.  The clauses of `CI` that speak about one thread `w` in its role as a waiter
  (`WI w`) see the other threads only through the ONE thread `t` that can be inside `signal` of `w` (`Sole w pc t`).
  A step concerns one waiter (the stepping thread itself, or the waiter its `signal` is aimed at): everybody else's
  clauses carry over (`CI.move`), and for the one concerned the step is a small change of `WI`'s arguments, one lemma
  per kind of step.
-/
import IgrisModel.C20.Wait
namespace Igris.C20

def Sole (w : Tid) (pc : Tid → PC) (t : Tid) : Prop := ∀ k, Sig w (pc k) = true → k = t

theorem Sole.upd {w t : Tid} {q : PC} {pc : Tid → PC} (h : Sole w pc t) : Sole w (upd pc t q) t := fun k hk => by
  by_cases e : k = t
  · exact e
  · rw [upd_other _ _ _ _ e] at hk; exact h k hk

/-- the clauses of `CI` about the waiter `w` (`i` = it is in the wait queue; `p`, `e`, `u` = its counter, its event,
    its unlink mark) and the one thread `t`, standing at `q`, that can be inside `signal` of `w` -/
structure WI (w : Tid) (i : Prop) (p : PC) (e : Ev) (u : Bool) (t : Tid) (q : PC) : Prop where
  inq : i → Waiting p = true ∧ e.flag = false ∧ u = false
  alive : InWait p = true → e.alive = true
  sig : Sig w q = true → t ≠ w ∧ Waiting p = true ∧ u = true
  sigLock : IsSLock w q = true → e.flag = false
  sigHold : SigHold w q = true → e.holder = some t ∧ e.flag = true
  holder : ∀ h, InWait p = true → e.holder = some h →
    (h = w ∧ HoldsOwn p = true) ∨ (h = t ∧ SigHold w q = true)
  own : HoldsOwn p = true → e.holder = some w
  seen : Seen p = true → e.flag = true
  flagged : InWait p = true → e.flag = true → u = true ∧ IsSLock w q = false
  lostwake : InWait p = true → u = true → e.flag = true ∨ IsSLock w q = true
  sleepnotify : p = .wSleep → e.flag = true → IsSNotify w q = true
  unl : IsSUnlock w q = true → p ≠ .wSleep

theorem CI_iff {s : State} :
    CI s ↔ s.waitq.Nodup ∧ s.uaf = false ∧
      ∀ w, ∃ t, Sole w s.pc t ∧ WI w (w ∈ s.waitq) (s.pc w) (s.ev w) (s.ulk w) t (s.pc t) := by
  constructor
  · refine fun h => ⟨h.nodup, h.noUaf, fun w => ?_⟩
    -- the waker, if there is one (`sigUniq`); anybody otherwise
    obtain ⟨t, sole⟩ : ∃ t, Sole w s.pc t := by
      by_cases hx : ∃ k, Sig w (s.pc k) = true
      · exact hx.imp fun t ht k hk => h.sigUniq k t w hk ht
      · exact ⟨w, fun k hk => (hx ⟨k, hk⟩).elim⟩
    exact ⟨t, sole, h.inq w, h.alive w, h.sig t w, h.sigLock t w, h.sigHold t w,
      fun hd a b => (h.holder w hd a b).imp_right fun c => by cases sole hd (sighold_sig _ _ c); exact ⟨rfl, c⟩,
      h.own w, h.seen w, fun a b => ⟨(h.flagged w a b).1, (h.flagged w a b).2 t⟩,
      fun a b => (h.lostwake w a b).imp_right fun ⟨k, c⟩ => by cases sole k (slock_sig _ _ c); exact c,
      fun a b => by obtain ⟨k, c⟩ := h.sleepnotify w a b; cases sole k (sighold_sig _ _ (snotify_hold _ _ c)); exact c,
      h.unl t w⟩
  · rintro ⟨a, b, H⟩
    have atWaker : ∀ {w k}, Sig w (s.pc k) = true → WI w (w ∈ s.waitq) (s.pc w) (s.ev w) (s.ulk w) k (s.pc k) :=
      fun {w k} hk => by obtain ⟨t, sole, h⟩ := H w; cases sole k hk; exact h
    exact
    { nodup := a, noUaf := b
      inq := fun w => (H w).elim fun _ h => h.2.inq
      alive := fun w => (H w).elim fun _ h => h.2.alive
      own := fun w => (H w).elim fun _ h => h.2.own
      seen := fun w => (H w).elim fun _ h => h.2.seen
      sig := fun k w hk => (atWaker hk).sig hk
      sigLock := fun k w hk => (atWaker (slock_sig _ _ hk)).sigLock hk
      sigHold := fun k w hk => (atWaker (sighold_sig _ _ hk)).sigHold hk
      sigUniq := fun k1 k2 w h1 h2 => by obtain ⟨t, sole, _⟩ := H w; exact (sole k1 h1).trans (sole k2 h2).symm
      unl := fun k w hk => (atWaker (sunlock_sig _ _ hk)).unl hk
      holder := fun w hd x y => (H w).elim fun _ h => (h.2.holder hd x y).imp_right fun ⟨c, d⟩ => c ▸ d
      flagged := fun w x y => ⟨(H w).elim fun _ h => (h.2.flagged x y).1, fun k => Bool.eq_false_iff.mpr fun c => by
        rw [((atWaker (slock_sig _ _ c)).flagged x y).2] at c; cases c⟩
      lostwake := fun w x y => (H w).elim fun t h => (h.2.lostwake x y).imp_right fun c => ⟨t, c⟩
      sleepnotify := fun w x y => (H w).elim fun t h => ⟨t, h.2.sleepnotify x y⟩ }

theorem CI.at {s : State} (h : CI s) (w : Tid) :
    ∃ t, Sole w s.pc t ∧ WI w (w ∈ s.waitq) (s.pc w) (s.ev w) (s.ulk w) t (s.pc t) := (CI_iff.mp h).2.2 w

theorem CI_congr {s s' : State} (h : CI s) (h1 : s'.pc = s.pc) (h2 : s'.waitq = s.waitq) (h3 : s'.ev = s.ev)
    (h4 : s'.ulk = s.ulk) (h5 : s'.uaf = s.uaf) : CI s' :=
  CI_iff.mpr ⟨h2 ▸ h.nodup, h5.trans h.noUaf, fun w => by rw [h1, h2, h3, h4]; exact h.at w⟩

theorem notSig {w : Tid} {p : PC} (h : Sig w p = false) :
    IsSLock w p = false ∧ IsSNotify w p = false ∧ IsSUnlock w p = false ∧ SigHold w p = false := by
  cases p <;> simp_all [Sig, IsSLock, IsSNotify, IsSUnlock, SigHold]

theorem notInWait {p : PC} (h : InWait p = false) :
    Waiting p = false ∧ HoldsOwn p = false ∧ Seen p = false ∧ p ≠ .wSleep := by
  cases p <;> simp_all [InWait, Waiting, HoldsOwn, Seen]

theorem sig_ne {x w : Tid} {p : PC} (h : Sig x p = true) (hw : w ≠ x) : Sig w p = false := by
  cases e : Sig w p
  · rfl
  · exact absurd (sig_fun _ _ _ e h) hw

theorem WI.congr {w i i' p p' e u t q q'} (h : WI w i p e u t q) (hi : i' → i)
    (h1 : Waiting p' = Waiting p) (h2 : InWait p' = InWait p) (h3 : HoldsOwn p' = HoldsOwn p)
    (h4 : Seen p' = Seen p) (h5 : p' = .wSleep → p = .wSleep)
    (hq : q' = q ∨ (Sig w q = false ∧ Sig w q' = false)) : WI w i' p' e u t q' := by
  have e2 : Sig w q' = Sig w q ∧ IsSLock w q' = IsSLock w q ∧ IsSNotify w q' = IsSNotify w q ∧
      IsSUnlock w q' = IsSUnlock w q ∧ SigHold w q' = SigHold w q := by
    rcases hq with a | ⟨a, b⟩
    · rw [a]; exact ⟨rfl, rfl, rfl, rfl, rfl⟩
    · have a' := notSig a
      have b' := notSig b
      exact ⟨b.trans a.symm, b'.1.trans a'.1.symm, b'.2.1.trans a'.2.1.symm, b'.2.2.1.trans a'.2.2.1.symm,
        b'.2.2.2.trans a'.2.2.2.symm⟩
  constructor <;> (try simp only [h1, h2, h3, h4, e2.1, e2.2.1, e2.2.2.1, e2.2.2.2.1, e2.2.2.2.2])
  · exact fun x => h.inq (hi x)
  · exact h.alive
  · exact h.sig
  · exact h.sigLock
  · exact h.sigHold
  · exact h.holder
  · exact h.own
  · exact h.seen
  · exact h.flagged
  · exact h.lostwake
  · exact fun x => h.sleepnotify (h5 x)
  · exact fun hk x => h.unl hk (h5 x)

/-- outside `wait_current_schedee` no clause reads the event: `e'` is arbitrary -/
theorem WI.leave {w i p p' e e' u t q} (h : WI w i p e u t q) (hp : Waiting p = false)
    (hp' : InWait p' = false) : WI w i p' e' u t q := by
  have ns : Sig w q = false := by
    cases hk : Sig w q
    · rfl
    · rw [(h.sig hk).2.1] at hp; cases hp
  have n := notInWait hp'
  have m := notSig ns
  exact
  { inq := fun x => by rw [(h.inq x).1] at hp; cases hp
    alive := fun x => by rw [hp'] at x; cases x
    sig := fun hk => by rw [ns] at hk; cases hk
    sigLock := fun hk => by rw [m.1] at hk; cases hk
    sigHold := fun hk => by rw [m.2.2.2] at hk; cases hk
    holder := fun _ x => by rw [hp'] at x; cases x
    own := fun x => by rw [n.2.1] at x; cases x
    seen := fun x => by rw [n.2.2.1] at x; cases x
    flagged := fun x => by rw [hp'] at x; cases x
    lostwake := fun x => by rw [hp'] at x; cases x
    sleepnotify := fun x => absurd x n.2.2.2
    unl := fun _ => n.2.2.2 }

theorem WI.enq {w i i' pr e u t q} (h : WI w i (.wEnq pr) e u t q) :
    WI w i' .wUnlock { flag := false, holder := none, alive := true } false t q :=
  have ns : Sig w q = true → False := fun hk => by cases (h.sig hk).2.1
  { inq := fun _ => ⟨rfl, rfl, rfl⟩
    alive := fun _ => rfl
    sig := fun hk => (ns hk).elim
    sigLock := fun _ => rfl
    sigHold := fun hk => (ns (sighold_sig _ _ hk)).elim
    holder := fun _ _ x => by cases x
    own := fun x => by cases x
    seen := fun x => by cases x
    flagged := fun _ x => by cases x
    lostwake := fun _ x => by cases x
    sleepnotify := nofun
    unl := fun _ => nofun }

theorem WI.evLock {w i e u t q} (h : WI w i .wEvLock e u t q) (hh : e.holder = none) :
    WI w i .wCv { e with holder := some w } u t q :=
  { h with
    sigHold := fun hk => by have := (h.sigHold hk).1; rw [hh] at this; cases this
    holder := fun _ _ x => .inl ⟨(Option.some.inj x).symm, rfl⟩
    own := fun _ => rfl
    seen := nofun
    sleepnotify := nofun
    unl := fun _ => nofun }

/-- a waiter that holds its own mutex and sees its flag: no waker is left inside `signal` -/
theorem WI.cvSeen {w i e u t q} (h : WI w i .wCv e u t q) (hf : e.flag = true) :
    WI w i .wEvUnlock e u t q :=
  have ns : Sig w q = true → False := fun hk => by
    rcases sig_cases _ _ hk with a | a
    · have := h.sigLock a; rw [hf] at this; cases this
    · have := (h.sigHold a).1; rw [h.own rfl] at this
      exact (h.sig hk).1 (Option.some.inj this).symm
  { h with
    inq := fun x => by have := (h.inq x).2.1; rw [hf] at this; cases this
    sig := fun hk => (ns hk).elim
    seen := fun _ => hf
    sleepnotify := nofun
    unl := fun _ => nofun }

theorem WI.cvSleep {w i e u t q} (h : WI w i .wCv e u t q) (hf : e.flag = false) :
    WI w i .wSleep { e with holder := none } u t q :=
  have nh : SigHold w q = true → False := fun hk => by
    have := (h.sigHold hk).2; rw [hf] at this; cases this
  { h with
    sigHold := fun hk => (nh hk).elim
    holder := fun _ _ x => by cases x
    own := nofun
    seen := nofun
    sleepnotify := fun _ x => by rw [hf] at x; cases x
    unl := fun hk => (nh (sunlock_hold _ _ hk)).elim }

theorem WI.reacqSeen {w i e u t q} (h : WI w i .wReacq e u t q) (hh : e.holder = none)
    (hf : e.flag = true) : WI w i .wEvUnlock { e with holder := some w } u t q :=
  ((h.congr (p' := .wEvLock) id rfl rfl rfl rfl nofun (.inl rfl)).evLock hh).cvSeen hf

theorem WI.reacqSleep {w i e u t q} (h : WI w i .wReacq e u t q) (hf : e.flag = false) :
    WI w i .wSleep e u t q :=
  { h with
    sleepnotify := fun _ x => by rw [hf] at x; cases x
    unl := fun hk => by have := (h.sigHold (sunlock_hold _ _ hk)).2; rw [hf] at this; cases this }

theorem WI.evUnlock {w i e u t q} (h : WI w i .wEvUnlock e u t q) :
    WI w i .wRet { e with holder := none } u t q :=
  { h with
    sigHold := fun hk => by cases (h.sig (sighold_sig _ _ hk)).2.1
    holder := fun _ _ x => by cases x
    own := nofun
    sleepnotify := nofun
    unl := fun _ => nofun }

/-- `unwait` takes a queued waiter: from now on the caller `t` is its one waker -/
theorem WI.unlink {w t k i i' p e u q f a} (h : WI w i p e u k q) (hi : i) (hi' : ¬ i') (htw : t ≠ w) :
    WI w i' p e true t (.sLock w f a) :=
  have ⟨hW, hf, hu⟩ := h.inq hi
  have ns : Sig w q = true → False := fun hk => by have := (h.sig hk).2.2; rw [hu] at this; cases this
  { h with
    inq := fun x => (hi' x).elim
    sig := fun _ => ⟨htw, hW, rfl⟩
    sigLock := fun _ => hf
    sigHold := nofun
    holder := fun hd x y => (h.holder hd x y).imp_right fun z => (ns (sighold_sig _ _ z.2)).elim
    flagged := fun _ x => by rw [hf] at x; cases x
    lostwake := fun _ _ => .inr (by simp [IsSLock])
    sleepnotify := fun _ x => by rw [hf] at x; cases x
    unl := nofun }

theorem WI.setFlag {w t i p e u f a} (h : WI w i p e u t (.sLock w f a)) (hh : e.holder = none) :
    WI w i p { e with holder := some t, flag := true } u t (.sNotify w f a) :=
  have ⟨htw, hW, hu⟩ := h.sig (by simp [Sig])
  { h with
    inq := fun x => by have := (h.inq x).2.2; rw [hu] at this; cases this
    sig := fun _ => ⟨htw, hW, hu⟩
    sigLock := nofun
    sigHold := fun _ => ⟨rfl, rfl⟩
    holder := fun hd _ x => by cases x; exact .inr ⟨rfl, by simp [SigHold]⟩
    own := fun x => by have := h.own x; rw [hh] at this; cases this
    seen := fun _ => rfl
    flagged := fun _ _ => ⟨hu, rfl⟩
    lostwake := fun _ _ => .inl rfl
    sleepnotify := fun _ _ => by simp [IsSNotify]
    unl := nofun }

/-- `notify_all` has been delivered: the waiter is not asleep any more -/
theorem WI.notify {w t i p e u f a} (h : WI w i p e u t (.sNotify w f a)) (hp : p ≠ .wSleep) :
    WI w i p e u t (.sUnlock w f a) :=
  have hh := h.sigHold (by simp [SigHold])
  { h with
    sig := fun _ => h.sig (by simp [Sig])
    sigLock := nofun
    sigHold := fun _ => hh
    holder := fun hd _ y => by rw [hh.1] at y; cases y; exact .inr ⟨rfl, by simp [SigHold]⟩
    flagged := fun x y => ⟨(h.flagged x y).1, rfl⟩
    lostwake := fun _ _ => .inl hh.2
    sleepnotify := fun x => absurd x hp
    unl := fun _ => hp }

theorem WI.release {w t i p e u f a q} (h : WI w i p e u t (.sUnlock w f a)) (hq : Sig w q = false) :
    WI w i p { e with holder := none } u t q :=
  have ⟨htw, _, hu⟩ := h.sig (by simp [Sig])
  have hh := h.sigHold (by simp [SigHold])
  have n := notSig hq
  { h with
    inq := fun x => by have := (h.inq x).2.2; rw [hu] at this; cases this
    sig := fun x => by rw [hq] at x; cases x
    sigLock := fun x => by rw [n.1] at x; cases x
    sigHold := fun x => by rw [n.2.2.2] at x; cases x
    holder := fun _ _ x => by cases x
    own := fun x => by have := h.own x; rw [hh.1] at this; exact absurd (Option.some.inj this) htw
    seen := fun _ => hh.2
    flagged := fun _ _ => ⟨hu, n.1⟩
    lostwake := fun _ _ => .inl hh.2
    sleepnotify := fun x => absurd x (h.unl (by simp [IsSUnlock]))
    unl := fun x => by rw [n.2.2.1] at x; cases x }

theorem WI.outside {w i p e u k pc t q} (h : WI w i p e u k (pc k)) (sole : Sole w pc k)
    (h0 : Sig w (pc t) = false) (hq : Sig w q = false) :
    Sole w (upd pc t q) k ∧ WI w i p e u k (upd pc t q k) := by
  refine ⟨fun j hj => ?_, h.congr id rfl rfl rfl rfl id ?_⟩
  · by_cases c : j = t
    · rw [c, upd_same, hq] at hj; cases hj
    · rw [upd_other _ _ _ _ c] at hj; exact sole j hj
  · by_cases c : k = t
    · rw [c, upd_same]; exact .inr ⟨h0, hq⟩
    · exact .inl (upd_other _ _ _ _ c)

/-- `t` moves to `p`; the event, the unlink mark and the queue membership of ONE waiter `x` change (`x = t`: a
    thread's own move; `x ≠ t`: `t`, outside `wait`, moves into, inside or out of `signal` of `x`).  What is left
    (`hloc`) is `x` and its waker after the step. -/
theorem CI.move {s s' : State} {t x : Tid} {p : PC} {e : Ev} {u : Bool} (h : CI s)
    (hin : t ≠ x → InWait (s.pc t) = false ∧ InWait p = false)
    (hns : ∀ w, w ≠ x → Sig w (s.pc t) = false ∧ Sig w p = false)
    (hpc : s'.pc = upd s.pc t p) (hev : s'.ev = upd s.ev x e) (hulk : s'.ulk = upd s.ulk x u)
    (hq : ∀ w, w ≠ x → w ∈ s'.waitq → w ∈ s.waitq) (hnd : s'.waitq.Nodup) (huaf : s'.uaf = s.uaf)
    (hloc : ∃ k, Sole x (upd s.pc t p) k ∧ WI x (x ∈ s'.waitq) (upd s.pc t p x) e u k (upd s.pc t p k)) :
    CI s' := by
  refine CI_iff.mpr ⟨hnd, huaf.trans h.noUaf, fun w => ?_⟩
  rw [hpc, hev, hulk]
  by_cases c : w = x
  · subst c; rw [upd_same, upd_same]; exact hloc
  · obtain ⟨k, sole, hw⟩ := h.at w
    obtain ⟨sole', hw'⟩ := (hw.congr (hq w c) rfl rfl rfl rfl id (.inl rfl)).outside sole (hns w c).1 (hns w c).2
    refine ⟨k, sole', ?_⟩
    rw [upd_other _ _ _ _ c, upd_other _ _ _ _ c]
    by_cases c' : w = t
    · subst c'
      rw [upd_same]; exact hw'.leave (notInWait (hin c).1).1 (hin c).2
    · rwa [upd_other _ _ _ _ c']

theorem inWait_notSig {p : PC} (h : InWait p = true) (x : Tid) : Sig x p = false := by
  cases e : Sig x p
  · rfl
  · rw [sig_notinwait _ _ e] at h; cases h

theorem CI.ownMove {s s' : State} {t : Tid} {p0 p : PC} {e : Ev} {u : Bool} (h : CI s) (hp0 : s.pc t = p0)
    (hns : ∀ x, Sig x p0 = false) (hns' : ∀ x, Sig x p = false)
    (hpc : s'.pc = upd s.pc t p) (hev : s'.ev = upd s.ev t e) (hulk : s'.ulk = upd s.ulk t u)
    (hq : ∀ w, w ≠ t → w ∈ s'.waitq → w ∈ s.waitq) (hnd : s'.waitq.Nodup) (huaf : s'.uaf = s.uaf)
    (hloc : ∀ {k q}, WI t (t ∈ s.waitq) p0 (s.ev t) (s.ulk t) k q → WI t (t ∈ s'.waitq) p e u k q) : CI s' := by
  obtain ⟨k, sole, hw⟩ := h.at t
  subst hp0
  obtain ⟨sole', hw'⟩ := (hloc hw).outside sole (hns t) (hns' t)
  exact h.move (fun c => absurd rfl c) (fun w _ => ⟨hns w, hns' w⟩) hpc hev hulk hq hnd huaf
    ⟨k, sole', by rw [upd_same]; exact hw'⟩

theorem CI.sigMove {s s' : State} {t x : Tid} {q0 p : PC} {e : Ev} {u : Bool} (h : CI s)
    (hq0 : s.pc t = q0) (hs : Sig x q0 = true) (hin' : InWait p = false) (hns' : ∀ w, w ≠ x → Sig w p = false)
    (hpc : s'.pc = upd s.pc t p) (hev : s'.ev = upd s.ev x e) (hulk : s'.ulk = upd s.ulk x u)
    (hq : s'.waitq = s.waitq) (huaf : s'.uaf = s.uaf)
    (hloc : WI x (x ∈ s.waitq) (s.pc x) (s.ev x) (s.ulk x) t q0 → WI x (x ∈ s.waitq) (s.pc x) e u t p) : CI s' := by
  obtain ⟨k, sole, hw⟩ := h.at x
  subst hq0
  cases sole t hs
  have htx : t ≠ x := (hw.sig hs).1
  refine h.move (fun _ => ⟨sig_notinwait _ _ hs, hin'⟩) (fun w hw => ⟨sig_ne hs hw, hns' w hw⟩) hpc hev hulk
    (fun _ _ a => hq ▸ a) (hq ▸ h.nodup) huaf ⟨t, sole.upd, ?_⟩
  rw [hq, upd_same, upd_other _ _ _ _ htx.symm]; exact hloc hw

theorem CI.waiter {s s' : State} {t : Tid} {p0 p : PC} {e : Ev} (h : CI s) (hp0 : s.pc t = p0)
    (hin : InWait p0 = true) (hin' : InWait p = true) (hpc : s'.pc = upd s.pc t p) (hev : s'.ev = upd s.ev t e)
    (hq : s'.waitq = s.waitq) (hulk : s'.ulk = s.ulk) (huaf : s'.uaf = s.uaf)
    (hloc : ∀ {k q}, WI t (t ∈ s.waitq) p0 (s.ev t) (s.ulk t) k q → WI t (t ∈ s.waitq) p e (s.ulk t) k q) :
    CI s' :=
  h.ownMove hp0 (inWait_notSig hin) (inWait_notSig hin') hpc hev (hulk.trans (eq_upd_self ..))
    (fun _ _ x => hq ▸ x) (hq ▸ h.nodup) huaf fun x => hq ▸ hloc x

theorem CI_setPc_neutral {s : State} {t : Tid} {p : PC} (h : CI s)
    (hold : InWait (s.pc t) = false ∧ ∀ w, Sig w (s.pc t) = false)
    (hnew : InWait p = false ∧ ∀ w, Sig w p = false) : CI (setPc s t p) :=
  h.ownMove rfl hold.2 hnew.2 rfl (eq_upd_self ..) (eq_upd_self ..) (fun _ _ x => x) h.nodup rfl
    (·.leave (notInWait hold.1).1 hnew.1)

/-- a sleeper is resumed, by `notify_all` or spuriously: the two clauses that speak about `wSleep` become vacuous for
    it, every other clause sees `wReacq` like `wSleep` -/
theorem CI_setPc_wReacq {s : State} {w : Tid} (h : CI s) (hsl : s.pc w = .wSleep) : CI (setPc s w .wReacq) :=
  h.waiter hsl rfl rfl rfl (eq_upd_self ..) rfl rfl rfl (·.congr id rfl rfl rfl rfl nofun (.inl rfl))

theorem LockFrame.CI {s s' : State} (f : LockFrame s s') (h : CI s) : CI s' :=
  CI_congr h f.pc f.waitq f.ev f.ulk f.uaf

theorem stepIdle_CI {s s' : State} {t : Tid} {op rest} (h : CI s) (hpc : s.pc t = .idle)
    (hs : stepIdle false s t op rest = some s') : CI s' := by
  have hi : InWait (s.pc t) = false ∧ ∀ w, Sig w (s.pc t) = false := by rw [hpc]; exact ⟨rfl, fun _ => rfl⟩
  rcases stepIdle_cases hs with hl | ⟨s1, _, h1, rfl, hp⟩ | ⟨_, _, _, _, _, _, _, rfl⟩
  · exact hl.frame.CI (CI_congr h rfl rfl rfl rfl rfl)
  · have f := sysLock_frame h1
    refine CI_setPc_neutral (f.CI (CI_congr h rfl rfl rfl rfl rfl)) (by rw [f.pc]; exact hi) ?_
    rcases hp with ⟨_, rfl⟩ | rfl | ⟨_, _, rfl⟩ <;> exact ⟨rfl, fun _ => rfl⟩
  · exact CI_setPc_neutral (CI_congr h rfl rfl rfl rfl rfl) hi ⟨rfl, fun _ => rfl⟩

theorem touch_eq {s : State} {w} (h : (s.ev w).alive = true) : touch s w = s := by
  simp [touch, h]

theorem unlink_CI {s : State} {t w : Tid} {f : Int} {a : Bool} {q' : List Tid} (h : CI s)
    (hpc : s.pc t = .uUnlink f a) (hw : w ∈ s.waitq) (hnd : q'.Nodup) (hnw : w ∉ q')
    (hsub : ∀ x, x ∈ q' → x ∈ s.waitq) :
    CI (setPc { s with waitq := q', fut := upd s.fut w f, ulk := upd s.ulk w true } t (.sLock w f a)) := by
  have htw : t ≠ w := fun e => h.not_mem_waitq (t := t) (by rw [hpc]; rfl) (e ▸ hw)
  obtain ⟨k, sole, hk⟩ := h.at w
  -- a queued waiter has no waker yet
  have soleT : Sole w s.pc t := fun j hj => by
    cases sole j hj
    have := (hk.sig hj).2.2; rw [(hk.inq hw).2.2] at this; cases this
  refine h.move (fun _ => ⟨by rw [hpc]; rfl, rfl⟩)
    (fun x hx => ⟨by rw [hpc]; rfl, sig_ne (x := w) (by simp [Sig]) hx⟩) rfl (eq_upd_self ..) rfl
    (fun x _ => hsub x) hnd rfl ⟨t, soleT.upd, ?_⟩
  rw [upd_same, upd_other _ _ _ _ htw.symm]; exact hk.unlink hw hnw htw

theorem step_CI {s s' : State} {t : Tid} (h : CI s) (hs : step false s t = some s') : CI s' := by
  unfold step at hs
  split at hs
  · rename_i hpc
    split at hs
    · cases hs
    · exact stepIdle_CI h hpc hs
  · -- wEnq
    rename_i p hpc
    cases hs
    have hn : t ∉ s.waitq := h.not_mem_waitq (by rw [hpc]; rfl)
    refine h.ownMove hpc (fun _ => rfl) (fun _ => rfl) rfl rfl rfl ?_ ?_ rfl (·.enq)
    · exact fun w hw x => mem_of_mem_enqueue x hw
    · cases p <;> simp [setPc, h.nodup, hn, List.nodup_append]
      exact fun a ha e => hn (e ▸ ha)
  · -- wUnlock
    rename_i hpc
    cases hs
    have h' := (sysUnlock_frame s t).CI h
    have hpc1 : (sysUnlock s t).pc t = .wUnlock := by rw [(sysUnlock_frame s t).pc]; exact hpc
    exact h'.waiter hpc1 rfl rfl rfl (eq_upd_self ..) rfl rfl rfl
      (·.congr id rfl rfl rfl rfl nofun (.inl rfl))
  · -- wEvLock
    rename_i hpc
    split at hs
    · rename_i hh
      cases hs
      exact h.waiter hpc rfl rfl rfl rfl rfl rfl rfl (·.evLock hh)
    · cases hs
  · -- wCv
    rename_i hpc
    split at hs
    · rename_i hf
      cases hs
      exact h.waiter hpc rfl rfl rfl (eq_upd_self ..) rfl rfl rfl (·.cvSeen hf)
    · rename_i hf
      cases hs
      exact h.waiter hpc rfl rfl rfl rfl rfl rfl rfl (·.cvSleep (by simpa using hf))
  · cases hs
  · -- wReacq
    rename_i hpc
    split at hs
    · rename_i hh
      split at hs
      · rename_i hf
        cases hs
        exact h.waiter hpc rfl rfl rfl rfl rfl rfl rfl (·.reacqSeen hh hf)
      · rename_i hf
        cases hs
        exact h.waiter hpc rfl rfl rfl (eq_upd_self ..) rfl rfl rfl (·.reacqSleep (by simpa using hf))
    · cases hs
  · -- wEvUnlock
    rename_i hpc
    cases hs
    exact h.waiter hpc rfl rfl rfl rfl rfl rfl rfl (·.evUnlock)
  · -- wRet
    rename_i hpc
    cases hs
    exact h.ownMove hpc (fun _ => rfl) (fun _ => rfl) rfl rfl (eq_upd_self ..)
      (fun _ _ x => x) h.nodup rfl (·.leave rfl rfl)
  · -- uUnlink
    rename_i f a hpc
    split at hs
    · cases hs
      exact CI_setPc_neutral (CI_congr h rfl rfl rfl rfl rfl) (by rw [hpc]; exact ⟨rfl, fun _ => rfl⟩)
        ⟨rfl, fun _ => rfl⟩
    · rename_i w r hq
      cases hs
      have hw : w ∈ s.waitq := by rw [hq]; exact List.mem_cons_self
      have hnd := h.nodup
      rw [hq] at hnd
      exact unlink_CI h hpc hw (List.nodup_cons.mp hnd).2 (List.nodup_cons.mp hnd).1
        fun x hx => by rw [hq]; exact List.mem_cons_of_mem _ hx
  · -- sLock
    rename_i w f a hpc
    split at hs
    · rename_i hh
      cases hs
      have st : Sig w (s.pc t) = true := by rw [hpc]; simp [Sig]
      rw [touch_eq (h.signal_target st).1]
      exact h.sigMove hpc (by simp [Sig]) rfl (fun x hx => sig_ne (x := w) (by simp [Sig]) hx) rfl rfl
        (eq_upd_self ..) rfl rfl (·.setFlag hh)
    · cases hs
  · -- sNotify: the notify wakes the waiter if it sleeps; then the waker moves on
    rename_i w f a hpc
    cases hs
    have st : Sig w (s.pc t) = true := by rw [hpc]; simp [Sig]
    obtain ⟨hal, _, htw⟩ := h.signal_target st
    rw [touch_eq hal]
    have go : ∀ s2 : State, CI s2 → s2.pc t = .sNotify w f a → s2.pc w ≠ .wSleep →
        CI (setPc s2 t (.sUnlock w f a)) := fun s2 h2 hpc2 hsl2 =>
      h2.sigMove hpc2 (by simp [Sig]) rfl (fun x hx => sig_ne (x := w) (by simp [Sig]) hx) rfl
        (eq_upd_self ..) (eq_upd_self ..) rfl rfl (·.notify hsl2)
    split
    · rename_i hsl
      exact go _ (CI_setPc_wReacq h hsl) ((upd_other _ _ _ _ htw).trans hpc)
        fun x => by rw [show (setPc s w .wReacq).pc w = .wReacq from upd_same ..] at x; cases x
    · rename_i hsl; exact go s h hpc hsl
  · -- sUnlock
    rename_i w f a hpc
    cases hs
    have st : Sig w (s.pc t) = true := by rw [hpc]; simp [Sig]
    rw [touch_eq (h.signal_target st).1]
    have hq : ∀ s1 : State, InWait (afterSignal s1 f a) = false ∧ ∀ x, Sig x (afterSignal s1 f a) = false :=
      fun s1 => by unfold afterSignal; split <;> exact ⟨rfl, fun _ => rfl⟩
    exact h.sigMove hpc (by simp [Sig]) (hq _).1 (fun x _ => (hq _).2 x) rfl rfl (eq_upd_self ..) rfl rfl
      (·.release ((hq _).2 w))
  · -- uUnlock
    rename_i hpc
    cases hs
    have f := sysUnlock_frame s t
    exact CI_setPc_neutral (f.CI h) (by rw [f.pc, hpc]; exact ⟨rfl, fun _ => rfl⟩) ⟨rfl, fun _ => rfl⟩
  · -- qPost
    rename_i hpc
    cases hs
    exact CI_setPc_neutral (CI_congr h rfl rfl rfl rfl rfl) (by rw [hpc]; exact ⟨rfl, fun _ => rfl⟩)
      ⟨rfl, fun _ => rfl⟩

end Igris.C20
