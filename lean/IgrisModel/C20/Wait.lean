/-
  The invariant `CI` of the wait queue and the waiters' events (shipped code), stated through classes of
  program counters, and how those classes lie in one another.
-/
import IgrisModel.C20.Lemmas
namespace Igris.C20

/-- enqueued, has not yet seen its flag -/
def Waiting : PC → Bool
  | .wUnlock | .wEvLock | .wCv | .wSleep | .wReacq => true
  | _ => false
/-- between the enqueue and the destruction of the waiter: the event exists -/
def InWait : PC → Bool
  | .wUnlock | .wEvLock | .wCv | .wSleep | .wReacq | .wEvUnlock | .wRet => true
  | _ => false
/-- inside event::signal of waiter `w` -/
def Sig (w : Tid) : PC → Bool
  | .sLock w' _ _ | .sNotify w' _ _ | .sUnlock w' _ _ => w' == w
  | _ => false
/-- inside event::signal of waiter `w`, holding its mutex -/
def SigHold (w : Tid) : PC → Bool
  | .sNotify w' _ _ | .sUnlock w' _ _ => w' == w
  | _ => false
def IsSLock (w : Tid) : PC → Bool
  | .sLock w' _ _ => w' == w
  | _ => false
def IsSNotify (w : Tid) : PC → Bool
  | .sNotify w' _ _ => w' == w
  | _ => false
def IsSUnlock (w : Tid) : PC → Bool
  | .sUnlock w' _ _ => w' == w
  | _ => false
def HoldsOwn : PC → Bool
  | .wCv | .wEvUnlock => true
  | _ => false
def Seen : PC → Bool
  | .wEvUnlock | .wRet => true
  | _ => false

structure CI (s : State) : Prop where
  nodup : s.waitq.Nodup
  inq : ∀ w, w ∈ s.waitq → Waiting (s.pc w) = true ∧ (s.ev w).flag = false ∧ s.ulk w = false
  alive : ∀ w, InWait (s.pc w) = true → (s.ev w).alive = true
  sig : ∀ k w, Sig w (s.pc k) = true → k ≠ w ∧ Waiting (s.pc w) = true ∧ s.ulk w = true
  sigLock : ∀ k w, IsSLock w (s.pc k) = true → (s.ev w).flag = false
  sigHold : ∀ k w, SigHold w (s.pc k) = true → (s.ev w).holder = some k ∧ (s.ev w).flag = true
  sigUniq : ∀ k1 k2 w, Sig w (s.pc k1) = true → Sig w (s.pc k2) = true → k1 = k2
  holder : ∀ w h, InWait (s.pc w) = true → (s.ev w).holder = some h →
    (h = w ∧ HoldsOwn (s.pc w) = true) ∨ SigHold w (s.pc h) = true
  own : ∀ w, HoldsOwn (s.pc w) = true → (s.ev w).holder = some w
  seen : ∀ w, Seen (s.pc w) = true → (s.ev w).flag = true
  flagged : ∀ w, InWait (s.pc w) = true → (s.ev w).flag = true →
    s.ulk w = true ∧ ∀ k, IsSLock w (s.pc k) = false
  lostwake : ∀ w, InWait (s.pc w) = true → s.ulk w = true →
    (s.ev w).flag = true ∨ ∃ k, IsSLock w (s.pc k) = true
  sleepnotify : ∀ w, s.pc w = .wSleep → (s.ev w).flag = true → ∃ k, IsSNotify w (s.pc k) = true
  unl : ∀ k w, IsSUnlock w (s.pc k) = true → s.pc w ≠ .wSleep
  noUaf : s.uaf = false

theorem CI_init (prog q0) : CI (init prog q0) := by
  constructor <;> simp [init, Waiting, InWait, Sig, SigHold, IsSLock, IsSNotify, IsSUnlock, HoldsOwn, Seen]

theorem waiting_inwait (p : PC) : Waiting p = true → InWait p = true := by cases p <;> simp [Waiting, InWait]
theorem seen_inwait (p : PC) : Seen p = true → InWait p = true := by cases p <;> simp [Seen, InWait]
theorem seen_notwaiting (p : PC) : Seen p = true → Waiting p = false := by cases p <;> simp [Seen, Waiting]
theorem sighold_sig (w) (p : PC) : SigHold w p = true → Sig w p = true := by cases p <;> simp [SigHold, Sig]
theorem sig_cases (w) (p : PC) : Sig w p = true → IsSLock w p = true ∨ SigHold w p = true := by
  cases p <;> simp [SigHold, IsSLock, Sig]
theorem slock_sig (w) (p : PC) : IsSLock w p = true → Sig w p = true := by cases p <;> simp [IsSLock, Sig]
theorem slock_nothold (w w') (p : PC) : IsSLock w p = true → SigHold w' p = true → False := by cases p <;> simp [IsSLock, SigHold]
theorem snotify_hold (w) (p : PC) : IsSNotify w p = true → SigHold w p = true := by cases p <;> simp [IsSNotify, SigHold]
theorem sunlock_hold (w) (p : PC) : IsSUnlock w p = true → SigHold w p = true := by cases p <;> simp [IsSUnlock, SigHold]
theorem snotify_notunlock (w w') (p : PC) : IsSNotify w p = true → IsSUnlock w' p = true → False := by cases p <;> simp [IsSNotify, IsSUnlock]
theorem sig_notinwait (w) (p : PC) : Sig w p = true → InWait p = false := by cases p <;> simp [Sig, InWait]
theorem sig_fun (w w') (p : PC) : Sig w p = true → Sig w' p = true → w = w' := by
  cases p <;> simp [Sig] <;> intro h1 h2 <;> rw [← h1, ← h2]
theorem sunlock_sig (w) (p : PC) : IsSUnlock w p = true → Sig w p = true := by cases p <;> simp [IsSUnlock, Sig]
theorem sleep_waiting : Waiting .wSleep = true := rfl
theorem sleep_inwait : InWait .wSleep = true := rfl
theorem sleep_sig (w) : Sig w .wSleep = false := rfl

theorem CI.not_mem_waitq {s : State} (h : CI s) {t : Tid} (hp : Waiting (s.pc t) = false) : t ∉ s.waitq :=
  fun x => by rw [(h.inq t x).1] at hp; cases hp

theorem CI.seen_unlinked {s : State} (h : CI s) {w : Tid} (hw : Seen (s.pc w) = true) :
    (s.ev w).flag = true ∧ s.ulk w = true :=
  ⟨h.seen w hw, (h.flagged w (seen_inwait _ hw) (h.seen w hw)).1⟩

theorem CI.signal_target {s : State} (h : CI s) {k w : Tid} (hk : Sig w (s.pc k) = true) :
    (s.ev w).alive = true ∧ Waiting (s.pc w) = true ∧ k ≠ w :=
  have a := h.sig k w hk
  ⟨h.alive w (waiting_inwait _ a.2.1), a.2.1, a.1⟩

theorem CI.no_lost_wakeup {s : State} (h : CI s) {w : Tid} (hw : InWait (s.pc w) = true) :
    (w ∈ s.waitq ∨ s.ulk w = true →
      (w ∈ s.waitq ∧ s.ulk w = false) ∨ (s.ev w).flag = true ∨ ∃ k, IsSLock w (s.pc k) = true) ∧
    (s.pc w = .wSleep → (s.ev w).flag = true → ∃ k, IsSNotify w (s.pc k) = true) :=
  ⟨fun hq => hq.elim (fun hq => .inl ⟨hq, (h.inq w hq).2.2⟩) fun hq => .inr (h.lostwake w hw hq),
   h.sleepnotify w⟩

end Igris.C20
