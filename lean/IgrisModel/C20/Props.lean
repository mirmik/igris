/-
  `Reach prog q0 s`: `s` is reachable by the shipped code (`step false`) from the initial state, for
  ANY thread programs `prog : Tid → List Op` (any number of threads) and ANY schedule.
-/
import IgrisModel.C20.Order
import IgrisModel.C20.EventLemmas
import IgrisModel.C20.SafeQLemmas
import IgrisModel.C20.AnyOrder
namespace Igris.C20

/-- the thread-local counts mirror the recursive mutex: the owner's count is the
    mutex depth (≥ 1), everybody else's count is 0, a free mutex has depth 0 -/
theorem mutex_inv {prog q0 s} (h : Reach prog q0 s) :
    (s.owner = none → s.depth = 0) ∧
    (∀ t, s.owner = some t → s.count t = (s.depth : Int) ∧ 0 < s.depth) ∧
    (∀ t, s.owner ≠ some t → s.count t = 0) :=
  ⟨(reach_MI h).free, (reach_MI h).own, (reach_MI h).other⟩

/-- mutual exclusion: two threads never both hold the system lock -/
theorem mutual_exclusion {prog q0 s} (h : Reach prog q0 s) (t u : Tid)
    (ht : 0 < s.count t) (hu : 0 < s.count u) : t = u :=
  (reach_MI h).exclusive ht hu
example : ∃ s, Reach (fun t => if t = 0 then [.lock] else []) [] s ∧ 0 < s.count 0 :=
  ⟨_, Reach.step Reach.init (t := 0) rfl, by decide⟩

/-- re-entrancy: the owner's system_lock never blocks; anybody else's does -/
theorem reentrant {prog q0 s} (_h : Reach prog q0 s) (t : Tid) (ho : s.owner = some t) :
    (sysLock s t).isSome ∧ ∀ u, u ≠ t → sysLock s u = none := by
  constructor
  · simp [sysLock, ho]
  · exact fun u => sysLock_eq_none ho

/-- released exactly when every nested acquisition has been undone -/
theorem release_at_depth_zero {prog q0 s} (h : Reach prog q0 s) (t : Tid) (ho : s.owner = some t) :
    ((sysUnlock s t).owner = none ↔ s.count t = 1) ∧
    ((sysUnlock s t).owner = some t ↔ 1 < s.count t) := by
  have hm := (reach_MI h).own t ho
  simp only [sysUnlock, ho, if_true, mtxUnlock]
  by_cases h1 : s.depth - 1 = 0
  · simp [h1]; omega
  · simp [h1]; omega

/-- system_lock_save releases every level and leaves the count at 0 (repaired) -/
theorem save_releases_all {prog q0 s} (h : Reach prog q0 s) (t : Tid) (ho : s.owner = some t) :
    (sysSave false s t).owner = none ∧ (sysSave false s t).depth = 0 ∧
    (sysSave false s t).count t = 0 ∧ (sysSave false s t).saved t = s.count t := by
  rw [sysSave_eq (reach_MI h) ho]
  exact ⟨rfl, rfl, upd_same .., upd_same ..⟩

/-- the code before the repair left count = -1 (kernel-checked run) -/
theorem save_old_witness :
    (runSched true (init (fun t => if t = 0 then [.lock, .save] else []) []) [0, 0]).count 0 = -1 := by
  decide

/-- system_lock_restore by a thread that holds nothing, on a free lock: the thread owns the lock again
    with exactly the saved count as count and depth -/
theorem restore_gives_back {prog q0 s s'} (_h : Reach prog q0 s) (t : Tid)
    (hfree : s.owner = none) (hc : s.count t = 0) (hs : 0 < s.saved t)
    (hr : sysRestore s t = some s') :
    s'.owner = some t ∧ s'.count t = s.saved t ∧ (s'.depth : Int) = s.saved t := by
  simp [sysRestore, hfree, hc, hs] at hr
  subst hr
  simp; omega

/-- the waker never touches a waiter's event after the waiter destroyed it —
    for every program, every number of threads, every schedule -/
theorem no_touch_after_destroy {prog q0 s} (h : Reach prog q0 s) : s.uaf = false :=
  (reach_CI h).noUaf

/-- while some thread is anywhere inside event::signal of waiter `w`, `w` is still
    inside wait_current_schedee before having seen its flag: the event is alive -/
theorem signal_target_alive {prog q0 s} (h : Reach prog q0 s) (k w : Tid)
    (hk : Sig w (s.pc k) = true) :
    (s.ev w).alive = true ∧ Waiting (s.pc w) = true ∧ k ≠ w :=
  (reach_CI h).signal_target hk

/-- the code before the repair: unlock, then notify — the waiter can leave and
    destroy the event in between (kernel-checked 12-step schedule) -/
theorem no_touch_after_destroy_old_witness :
    (runSched true (init (fun t => if t = 0 then [.wait false] else if t = 1 then [.unwaitOne 5] else []) [])
      [0, 0, 0, 1, 1, 1, 1, 0, 0, 0, 0, 1]).uaf = true := by
  decide
/-- the same schedule on the shipped code -/
example :
    (runSched false (init (fun t => if t = 0 then [.wait false] else if t = 1 then [.unwaitOne 5] else []) [])
      [0, 0, 0, 1, 1, 1, 1, 0, 0, 0, 0, 1]).uaf = false := by
  decide

/-- no spurious wake-up: a thread that has seen its flag (is leaving event.wait /
    wait_current_schedee) was unlinked by an unwait since it enqueued itself -/
theorem no_spurious_wakeup {prog q0 s} (h : Reach prog q0 s) (w : Tid)
    (hw : Seen (s.pc w) = true) : (s.ev w).flag = true ∧ s.ulk w = true :=
  (reach_CI h).seen_unlinked hw

/-- no lost wake-up (safety form): a waiter that an unwait has unlinked either has
    its flag set, or the waker is still on its way to set it; a thread in the queue
    has not been unlinked; a flagged sleeper always has its notify still to come -/
theorem no_lost_wakeup {prog q0 s} (h : Reach prog q0 s) (w : Tid) (hw : InWait (s.pc w) = true) :
    (w ∈ s.waitq ∨ s.ulk w = true →
      (w ∈ s.waitq ∧ s.ulk w = false) ∨ (s.ev w).flag = true ∨ ∃ k, IsSLock w (s.pc k) = true) ∧
    (s.pc w = .wSleep → (s.ev w).flag = true → ∃ k, IsSNotify w (s.pc k) = true) :=
  (reach_CI h).no_lost_wakeup hw

/-- once the flag is set the waiter's flag test does not block -/
theorem flag_set_wait_passes (s : State) (t : Tid) (hpc : s.pc t = .wCv) (hf : (s.ev t).flag = true) :
    ∃ s', step false s t = some s' ∧ s'.pc t = .wEvUnlock := by
  simp [step, hpc, hf, setPc]

/-- the wait queue never holds a thread twice; its members are waiting, unflagged
    and not yet unlinked -/
theorem waitq_wellformed {prog q0 s} (h : Reach prog q0 s) :
    s.waitq.Nodup ∧ ∀ w, w ∈ s.waitq → Waiting (s.pc w) = true ∧ (s.ev w).flag = false ∧ s.ulk w = false :=
  ⟨(reach_CI h).nodup, (reach_CI h).inq⟩

/-- exactly one waker per unlinked waiter -/
theorem one_waker_per_waiter {prog q0 s} (h : Reach prog q0 s) (k1 k2 w : Tid)
    (h1 : Sig w (s.pc k1) = true) (h2 : Sig w (s.pc k2) = true) : k1 = k2 :=
  (reach_CI h).sigUniq k1 k2 w h1 h2

/-- unwait_one unlinks exactly the head of the queue and nobody else -/
theorem unwait_unlinks_head (s : State) (t : Tid) (f : Int) (a : Bool) (w : Tid) (r : List Tid)
    (hpc : s.pc t = .uUnlink f a) (hq : s.waitq = w :: r) :
    ∃ s', step false s t = some s' ∧ s'.waitq = r ∧ s'.ulk w = true ∧ s'.fut w = f ∧
      ∀ u, u ≠ w → s'.ulk u = s.ulk u := by
  refine ⟨_, by simp [step, hpc, hq]; rfl, ?_⟩
  simp [setPc]
  intro u hu; simp [upd, hu]

/-- the event mutex: whoever holds it is the waiter itself (testing its flag) or
    the one waker inside signal -/
theorem event_mutex_holder {prog q0 s} (h : Reach prog q0 s) (w hd : Tid)
    (hw : InWait (s.pc w) = true) (hh : (s.ev w).holder = some hd) :
    (hd = w ∧ HoldsOwn (s.pc w) = true) ∨ SigHold w (s.pc hd) = true :=
  (reach_CI h).holder w hd hw hh

/-- FIFO linearisation of safe_queue: everything ever pushed = everything popped so far, in
    the same order, followed by the present content: nothing lost, duplicated
    or reordered -/
theorem queue_fifo {prog q0 s} (h : Reach prog q0 s) : s.pushed = s.popped ++ s.queue :=
  reach_QI h

theorem popped_prefix {prog q0 s} (h : Reach prog q0 s) : s.popped <+: s.pushed := by
  rw [queue_fifo h]; exact List.prefix_append _ _

/-- per-producer order: the items of one producer come out in the order pushed -/
theorem per_producer_order {prog q0 s} (h : Reach prog q0 s) (p : Tid) :
    (s.popped.filter (·.1 = p)) <+: (s.pushed.filter (·.1 = p)) :=
  (popped_prefix h).filter _

/-! ## every schedule INCLUDING spurious returns of the condition-variable wait

`ReachS`: besides "thread t runs to its next synchronisation point" the
scheduler may at any moment let the `pthread_cond_wait` of a sleeping waiter
return although nobody notified (`Act.spur`, POSIX permits it).  Everything
above holds on this larger set of schedules. -/

theorem reach_is_reachS {prog q0 s} (h : Reach prog q0 s) : ReachS prog q0 s := h.reachS

/-- non-vacuity: a state that only a spurious return reaches (the waiter stands
    at the re-acquisition of its mutex although no unwait ran) -/
example : ∃ s, ReachS (fun t => if t = 0 then [.wait false] else []) [] s ∧ s.pc 0 = .wReacq ∧ s.ulk 0 = false :=
  ⟨runActs false (init (fun t => if t = 0 then [.wait false] else []) [])
      [.run 0, .run 0, .run 0, .run 0, .run 0, .spur 0],
   .act (a := .spur 0) (.act (a := .run 0) (.act (a := .run 0) (.act (a := .run 0) (.act (a := .run 0)
     (.act (a := .run 0) .init rfl) rfl) rfl) rfl) rfl) rfl, by decide, by decide⟩

theorem mutex_inv_spur {prog q0 s} (h : ReachS prog q0 s) :
    (s.owner = none → s.depth = 0) ∧
    (∀ t, s.owner = some t → s.count t = (s.depth : Int) ∧ 0 < s.depth) ∧
    (∀ t, s.owner ≠ some t → s.count t = 0) :=
  ⟨(reachS_MI h).free, (reachS_MI h).own, (reachS_MI h).other⟩

theorem mutual_exclusion_spur {prog q0 s} (h : ReachS prog q0 s) (t u : Tid)
    (ht : 0 < s.count t) (hu : 0 < s.count u) : t = u :=
  (reachS_MI h).exclusive ht hu

/-- the waker never touches a destroyed event — also when waiters wake spuriously -/
theorem no_touch_after_destroy_spur {prog q0 s} (h : ReachS prog q0 s) : s.uaf = false :=
  (reachS_CI h).noUaf

theorem signal_target_alive_spur {prog q0 s} (h : ReachS prog q0 s) (k w : Tid)
    (hk : Sig w (s.pc k) = true) :
    (s.ev w).alive = true ∧ Waiting (s.pc w) = true ∧ k ≠ w :=
  (reachS_CI h).signal_target hk

/-- THE clause "nobody is woken spuriously" against an adversarial condition
    variable: a parked thread leaves event.wait / wait_current_schedee only after
    its own unwait — whatever spurious returns the scheduler injects -/
theorem leaves_only_after_own_unwait {prog q0 s} (h : ReachS prog q0 s) (w : Tid)
    (hw : Seen (s.pc w) = true) : (s.ev w).flag = true ∧ s.ulk w = true :=
  (reachS_CI h).seen_unlinked hw

/-- the predicate loop: a waiter that woke (spuriously or not) while no unwait has
    unlinked it finds its flag clear and goes back to sleep -/
theorem spurious_return_sleeps_again {prog q0 s} (h : ReachS prog q0 s) (w : Tid)
    (hpc : s.pc w = .wReacq) (hu : s.ulk w = false) (hfree : (s.ev w).holder = none) :
    ∃ s', step false s w = some s' ∧ s'.pc w = .wSleep ∧ s'.obs w = s.obs w := by
  have hc := reachS_CI h
  have hf : (s.ev w).flag = false := by
    cases hfl : (s.ev w).flag with
    | false => rfl
    | true =>
      have := (hc.flagged w (by rw [hpc]; rfl) hfl).1
      rw [hu] at this; cases this
  exact ⟨setPc s w .wSleep, by simp [step, hpc, hfree, hf], by simp [setPc], rfl⟩

/-- the hand-made break `if (!m_bFlag) m_condition.wait(_lock);` (no re-test after
    the condition variable returned): one spurious return lets a waiter leave
    although nobody unlinked it (kernel-checked 7-action schedule) -/
theorem if_variant_witness :
    let s := runActsIf (init (fun t => if t = 0 then [.wait false] else []) [])
      [.run 0, .run 0, .run 0, .run 0, .run 0, .spur 0, .run 0]
    Seen (s.pc 0) = true ∧ (s.ev 0).flag = false ∧ s.ulk 0 = false ∧ 0 ∈ s.waitq := by
  decide
/-- the same schedule on the shipped code: the waiter sleeps again -/
example :
    (runActs false (init (fun t => if t = 0 then [.wait false] else []) [])
      [.run 0, .run 0, .run 0, .run 0, .run 0, .spur 0, .run 0]).pc 0 = .wSleep := by
  decide

theorem no_lost_wakeup_spur {prog q0 s} (h : ReachS prog q0 s) (w : Tid) (hw : InWait (s.pc w) = true) :
    (w ∈ s.waitq ∨ s.ulk w = true →
      (w ∈ s.waitq ∧ s.ulk w = false) ∨ (s.ev w).flag = true ∨ ∃ k, IsSLock w (s.pc k) = true) ∧
    (s.pc w = .wSleep → (s.ev w).flag = true → ∃ k, IsSNotify w (s.pc k) = true) :=
  (reachS_CI h).no_lost_wakeup hw

theorem waitq_wellformed_spur {prog q0 s} (h : ReachS prog q0 s) :
    s.waitq.Nodup ∧ ∀ w, w ∈ s.waitq → Waiting (s.pc w) = true ∧ (s.ev w).flag = false ∧ s.ulk w = false :=
  ⟨(reachS_CI h).nodup, (reachS_CI h).inq⟩

theorem one_waker_per_waiter_spur {prog q0 s} (h : ReachS prog q0 s) (k1 k2 w : Tid)
    (h1 : Sig w (s.pc k1) = true) (h2 : Sig w (s.pc k2) = true) : k1 = k2 :=
  (reachS_CI h).sigUniq k1 k2 w h1 h2

theorem event_mutex_holder_spur {prog q0 s} (h : ReachS prog q0 s) (w hd : Tid)
    (hw : InWait (s.pc w) = true) (hh : (s.ev w).holder = some hd) :
    (hd = w ∧ HoldsOwn (s.pc w) = true) ∨ SigHold w (s.pc hd) = true :=
  (reachS_CI h).holder w hd hw hh

theorem queue_fifo_spur {prog q0 s} (h : ReachS prog q0 s) : s.pushed = s.popped ++ s.queue :=
  reachS_QI h

/-! ### the ORDER of the wait queue (every schedule, with spurious returns) -/

/-- the wait queue is always sorted in service order: priority waiters first,
    newest first (`move_front`); then the ordinary waiters, oldest first (`move_back`) -/
theorem waitq_order {prog q0 s} (h : ReachS prog q0 s) : s.waitq.Pairwise (Before s) :=
  (reachS_OQ h).sorted

/-- whom `unwait_one` wakes (the head, `unwait_unlinks_head`): when no prioritised
    waiter is queued it is the LONGEST WAITING thread (strictly smallest enqueue
    stamp) and nobody else in the queue is prioritised; otherwise it is a
    prioritised one, the one that enqueued last among the prioritised -/
theorem unwait_one_wakes_longest_waiting_or_prioritised {prog q0 s} (h : ReachS prog q0 s)
    (w : Tid) (r : List Tid) (hq : s.waitq = w :: r) :
    (s.prio w = false → ∀ u, u ∈ r → s.prio u = false ∧ s.stamp w < s.stamp u) ∧
    (∀ u, u ∈ r → s.prio u = true → s.prio w = true ∧ s.stamp u < s.stamp w) := by
  have hs := waitq_order h
  rw [hq, List.pairwise_cons] at hs
  exact ⟨fun hp u hu => (hs.1 u hu).ordinary hp, fun u hu hp => (hs.1 u hu).prioritised hp⟩
example : ∃ s, ReachS (fun t => if t = 0 then [.wait false] else []) [] s ∧ s.waitq = [0] :=
  ⟨_, .act (a := .run 0) (.act (a := .run 0) .init rfl) rfl, by decide⟩

/-- FIFO among ordinary (priority 0) waiters: of two queued ordinary waiters the
    one in front enqueued earlier; and every queued prioritised waiter stands in
    front of every ordinary one -/
theorem fifo_among_equal_priority_partial {prog q0 s} (h : ReachS prog q0 s)
    (l1 l2 : List Tid) (a b : Tid) (hq : s.waitq = l1 ++ a :: l2) (hb : b ∈ l2) :
    (s.prio a = false → s.prio b = false ∧ s.stamp a < s.stamp b) ∧
    (s.prio b = true → s.prio a = true) := by
  have hs := waitq_order h
  rw [hq, List.pairwise_append, List.pairwise_cons] at hs
  have hab := hs.2.1.1 b hb
  exact ⟨fun hp => hab.ordinary hp, fun hp => (hab.prioritised hp).1⟩

/-- full FIFO among EQUAL priority does not hold for priority 1 (as built:
    `move_front`): of two prioritised waiters the LATER one is served first -/
theorem fifo_among_prioritised_witness :
    let s := runSched false (init (fun t => if t = 0 then [.wait true] else if t = 1 then [.wait true] else []) [])
      [0, 0, 0, 1, 1]
    s.waitq = [1, 0] ∧ s.stamp 0 < s.stamp 1 := by
  decide

/-- stamps are a faithful clock: every queued waiter enqueued before now -/
theorem waitq_stamps_fresh {prog q0 s} (h : ReachS prog q0 s) (w : Tid) (hw : w ∈ s.waitq) :
    s.stamp w < s.clock :=
  (reachS_OQ h).fresh w hw

/-- binary semaphore as a mutex: the counter never exceeds 1, at most one thread
    is between `sem.wait()` and `sem.post()`, and the counter is 1 exactly when
    nobody is -/
theorem queue_semaphore_is_mutex {prog q0 s} (h : ReachS prog q0 s) :
    s.sem ≤ 1 ∧ (∀ t u, s.pc t = .qPost → s.pc u = .qPost → t = u) ∧
    (s.sem = 1 ↔ ∀ t, s.pc t ≠ .qPost) := by
  rcases reachS_SI h with ⟨a, b⟩ | ⟨a, k, b, c⟩
  · exact ⟨by omega, fun t _ ht _ => absurd ht (b t), fun _ => b, fun _ => a⟩
  · refine ⟨by omega, fun t u ht hu => (c t ht).trans (c u hu).symm, fun e => by omega, fun e => absurd b (e k)⟩

/-- every pushed item is popped exactly once: the i-th pop returns the i-th push
    (with its producer), for every i — so no item is popped twice or skipped —
    and when the queue is empty everything pushed has been popped -/
theorem pop_is_ith_push {prog q0 s} (h : ReachS prog q0 s) :
    (∀ i, i < s.popped.length → s.popped[i]? = s.pushed[i]?) ∧
    (s.queue = [] → s.popped = s.pushed) ∧
    s.pushed.length = s.popped.length + s.queue.length := by
  have hq := queue_fifo_spur h
  refine ⟨fun i hi => ?_, fun e => ?_, ?_⟩
  · rw [hq, List.getElem?_append_left hi]
  · rw [hq, e, List.append_nil]
  · rw [hq, List.length_append]

theorem per_producer_order_spur {prog q0 s} (h : ReachS prog q0 s) (p : Tid) :
    (s.popped.filter (·.1 = p)) <+: (s.pushed.filter (·.1 = p)) :=
  List.IsPrefix.filter _ ⟨_, (queue_fifo_spur h).symm⟩

/-! ## the shared event (wait / wait(timeout) / signal / reset / isset) and the semaphore

`Ev.Reach prog s`: ONE `igris::event` and ONE `igris::semaphore(1)` shared by any
number of threads running any programs, under every schedule of thread steps,
spurious condition-variable returns and time-outs of timed waits. -/

/-- the event's mutex: held exactly by the thread inside a critical section of
    wait / signal / reset, hence by at most one -/
theorem event_mutex_exclusive {prog s} (h : Ev.Reach prog s) (t u : Ev.Tid)
    (ht : Ev.Holds (s.pc t) = true) (hu : Ev.Holds (s.pc u) = true) :
    t = u ∧ s.holder = some t := by
  have hi := Ev.reach_EI h
  have a := (hi.hold t).mp ht
  have b := (hi.hold u).mp hu
  rw [a] at b
  exact ⟨Option.some.inj b, a⟩

/-- what a wait is about to return is the flag at that moment (it holds the
    mutex): `wait()` — without time-out — only ever returns with the event SET,
    whatever spurious returns happen; `wait(timeout)` returns false only while
    the event is clear -/
theorem event_wait_result_is_flag {prog s} (h : Ev.Reach prog s) (t : Ev.Tid) (timed r : Bool)
    (hpc : s.pc t = .unlock timed r) :
    s.flag = r ∧ (timed = false → r = true) ∧ s.holder = some t := by
  have hi := Ev.reach_EI h
  refine ⟨hi.ret t timed r hpc, ?_, (hi.hold t).mp (by rw [hpc]; rfl)⟩
  intro e; subst e; exact hi.plain t r hpc
example : ∃ s, Ev.Reach (fun t => if t = 0 then [.wait] else if t = 1 then [.signal] else []) s ∧
    s.pc 0 = .unlock false true :=
  ⟨_, Ev.reach_runActs .init [.run 0, .run 0, .spur 0, .run 1, .run 1, .run 1, .run 0], by decide⟩
example : ∃ s, Ev.Reach (fun t => if t = 0 then [.waitFor false] else []) s ∧ s.pc 0 = .unlock true false :=
  ⟨_, Ev.reach_runActs .init [.run 0, .run 0, .timeout 0, .run 0], by decide⟩

/-- no lost wake-up on the shared event: while the flag is set, every thread
    asleep in the condition variable has its notify_all still to come (and the
    thread about to notify holds the event mutex) -/
theorem event_no_lost_wakeup {prog s} (h : Ev.Reach prog s) (t : Ev.Tid)
    (hs : Ev.IsSleep (s.pc t) = true) (hf : s.flag = true) :
    ∃ k, Ev.IsNotify (s.pc k) = true ∧ s.holder = some k := by
  have hi := Ev.reach_EI h
  obtain ⟨k, hk⟩ := hi.sleepnotify t hs hf
  exact ⟨k, hk, (hi.hold k).mp (Ev.notify_holds _ hk)⟩

/-- notify_all leaves nobody asleep -/
theorem event_notify_wakes_all (s : Ev.EState) (t : Ev.Tid) (r : Bool) (hpc : s.pc t = .gNotify r) :
    ∃ s', Ev.step s t = some s' ∧ ∀ u, Ev.IsSleep (s'.pc u) = false := by
  refine ⟨_, by simp [Ev.step, hpc]; rfl, ?_⟩
  intro u
  simp only [Ev.upd]
  split
  · rfl
  · exact Ev.sleep_wake _

/-- signal() sets the flag and reports whether it was clear; reset() clears it
    and reports whether it was set (both under the mutex) -/
theorem event_signal_reset_results (s : Ev.EState) (t : Ev.Tid) (rest : List Ev.EOp)
    (hpc : s.pc t = .idle) (hfree : s.holder = none) :
    (s.prog t = .signal :: rest → ∃ s', Ev.step s t = some s' ∧ s'.flag = true ∧ s'.pc t = .gNotify (!s.flag)) ∧
    (s.prog t = .reset :: rest → ∃ s', Ev.step s t = some s' ∧ s'.flag = false ∧ s'.pc t = .rUnlock s.flag) := by
  constructor <;> intro hp <;> simp [Ev.step, hpc, hp, Ev.stepIdle, hfree, Ev.upd]

/-- semaphore accounting: value + successful waits = initial value + posts;
    `wait` blocks exactly at 0, `trywait` never blocks -/
theorem semaphore_accounting {prog s} (h : Ev.Reach prog s) (t : Ev.Tid) (rest : List Ev.EOp) :
    s.sv + s.takes = 1 + s.posts ∧
    ((Ev.stepIdle s t .sWait rest).isNone ↔ s.sv = 0) ∧ (Ev.stepIdle s t .sTry rest).isSome := by
  refine ⟨(Ev.reach_EI h).acct, ?_, ?_⟩
  · simp only [Ev.stepIdle]; split <;> simp <;> omega
  · simp only [Ev.stepIdle]; split <;> simp

/-! ## safe_queue at the grain of its real steps: FIFO FROM the semaphore's exclusion

`SQ.Reach`: sem.wait / start of the container operation (snapshot) / end of the
operation (write-back) / sem.post are separate steps; a container operation is
NOT atomic (two overlapping operations lose an update).  Any number of
producers / consumers, any programs, every schedule. -/

/-- the semaphore is a binary mutex: `sem ≤ 1`, at most one thread between
    `sem.wait()` and `sem.post()`, `sem = 1` exactly when nobody is -/
theorem safe_queue_critical_sections_exclusive {prog q0 s} (h : SQ.Reach prog q0 s) :
    s.sem ≤ 1 ∧ (∀ t u, SQ.InCS (s.pc t) = true → SQ.InCS (s.pc u) = true → t = u) ∧
    (s.sem = 1 ↔ ∀ t, SQ.InCS (s.pc t) = false) := by
  rcases (SQ.reach_QI h).excl with ⟨a, b⟩ | ⟨a, k, b, c⟩
  · refine ⟨by omega, fun t _ ht _ => ?_, fun _ => b, fun _ => a⟩
    rw [b t] at ht; cases ht
  · refine ⟨by omega, fun t u ht hu => (c t ht).trans (c u hu).symm, fun e => by omega, fun e => ?_⟩
    rw [e k] at b; cases b

/-- … therefore a running container operation always works on the CURRENT
    content, and the content is the FIFO of the history: everything pushed =
    everything popped, in order, followed by the content (nothing lost,
    duplicated or reordered); per-producer order -/
theorem safe_queue_fifo_from_exclusion {prog q0 s} (h : SQ.Reach prog q0 s) :
    (∀ t op sn, s.pc t = .mid op sn → sn = s.queue) ∧
    s.pushed = s.popped ++ s.queue ∧
    (∀ p, (s.popped.filter (·.1 = p)) <+: (s.pushed.filter (·.1 = p))) := by
  have hq := SQ.reach_QI h
  exact ⟨hq.snap, hq.fifo, fun p => List.IsPrefix.filter _ ⟨_, hq.fifo.symm⟩⟩
example : ∃ s, SQ.Reach (fun t => if t = 0 then [.push 1] else []) [] s ∧ s.pc 0 = .mid (.push 1) [] :=
  ⟨_, .step (t := 0) (.step (t := 0) .init rfl) rfl, by decide⟩

/-- WITHOUT the semaphore the same code loses an item: two pushes overlap (both
    inside the container operation at once), the second write-back overwrites
    the first (kernel-checked 6-step schedule); with the semaphore the same
    schedule keeps both -/
theorem safe_queue_without_semaphore_witness :
    let prog : SQ.Tid → List SQ.QOp := fun t => if t = 0 then [.push 1] else if t = 1 then [.push 2] else []
    let mid := SQ.runSched false (SQ.init prog []) [0, 1, 0, 1]
    let s := SQ.runSched false (SQ.init prog []) [0, 1, 0, 1, 0, 1]
    (SQ.InCS (mid.pc 0) = true ∧ SQ.InCS (mid.pc 1) = true) ∧
    s.pushed = [(0, 1), (1, 2)] ∧ s.queue = [(1, 2)] ∧ s.pushed ≠ s.popped ++ s.queue := by
  decide
example :
    let prog : SQ.Tid → List SQ.QOp := fun t => if t = 0 then [.push 1] else if t = 1 then [.push 2] else []
    (SQ.runSched true (SQ.init prog []) [0, 1, 0, 1, 0, 1, 0, 1, 1, 1, 1]).queue = [(0, 1), (1, 2)] := by
  decide

/-! ## system lock: statements over histories -/

/-- `k` consecutive system_unlock calls of thread `t` -/
def unlockN (t : Tid) : Nat → State → State
  | 0, s => s
  | k + 1, s => unlockN t k (sysUnlock s t)

theorem unlockN_spec (t : Tid) : ∀ (k : Nat) (s : State), MI s → s.owner = some t → k ≤ s.depth →
    MI (unlockN t k s) ∧ (unlockN t k s).depth = s.depth - k ∧
    (unlockN t k s).owner = (if k = s.depth then none else some t) := by
  intro k
  induction k with
  | zero =>
    intro s hm ho _
    have := (hm.own t ho).2
    exact ⟨hm, rfl, by rw [if_neg (by omega)]; exact ho⟩
  | succ k ih =>
    intro s hm ho hk
    have hd := (hm.own t ho).2
    have hm1 : MI (sysUnlock s t) := sysUnlock_MI hm
    have hdep : (sysUnlock s t).depth = s.depth - 1 := by simp [sysUnlock, ho, mtxUnlock]
    have ho1 : (sysUnlock s t).owner = if s.depth - 1 = 0 then none else some t := by
      simp [sysUnlock, ho, mtxUnlock]
    simp only [unlockN]
    by_cases h1 : s.depth - 1 = 0
    · -- the last level
      have hk0 : k = 0 := by omega
      subst hk0
      exact ⟨hm1, by simp only [unlockN]; omega, by simp only [unlockN]; rw [ho1, if_pos h1, if_pos (by omega)]⟩
    · rw [if_neg h1] at ho1
      obtain ⟨a, b, c⟩ := ih (sysUnlock s t) hm1 ho1 (by omega)
      exact ⟨a, by omega, by
        rw [c, hdep]; simp only [show (k = s.depth - 1) = (k + 1 = s.depth) from propext (by omega)]⟩

/-- released only when EVERY nested acquisition has been undone, as a statement
    about histories: in any reachable state (any schedule prefix, with spurious
    returns) in which thread `t` holds the system lock at depth `d`, after any
    `k < d` of its unlocks the lock is still its own and every other thread's
    `system_lock` blocks, and after exactly `d` unlocks the lock is free and any
    thread can take it -/
theorem needs_exactly_depth_unlocks {prog q0 s} (h : ReachS prog q0 s) (t : Tid)
    (ho : s.owner = some t) (k : Nat) (hk : k ≤ s.depth) :
    (k < s.depth → (unlockN t k s).owner = some t ∧ ∀ u, u ≠ t → sysLock (unlockN t k s) u = none) ∧
    (k = s.depth → (unlockN t k s).owner = none ∧ ∀ u, (sysLock (unlockN t k s) u).isSome) := by
  obtain ⟨_, _, c⟩ := unlockN_spec t k s (reachS_MI h) ho hk
  constructor
  · intro hlt
    have : ¬ (k = s.depth) := by omega
    simp only [this, if_false] at c
    exact ⟨c, fun u => sysLock_eq_none c⟩
  · intro he
    rw [if_pos he] at c
    refine ⟨c, fun u => ?_⟩
    simp [sysLock, c]
example : ∃ s, ReachS (fun t => if t = 0 then [.lock, .lock, .lock] else []) [] s ∧ s.owner = some 0 ∧ s.depth = 3 :=
  ⟨_, .act (a := .run 0) (.act (a := .run 0) (.act (a := .run 0) .init rfl) rfl) rfl, by decide, by decide⟩

/-- after system_lock_save the preconditions of system_lock_restore hold, and the
    restore gives back exactly the depth and count the thread had: save ; restore
    is the identity on (owner, depth, count t) from every reachable state in which
    `t` owns the lock -/
theorem save_then_restore {prog q0 s} (h : ReachS prog q0 s) (t : Tid) (ho : s.owner = some t) :
    ∃ s', sysRestore (sysSave false s t) t = some s' ∧
      s'.owner = some t ∧ s'.depth = s.depth ∧ s'.count t = s.count t ∧ s'.fault = s.fault := by
  have hm := reachS_MI h
  obtain ⟨hc, hd⟩ := hm.own t ho
  rw [sysSave_eq hm ho]
  simp [sysRestore, hc, hd]

/-! ## the enqueue as a list function; which steps touch the wait queue -/

/-- the enqueue step of wait_current_schedee IS the list function `enq`
    (`move_front` for a prioritised waiter, `move_back` otherwise) -/
theorem enqueue_step_is_enq {s s' : State} {t : Tid} {p : Bool} (hpc : s.pc t = .wEnq p)
    (hs : step false s t = some s') : s'.waitq = enq s.waitq (t, p) := by
  simp only [step, hpc] at hs
  cases hs
  simp [enq, setPc]

/-- "the longest waiting, or the prioritised one", closed form for EVERY arrival
    sequence (any number of waiters, any combination of priorities): after the
    waiters `arr` (thread, prioritised?) have enqueued in this order the queue is
    the prioritised ones, newest first, followed by the ordinary ones in arrival
    order -/
theorem wait_queue_is_priority_then_fifo (arr : List (Tid × Bool)) :
    arr.foldl enq [] =
      ((arr.filter (fun a => a.2)).reverse.map (·.1)) ++ ((arr.filter (fun a => !a.2)).map (·.1)) := by
  simpa using enq_foldl arr []

/-- whom the next unwait_one wakes (the head): the LAST prioritised arrival if
    there is one, otherwise the FIRST arrival -/
theorem unwait_one_choice (arr : List (Tid × Bool)) :
    (arr.foldl enq []).head? =
      match (arr.filter (fun a => a.2)).getLast? with
      | some a => some a.1
      | none => (arr.head?).map (·.1) := by
  rw [wait_queue_is_priority_then_fifo]
  cases h : (arr.filter (fun a => a.2)).getLast? with
  | none =>
    have hn : arr.filter (fun a => a.2) = [] := List.getLast?_eq_none_iff.mp h
    have hall : arr.filter (fun a => !a.2) = arr :=
      List.filter_eq_self.mpr fun a ha => by simpa using List.filter_eq_nil_iff.mp hn a ha
    simp [hn, hall]
  | some a =>
    obtain ⟨l, hb⟩ := List.getLast?_eq_some_iff.mp h
    simp [hb]
example : [(0, false), (1, true), (2, false), (3, true)].foldl enq [] = [3, 1, 0, 2] := by decide

/-- the wait queue is modified by exactly two steps of the library: the enqueue
    of wait_current_schedee and the unlink of unwait_one / unwait_all (every other
    step of every thread, and every spurious return, leaves it as it is) -/
theorem waitq_modified_only_by_enqueue_and_unlink {s s' : State} {a : Act}
    (hs : act false s a = some s') (hq : s'.waitq ≠ s.waitq) :
    ∃ t, a = .run t ∧ ((∃ p, s.pc t = .wEnq p) ∨ (∃ f al, s.pc t = .uUnlink f al)) := by
  cases a with
  | run t =>
    refine ⟨t, rfl, ?_⟩
    by_cases h1 : ∃ p, s.pc t = .wEnq p
    · exact .inl h1
    by_cases h2 : ∃ f al, s.pc t = .uUnlink f al
    · exact .inr h2
    exact absurd (step_sameQ hs (fun p e => h1 ⟨p, e⟩) (fun f al e => h2 ⟨f, al, e⟩)).1 hq
  | spur t =>
    obtain ⟨_, rfl⟩ := spurious_some hs
    exact absurd rfl hq

/-- safe_queue with the semaphore posted BEFORE the container operation (the
    hand-made break `sem.wait(); sem.post(); queue.push(val);`): two pushes
    overlap and an item is lost (kernel-checked 6-step schedule) -/
theorem safe_queue_post_before_operation_witness :
    let prog : SQ.Tid → List SQ.QOp := fun t => if t = 0 then [.push 1] else if t = 1 then [.push 2] else []
    let mid := SQ.runSchedPF (SQ.init prog []) [0, 0, 1, 1]
    let s := SQ.runSchedPF (SQ.init prog []) [0, 0, 1, 1, 0, 1]
    (SQ.InCS (mid.pc 0) = true ∧ SQ.InCS (mid.pc 1) = true) ∧
    s.pushed = [(0, 1), (1, 2)] ∧ s.queue = [(1, 2)] ∧ s.pushed ≠ s.popped ++ s.queue := by
  decide

/-! ### `unwait_all` in ANY drain order; critical sections own the system lock

`stepP pick` is `step false` except that the unlink step of `unwait_all` takes `pick waitq` (any queued waiter,
`GoodPick pick : ∀ q ≠ [], pick q ∈ q`) instead of the head; `ReachP pick` = reachable under every schedule of
runs and spurious returns with that drain order.  `pick = head` is the shipped code, `pick = last` the
property-preserving change `benign/C20-b12-2`. -/

/-- the shipped first-to-last order is the instance `pick = head`: every state reachable by the shipped code
    (with spurious returns) is reachable in the generalised system -/
theorem shipped_order_is_a_drain_order {prog q0 s} (h : ReachS prog q0 s) :
    ReachP (fun q => q.headD 0) prog q0 s ∧ GoodPick (fun q => q.headD 0) ∧ GoodPick (fun q => q.getLast?.getD 0) :=
  ⟨reachS_is_reachP h, goodPick_head, goodPick_last⟩

/-- whatever order `unwait_all` drains the queue in: two threads never hold the
    system lock together; no event is touched after its waiter destroyed it; the wait queue has no duplicates and
    everyone in it is parked, unflagged, not yet unlinked; a waiter that has seen its flag was unlinked by an
    unwait (no spurious wake-up); an unlinked waiter has its flag set or its waker still before setting it (no
    lost wake-up); a signal in progress has exactly one waker, its target alive and still waiting -/
theorem any_drain_order_keeps_invariants {pick prog q0 s} (hp : GoodPick pick) (h : ReachP pick prog q0 s) :
    (∀ t u, 0 < s.count t → 0 < s.count u → t = u) ∧
    s.uaf = false ∧ s.waitq.Nodup ∧
    (∀ w, w ∈ s.waitq → Waiting (s.pc w) = true ∧ (s.ev w).flag = false ∧ s.ulk w = false) ∧
    (∀ w, Seen (s.pc w) = true → (s.ev w).flag = true ∧ s.ulk w = true) ∧
    (∀ w, InWait (s.pc w) = true → s.ulk w = true → (s.ev w).flag = true ∨ ∃ k, IsSLock w (s.pc k) = true) ∧
    (∀ k w, Sig w (s.pc k) = true → k ≠ w ∧ (s.ev w).alive = true ∧ Waiting (s.pc w) = true ∧
        ∀ k', Sig w (s.pc k') = true → k' = k) := by
  have hm := reachP_MI h
  have hc := reachP_CI hp h
  refine ⟨?_, hc.noUaf, hc.nodup, hc.inq, ?_, hc.lostwake, ?_⟩
  · exact fun t u => hm.exclusive
  · exact fun w => hc.seen_unlinked
  · intro k w hk
    have a := hc.signal_target hk
    exact ⟨a.2.2, a.1, a.2.1, fun k' hk' => hc.sigUniq k' k w hk' hk⟩

/-- "critical sections own the system lock": a thread between the lock and the unlock of wait_current_schedee
    (`wEnq`, `wUnlock`) or of unwait_one / unwait_all (`uUnlink`, the three signal steps, `uUnlock`) IS the owner of
    the recursive mutex, its count is positive, and no other thread is inside such a section — every schedule,
    spurious returns, any drain order -/
theorem critical_section_owns_system_lock {pick prog q0 s} {t : Tid} (h : ReachP pick prog q0 s)
    (ht : InCS (s.pc t) = true) :
    s.owner = some t ∧ 0 < s.count t ∧ 0 < s.depth ∧ (∀ u, InCS (s.pc u) = true → u = t) ∧
    (∀ u, u ≠ t → s.count u = 0) := by
  have ho := reachP_OwnI h t ht
  have hm := reachP_MI h
  have hc := hm.own t ho
  exact ⟨ho, by omega, hc.2, fun u hu => (reachP_OwnI h).unique ht hu,
    fun u hut => hm.zero_of_ne ho hut⟩

/-- the same for the shipped code (`ReachS`) -/
theorem critical_section_owns_system_lock_shipped {prog q0 s} {t : Tid} (h : ReachS prog q0 s)
    (ht : InCS (s.pc t) = true) :
    s.owner = some t ∧ 0 < s.count t ∧ (∀ u, InCS (s.pc u) = true → u = t) := by
  have a := critical_section_owns_system_lock (reachS_is_reachP h) ht
  exact ⟨a.1, a.2.1, a.2.2.2.1⟩

example : InCS (.uUnlink 7 true) = true ∧ InCS .wUnlock = true ∧ InCS .wSleep = false ∧ InCS .idle = false := by decide

/-- while a thread is inside such a critical section, no step of another thread and no spurious return changes
    the wait queue, the woken-marks or the futures (the enqueue and the unlink need the lock) -/
theorem others_leave_wait_queue_alone {pick prog q0 s s'} {t : Tid} {a : Act} (h : ReachP pick prog q0 s)
    (ht : InCS (s.pc t) = true) (ha : a ≠ .run t) (hs : actP pick s a = some s') :
    s'.waitq = s.waitq ∧ s'.ulk = s.ulk ∧ s'.fut = s.fut ∧ s'.pc t = s.pc t := by
  cases a with
  | run u =>
    have hut : u ≠ t := fun e => ha (by rw [e])
    exact stepP_other_frame (reachP_OwnI h) ht hut hs
  | spur u => exact spurious_frame ht hs

/-- `unwait_all(f)` of thread `t` that found the queue `s1.waitq`, ANY drain order, every interleaving with the other
    threads and spurious returns (`During`; `ws` = the waiters the call has unlinked so far, in its order): at every
    moment of the call `ws ++ waitq` is a permutation of the queue found (nobody lost, nobody added, nobody twice),
    exactly the members of `ws` are marked woken with future `f`, nobody else's mark or future changed (no spurious
    wake), and at its system_unlock the queue is empty and `ws` is a permutation of the queue found -/
theorem unwait_all_any_order {pick prog q0} {t : Tid} {f : Int} {s1 s : State} {ws : List Tid}
    (hp : GoodPick pick)
    (hr : ReachP pick prog q0 s1) (h1 : s1.pc t = .uUnlink f true) (hd : During pick t f s1 s ws)
    (hin : InAll f (s.pc t) = true) :
    (ws ++ s.waitq).Perm s1.waitq ∧ ws.Nodup ∧
    (∀ w, w ∈ ws → s.ulk w = true ∧ s.fut w = f) ∧
    (∀ w, w ∉ ws → s.ulk w = s1.ulk w ∧ s.fut w = s1.fut w) ∧
    (s.pc t = .uUnlock → s.waitq = [] ∧ ws.Perm s1.waitq) := by
  obtain ⟨b1, b2, b3, b4⟩ := (during_AllI hp hr h1 hd).2 hin
  have hnd : (ws ++ s.waitq).Nodup := b1.nodup_iff.mpr (reachP_CI hp hr).nodup
  refine ⟨b1, (List.nodup_append.mp hnd).1, b2, b3, fun hu => ⟨b4 hu, ?_⟩⟩
  rw [b4 hu, List.append_nil] at b1
  exact b1

/-- the return of `unwait_all`, ANY drain order: after its system_unlock the wait queue is empty, the waiters it
    unlinked (each exactly once) are a permutation of the queue it found, every one of them is marked woken with the
    future of the call and nobody else was touched -/
theorem unwait_all_any_order_return {pick prog q0} {t : Tid} {f : Int} {s1 s s' : State} {ws : List Tid}
    (hp : GoodPick pick)
    (hr : ReachP pick prog q0 s1) (h1 : s1.pc t = .uUnlink f true) (hd : During pick t f s1 s ws)
    (hu : s.pc t = .uUnlock) (hs : stepP pick s t = some s') :
    s'.waitq = [] ∧ ws.Perm s1.waitq ∧ s'.pc t = .idle ∧
    (∀ w, w ∈ s1.waitq → s.ulk w = true ∧ s.fut w = f) ∧
    (∀ w, w ∉ s1.waitq → s.ulk w = s1.ulk w ∧ s.fut w = s1.fut w) := by
  obtain ⟨_, _, b3, b4, b5⟩ := unwait_all_any_order hp hr h1 hd (by rw [hu]; rfl)
  obtain ⟨hq, hperm⟩ := b5 hu
  have hst : step false s t = some s' :=
    ((stepP_cases hs).resolve_right fun ⟨_, hpc, _⟩ => by rw [hu] at hpc; cases hpc).1
  simp only [step, hu] at hst
  cases hst
  exact ⟨(sysUnlock_frame s t).waitq.trans hq, hperm, upd_same .., fun w hw => b3 w (hperm.mem_iff.mpr hw),
    fun w hw => b4 w fun h => hw (hperm.mem_iff.mp h)⟩

/-- the hypotheses `hr`, `h1`, `hd` of the two theorems above (and `hin` of the first) are satisfiable for EVERY
    pick function, at the start of the call -/
theorem unwait_all_any_order_nonvacuous (pick : List Tid → Tid) :
    ∃ s1, ReachP pick demoProg [] s1 ∧ s1.pc 1 = .uUnlink 7 true ∧ s1.waitq = [0] ∧ During pick 1 7 s1 s1 [] :=
  ⟨_, ReachP.act (a := .run 1) (ReachP.act (a := .run 0) (ReachP.act (a := .run 0)
        (ReachP.act (a := .run 0) ReachP.init rfl) rfl) rfl) rfl, rfl, rfl, During.start⟩

end Igris.C20
