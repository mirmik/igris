/-
  C20 — `unwait_all` may drain the wait queue in ANY order (`stepP`, `ReachP`: Reach.lean): critical sections own
  the system lock (`OwnI`), what the other threads leave alone meanwhile (`Frame`), and the unwait_all theorem for
  any drain order (`During`).
-/
import IgrisModel.C20.Reach
namespace Igris.C20

def OwnI (s : State) : Prop := ∀ t, InCS (s.pc t) = true → s.owner = some t

theorem OwnI.unique {s : State} (h : OwnI s) {t u : Tid} (ht : InCS (s.pc t) = true) (hu : InCS (s.pc u) = true) :
    u = t :=
  Option.some.inj ((h u hu).symm.trans (h t ht))

theorem sysUnlock_owner (s : State) (t : Tid) : (sysUnlock s t).owner = s.owner ∨ s.owner = some t := by
  unfold sysUnlock; split
  · right; assumption
  · left; rfl

theorem sysSave_owner (s : State) (t : Tid) : (sysSave false s t).owner = s.owner ∨ s.owner = some t := by
  unfold sysSave; split
  · rename_i h; right; exact h.1
  · left; rfl

theorem sysRestore_owner {s s' : State} {t : Tid} (hs : sysRestore s t = some s') :
    s'.owner = s.owner ∨ s.owner = none := by
  unfold sysRestore at hs; split at hs
  · split at hs
    · rename_i h; right; exact h.2.2
    · cases hs; left; rfl
  · cases hs

/-- the owner changes only if `t` releases the lock it owns or takes a free one, and then nobody else is
    inside a critical section: what is left to check is `t` itself -/
theorem OwnI.move {s s' : State} {t : Tid} {p' : PC} (h : OwnI s) (hpc : ∀ u, u ≠ t → s'.pc u = s.pc u)
    (hp' : s'.pc t = p') (hown : s'.owner = s.owner ∨ s.owner = some t ∨ s.owner = none)
    (hloc : InCS p' = true → s'.owner = some t) : OwnI s' := fun u hu => by
  by_cases e : u = t
  · subst e; rw [hp'] at hu; exact hloc hu
  · rw [hpc u e] at hu
    have := h u hu
    rcases hown with a | a | a
    · rw [a]; exact this
    · rw [a] at this; exact absurd (Option.some.inj this).symm e
    · rw [a] at this; cases this

theorem OwnI.keep {s s' : State} {t : Tid} {p' : PC} (h : OwnI s) (hpc : s'.pc = upd s.pc t p')
    (hown : s'.owner = s.owner) (hcs : InCS p' = true → InCS (s.pc t) = true) : OwnI s' :=
  h.move (fun u hu => by rw [hpc]; exact upd_other _ _ _ _ hu) (by rw [hpc]; exact upd_same ..) (.inl hown)
    fun x => hown ▸ h t (hcs x)

theorem LockOp.owner {t : Tid} {s s' : State} (h : LockOp t s s') :
    s'.owner = s.owner ∨ s.owner = some t ∨ s.owner = none := by
  rcases h with h | rfl | rfl | h
  · exact .inr (sysLock_some h).1.symm
  · exact (sysUnlock_owner s t).imp_right .inl
  · exact (sysSave_owner s t).imp_right .inl
  · exact (sysRestore_owner h).imp_right .inr

theorem stepIdle_OwnI {s s' : State} {t : Tid} {op rest} (h : OwnI s) (hpc : s.pc t = .idle)
    (hs : stepIdle false s t op rest = some s') : OwnI s' := by
  rcases stepIdle_cases hs with hl | ⟨s1, _, h1, rfl, _⟩ | ⟨_, _, _, _, _, _, _, rfl⟩
  · have a := hl.frame.pc
    exact h.move (fun u _ => congrFun a u) ((congrFun a t).trans hpc) hl.owner nofun
  · have a := (sysLock_frame h1).pc
    obtain ⟨ho, e⟩ := sysLock_some h1
    exact h.move (fun u hu => (upd_other s1.pc t u _ hu).trans (congrFun a u)) (upd_same s1.pc t _)
      (.inr ho.symm) fun _ => e ▸ rfl
  · exact h.keep rfl rfl nofun

theorem step_OwnI {s s' : State} {t : Tid} (h : OwnI s) (hs : step false s t = some s') : OwnI s' := by
  rcases step_cases hs with ⟨_, f⟩ | ⟨hpc, _, _, h0⟩ | ⟨_, hpc, rfl⟩ | ⟨_, _, rfl, _, hp⟩ |
    ⟨_, _, hpc, rfl | ⟨_, _, _, rfl⟩⟩ | ⟨_, rfl⟩
  · -- a step on an event: the lock is left alone, nobody enters a critical section
    intro u hu
    rw [f.owner]
    by_cases e : u = t
    · subst e; exact h u (f.cs hu)
    · rcases f.pc u e with a | ⟨_, b⟩
      · rw [a] at hu; exact h u hu
      · rw [b] at hu; cases hu
  · exact stepIdle_OwnI h hpc h0
  · exact h.keep rfl rfl fun _ => by rw [hpc]; rfl
  · exact h.move (fun u hu => (upd_other _ t _ _ hu).trans (congrFun (sysUnlock_frame s t).pc u))
      (upd_same _ t _) ((sysUnlock_owner s t).imp_right .inl) fun x => by rw [hp] at x; cases x
  · exact h.keep rfl rfl fun _ => by rw [hpc]; rfl
  · exact h.keep rfl rfl fun _ => by rw [hpc]; rfl
  · exact h.keep rfl rfl nofun

theorem reachP_OwnI {pick prog q0 s} (h : ReachP pick prog q0 s) : OwnI s :=
  h.invariant (fun _ => nofun) (fun _ h => step_OwnI h)
    (fun h _ => h.keep rfl rfl nofun)
    fun _ h hpc _ => h.keep rfl rfl fun _ => by rw [hpc]; rfl

/-- what the others leave alone while `t` is in its critical section -/
def Frame (t : Tid) (s s' : State) : Prop :=
  s'.waitq = s.waitq ∧ s'.ulk = s.ulk ∧ s'.fut = s.fut ∧ s'.pc t = s.pc t

theorem stepIdle_other_frame {s s' : State} {t u : Tid} {op rest} (hut : u ≠ t)
    (hs : stepIdle false s u op rest = some s') : Frame t s s' := by
  have htu : t ≠ u := fun e => hut e.symm
  rcases stepIdle_cases hs with hl | ⟨s1, _, h1, rfl, _⟩ | ⟨_, _, _, _, _, _, _, rfl⟩
  · have f := hl.frame
    exact ⟨f.waitq, f.ulk, f.fut, congrFun f.pc t⟩
  · have f := sysLock_frame h1
    exact ⟨f.waitq, f.ulk, f.fut, (upd_other _ _ _ _ htu).trans (congrFun f.pc t)⟩
  · exact ⟨rfl, rfl, rfl, upd_other _ _ _ _ htu⟩

theorem step_other_frame {s s' : State} {t u : Tid} (ht : InCS (s.pc t) = true)
    (hut : u ≠ t) (hcs : InCS (s.pc u) = false) (hs : step false s u = some s') : Frame t s s' := by
  have htu : t ≠ u := fun e => hut e.symm
  rcases step_cases hs with ⟨_, f⟩ | ⟨_, _, _, h0⟩ | ⟨_, hpc, _⟩ | ⟨_, hpc, _⟩ | ⟨_, _, hpc, _⟩ | ⟨_, rfl⟩
  · refine ⟨f.waitq, f.ulk, f.fut, (f.pc t htu).resolve_right fun x => ?_⟩
    rw [x.1] at ht; cases ht
  · exact stepIdle_other_frame hut h0
  · rw [hpc] at hcs; cases hcs
  · rcases hpc with a | a <;> rw [a] at hcs <;> cases hcs
  · rw [hpc] at hcs; cases hcs
  · exact ⟨rfl, rfl, rfl, upd_other _ _ _ _ htu⟩

/-- the other threads are outside the critical sections (`OwnI`: `t` owns the lock), so `stepP` is `step` for them -/
theorem stepP_other_frame {pick : List Tid → Tid} {s s' : State} {t u : Tid} (h : OwnI s)
    (ht : InCS (s.pc t) = true) (hut : u ≠ t) (hs : stepP pick s u = some s') : Frame t s s' := by
  have hcs : InCS (s.pc u) = false := Bool.eq_false_iff.mpr fun hc => hut (h.unique ht hc)
  rcases stepP_cases hs with ⟨h1, _⟩ | ⟨f, hpc, _, _⟩
  · exact step_other_frame ht hut hcs h1
  · rw [hpc] at hcs; simp [InCS] at hcs

/-- also for `u = t`: a spurious return starts at `wSleep`, which is not in a critical section -/
theorem spurious_frame {s s' : State} {t u : Tid} (ht : InCS (s.pc t) = true)
    (hs : spurious s u = some s') : Frame t s s' := by
  obtain ⟨hpc, rfl⟩ := spurious_some hs
  have htu : t ≠ u := fun e => by rw [e, hpc] at ht; cases ht
  exact ⟨rfl, rfl, rfl, upd_other _ _ _ _ htu⟩

/-- the pcs of ONE unwait_all(f) call of a thread after it took the system lock -/
def InAll (f : Int) : PC → Bool
  | .uUnlink f' true | .sLock _ f' true | .sNotify _ f' true | .sUnlock _ f' true => f' == f
  | .uUnlock => true
  | _ => false

/-- which waiter the step of thread u unlinks for an unwait_all, if any -/
def unlinksP (pick : List Tid → Tid) (s : State) (u : Tid) : List Tid :=
  match s.pc u with
  | .uUnlink _ true => if s.waitq = [] then [] else [pick s.waitq]
  | _ => []

/-- executions that start in `s1` (thread t has just taken the system lock inside unwait_all(f)) and last as
    long as t is inside that call; `ws` = the waiters t has unlinked so far, in order -/
inductive During (pick : List Tid → Tid) (t : Tid) (f : Int) (s1 : State) : State → List Tid → Prop
  | start : During pick t f s1 s1 []
  | own {s s' ws} : During pick t f s1 s ws → InAll f (s.pc t) = true → stepP pick s t = some s' →
      During pick t f s1 s' (ws ++ unlinksP pick s t)
  | other {s s' u ws} : During pick t f s1 s ws → InAll f (s.pc t) = true → u ≠ t → stepP pick s u = some s' →
      During pick t f s1 s' ws
  | spur {s s' u ws} : During pick t f s1 s ws → InAll f (s.pc t) = true → spurious s u = some s' →
      During pick t f s1 s' ws

theorem InAll_InCS {f : Int} {p : PC} (h : InAll f p = true) : InCS p = true := by
  cases p <;> simp [InAll, InCS] at h ⊢

theorem own_step_effect {pick : List Tid → Tid} {s s' : State} {t : Tid} {f : Int}
    (hin : InAll f (s.pc t) = true) (hs : stepP pick s t = some s') :
    (s.waitq ≠ [] ∧ unlinksP pick s t = [pick s.waitq] ∧ s'.waitq = s.waitq.erase (pick s.waitq) ∧
      s'.ulk = upd s.ulk (pick s.waitq) true ∧ s'.fut = upd s.fut (pick s.waitq) f ∧ s'.pc t ≠ .uUnlock) ∨
    (unlinksP pick s t = [] ∧ s'.waitq = s.waitq ∧ s'.ulk = s.ulk ∧ s'.fut = s.fut ∧
      (s'.pc t = .uUnlock → s'.waitq = [])) := by
  rcases stepP_cases hs with ⟨h1, hq⟩ | ⟨f', hpc, hne, rfl⟩
  · right
    have hu : unlinksP pick s t = [] := by
      unfold unlinksP; split
      · rename_i f' hpc; rw [if_pos (hq f' hpc)]
      · rfl
    rcases step_cases h1 with ⟨_, e⟩ | ⟨hpc, _⟩ | ⟨_, hpc, _⟩ | ⟨_, hpc, rfl, _, hp⟩ |
      ⟨f', a, hpc, h2⟩ | ⟨hpc, _⟩
    · -- inside `signal`: only the last step can end the call, and then the queue is empty
      refine ⟨hu, e.waitq, e.ulk, e.fut, fun x => (e.done x).resolve_right ?_⟩
      rintro ⟨w, f', hpc⟩; rw [hpc] at hin; cases hin
    · rw [hpc] at hin; cases hin
    · rw [hpc] at hin; cases hin
    · have fr := sysUnlock_frame s t
      refine ⟨hu, fr.waitq, fr.ulk, fr.fut, fun x => ?_⟩
      rw [show (setPc (sysUnlock s t) t _).pc t = _ from upd_same ..] at x
      rw [x] at hp; cases hp
    · rw [hpc] at hin
      have ha : a = true := by cases a <;> simp [InAll] at hin ⊢
      subst ha
      have hq0 := hq f' hpc
      rcases h2 with rfl | ⟨w, r, hw, _⟩
      · exact ⟨hu, rfl, rfl, rfl, fun _ => hq0⟩
      · rw [hq0] at hw; cases hw
    · rw [hpc] at hin; cases hin
  · left
    rw [hpc] at hin
    have hf : f' = f := by simpa [InAll] using hin
    subst hf
    refine ⟨hne, ?_, rfl, rfl, rfl, ?_⟩
    · simp [unlinksP, hpc, hne]
    · simp [setPc, upd]

/-- the invariant of `During` (`during_AllI`); `unwait_all_any_order` (Props.lean) is this plus `ws.Nodup`, which
    `CI.nodup` gives -/
def AllI (t : Tid) (f : Int) (s1 s : State) (ws : List Tid) : Prop :=
  (ws ++ s.waitq).Perm s1.waitq ∧
  (∀ w, w ∈ ws → s.ulk w = true ∧ s.fut w = f) ∧
  (∀ w, w ∉ ws → s.ulk w = s1.ulk w ∧ s.fut w = s1.fut w) ∧
  (s.pc t = .uUnlock → s.waitq = [])

theorem AllI_frame {t f s1 s s' ws} (h : AllI t f s1 s ws) (hf : Frame t s s') : AllI t f s1 s' ws := by
  obtain ⟨a, b, c, d⟩ := hf
  unfold AllI; rw [a, b, c, d]; exact h

theorem during_AllI {pick prog q0} {t : Tid} {f : Int} {s1 s : State} {ws : List Tid}
    (hp : GoodPick pick)
    (hr : ReachP pick prog q0 s1) (h1 : s1.pc t = .uUnlink f true) (hd : During pick t f s1 s ws) :
    ReachP pick prog q0 s ∧ (InAll f (s.pc t) = true → AllI t f s1 s ws) := by
  induction hd with
  | start =>
    refine ⟨hr, fun _ => ⟨by simp, by simp, fun _ _ => ⟨rfl, rfl⟩, ?_⟩⟩
    rw [h1]; intro h; cases h
  | @own s s' ws hd hin hs ih =>
    obtain ⟨ihr, iha⟩ := ih
    obtain ⟨A1, A2, A3, A4⟩ := iha hin
    refine ⟨.act (a := .run t) ihr hs, fun _ => ?_⟩
    rcases own_step_effect hin hs with ⟨hne, hu, e1, e2, e3, e4⟩ | ⟨hu, e1, e2, e3, e4⟩
    · rw [hu]
      refine ⟨?_, ?_, ?_, fun h => absurd h e4⟩
      · rw [e1]
        have hw : pick s.waitq ∈ s.waitq := hp _ hne
        refine List.Perm.trans ?_ A1
        rw [List.append_assoc]
        exact List.Perm.append_left ws (List.perm_cons_erase hw).symm
      · intro x hx; rw [e2, e3]; simp only [upd]; have := A2 x; grind
      · intro x hx; rw [e2, e3]; simp only [upd]; have := A3 x; grind
    · rw [hu, List.append_nil]
      exact ⟨by rw [e1]; exact A1, by rw [e2, e3]; exact A2, by rw [e2, e3]; exact A3, e4⟩
  | @other s s' u ws hd hin hut hs ih =>
    obtain ⟨ihr, iha⟩ := ih
    refine ⟨.act (a := .run u) ihr hs, fun _ => ?_⟩
    exact AllI_frame (iha hin) (stepP_other_frame (reachP_OwnI ihr) (InAll_InCS hin) hut hs)
  | @spur s s' u ws hd hin hs ih =>
    obtain ⟨ihr, iha⟩ := ih
    refine ⟨.act (a := .spur u) ihr hs, fun _ => ?_⟩
    exact AllI_frame (iha hin) (spurious_frame (InAll_InCS hin) hs)

/-- non-vacuity of `GoodPick`: draining from the tail and from the head -/
example : GoodPick (fun q => q.getLast?.getD 0) := goodPick_last
example : GoodPick (fun q => q.headD 0) := goodPick_head

/-- the program of `unwait_all_any_order_nonvacuous` (Props.lean): after three steps of thread 0 and one of
    thread 1, thread 1 stands at `uUnlink 7 true` with the queue `[0]` -/
def demoProg : Tid → List Op := fun t => if t = 0 then [.wait false] else if t = 1 then [.unwaitAll 7] else []

end Igris.C20
