/-
  The shapes a step of the shipped code can have (`stepIdle_cases`, `step_cases`): the invariants are
  carried over a step by going through them (all but `CI`, whose proof in WaitStep.lean splits `step`
  itself).  Then the mutex / count invariant `MI` and the invariant `QI` of safe_queue
  (pushed = popped ++ queue).
-/
import IgrisModel.C20.Model
namespace Igris.C20

@[simp] theorem touch_sem (s : State) (w) : (touch s w).sem = s.sem := by unfold touch; split <;> rfl
@[simp] theorem touch_pc (s : State) (w) : (touch s w).pc = s.pc := by unfold touch; split <;> rfl
@[simp] theorem touch_ev (s : State) (w) : (touch s w).ev = s.ev := by unfold touch; split <;> rfl

/-- what the operations on the system lock leave alone: they change owner, depth, the counts, the saved
    pair, the caller's observations and the fault flag -/
structure LockFrame (s s' : State) : Prop where
  waitq : s'.waitq = s.waitq
  ev : s'.ev = s.ev
  fut : s'.fut = s.fut
  sem : s'.sem = s.sem
  queue : s'.queue = s.queue
  pc : s'.pc = s.pc
  prog : s'.prog = s.prog
  clock : s'.clock = s.clock
  stamp : s'.stamp = s.stamp
  prio : s'.prio = s.prio
  ulk : s'.ulk = s.ulk
  pushed : s'.pushed = s.pushed
  popped : s'.popped = s.popped
  uaf : s'.uaf = s.uaf

theorem LockFrame.trans {a b c : State} (f : LockFrame a b) (g : LockFrame b c) : LockFrame a c :=
  ⟨g.1.trans f.1, g.2.trans f.2, g.3.trans f.3, g.4.trans f.4, g.5.trans f.5, g.6.trans f.6, g.7.trans f.7,
   g.8.trans f.8, g.9.trans f.9, g.10.trans f.10, g.11.trans f.11, g.12.trans f.12, g.13.trans f.13,
   g.14.trans f.14⟩

theorem saveLoop_lockFrame (t : Tid) : ∀ (n : Nat) (s : State), LockFrame s (saveLoop t n s)
  | 0, _ => by constructor <;> rfl
  | n + 1, _ => by
    simp only [saveLoop]
    exact LockFrame.trans (by constructor <;> rfl) (saveLoop_lockFrame t n _)

theorem saveLoop_frame (t : Tid) (n : Nat) (s : State) (hn : n ≤ s.depth) :
    (saveLoop t n s).pushed = s.pushed ∧ (saveLoop t n s).popped = s.popped ∧
    (saveLoop t n s).queue = s.queue ∧ (saveLoop t n s).sem = s.sem ∧ (saveLoop t n s).pc = s.pc ∧
    (saveLoop t n s).waitq = s.waitq ∧ (saveLoop t n s).ev = s.ev ∧ (saveLoop t n s).ulk = s.ulk ∧
    (saveLoop t n s).uaf = s.uaf ∧ (saveLoop t n s).prio = s.prio ∧ (saveLoop t n s).stamp = s.stamp :=
  have f := saveLoop_lockFrame t n s
  ⟨f.pushed, f.popped, f.queue, f.sem, f.pc, f.waitq, f.ev, f.ulk, f.uaf, f.prio, f.stamp⟩

theorem sysLock_some {s s' : State} {t} (hs : sysLock s t = some s') :
    (s.owner = none ∨ s.owner = some t) ∧
    s' = { s with owner := some t, depth := s.depth + 1, count := upd s.count t (s.count t + 1) } := by
  obtain ⟨ho, e⟩ := Option.ite_none_right_eq_some.mp hs
  exact ⟨ho, (Option.some.inj e).symm⟩

theorem sysLock_frame {s s' : State} {t} (hs : sysLock s t = some s') : LockFrame s s' := by
  obtain ⟨_, rfl⟩ := sysLock_some hs
  constructor <;> rfl

theorem sysLock_eq_none {s : State} {t u : Tid} (ho : s.owner = some t) (hu : u ≠ t) : sysLock s u = none := by
  simp [sysLock, ho]
  exact fun e => hu e.symm

theorem sysUnlock_frame (s : State) (t) : LockFrame s (sysUnlock s t) := by
  unfold sysUnlock mtxUnlock; split <;> constructor <;> rfl

theorem sysSave_frame (s : State) (t) : LockFrame s (sysSave false s t) := by
  unfold sysSave; split
  · simp only [Bool.false_eq_true, if_false]
    exact LockFrame.trans (by constructor <;> rfl) (saveLoop_lockFrame t _ _)
  · constructor <;> rfl

theorem sysRestore_frame {s s' : State} {t} (hs : sysRestore s t = some s') : LockFrame s s' := by
  unfold sysRestore at hs; split at hs
  · split at hs <;> (cases hs; constructor <;> rfl)
  · cases hs

/-- `s'` comes from `s` by `system_lock`, `system_unlock`, `system_lock_save` or `system_lock_restore` of `t` -/
def LockOp (t : Tid) (s s' : State) : Prop :=
  sysLock s t = some s' ∨ s' = sysUnlock s t ∨ s' = sysSave false s t ∨ sysRestore s t = some s'

theorem LockOp.frame {t : Tid} {s s' : State} (h : LockOp t s s') : LockFrame s s' := by
  rcases h with h | rfl | rfl | h
  · exact sysLock_frame h
  · exact sysUnlock_frame s t
  · exact sysSave_frame s t
  · exact sysRestore_frame h

/-- the first step of a library call: an operation on the system lock; or `system_lock` followed by the
    move into `wait_current_schedee` / `unwait_*`; or `sem.wait()` with the queue operation -/
theorem stepIdle_cases {s s' : State} {t : Tid} {op rest} (hs : stepIdle false s t op rest = some s') :
    LockOp t { s with prog := upd s.prog t rest } s' ∨
    (∃ s1 p, sysLock { s with prog := upd s.prog t rest } t = some s1 ∧ s' = setPc s1 t p ∧
      ((∃ pr, p = .wEnq pr) ∨ p = .uUnlock ∨ ∃ f a, p = .uUnlink f a)) ∨
    (0 < s.sem ∧ ∃ q pu po ob fa, (s.pushed = s.popped ++ s.queue → pu = po ++ q) ∧
      s' = setPc { s with prog := upd s.prog t rest, sem := s.sem - 1, queue := q, pushed := pu,
                          popped := po, obs := ob, fault := fa } t .qPost) := by
  unfold stepIdle at hs
  dsimp only at hs
  split at hs
  · exact .inl (.inl hs)
  · cases hs; exact .inl (.inr (.inl rfl))
  · cases hs; exact .inl (.inr (.inr (.inl rfl)))
  · exact .inl (.inr (.inr (.inr hs)))
  · simp only [Option.map_eq_some_iff] at hs
    obtain ⟨s1, h1, rfl⟩ := hs
    exact .inr (.inl ⟨s1, _, h1, rfl, .inl ⟨_, rfl⟩⟩)
  · simp only [Option.map_eq_some_iff] at hs
    obtain ⟨s1, h1, rfl⟩ := hs
    exact .inr (.inl ⟨s1, _, h1, rfl, .inr (by split <;> simp)⟩)
  · simp only [Option.map_eq_some_iff] at hs
    obtain ⟨s1, h1, rfl⟩ := hs
    exact .inr (.inl ⟨s1, _, h1, rfl, .inr (by split <;> simp)⟩)
  · split at hs
    · rename_i hp; cases hs
      exact .inr (.inr ⟨hp, _, _, _, _, _, fun e => by rw [e, List.append_assoc], rfl⟩)
    · cases hs
  · split at hs
    · rename_i hp
      split at hs
      · cases hs; exact .inr (.inr ⟨hp, _, _, _, _, _, id, rfl⟩)
      · rename_i p x r hq
        cases hs
        exact .inr (.inr ⟨hp, _, _, _, _, _, fun e => by
          have hq : s.queue = (p, x) :: r := hq
          rw [e, hq]; simp, rfl⟩)
    · cases hs
  · split at hs
    · rename_i hp; cases hs; exact .inr (.inr ⟨hp, _, _, _, _, _, id, rfl⟩)
    · cases hs

/-- the counters inside `event::wait` (from locking the event mutex to the return) and inside `event::signal`;
    `wSleep` is not among them: a sleeper takes no step -/
def OnEvent : PC → Bool
  | .wEvLock | .wCv | .wReacq | .wEvUnlock | .wRet | .sLock _ _ _ | .sNotify _ _ _ | .sUnlock _ _ _ => true
  | _ => false

/-- inside wait_current_schedee up to its system_unlock, or inside unwait_one / unwait_all up to its system_unlock -/
def InCS : PC → Bool
  | .wEnq _ | .wUnlock | .uUnlink _ _ | .sLock _ _ _ | .sNotify _ _ _ | .sUnlock _ _ _ | .uUnlock => true
  | _ => false

/-- what a step of `t` on an event leaves alone: everything but the events, `t`'s observations, the `uaf`
    flag and the counters of `t` and of a sleeper it wakes.  `done` is for `own_step_effect` (AnyOrder.lean):
    `unwait_all` reaches its `system_unlock` only with the queue empty -/
structure EventStep (t : Tid) (s s' : State) : Prop where
  owner : s'.owner = s.owner
  depth : s'.depth = s.depth
  count : s'.count = s.count
  waitq : s'.waitq = s.waitq
  fut : s'.fut = s.fut
  sem : s'.sem = s.sem
  queue : s'.queue = s.queue
  clock : s'.clock = s.clock
  stamp : s'.stamp = s.stamp
  prio : s'.prio = s.prio
  ulk : s'.ulk = s.ulk
  pushed : s'.pushed = s.pushed
  popped : s'.popped = s.popped
  pc : ∀ u, u ≠ t → s'.pc u = s.pc u ∨ (s.pc u = .wSleep ∧ s'.pc u = .wReacq)
  notq : s'.pc t ≠ .qPost
  cs : InCS (s'.pc t) = true → InCS (s.pc t) = true
  done : s'.pc t = .uUnlock → s'.waitq = [] ∨ ∃ w f, s.pc t = .sUnlock w f false

theorem EventStep.touch {t w : Tid} {s s' : State} (h : EventStep t (touch s w) s') : EventStep t s s' := by
  unfold Igris.C20.touch at h; split at h
  · exact h
  · exact { h with }

theorem step_onEvent {s s' : State} {t : Tid} (hs : step false s t = some s') (he : OnEvent (s.pc t) = true) :
    EventStep t s s' := by
  -- a thread that was inside a critical section may stay there; nobody enters one
  have mk : ∀ (s1 : State) (e : Tid → Ev) (o : Tid → List Obs) (p : PC), p ≠ .qPost →
      (InCS p = true → InCS (s1.pc t) = true) →
      (p = .uUnlock → s1.waitq = [] ∨ ∃ w f, s1.pc t = .sUnlock w f false) →
      EventStep t s1 (setPc { s1 with ev := e, obs := o } t p) := fun s1 e o p hp hc hu =>
    ⟨rfl, rfl, rfl, rfl, rfl, rfl, rfl, rfl, rfl, rfl, rfl, rfl, rfl, fun u hu => .inl (upd_other s1.pc t u p hu),
      fun x => hp ((upd_same s1.pc t p).symm.trans x), fun x => hc ((upd_same s1.pc t p) ▸ x),
      fun x => hu ((upd_same s1.pc t p).symm.trans x)⟩
  have as : ∀ (s1 : State) f a, afterSignal s1 f a ≠ .qPost := fun s1 f a => by
    unfold afterSignal; split <;> nofun
  unfold step at hs
  split at hs
  all_goals (rename_i hpc; try (rw [hpc] at he; cases he; done))
  · split at hs
    · cases hs; exact mk s _ s.obs _ nofun nofun nofun
    · cases hs
  · split at hs <;> (cases hs; exact mk s _ s.obs _ nofun nofun nofun)
  · split at hs
    · split at hs <;> (cases hs; exact mk s _ s.obs _ nofun nofun nofun)
    · cases hs
  · cases hs; exact mk s _ s.obs _ nofun nofun nofun
  · cases hs; exact mk s _ _ _ nofun nofun nofun
  · split at hs
    · cases hs; refine (mk _ _ _ _ ?_ (fun _ => by rw [touch_pc, hpc]; rfl) ?_).touch <;> simp
    · cases hs
  · -- notify: the sleeper is woken
    rename_i w f a
    cases hs
    refine EventStep.touch (w := w) ?_
    have hpc1 : (touch s w).pc t = .sNotify w f a := by rw [touch_pc, hpc]
    generalize Igris.C20.touch s w = s1 at hpc1
    split
    · rename_i hsl
      exact ⟨rfl, rfl, rfl, rfl, rfl, rfl, rfl, rfl, rfl, rfl, rfl, rfl, rfl, fun u hu => by
        show upd (upd s1.pc w .wReacq) t _ u = s1.pc u ∨
          (s1.pc u = .wSleep ∧ upd (upd s1.pc w .wReacq) t _ u = .wReacq)
        rw [upd_other _ _ _ _ hu]
        by_cases e : u = w
        · subst e; exact .inr ⟨hsl, upd_same ..⟩
        · exact .inl (upd_other _ _ _ _ e), (fun x => by
        have : upd (upd s1.pc w .wReacq) t (.sUnlock w f a) t = .qPost := x
        rw [upd_same] at this; cases this), fun _ => by rw [hpc1]; rfl, fun x => by
        have : upd (upd s1.pc w .wReacq) t (.sUnlock w f a) t = .uUnlock := x
        rw [upd_same] at this; cases this⟩
    · exact mk s1 s1.ev s1.obs _ nofun (fun _ => by rw [hpc1]; rfl) nofun
  · -- the signal is over: `unwait_all` goes on while somebody is queued
    rename_i w f a
    cases hs
    refine (mk _ _ _ _ ?_ (fun _ => by rw [touch_pc, hpc]; rfl) fun x => ?_).touch
    · simp only [Bool.false_eq_true, if_false]; exact as _ _ _
    · simp only [Bool.false_eq_true, if_false, afterSignal] at x
      cases a
      · exact .inr ⟨w, f, by rw [touch_pc, hpc]⟩
      · split at x
        · cases x
        · rename_i hc; exact .inl (by simpa [setEv] using hc)

theorem step_cases {s s' : State} {t : Tid} (hs : step false s t = some s') :
    (OnEvent (s.pc t) = true ∧ EventStep t s s') ∨
    (s.pc t = .idle ∧ ∃ op rest, stepIdle false s t op rest = some s') ∨
    (∃ p, s.pc t = .wEnq p ∧ s' = setPc { s with
        ev := upd s.ev t { flag := false, holder := none, alive := true },
        waitq := if p then t :: s.waitq else s.waitq ++ [t],
        clock := s.clock + 1, stamp := upd s.stamp t s.clock, prio := upd s.prio t p,
        ulk := upd s.ulk t false } t .wUnlock) ∨
    (∃ p, (s.pc t = .wUnlock ∨ s.pc t = .uUnlock) ∧ s' = setPc (sysUnlock s t) t p ∧ p ≠ .qPost ∧
      InCS p = false) ∨
    (∃ f a, s.pc t = .uUnlink f a ∧ (s' = setPc { s with fault := true } t .uUnlock ∨
      ∃ w r, s.waitq = w :: r ∧
        s' = setPc { s with waitq := r, fut := upd s.fut w f, ulk := upd s.ulk w true } t (.sLock w f a))) ∨
    (s.pc t = .qPost ∧ s' = setPc { s with sem := s.sem + 1 } t .idle) := by
  by_cases he : OnEvent (s.pc t) = true
  · exact .inl ⟨he, step_onEvent hs he⟩
  · right
    unfold step at hs
    split at hs
    all_goals (rename_i hpc; try (rw [hpc] at he; exact absurd rfl he))
    · split at hs
      · cases hs
      · exact .inl ⟨hpc, _, _, hs⟩
    · cases hs; exact .inr (.inl ⟨_, hpc, rfl⟩)
    · cases hs; exact .inr (.inr (.inl ⟨_, .inl hpc, rfl, nofun, rfl⟩))
    · cases hs
    · split at hs
      · cases hs; exact .inr (.inr (.inr (.inl ⟨_, _, hpc, .inl rfl⟩)))
      · rename_i w r hq
        cases hs; exact .inr (.inr (.inr (.inl ⟨_, _, hpc, .inr ⟨w, r, hq, rfl⟩⟩)))
    · cases hs; exact .inr (.inr (.inl ⟨_, .inr hpc, rfl, nofun, rfl⟩))
    · cases hs; exact .inr (.inr (.inr (.inr ⟨hpc, rfl⟩)))

theorem mem_of_mem_enqueue {q : List Tid} {t w : Tid} {p : Bool} (hw : w ∈ (if p then t :: q else q ++ [t]))
    (hne : w ≠ t) : w ∈ q := by
  cases p with
  | true => exact (List.mem_cons.mp hw).resolve_left hne
  | false => exact (List.mem_append.mp hw).resolve_right fun x => hne (List.mem_singleton.mp x)

structure MI (s : State) : Prop where
  free : s.owner = none → s.depth = 0
  own : ∀ t, s.owner = some t → s.count t = (s.depth : Int) ∧ 0 < s.depth
  other : ∀ t, s.owner ≠ some t → s.count t = 0

theorem MI_init (prog q0) : MI (init prog q0) := by
  constructor <;> simp [init]

theorem MI_congr {s s' : State} (h : MI s) (ho : s'.owner = s.owner) (hd : s'.depth = s.depth)
    (hc : s'.count = s.count) : MI s' := by
  constructor
  · rw [ho, hd]; exact h.free
  · intro t; rw [ho, hd, hc]; exact h.own t
  · intro t; rw [ho, hc]; exact h.other t

theorem MI.of_owner {s : State} {t : Tid} (ho : s.owner = some t) (hc : s.count t = (s.depth : Int))
    (hd : 0 < s.depth) (hz : ∀ u, u ≠ t → s.count u = 0) : MI s :=
  ⟨fun e => (by rw [ho] at e; cases e), fun u e => (by cases ho.symm.trans e; exact ⟨hc, hd⟩),
   fun u e => hz u fun x => e (x ▸ ho)⟩

theorem MI.of_free {s : State} (ho : s.owner = none) (hd : s.depth = 0) (hz : ∀ u, s.count u = 0) : MI s :=
  ⟨fun _ => hd, fun u e => (by rw [ho] at e; cases e), fun u _ => hz u⟩

theorem MI.zero_of_ne {s : State} (h : MI s) {t u : Tid} (ho : s.owner = some t) (hu : u ≠ t) : s.count u = 0 :=
  h.other u (by rw [ho]; exact fun e => hu (Option.some.inj e).symm)

theorem sysLock_MI {s s' : State} {t : Tid} (h : MI s) (hs : sysLock s t = some s') : MI s' := by
  obtain ⟨ho, rfl⟩ := sysLock_some hs
  refine MI.of_owner rfl ?_ (Nat.succ_pos _) fun u hu => ?_
  · show upd s.count t (s.count t + 1) t = ((s.depth + 1 : Nat) : Int)
    rw [upd_same]
    rcases ho with ho | ho
    · have := h.free ho; have := h.other t (by rw [ho]; nofun); omega
    · have := (h.own t ho).1; omega
  · show upd s.count t (s.count t + 1) u = 0
    rw [upd_other _ _ _ _ hu]
    rcases ho with ho | ho
    · exact h.other u (by rw [ho]; nofun)
    · exact h.zero_of_ne ho hu

/-- one `mtx.unlock()` by the owner whose count has already been decremented -/
theorem mtxUnlock_MI {s : State} {t : Tid} (hown : s.owner = some t)
    (hc : s.count t + 1 = (s.depth : Int)) (hd : 0 < s.depth)
    (hoth : ∀ u, u ≠ t → s.count u = 0) : MI (mtxUnlock s) := by
  by_cases h0 : s.depth - 1 = 0
  · refine MI.of_free (by simp [mtxUnlock, h0]) h0 fun u => ?_
    by_cases hut : u = t
    · subst hut; show s.count u = 0; omega
    · exact hoth u hut
  · exact MI.of_owner (t := t) (by simp [mtxUnlock, h0, hown]) (by show s.count t = ((s.depth - 1 : Nat) : Int); omega)
      (by show 0 < s.depth - 1; omega) hoth

theorem sysUnlock_MI {s : State} {t : Tid} (h : MI s) : MI (sysUnlock s t) := by
  unfold sysUnlock
  split
  · rename_i ho
    refine mtxUnlock_MI (t := t) ho ?_ (h.own t ho).2 fun u hu => ?_
    · show upd s.count t (s.count t - 1) t + 1 = (s.depth : Int)
      rw [upd_same]; have := (h.own t ho).1; omega
    · show upd s.count t (s.count t - 1) u = 0
      rw [upd_other _ _ _ _ hu]; exact h.zero_of_ne ho hu
  · exact MI_congr h rfl rfl rfl

theorem upd_upd {α} (f : Tid → α) (t : Tid) (a b : α) : upd (upd f t a) t b = upd f t b := by
  funext x; simp [upd]; split <;> rfl

theorem eq_upd_self {α} (f : Tid → α) (t : Tid) : f = upd f t (f t) := by
  funext x; simp [upd]; intro h; rw [h]

theorem saveLoop_eq (t : Tid) : ∀ (n : Nat) (s : State), n ≤ s.depth →
    saveLoop t n s = { s with depth := s.depth - n, count := upd s.count t (s.count t - n),
                              owner := if 0 < n ∧ s.depth - n = 0 then none else s.owner } := by
  intro n
  induction n with
  | zero => intro s _; simp [saveLoop, ← eq_upd_self]
  | succ n ih =>
    intro s hn
    simp only [saveLoop]
    rw [ih _ (by simp [mtxUnlock]; omega)]
    simp only [mtxUnlock, upd_upd, upd_same]
    congr 1
    · by_cases h1 : s.depth - 1 = 0
      · have : n = 0 := by omega
        subst this; simp [h1]
      · simp only [h1, if_false]
        by_cases hn0 : n = 0
        · subst hn0; simp; intro h; omega
        · have e : s.depth - 1 - n = s.depth - (n + 1) := by omega
          have : 0 < n := by omega
          simp [e, this]
    · omega
    · funext x; simp only [upd]; split
      · omega
      · rfl

theorem sysSave_eq {s : State} {t : Tid} (h : MI s) (ho : s.owner = some t) :
    sysSave false s t = { s with saved := upd s.saved t (s.count t),
                                 obs := upd s.obs t (s.obs t ++ [.saved (s.count t)]),
                                 depth := 0, count := upd s.count t 0, owner := none } := by
  obtain ⟨hc, hd⟩ := h.own t ho
  have hn : (s.count t).toNat = s.depth := by omega
  simp only [sysSave, ho, show 0 < s.count t by omega, and_self, if_true, Bool.false_eq_true, if_false]
  rw [saveLoop_eq _ _ _ (by simp [hn])]
  simp [hd, hc]

theorem sysSave_MI {s : State} {t : Tid} (h : MI s) : MI (sysSave false s t) := by
  by_cases ho : s.owner = some t
  · rw [sysSave_eq h ho]
    refine MI.of_free rfl rfl fun u => ?_
    by_cases e : u = t
    · rw [e]; exact upd_same ..
    · exact (upd_other _ _ _ _ e).trans (h.zero_of_ne ho e)
  · rw [sysSave, if_neg fun x => ho x.1]; exact MI_congr h rfl rfl rfl

theorem sysRestore_MI {s s' : State} {t : Tid} (h : MI s) (hs : sysRestore s t = some s') : MI s' := by
  unfold sysRestore at hs
  split at hs
  · split at hs
    · rename_i hc
      obtain ⟨h0, hsv, hfree⟩ := hc
      cases hs
      refine MI.of_owner rfl ?_ (by show 0 < (s.saved t).toNat; omega) fun u hu => ?_
      · show upd s.count t (s.saved t) t = ((s.saved t).toNat : Int)
        rw [upd_same]; omega
      · show upd s.count t (s.saved t) u = 0
        rw [upd_other _ _ _ _ hu]; exact h.other u (by rw [hfree]; nofun)
    · cases hs; exact MI_congr h rfl rfl rfl
  · cases hs

theorem LockOp.MI {t : Tid} {s s' : State} (h : LockOp t s s') (hm : MI s) : MI s' := by
  rcases h with h | rfl | rfl | h
  · exact sysLock_MI hm h
  · exact sysUnlock_MI hm
  · exact sysSave_MI hm
  · exact sysRestore_MI hm h

theorem stepIdle_MI {s s' : State} {t : Tid} {op rest} (h : MI s)
    (hs : stepIdle false s t op rest = some s') : MI s' := by
  have h0 : MI { s with prog := upd s.prog t rest } := MI_congr h rfl rfl rfl
  rcases stepIdle_cases hs with hl | ⟨s1, _, h1, rfl, _⟩ | ⟨_, _, _, _, _, _, _, rfl⟩
  · exact hl.MI h0
  · exact MI_congr (sysLock_MI h0 h1) rfl rfl rfl
  · exact MI_congr h rfl rfl rfl

theorem setPc_MI {s : State} {t p} (h : MI s) : MI (setPc s t p) := MI_congr h rfl rfl rfl
theorem setEv_MI {s : State} {w e} (h : MI s) : MI (setEv s w e) := MI_congr h rfl rfl rfl
theorem touch_MI {s : State} {w} (h : MI s) : MI (touch s w) := by
  unfold touch; split
  · exact h
  · exact MI_congr h rfl rfl rfl

theorem step_MI {s s' : State} {t : Tid} (h : MI s) (hs : step false s t = some s') : MI s' := by
  rcases step_cases hs with ⟨_, f⟩ | ⟨_, _, _, h1⟩ | ⟨_, _, rfl⟩ | ⟨_, _, rfl, _, _⟩ | ⟨_, _, _, rfl | ⟨_, _, _, rfl⟩⟩ |
    ⟨_, rfl⟩
  · exact MI_congr h f.owner f.depth f.count
  · exact stepIdle_MI h h1
  · exact MI_congr h rfl rfl rfl
  · exact setPc_MI (sysUnlock_MI h)
  · exact MI_congr h rfl rfl rfl
  · exact MI_congr h rfl rfl rfl
  · exact MI_congr h rfl rfl rfl

theorem MI.exclusive {s : State} (h : MI s) {t u : Tid} (ht : 0 < s.count t) (hu : 0 < s.count u) : t = u := by
  have owns : ∀ x, 0 < s.count x → s.owner = some x := fun x hx => by
    by_cases e : s.owner = some x
    · exact e
    · have := h.other x e; omega
  exact Option.some.inj ((owns t ht).symm.trans (owns u hu))

def QI (s : State) : Prop := s.pushed = s.popped ++ s.queue

theorem QI_congr {s s' : State} (h : QI s) (h1 : s'.pushed = s.pushed) (h2 : s'.popped = s.popped)
    (h3 : s'.queue = s.queue) : QI s' := by
  unfold QI at *; rw [h1, h2, h3]; exact h

theorem LockFrame.QI {s s' : State} (f : LockFrame s s') (h : QI s) : QI s' := QI_congr h f.pushed f.popped f.queue

theorem setPc_QI {s : State} {t p} (h : QI s) : QI (setPc s t p) := QI_congr h rfl rfl rfl

theorem stepIdle_QI {s s' : State} {t : Tid} {op rest} (h : QI s)
    (hs : stepIdle false s t op rest = some s') : QI s' := by
  rcases stepIdle_cases hs with hl | ⟨s1, _, h1, rfl, _⟩ | ⟨_, _, _, _, _, _, hq, rfl⟩
  · exact hl.frame.QI h
  · exact setPc_QI ((sysLock_frame h1).QI h)
  · exact hq h

theorem step_QI {s s' : State} {t : Tid} (h : QI s) (hs : step false s t = some s') : QI s' := by
  rcases step_cases hs with ⟨_, f⟩ | ⟨_, _, _, h1⟩ | ⟨_, _, rfl⟩ | ⟨_, _, rfl, _, _⟩ | ⟨_, _, _, rfl | ⟨_, _, _, rfl⟩⟩ |
    ⟨_, rfl⟩
  · exact QI_congr h f.pushed f.popped f.queue
  · exact stepIdle_QI h h1
  · exact QI_congr h rfl rfl rfl
  · exact setPc_QI ((sysUnlock_frame s t).QI h)
  · exact QI_congr h rfl rfl rfl
  · exact QI_congr h rfl rfl rfl
  · exact QI_congr h rfl rfl rfl

end Igris.C20
