/-
  safe_queue at fine grain: the semaphore gives mutual exclusion of the critical sections, the exclusion
  makes every snapshot current, and THAT gives FIFO.
-/
import IgrisModel.C20.SafeQ
namespace Igris.C20.SQ

/-- between sem.wait() and sem.post() -/
def InCS : QPC → Bool
  | .idle => false
  | _ => true

structure QI (s : QState) : Prop where
  /-- binary semaphore: free and nobody inside, or taken by exactly one thread inside -/
  excl : (s.sem = 1 ∧ ∀ t, InCS (s.pc t) = false) ∨
         (s.sem = 0 ∧ ∃ t, InCS (s.pc t) = true ∧ ∀ u, InCS (s.pc u) = true → u = t)
  /-- hence nobody changed the container since a running operation took its snapshot -/
  snap : ∀ t op sn, s.pc t = .mid op sn → sn = s.queue
  /-- hence the container is the FIFO of the history -/
  fifo : s.pushed = s.popped ++ s.queue

theorem QI_init (prog q0) : QI (init prog q0) := by
  constructor <;> simp [init, InCS]

theorem upd_same {α} (f : Tid → α) (t : Tid) (v : α) : upd f t v t = v := by simp [upd]
theorem upd_other {α} (f : Tid → α) (t u : Tid) (v : α) (h : u ≠ t) : upd f t v u = f u := by simp [upd, h]

theorem QI.inside {s : QState} {t : Tid} (h : QI s) (ht : InCS (s.pc t) = true) :
    s.sem = 0 ∧ ∀ u, u ≠ t → InCS (s.pc u) = false := by
  rcases h.excl with ⟨_, b⟩ | ⟨a, k, _, c⟩
  · rw [b t] at ht; cases ht
  · refine ⟨a, fun u hu => ?_⟩
    cases hc : InCS (s.pc u)
    · rfl
    · exact absurd ((c u hc).trans (c t ht).symm) hu

theorem QI.of_sole {s s' : QState} {t : Tid} {p : QPC} (ho : ∀ u, u ≠ t → InCS (s.pc u) = false)
    (hp : InCS p = true) (hpc : s'.pc = upd s.pc t p) (hsem : s'.sem = 0)
    (hsnap : ∀ op sn, p = .mid op sn → sn = s'.queue) (hfifo : s'.pushed = s'.popped ++ s'.queue) : QI s' := by
  have ho' : ∀ u, u ≠ t → InCS (s'.pc u) = false := fun u hu => by rw [hpc, upd_other _ _ _ _ hu]; exact ho u hu
  refine ⟨.inr ⟨hsem, t, by rw [hpc, upd_same]; exact hp, fun u hu => ?_⟩, fun u op sn hu => ?_, hfifo⟩
  · by_cases e : u = t
    · exact e
    · rw [ho' u e] at hu; cases hu
  · by_cases e : u = t
    · subst e; rw [hpc, upd_same] at hu; exact hsnap op sn hu
    · have := ho' u e; rw [hu] at this; cases this

theorem step_QI {s s' : QState} {t} (h : QI s) (hs : step true s t = some s') : QI s' := by
  unfold step at hs
  split at hs
  · -- sem.wait(): the semaphore was free, so nobody is inside
    split at hs
    · cases hs
    · simp only [if_true] at hs
      split at hs
      · rename_i hpos
        cases hs
        rcases h.excl with ⟨a, b⟩ | ⟨a, _⟩
        · exact QI.of_sole (fun u _ => b u) rfl rfl (by show s.sem - 1 = 0; omega) nofun h.fifo
        · omega
      · cases hs
  · -- the operation starts and takes its snapshot
    rename_i hpc
    cases hs
    obtain ⟨h0, ho⟩ := h.inside (t := t) (by rw [hpc]; rfl)
    exact QI.of_sole ho rfl rfl h0 (fun _ _ e => by cases e; rfl) h.fifo
  all_goals
    rename_i hpc
    obtain ⟨h0, ho⟩ := h.inside (t := t) (by rw [hpc]; rfl)
  · -- push completes on the current content
    have hsn := h.snap t _ _ hpc
    cases hs
    refine QI.of_sole ho rfl rfl h0 nofun ?_
    show s.pushed ++ _ = s.popped ++ (_ ++ _)
    rw [h.fifo, hsn, List.append_assoc]
  · -- pop
    have hsn := h.snap t _ _ hpc
    split at hs
    · cases hs; exact QI.of_sole ho rfl rfl h0 nofun h.fifo
    · rename_i p x r
      cases hs
      refine QI.of_sole ho rfl rfl h0 nofun ?_
      show s.pushed = (s.popped ++ [(p, x)]) ++ r
      rw [h.fifo, ← hsn]; simp
  · -- size
    cases hs; exact QI.of_sole ho rfl rfl h0 nofun h.fifo
  · -- sem.post(): the one thread inside leaves
    cases hs
    have hall : ∀ u, InCS (upd s.pc t .idle u) = false := fun u => by
      by_cases e : u = t
      · rw [e, upd_same]; rfl
      · rw [upd_other _ _ _ _ e]; exact ho u e
    refine ⟨.inl ⟨by simp [h0], hall⟩, fun u op sn hu => ?_, h.fifo⟩
    have := hall u; rw [show upd s.pc t .idle u = .mid op sn from hu] at this; cases this

theorem reach_QI {prog q0 s} (h : Reach prog q0 s) : QI s := by
  induction h with
  | init => exact QI_init _ _
  | step _ hs ih => exact step_QI ih hs

end Igris.C20.SQ
