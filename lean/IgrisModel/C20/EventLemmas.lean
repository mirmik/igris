/-
  The invariant of the shared event / semaphore model (Event.lean) and its preservation by every step,
  spurious return and time-out.
-/
import IgrisModel.C20.Event
namespace Igris.C20.Ev

def Holds : EPC → Bool
  | .cv _ _ | .unlock _ _ | .gNotify _ | .gUnlock _ | .rUnlock _ => true
  | _ => false
def IsSleep : EPC → Bool
  | .sleep _ => true
  | _ => false
def IsNotify : EPC → Bool
  | .gNotify _ => true
  | _ => false

structure EI (s : EState) : Prop where
  /-- the event mutex is held exactly by the thread inside a critical section -/
  hold : ∀ t, Holds (s.pc t) = true ↔ s.holder = some t
  /-- the value a wait is about to return is the flag (it holds the mutex) -/
  ret : ∀ t timed r, s.pc t = .unlock timed r → s.flag = r
  /-- only a timed wait can time out -/
  untimed : ∀ t o, s.pc t = .reacq false o → o = false
  /-- wait() without time-out only ever returns with the flag set -/
  plain : ∀ t r, s.pc t = .unlock false r → r = true
  /-- no lost wake-up: while the flag is set every sleeper has its notify still to come -/
  sleepnotify : ∀ t, IsSleep (s.pc t) = true → s.flag = true → ∃ k, IsNotify (s.pc k) = true
  /-- whoever is about to notify has set the flag and nobody cleared it since -/
  notifyflag : ∀ k, IsNotify (s.pc k) = true → s.flag = true
  acct : s.sv + s.takes = 1 + s.posts

theorem EI_init (prog) : EI (init prog) := by
  constructor <;> simp [init, Holds, IsSleep, IsNotify]

theorem holds_wake (p : EPC) : Holds (wake p) = Holds p := by cases p <;> rfl
theorem sleep_wake (p : EPC) : IsSleep (wake p) = false := by cases p <;> rfl
theorem notify_wake (p : EPC) : IsNotify (wake p) = IsNotify p := by cases p <;> rfl
theorem wake_unlock (p : EPC) (a b) : wake p = .unlock a b → p = .unlock a b := by
  cases p <;> simp [wake]
theorem wake_reacq (p : EPC) (o) : wake p = .reacq false o → o = false ∨ p = .reacq false o := by
  cases p <;> simp [wake] <;> grind

theorem notify_holds (p : EPC) : IsNotify p = true → Holds p = true := by cases p <;> simp [IsNotify, Holds]
theorem sleep_notholds (p : EPC) : IsSleep p = true → Holds p = false := by cases p <;> simp [IsSleep, Holds]

theorem upd_same {α} (f : Tid → α) (t : Tid) (v : α) : upd f t v t = v := by simp [upd]
theorem upd_other {α} (f : Tid → α) (t u : Tid) (v : α) (h : u ≠ t) : upd f t v u = f u := by simp [upd, h]

theorem EI.congr {s s' : EState} (h : EI s) (h1 : s'.pc = s.pc) (h2 : s'.holder = s.holder)
    (h3 : s'.flag = s.flag) (h4 : s'.sv + s'.takes = 1 + s'.posts) : EI s' :=
  ⟨by rw [h1, h2]; exact h.hold, by rw [h1, h3]; exact h.ret, by rw [h1]; exact h.untimed,
   by rw [h1]; exact h.plain, by rw [h1, h3]; exact h.sleepnotify, by rw [h1, h3]; exact h.notifyflag, h4⟩

theorem EI.notifyAll {s : EState} (h : EI s) : EI { s with pc := fun u => wake (s.pc u) } where
  hold t := by show Holds (wake (s.pc t)) = true ↔ _; rw [holds_wake]; exact h.hold t
  ret t timed r x := h.ret t timed r (wake_unlock _ _ _ x)
  untimed t o x := (wake_reacq _ _ x).elim id (h.untimed t o)
  plain t r x := h.plain t r (wake_unlock _ _ _ x)
  sleepnotify t x := by have : IsSleep (wake (s.pc t)) = true := x; rw [sleep_wake] at this; cases this
  notifyflag k x := h.notifyflag k (by have : IsNotify (wake (s.pc k)) = true := x; rwa [notify_wake] at this)
  acct := h.acct

/-- Either mutex and flag stay as they are, or `t` is the thread that holds or takes the mutex: then nobody
    else holds it, and the clauses about the others (they bind only a thread that holds the mutex) survive
    whatever `t` does to the flag.  What is left to check are the clauses about `t` and the one about sleepers. -/
theorem EI.move {s s' : EState} {t : Tid} {p' : EPC} (h : EI s) (hpc' : s'.pc = upd s.pc t p')
    (hmx : (s'.holder = s.holder ∧ s'.flag = s.flag) ∨
      ((s.holder = none ∨ s.holder = some t) ∧ (s'.holder = none ∨ s'.holder = some t)))
    (hold : Holds p' = true ↔ s'.holder = some t)
    (ret : ∀ timed r, p' = .unlock timed r → s'.flag = r ∧ (timed = false → r = true))
    (untimed : ∀ o, p' = .reacq false o → o = false)
    (hnf : IsNotify p' = true → s'.flag = true)
    (hsn : ∀ u, IsSleep (s'.pc u) = true → s'.flag = true → ∃ k, IsNotify (s'.pc k) = true)
    (hac : s'.sv + s'.takes = 1 + s'.posts) : EI s' := by
  have hp' : s'.pc t = p' := by rw [hpc']; exact upd_same ..
  have hpc : ∀ u, u ≠ t → s'.pc u = s.pc u := fun u hu => by rw [hpc']; exact upd_other _ _ _ _ hu
  have others : ∀ u, u ≠ t → (Holds (s.pc u) = true ↔ s'.holder = some u) ∧
      (Holds (s.pc u) = true → s'.flag = s.flag) := fun u hu => by
    rcases hmx with ⟨a, b⟩ | ⟨a, b⟩
    · rw [a]; exact ⟨h.hold u, fun _ => b⟩
    · have nu : ¬ Holds (s.pc u) = true := fun x => by
        have := (h.hold u).mp x
        rcases a with a | a <;> rw [a] at this
        · cases this
        · exact hu (Option.some.inj this).symm
      refine ⟨⟨fun x => absurd x nu, fun x => ?_⟩, fun x => absurd x nu⟩
      rcases b with b | b <;> rw [b] at x
      · cases x
      · exact absurd (Option.some.inj x).symm hu
  refine ⟨fun u => ?_, fun u timed r hu => ?_, fun u o hu => ?_, fun u r hu => ?_, hsn, fun u hu => ?_, hac⟩ <;>
    by_cases e : u = t
  · subst e; rw [hp']; exact hold
  · rw [hpc u e]; exact (others u e).1
  · subst e; rw [hp'] at hu; exact (ret timed r hu).1
  · rw [hpc u e] at hu
    rw [(others u e).2 (by rw [hu]; rfl)]; exact h.ret u timed r hu
  · subst e; rw [hp'] at hu; exact untimed o hu
  · rw [hpc u e] at hu; exact h.untimed u o hu
  · subst e; rw [hp'] at hu; exact (ret false r hu).2 rfl
  · rw [hpc u e] at hu; exact h.plain u r hu
  · subst e; rw [hp'] at hu; exact hnf hu
  · rw [hpc u e] at hu
    rw [(others u e).2 (notify_holds _ hu)]; exact h.notifyflag u hu

/-- `hsn` of `EI.move` where it is not the notifier that moves: every sleeper keeps the notifier it had -/
theorem EI.carry {s s' : EState} {t : Tid} {p' : EPC} (h : EI s) (hpc' : s'.pc = upd s.pc t p')
    (hf : s'.flag = s.flag) (hs : IsSleep p' = true → IsSleep (s.pc t) = true)
    (hn : IsNotify (s.pc t) = false) :
    ∀ u, IsSleep (s'.pc u) = true → s'.flag = true → ∃ k, IsNotify (s'.pc k) = true := fun u hu hfl => by
  have hp' : s'.pc t = p' := by rw [hpc']; exact upd_same ..
  have hpc : ∀ u, u ≠ t → s'.pc u = s.pc u := fun u hu => by rw [hpc']; exact upd_other _ _ _ _ hu
  have : IsSleep (s.pc u) = true := by
    by_cases e : u = t
    · subst e; rw [hp'] at hu; exact hs hu
    · rw [← hpc u e]; exact hu
  obtain ⟨k, hk⟩ := h.sleepnotify u this (hf ▸ hfl)
  have e : k ≠ t := fun e => by rw [e, hn] at hk; cases hk
  exact ⟨k, by rw [hpc k e]; exact hk⟩

theorem stepIdle_EI {s s' : EState} {t op rest} (h : EI s) (hpc : s.pc t = .idle)
    (hs : stepIdle s t op rest = some s') : EI s' := by
  have hn : IsNotify (s.pc t) = false := by rw [hpc]; rfl
  -- the caller takes the free mutex and goes on to test the flag
  have enter : ∀ {timed zero}, s.holder = none →
      EI { s with prog := upd s.prog t rest, holder := some t, pc := upd s.pc t (.cv timed zero) } :=
    fun hfree => h.move rfl (.inr ⟨.inl hfree, .inr rfl⟩)
      ⟨fun _ => rfl, fun _ => rfl⟩ (fun _ _ => nofun) (fun _ => nofun) nofun
      (h.carry rfl rfl nofun hn) h.acct
  unfold stepIdle at hs
  dsimp only at hs
  split at hs
  · -- wait
    split at hs
    · rename_i hfree; cases hs; exact enter hfree
    · cases hs
  · -- wait(timeout)
    split at hs
    · rename_i hfree; cases hs; exact enter hfree
    · cases hs
  · -- signal: the caller becomes the notifier
    split at hs
    · rename_i hfree; cases hs
      exact h.move rfl (.inr ⟨.inl hfree, .inr rfl⟩)
        ⟨fun _ => rfl, fun _ => rfl⟩ (fun _ _ => nofun) (fun _ => nofun) (fun _ => rfl)
        (fun _ _ _ => ⟨t, by dsimp only; rw [upd_same]; rfl⟩) h.acct
    · cases hs
  · -- reset
    split at hs
    · rename_i hfree; cases hs
      exact h.move rfl (.inr ⟨.inl hfree, .inr rfl⟩)
        ⟨fun _ => rfl, fun _ => rfl⟩ (fun _ _ => nofun) (fun _ => nofun) nofun
        (fun _ _ => nofun) h.acct
    · cases hs
  · -- isset
    split at hs
    · cases hs; exact h.congr rfl rfl rfl h.acct
    · cases hs
  · -- sem_wait
    split at hs
    · rename_i hpos; cases hs
      exact h.congr rfl rfl rfl (by have := h.acct; simp only at hpos ⊢; omega)
    · cases hs
  · -- sem_post
    cases hs; exact h.congr rfl rfl rfl (by have := h.acct; simp only; omega)
  · -- sem_trywait
    split at hs
    · rename_i hpos; cases hs
      exact h.congr rfl rfl rfl (by have := h.acct; simp only at hpos ⊢; omega)
    · cases hs; exact h.congr rfl rfl rfl h.acct
  · -- sem_getvalue
    cases hs; exact h.congr rfl rfl rfl h.acct

theorem step_EI {s s' : EState} {t} (h : EI s) (hs : step s t = some s') : EI s' := by
  have ht := h.hold t
  -- the holder (not about to notify) unlocks the mutex and returns
  have leave : ∀ o, Holds (s.pc t) = true → IsNotify (s.pc t) = false →
      EI (addObs { s with holder := none, pc := upd s.pc t .idle } t o) :=
    fun _ hH hn => h.move rfl (.inr ⟨.inr (ht.mp hH), .inl rfl⟩)
      ⟨nofun, nofun⟩ (fun _ _ => nofun) (fun _ => nofun) nofun (h.carry rfl rfl nofun hn) h.acct
  unfold step at hs
  split at hs
  · rename_i hpc
    split at hs
    · cases hs
    · exact stepIdle_EI h hpc hs
  · -- cv: the predicate of the wait loop
    rename_i timed zero hpc
    rw [hpc] at ht
    have hn : IsNotify (s.pc t) = false := by rw [hpc]; rfl
    split at hs
    · rename_i hf; cases hs
      exact h.move rfl (.inl ⟨rfl, rfl⟩)
        ⟨fun _ => ht.mp rfl, fun _ => rfl⟩ (fun _ _ e => by cases e; exact ⟨hf, fun _ => rfl⟩)
        (fun _ => nofun) nofun
        (h.carry rfl rfl nofun hn) h.acct
    · -- flag clear: release the mutex and sleep (a zero time-out expires at once)
      rename_i hf; cases hs
      have hp : ∀ p', p' = .reacq true true ∨ p' = .sleep timed →
          EI { s with holder := none, pc := upd s.pc t p' } := by
        rintro _ (rfl | rfl) <;>
        exact h.move rfl (.inr ⟨.inr (ht.mp rfl), .inl rfl⟩)
          ⟨nofun, nofun⟩ (fun _ _ => nofun) (fun _ => nofun) nofun (fun _ _ x => absurd x hf) h.acct
      exact hp _ (by split <;> simp)
  · cases hs
  · -- reacq
    rename_i timed to hpc
    rw [hpc] at ht
    have hn : IsNotify (s.pc t) = false := by rw [hpc]; rfl
    split at hs
    · rename_i hh
      split at hs
      · -- timed out: the result is the flag as it is now
        rename_i hto; cases hs
        exact h.move rfl (.inr ⟨.inl hh, .inr rfl⟩)
          ⟨fun _ => rfl, fun _ => rfl⟩
          (fun _ _ e => by
            cases e
            exact ⟨rfl, fun x => by subst x; subst hto; cases h.untimed t _ hpc⟩)
          (fun _ => nofun) nofun
          (h.carry rfl rfl nofun hn) h.acct
      · split at hs
        · rename_i hf; cases hs
          exact h.move rfl (.inr ⟨.inl hh, .inr rfl⟩)
            ⟨fun _ => rfl, fun _ => rfl⟩ (fun _ _ e => by cases e; exact ⟨hf, fun _ => rfl⟩)
            (fun _ => nofun) nofun
            (h.carry rfl rfl nofun hn) h.acct
        · rename_i hf; cases hs
          exact h.move rfl (.inl ⟨rfl, rfl⟩)
            ⟨nofun, fun x => by cases ht.mpr x⟩ (fun _ _ => nofun) (fun _ => nofun) nofun
            (fun _ _ x => absurd x hf) h.acct
    · cases hs
  · -- unlock
    rename_i hpc; cases hs; exact leave _ (by rw [hpc]; rfl) (by rw [hpc]; rfl)
  · -- notify_all
    rename_i r hpc
    rw [hpc] at ht
    cases hs
    exact h.notifyAll.move (t := t) (p' := .gUnlock r) rfl (.inl ⟨rfl, rfl⟩)
      ⟨fun _ => ht.mp rfl, fun _ => rfl⟩ (fun _ _ => nofun)
      (fun _ => nofun) nofun
      (fun u x => by
        have x : IsSleep (upd (fun u => wake (s.pc u)) t (.gUnlock r) u) = true := x
        by_cases e : u = t
        · rw [e, upd_same] at x; cases x
        · rw [upd_other _ _ _ _ e, sleep_wake] at x; cases x) h.acct
  · -- signal: unlock
    rename_i hpc; cases hs; exact leave _ (by rw [hpc]; rfl) (by rw [hpc]; rfl)
  · -- reset: unlock
    rename_i hpc; cases hs; exact leave _ (by rw [hpc]; rfl) (by rw [hpc]; rfl)

/-- serves both the spurious return (`o = false`) and the time-out of a timed wait -/
theorem EI.wakeUp {s : EState} {t : Tid} {timed o : Bool} (h : EI s) (hpc : s.pc t = .sleep timed)
    (ho : timed = false → o = false) : EI { s with pc := upd s.pc t (.reacq timed o) } := by
  have ht := h.hold t
  rw [hpc] at ht
  exact h.move rfl (.inl ⟨rfl, rfl⟩)
    ⟨nofun, fun x => by cases ht.mpr x⟩ (fun _ _ => nofun) (fun _ e => by cases e; exact ho rfl) nofun
    (h.carry rfl rfl nofun (by rw [hpc]; rfl)) h.acct

theorem spurious_EI {s s' : EState} {t} (h : EI s) (hs : spurious s t = some s') : EI s' := by
  unfold spurious at hs
  split at hs
  · rename_i hpc; cases hs; exact h.wakeUp hpc fun _ => rfl
  · cases hs

theorem timeout_EI {s s' : EState} {t} (h : EI s) (hs : timeout s t = some s') : EI s' := by
  unfold timeout at hs
  split at hs
  · rename_i hpc; cases hs; exact h.wakeUp hpc nofun
  · cases hs

theorem reach_EI {prog s} (h : Reach prog s) : EI s := by
  induction h with
  | init => exact EI_init _
  | act _ hs ih =>
    rename_i a _
    cases a with
    | run t => exact step_EI ih hs
    | spur t => exact spurious_EI ih hs
    | timeout t => exact timeout_EI ih hs

theorem reach_runActs {prog s} (h : Reach prog s) (as : List Act) : Reach prog (runActs s as) := by
  induction as generalizing s with
  | nil => exact h
  | cons a as ih =>
    simp only [runActs]
    cases ha : act s a with
    | none => exact ih h
    | some s' => exact ih (.act h ha)

end Igris.C20.Ev
