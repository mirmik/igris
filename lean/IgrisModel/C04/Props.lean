/-
  C04 — PROPERTY THEOREMS: gstuff framing is lossless.

  "For every payload (any bytes, any length, any split into scatter-gather
  pieces) and every framing variant the library ships, feeding the encoder's
  output byte by byte to a receiver with a large enough buffer reports exactly
  one completed packet, on the last byte, whose content equals the payload.
  The frame starts with the start marker, ends with the stop marker, contains
  no unescaped marker in between and is at most 2n+4 bytes long.  The encoders
  that size their own output buffer never write outside it."
-/
import IgrisModel.C04.Lemmas3
import IgrisModel.C05.Traces
namespace Igris.Gstuff
open Igris.Proto Igris.C17

/-- both shipped alphabets are well-formed (non-vacuity of every `ctx.WF` hypothesis) -/
theorem shipped_alphabets_wf : Ctx.v1.WF ∧ Ctx.v0.WF := by decide

/-- the scatter-gather encoder depends only on the concatenation of the pieces -/
theorem encode_pieces (ctx : Ctx) (pieces : List (List Byte)) :
    gstuffingV ctx pieces = encode ctx pieces.flatten :=
  gstuffingV_eq_encode ctx pieces

theorem gstuffing_eq_encode (ctx : Ctx) (p : List Byte) : gstuffing ctx p = encode ctx p := by
  simp [gstuffing, encode_pieces]

/-- frame shape: START :: body ++ [STOP], no marker inside, at most 2n+4 bytes -/
theorem frame_shape (ctx : Ctx) (h : ctx.WF) (p : List Byte) :
    ∃ body, encode ctx p = ctx.start :: (body ++ [ctx.stop]) ∧
      (∀ b ∈ body, b ≠ ctx.start ∧ b ≠ ctx.stop) ∧
      (encode ctx p).length ≤ 2 * p.length + 4 :=
  ⟨frameBody ctx p, encode_eq ctx p, frameBody_no_marker ctx h p, encode_length_le ctx p⟩

/-- ROUND TRIP.  For every well-formed alphabet, payload, receiver that is
between frames (fresh, after a packet, after an error, or hunting) and capacity
`≥ |p| + 2`: every byte of the frame but the last answers CONTINUE, the last
answers NEWPACKAGE, and the delivered line is exactly the payload. -/
theorem roundtrip (ctx : Ctx) (h : ctx.WF) (p : List Byte) (r : Recv) (hidle : Idle r)
    (hcap : p.length + 2 ≤ r.cap) :
    ∃ ss, feed ctx r (encode ctx p) =
        ({ r with state := .s0, crc := 0#8, line := p }, ss ++ [NEWPACKAGE]) ∧ AllCont ss := by
  obtain ⟨ss, x, a, hx, t, _⟩ := frame_tail ctx h p 0xFF#8 r.cap hcap
  refine ⟨CONTINUE :: ss, ?_, allCont_cons a⟩
  rw [encode_eq, feed_cons, newchar_start_idle ctx r hidle, t, hx, stopL_trailer]; rfl

/-- both shipped alphabets round-trip every payload from a freshly initialised receiver -/
theorem roundtrip_shipped (p : List Byte) (cap : Nat) (hcap : p.length + 2 ≤ cap) :
    (∃ ss, feed Ctx.v1 (Recv.init cap) (gstuffing Ctx.v1 p) =
        (⟨.s0, 0#8, p, cap⟩, ss ++ [NEWPACKAGE]) ∧ AllCont ss) ∧
    (∃ ss, feed Ctx.v0 (Recv.init cap) (gstuffing Ctx.v0 p) =
        (⟨.s0, 0#8, p, cap⟩, ss ++ [NEWPACKAGE]) ∧ AllCont ss) := by
  constructor
  · rw [gstuffing_eq_encode]
    exact roundtrip Ctx.v1 shipped_alphabets_wf.1 p (Recv.init cap) (Or.inl rfl) hcap
  · rw [gstuffing_eq_encode]
    exact roundtrip Ctx.v0 shipped_alphabets_wf.2 p (Recv.init cap) (Or.inl rfl) hcap

/-- ROUND TRIP, literally about the scatter-gather encoder `gstuffing_v(vec, n, out, ctx)`:
for every well-formed alphabet, every list of iovec pieces (any bytes, any lengths, empty
pieces included), every receiver that is between frames and every capacity ≥ n + 2 (n =
total payload length): every byte of the encoder's output but the last is answered
CONTINUE, the last NEWPACKAGE, and the delivered line is the concatenation of the pieces. -/
theorem roundtrip_iovec (ctx : Ctx) (h : ctx.WF) (pieces : List (List Byte)) (r : Recv) (hidle : Idle r)
    (hcap : pieces.flatten.length + 2 ≤ r.cap) :
    ∃ ss, feed ctx r (gstuffingV ctx pieces) =
        ({ r with state := .s0, crc := 0#8, line := pieces.flatten }, ss ++ [NEWPACKAGE]) ∧ AllCont ss := by
  rw [encode_pieces]
  exact roundtrip ctx h pieces.flatten r hidle hcap

/-- HEADLINE: `decode (gstuffing_v iov) = [concat iov]` — exactly one packet, equal to the
payload, and the status string the driver prints is `C…CN` (one status per frame byte) -/
theorem decode_gstuffing_v (ctx : Ctx) (h : ctx.WF) (pieces : List (List Byte)) (cap : Nat)
    (hcap : pieces.flatten.length + 2 ≤ cap) :
    decode ctx cap (gstuffingV ctx pieces) = [pieces.flatten] ∧
    (feedTrace ctx (Recv.init cap) (gstuffingV ctx pieces)).1 =
      List.replicate ((gstuffingV ctx pieces).length - 1) 'C' ++ ['N'] := by
  obtain ⟨ss, e, a⟩ := roundtrip_iovec ctx h pieces (Recv.init cap) (Or.inl rfl) hcap
  have hd := (frame_from_ready ctx h (Recv.init cap) (Or.inl (Or.inl rfl)) pieces.flatten hcap).1
  have hss := allCont_snoc_eq (congrArg Prod.snd e) a
  rw [feed_length] at hss
  rw [← encode_pieces] at hd
  simp only [decode, feedTrace_eq, hd, hss, List.map_append, List.map_replicate, true_and]
  rfl

/-- frame shape, literally about `gstuffing_v`: START body STOP, no marker in the body,
at most 2n+4 bytes (n = total length of the pieces) -/
theorem frame_shape_iovec (ctx : Ctx) (h : ctx.WF) (pieces : List (List Byte)) :
    ∃ body, gstuffingV ctx pieces = ctx.start :: (body ++ [ctx.stop]) ∧
      (∀ b ∈ body, b ≠ ctx.start ∧ b ≠ ctx.stop) ∧
      (gstuffingV ctx pieces).length ≤ 2 * (pieces.map List.length).sum + 4 := by
  rw [encode_pieces, ← List.length_flatten]
  exact frame_shape ctx h pieces.flatten

-- non-vacuity of the three theorems above: v1, two pieces, a fresh receiver with 8 bytes
example : Ctx.v1.WF ∧ Idle (Recv.init 8) ∧ ([[0x41#8], [0xA8#8, 0x42#8]] : List (List Byte)).flatten.length + 2 ≤ (Recv.init 8).cap :=
  ⟨by decide, Or.inl rfl, by decide⟩

/-- the self-sizing encoders (buffer `2n+4` after `fix: … reserve the worst-case
frame length`) never write outside their buffer, for every alphabet -/
theorem encoder_buffer (ctx : Ctx) (pieces : List (List Byte)) :
    gstuffingVec ctx pieces = some (gstuffingV ctx pieces) := by
  simp [gstuffingVec, gstuffingV_length_le_vecBufSize ctx pieces]

/-- the bound 2n+4 is attained (every byte and the CRC need escaping), so no
smaller buffer would do: payload B2 A8 B2 C5 A8 has CRC B2 in the V1 alphabet -/
theorem encoder_buffer_tight :
    (gstuffingV Ctx.v1 [[0xB2#8, 0xA8#8, 0xB2#8, 0xC5#8, 0xA8#8]]).length = 2 * 5 + 4 := by decide +kernel

/-- historical: with the buffer size `2n+2` used before the repair the empty
payload already needs more room than the buffer has -/
theorem encoder_buffer_old_witness : ¬ ((gstuffingV Ctx.v1 [[]]).length ≤ 0 * 2 + 2) := by decide

/-- "THE ENCODERS THAT SIZE THEIR OWN OUTPUT BUFFER NEVER WRITE OUTSIDE IT", about the buffer
writes themselves: the model `gstuffingVecW` allocates `ret.resize(sz*2+4)` and performs every
`*outdata++ = b` of `gstuffing_v` / `gstuff_byte` as a store at an explicit index, a store at
an index ≥ the buffer size being a fault.  For every alphabet (well-formed or not) and every
list of pieces no store faults, and after `ret.resize(sz2)` the vector is the frame. -/
theorem encoder_buffer_writes (ctx : Ctx) (pieces : List (List Byte)) :
    gstuffingVecW ctx pieces = some (gstuffingV ctx pieces) := by
  have hlen := gstuffingV_length_le_vecBufSize ctx pieces
  obtain ⟨out', e1, e2, _, _⟩ := gstuffingVW_reused ctx pieces
    (List.replicate (vecBufSize (pieces.map List.length).sum) 0) (by simpa using hlen)
  simp only [gstuffingVecW, e1, e2]

/-- … and a buffer one byte smaller would not do: with `2n+3` bytes the worst-case payload
of `encoder_buffer_tight` makes the encoder's last store (the stop marker) fault -/
theorem encoder_buffer_small_witness :
    gstuffingVW Ctx.v1 [[0xB2#8, 0xA8#8, 0xB2#8, 0xC5#8, 0xA8#8]] (List.replicate (2 * 5 + 3) 0) = none := by
  decide +kernel

/-! ### legacy C codec (gstuffing_v1 / gstuff_autorecv_newchar_v1) -/

/-- legacy frame shape: AC :: body ++ [AC], no AC inside, at most 2n+4 bytes -/
theorem frame_shape_leg (p : List Byte) :
    ∃ body, gstuffingLeg p = legStart :: (body ++ [legStart]) ∧
      (∀ b ∈ body, b ≠ legStart) ∧ (gstuffingLeg p).length ≤ 2 * p.length + 4 := by
  obtain ⟨body, e, hb, hl⟩ := frame_shape Ctx.leg Ctx.leg_wf p
  rw [gstuffingLeg_eq, encodeLeg_eq_encode]
  exact ⟨body, e, fun b hb' => (hb b hb').1, hl⟩

/-- legacy receiver STATE after a frame (after `fix: gstuffing_v1 escapes the CRC byte`):
from a receiver in state 0, capacity `≥ |p|+2`, every byte but the last answers CONTINUE,
the last NEWPACKAGE, and the LINE holds payload ++ [crc] — NOT the payload: the legacy
receiver leaves the CRC byte in the line.  (The third conjunct is a list identity;
the clause of the property is treated by `roundtrip_leg_partial` /
`roundtrip_leg_witness` below.) -/
theorem roundtrip_leg (p : List Byte) (r : LRecv) (hs : r.state = .l0) (hcap : p.length + 2 ≤ r.cap) :
    ∃ ss, lfeed r (gstuffingLeg p) =
        ({ r with state := .l0, crc := 0#8, line := p ++ [strmcrc8 0xFF#8 p] }, ss ++ [NEWPACKAGE]) ∧
      AllCont ss ∧ (p ++ [strmcrc8 0xFF#8 p]).dropLast = p := by
  obtain ⟨ss, e, a⟩ := roundtrip_leg_idle p r (Or.inl hs) hcap
  exact ⟨ss, e, a, List.dropLast_concat⟩

/-
  LEGACY ROUND TRIP, the property's clause "one completed packet … whose content equals the
  payload".  Read literally — the content the legacy API hands over equals the payload — it is
  FALSE for the legacy receiver: there is no accessor, the user reads `autom->line` through
  `sline_getline` / `sline_size` (`LRecv.getline`, `LRecv.size`), and the legacy receiver does
  not strip the CRC-8 (the configurable one does), so the API hands over payload ++ [crc],
  size n + 1 (`roundtrip_leg_witness`).  What holds (`roundtrip_leg_partial`): under the
  convention every caller has to follow — the packet is the first `size - 1` bytes
  (`LRecv.packet`) — the packet equals the payload.
-/
/-- from a freshly set-up legacy receiver (`gstuff_autorecv_setbuf_v1`, capacity ≥ n + 2):
every byte of `gstuffing_v1(p)` but the last is answered CONTINUE, the last NEWPACKAGE; the
API then hands over `size = n + 1` bytes `payload ++ [crc8 payload]`, whose first `size - 1`
bytes are the payload; the driver prints `C…CN` and the packet `p` -/
theorem roundtrip_leg_partial (p : List Byte) (cap : Nat) (hcap : p.length + 2 ≤ cap) :
    ∃ ss r', lfeed (LRecv.init cap) (gstuffingLeg p) = (r', ss ++ [NEWPACKAGE]) ∧ AllCont ss ∧
      r'.getline = p ++ [strmcrc8 0xFF#8 p] ∧ r'.size = p.length + 1 ∧ r'.packet = p ∧
      lfeedTrace (LRecv.init cap) (gstuffingLeg p) =
        (List.replicate ((gstuffingLeg p).length - 1) 'C' ++ ['N'], [p]) := by
  obtain ⟨ss, e, a⟩ := roundtrip_leg_idle p (LRecv.init cap) (Or.inr rfl) hcap
  have hd := (lframe_from_ready (LRecv.init cap) (Or.inl (Or.inr rfl)) p hcap).1
  rw [← gstuffingLeg_eq] at hd
  have hss := allCont_snoc_eq (congrArg Prod.snd e) a
  rw [lfeed_length] at hss
  refine ⟨ss, _, e, a, rfl, by simp [LRecv.size], by simp [LRecv.packet, LRecv.getline, LRecv.size], ?_⟩
  simp only [lfeedTrace_eq, hd, hss, List.map_append, List.map_replicate]
  rfl

/-- witness: payload [00] — the legacy API hands over the two bytes 00 AC (the CRC-8 of [00]
is AC), `sline_size` = 2: as handed over, the content is not the payload -/
theorem roundtrip_leg_witness :
    (lfeed (LRecv.init 3) (gstuffingLeg [0x00#8])).1.getline = [0x00#8, 0xAC#8] ∧
    (lfeed (LRecv.init 3) (gstuffingLeg [0x00#8])).1.size = 2 ∧
    (lfeed (LRecv.init 3) (gstuffingLeg [0x00#8])).1.getline ≠ [0x00#8] := by decide +kernel

/-- the excluded region of `roundtrip_leg_partial`, exactly: read literally ("the content handed over
equals the payload") the clause fails for EVERY payload, not only for the witness — what `sline_getline`
/ `sline_size` hand over after the frame of `p` is never `p` (it is one byte longer) -/
theorem roundtrip_leg_never_payload (p : List Byte) (cap : Nat) (hcap : p.length + 2 ≤ cap) :
    (lfeed (LRecv.init cap) (gstuffingLeg p)).1.getline ≠ p ∧
    (lfeed (LRecv.init cap) (gstuffingLeg p)).1.size ≠ p.length := by
  obtain ⟨ss, r', e, _, g1, g2, _, _⟩ := roundtrip_leg_partial p cap hcap
  rw [e]
  refine ⟨?_, by simp only [g2]; omega⟩
  intro h
  have := congrArg List.length h
  rw [g1] at this
  simp at this

/-- historical: before the repair the legacy encoder wrote the CRC unescaped;
for the payload [00] the CRC is the start marker itself -/
theorem legacy_crc_is_marker_witness : strmcrc8 0xFF#8 [0x00#8] = legStart := by decide

/-! ### C integer widths, re-used buffers, sessions on long-lived objects -/

/-- the encoder INTO A RE-USED CALLER BUFFER (`gstuffing_v(vec, n, out, ctx)`, `out` holding anything —
e.g. the previous, longer frame): for every alphabet and every buffer of at least 2n+4 bytes no store
faults, the first L bytes are the frame, L is the value the pointer difference has, the buffer keeps
its size and EVERY BYTE BEHIND THE FRAME KEEPS ITS VALUE -/
theorem encoder_reused_buffer (ctx : Ctx) (pieces : List (List Byte)) (out : List Byte)
    (h : 2 * (pieces.map List.length).sum + 4 ≤ out.length) :
    ∃ out', gstuffingVW ctx pieces out = some (out', (gstuffingV ctx pieces).length) ∧
      out'.take (gstuffingV ctx pieces).length = gstuffingV ctx pieces ∧ out'.length = out.length ∧
      out'.drop (gstuffingV ctx pieces).length = out.drop (gstuffingV ctx pieces).length := by
  have := gstuffingV_length_le ctx pieces
  exact gstuffingVW_reused ctx pieces out (by omega)

/-- the same for the legacy encoder `gstuffing_v1(data, size, out)` modelled at the level of its stores -/
theorem encoder_reused_buffer_leg (p : List Byte) (out : List Byte) (h : 2 * p.length + 4 ≤ out.length) :
    ∃ out', gstuffingLegW p out = some (out', (gstuffingLeg p).length) ∧
      out'.take (gstuffingLeg p).length = gstuffingLeg p ∧ out'.length = out.length ∧
      out'.drop (gstuffingLeg p).length = out.drop (gstuffingLeg p).length := by
  obtain ⟨_, _, _, hl⟩ := frame_shape_leg p
  rw [gstuffingLegW_eq, gstuffingLeg_eq_V] at *
  exact gstuffingVW_reused Ctx.leg [p] out (by omega)

/-- THE `int` RETURN VALUE `(int)(outdata - outstrt)`: exactly when the frame is at most INT_MAX bytes
long the returned `int` is the frame length (L < 2^32, which 2n+4 < 2^32 guarantees) … -/
theorem int_return_exact (L : Nat) (h : L < 2 ^ 32) : retInt L = L ↔ L < 2 ^ 31 := by
  constructor
  · intro e
    by_cases hl : L < 2 ^ 31
    · exact hl
    · have := retInt_neg L (by omega) h
      omega
  · exact retInt_of_lt L

/-- … which every payload of at most 2^30 - 3 bytes guarantees (2n+4 ≤ INT_MAX): below this DECIDABLE
BOUND the return value of `gstuffing_v` / `gstuffing` is the length of the list-level frame -/
theorem int_return_is_length (ctx : Ctx) (pieces : List (List Byte))
    (h : 2 * (pieces.map List.length).sum + 4 < 2 ^ 31) :
    retInt (gstuffingV ctx pieces).length = (gstuffingV ctx pieces).length := by
  have := gstuffingV_length_le ctx pieces
  exact retInt_of_lt _ (by omega)

/-- THE SELF-SIZING OVERLOADS WITH THE C WIDTHS (`size_t` sum of the iovec lengths, `sz * 2 + 4` in
`size_t`, the `int` result converted to `size_t sz2`, `ret.resize(sz2)`): below the same bound they
return exactly the list-level frame, no store outside the buffer -/
theorem encoder_buffer_writes_widths (ctx : Ctx) (pieces : List (List Byte))
    (h : 2 * (pieces.map List.length).sum + 4 < 2 ^ 31) :
    gstuffingVecC ctx pieces = some (gstuffingV ctx pieces) := by
  have hlen := gstuffingV_length_le ctx pieces
  have hsz := vecBufSizeC_toNat pieces (by omega)
  obtain ⟨out', e1, e2, e3, _⟩ := gstuffingVW_reused ctx pieces
    (List.replicate (2 * (pieces.map List.length).sum + 4) 0) (by simpa using hlen)
  simp only [gstuffingVecC, hsz, e1]
  rw [intToSize_of_lt _ (by omega)]
  simp [hlen, e2]

-- non-vacuity of the bound: a 1 MiB payload in two pieces is below it
example : 2 * (([List.replicate 1048000 (0#8), List.replicate 576 (0#8)] : List (List Byte)).map List.length).sum + 4
    < 2 ^ 31 := by
  simp only [List.map_cons, List.map_nil, List.length_replicate, List.sum_cons, List.sum_nil]; decide

/-- … AND BEYOND IT NOT: for a payload of n start markers with 2^31 ≤ 2n+3 (n ≥ 2^30 - 1; the frame is
then longer than INT_MAX whatever its CRC) the `int` return value is NEGATIVE, and the self-sizing
overload, which converts it to `size_t` (≥ 2^63) and calls `resize`, ends in `std::length_error`
(`none`) — all its stores were inside the buffer.  (For n = 2^30 - 2 it depends on whether the CRC needs
escaping.)  Payloads of a gibibyte are outside what the framing is used for; recorded as an assumption
of the check, not as a finding. -/
theorem encoder_int_overflow_witness (ctx : Ctx) (n : Nat) (h1 : 2 ^ 31 ≤ 2 * n + 3) (h2 : 2 * n + 4 < 2 ^ 32) :
    retInt (gstuffingV ctx [List.replicate n ctx.start]).length < 0 ∧
    gstuffingVecC ctx [List.replicate n ctx.start] = none := by
  have hlen := gstuffingV_length_le ctx [List.replicate n ctx.start]
  -- every start marker takes two bytes, the CRC at least one
  have hlo : 2 * n + 3 ≤ (gstuffingV ctx [List.replicate n ctx.start]).length := by
    have := (stuffByte_length ctx (strmcrc8 0xFF#8 (List.replicate n ctx.start))).1
    have h2 : (stuffByte ctx ctx.start).length = 2 := by simp [stuffByte]
    simp [gstuffingV_eq_encode, encode, List.flatMap_replicate, h2]; omega
  simp only [List.map_cons, List.map_nil, List.length_replicate, List.sum_cons, List.sum_nil, Nat.add_zero] at hlen
  have hsz : (vecBufSizeC (iovSum [List.replicate n ctx.start])).toNat = 2 * n + 4 := by
    rw [vecBufSizeC_toNat _ (by simp only [List.map_cons, List.map_nil, List.length_replicate, List.sum_cons,
      List.sum_nil, Nat.add_zero]; omega)]
    simp only [List.map_cons, List.map_nil, List.length_replicate, List.sum_cons, List.sum_nil, Nat.add_zero]
  obtain ⟨out', e1, _, _, _⟩ := gstuffingVW_reused ctx [List.replicate n ctx.start]
    (List.replicate (2 * n + 4) 0) (by rw [List.length_replicate]; exact hlen)
  simp only [gstuffingVecC, hsz, e1]
  generalize (gstuffingV ctx [List.replicate n ctx.start]).length = L at hlen hlo ⊢
  have hL1 : 2 ^ 31 ≤ L := by omega
  have hL2 : L < 2 ^ 32 := by omega
  have hbig := intToSize_big L hL1 hL2
  exact ⟨retInt_neg L hL1 hL2, by rw [if_neg (by omega), if_neg (by omega)]⟩

-- the first n the witness applies to
example : 2 ^ 31 ≤ 2 * (2 ^ 30 - 1) + 3 ∧ 2 * (2 ^ 30 - 1) + 4 < 2 ^ 32 := by decide

/-- ENCODER CALLS ON ONE LONG-LIVED CONTEXT OBJECT ARE INDEPENDENT CALLS.  In a session (`Sess`: one
`gstuff_context` object mutated in place, one re-used output buffer, long-lived receivers — whatever
happened before) the result of an encoder step is a function of the CONTENTS of the context at the time
of the call and of the payload, nothing else: two sessions in arbitrary states that agree on the context
contents produce the same `int` and the same frame, namely those of the list-level `gstuffingV`.  This
is what justifies modelling a sequence of calls as independent calls (and what the seeded change
`C04-escape-table-cached-by-ctx-address` — a table cached by the ADDRESS of the context — violates). -/
theorem encode_depends_only_on_contents (s1 s2 : Sess) (pieces : List (List Byte)) (hc : s1.ctx = s2.ctx)
    (h1 : 2 * (pieces.map List.length).sum + 4 ≤ s1.out.length)
    (h2 : 2 * (pieces.map List.length).sum + 4 ≤ s2.out.length) :
    (s1.step (.enc pieces)).2 = (s2.step (.enc pieces)).2 ∧
    (s1.step (.enc pieces)).2 =
      .frame (retInt (gstuffingV s1.ctx pieces).length) (gstuffingV s1.ctx pieces) ∧
    (s1.step (.enc pieces)).1.frame = gstuffingV s1.ctx pieces := by
  have l1 := gstuffingV_length_le s1.ctx pieces
  have l2 := gstuffingV_length_le s2.ctx pieces
  obtain ⟨o1, e1⟩ := sess_enc s1 pieces (by omega)
  obtain ⟨o2, e2⟩ := sess_enc s2 pieces (by omega)
  rw [e1, e2, hc]; exact ⟨rfl, rfl, rfl⟩

/-- ROUND TRIP IN A SESSION, with the alphabet current at the call: from ANY session state (any
history of encoder calls, context mutations, receiver calls, stale buffer contents), overwriting the
context object with any well-formed alphabet `A`, encoding any pieces into the re-used buffer,
re-constructing the receiver object from the context, `init(blk, cap)` with n + 2 ≤ cap ≤ |blk| and
feeding the frame answers CONTINUE … CONTINUE NEWPACKAGE and hands over exactly the payload -/
theorem session_roundtrip (s : Sess) (A : Ctx) (hA : A.WF) (pieces : List (List Byte)) (cap : Nat)
    (hfit : 2 * (pieces.map List.length).sum + 4 ≤ s.out.length)
    (hcap : pieces.flatten.length + 2 ≤ cap) (hcap32 : cap < 2 ^ 32)
    (hblk : cap ≤ (if s.att then s.recv.line.buf else s.blk).length) :
    (Sess.run s [.setCtx A, .enc pieces, .rnew, .rinit cap, .feed none]).2 =
      [.unit, .frame (retInt (gstuffingV A pieces).length) (gstuffingV A pieces), .unit, .unit,
       .trace (List.replicate ((gstuffingV A pieces).length - 1) CONTINUE ++ [NEWPACKAGE]) [pieces.flatten]] := by
  have l1 := gstuffingV_length_le A pieces
  obtain ⟨o1, e1, e2, _, _⟩ := gstuffingVW_reused A pieces s.out (by omega)
  -- the receiver after `recv = gstuff_autorecv(ctx); recv.init(blk, cap)`
  generalize hb : (if s.att then s.recv.line.buf else s.blk) = blk0 at hblk
  obtain ⟨r', f1⟩ := bfeedS_init A blk0 cap hcap32 hblk (gstuffingV A pieces)
  obtain ⟨ss, g1, g2⟩ := roundtrip_iovec A hA pieces (Recv.init cap) (Or.inl rfl) hcap
  have hd : (feedTrace A (Recv.init cap) (gstuffingV A pieces)).2 = [pieces.flatten] :=
    (decode_gstuffing_v A hA pieces cap hcap).1
  have hss := allCont_snoc_eq (congrArg Prod.snd g1) g2
  rw [feed_length] at hss
  rw [hss, hd] at f1
  simp only [Sess.run, Sess.step, e1, e2, hb, Option.getD_none, if_false, Bool.false_eq_true, f1]

-- non-vacuity: the session right after its start, the v0 alphabet, 2 pieces, capacity 5
example : Ctx.v0.WF ∧ 2 * (([[0xAC#8], [0x41#8]] : List (List Byte)).map List.length).sum + 4 ≤ (Sess.start 16 8).out.length ∧
    ([[0xAC#8], [0x41#8]] : List (List Byte)).flatten.length + 2 ≤ 5 ∧
    5 ≤ (if (Sess.start 16 8).att then (Sess.start 16 8).recv.line.buf else (Sess.start 16 8).blk).length := by decide

/-- RECEIVER CALLS ON ONE LONG-LIVED RECEIVER OBJECT: whatever the session did before (frames, garbage,
half a frame, `reset()`, another alphabet, stale bytes in the receive block), after the receiver object is
re-constructed from the context and given a buffer (`init(blk, cap)`, 1 ≤ cap ≤ |blk|), what it answers to a
byte string and what it hands over depends only on (context CONTENTS at the re-construction, cap, the bytes):
it is the list-level receiver started from `Recv.init cap`, to which every theorem of C05 applies -/
theorem receiver_depends_only_on_contents (s1 s2 : Sess) (bs : List Byte) (cap : Nat) (hc : s1.ctx = s2.ctx)
    (hcap : 1 ≤ cap) (hcap32 : cap < 2 ^ 32)
    (hb1 : cap ≤ (if s1.att then s1.recv.line.buf else s1.blk).length)
    (hb2 : cap ≤ (if s2.att then s2.recv.line.buf else s2.blk).length) :
    (Sess.run s1 [.rnew, .rinit cap, .feed (some bs)]).2 = (Sess.run s2 [.rnew, .rinit cap, .feed (some bs)]).2 ∧
    (Sess.run s1 [.rnew, .rinit cap, .feed (some bs)]).2 =
      [.unit, .unit, .trace (feed s1.ctx (Recv.init cap) bs).2 (feedTrace s1.ctx (Recv.init cap) bs).2] := by
  have key : ∀ s : Sess, cap ≤ (if s.att then s.recv.line.buf else s.blk).length →
      (Sess.run s [.rnew, .rinit cap, .feed (some bs)]).2 =
        [.unit, .unit, .trace (feed s.ctx (Recv.init cap) bs).2 (feedTrace s.ctx (Recv.init cap) bs).2] := by
    intro s hblk
    generalize hb : (if s.att then s.recv.line.buf else s.blk) = blk0 at hblk
    obtain ⟨r', f1⟩ := bfeedS_init s.ctx blk0 cap hcap32 hblk bs
    simp only [Sess.run, Sess.step, hb, Option.getD_some, if_false, Bool.false_eq_true, f1]
  rw [key s1 hb1, key s2 hb2, hc]
  exact ⟨rfl, rfl⟩

-- non-vacuity: two different session states with the same context contents
example : (Sess.start 16 8).ctx = ((Sess.start 32 8).step (.enc [[0x41#8]])).1.ctx ∧ (1 : Nat) ≤ 4 ∧
    4 ≤ (if (Sess.start 16 8).att then (Sess.start 16 8).recv.line.buf else (Sess.start 16 8).blk).length := by decide

/-- LEGACY ROUND TRIP IN A SESSION: from any session state, `gstuffing_v1` into the re-used buffer,
`setbuf_v1(lblk, cap)` on the long-lived legacy struct (n + 2 ≤ cap ≤ |lblk|), feed: the `int` returned is the
frame length, the answers are `C…CN`, the packet (line minus its CRC byte) is the payload -/
theorem session_roundtrip_leg (s : Sess) (p : List Byte) (cap : Nat)
    (hfit : 2 * p.length + 4 ≤ s.out.length)
    (hcap : p.length + 2 ≤ cap) (hcap32 : cap < 2 ^ 32)
    (hblk : cap ≤ (if s.latt then s.lrecv.line.buf else s.lblk).length) :
    (Sess.run s [.encLeg p, .lsetbuf cap, .lfeed none]).2 =
      [.frame (retInt (gstuffingLeg p).length) (gstuffingLeg p), .unit,
       .trace (List.replicate ((gstuffingLeg p).length - 1) CONTINUE ++ [NEWPACKAGE]) [p]] := by
  obtain ⟨o1, e1, e2, _, _⟩ := encoder_reused_buffer_leg p s.out hfit
  generalize hb : (if s.latt then s.lrecv.line.buf else s.lblk) = blk0 at hblk
  obtain ⟨r', f1⟩ := blfeedS_init blk0 cap hcap32 hblk (gstuffingLeg p)
  obtain ⟨ss, r1, g1, g2, _, _, _, g6⟩ := roundtrip_leg_partial p cap hcap
  have hss := allCont_snoc_eq (congrArg Prod.snd g1) g2
  rw [lfeed_length] at hss
  rw [hss, g6] at f1
  simp only [Sess.run, Sess.step, e1, e2, hb, Option.getD_none, f1]

-- non-vacuity
example : 2 * ([0xAC#8, 0x41#8] : List Byte).length + 4 ≤ (Sess.start 16 8).out.length ∧ ([0xAC#8, 0x41#8] : List Byte).length + 2 ≤ 5 ∧
    5 ≤ (if (Sess.start 16 8).latt then (Sess.start 16 8).lrecv.line.buf else (Sess.start 16 8).lblk).length := by decide

/-- THE LINEAR-TIME FORMS THE DRIVER RUNS ON THE ≥ 300 KiB INPUTS ARE THE MODEL: `encodeLin` is
`gstuffingV` on one piece, `encodeLegLin` is `gstuffingLeg`; the receivers with the line kept reversed
and its length cached (`feedR`, `lfeedR`) compute, from any state, the number of CONTINUE answers, the
other answers in order and the packets (newest first) of `feed` / `feedTrace`, `lfeed` / `lfeedTrace` -/
theorem driver_linear_forms (ctx : Ctx) (p s : List Byte) (cap : Nat) :
    encodeLin ctx p = gstuffingV ctx [p] ∧ encodeLegLin p = gstuffingLeg p ∧
    (feedR ctx (RecvR.init cap) s 0 [] []).2.1 = ((feed ctx (Recv.init cap) s).2.filter (· = CONTINUE)).length ∧
    (feedR ctx (RecvR.init cap) s 0 [] []).2.2.1 = (feed ctx (Recv.init cap) s).2.filter (· ≠ CONTINUE) ∧
    (feedR ctx (RecvR.init cap) s 0 [] []).2.2.2 = (feedTrace ctx (Recv.init cap) s).2.reverse ∧
    (lfeedR (LRecvR.init cap) s 0 [] []).2.1 = ((lfeed (LRecv.init cap) s).2.filter (· = CONTINUE)).length ∧
    (lfeedR (LRecvR.init cap) s 0 [] []).2.2.1 = (lfeed (LRecv.init cap) s).2.filter (· ≠ CONTINUE) ∧
    (lfeedR (LRecvR.init cap) s 0 [] []).2.2.2 = (lfeedTrace (LRecv.init cap) s).2.reverse := by
  obtain ⟨a1, a2, a3⟩ := feedR_eq ctx (RecvR.init cap) rfl s 0 [] []
  obtain ⟨b1, b2, b3⟩ := lfeedR_eq (LRecvR.init cap) rfl s 0 [] []
  have ha : (RecvR.init cap).abs = Recv.init cap := rfl
  have hb : (LRecvR.init cap).abs = LRecv.init cap := rfl
  rw [ha] at a1 a2 a3
  rw [hb] at b1 b2 b3
  exact ⟨encodeLin_eq ctx p, encodeLegLin_eq p, by simpa using a1, by simpa using a2, by simpa using a3,
    by simpa using b1, by simpa using b2, by simpa using b3⟩

/-! ### exactly which output buffers are large enough -/

/-- THE BUFFER CLAUSE, EXACTLY.  The store-level encoder `gstuffing_v(vec, n, out, ctx)` faults (a store outside
`out`) IF AND ONLY IF `out` is shorter than the frame; otherwise the first L bytes are the frame, the return
value is L and everything behind the frame keeps its value.  So what a self-sizing overload has to allocate is
"at least the frame length" - 2n+4 (`encoder_buffer_writes`) is one sufficient choice, the exact frame length
(benign change C04-b13-1: measure first, allocate exactly) another; one byte less than the frame is never
enough.  This is why the check does not compare the capacity of the returned vector. -/
theorem encoder_buffer_exact (ctx : Ctx) (pieces : List (List Byte)) (out : List Byte) :
    (gstuffingVW ctx pieces out = none ↔ out.length < (gstuffingV ctx pieces).length) ∧
    ((gstuffingV ctx pieces).length ≤ out.length →
      ∃ out', gstuffingVW ctx pieces out = some (out', (gstuffingV ctx pieces).length) ∧
        out'.take (gstuffingV ctx pieces).length = gstuffingV ctx pieces ∧ out'.length = out.length ∧
        out'.drop (gstuffingV ctx pieces).length = out.drop (gstuffingV ctx pieces).length) := by
  refine ⟨⟨fun hn => ?_, fun hlt => ?_⟩, gstuffingVW_reused ctx pieces out⟩
  · refine Nat.lt_of_not_le (fun hge => ?_)
    obtain ⟨o, e, _⟩ := gstuffingVW_reused ctx pieces out hge
    rw [e] at hn; exact absurd hn (by simp)
  · exact gstuffingVW_fault ctx pieces out hlt

/-- an overload that allocates EXACTLY the frame length (zero-filled, as `std::vector(n)` does) and lets the
pointer encoder write into it: no store outside, the vector is the frame -/
theorem encoder_exact_allocation (ctx : Ctx) (pieces : List (List Byte)) :
    gstuffingVW ctx pieces (List.replicate (gstuffingV ctx pieces).length 0) =
      some (gstuffingV ctx pieces, (gstuffingV ctx pieces).length) := by
  obtain ⟨o, e, e2, e3, _⟩ := gstuffingVW_reused ctx pieces (List.replicate (gstuffingV ctx pieces).length 0) (by simp)
  rw [e]
  have : o = gstuffingV ctx pieces := by
    rw [← e2, List.take_of_length_le (by rw [e3]; simp)]
  rw [this]

/-- the legacy encoder `gstuffing_v1` alike: faults iff the caller's buffer is shorter than the frame -/
theorem encoder_buffer_exact_leg (p : List Byte) (out : List Byte) :
    (gstuffingLegW p out = none ↔ out.length < (gstuffingLeg p).length) := by
  rw [gstuffingLegW_eq, gstuffingLeg_eq_V]
  exact (encoder_buffer_exact Ctx.leg [p] out).1

-- non-vacuity: the 3-byte frame of the empty payload in a 2-byte and in a 3-byte buffer
example : gstuffingVW Ctx.v1 [[]] [0, 0] = none ∧ gstuffingVW Ctx.v1 [[]] [0, 0, 0] ≠ none := by decide

end Igris.Gstuff
