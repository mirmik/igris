/-
  C04 / C05 — what sender and receiver of the gstuff framing share.
-/
import IgrisModel.C04.Model
namespace Igris.Gstuff
open Igris.Proto Igris.C17

theorem ite_elim {α : Sort _} {P : α → Prop} {c : Prop} [Decidable c] {a b : α}
    (ha : c → P a) (hb : ¬ c → P b) : P (if c then a else b) := by
  by_cases h : c
  · rw [if_pos h]; exact ha h
  · rw [if_neg h]; exact hb h

theorem ite_rel {α β : Type} {R : α → β → Prop} {c c' : Prop} [Decidable c] [Decidable c'] {a b : α} {a' b' : β}
    (hc : c ↔ c') (ht : R a a') (he : R b b') : R (if c then a else b) (if c' then a' else b') := by
  by_cases h : c
  · rw [if_pos h, if_pos (hc.mp h)]; exact ht
  · rw [if_neg h, if_neg (fun h' => h (hc.mpr h'))]; exact he

theorem foldl_fixed {α β : Type} {f : α → β → α} {a : α} (hf : ∀ b, f a b = a) (l : List β) : l.foldl f a = a := by
  induction l with
  | nil => rfl
  | cons b bs ih => rw [List.foldl_cons, hf, ih]

/-! ### alphabets -/

/-- Well-formedness of a marker alphabet: what the round trip needs.
`start = stop` is allowed (v0); then `stubStop` is never emitted. -/
structure Ctx.WF (c : Ctx) : Prop where
  stub_ne_start : c.stub ≠ c.start
  stub_ne_stop : c.stub ≠ c.stop
  sstart_ne_start : c.stubStart ≠ c.start
  sstart_ne_stop : c.stubStart ≠ c.stop
  sstop_ne_start : c.stubStop ≠ c.start
  sstop_ne_stop : c.stubStop ≠ c.stop
  sstub_ne_start : c.stubStub ≠ c.start
  sstub_ne_stop : c.stubStub ≠ c.stop
  sstub_ne_sstart : c.stubStub ≠ c.stubStart
  sstub_ne_sstop : c.stubStub ≠ c.stubStop
  sstop_ne_sstart : c.start ≠ c.stop → c.stubStop ≠ c.stubStart

instance (c : Ctx) : Decidable c.WF :=
  if h : c.stub ≠ c.start ∧ c.stub ≠ c.stop ∧ c.stubStart ≠ c.start ∧ c.stubStart ≠ c.stop ∧
      c.stubStop ≠ c.start ∧ c.stubStop ≠ c.stop ∧ c.stubStub ≠ c.start ∧ c.stubStub ≠ c.stop ∧
      c.stubStub ≠ c.stubStart ∧ c.stubStub ≠ c.stubStop ∧ (c.start ≠ c.stop → c.stubStop ≠ c.stubStart)
  then isTrue ⟨h.1, h.2.1, h.2.2.1, h.2.2.2.1, h.2.2.2.2.1, h.2.2.2.2.2.1, h.2.2.2.2.2.2.1,
      h.2.2.2.2.2.2.2.1, h.2.2.2.2.2.2.2.2.1, h.2.2.2.2.2.2.2.2.2.1, h.2.2.2.2.2.2.2.2.2.2⟩
  else isFalse fun w => h ⟨w.1, w.2, w.3, w.4, w.5, w.6, w.7, w.8, w.9, w.10, w.11⟩

/-- the legacy alphabet AC / AD / AE / AF written as a `Ctx` (start = stop); it is the V0 alphabet -/
def Ctx.leg : Ctx := ⟨legStart, legStart, legStub, legStubStart, legStubStart, legStubStub⟩

theorem Ctx.leg_wf : Ctx.leg.WF := by decide

/-! ### the CRC trailer -/

theorem strmcrc8_snoc (k : BitVec 8) (l : List Byte) (c : Byte) :
    strmcrc8 k (l ++ [c]) = strmStep (strmcrc8 k l) c := by
  simp [strmcrc8, List.foldl_append]

theorem strmStep_self (c : BitVec 8) : strmStep c c = 0#8 := by
  simp only [strmStep, BitVec.xor_self]; decide

theorem strmcrc8_trailer (k : BitVec 8) (p : List Byte) : strmcrc8 k (p ++ [strmcrc8 k p]) = 0#8 := by
  rw [strmcrc8_snoc]; exact strmStep_self _

/-- holds because the polynomial is odd -/
theorem strmShift_eq_zero : ∀ y : BitVec 8, strmShift y = 0#8 → y = 0#8 := by decide +kernel

theorem strmStep_eq_zero (k x : BitVec 8) (h : strmStep k x = 0#8) : x = k := by
  have h1 := strmShift_eq_zero
  simp only [strmStep, iter] at h
  exact (BitVec.xor_eq_zero_iff.mp (h1 _ (h1 _ (h1 _ (h1 _ (h1 _ (h1 _ (h1 _ (h1 _ h))))))))).symm

theorem crc_zero_split (line : List Byte) (h : strmcrc8 0xFF#8 line = 0#8) :
    line = line.dropLast ++ [strmcrc8 0xFF#8 line.dropLast] := by
  rcases List.eq_nil_or_concat line with hnil | ⟨init, last, hl⟩
  · subst hnil; simp [strmcrc8] at h
  · subst hl
    simp only [List.concat_eq_append] at h ⊢
    rw [strmcrc8_snoc] at h
    simp [strmStep_eq_zero _ _ h]

/-! ### the stuffed form of a byte -/

theorem stuffByte_shape (ctx : Ctx) (c : Byte) :
    (c ≠ ctx.start ∧ c ≠ ctx.stub ∧ c ≠ ctx.stop ∧ stuffByte ctx c = [c]) ∨ ∃ d, stuffByte ctx c = [ctx.stub, d] := by
  unfold stuffByte
  by_cases h1 : c = ctx.start
  · exact .inr ⟨_, if_pos h1⟩
  · by_cases h2 : c = ctx.stub
    · exact .inr ⟨_, by rw [if_neg h1, if_pos h2]⟩
    · by_cases h3 : c = ctx.stop
      · exact .inr ⟨_, by rw [if_neg h1, if_neg h2, if_pos h3]⟩
      · exact .inl ⟨h1, h2, h3, by rw [if_neg h1, if_neg h2, if_neg h3]⟩

theorem stuffByte_length (ctx : Ctx) (c : Byte) : 1 ≤ (stuffByte ctx c).length ∧ (stuffByte ctx c).length ≤ 2 := by
  rcases stuffByte_shape ctx c with ⟨_, _, _, e⟩ | ⟨d, e⟩ <;> rw [e]
  · exact ⟨Nat.le_refl 1, Nat.le_succ 1⟩
  · exact ⟨Nat.le_succ 1, Nat.le_refl 2⟩

theorem flatMap_stuff_length_le (ctx : Ctx) (p : List Byte) :
    (p.flatMap (stuffByte ctx)).length ≤ 2 * p.length := by
  induction p with
  | nil => simp
  | cons c cs ih =>
    have := (stuffByte_length ctx c).2
    simp only [List.flatMap_cons, List.length_append, List.length_cons]; omega

/-- the `switch` of the legacy encoder is `gstuff_byte` on the legacy alphabet (whose third test,
`c = stop`, can never fire: stop = start) -/
theorem legStuffByte_eq (c : Byte) : legStuffByte c = stuffByte Ctx.leg c := by
  show _ = if c = legStart then _ else if c = legStub then _ else if c = legStart then _ else _
  unfold legStuffByte
  by_cases h1 : c = legStart
  · rw [if_pos h1, if_pos h1]; rfl
  · by_cases h2 : c = legStub
    · rw [if_neg h1, if_pos h2, if_neg h1, if_pos h2]; rfl
    · rw [if_neg h1, if_neg h2, if_neg h1, if_neg h2, if_neg h1]

/-! ### list-level encoders -/

/-- reference encoder on the whole payload -/
def encode (ctx : Ctx) (p : List Byte) : List Byte :=
  ctx.start :: (p.flatMap (stuffByte ctx) ++ stuffByte ctx (strmcrc8 0xFF#8 p) ++ [ctx.stop])

def frameBody (ctx : Ctx) (p : List Byte) : List Byte :=
  (p ++ [strmcrc8 0xFF#8 p]).flatMap (stuffByte ctx)

theorem encode_eq (ctx : Ctx) (p : List Byte) : encode ctx p = ctx.start :: (frameBody ctx p ++ [ctx.stop]) := by
  simp [encode, frameBody]

theorem encode_length_le (ctx : Ctx) (p : List Byte) : (encode ctx p).length ≤ 2 * p.length + 4 := by
  have h1 := flatMap_stuff_length_le ctx p
  have h2 := (stuffByte_length ctx (strmcrc8 0xFF#8 p)).2
  simp only [encode, List.length_cons, List.length_append, List.length_nil]; omega

theorem stuffPiece_eq (ctx : Ctx) (crc : BitVec 8) (acc : List Byte) (piece : List Byte) :
    stuffPiece ctx (crc, acc) piece = (piece.foldl strmStep crc, acc ++ piece.flatMap (stuffByte ctx)) := by
  induction piece generalizing crc acc with
  | nil => simp [stuffPiece]
  | cons c cs ih =>
    simp only [stuffPiece, List.foldl_cons] at ih ⊢
    rw [ih]; simp

theorem stuffPieces_eq (ctx : Ctx) (crc : BitVec 8) (acc : List Byte) (pieces : List (List Byte)) :
    pieces.foldl (stuffPiece ctx) (crc, acc) =
      (pieces.flatten.foldl strmStep crc, acc ++ pieces.flatten.flatMap (stuffByte ctx)) := by
  rw [← stuffPiece_eq]; exact List.foldl_flatten.symm

theorem gstuffingV_eq_encode (ctx : Ctx) (pieces : List (List Byte)) :
    gstuffingV ctx pieces = encode ctx pieces.flatten := by
  simp [gstuffingV, stuffPieces_eq, encode, strmcrc8]

theorem gstuffingV_length_le (ctx : Ctx) (pieces : List (List Byte)) :
    (gstuffingV ctx pieces).length ≤ 2 * (pieces.map List.length).sum + 4 := by
  rw [gstuffingV_eq_encode, ← List.length_flatten]; exact encode_length_le ctx _

theorem gstuffingV_length_le_vecBufSize (ctx : Ctx) (pieces : List (List Byte)) :
    (gstuffingV ctx pieces).length ≤ vecBufSize (pieces.map List.length).sum := by
  have := gstuffingV_length_le ctx pieces
  unfold vecBufSize; omega

def encodeLeg (p : List Byte) : List Byte :=
  legStart :: (p.flatMap legStuffByte ++ legStuffByte (strmcrc8 0xFF#8 p) ++ [legStart])

theorem encodeLeg_eq_encode (p : List Byte) : encodeLeg p = encode Ctx.leg p := by
  have hf : legStuffByte = stuffByte Ctx.leg := funext legStuffByte_eq
  simp only [encodeLeg, encode, hf]; rfl

theorem gstuffingLeg_eq_V (p : List Byte) : gstuffingLeg p = gstuffingV Ctx.leg [p] := by
  unfold gstuffingLeg
  rw [funext legStuffByte_eq]; rfl

theorem gstuffingLeg_eq (p : List Byte) : gstuffingLeg p = encodeLeg p := by
  rw [gstuffingLeg_eq_V, gstuffingV_eq_encode, encodeLeg_eq_encode]; simp

/-! ### receiver: feeding -/

theorem feed_cons (ctx : Ctx) (r : Recv) (c : Byte) (cs : List Byte) :
    feed ctx r (c :: cs) =
      ((feed ctx (newchar ctx r c).1 cs).1, (newchar ctx r c).2 :: (feed ctx (newchar ctx r c).1 cs).2) := rfl

theorem feed_append (ctx : Ctx) (r : Recv) (a b : List Byte) :
    feed ctx r (a ++ b) =
      ((feed ctx (feed ctx r a).1 b).1, (feed ctx r a).2 ++ (feed ctx (feed ctx r a).1 b).2) := by
  induction a generalizing r with
  | nil => simp [feed]
  | cons c cs ih => simp [feed, ih]

theorem feed_length (ctx : Ctx) (r : Recv) (s : List Byte) : (feed ctx r s).2.length = s.length := by
  induction s generalizing r with
  | nil => simp [feed]
  | cons c cs ih => simp [feed, ih]

def AllCont (ss : List Int) : Prop := ∀ s ∈ ss, s = CONTINUE

theorem AllCont.append {a b : List Int} (ha : AllCont a) (hb : AllCont b) : AllCont (a ++ b) := by
  intro s hs; rcases List.mem_append.mp hs with h | h
  · exact ha s h
  · exact hb s h

theorem allCont_nil : AllCont [] := fun _ hs => nomatch hs

theorem allCont_cons {ss : List Int} (h : AllCont ss) : AllCont (CONTINUE :: ss) := by
  intro s hs
  rcases List.mem_cons.mp hs with rfl | hs
  · rfl
  · exact h s hs

theorem allCont_snoc_eq {l ss : List Int} {t : Int} (h : l = ss ++ [t]) (a : AllCont ss) :
    l = List.replicate (l.length - 1) CONTINUE ++ [t] := by
  subst h
  rw [List.length_append, List.length_singleton, Nat.add_sub_cancel, ← List.eq_replicate_iff.mpr ⟨rfl, a⟩]

def InFrame (r : Recv) (l : List Byte) (k : BitVec 8) : Prop :=
  r.state = .s1 ∧ r.line = l ∧ r.crc = k

/-- a receiver that is between frames: freshly initialised / after a completed
packet or an error (state 0), or hunting for a start marker (state 4) -/
def Idle (r : Recv) : Prop := r.state = .s0 ∨ r.state = .s4

/-! ### receiver: one step -/

theorem newchar_s0 (ctx : Ctx) (crc : BitVec 8) (line : List Byte) (cap : Nat) (c : Byte) :
    newchar ctx ⟨.s0, crc, line, cap⟩ c =
      if c = ctx.start then (⟨.s1, 0xFF#8, [], cap⟩, CONTINUE) else (⟨.s4, 0xFF#8, [], cap⟩, GARBAGE) := rfl

theorem newchar_s4 (ctx : Ctx) (crc : BitVec 8) (line : List Byte) (cap : Nat) (c : Byte) :
    newchar ctx ⟨.s4, crc, line, cap⟩ c =
      if c = ctx.start then (⟨.s1, 0xFF#8, [], cap⟩, CONTINUE) else (⟨.s4, crc, line, cap⟩, GARBAGE) := rfl

theorem newchar_s1 (ctx : Ctx) (crc : BitVec 8) (line : List Byte) (cap : Nat) (c : Byte) :
    newchar ctx ⟨.s1, crc, line, cap⟩ c =
      if c = ctx.start ∧ ctx.start ≠ ctx.stop then (⟨.s1, 0xFF#8, [], cap⟩, FORCE_RESTART)
      else if c = ctx.start ∧ line.isEmpty then (⟨.s1, crc, line, cap⟩, CONTINUE)
      else if c = ctx.stop then stopL ⟨.s1, crc, line, cap⟩
      else if c = ctx.stub then (⟨.s2, crc, line, cap⟩, CONTINUE)
      else putcharL ⟨.s1, crc, line, cap⟩ c := rfl

theorem newchar_s2 (ctx : Ctx) (crc : BitVec 8) (line : List Byte) (cap : Nat) (c : Byte) :
    newchar ctx ⟨.s2, crc, line, cap⟩ c =
      if c = ctx.stubStart then putcharL ⟨.s2, crc, line, cap⟩ ctx.start
      else if c = ctx.stubStop then putcharL ⟨.s2, crc, line, cap⟩ ctx.stop
      else if c = ctx.stubStub then putcharL ⟨.s2, crc, line, cap⟩ ctx.stub
      else if c = ctx.start then (⟨.s1, 0xFF#8, [], cap⟩, FORCE_RESTART)
      else (⟨.s0, crc, line, cap⟩, STUFFING_ERROR) := rfl

/-- Whatever the state and the byte, a call of `newchar` does one of four things: it empties the line
(`reset`), it changes nothing but the state (`move`; never INTO the in-frame state), it runs the stop
handler (in a frame, on the stop marker), or it runs `__putchar__`.  Only the stop handler can answer
NEWPACKAGE.  The invariants of the receiver are proved shape by shape from this. -/
theorem newchar_cases (ctx : Ctx) (r : Recv) (c : Byte) {P : Recv × Int → Prop}
    (reset : ∀ st s, s ≠ NEWPACKAGE → P (⟨st, 0xFF#8, [], r.cap⟩, s))
    (move : ∀ st s, s ≠ NEWPACKAGE → (st = .s1 → r.state = .s1) → P ({ r with state := st }, s))
    (stop : r.state = .s1 → c = ctx.stop → P (stopL r))
    (put : ∀ x, P (putcharL r x)) :
    P (newchar ctx r c) := by
  obtain ⟨st, crc, line, cap⟩ := r
  cases st
  · exact ite_elim (fun _ => reset _ _ (by decide)) (fun _ => reset _ _ (by decide))
  · exact ite_elim (fun _ => reset _ _ (by decide)) (fun _ => move .s4 _ (by decide) (fun h => nomatch h))
  · exact ite_elim (fun _ => reset _ _ (by decide)) fun _ =>
      ite_elim (fun _ => move .s1 _ (by decide) (fun _ => rfl)) fun _ =>
      ite_elim (fun h => stop rfl h) fun _ =>
      ite_elim (fun _ => move .s2 _ (by decide) (fun h => nomatch h)) fun _ => put c
  · exact ite_elim (fun _ => put _) fun _ => ite_elim (fun _ => put _) fun _ => ite_elim (fun _ => put _) fun _ =>
      ite_elim (fun _ => reset _ _ (by decide)) fun _ => move .s0 _ (by decide) (fun h => nomatch h)

theorem putcharL_ok (r : Recv) (c : Byte) (h : r.line.length + 1 < r.cap) :
    putcharL r c = ({ r with line := r.line ++ [c], crc := strmStep r.crc c, state := .s1 }, CONTINUE) := by
  have : r.putOk = true := by simp [Recv.putOk]; omega
  simp [putcharL, this]

theorem putcharL_full (r : Recv) (c : Byte) (h : r.cap - 1 ≤ r.line.length) :
    putcharL r c = ({ r with state := .s0 }, OVERFLOW) := by
  have : r.putOk = false := by simp [Recv.putOk]; omega
  simp [putcharL, this]

theorem putcharL_cap (r : Recv) (c : Byte) : (putcharL r c).1.cap = r.cap := by
  unfold putcharL; split <;> rfl

theorem putcharL_snd_ne (r : Recv) (c : Byte) : (putcharL r c).2 ≠ NEWPACKAGE := by
  unfold putcharL; split
  · exact (by decide : CONTINUE ≠ NEWPACKAGE)
  · exact (by decide : OVERFLOW ≠ NEWPACKAGE)

theorem stopL_cap (r : Recv) : (stopL r).1.cap = r.cap := by
  unfold stopL; split <;> rfl

theorem stopL_state (r : Recv) : (stopL r).1.state = .s0 := by
  unfold stopL; split <;> rfl

theorem newchar_cap (ctx : Ctx) (r : Recv) (c : Byte) : (newchar ctx r c).1.cap = r.cap :=
  newchar_cases ctx r c (P := fun x => x.1.cap = r.cap) (fun _ _ _ => rfl) (fun _ _ _ _ => rfl)
    (fun _ _ => stopL_cap r) (putcharL_cap r)

theorem feed_inv (ctx : Ctx) (P : Recv → Prop) (hstep : ∀ r c, P r → P (newchar ctx r c).1)
    (r : Recv) (bs : List Byte) (h : P r) : P (feed ctx r bs).1 := by
  induction bs generalizing r with
  | nil => exact h
  | cons c cs ih => exact ih _ (hstep r c h)

theorem feed_cap (ctx : Ctx) (r : Recv) (bs : List Byte) : (feed ctx r bs).1.cap = r.cap :=
  feed_inv ctx (fun x => x.cap = r.cap) (fun x c hx => (newchar_cap ctx x c).trans hx) r bs rfl

theorem newchar_start_idle (ctx : Ctx) (r : Recv) (h : Idle r) :
    newchar ctx r ctx.start = ({ r with state := .s1, crc := 0xFF#8, line := [] }, CONTINUE) := by
  obtain ⟨st, crc, line, cap⟩ := r
  rcases h with h | h <;> simp only at h <;> subst h
  · rw [newchar_s0, if_pos rfl]
  · rw [newchar_s4, if_pos rfl]

theorem newchar_stop (ctx : Ctx) (crc : BitVec 8) (line : List Byte) (cap : Nat) (hne : line ≠ []) :
    newchar ctx ⟨.s1, crc, line, cap⟩ ctx.stop = stopL ⟨.s1, crc, line, cap⟩ := by
  have he : ¬ (ctx.stop = ctx.start ∧ line.isEmpty = true) := fun h => hne (List.isEmpty_iff.mp h.2)
  rw [newchar_s1, if_neg (fun h => h.2 h.1.symm), if_neg he, if_pos rfl]

/-! ### legacy receiver: feeding, one step -/

theorem lfeed_cons (r : LRecv) (c : Byte) (cs : List Byte) :
    lfeed r (c :: cs) = ((lfeed (lnewchar r c).1 cs).1, (lnewchar r c).2 :: (lfeed (lnewchar r c).1 cs).2) := rfl

theorem lfeed_append (r : LRecv) (a b : List Byte) :
    lfeed r (a ++ b) = ((lfeed (lfeed r a).1 b).1, (lfeed r a).2 ++ (lfeed (lfeed r a).1 b).2) := by
  induction a generalizing r with
  | nil => simp [lfeed]
  | cons c cs ih => simp [lfeed, ih]

theorem lfeed_length (r : LRecv) (s : List Byte) : (lfeed r s).2.length = s.length := by
  induction s generalizing r with
  | nil => simp [lfeed]
  | cons c cs ih => simp [lfeed, ih]

theorem lnewchar_l0 (crc : BitVec 8) (line : List Byte) (cap : Nat) (c : Byte) :
    lnewchar ⟨.l0, crc, line, cap⟩ c = lnewchar ⟨.l1, 0xFF#8, [], cap⟩ c := rfl

theorem lnewchar_l1 (crc : BitVec 8) (line : List Byte) (cap : Nat) (c : Byte) :
    lnewchar ⟨.l1, crc, line, cap⟩ c =
      if c = legStart then
        if line.isEmpty then (⟨.l1, crc, line, cap⟩, CONTINUE)
        else if crc ≠ 0 then (⟨.l0, crc, line, cap⟩, CRC_ERROR)
        else (⟨.l0, crc, line, cap⟩, NEWPACKAGE)
      else if c = legStub then (⟨.l2, crc, line, cap⟩, CONTINUE)
      else lputchar ⟨.l1, crc, line, cap⟩ c := rfl

theorem lnewchar_l2 (crc : BitVec 8) (line : List Byte) (cap : Nat) (c : Byte) :
    lnewchar ⟨.l2, crc, line, cap⟩ c =
      if c = legStubStart then lputchar ⟨.l2, crc, line, cap⟩ legStart
      else if c = legStubStub then lputchar ⟨.l2, crc, line, cap⟩ legStub
      else if c = legStart then (⟨.l0, crc, line, cap⟩, LDATA_ERROR)
      else (⟨.l3, crc, line, cap⟩, LDATA_ERROR) := rfl

theorem lnewchar_l3 (crc : BitVec 8) (line : List Byte) (cap : Nat) (c : Byte) :
    lnewchar ⟨.l3, crc, line, cap⟩ c =
      if c = legStart then (⟨.l1, 0xFF#8, [], cap⟩, CONTINUE)
      else (⟨.l3, crc, line, cap⟩, CONTINUE) := by
  by_cases hc : c = legStart <;> simp [lnewchar, hc]

/-- The shapes of a call of `lnewchar` (compare `newchar_cases`): the line is emptied, only the state
changes, a packet is announced (in a frame, on the marker, line non-empty, CRC residue 0: the line stays
as it is), or `__putchar__` runs - on the receiver as it is or, from state 0, on the emptied one. -/
theorem lnewchar_cases (r : LRecv) (c : Byte) {P : LRecv × Int → Prop}
    (reset : ∀ st s, s ≠ NEWPACKAGE → P (⟨st, 0xFF#8, [], r.cap⟩, s))
    (move : ∀ st s, s ≠ NEWPACKAGE → P ({ r with state := st }, s))
    (pkt : r.state = .l1 → c = legStart → r.line ≠ [] → r.crc = 0#8 → P ({ r with state := .l0 }, NEWPACKAGE))
    (put : ∀ x, P (lputchar r x))
    (put0 : ∀ x, P (lputchar ⟨.l1, 0xFF#8, [], r.cap⟩ x)) :
    P (lnewchar r c) := by
  obtain ⟨st, crc, line, cap⟩ := r
  cases st
  · rw [lnewchar_l0, lnewchar_l1]
    exact ite_elim (fun _ => ite_elim (fun _ => reset .l1 _ (by decide)) (fun h => absurd rfl h)) fun _ =>
      ite_elim (fun _ => reset .l2 _ (by decide)) fun _ => put0 c
  · rw [lnewchar_l1]
    exact ite_elim
      (fun hc => ite_elim (fun _ => move .l1 _ (by decide)) fun hl =>
        ite_elim (fun _ => move .l0 _ (by decide)) fun hz =>
          pkt rfl hc (fun (e : line = []) => hl (by rw [e]; rfl)) (Decidable.not_not.mp hz))
      fun _ => ite_elim (fun _ => move .l2 _ (by decide)) fun _ => put c
  · rw [lnewchar_l2]
    exact ite_elim (fun _ => put _) fun _ => ite_elim (fun _ => put _) fun _ =>
      ite_elim (fun _ => move .l0 _ (by decide)) fun _ => move .l3 _ (by decide)
  · rw [lnewchar_l3]
    exact ite_elim (fun _ => reset .l1 _ (by decide)) fun _ => move .l3 _ (by decide)

theorem lnewchar_marker_idle (r : LRecv) (hs : r.state = .l0 ∨ r.state = .l3) :
    lnewchar r legStart = (⟨.l1, 0xFF#8, [], r.cap⟩, CONTINUE) := by
  obtain ⟨st, crc, line, cap⟩ := r
  rcases hs with hs | hs <;> simp only at hs <;> subst hs
  · rw [lnewchar_l0, lnewchar_l1, if_pos rfl]; rfl
  · rw [lnewchar_l3, if_pos rfl]

theorem lputchar_ok (r : LRecv) (c : Byte) (h : r.line.length + 1 < r.cap) :
    lputchar r c = ({ r with line := r.line ++ [c], crc := strmStep r.crc c, state := .l1 }, CONTINUE) := by
  have : ¬ (r.cap - 1 ≤ r.line.length) := by omega
  simp [lputchar, this]

theorem lputchar_cap (r : LRecv) (c : Byte) : (lputchar r c).1.cap = r.cap := by
  unfold lputchar; split <;> rfl

theorem lputchar_snd_ne (r : LRecv) (c : Byte) : (lputchar r c).2 ≠ NEWPACKAGE := by
  unfold lputchar; split
  · exact (by decide : CONTINUE ≠ NEWPACKAGE)
  · exact (by decide : OVERFLOW ≠ NEWPACKAGE)

theorem lnewchar_cap (r : LRecv) (c : Byte) : (lnewchar r c).1.cap = r.cap :=
  lnewchar_cases r c (P := fun x => x.1.cap = r.cap) (fun _ _ _ => rfl) (fun _ _ _ => rfl)
    (fun _ _ _ _ => rfl) (lputchar_cap r) (lputchar_cap _)

theorem lfeed_inv (P : LRecv → Prop) (hstep : ∀ r c, P r → P (lnewchar r c).1)
    (r : LRecv) (bs : List Byte) (h : P r) : P (lfeed r bs).1 := by
  induction bs generalizing r with
  | nil => exact h
  | cons c cs ih => exact ih _ (hstep r c h)

theorem lfeed_cap (r : LRecv) (bs : List Byte) : (lfeed r bs).1.cap = r.cap :=
  lfeed_inv (fun x => x.cap = r.cap) (fun x c hx => (lnewchar_cap x c).trans hx) r bs rfl

end Igris.Gstuff
