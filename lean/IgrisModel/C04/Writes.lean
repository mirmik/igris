/-
  C04 — the encoder at the level of its buffer writes (`emit`, `gstuffingVW`) performs the
  stores of the list-level frame, in order: it faults exactly when the buffer is shorter than
  the frame.
-/
import IgrisModel.C04.Lemmas
import IgrisModel.Common.ListScan
namespace Igris.Gstuff
open Igris.Proto Igris.C17

/-- a run of `*outdata++ = b` -/
def emitAll (st : Option (List Byte × Nat)) (bs : List Byte) : Option (List Byte × Nat) := bs.foldl emit st

theorem emitAll_append (st : Option (List Byte × Nat)) (a b : List Byte) :
    emitAll st (a ++ b) = emitAll (emitAll st a) b := by simp [emitAll, List.foldl_append]

theorem emitAll_some (out : List Byte) (pos : Nat) (bs : List Byte) (h : pos + bs.length ≤ out.length) :
    ∃ out', emitAll (some (out, pos)) bs = some (out', pos + bs.length) ∧ out'.length = out.length ∧
      out'.take (pos + bs.length) = out.take pos ++ bs ∧
      out'.drop (pos + bs.length) = out.drop (pos + bs.length) := by
  induction bs generalizing out pos with
  | nil => exact ⟨out, rfl, rfl, by simp, rfl⟩
  | cons b bs ih =>
    simp only [List.length_cons] at h
    have hp : pos < out.length := by omega
    obtain ⟨out', e1, e2, e3, e4⟩ := ih (out.set pos b) (pos + 1) (by simp only [List.length_set]; omega)
    have hl : pos + (b :: bs).length = pos + 1 + bs.length := by simp only [List.length_cons]; omega
    refine ⟨out', ?_, by rw [e2, List.length_set], ?_, ?_⟩
    · simp only [emitAll, List.foldl_cons, emit, hp, if_true] at e1 ⊢
      rw [e1, hl]
    · rw [hl, e3, take_set_succ out pos b hp]; simp
    · rw [hl, e4, List.drop_set, if_pos (by omega)]

theorem emitAll_fault (out : List Byte) (pos : Nat) (bs : List Byte) (hp : pos ≤ out.length)
    (h : out.length < pos + bs.length) : emitAll (some (out, pos)) bs = none := by
  induction bs generalizing out pos with
  | nil => simp at h; omega
  | cons b bs ih =>
    simp only [List.length_cons] at h
    by_cases hlt : pos < out.length
    · simp only [emitAll, List.foldl_cons, emit, hlt, if_true]
      exact ih (out.set pos b) (pos + 1) (by simp only [List.length_set]; omega)
        (by simp only [List.length_set]; omega)
    · simp only [emitAll, List.foldl_cons, emit, hlt, if_false]
      exact foldl_fixed (fun _ => rfl) bs

theorem stuffByteW_eq (ctx : Ctx) (st : Option (List Byte × Nat)) (c : Byte) :
    stuffByteW ctx st c = emitAll st (stuffByte ctx c) := by
  unfold stuffByteW stuffByte
  split
  · rfl
  · split
    · rfl
    · split <;> rfl

theorem stuffPieceW_eq (ctx : Ctx) (crc : BitVec 8) (w : Option (List Byte × Nat)) (piece : List Byte) :
    piece.foldl (fun (st : BitVec 8 × Option (List Byte × Nat)) c => (strmStep st.1 c, stuffByteW ctx st.2 c)) (crc, w) =
      (piece.foldl strmStep crc, emitAll w (piece.flatMap (stuffByte ctx))) := by
  induction piece generalizing crc w with
  | nil => simp [emitAll]
  | cons c cs ih =>
    rw [List.foldl_cons, ih]
    simp only [List.flatMap_cons, emitAll_append, stuffByteW_eq, List.foldl_cons]

theorem gstuffingVW_eq (ctx : Ctx) (pieces : List (List Byte)) (out : List Byte) :
    gstuffingVW ctx pieces out = emitAll (some (out, 0)) (gstuffingV ctx pieces) := by
  unfold gstuffingVW
  rw [← List.foldl_flatten, stuffPieceW_eq]
  simp only [stuffByteW_eq, gstuffingV, stuffPieces_eq]
  simp only [emitAll, List.foldl_append, List.foldl_cons, List.foldl_nil]

theorem gstuffingVW_reused (ctx : Ctx) (pieces : List (List Byte)) (out : List Byte)
    (h : (gstuffingV ctx pieces).length ≤ out.length) :
    ∃ out', gstuffingVW ctx pieces out = some (out', (gstuffingV ctx pieces).length) ∧
      out'.take (gstuffingV ctx pieces).length = gstuffingV ctx pieces ∧ out'.length = out.length ∧
      out'.drop (gstuffingV ctx pieces).length = out.drop (gstuffingV ctx pieces).length := by
  obtain ⟨o, e1, e2, e3, e4⟩ := emitAll_some out 0 (gstuffingV ctx pieces) (by rw [Nat.zero_add]; exact h)
  rw [Nat.zero_add] at e1 e3 e4
  exact ⟨o, by rw [gstuffingVW_eq, e1], by rw [e3]; rfl, e2, e4⟩

theorem gstuffingVW_fault (ctx : Ctx) (pieces : List (List Byte)) (out : List Byte)
    (h : out.length < (gstuffingV ctx pieces).length) : gstuffingVW ctx pieces out = none := by
  rw [gstuffingVW_eq]
  exact emitAll_fault out 0 _ (Nat.zero_le _) (by rw [Nat.zero_add]; exact h)

end Igris.Gstuff
