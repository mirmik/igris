/-
  C04 / C05 — the forms closer to the C (integer widths, stores into a buffer, sessions on long-lived
  objects, the driver's linear-time receivers) tied back to the list-level model.
-/
import IgrisModel.C04.Writes
import IgrisModel.C05.LemmasBuf
import IgrisModel.C04.Drv2
namespace Igris.Gstuff
open Igris.Proto Igris.C17

/-- the receiver as a decoder: the packets handed to the user (`cstr()`/`size()` at every
NEWPACKAGE) while the stream is fed byte by byte to a freshly initialised receiver with a
`cap`-byte buffer — the second component of what the driver prints -/
def decode (ctx : Ctx) (cap : Nat) (stream : List Byte) : List (List Byte) :=
  (feedTrace ctx (Recv.init cap) stream).2

/-! ### widths -/

theorem toNat_ofNat32 {cap : Nat} (h : cap < 2 ^ 32) : (BitVec.ofNat 32 cap).toNat = cap := by
  simp only [BitVec.toNat_ofNat]; exact Nat.mod_eq_of_lt h

theorem retInt_of_lt (n : Nat) (h : n < 2 ^ 31) : retInt n = n := by
  unfold retInt
  rw [BitVec.toInt_eq_toNat_cond, toNat_ofNat32 (by omega), if_pos (by omega)]

theorem retInt_neg (n : Nat) (h1 : 2 ^ 31 ≤ n) (h2 : n < 2 ^ 32) : retInt n < 0 := by
  unfold retInt
  rw [BitVec.toInt_eq_toNat_cond, toNat_ofNat32 h2, if_neg (by omega)]
  omega

theorem intToSize_of_lt (n : Nat) (h : n < 2 ^ 31) : intToSize n = n := by
  unfold intToSize
  have hm : (BitVec.ofNat 32 n).msb = false := by
    rw [BitVec.msb_eq_decide, toNat_ofNat32 (by omega)]
    exact decide_eq_false (by omega)
  rw [BitVec.signExtend_eq_setWidth_of_msb_false hm]
  simp only [BitVec.toNat_setWidth, BitVec.toNat_ofNat]
  omega

theorem intToSize_big (n : Nat) (h1 : 2 ^ 31 ≤ n) (h2 : n < 2 ^ 32) : 2 ^ 63 ≤ intToSize n := by
  unfold intToSize
  have hm : (BitVec.ofNat 32 n).msb = true := by
    rw [BitVec.msb_eq_decide, toNat_ofNat32 h2]
    exact decide_eq_true h1
  rw [BitVec.toNat_signExtend]
  simp only [hm, if_true]
  omega

theorem iovSum_toNat (pieces : List (List Byte)) :
    (iovSum pieces).toNat = (pieces.map List.length).sum % 2 ^ 64 := by
  have aux : ∀ acc : BitVec 64, (pieces.foldl (fun s p => s + BitVec.ofNat 64 p.length) acc).toNat =
      (acc.toNat + (pieces.map List.length).sum) % 2 ^ 64 := by
    induction pieces with
    | nil => intro acc; simp [Nat.mod_eq_of_lt acc.isLt]
    | cons p ps ih =>
      intro acc
      simp only [List.foldl_cons, List.map_cons, List.sum_cons]
      rw [ih, BitVec.toNat_add, BitVec.toNat_ofNat, Nat.mod_add_mod, Nat.add_right_comm, Nat.add_mod_mod,
        Nat.add_right_comm, Nat.add_assoc]
  unfold iovSum; rw [aux]; simp

/-- while `sz * 2 + 4` does not wrap in `size_t`, the self-sizing overloads allocate 2n+4 bytes -/
theorem vecBufSizeC_toNat (pieces : List (List Byte)) (h : 2 * (pieces.map List.length).sum + 4 < 2 ^ 64) :
    (vecBufSizeC (iovSum pieces)).toNat = 2 * (pieces.map List.length).sum + 4 := by
  have h2 : BitVec.toNat (2 : BitVec 64) = 2 := rfl
  have h4 : BitVec.toNat (4 : BitVec 64) = 4 := rfl
  simp only [vecBufSizeC, BitVec.toNat_add, BitVec.toNat_mul, iovSum_toNat, h2, h4]
  generalize (pieces.map List.length).sum = n at h ⊢
  rw [Nat.mod_eq_of_lt (by omega : n < 2 ^ 64), Nat.mod_eq_of_lt (by omega : n * 2 < 2 ^ 64),
    Nat.mod_eq_of_lt (by omega : n * 2 + 4 < 2 ^ 64), Nat.mul_comm]

/-! ### encoder: linear form -/

theorem encodeLin_eq (ctx : Ctx) (p : List Byte) : encodeLin ctx p = gstuffingV ctx [p] := by
  rw [gstuffingV_eq_encode]; simp [encodeLin, encode]

theorem encodeLegLin_eq (p : List Byte) : encodeLegLin p = gstuffingLeg p := by
  rw [gstuffingLeg_eq]; simp [encodeLegLin, encodeLeg]

/-! ### sessions -/

theorem sess_enc (s : Sess) (pieces : List (List Byte))
    (hfit : (gstuffingV s.ctx pieces).length ≤ s.out.length) :
    ∃ out', s.step (.enc pieces) = ({ s with out := out', frame := gstuffingV s.ctx pieces },
        .frame (retInt (gstuffingV s.ctx pieces).length) (gstuffingV s.ctx pieces)) := by
  obtain ⟨out', e1, e2, _, _⟩ := gstuffingVW_reused s.ctx pieces s.out hfit
  exact ⟨out', by simp only [Sess.step, e1, e2]⟩

/-- the `int` capacity of `recv.init(blk, cap)` enters as a 32-bit pattern -/
theorem bfeedS_init (ctx : Ctx) (blk : List Byte) (cap : Nat) (hcap32 : cap < 2 ^ 32) (hblk : cap ≤ blk.length)
    (bs : List Byte) :
    ∃ r', bfeedS ctx (BRecv.init blk (BitVec.ofNat 32 cap)) bs =
      some (r', (feed ctx (Recv.init cap) bs).2, (feedTrace ctx (Recv.init cap) bs).2) := by
  obtain ⟨r', f1⟩ := bfeedS_eq ctx (BRecv.init blk (BitVec.ofNat 32 cap))
    (BRecv.init_ok _ _ (by rw [toNat_ofNat32 hcap32]; exact hblk)) bs
  rw [BRecv.init_abs, toNat_ofNat32 hcap32] at f1
  exact ⟨r', f1⟩

theorem blfeedS_init (blk : List Byte) (cap : Nat) (hcap32 : cap < 2 ^ 32) (hblk : cap ≤ blk.length)
    (bs : List Byte) :
    ∃ r', blfeedS (BLRecv.init blk (BitVec.ofNat 32 cap)) bs =
      some (r', (lfeed (LRecv.init cap) bs).2, (lfeedTrace (LRecv.init cap) bs).2) := by
  obtain ⟨r', f1⟩ := blfeedS_eq (BLRecv.init blk (BitVec.ofNat 32 cap))
    (BLRecv.init_ok _ _ (by rw [toNat_ofNat32 hcap32]; exact hblk)) bs
  rw [BLRecv.init_abs, toNat_ofNat32 hcap32] at f1
  exact ⟨r', f1⟩

/-! ### the linear-time receivers of the driver (reversed line, cached length) simulate the model -/

def RecvR.abs (r : RecvR) : Recv := ⟨r.state, r.crc, r.rline.reverse, r.cap⟩
def RecvR.OK (r : RecvR) : Prop := r.len = r.rline.length

/-- the result `x` of a step of the linear-time receiver against the list-level result `y`: the same receiver once
the line is turned round, the same answer, and the cached length still right (`SimL`: the same for the legacy pair) -/
def SimR (x : RecvR × Int) (y : Recv × Int) : Prop := x.1.abs = y.1 ∧ x.2 = y.2 ∧ x.1.OK

theorem putcharR_sim (r : RecvR) (h : r.OK) (c : Byte) : SimR (putcharR r c) (putcharL r.abs c) := by
  obtain ⟨st, crc, rl, len, cap⟩ := r
  simp only [RecvR.OK] at h; subst h
  simp only [putcharR, putcharL, Recv.putOk, RecvR.abs, List.length_reverse, decide_not, Bool.not_eq_eq_eq_not, Bool.not_true,
    decide_eq_false_iff_not]
  split <;> simp [RecvR.OK, RecvR.abs, SimR]

theorem stopR_sim (r : RecvR) (h : r.OK) : SimR (stopR r) (stopL r.abs) := by
  obtain ⟨st, crc, rl, len, cap⟩ := r
  simp only [RecvR.OK] at h; subst h
  by_cases hc : crc = 0#8
  · subst hc
    cases rl <;> simp [stopR, stopL, RecvR.OK, RecvR.abs, SimR]
  · simp [stopR, stopL, RecvR.OK, RecvR.abs, hc, SimR]

/- `newcharR` is `newchar` written again over the other representation: test by test the two `if` chains
agree (`ite_rel`), and every leaf is the receiver unchanged, the receiver reset, the stop handler or `__putchar__`. -/
theorem newcharR_sim (ctx : Ctx) (r : RecvR) (h : r.OK) (c : Byte) :
    (newcharR ctx r c).1.abs = (newchar ctx r.abs c).1 ∧ (newcharR ctx r c).2 = (newchar ctx r.abs c).2 ∧
      (newcharR ctx r c).1.OK := by
  obtain ⟨st, crc, rl, len, cap⟩ := r
  have hp := fun st x => putcharR_sim ⟨st, crc, rl, len, cap⟩ h x
  have same : ∀ st s, SimR (⟨st, crc, rl, len, cap⟩, s) (⟨st, crc, rl.reverse, cap⟩, s) := fun _ _ => ⟨rfl, rfl, h⟩
  have fresh : ∀ st s, SimR (⟨st, 0xFF, [], 0, cap⟩, s) (⟨st, 0xFF, [], cap⟩, s) := fun _ _ => ⟨rfl, rfl, rfl⟩
  have hemp : (c = ctx.start ∧ rl.isEmpty = true) ↔ (c = ctx.start ∧ rl.reverse.isEmpty = true) := by
    rw [List.isEmpty_reverse]
  show SimR _ _
  cases st
  · exact ite_rel Iff.rfl (fresh _ _) (fresh _ _)
  · exact ite_rel Iff.rfl (fresh _ _) (same _ _)
  · exact ite_rel Iff.rfl (fresh _ _) <| ite_rel hemp (same _ _) <|
      ite_rel Iff.rfl (stopR_sim _ h) <| ite_rel Iff.rfl (same _ _) (hp _ _)
  · exact ite_rel Iff.rfl (hp _ _) <| ite_rel Iff.rfl (hp _ _) <| ite_rel Iff.rfl (hp _ _) <|
      ite_rel Iff.rfl (fresh _ _) (same _ _)

theorem feedR_eq (ctx : Ctx) (rr : RecvR) (h : rr.OK) (s : List Byte) (nc : Nat) (os : List Int)
    (ps : List (List Byte)) :
    (feedR ctx rr s nc os ps).2.1 = nc + ((feed ctx rr.abs s).2.filter (· = CONTINUE)).length ∧
    (feedR ctx rr s nc os ps).2.2.1 = os.reverse ++ (feed ctx rr.abs s).2.filter (· ≠ CONTINUE) ∧
    (feedR ctx rr s nc os ps).2.2.2 = (feedTrace ctx rr.abs s).2.reverse ++ ps := by
  induction s generalizing rr nc os ps with
  | nil => simp [feedR, feed, feedTrace]
  | cons c cs ih =>
    obtain ⟨e1, e2, e3⟩ := newcharR_sim ctx rr h c
    have := ih (newcharR ctx rr c).1 e3
      (if (newcharR ctx rr c).2 = CONTINUE then nc + 1 else nc)
      (if (newcharR ctx rr c).2 = CONTINUE then os else (newcharR ctx rr c).2 :: os)
      (if (newcharR ctx rr c).2 = NEWPACKAGE then (newcharR ctx rr c).1.rline.reverse :: ps else ps)
    simp only [feedR, feed, feedTrace]
    rw [e1, e2] at this
    obtain ⟨t1, t2, t3⟩ := this
    have hl : (newcharR ctx rr c).1.rline.reverse = (newchar ctx rr.abs c).1.line := by
      rw [← e1]; rfl
    rw [e2]
    refine ⟨?_, ?_, ?_⟩
    · rw [t1]; by_cases hc : (newchar ctx rr.abs c).2 = CONTINUE <;> simp [hc] <;> omega
    · rw [t2]; by_cases hc : (newchar ctx rr.abs c).2 = CONTINUE <;> simp [hc]
    · rw [t3, hl]; by_cases hc : (newchar ctx rr.abs c).2 = NEWPACKAGE <;> simp [hc]

def LRecvR.abs (r : LRecvR) : LRecv := ⟨r.state, r.crc, r.rline.reverse, r.cap⟩
def LRecvR.OK (r : LRecvR) : Prop := r.len = r.rline.length

def SimL (x : LRecvR × Int) (y : LRecv × Int) : Prop := x.1.abs = y.1 ∧ x.2 = y.2 ∧ x.1.OK

theorem lputcharR_sim (r : LRecvR) (h : r.OK) (c : Byte) : SimL (lputcharR r c) (lputchar r.abs c) := by
  obtain ⟨st, crc, rl, len, cap⟩ := r
  simp only [LRecvR.OK] at h; subst h
  simp only [lputcharR, lputchar, LRecvR.abs, List.length_reverse]
  split <;> simp [LRecvR.OK, SimL, LRecvR.abs]

theorem lnewcharR_sim (r : LRecvR) (h : r.OK) (c : Byte) :
    (lnewcharR r c).1.abs = (lnewchar r.abs c).1 ∧ (lnewcharR r c).2 = (lnewchar r.abs c).2 ∧
      (lnewcharR r c).1.OK := by
  obtain ⟨st, crc, rl, len, cap⟩ := r
  have same : ∀ st s, SimL (⟨st, crc, rl, len, cap⟩, s) (⟨st, crc, rl.reverse, cap⟩, s) := fun _ _ => ⟨rfl, rfl, h⟩
  have fresh : ∀ st s, SimL (⟨st, 0xFF, [], 0, cap⟩, s) (⟨st, 0xFF, [], cap⟩, s) := fun _ _ => ⟨rfl, rfl, rfl⟩
  have hemp : rl.isEmpty = true ↔ rl.reverse.isEmpty = true := by rw [List.isEmpty_reverse]
  show SimL _ _
  cases st with
  | l0 | l3 =>
    -- state 0: reset, then the in-frame dispatch on the empty line; state 3: skip, or (on the marker) as state 0
    exact ite_rel Iff.rfl (same _ _) <| ite_rel Iff.rfl
      (ite_rel Iff.rfl (fresh _ _) <| ite_rel Iff.rfl (fresh _ _) (fresh _ _))
      (ite_rel Iff.rfl (fresh _ _) (lputcharR_sim ⟨.l1, 0xFF, [], 0, cap⟩ rfl c))
  | l1 =>
    exact ite_rel Iff.rfl (same _ _) <| ite_rel Iff.rfl
      (ite_rel hemp (same _ _) <| ite_rel Iff.rfl (same _ _) (same _ _))
      (ite_rel Iff.rfl (same _ _) (lputcharR_sim _ h c))
  | l2 =>
    exact ite_rel Iff.rfl (same _ _) <| ite_rel Iff.rfl (lputcharR_sim _ h _) <|
      ite_rel Iff.rfl (lputcharR_sim _ h _) <| ite_rel Iff.rfl (same _ _) (same _ _)

theorem lfeedR_eq (rr : LRecvR) (h : rr.OK) (s : List Byte) (nc : Nat) (os : List Int)
    (ps : List (List Byte)) :
    (lfeedR rr s nc os ps).2.1 = nc + ((lfeed rr.abs s).2.filter (· = CONTINUE)).length ∧
    (lfeedR rr s nc os ps).2.2.1 = os.reverse ++ (lfeed rr.abs s).2.filter (· ≠ CONTINUE) ∧
    (lfeedR rr s nc os ps).2.2.2 = (lfeedTrace rr.abs s).2.reverse ++ ps := by
  induction s generalizing rr nc os ps with
  | nil => simp [lfeedR, lfeed, lfeedTrace]
  | cons c cs ih =>
    obtain ⟨e1, e2, e3⟩ := lnewcharR_sim rr h c
    have := ih (lnewcharR rr c).1 e3
      (if (lnewcharR rr c).2 = CONTINUE then nc + 1 else nc)
      (if (lnewcharR rr c).2 = CONTINUE then os else (lnewcharR rr c).2 :: os)
      (if (lnewcharR rr c).2 = NEWPACKAGE then (lnewcharR rr c).1.rline.tail.reverse :: ps else ps)
    simp only [lfeedR, lfeed, lfeedTrace]
    rw [e1, e2] at this
    obtain ⟨t1, t2, t3⟩ := this
    have hl : (lnewcharR rr c).1.rline.tail.reverse = (lnewchar rr.abs c).1.line.dropLast := by
      rw [← e1]; simp [LRecvR.abs]
    rw [e2]
    refine ⟨?_, ?_, ?_⟩
    · rw [t1]; by_cases hc : (lnewchar rr.abs c).2 = CONTINUE <;> simp [hc] <;> omega
    · rw [t2]; by_cases hc : (lnewchar rr.abs c).2 = CONTINUE <;> simp [hc]
    · rw [t3, hl]; by_cases hc : (lnewchar rr.abs c).2 = NEWPACKAGE <;> simp [hc]

/-! ### legacy encoder at the level of its stores: the configurable one on the legacy alphabet -/

theorem legStuffByteW_eq (st : Option (List Byte × Nat)) (c : Byte) :
    legStuffByteW st c = stuffByteW Ctx.leg st c := by
  show _ = if c = legStart then _ else if c = legStub then _ else if c = legStart then _ else _
  unfold legStuffByteW
  by_cases h1 : c = legStart
  · rw [if_pos h1, if_pos h1]; rfl
  · by_cases h2 : c = legStub
    · rw [if_neg h1, if_pos h2, if_neg h1, if_pos h2]; rfl
    · rw [if_neg h1, if_neg h2, if_neg h1, if_neg h2, if_neg h1]

theorem gstuffingLegW_eq (p : List Byte) (out : List Byte) :
    gstuffingLegW p out = gstuffingVW Ctx.leg [p] out := by
  have : legStuffByteW = stuffByteW Ctx.leg := funext fun st => funext (legStuffByteW_eq st)
  unfold gstuffingLegW gstuffingVW
  rw [this]; rfl

end Igris.Gstuff
