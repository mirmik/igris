import IgrisModel.C12.IeeeLemmas
import IgrisModel.C12.LemParse
/-!
  C12 — error analysis of `igris_atof64` (accumulate, then scale, one rounding
  per operation) over ANY IEEE arithmetic instance: induction over the digit
  loop and the scaling loops with the standard model `fl(x) = x (1 + δ)`.
-/
namespace Igris.C12
open Spec FloatLike

abbrev fmtOf (F : Type) [FloatLike F] [IEEE F] : BinFmt := IEEE.B (F := F)

/-- Rounding budget of the mantissa loops in HALF units of `u`.  A digit step
    `val = val * 10.0 + d` is exact (free) as long as the accumulated integer
    stays below `2^P` and nothing was rounded before; otherwise it rounds twice
    (4 half units).  `acc` = the integer accumulated so far, `n` = budget so far. -/
def mantCost (P : Nat) : List Nat → Nat → Nat → Nat
  | [], _, n => n
  | c :: ds, acc, n =>
    mantCost P ds (acc * 10 + (c - 48)) (if acc * 10 + (c - 48) < 2 ^ P ∧ n = 0 then 0 else n + 4)

/-- budget of `k` steps `val *= 10.0` starting at the integer `acc`: free while
    exact, otherwise one rounding (2 half units) per step -/
def upCost (P : Nat) : Nat → Nat → Nat → Nat
  | 0, _, n => n
  | k + 1, acc, n => upCost P k (acc * 10) (if acc * 10 < 2 ^ P ∧ n = 0 then 0 else n + 2)

/-- the budget `k(L)` of a literal, in half units of `u`: the mantissa loops
    over all digits, then `d = exponent - #fraction digits` scaling steps:
    upwards one rounding per inexact step, downwards (`val *= 0.1`) 1.5 units per
    step (the rounding plus the error u/2 of the constant 0.1) -/
def atofCost (P : Nat) (L : Literal) : Nat :=
  let n := mantCost P (L.ip ++ L.fracDigits) 0 0
  let d : Int := L.expValue - (L.fracDigits.length : Int)
  if d > 0 then upCost P d.toNat (valL (L.ip ++ L.fracDigits)) n else n + 3 * (-d).toNat

/-- relative error at most `E`; meant for `q ≥ 0` only -/
def Approx (E a q : Rat) : Prop := q * (1 - E) ≤ a ∧ a ≤ q * (1 + E)

/-- `1.01 * (n/2) * u`: the factor 1.01 absorbs the second-order terms as long as `n * u ≤ 1/100` -/
def Eb (u : Rat) (n : Nat) : Rat := (101 / 200 : Rat) * (n : Rat) * u

theorem Eb_zero (u : Rat) : Eb u 0 = 0 := by simp [Eb]

theorem Eb_nonneg {u : Rat} (hu : 0 ≤ u) (n : Nat) : 0 ≤ Eb u n := by
  unfold Eb
  have h1 : (0 : Rat) ≤ (n : Rat) := Rat.natCast_nonneg
  have := Rat.mul_nonneg h1 hu
  grind

theorem Eb_le {u : Rat} {n : Nat} (h : (n : Rat) * u ≤ 1 / 100) : Eb u n ≤ 1 / 100 := by
  unfold Eb; grind

theorem bud_mono {u : Rat} (hu : 0 ≤ u) {n m : Nat} (hnm : n ≤ m) (h : (m : Rat) * u ≤ 1 / 100) :
    (n : Rat) * u ≤ 1 / 100 := by
  have h1 : (n : Rat) ≤ (m : Rat) := Rat.natCast_le_natCast.mpr hnm
  have := Rat.mul_le_mul_of_nonneg_right h1 hu
  grind

theorem approx_of_eq {u a q : Rat} (h : a = q) : Approx (Eb u 0) a q := by
  subst h; rw [Eb_zero]; constructor <;> grind

theorem approx_zero_eq {u a q : Rat} (h : Approx (Eb u 0) a q) : a = q := by
  rw [Eb_zero] at h; obtain ⟨h1, h2⟩ := h; grind

theorem approx_nonneg {E a q : Rat} (h : Approx E a q) (hq : 0 ≤ q) (hE : E ≤ 1) : 0 ≤ a := by
  have : 0 ≤ q * (1 - E) := Rat.mul_nonneg hq (by grind)
  exact Rat.le_trans this h.1

theorem approx_q_zero {E a : Rat} (h : Approx E a 0) : a = 0 := by
  obtain ⟨h1, h2⟩ := h; grind

theorem approx_weaken {E E' a q : Rat} (h : Approx E a q) (hq : 0 ≤ q) (hE : E ≤ E') : Approx E' a q := by
  obtain ⟨h1, h2⟩ := h
  have := Rat.mul_le_mul_of_nonneg_left hE hq
  constructor <;> grind

theorem approx_mul {E1 E2 a b q1 q2 : Rat} (ha : Approx E1 a q1) (hb : Approx E2 b q2)
    (hq1 : 0 ≤ q1) (hq2 : 0 ≤ q2) (h10 : 0 ≤ E1) (h11 : E1 ≤ 1) (h20 : 0 ≤ E2) (h21 : E2 ≤ 1) :
    Approx (E1 + E2 + E1 * E2) (a * b) (q1 * q2) := by
  have ha0 := approx_nonneg ha hq1 h11
  have hb0 := approx_nonneg hb hq2 h21
  obtain ⟨ha1, ha2⟩ := ha
  obtain ⟨hb1, hb2⟩ := hb
  have hl1 : 0 ≤ q1 * (1 + E1) := Rat.mul_nonneg hq1 (by grind)
  have hl2 : 0 ≤ q2 * (1 - E2) := Rat.mul_nonneg hq2 (by grind)
  have u1 := Rat.mul_le_mul_of_nonneg_right ha2 hb0
  have u2 := Rat.mul_le_mul_of_nonneg_left hb2 hl1
  have l1 := Rat.mul_le_mul_of_nonneg_right ha1 hl2
  have l2 := Rat.mul_le_mul_of_nonneg_left hb1 ha0
  have p : 0 ≤ q1 * q2 * E1 * E2 := Rat.mul_nonneg (Rat.mul_nonneg (Rat.mul_nonneg hq1 hq2) h10) h20
  constructor <;> grind

theorem approx_add {E a q d : Rat} (h : Approx E a q) (hd : 0 ≤ d) (hE0 : 0 ≤ E) :
    Approx E (a + d) (q + d) := by
  obtain ⟨h1, h2⟩ := h
  have := Rat.mul_nonneg hd hE0
  constructor <;> grind

theorem approx_abs {E a q : Rat} (h : Approx E a q) : absQ (a - q) ≤ E * q := by
  obtain ⟨h1, h2⟩ := h
  unfold absQ; split <;> grind

theorem rn_approx {B : BinFmt} {v r q E : Rat} (h : RN B v r) (hA : Approx E v q) (hq : 0 ≤ q)
    (hE0 : 0 ≤ E) (hE : E ≤ 1 / 2) (ht : q = 0 ∨ 2 * B.tiny ≤ q) (hu : B.u ≤ 1) :
    Approx (E + B.u + E * B.u) r q := by
  have hu0 := u_pos B
  have hv : v = 0 ∨ B.tiny ≤ v := by
    rcases ht with h0 | h2
    · subst h0; exact Or.inl (approx_q_zero hA)
    · right
      have := Rat.mul_le_mul_of_nonneg_left (show (1 / 2 : Rat) ≤ 1 - E by grind) hq
      have := hA.1
      grind
  obtain ⟨r1, r2⟩ := h.rel hv
  obtain ⟨a1, a2⟩ := hA
  have p1 := Rat.mul_le_mul_of_nonneg_right a2 (show 0 ≤ 1 + B.u by grind)
  have p2 := Rat.mul_le_mul_of_nonneg_right a1 (show 0 ≤ 1 - B.u by grind)
  have p3 : 0 ≤ q * E * B.u := Rat.mul_nonneg (Rat.mul_nonneg hq hE0) (by grind)
  constructor <;> grind

section cls
variable {F : Type} [FloatLike F] [IEEE F]

theorem fmt_u_small (hprec : 10 ≤ (fmtOf F).prec) : (fmtOf F).u ≤ 1 / 1000 := by
  have := u_mul_two_pow_le (fmtOf F) 10 hprec
  have e : ((2 ^ 10 : Nat) : Rat) = 1024 := by simp
  rw [e] at this
  have := u_pos (fmtOf F)
  grind

theorem two_pow_prec_ge : 16 ≤ 2 ^ (fmtOf F).prec := by
  have : 2 ^ 4 ≤ 2 ^ (fmtOf F).prec := Nat.pow_le_pow_right (by decide) (IEEE.prec_ge (F := F))
  omega

/-! ### one operation of the class -/

theorem approx_inrange {B : BinFmt} {E v q : Rat} (hA : Approx E v q) (hq : 0 ≤ q)
    (hE : E ≤ 1 / 2) (hb : 2 * q ≤ B.big) : 0 ≤ v ∧ InRange B v := by
  have h0 := approx_nonneg hA hq (by grind)
  have hbig : 0 < B.big := pow2_pos _
  have := Rat.mul_le_mul_of_nonneg_left (show 1 + E ≤ 3 / 2 by grind) hq
  have := hA.2
  refine ⟨h0, ?_, ?_⟩ <;> grind

/-- `hop` has the shape of the axioms `IEEE.add_rn`, `IEEE.mul_rn`: in range, `val z` is the exact result `v` rounded once -/
theorem round_step {z : F} {v q E : Rat} (hop : InRange (fmtOf F) v → IEEE.fin z ∧ RNs (fmtOf F) v (IEEE.val z))
    (hA : Approx E v q) (hq : 0 ≤ q) (hE0 : 0 ≤ E) (hE : E ≤ 1 / 2)
    (hb : 2 * q ≤ (fmtOf F).big) (ht : q = 0 ∨ 2 * (fmtOf F).tiny ≤ q) (hu : (fmtOf F).u ≤ 1) :
    IEEE.fin z ∧ Approx (E + (fmtOf F).u + E * (fmtOf F).u) (IEEE.val z) q := by
  obtain ⟨hf, hrn⟩ := hop (approx_inrange hA hq hE hb).2
  exact ⟨hf, rn_approx (hrn.pos (approx_nonneg hA hq (by grind))) hA hq hE0 hE ht hu⟩

theorem ofInt_nat (k : Nat) (hk : k < 16) :
    IEEE.fin (ofInt (k : Int) : F) ∧ IEEE.val (ofInt (k : Int) : F) = (k : Rat) := by
  have hk' : (k : Rat) < ((16 : Nat) : Rat) := Rat.natCast_lt_natCast.mpr hk
  have hp : 16 ≤ 2 ^ (IEEE.B (F := F)).prec := two_pow_prec_ge (F := F)
  exact ofInt_exact k (rep_nat _ emin_le_zero k (by omega)) (by grind)

theorem ofInt_ten : IEEE.fin (ofInt 10 : F) ∧ IEEE.val (ofInt 10 : F) = 10 := by
  have := ofInt_nat (F := F) 10 (by omega); simpa using this

theorem ofInt_zero : IEEE.fin (ofInt 0 : F) ∧ IEEE.val (ofInt 0 : F) = 0 := by
  have := ofInt_nat (F := F) 0 (by omega); simpa using this

theorem ofInt_one : IEEE.fin (ofInt 1 : F) ∧ IEEE.val (ofInt 1 : F) = 1 := by
  have := ofInt_nat (F := F) 1 (by omega); simpa using this

theorem ofInt_digit (c : Nat) (h1 : 48 ≤ c) (h2 : c ≤ 57) :
    IEEE.fin (ofInt ((c : Int) - 48) : F) ∧ IEEE.val (ofInt ((c : Int) - 48) : F) = ((c - 48 : Nat) : Rat) := by
  have e : (c : Int) - 48 = ((c - 48 : Nat) : Int) := by omega
  rw [e]; exact ofInt_nat (c - 48) (by omega)

theorem ofInt_neg_one : IEEE.fin (ofInt (-1) : F) ∧ IEEE.val (ofInt (-1) : F) = -1 := by
  have hbig := big_ge (F := F)
  have e : (((-1 : Int)) : Rat) = -1 := by decide
  have hr : InRange (fmtOf F) (((-1 : Int)) : Rat) := by
    rw [e]; constructor <;> grind
  obtain ⟨hf, hrn⟩ := IEEE.ofInt_rn (F := F) (-1) hr
  refine ⟨hf, ?_⟩
  rw [e] at hrn
  have h := hrn.2 (by decide)
  have h1 : Rep (fmtOf F) (1 : Rat) := by
    have := rep_nat (fmtOf F) emin_le_zero 1 (by have := two_pow_prec_ge (F := F); omega)
    simpa using this
  have := h.exact (by simpa using h1)
  grind

/-! ### the budget arithmetic -/

theorem natCast_add_four (n : Nat) : ((n + 4 : Nat) : Rat) = (n : Rat) + 4 := by
  rw [Rat.natCast_add]; simp

theorem Eb_round {u : Rat} {n : Nat} (hu0 : 0 ≤ u) (h : (n : Rat) * u ≤ 1 / 100) :
    Eb u n + u + Eb u n * u ≤ Eb u (n + 2) := by
  unfold Eb
  rw [Rat.natCast_add, Rat.natCast_ofNat]
  have := Rat.mul_le_mul_of_nonneg_right h hu0
  grind

/-- a step `val *= 0.1` (constant within u/2, one rounding) costs three half units -/
theorem Eb_down {u : Rat} {n : Nat} (hu0 : 0 ≤ u) (hu : u ≤ 1 / 1000) (h : (n : Rat) * u ≤ 1 / 100) :
    (Eb u n + u / 2 + Eb u n * (u / 2)) + u + (Eb u n + u / 2 + Eb u n * (u / 2)) * u ≤ Eb u (n + 3) := by
  unfold Eb
  rw [Rat.natCast_add, Rat.natCast_ofNat]
  have h1 := Rat.mul_le_mul_of_nonneg_right h hu0
  have h2 := Rat.mul_le_mul_of_nonneg_right hu hu0
  have h3 := Rat.mul_le_mul_of_nonneg_right h1 hu0
  grind

theorem approx_mul_const {E a q c : Rat} (h : Approx E a q) (hc : 0 ≤ c) : Approx E (a * c) (q * c) := by
  obtain ⟨h1, h2⟩ := h
  have := Rat.mul_le_mul_of_nonneg_right h1 hc
  have := Rat.mul_le_mul_of_nonneg_right h2 hc
  constructor <;> grind

theorem nat_tiny (m : Nat) : (m : Rat) = 0 ∨ 2 * (fmtOf F).tiny ≤ (m : Rat) := by
  by_cases h : m = 0
  · left; subst h; simp
  · right
    have h1 : ((1 : Nat) : Rat) ≤ (m : Rat) := Rat.natCast_le_natCast.mpr (by omega)
    have := tiny_le (F := F)
    simp at h1
    grind

theorem natCast_le_of_le {a b : Nat} {X : Rat} (h : a ≤ b) (hb : 2 * (b : Rat) ≤ X) : 2 * (a : Rat) ≤ X := by
  have : (a : Rat) ≤ (b : Rat) := Rat.natCast_le_natCast.mpr h
  grind

/-- the invariant of the three loops; `n` = the roundings charged so far, in half units -/
def Within (n : Nat) (x : F) (q : Rat) : Prop := IEEE.fin x ∧ Approx (Eb (fmtOf F).u n) (IEEE.val x) q

theorem Within.mono {n n' : Nat} {x : F} {q : Rat} (h : Within n x q) (hq : 0 ≤ q) (hn : n ≤ n') : Within n' x q := by
  refine ⟨h.1, approx_weaken h.2 hq ?_⟩
  exact Rat.mul_le_mul_of_nonneg_right
    (Rat.mul_le_mul_of_nonneg_left (Rat.natCast_le_natCast.mpr hn) (by decide +kernel)) (u_nonneg _)

/-- `hop` as in `round_step`; in the free case (`m < 2^prec`, nothing rounded before) the result is `m` itself -/
theorem nat_step {z : F} {v : Rat} (hop : InRange (fmtOf F) v → IEEE.fin z ∧ RNs (fmtOf F) v (IEEE.val z))
    (m n : Nat) (hA : Approx (Eb (fmtOf F).u n) v (m : Rat)) (hu : (fmtOf F).u ≤ 1 / 1000)
    (hb : 2 * (m : Rat) ≤ (fmtOf F).big)
    (hbud : ((if m < 2 ^ (fmtOf F).prec ∧ n = 0 then 0 else n + 2 : Nat) : Rat) * (fmtOf F).u ≤ 1 / 100) :
    Within (if m < 2 ^ (fmtOf F).prec ∧ n = 0 then 0 else n + 2) z (m : Rat) := by
  have hu0 := u_nonneg (fmtOf F)
  have hm0 : (0 : Rat) ≤ (m : Rat) := Rat.natCast_nonneg
  by_cases hc : m < 2 ^ (fmtOf F).prec ∧ n = 0
  · obtain ⟨hlt, rfl⟩ := hc
    rw [if_pos ⟨hlt, rfl⟩]
    have hv := approx_zero_eq hA
    subst hv
    have hbig : 0 < (fmtOf F).big := pow2_pos _
    obtain ⟨hf, hrn⟩ := hop (by constructor <;> grind)
    exact ⟨hf, approx_of_eq ((hrn.pos hm0).exact (rep_nat _ emin_le_zero m hlt))⟩
  · rw [if_neg hc] at hbud ⊢
    have b0 : (n : Rat) * (fmtOf F).u ≤ 1 / 100 := bud_mono hu0 (by omega) hbud
    have e0 := Eb_le b0
    obtain ⟨fz, az⟩ := round_step hop hA hm0 (Eb_nonneg hu0 n) (by grind) hb (nat_tiny _) (by grind)
    exact ⟨fz, approx_weaken az hm0 (Eb_round hu0 b0)⟩

theorem up_step (x : F) (acc n : Nat) (h : Within n x (acc : Rat)) (hu : (fmtOf F).u ≤ 1 / 1000)
    (hb : 2 * ((acc * 10 : Nat) : Rat) ≤ (fmtOf F).big)
    (hbud : ((if acc * 10 < 2 ^ (fmtOf F).prec ∧ n = 0 then 0 else n + 2 : Nat) : Rat) * (fmtOf F).u ≤ 1 / 100) :
    Within (if acc * 10 < 2 ^ (fmtOf F).prec ∧ n = 0 then 0 else n + 2) (mul x (ofInt 10)) ((acc * 10 : Nat) : Rat) := by
  obtain ⟨f10, v10⟩ := ofInt_ten (F := F)
  refine nat_step (IEEE.mul_rn x (ofInt 10) h.1 f10) (acc * 10) n ?_ hu hb hbud
  rw [v10, Rat.natCast_mul]; simpa using approx_mul_const h.2 (show (0 : Rat) ≤ 10 by decide)

/-! ### the mantissa loop -/

theorem mant_step (x : F) (acc n c : Nat) (hc1 : 48 ≤ c) (hc2 : c ≤ 57) (h : Within n x (acc : Rat))
    (hu : (fmtOf F).u ≤ 1 / 1000) (hb : 2 * ((acc * 10 + (c - 48) : Nat) : Rat) ≤ (fmtOf F).big)
    (hbud : ((if acc * 10 + (c - 48) < 2 ^ (fmtOf F).prec ∧ n = 0 then 0 else n + 4 : Nat) : Rat) * (fmtOf F).u
      ≤ 1 / 100) :
    Within (if acc * 10 + (c - 48) < 2 ^ (fmtOf F).prec ∧ n = 0 then 0 else n + 4)
      (add (mul x (ofInt 10)) (ofInt ((c : Int) - 48))) ((acc * 10 + (c - 48) : Nat) : Rat) := by
  obtain ⟨fd, vd⟩ := ofInt_digit (F := F) c hc1 hc2
  have hu0 := u_nonneg (fmtOf F)
  -- the product and the sum are one `nat_step` each; their budgets stay below that of the step
  have h1 : (if acc * 10 < 2 ^ (fmtOf F).prec ∧ n = 0 then 0 else n + 2) ≤
      (if acc * 10 + (c - 48) < 2 ^ (fmtOf F).prec ∧ n = 0 then 0 else n + 4) ∧
      (if acc * 10 < 2 ^ (fmtOf F).prec ∧ n = 0 then 0 else n + 2) ≤ n + 2 := by
    split <;> split <;> omega
  obtain ⟨fm, am⟩ := up_step x acc n h hu (natCast_le_of_le (by omega) hb) (bud_mono hu0 h1.1 hbud)
  generalize (if acc * 10 < 2 ^ (fmtOf F).prec ∧ n = 0 then 0 else n + 2) = n1 at h1 am
  have h2 : (if acc * 10 + (c - 48) < 2 ^ (fmtOf F).prec ∧ n1 = 0 then 0 else n1 + 2) ≤
      (if acc * 10 + (c - 48) < 2 ^ (fmtOf F).prec ∧ n = 0 then 0 else n + 4) := by
    obtain ⟨h1a, h1b⟩ := h1
    by_cases hc : acc * 10 + (c - 48) < 2 ^ (fmtOf F).prec ∧ n = 0
    · rw [if_pos hc] at h1a ⊢; rw [if_pos ⟨hc.1, by omega⟩]; omega
    · rw [if_neg hc]; split <;> omega
  have hA2 : Approx (Eb (fmtOf F).u n1) (IEEE.val (mul x (ofInt 10)) + IEEE.val (ofInt ((c : Int) - 48) : F))
      ((acc * 10 + (c - 48) : Nat) : Rat) := by
    rw [vd, Rat.natCast_add]
    exact approx_add am Rat.natCast_nonneg (Eb_nonneg hu0 _)
  exact (nat_step (IEEE.add_rn _ (ofInt ((c : Int) - 48)) fm fd) _ n1 hA2 hu hb (bud_mono hu0 h2 hbud)).mono
    Rat.natCast_nonneg h2

theorem mantCost_ge (P : Nat) (ds : List Nat) (acc n : Nat) : n ≤ mantCost P ds acc n := by
  induction ds generalizing acc n with
  | nil => simp [mantCost]
  | cons c ds ih =>
    simp only [mantCost]
    refine Nat.le_trans ?_ (ih _ _)
    split <;> omega

theorem upCost_ge (P : Nat) (k acc n : Nat) : n ≤ upCost P k acc n := by
  induction k generalizing acc n with
  | zero => simp [upCost]
  | succ k ih =>
    simp only [upCost]
    refine Nat.le_trans ?_ (ih _ _)
    split <;> omega

theorem mantCost_append (P : Nat) (xs ys : List Nat) (acc n : Nat) :
    mantCost P (xs ++ ys) acc n = mantCost P ys (acc * 10 ^ xs.length + valL xs) (mantCost P xs acc n) := by
  induction xs generalizing acc n with
  | nil => simp [mantCost, valL]
  | cons c xs ih =>
    simp only [List.cons_append, mantCost, List.length_cons]
    rw [ih, valL_cons, horner_step]

theorem horner_F (ds : List Nat) (hd : AllDigits ds) (x : F) (acc n : Nat) (h : Within n x (acc : Rat))
    (hu : (fmtOf F).u ≤ 1 / 1000)
    (hb : 2 * ((acc * 10 ^ ds.length + valL ds : Nat) : Rat) ≤ (fmtOf F).big)
    (hbud : (mantCost (fmtOf F).prec ds acc n : Rat) * (fmtOf F).u ≤ 1 / 100) :
    Within (mantCost (fmtOf F).prec ds acc n) (horner x ds) ((acc * 10 ^ ds.length + valL ds : Nat) : Rat) := by
  induction ds generalizing x acc n with
  | nil => simpa [mantCost, valL, horner] using h
  | cons d ds ih =>
    have hd' := allDigits_cons.mp hd
    simp only [mantCost] at hbud ⊢
    rw [valL_cons, List.length_cons, ← horner_step] at hb ⊢
    have hb1 : 2 * ((acc * 10 + (d - 48) : Nat) : Rat) ≤ (fmtOf F).big :=
      natCast_le_of_le (Nat.le_trans (le_mul_pow10 _ _) (Nat.le_add_right _ _)) hb
    exact ih hd'.2 _ _ _ (mant_step x acc n d hd'.1.1 hd'.1.2 h hu hb1 (bud_mono (u_nonneg _) (mantCost_ge _ _ _ _) hbud)) hb hbud

/-! ### the scaling loops -/

theorem pow_succ_shift (acc j : Nat) : acc * 10 ^ (j + 1) = acc * 10 * 10 ^ j := by
  rw [Nat.pow_succ, Nat.mul_assoc, Nat.mul_comm 10]

theorem up_F (j : Nat) (x : F) (acc n : Nat) (h : Within n x (acc : Rat)) (hu : (fmtOf F).u ≤ 1 / 1000)
    (hb : 2 * ((acc * 10 ^ j : Nat) : Rat) ≤ (fmtOf F).big)
    (hbud : (upCost (fmtOf F).prec j acc n : Rat) * (fmtOf F).u ≤ 1 / 100) :
    Within (upCost (fmtOf F).prec j acc n) (iter (fun v : F => mul v (ofInt 10)) j x) ((acc * 10 ^ j : Nat) : Rat) := by
  induction j generalizing x acc n with
  | zero => simpa [iter, upCost] using h
  | succ j ih =>
    simp only [upCost, iter] at hbud ⊢
    rw [pow_succ_shift] at hb ⊢
    have hb1 : 2 * ((acc * 10 : Nat) : Rat) ≤ (fmtOf F).big := natCast_le_of_le (le_mul_pow10 _ _) hb
    exact ih _ _ _ (up_step x acc n h hu hb1 (bud_mono (u_nonneg _) (upCost_ge _ _ _ _) hbud)) hb hbud

theorem tenth_approx : IEEE.fin (lit 1 1 : F) ∧ Approx ((fmtOf F).u / 2) (IEEE.val (lit 1 1 : F)) (1 / 10) := by
  obtain ⟨h1, h2, h3⟩ := IEEE.tenth_ok (F := F)
  refine ⟨h1, ?_, ?_⟩
  · show (1 / 10 : Rat) * (1 - (fmtOf F).u / 2) ≤ _
    grind
  · show _ ≤ (1 / 10 : Rat) * (1 + (fmtOf F).u / 2)
    grind

theorem down_arith (E u : Rat) (hE0 : 0 ≤ E) (hE : E ≤ 1 / 100) (hu0 : 0 ≤ u) (hu : u ≤ 1 / 1000) :
    0 ≤ u / 2 ∧ u / 2 ≤ 1 ∧ 0 ≤ E + u / 2 + E * (u / 2) ∧ E + u / 2 + E * (u / 2) ≤ 1 / 2 := by
  have h1 : 0 ≤ E * (u / 2) := Rat.mul_nonneg hE0 (by grind)
  have h2 : E * (u / 2) ≤ E * 1 := Rat.mul_le_mul_of_nonneg_left (by grind) hE0
  refine ⟨?_, ?_, ?_, ?_⟩ <;> grind

theorem down_step (x : F) (q : Rat) (n : Nat) (h : Within n x q) (hq : 0 ≤ q) (hu : (fmtOf F).u ≤ 1 / 1000)
    (hb : 2 * q ≤ (fmtOf F).big) (ht : q = 0 ∨ 2 * (fmtOf F).tiny ≤ q / 10)
    (hbud : ((n + 3 : Nat) : Rat) * (fmtOf F).u ≤ 1 / 100) :
    Within (n + 3) (mul x (lit 1 1)) (q / 10) := by
  obtain ⟨ft, at'⟩ := tenth_approx (F := F)
  have hu0 := u_nonneg (fmtOf F)
  have b0 : (n : Rat) * (fmtOf F).u ≤ 1 / 100 := bud_mono hu0 (by omega) hbud
  have e0 := Eb_le b0
  have en := Eb_nonneg hu0 n
  obtain ⟨a1, a2, hE0, hE⟩ := down_arith _ _ en e0 hu0 hu
  have hA1 := approx_mul h.2 at' hq (by decide +kernel) en (Rat.le_trans e0 (by decide +kernel)) a1 a2
  have hq10 : q * (1 / 10) = q / 10 := by grind
  rw [hq10] at hA1
  have hq' : 0 ≤ q / 10 := by grind
  obtain ⟨fm, am⟩ := round_step (IEEE.mul_rn x (lit 1 1) h.1 ft) hA1 hq' hE0 hE (by grind)
    (ht.imp_left fun h => by rw [h]; decide +kernel) (Rat.le_trans hu (by decide +kernel))
  exact ⟨fm, approx_weaken am hq' (Eb_down hu0 hu b0)⟩

theorem tiny_margin_div10 (t q : Rat) (j : Nat) (ht0 : 0 ≤ t) (h : 2 * t * (10 : Rat) ^ (j + 1) ≤ q) :
    2 * t ≤ q / 10 ∧ 2 * t * (10 : Rat) ^ j ≤ q / 10 := by
  have hp1 := one_le_pow10 j
  have hps : (10 : Rat) ^ (j + 1) = (10 : Rat) ^ j * 10 := Rat.pow_succ _ _
  have hm := Rat.mul_le_mul_of_nonneg_left hp1 ht0
  rw [hps] at h
  constructor <;> grind

theorem div_pow10_succ (q : Rat) (j : Nat) : q / 10 / (10 : Rat) ^ j = q / (10 : Rat) ^ (j + 1) := by
  have hpp := pow10_pos j
  have hps : (10 : Rat) ^ (j + 1) = (10 : Rat) ^ j * 10 := Rat.pow_succ _ _
  rw [hps]; grind

theorem down_F (j : Nat) (x : F) (q : Rat) (n : Nat) (h : Within n x q) (hq : 0 ≤ q) (hu : (fmtOf F).u ≤ 1 / 1000)
    (hb : 2 * q ≤ (fmtOf F).big) (ht : q = 0 ∨ 2 * (fmtOf F).tiny * (10 : Rat) ^ j ≤ q)
    (hbud : ((n + 3 * j : Nat) : Rat) * (fmtOf F).u ≤ 1 / 100) :
    Within (n + 3 * j) (iter (fun v : F => mul v (lit 1 1)) j x) (q / (10 : Rat) ^ j) := by
  induction j generalizing x q n with
  | zero =>
    have : q / (10 : Rat) ^ 0 = q := by
      have : (10 : Rat) ^ 0 = 1 := by simp
      rw [this]; grind
    rw [this]; simpa [iter] using h
  | succ j ih =>
    have ht0 : 0 ≤ (fmtOf F).tiny := Rat.le_of_lt (tiny_pos _)
    have en : n + 3 * (j + 1) = (n + 3) + 3 * j := by omega
    rw [en] at hbud ⊢
    have hbud1 : ((n + 3 : Nat) : Rat) * (fmtOf F).u ≤ 1 / 100 := bud_mono (u_nonneg _) (by omega) hbud
    have ht1 : q = 0 ∨ 2 * (fmtOf F).tiny ≤ q / 10 := by
      rcases ht with h | h
      · left; exact h
      · right; exact (tiny_margin_div10 _ q j ht0 h).1
    have ht2 : q / 10 = 0 ∨ 2 * (fmtOf F).tiny * (10 : Rat) ^ j ≤ q / 10 := by
      rcases ht with h | h
      · left; clear ih; grind
      · right; exact (tiny_margin_div10 _ q j ht0 h).2
    have hq' : 0 ≤ q / 10 := by clear ih; grind
    have hb' : 2 * (q / 10) ≤ (fmtOf F).big := by clear ih; grind
    have := ih _ (q / 10) (n + 3) (down_step x q n h hq hu hb ht1 hbud1) hq' hb' ht2 hbud
    rw [div_pow10_succ] at this
    exact this

theorem div_eq_zero_pos (a p : Rat) (hp : 0 < p) (h : a / p = 0) : a = 0 := by
  have := Rat.div_mul_cancel (a := a) (Rat.ne_of_gt hp)
  rw [h] at this; grind

theorem scale_F (x : F) (D n : Nat) (d : Int) (h : Within n x (D : Rat)) (hu : (fmtOf F).u ≤ 1 / 1000)
    (hbD : 2 * (D : Rat) ≤ (fmtOf F).big)
    (hbV : 2 * ((D : Rat) * pow10 d) ≤ (fmtOf F).big)
    (hN : (D : Rat) * pow10 d = 0 ∨ 2 * (fmtOf F).tiny ≤ (D : Rat) * pow10 d)
    (hbud : ((if d > 0 then upCost (fmtOf F).prec d.toNat D n else n + 3 * (-d).toNat : Nat) : Rat) * (fmtOf F).u
      ≤ 1 / 100) :
    Within (if d > 0 then upCost (fmtOf F).prec d.toNat D n else n + 3 * (-d).toNat) (scale64 x d)
      ((D : Rat) * pow10 d) := by
  rw [mul_pow10] at hbV hN ⊢
  unfold scale64
  by_cases hd : d > 0
  · simp only [hd, if_true] at hbV hN hbud ⊢
    have e : ((D * 10 ^ d.toNat : Nat) : Rat) = (D : Rat) * (10 : Rat) ^ d.toNat := by
      simp [Rat.natCast_mul, Rat.natCast_pow]
    have := up_F d.toNat x D n h hu (by rw [e]; exact hbV) hbud
    rw [e] at this; exact this
  · simp only [hd, if_false] at hbV hN hbud ⊢
    have hpp := pow10_pos (-d).toNat
    have ht : (D : Rat) = 0 ∨ 2 * (fmtOf F).tiny * (10 : Rat) ^ (-d).toNat ≤ (D : Rat) := by
      rcases hN with h0 | h2
      · left; exact div_eq_zero_pos _ _ hpp h0
      · right
        have := Rat.mul_le_mul_of_nonneg_right h2 (Rat.le_of_lt hpp)
        rw [Rat.div_mul_cancel (Rat.ne_of_gt hpp)] at this
        exact this
    exact down_F (-d).toNat x (D : Rat) n h Rat.natCast_nonneg hu hbD ht hbud

/-! ### value and budget of a literal, the sign, and the theorem -/

theorem shifted_nonneg (D : Nat) (d : Int) : 0 ≤ (D : Rat) * pow10 d :=
  Rat.mul_nonneg Rat.natCast_nonneg (Rat.le_of_lt (zero_lt_pow10 d))

theorem absQ_value (L : Literal) :
    absQ L.value = ((valL (L.ip ++ L.fracDigits) : Nat) : Rat) * pow10 (L.expValue - (L.fracDigits.length : Int)) := by
  have h0 := shifted_nonneg (valL (L.ip ++ L.fracDigits)) (L.expValue - (L.fracDigits.length : Int))
  rw [scale_shift] at h0 ⊢
  unfold Literal.value
  simp only
  split
  · rw [absQ_neg, absQ_of_nonneg h0]
  · rw [absQ_of_nonneg h0]

theorem value_sign (L : Literal) : L.value = if L.isNeg then -(absQ L.value) else absQ L.value := by
  rw [absQ_value, scale_shift]
  rfl

theorem atofCost_eq (P : Nat) (L : Literal) :
    atofCost P L = (if L.expValue - (L.fracDigits.length : Int) > 0
      then upCost P (L.expValue - (L.fracDigits.length : Int)).toNat (valL (L.ip ++ L.fracDigits))
        (mantCost P (L.ip ++ L.fracDigits) 0 0)
      else mantCost P (L.ip ++ L.fracDigits) 0 0 + 3 * (-(L.expValue - (L.fracDigits.length : Int))).toNat) := rfl

theorem mantCost_le_atofCost (P : Nat) (L : Literal) : mantCost P (L.ip ++ L.fracDigits) 0 0 ≤ atofCost P L := by
  rw [atofCost_eq]; split
  · exact upCost_ge _ _ _ _
  · omega

theorem atof64Body_F (L : Literal) (rest : List Nat) (hwf : L.WF) (hst : Stops L rest)
    (hu : (fmtOf F).u ≤ 1 / 1000)
    (hD : 2 * ((valL (L.ip ++ L.fracDigits) : Nat) : Rat) ≤ (fmtOf F).big)
    (hV : 2 * absQ L.value ≤ (fmtOf F).big)
    (hN : L.value = 0 ∨ 2 * (fmtOf F).tiny ≤ absQ L.value)
    (hn : (atofCost (fmtOf F).prec L : Rat) * (fmtOf F).u ≤ 1 / 100) :
    ∃ x : F, atof64Body (L.ip ++ Literal.fracText L.frac ++ Literal.expText L.exp ++ rest) = some (x, rest) ∧
      Within (atofCost (fmtOf F).prec L) x (absQ L.value) := by
  obtain ⟨f0, v0⟩ := ofInt_zero (F := F)
  have h0 : Within 0 (ofInt 0 : F) ((0 : Nat) : Rat) := ⟨f0, approx_of_eq (by simpa using v0)⟩
  have hx := horner_F (L.ip ++ L.fracDigits) (literal_digits hwf.w) (ofInt 0 : F) 0 0 h0 hu
    (by simpa using hD) (bud_mono (u_nonneg _) (mantCost_le_atofCost _ L) hn)
  simp only [Nat.zero_mul, Nat.zero_add] at hx
  have hN' : absQ L.value = 0 ∨ 2 * (fmtOf F).tiny ≤ absQ L.value := by
    rcases hN with h | h
    · left; rw [h]; exact absQ_of_nonneg (Rat.le_refl)
    · right; exact h
  rw [absQ_value] at hV hN' ⊢
  rw [atofCost_eq] at hn ⊢
  exact ⟨_, by rw [atof64Body_literal L rest hwf.w hst, expSat_eq hwf], scale_F _ _ _ _ hx hu hD hV hN' hn⟩

/-- the final `sign * val` rounds nothing: 1 and -1 are exact constants -/
theorem sign_mul (x : F) (hx : IEEE.fin x) (h0 : 0 ≤ IEEE.val x) (hr : InRange (fmtOf F) (IEEE.val x)) (s : Bool) :
    IEEE.fin (mul (ofInt (if s then -1 else 1)) x) ∧
      IEEE.val (mul (ofInt (if s then -1 else 1) : F) x) = if s then -(IEEE.val x) else IEEE.val x := by
  have hrep := (IEEE.fin_rep x hx).1 h0
  have hz := (IEEE.fin_rep x hx).2
  cases s
  · obtain ⟨f1, v1⟩ := ofInt_one (F := F)
    have e : IEEE.val (ofInt 1 : F) * IEEE.val x = IEEE.val x := by rw [v1]; grind
    obtain ⟨fm, hrn⟩ := IEEE.mul_rn (ofInt 1 : F) x f1 hx (by rw [e]; exact hr)
    rw [e] at hrn
    exact ⟨fm, hrn.exact (fun _ => hrep) hz⟩
  · obtain ⟨f1, v1⟩ := ofInt_neg_one (F := F)
    have e : IEEE.val (ofInt (-1) : F) * IEEE.val x = -(IEEE.val x) := by rw [v1]; grind
    obtain ⟨fm, hrn⟩ := IEEE.mul_rn (ofInt (-1) : F) x f1 hx
      (by rw [e]; obtain ⟨a, b⟩ := hr; constructor <;> grind)
    rw [e] at hrn
    exact ⟨fm, hrn.exact (fun h => hz (by grind)) (fun _ => by rw [Rat.neg_neg]; exact hrep)⟩

end cls

/-- ERROR BOUND of igris_atof64 over any IEEE arithmetic: for every literal of
    the grammar whose digit string (read as an integer) and value stay below
    half the overflow threshold and whose value is zero or at least twice the
    smallest normal number, the result is finite, the end offset is the end of
    the literal and
        |result - value| ≤ 1.01 * (k/2) * u * |value|,   k = atofCost prec L. -/
theorem atof64_error_bound {F : Type} [FloatLike F] [IEEE F] (L : Literal) (rest : List Nat)
    (hwf : L.WF) (hst : Stops L rest)
    (hprec : 10 ≤ (fmtOf F).prec)
    (hD : 2 * ((valL (L.ip ++ L.fracDigits) : Nat) : Rat) ≤ (fmtOf F).big)
    (hV : 2 * absQ L.value ≤ (fmtOf F).big)
    (hN : L.value = 0 ∨ 2 * (fmtOf F).tiny ≤ absQ L.value)
    (hn : (atofCost (fmtOf F).prec L : Rat) * (fmtOf F).u ≤ 1 / 100) :
    ∃ r : F, atof64 (F := F) (L.text ++ rest) = some (r, L.text.length) ∧ IEEE.fin r ∧
      absQ (IEEE.val r - L.value) ≤
        (101 / 200 : Rat) * (atofCost (fmtOf F).prec L : Rat) * (fmtOf F).u * absQ L.value := by
  have hu := fmt_u_small (F := F) hprec
  obtain ⟨x, hbody, fx, ax⟩ := atof64Body_F (F := F) L rest hwf hst hu hD hV hN hn
  have hE := Eb_le hn
  have hq := absQ_nonneg L.value
  obtain ⟨hx0, hxr⟩ := approx_inrange ax hq (by grind) hV
  have hbound := approx_abs ax
  have hEb : Eb (fmtOf F).u (atofCost (fmtOf F).prec L)
      = (101 / 200 : Rat) * (atofCost (fmtOf F).prec L : Rat) * (fmtOf F).u := rfl
  rw [hEb] at hbound
  obtain ⟨fr, vr⟩ := sign_mul x fx hx0 hxr L.isNeg
  refine ⟨_, by rw [atof64_signed L rest hwf.w hst, hbody]; simp, fr, ?_⟩
  have hval := value_sign L
  generalize absQ L.value = A at hval hbound ⊢
  rw [vr, hval]
  cases L.isNeg
  · exact hbound
  · have e2 : -(IEEE.val x) - -A = -(IEEE.val x - A) := by grind
    simp only [if_true]
    rw [e2, absQ_neg]; exact hbound

/-! ### closed forms of the rounding budget of the parser -/

theorem mantCost_zero (P : Nat) (ds : List Nat) (acc : Nat) (h : acc * 10 ^ ds.length + valL ds < 2 ^ P) :
    mantCost P ds acc 0 = 0 := by
  induction ds generalizing acc with
  | nil => rfl
  | cons c ds ih =>
    rw [valL_cons] at h
    simp only [List.length_cons, Nat.pow_succ] at h
    have h' : (acc * 10 + (c - 48)) * 10 ^ ds.length + valL ds < 2 ^ P := by
      have e := horner_step acc (c - 48) ds.length (valL ds)
      rw [Nat.pow_succ] at e
      omega
    have hlt : acc * 10 + (c - 48) < 2 ^ P :=
      Nat.lt_of_le_of_lt (Nat.le_trans (le_mul_pow10 _ ds.length) (Nat.le_add_right _ _)) h'
    simp only [mantCost, hlt, and_self, if_true]
    exact ih _ h'

theorem mantCost_le (P : Nat) (ds : List Nat) (acc n : Nat) : mantCost P ds acc n ≤ n + 4 * ds.length := by
  induction ds generalizing acc n with
  | nil => simp [mantCost]
  | cons c ds ih =>
    simp only [mantCost, List.length_cons]
    by_cases hc : acc * 10 + (c - 48) < 2 ^ P ∧ n = 0
    · have := ih (acc * 10 + (c - 48)) 0
      simp only [hc, and_self, if_true]; omega
    · have := ih (acc * 10 + (c - 48)) (n + 4)
      simp only [hc, if_false]; omega

theorem upCost_le (P : Nat) (k acc n : Nat) : upCost P k acc n ≤ n + 2 * k := by
  induction k generalizing acc n with
  | zero => simp [upCost]
  | succ k ih =>
    simp only [upCost]
    by_cases hc : acc * 10 < 2 ^ P ∧ n = 0
    · have := ih (acc * 10) 0
      simp only [hc, and_self, if_true]; omega
    · have := ih (acc * 10) (n + 2)
      simp only [hc, if_false]; omega

theorem upCost_zero (P : Nat) (k acc : Nat) (h : acc * 10 ^ k < 2 ^ P) : upCost P k acc 0 = 0 := by
  induction k generalizing acc with
  | zero => rfl
  | succ k ih =>
    have h' : acc * 10 * 10 ^ k < 2 ^ P := by rwa [pow_succ_shift] at h
    have hlt : acc * 10 < 2 ^ P := Nat.lt_of_le_of_lt (le_mul_pow10 _ k) h'
    simp only [upCost, hlt, and_self, if_true]
    exact ih _ h'

theorem atofCost_le_mantCost_add (P : Nat) (L : Literal) :
    atofCost P L ≤
      mantCost P (L.ip ++ L.fracDigits) 0 0 + 3 * (L.expValue - (L.fracDigits.length : Int)).natAbs := by
  rw [atofCost_eq]
  split
  · have := upCost_le P (L.expValue - (L.fracDigits.length : Int)).toNat (valL (L.ip ++ L.fracDigits))
      (mantCost P (L.ip ++ L.fracDigits) 0 0)
    omega
  · omega

theorem atofCost_le (P : Nat) (L : Literal) :
    atofCost P L ≤ 4 * (L.ip ++ L.fracDigits).length + 3 * (L.expValue - (L.fracDigits.length : Int)).natAbs := by
  have := atofCost_le_mantCost_add P L
  have := mantCost_le P (L.ip ++ L.fracDigits) 0 0
  omega

/-- for binary64 (`P = 53`) every digit string of at most 15 digits qualifies -/
theorem atofCost_le_of_exact_mantissa (P : Nat) (L : Literal) (h : valL (L.ip ++ L.fracDigits) < 2 ^ P) :
    atofCost P L ≤ 3 * (L.expValue - (L.fracDigits.length : Int)).natAbs := by
  have := atofCost_le_mantCost_add P L
  have := mantCost_zero P (L.ip ++ L.fracDigits) 0 (by simpa using h)
  omega

theorem atofCost_zero (P : Nat) (L : Literal) (hd : 0 ≤ L.expValue - (L.fracDigits.length : Int))
    (h : valL (L.ip ++ L.fracDigits) * 10 ^ (L.expValue - (L.fracDigits.length : Int)).toNat < 2 ^ P) :
    atofCost P L = 0 := by
  have h0 : valL (L.ip ++ L.fracDigits) < 2 ^ P := Nat.lt_of_le_of_lt (le_mul_pow10 _ _) h
  rw [atofCost_eq, mantCost_zero P (L.ip ++ L.fracDigits) 0 (by simpa using h0)]
  split
  · exact upCost_zero P _ _ h
  · omega

end Igris.C12
