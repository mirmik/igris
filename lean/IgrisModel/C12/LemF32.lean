import IgrisModel.C12.LemRender
import IgrisModel.C12.LemAtof
import IgrisModel.C12.SoftOps
/-! C12 — the generic error analyses instantiated at the software binary32 / binary64. -/
namespace Igris.C12
open Spec FloatLike

theorem u32 : binary32.u = 1 / 16777216 := by
  have : binary32.u * ((2 ^ 24 : Nat) : Rat) = 1 := pow2_neg_nat 24
  simp at this; grind

theorem val32 (x : F32) : IEEE.val x = x.val := rfl
theorem B32_u : (IEEE.B (F := F32)).u = 1 / 16777216 := u32

/-- the range hypothesis of `f32toa_I` -/
theorem f32_range (x : F32) (hx : x.Fin) (hr : absQ x.val < 2147483648) : absQ x.val + 1 ≤ 2147483648 := by
  have : (0 ≤ x.val → Rep binary32 x.val) ∧ (x.val ≤ 0 → Rep binary32 (-x.val)) := IEEE.fin_rep x hx
  have hrep : Rep binary32 (absQ x.val) := by
    unfold absQ; split
    · exact this.2 (by grind)
    · exact this.1 (by grind)
  -- with 24 bits of significand the next value below 2^31 is 2^31 - 2^7
  have e : pow2 31 = 2147483648 := by have := pow2_nat 31; simp at this; exact this
  have h1 := rep_lt_pow2 hrep 31 (by rw [e]; exact hr) (by decide)
  have h2 : pow2 0 ≤ pow2 (31 - binary32.prec) := pow2_mono (by decide)
  rw [e] at h1; rw [pow2_zero] at h2
  grind

theorem fmtOf_F64 : fmtOf F64 = binary64 := rfl
theorem fmtOf_F32 : fmtOf F32 = binary32 := rfl

theorem binary64_u : binary64.u = pow2 (-53) := rfl
theorem binary64_big : binary64.big = pow2 1023 := rfl
theorem binary64_tiny2 : 2 * binary64.tiny = pow2 (-1021) := by
  have : binary64.tiny = pow2 (-1022) := rfl
  rw [this, ← pow2_succ]; rfl

theorem absQ_value53 (L : Literal) (hd : 0 ≤ L.expValue - (L.fracDigits.length : Int))
    (h : valL (L.ip ++ L.fracDigits) * 10 ^ (L.expValue - (L.fracDigits.length : Int)).toNat < 2 ^ 53) :
    ∃ N : Nat, absQ L.value = (N : Rat) ∧ N < 2 ^ 53 := by
  refine ⟨valL (L.ip ++ L.fracDigits) * 10 ^ (L.expValue - (L.fracDigits.length : Int)).toNat, ?_, h⟩
  rw [absQ_value, mul_pow10]
  split
  · simp [Rat.natCast_mul, Rat.natCast_pow]
  · have h0 : L.expValue - (L.fracDigits.length : Int) = 0 := by omega
    rw [h0]; simp; grind

theorem nat53_bounds (N : Nat) (h : N < 2 ^ 53) :
    2 * (N : Rat) ≤ pow2 1023 ∧ ((N : Rat) = 0 ∨ pow2 (-1021) ≤ (N : Rat)) := by
  have hbig : ((2 ^ 54 : Nat) : Rat) ≤ pow2 1023 := by rw [← pow2_nat]; exact pow2_mono (by decide)
  have hlt : (N : Rat) < ((2 ^ 53 : Nat) : Rat) := Rat.natCast_lt_natCast.mpr h
  refine ⟨by grind, ?_⟩
  by_cases hz : N = 0
  · left; rw [hz]; rfl
  · right
    have h1 : pow2 (-1021) ≤ pow2 0 := pow2_mono (by decide)
    have h2 : ((1 : Nat) : Rat) ≤ (N : Rat) := Rat.natCast_le_natCast.mpr (by omega)
    simp at h1 h2; grind

/-! ### the double entry point: cast, then the float renderer -/

/-- `2147483520 = 2^31 - 128` is the largest binary32 below 2^31, so rounding does not push a magnitude past it -/
theorem rn32_below {v r : Rat} (h : RN binary32 v r) (h0 : 0 ≤ v) (hv : v ≤ 2147483520) :
    0 ≤ r ∧ r ≤ 2147483520 ∧ absQ (r - v) ≤ (v + binary32.tiny) / 16777216 := by
  have hrepmax : Rep binary32 (2147483520 : Rat) := by
    refine ⟨16777215, 7, by decide, by decide, ?_⟩
    have : pow2 7 = 128 := by have := pow2_nat 7; simp at this; exact this
    rw [this]; decide +kernel
  have herr := h.abs_err h0
  rw [u32] at herr
  refine ⟨h.nonneg, h.le_rep hrepmax hv, ?_⟩
  unfold absQ; split <;> grind

/-- `(float)d` for `|d| ≤ 2^31 - 128` -/
theorem toF32_below (d : F64) (hd : d.Fin) (hr : absQ d.val ≤ 2147483520) :
    d.toF32.Fin ∧ absQ d.toF32.val ≤ 2147483520 ∧ (d.val < 0 → d.toF32.val ≤ 0) ∧ (0 ≤ d.val → 0 ≤ d.toF32.val) ∧
      absQ (d.toF32.val - d.val) ≤ (absQ d.val + binary32.tiny) / 16777216 := by
  have hb : binary32.big = pow2 127 := rfl
  have h32 : (4294967296 : Rat) ≤ pow2 127 := big_ge (F := F32)
  have hin : InRange binary32 d.val := by
    unfold InRange; rw [hb]; unfold absQ at hr
    constructor <;> split at hr <;> grind
  obtain ⟨hf, hrn⟩ := f64_toF32_rn d hd hin
  refine ⟨hf, ?_⟩
  by_cases hneg : d.val < 0
  · have ha : absQ d.val = -d.val := by simp [absQ, hneg]
    obtain ⟨r0, rM, re⟩ := rn32_below (hrn.2 (by grind)) (by grind) (ha ▸ hr)
    have e : -d.toF32.val - -d.val = -(d.toF32.val - d.val) := by grind
    rw [e, absQ_neg] at re
    rw [← absQ_neg d.toF32.val, absQ_of_nonneg r0, ha]
    exact ⟨rM, fun _ => by grind, fun h => by grind, re⟩
  · have h0 : 0 ≤ d.val := by grind
    have ha : absQ d.val = d.val := absQ_of_nonneg h0
    obtain ⟨r0, rM, re⟩ := rn32_below (hrn.1 h0) h0 (ha ▸ hr)
    rw [absQ_of_nonneg r0, ha]
    exact ⟨rM, fun h => absurd h hneg, fun _ => r0, re⟩

/-! ### the mantissa loop of igris_atof64 on a run of zeros -/

/-- `x + 0.0 = x` for a positive binary64 and for +inf -/
theorem f64_add_zero (x : F64) (h0 : 0 < x.bits) (h1 : x.bits ≤ 0x7ff0000000000000) : add x (ofInt 0) = x := by
  show (⟨sfAdd b64 x.bits (sfOfInt b64 0)⟩ : F64) = x
  rw [show sfOfInt b64 0 = 0 from by decide, sfAdd_zero b64 b64_wf x.bits h0 h1]

/-- `n` times `val *= 10.0`, as long as every product is positive or +inf -/
def tenfold : Nat → F64 → Option F64
  | 0, v => some v
  | n + 1, v =>
    if 0 < (mul v (ofInt 10)).bits ∧ (mul v (ofInt 10)).bits ≤ 0x7ff0000000000000 then tenfold n (mul v (ofInt 10))
    else none

/-- the digit loop on a run of '0': the additions of `0.0` do nothing, only the products by ten remain -/
theorem horner_zeros (n : Nat) (v w : F64) (h : tenfold n v = some w) : horner v (List.replicate n 48) = w := by
  induction n generalizing v with
  | zero => exact Option.some.inj h
  | succ n ih =>
    unfold tenfold at h
    split at h
    · rename_i hc
      rw [List.replicate_succ, horner, List.foldl_cons]
      have : add (mul v (ofInt 10)) (ofInt (((48 : Nat) : Int) - 48)) = mul v (ofInt 10) := f64_add_zero _ hc.1 hc.2
      rw [this]
      exact ih _ h
    · cases h

end Igris.C12
