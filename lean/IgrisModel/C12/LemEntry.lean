import IgrisModel.C12.LemParse
/-!
  C12 — "no digits -> no conversion" (`has_mantissa_digit`), the parser
  entry points, the exponent counters at their C width.
-/
namespace Igris.C12
open Spec FloatLike

namespace Spec
def Literal.hasDigit (L : Literal) : Bool := !L.ip.isEmpty || !L.fracDigits.isEmpty
end Spec

/-- `has_mantissa_digit` behind the optional sign -/
def afterSign (s : List Nat) : Option Bool :=
  match s with
  | [] => none
  | d :: s2 =>
    match (if d = 46 then s2 else d :: s2) with
    | [] => none
    | x :: _ => some (isDigit x)

theorem hasMantissaDigit_cons (c : Nat) (s1 : List Nat) :
    hasMantissaDigit (c :: s1) = afterSign (if c = 43 ∨ c = 45 then s1 else c :: s1) := by
  unfold hasMantissaDigit afterSign
  rfl

theorem afterSign_body (L : Literal) (rest : List Nat) (hwf : WFw L) (hst : Stops L rest) :
    afterSign (L.ip ++ Literal.fracText L.frac ++ Literal.expText L.exp ++ rest) = some L.hasDigit := by
  obtain ⟨c, tl, hct, hc, hc46⟩ := expTail_head hwf hst
  have hcd : isDigit c = false := (isDigit_false_iff c).mpr hc
  obtain ⟨sign, ip, frac, exp⟩ := L
  simp only at hct hc46
  rw [List.append_assoc, List.append_assoc]
  cases ip with
  | cons d ds =>
    have hd := (allDigits_cons.mp hwf.1).1
    have h46 : d ≠ 46 := by omega
    simp [afterSign, h46, (isDigit_iff d).mpr hd, Literal.hasDigit]
  | nil =>
    cases frac with
    | some fp =>
      cases fp with
      | cons f fs =>
        have hf := (allDigits_cons.mp (hwf.2.1 _ rfl)).1
        simp [afterSign, Literal.fracText, (isDigit_iff f).mpr hf, Literal.hasDigit, Literal.fracDigits]
      | nil => simp [afterSign, Literal.fracText, hct, hcd, Literal.hasDigit, Literal.fracDigits]
    | none => simp [afterSign, Literal.fracText, hct, hcd, hc46 rfl, Literal.hasDigit, Literal.fracDigits]

theorem hasMantissaDigit_literal_w (L : Literal) (rest : List Nat) (hwf : WFw L) (hst : Stops L rest) :
    hasMantissaDigit (L.text ++ rest) = some L.hasDigit := by
  obtain ⟨c0, s1, ht, hb, -⟩ := literal_sign_split L rest hwf hst
  rw [ht, hasMantissaDigit_cons, hb]
  exact afterSign_body L rest hwf hst

theorem hasMantissaDigit_literal (L : Literal) (rest : List Nat) (hwf : L.WF) (hst : Stops L rest) :
    hasMantissaDigit (L.text ++ rest) = some L.hasDigit :=
  hasMantissaDigit_literal_w L rest hwf.w hst

theorem igrisAtof64_literal {F : Type} [FloatLike F] (L : Literal) (rest : List Nat) (hwf : WFw L)
    (hst : Stops L rest) :
    igrisAtof64 (F := F) (L.text ++ rest) = if L.hasDigit then atof64 (L.text ++ rest) else some (ofInt 0, 0) := by
  unfold igrisAtof64
  rw [hasMantissaDigit_literal_w L rest hwf hst]
  cases L.hasDigit <;> rfl

theorem igrisAtof32_literal {F D : Type} [FloatLike F] [FloatLike D] (cvt : D → F) (L : Literal)
    (rest : List Nat) (hwf : WFw L) (hst : Stops L rest) :
    igrisAtof32 (D := D) cvt (L.text ++ rest) =
      if L.hasDigit then atof32 (D := D) cvt (L.text ++ rest) else some (ofInt 0, 0) := by
  unfold igrisAtof32
  rw [hasMantissaDigit_literal_w L rest hwf hst]
  cases L.hasDigit <;> rfl

/-! ### the counters at their C width -/

theorem wrapInt32_id (i : Int) (h1 : -2147483648 ≤ i) (h2 : i ≤ 2147483647) : wrapInt32 i = i := by
  unfold wrapInt32; omega

/-- the saturating accumulator stays below 10^6, so the C `int e_val` never wraps: the loop over a
    wrapping 32-bit `int` computes what the loop over unbounded naturals computes -/
theorem expDigitsC_fits_int (p : List Nat) (ev : Nat) (h : ev ≤ 999999) :
    expDigitsC p (ev : Int) = (expDigits p ev).map (fun x => ((x.1 : Int), x.2)) ∧
    ∀ e r, expDigits p ev = some (e, r) → e ≤ 999999 := by
  induction p generalizing ev with
  | nil => exact ⟨rfl, fun e r hr => by simp [expDigits] at hr⟩
  | cons c rest ih =>
    unfold expDigitsC expDigits
    by_cases hd : isDigit c = true
    · simp only [hd, if_true]
      have hc := (isDigit_iff c).mp hd
      by_cases hlt : ev < 100000
      · have hlt' : (ev : Int) < 100000 := by omega
        simp only [hlt, hlt', if_true]
        have hw : wrapInt32 ((ev : Int) * 10 + ((c : Int) - 48)) = ((ev * 10 + (c - 48) : Nat) : Int) := by
          rw [wrapInt32_id] <;> omega
        rw [hw]
        exact ih _ (by omega)
      · have hlt' : ¬ (ev : Int) < 100000 := by omega
        simp only [hlt, hlt', if_false]
        exact ih _ h
    · simp [hd]
      omega

end Igris.C12
