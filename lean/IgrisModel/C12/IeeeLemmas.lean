import IgrisModel.C12.Ieee
/-! C12 — consequences of `RN` / `Rep` used by the error analyses (any format). -/
namespace Igris.C12

theorem floor_eq (v : Rat) (t : Int) (h1 : (t : Rat) ≤ v) (h2 : v < ((t + 1 : Int) : Rat)) : v.floor = t := by
  have a : t ≤ v.floor := Rat.le_floor_iff.mpr h1
  have b : v.floor < t + 1 := Rat.floor_lt_iff.mpr h2
  omega

theorem rep_zero (B : BinFmt) : Rep B 0 :=
  ⟨0, B.emin, Nat.two_pow_pos _, Int.le_refl _, by simp⟩

theorem natCast_mul_pow2_nonneg (m : Nat) (e : Int) : 0 ≤ (m : Rat) * pow2 e :=
  Rat.mul_nonneg Rat.natCast_nonneg (Rat.le_of_lt (pow2_pos e))

theorem rep_nonneg {B : BinFmt} {v : Rat} (h : Rep B v) : 0 ≤ v := by
  obtain ⟨m, e, _, _, rfl⟩ := h
  exact natCast_mul_pow2_nonneg m e

theorem RN.nonneg {B : BinFmt} {v r : Rat} (h : RN B v r) : 0 ≤ r := rep_nonneg h.rep

theorem RN.exact {B : BinFmt} {v r : Rat} (h : RN B v r) (hv : Rep B v) : r = v := by
  have := h.nearest v hv
  grind

theorem RN.le_rep {B : BinFmt} {v r w : Rat} (h : RN B v r) (hw : Rep B w) (hvw : v ≤ w) : r ≤ w := by
  have := h.nearest w hw
  grind

theorem RN.ge_rep {B : BinFmt} {v r w : Rat} (h : RN B v r) (hw : Rep B w) (hvw : w ≤ v) : w ≤ r := by
  have := h.nearest w hw
  grind

theorem RN.dist_le {B : BinFmt} {v r w : Rat} (h : RN B v r) (hw : Rep B w) (hwv : w ≤ v) :
    r - v ≤ v - w ∧ v - r ≤ v - w := by
  have := h.nearest w hw
  grind

theorem RN.zero {B : BinFmt} {r : Rat} (h : RN B 0 r) : r = 0 := h.exact (rep_zero B)

theorem u_pos (B : BinFmt) : 0 < B.u := pow2_pos _
theorem u_nonneg (B : BinFmt) : 0 ≤ B.u := Rat.le_of_lt (u_pos B)
theorem eta_pos (B : BinFmt) : 0 < B.eta := pow2_pos _
theorem tiny_pos (B : BinFmt) : 0 < B.tiny := pow2_pos _

theorem RN.rel {B : BinFmt} {v r : Rat} (h : RN B v r) (hv : v = 0 ∨ B.tiny ≤ v) :
    r - v ≤ B.u * v ∧ v - r ≤ B.u * v := by
  rcases h.err with h1 | ⟨h2, _, _⟩
  · exact h1
  · rcases hv with h0 | ht
    · subst h0
      have := h.zero; subst this; constructor <;> grind
    · grind

theorem eta_eq (B : BinFmt) : B.eta = B.u * B.tiny := by
  unfold BinFmt.eta BinFmt.u BinFmt.tiny
  rw [← pow2_add]; congr 1; omega

theorem RN.abs_err {B : BinFmt} {v r : Rat} (h : RN B v r) (hv : 0 ≤ v) :
    r - v ≤ B.u * (v + B.tiny) ∧ v - r ≤ B.u * (v + B.tiny) := by
  have hu := u_pos B
  have ht := tiny_pos B
  have h1 : 0 ≤ B.u * v := Rat.mul_nonneg (Rat.le_of_lt hu) hv
  have h2 : 0 < B.u * B.tiny := Rat.mul_pos hu ht
  have he := eta_eq B
  rcases h.err with ⟨a, b⟩ | ⟨_, a, b⟩ <;> constructor <;> grind

theorem RNs.pos {B : BinFmt} {v r : Rat} (h : RNs B v r) (hv : 0 ≤ v) : RN B v r := h.1 hv

theorem RNs.exact {B : BinFmt} {v r : Rat} (h : RNs B v r) (hp : 0 ≤ v → Rep B v)
    (hn : v ≤ 0 → Rep B (-v)) : r = v := by
  by_cases h0 : 0 ≤ v
  · exact (h.1 h0).exact (hp h0)
  · have h1 : v ≤ 0 := by grind
    have := (h.2 h1).exact (hn h1)
    grind

theorem rep_nat (B : BinFmt) (hB : B.emin ≤ 0) (n : Nat) (hn : n < 2 ^ B.prec) : Rep B (n : Rat) :=
  ⟨n, 0, hn, hB, by simp⟩

theorem pow2_neg_nat (k : Nat) : pow2 (-(k : Int)) * ((2 ^ k : Nat) : Rat) = 1 := by
  rw [← pow2_nat]; exact pow2_mul_cancel _ _ (by omega)

theorem pow2_mul_two_pow_neg (e : Int) (he : e < 0) : pow2 e * ((2 ^ (-e).toNat : Nat) : Rat) = 1 := by
  rw [← pow2_nat]; exact pow2_mul_cancel _ _ (by omega)

theorem mul_pow2_nonneg (m : Nat) (e : Int) (he : 0 ≤ e) :
    (m : Rat) * pow2 e = ((m * 2 ^ e.toNat : Nat) : Rat) := by
  rw [pow2_toNat e he, Rat.natCast_mul]

theorem mul_pow2_neg (m : Nat) (e : Int) (he : e < 0) :
    (m : Rat) * pow2 e = ((m / 2 ^ (-e).toNat : Nat) : Rat) + ((m % 2 ^ (-e).toNat : Nat) : Rat) * pow2 e ∧
    0 ≤ ((m % 2 ^ (-e).toNat : Nat) : Rat) * pow2 e ∧ ((m % 2 ^ (-e).toNat : Nat) : Rat) * pow2 e < 1 := by
  have hk := pow2_mul_two_pow_neg e he
  refine ⟨?_, natCast_mul_pow2_nonneg _ e, ?_⟩
  · have hdm := Nat.div_add_mod m (2 ^ (-e).toNat)
    have : (m : Rat) = ((2 ^ (-e).toNat : Nat) : Rat) * ((m / 2 ^ (-e).toNat : Nat) : Rat) + ((m % 2 ^ (-e).toNat : Nat) : Rat) := by
      rw [← Rat.natCast_mul, ← Rat.natCast_add, hdm]
    generalize ((2 ^ (-e).toNat : Nat) : Rat) = K at *
    generalize ((m / 2 ^ (-e).toNat : Nat) : Rat) = A at *
    generalize ((m % 2 ^ (-e).toNat : Nat) : Rat) = R at *
    rw [this]
    grind
  · have hlt : m % 2 ^ (-e).toNat < 2 ^ (-e).toNat := Nat.mod_lt _ (Nat.two_pow_pos _)
    have hlt' : ((m % 2 ^ (-e).toNat : Nat) : Rat) < ((2 ^ (-e).toNat : Nat) : Rat) := Rat.natCast_lt_natCast.mpr hlt
    have := Rat.mul_lt_mul_of_pos_right hlt' (pow2_pos e)
    grind

theorem floor_mul_pow2_neg (m : Nat) (e : Int) (he : e < 0) :
    ((m : Rat) * pow2 e).floor = ((m / 2 ^ (-e).toNat : Nat) : Int) := by
  obtain ⟨hsplit, hfr0, hfr⟩ := mul_pow2_neg m e he
  apply floor_eq
  · rw [Rat.intCast_natCast]; grind
  · have : (((m / 2 ^ (-e).toNat : Nat) : Int) + 1 : Int) = ((m / 2 ^ (-e).toNat + 1 : Nat) : Int) := by omega
    rw [this, Rat.intCast_natCast, Rat.natCast_add]; simp; grind

theorem u_mul_two_pow_le (B : BinFmt) (k : Nat) (h : k ≤ B.prec) : B.u * ((2 ^ k : Nat) : Rat) ≤ 1 := by
  have h1 : B.u ≤ pow2 (-(k : Int)) := pow2_mono (by omega)
  have h2 := pow2_neg_nat k
  have h3 : (0 : Rat) ≤ ((2 ^ k : Nat) : Rat) := Rat.natCast_nonneg
  have := Rat.mul_le_mul_of_nonneg_right h1 h3
  grind

theorem rep_floor_frac {B : BinFmt} (hB : B.emin ≤ 0) {v : Rat} (h : Rep B v) :
    ∃ n : Nat, v.floor = (n : Int) ∧ Rep B (n : Rat) ∧ Rep B (v - (n : Rat)) ∧ (n : Rat) ≤ v ∧ v - (n : Rat) < 1 := by
  obtain ⟨m, e, hm, he, rfl⟩ := h
  by_cases hneg : e < 0
  · obtain ⟨hsplit, hfr0, hfr⟩ := mul_pow2_neg m e hneg
    refine ⟨m / 2 ^ (-e).toNat, ?_, ?_, ?_, ?_, ?_⟩
    · exact floor_mul_pow2_neg m e hneg
    · exact rep_nat B hB _ (Nat.lt_of_le_of_lt (Nat.div_le_self _ _) hm)
    · refine ⟨m % 2 ^ (-e).toNat, e, Nat.lt_of_le_of_lt (Nat.mod_le _ _) hm, he, ?_⟩
      grind
    · grind
    · grind
  · have he0 : 0 ≤ e := by omega
    have hnat := mul_pow2_nonneg m e he0
    refine ⟨m * 2 ^ e.toNat, ?_, ?_, ?_, ?_, ?_⟩
    · rw [hnat, ← Rat.intCast_natCast, Rat.floor_intCast]
    · exact ⟨m, e, hm, he, hnat.symm⟩
    · rw [hnat, Rat.sub_self]; exact rep_zero B
    · rw [hnat]; exact Rat.le_refl
    · rw [hnat, Rat.sub_self]; decide

theorem rep_lt_pow2 {B : BinFmt} {v : Rat} (h : Rep B v) (k : Int) (hv : v < pow2 k) (hP : 1 ≤ B.prec) :
    v ≤ pow2 k - pow2 (k - B.prec) := by
  obtain ⟨m, e, hm, he, rfl⟩ := h
  have hS := pow2_pos ((B.prec : Int) - k)
  have hSk : pow2 k * pow2 ((B.prec : Int) - k) = ((2 ^ B.prec : Nat) : Rat) := by
    rw [← pow2_add, ← pow2_nat]; congr 1; omega
  have hSu : pow2 (k - B.prec) * pow2 ((B.prec : Int) - k) = 1 := pow2_mul_cancel _ _ (by omega)
  by_cases hc : k - (B.prec : Int) ≤ e
  · -- scaled by 2^(prec-k) the value is a natural number below 2^prec
    have hN : (m : Rat) * pow2 e * pow2 ((B.prec : Int) - k) = ((m * 2 ^ (e + ((B.prec : Int) - k)).toNat : Nat) : Rat) := by
      rw [Rat.mul_assoc, ← pow2_add]; exact mul_pow2_nonneg m _ (by omega)
    have hlt := Rat.mul_lt_mul_of_pos_right hv hS
    rw [hSk, hN] at hlt
    have hle : m * 2 ^ (e + ((B.prec : Int) - k)).toNat + 1 ≤ 2 ^ B.prec := Rat.natCast_lt_natCast.mp hlt
    have hle' := Rat.natCast_le_natCast.mpr hle
    rw [Rat.natCast_add, ← hN, ← hSk] at hle'
    apply Rat.le_of_mul_le_mul_right _ hS
    grind
  · -- the significand is too short to reach half of 2^k
    have h2 : pow2 e ≤ pow2 (k - B.prec - 1) := pow2_mono (by omega)
    have h3 : pow2 (k - B.prec - 1) = pow2 (k - B.prec) / 2 := pow2_pred _
    have hm' : (m : Rat) ≤ ((2 ^ B.prec : Nat) : Rat) := Rat.natCast_le_natCast.mpr (Nat.le_of_lt hm)
    have h4 := Rat.mul_le_mul_of_nonneg_right hm' (Rat.le_of_lt (pow2_pos e))
    have h5 := Rat.mul_le_mul_of_nonneg_left h2 (Rat.le_of_lt (show (0 : Rat) < ((2 ^ B.prec : Nat) : Rat) by
      rw [← pow2_nat]; exact pow2_pos _))
    have h6 : ((2 ^ B.prec : Nat) : Rat) * pow2 (k - B.prec) = pow2 k := by
      rw [← pow2_nat, ← pow2_add]; congr 1; omega
    have h7 : pow2 (k - B.prec) ≤ pow2 (k - 1) := pow2_mono (by omega)
    have h8 : pow2 (k - 1) = pow2 k / 2 := pow2_pred _
    rw [h3] at h5
    generalize ((2 ^ B.prec : Nat) : Rat) = K at *
    generalize pow2 e = X at *
    generalize (m : Rat) = M at *
    grind

theorem rep_lt_one {B : BinFmt} {v : Rat} (h : Rep B v) (h1 : v < 1) (hP : 1 ≤ B.prec) : v ≤ 1 - B.u := by
  have := rep_lt_pow2 h 0 (by rw [pow2_zero]; exact h1) hP
  rwa [pow2_zero, Int.zero_sub] at this

section
variable {F : Type} [FloatLike F] [IEEE F]

local notation "𝔹" => (IEEE.B (F := F))

theorem emin_le_zero : (𝔹).emin ≤ 0 := by
  have := IEEE.emin_le (F := F); omega

theorem big_ge : (4294967296 : Rat) ≤ (𝔹).big := by
  have h := pow2_mono (IEEE.emax_ge (F := F))
  have : pow2 32 = 4294967296 := by
    have := pow2_nat 32; simp at this; exact this
  rw [this] at h; exact h

theorem tiny_le : (𝔹).tiny ≤ 1 / 16 := by
  have h : (𝔹).tiny ≤ pow2 (-4) := pow2_mono (by have := IEEE.emin_le (F := F); omega)
  have : pow2 (-4) * ((2 ^ 4 : Nat) : Rat) = 1 := pow2_neg_nat 4
  simp at this; grind

theorem u_le_sixteenth : (𝔹).u ≤ 1 / 16 := by
  have := u_mul_two_pow_le 𝔹 4 (IEEE.prec_ge (F := F)); simp at this; grind

theorem inRange_of {v : Rat} (h0 : 0 ≤ v) (h1 : v < 4294967296) : InRange 𝔹 v := by
  have hb := big_ge (F := F)
  constructor <;> grind

theorem ofInt_exact (n : Nat) (hrep : Rep 𝔹 (n : Rat)) (hlt : (n : Rat) < 4294967296) :
    IEEE.fin (FloatLike.ofInt (n : Int) : F) ∧ IEEE.val (FloatLike.ofInt (n : Int) : F) = (n : Rat) := by
  have hc : (((n : Int)) : Rat) = (n : Rat) := Rat.intCast_natCast n
  have hn0 : (0 : Rat) ≤ (n : Rat) := Rat.natCast_nonneg
  obtain ⟨hf, hr⟩ := IEEE.ofInt_rn (F := F) (n : Int) (by rw [hc]; exact inRange_of hn0 hlt)
  rw [hc] at hr
  exact ⟨hf, (hr.pos hn0).exact hrep⟩

end

end Igris.C12
