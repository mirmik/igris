import IgrisModel.C12.Lemmas
/-! C12 — the parsers on a literal of the grammar: what they compute in EVERY arithmetic
    (`atof64_literal`, `atof32_literal`), and the value of that over exact rationals.  The literal need only be
    `WFw`: its exponent enters as the code accumulates it (`expSat`), which is `L.expValue` when `L.WF`. -/
namespace Igris.C12
open Spec FloatLike

theorem isDigit_iff (c : Nat) : isDigit c = true ↔ 48 ≤ c ∧ c ≤ 57 := by simp [isDigit]
theorem isDigit_false_iff (c : Nat) : isDigit c = false ↔ ¬ (48 ≤ c ∧ c ≤ 57) := by
  rw [← isDigit_iff]; simp

def NonDigitHead (r : List Nat) : Prop := ∃ c tl, r = c :: tl ∧ ¬ (48 ≤ c ∧ c ≤ 57)

theorem nonDigitHead_cons (c : Nat) (tl : List Nat) (h : ¬ (48 ≤ c ∧ c ≤ 57)) : NonDigitHead (c :: tl) :=
  ⟨c, tl, rfl, h⟩

theorem q_ten : ((10 : Int) : Rat) = 10 := by decide
theorem q_zero : ((0 : Int) : Rat) = 0 := by decide

theorem digit_cast (d : Nat) (h : 48 ≤ d) : (((d : Int) - 48 : Int) : Rat) = ((d - 48 : Nat) : Rat) := by
  have : (d : Int) - 48 = ((d - 48 : Nat) : Int) := by omega
  rw [this, Rat.intCast_natCast]

/-! ### mantissa loop -/

/-- Horner accumulation `val = val * 10.0 + (c - '0')` over a digit string, in the arithmetic `F`:
    what both mantissa loops of `igris_atof64` compute -/
def horner {F : Type} [FloatLike F] (v : F) (ds : List Nat) : F :=
  ds.foldl (fun v (c : Nat) => add (mul v (ofInt 10)) (ofInt ((c : Int) - 48))) v

theorem horner_append {F : Type} [FloatLike F] (v : F) (xs ys : List Nat) :
    horner v (xs ++ ys) = horner (horner v xs) ys := List.foldl_append

theorem mantLoop_digits {F : Type} [FloatLike F] (ds r : List Nat) (hd : AllDigits ds) (hr : NonDigitHead r)
    (v : F) (k : Nat) : mantLoop (ds ++ r) v k = some (horner v ds, k + ds.length, r) := by
  induction ds generalizing v k with
  | nil =>
    obtain ⟨c, tl, rfl, hc⟩ := hr
    simp [mantLoop, (isDigit_false_iff c).mpr hc, horner]
  | cons d ds ih =>
    have hd' := allDigits_cons.mp hd
    simp only [List.cons_append, mantLoop, (isDigit_iff d).mpr hd'.1, if_true]
    rw [ih hd'.2]
    simp only [horner, List.foldl_cons, List.length_cons, Option.some.injEq, Prod.mk.injEq, true_and, and_true]
    omega

theorem horner_Q (ds : List Nat) (hd : AllDigits ds) (v : Rat) :
    horner v ds = v * (10 : Rat) ^ ds.length + ((valL ds : Nat) : Rat) := by
  induction ds generalizing v with
  | nil => simp [horner, valL]; grind
  | cons d ds ih =>
    have hd' := allDigits_cons.mp hd
    have e : horner v (d :: ds) = horner (v * 10 + ((d - 48 : Nat) : Rat)) ds := by
      simp only [horner, List.foldl_cons, q_mul, q_add, q_ofInt, q_ten, digit_cast d hd'.1.1]
    rw [e, ih hd'.2, valL_cons]
    simp only [List.length_cons, Rat.natCast_add, Rat.natCast_mul, Rat.natCast_pow, Rat.pow_succ]
    grind

/-! ### exponent block -/

/-- one step of the saturating accumulator `if (e_val < 100000) e_val = e_val * 10 + (*eptr - '0')` -/
def satStep (ev c : Nat) : Nat := if ev < 100000 then ev * 10 + (c - 48) else ev

theorem expDigits_digits (ds r : List Nat) (hd : AllDigits ds) (hr : NonDigitHead r) (acc : Nat) :
    expDigits (ds ++ r) acc = some (ds.foldl satStep acc, r) := by
  induction ds generalizing acc with
  | nil =>
    obtain ⟨c, tl, rfl, hc⟩ := hr
    simp [expDigits, (isDigit_false_iff c).mpr hc]
  | cons d ds ih =>
    have hd' := allDigits_cons.mp hd
    simp only [List.cons_append, expDigits, (isDigit_iff d).mpr hd'.1, if_true, List.foldl_cons]
    exact ih hd'.2 _

theorem satFold_val (ds : List Nat) (acc : Nat) (hlt : acc * 10 ^ ds.length + valL ds < 1000000) :
    ds.foldl satStep acc = acc * 10 ^ ds.length + valL ds := by
  induction ds generalizing acc with
  | nil => simp [valL]
  | cons d ds ih =>
    rw [valL_cons, List.length_cons, Nat.pow_succ] at hlt
    have hpos : 0 < 10 ^ ds.length := Nat.pow_pos (by decide)
    have e := horner_step acc (d - 48) ds.length (valL ds)
    rw [Nat.pow_succ] at e
    have hacc : acc < 100000 := by
      apply Decidable.byContradiction; intro h
      have : 100000 * (10 ^ ds.length * 10) ≤ acc * (10 ^ ds.length * 10) := Nat.mul_le_mul_right _ (by omega)
      have : 100000 * 10 ≤ 100000 * (10 ^ ds.length * 10) := Nat.mul_le_mul_left _ (by omega)
      omega
    rw [List.foldl_cons, satStep, if_pos hacc, ih _ (by omega), valL_cons, List.length_cons, Nat.pow_succ, e]

/-- well-formed without the bound on the exponent (beyond it the code saturates: `expSat`) -/
def WFw (L : Literal) : Prop :=
  AllDigits L.ip ∧ (∀ fp, L.frac = some fp → AllDigits fp) ∧
  (∀ ch s ds, L.exp = some (ch, s, ds) → (ch = 69 ∨ ch = 101) ∧ AllDigits ds ∧ ds ≠ [])

theorem _root_.Igris.C12.Spec.Literal.WF.w {L : Literal} (h : L.WF) : WFw L :=
  ⟨h.1, h.2.1, fun ch s ds he => let ⟨a, b, c, _⟩ := h.2.2 ch s ds he; ⟨a, b, c⟩⟩

/-- the written exponent as the code accumulates it: the digits folded with `satStep`, negated for `-` -/
def expSat (L : Literal) : Int :=
  match L.exp with
  | none => 0
  | some (_, s, ds) => if s = some true then -((ds.foldl satStep 0 : Nat) : Int) else (ds.foldl satStep 0 : Nat)

theorem expSat_eq {L : Literal} (h : L.WF) : expSat L = L.expValue := by
  unfold expSat Literal.expValue
  match he : L.exp with
  | none => rfl
  | some (ch, s, ds) =>
    have := satFold_val ds 0 (by simpa using (h.2.2 ch s ds he).2.2.2)
    simp only [this, Nat.zero_mul, Nat.zero_add]

/-- an `e` that does not start an exponent is left alone (the reads stay inside the
    allocation because the NUL comes later) -/
theorem parseExp_none (r : List Nat) (hnul : 0 ∈ r) (hne : expStart r = false) :
    parseExp r = some (false, 0, r) := by
  match r, hnul, hne with
  | [], hnul, _ => cases hnul
  | [c], hnul, _ =>
    have : c = 0 := by simp at hnul; omega
    subst this; simp [parseExp]
  | c :: d :: tl, hnul, hne =>
    by_cases hc : c = 69 ∨ c = 101
    · have hce : (c == 69 || c == 101) = true := by
        rcases hc with h | h <;> simp [h]
      simp only [expStart, hce, Bool.true_and] at hne
      by_cases hs : d = 43 ∨ d = 45
      · have hse : (d == 43 || d == 45) = true := by rcases hs with h | h <;> simp [h]
        have hnd' : (decide (48 ≤ d) && decide (d ≤ 57)) = false := by
          simp; omega
        simp only [hnd', hse, Bool.true_and, Bool.false_or] at hne
        match tl, hnul, hne with
        | [], hnul, _ =>
          simp at hnul; omega
        | x :: tl', _, hne =>
          have hx : isDigit x = false := by simpa [isDigit] using hne
          simp [parseExp, hc, hs, hx]
      · have hse : (d == 43 || d == 45) = false := by
          simp; omega
        simp only [hse, Bool.false_and, Bool.or_false] at hne
        have hx : isDigit d = false := by simpa [isDigit] using hne
        simp [parseExp, hc, hs, hx]
    · simp [parseExp, hc]

theorem parseExp_some (ch : Nat) (s : Option Bool) (ds r : List Nat) (hch : ch = 69 ∨ ch = 101)
    (hd : AllDigits ds) (hne : ds ≠ []) (hr : NonDigitHead r) :
    parseExp (ch :: (Literal.signText s ++ ds) ++ r) = some (decide (s = some true), ds.foldl satStep 0, r) := by
  obtain ⟨d, ds', rfl⟩ := List.exists_cons_of_ne_nil hne
  have hd' := allDigits_cons.mp hd
  have hdig : isDigit d = true := (isDigit_iff d).mpr hd'.1
  have hres := expDigits_digits (d :: ds') r hd hr 0
  simp only [List.cons_append] at hres
  match s with
  | none =>
    have h2 : ¬ (d = 45) := by omega
    have h3 : ¬ (d = 43) := by omega
    simp [parseExp, hch, Literal.signText, h2, h3, hdig, hres]
  | some true =>
    simp [parseExp, hch, Literal.signText, hdig, hres]
  | some false =>
    simp [parseExp, hch, Literal.signText, hdig, hres]

/-! ### scaling loops -/

theorem iter_mul10 (n : Nat) (v : Rat) : iter (fun v => mul v (ofInt 10)) n v = v * (10 : Rat) ^ n := by
  induction n generalizing v with
  | zero => simp [iter]
  | succ n ih => simp only [iter]; rw [ih]; simp only [q_mul, q_ofInt, q_ten]; grind

theorem iter_tenth_of (g : Rat → Rat) (hg : ∀ v, g v = v / 10) (n : Nat) (v : Rat) :
    iter g n v = v / (10 : Rat) ^ n := by
  induction n generalizing v with
  | zero => simp [iter]; grind
  | succ n ih =>
    have := pow10_pos n
    have := pow10_pos (n + 1)
    simp only [iter]; rw [ih, hg]; grind

theorem iter_tenth (n : Nat) (v : Rat) : iter (fun v => mul v (lit 1 1)) n v = v / (10 : Rat) ^ n :=
  iter_tenth_of _ (fun v => by simp only [q_mul, q_lit]; grind) n v

theorem iter_div10 (n : Nat) (v : Rat) : iter (fun v => div v (ofInt 10)) n v = v / (10 : Rat) ^ n :=
  iter_tenth_of _ (fun v => by simp only [q_div, q_ofInt, q_ten]) n v

/-- the factor that both scaling loops and `Literal.scale10` apply -/
def pow10 (e : Int) : Rat := (10 : Rat) ^ e

theorem zero_lt_pow10 (e : Int) : 0 < pow10 e := Rat.zpow_pos (by decide)
theorem pow10_add (a b : Int) : pow10 (a + b) = pow10 a * pow10 b := Rat.zpow_add (by decide) a b
theorem pow10_natCast (n : Nat) : pow10 (n : Int) = (10 : Rat) ^ n := Rat.zpow_natCast _ _
theorem pow10_neg_natCast (n : Nat) : pow10 (-(n : Int)) = 1 / (10 : Rat) ^ n := by
  unfold pow10; rw [Rat.zpow_neg, Rat.zpow_natCast, Rat.div_def, Rat.one_mul]

theorem mul_pow10 (x : Rat) (d : Int) :
    x * pow10 d = if d > 0 then x * (10 : Rat) ^ d.toNat else x / (10 : Rat) ^ (-d).toNat := by
  split
  · obtain ⟨n, rfl⟩ : ∃ n : Nat, d = (n : Int) := ⟨d.toNat, by omega⟩
    rw [pow10_natCast, Int.toNat_natCast]
  · obtain ⟨n, rfl⟩ : ∃ n : Nat, d = -(n : Int) := ⟨(-d).toNat, by omega⟩
    rw [pow10_neg_natCast, Int.neg_neg, Int.toNat_natCast]; grind

theorem scale10_eq (x : Rat) (e : Int) : Literal.scale10 x e = x * pow10 e := by
  unfold Literal.scale10
  rw [mul_pow10]
  by_cases h : e > 0
  · rw [if_pos h, if_pos (by omega)]
  · rw [if_neg h]
    by_cases h0 : 0 ≤ e
    · have : e = 0 := by omega
      subst this; simp; grind
    · rw [if_neg h0]

theorem scale_shift (M : Rat) (nf : Nat) (e : Int) :
    M * pow10 (e - (nf : Int)) = Literal.scale10 (M / (10 : Rat) ^ nf) e := by
  rw [scale10_eq, Int.sub_eq_add_neg, pow10_add, pow10_neg_natCast]; grind

theorem scale64_Q (v : Rat) (d : Int) : scale64 v d = v * pow10 d := by
  rw [mul_pow10]; unfold scale64; rw [iter_mul10, iter_tenth]

theorem scale32_Q (v : Rat) (eneg : Bool) (ev : Nat) :
    scale32 v eneg ev = v * pow10 (if eneg then -(ev : Int) else ev) := by
  unfold scale32
  cases eneg
  · simp only [Bool.false_eq_true, if_false]; rw [iter_mul10, pow10_natCast]
  · simp only [if_true]; rw [iter_div10, pow10_neg_natCast]; grind

/-! ### the text of a literal, component by component

  Behind the integer digits comes `fracText ++ expText ++ rest`, behind the fraction digits `expText ++ rest`,
  behind the exponent `rest`: each of these tails begins with a byte that is not a digit, so each digit loop
  stops exactly at the end of its component. -/

theorem stops_nonDigitHead {L : Literal} {rest : List Nat} (h : Stops L rest) : NonDigitHead rest := by
  obtain ⟨hnul, hhead, _⟩ := h
  match rest, hnul, hhead with
  | [], hnul, _ => cases hnul
  | c :: tl, _, hhead => exact ⟨c, tl, rfl, by simpa using hhead⟩

theorem expTail_head {L : Literal} {rest : List Nat} (hwf : WFw L) (hst : Stops L rest) :
    ∃ c tl, Literal.expText L.exp ++ rest = c :: tl ∧ ¬ (48 ≤ c ∧ c ≤ 57) ∧ (L.frac = none → c ≠ 46) := by
  obtain ⟨sign, ip, frac, exp⟩ := L
  cases exp with
  | none =>
    obtain ⟨c, tl, rfl, hc⟩ := stops_nonDigitHead hst
    refine ⟨c, tl, rfl, hc, fun hf => ?_⟩
    have := hst.2.2.2.1 rfl hf
    simpa using this
  | some e =>
    obtain ⟨ch, s, ds⟩ := e
    obtain ⟨hch, _⟩ := hwf.2.2 ch s ds rfl
    exact ⟨ch, _, rfl, by omega, fun _ => by omega⟩

theorem fracTail_head {L : Literal} {rest : List Nat} (hwf : WFw L) (hst : Stops L rest) :
    NonDigitHead (Literal.fracText L.frac ++ (Literal.expText L.exp ++ rest)) := by
  obtain ⟨c, tl, hct, hc, _⟩ := expTail_head hwf hst
  cases L.frac with
  | none => exact ⟨c, tl, hct, hc⟩
  | some fp => exact ⟨46, _, rfl, by omega⟩

theorem parseExp_literal {L : Literal} {rest : List Nat} (hwf : WFw L) (hst : Stops L rest) :
    ∃ (eneg : Bool) (ev : Nat), parseExp (Literal.expText L.exp ++ rest) = some (eneg, ev, rest) ∧
      (if eneg then -(ev : Int) else ev) = expSat L := by
  obtain ⟨sign, ip, frac, exp⟩ := L
  cases exp with
  | none => exact ⟨false, 0, parseExp_none rest hst.1 (hst.2.2.1 rfl), rfl⟩
  | some e =>
    obtain ⟨ch, s, ds⟩ := e
    obtain ⟨hch, hds, hdne⟩ := hwf.2.2 ch s ds rfl
    refine ⟨decide (s = some true), _, parseExp_some ch s ds rest hch hds hdne (stops_nonDigitHead hst), ?_⟩
    by_cases hs : s = some true <;> simp [expSat, hs]

theorem literal_digits {L : Literal} (hwf : WFw L) : AllDigits (L.ip ++ L.fracDigits) := by
  refine allDigits_append.mpr ⟨hwf.1, ?_⟩
  unfold Literal.fracDigits
  cases hfr : L.frac with
  | none => exact allDigits_nil
  | some fp => exact hwf.2.1 fp hfr

theorem body_head_not_sign (L : Literal) (rest : List Nat) (hwf : WFw L) (hst : Stops L rest) (hs : L.sign = none) :
    ∃ c0 s1, L.ip ++ Literal.fracText L.frac ++ Literal.expText L.exp ++ rest = c0 :: s1 ∧ c0 ≠ 43 ∧ c0 ≠ 45 := by
  obtain ⟨sign, ip, frac, exp⟩ := L
  obtain ⟨hip, hfp, hexp⟩ := hwf
  have hndr := stops_nonDigitHead hst
  obtain ⟨_, _, _, _, hst5⟩ := hst
  simp only at hip hfp hexp hst5 hs
  cases ip with
  | cons d ds =>
    have := (allDigits_cons.mp hip).1
    exact ⟨d, _, rfl, by omega, by omega⟩
  | nil =>
    cases frac with
    | some fp => exact ⟨46, _, rfl, by omega, by omega⟩
    | none =>
      cases exp with
      | some e =>
        obtain ⟨ch, s, ds⟩ := e
        obtain ⟨hch, _⟩ := hexp ch s ds rfl
        exact ⟨ch, _, rfl, by omega, by omega⟩
      | none =>
        obtain ⟨c, tl, rfl, _⟩ := hndr
        have := hst5 hs rfl rfl rfl
        refine ⟨c, tl, by simp [Literal.fracText, Literal.expText], ?_, ?_⟩
        · have := this.1; simpa using this
        · have := this.2; simpa using this

theorem literal_sign_split (L : Literal) (rest : List Nat) (hwf : WFw L) (hst : Stops L rest) :
    ∃ c0 s1, L.text ++ rest = c0 :: s1 ∧
      (if c0 = 43 ∨ c0 = 45 then s1 else c0 :: s1)
        = L.ip ++ Literal.fracText L.frac ++ Literal.expText L.exp ++ rest ∧
      (c0 = 45 ↔ L.isNeg = true) := by
  unfold Literal.text Literal.isNeg
  cases hs : L.sign with
  | none =>
    obtain ⟨c0, s1, hcs, h43, h45⟩ := body_head_not_sign L rest hwf hst hs
    refine ⟨c0, s1, by simpa [Literal.signText] using hcs, ?_, by simp [h45]⟩
    rw [if_neg (by omega), hcs]
  | some b =>
    cases b with
    | true =>
      exact ⟨45, L.ip ++ Literal.fracText L.frac ++ Literal.expText L.exp ++ rest,
        by simp [Literal.signText], by simp, by simp⟩
    | false =>
      exact ⟨43, L.ip ++ Literal.fracText L.frac ++ Literal.expText L.exp ++ rest,
        by simp [Literal.signText], by simp, by simp⟩

/-! ### igris_atof64 on a literal, in any arithmetic -/

theorem atof64Body_stages {F : Type} [FloatLike F] (p q p2 p3 : List Nat) (c n1 nf ev : Nat) (v1 v2 : F) (eneg : Bool)
    (h1 : mantLoop p (ofInt 0 : F) 0 = some (v1, n1, c :: q))
    (h2 : (if c = 46 then mantLoop q v1 0 else some (v1, 0, c :: q)) = some (v2, nf, p2))
    (h3 : parseExp p2 = some (eneg, ev, p3)) :
    atof64Body p = some (scale64 v2 ((if eneg then -(ev : Int) else ev) - nf), p3) := by
  simp only [atof64Body, h1, h2, h3]

theorem atof64Body_literal {F : Type} [FloatLike F] (L : Literal) (rest : List Nat) (hwf : WFw L) (hst : Stops L rest) :
    atof64Body (F := F) (L.ip ++ Literal.fracText L.frac ++ Literal.expText L.exp ++ rest)
      = some (scale64 (horner (ofInt 0) (L.ip ++ L.fracDigits)) (expSat L - (L.fracDigits.length : Int)), rest) := by
  obtain ⟨c, tl, hct, hc, hc46⟩ := expTail_head hwf hst
  obtain ⟨eneg, ev, hP, hev⟩ := parseExp_literal hwf hst
  have h1 := mantLoop_digits (F := F) L.ip _ hwf.1 (fracTail_head hwf hst) (ofInt 0) 0
  rw [← hev, List.append_assoc, List.append_assoc]
  cases hfr : L.frac with
  | none =>
    rw [hfr, Literal.fracText, List.nil_append, hct] at h1
    rw [Literal.fracText, List.nil_append, hct,
      atof64Body_stages _ tl _ rest c _ 0 ev _ _ eneg h1 (if_neg (hc46 hfr)) (hct ▸ hP)]
    simp [Literal.fracDigits, hfr]
  | some fp =>
    rw [hfr] at h1
    simp only [Literal.fracText, List.cons_append] at h1 ⊢
    have h2 := mantLoop_digits (F := F) fp _ (hwf.2.1 fp hfr) ⟨c, tl, hct, hc⟩ (horner (ofInt 0) L.ip) 0
    rw [atof64Body_stages _ _ _ rest 46 _ _ ev _ _ eneg h1 (by rw [if_pos rfl]; exact h2) hP]
    simp [Literal.fracDigits, hfr, horner_append]

theorem atof64_signed {F : Type} [FloatLike F] (L : Literal) (rest : List Nat) (hwf : WFw L) (hst : Stops L rest) :
    atof64 (F := F) (L.text ++ rest) =
      (atof64Body (L.ip ++ Literal.fracText L.frac ++ Literal.expText L.exp ++ rest)).map fun (val, r) =>
        (mul (ofInt (if L.isNeg then -1 else 1)) val, (L.text ++ rest).length - r.length) := by
  obtain ⟨c0, s1, ht, hb, hneg⟩ := literal_sign_split L rest hwf hst
  rw [ht]
  show (atof64Body (if c0 = 43 ∨ c0 = 45 then s1 else c0 :: s1)).map _ = _
  rw [hb]; simp only [hneg]

theorem atof64_literal {F : Type} [FloatLike F] (L : Literal) (rest : List Nat) (hwf : WFw L) (hst : Stops L rest) :
    atof64 (F := F) (L.text ++ rest) =
      some (mul (ofInt (if L.isNeg then -1 else 1))
        (scale64 (horner (ofInt 0) (L.ip ++ L.fracDigits)) (expSat L - (L.fracDigits.length : Int))),
        L.text.length) := by
  rw [atof64_signed L rest hwf hst, atof64Body_literal L rest hwf hst]
  simp

theorem iter_fixed {α : Type} (g : α → α) (a : α) (h : g a = a) (n : Nat) : iter g n a = a := by
  induction n with
  | zero => rfl
  | succ n ih => rw [iter, h, ih]

theorem scale64_fixed {F : Type} [FloatLike F] (v : F) (d : Int) (h1 : mul v (ofInt 10) = v) (h2 : mul v (lit 1 1) = v) :
    scale64 v d = v := by
  unfold scale64; split
  · exact iter_fixed _ _ h1 _
  · exact iter_fixed _ _ h2 _

/-- `w` is meant to be 0 or +inf: both scaling products leave it alone, so the written exponent has no effect -/
theorem atof64_of_fixed {F : Type} [FloatLike F] (L : Literal) (rest : List Nat) (hwf : WFw L) (hst : Stops L rest) (w : F)
    (hm : horner (ofInt 0) (L.ip ++ L.fracDigits) = w) (h1 : mul w (ofInt 10) = w) (h2 : mul w (lit 1 1) = w) :
    atof64 (L.text ++ rest) = some (mul (ofInt (if L.isNeg then -1 else 1)) w, L.text.length) := by
  rw [atof64_literal L rest hwf hst, hm, scale64_fixed w _ h1 h2]

/-! ### igris_atof32 on a literal -/

theorem atou10_spec (M : Nat) (ds r : List Nat) (hd : AllDigits ds) (hr : NonDigitHead r) (acc k : Nat)
    (hlt : acc * 10 ^ ds.length + valL ds < M) :
    atou10 M (ds ++ r) acc k = some (acc * 10 ^ ds.length + valL ds, k + ds.length, r) := by
  induction ds generalizing acc k with
  | nil =>
    obtain ⟨c, tl, rfl, hc⟩ := hr
    have : isDigit c = false := (isDigit_false_iff c).mpr hc
    simp [atou10, this, valL]
  | cons d ds ih =>
    have hd' := allDigits_cons.mp hd
    have hdig : isDigit d = true := (isDigit_iff d).mpr hd'.1
    rw [valL_cons] at hlt
    simp only [List.length_cons, Nat.pow_succ] at hlt
    have e := horner_step acc (d - 48) ds.length (valL ds)
    rw [Nat.pow_succ] at e
    have hstep : acc * 10 + (d - 48) < M := by
      have := le_mul_pow10 (acc * 10 + (d - 48)) ds.length
      omega
    simp only [List.cons_append, atou10, hdig, if_true, Nat.mod_eq_of_lt hstep]
    rw [ih hd'.2 _ _ (by omega), valL_cons]
    simp only [List.length_cons, Nat.pow_succ, Option.some.injEq, Prod.mk.injEq]
    refine ⟨by omega, by omega, trivial⟩

theorem atof32Body_stages {F D : Type} [FloatLike F] [FloatLike D] (cvt : D → F)
    (p p1 p2 p3 : List Nat) (u n0 ev : Nat) (ret : F) (eneg : Bool)
    (h1 : atou10 (2 ^ 32) p 0 0 = some (u, n0, p1))
    (h2 : atof32Frac (D := D) cvt u p1 = some (ret, p2))
    (h3 : parseExp p2 = some (eneg, ev, p3)) :
    atof32Body (D := D) cvt p = some (scale32 ret eneg ev, p3) := by
  simp only [atof32Body, h1, h2, h3]

theorem atof32Frac_nodot {F D : Type} [FloatLike F] [FloatLike D] (cvt : D → F) (u c : Nat) (q : List Nat)
    (hc : c ≠ 46) : atof32Frac (D := D) cvt u (c :: q) = some ((ofInt u : F), c :: q) := by
  simp [atof32Frac, hc]

theorem atof32Frac_dot {F D : Type} [FloatLike F] [FloatLike D] (cvt : D → F) (u d n : Nat) (q p' : List Nat)
    (h1 : atou10 (2 ^ 64) q 0 0 = some (d, n, p')) (h2 : n ≤ 18) :
    atof32Frac (D := D) cvt u (46 :: q)
      = some (add (ofInt u) (cvt (div (ofInt (toInt64 d) : D) (ofInt ((10 ^ n : Nat) : Int)))), p') := by
  have : 10 ^ n ≤ 10 ^ 18 := Nat.pow_le_pow_right (by decide) h2
  have : 10 ^ n < 2 ^ 63 := by omega
  simp [atof32Frac, h1, localPow10, this]

/-- `(float)u + (float)((double)d / (double)local_pow(10, n))` for the integer part `u` and the fraction
    digits `d` (there are `n` of them) of a literal; `(float)u` when there is no '.' -/
def mant32 {F D : Type} [FloatLike F] [FloatLike D] (cvt : D → F) (L : Literal) : F :=
  match L.frac with
  | none => ofInt (valL L.ip : Nat)
  | some fp => add (ofInt (valL L.ip : Nat)) (cvt (div (ofInt (valL fp : Nat) : D) (ofInt ((10 ^ fp.length : Nat) : Int))))

theorem atof32Body_literal {F D : Type} [FloatLike F] [FloatLike D] (cvt : D → F) (L : Literal) (rest : List Nat)
    (hwf : WFw L) (hst : Stops L rest) (hip32 : valL L.ip < 2 ^ 32) (hfp18 : L.fracDigits.length ≤ 18) :
    ∃ (eneg : Bool) (ev : Nat), (if eneg then -(ev : Int) else ev) = expSat L ∧
      atof32Body (D := D) cvt (L.ip ++ Literal.fracText L.frac ++ Literal.expText L.exp ++ rest)
        = some (scale32 (mant32 cvt L) eneg ev, rest) := by
  obtain ⟨c, tl, hct, hc, hc46⟩ := expTail_head hwf hst
  obtain ⟨eneg, ev, hP, hev⟩ := parseExp_literal hwf hst
  refine ⟨eneg, ev, hev, ?_⟩
  have h1 := atou10_spec (2 ^ 32) L.ip _ hwf.1 (fracTail_head hwf hst) 0 0 (by simpa using hip32)
  simp only [Nat.zero_mul, Nat.zero_add] at h1
  rw [List.append_assoc, List.append_assoc]
  unfold mant32
  cases hfr : L.frac with
  | none =>
    rw [hfr, Literal.fracText, List.nil_append, hct] at h1
    rw [Literal.fracText, List.nil_append, hct]
    exact atof32Body_stages cvt _ _ _ rest _ _ ev _ eneg h1 (atof32Frac_nodot cvt _ c tl (hc46 hfr)) (hct ▸ hP)
  | some fp =>
    rw [hfr] at h1
    simp only [Literal.fracText, List.cons_append] at h1 ⊢
    have hfpd := hwf.2.1 fp hfr
    have hn18 : fp.length ≤ 18 := by simpa [Literal.fracDigits, hfr] using hfp18
    have hfpv : valL fp < 10 ^ 18 :=
      Nat.lt_of_lt_of_le (valL_lt fp hfpd) (Nat.pow_le_pow_right (by decide) hn18)
    have h2 := atou10_spec (2 ^ 64) fp _ hfpd ⟨c, tl, hct, hc⟩ 0 0 (by simp; omega)
    simp only [Nat.zero_mul, Nat.zero_add] at h2
    have hF := atof32Frac_dot (F := F) (D := D) cvt (valL L.ip) _ _ _ _ h2 hn18
    have h64 : toInt64 (valL fp) = ((valL fp : Nat) : Int) := by
      unfold toInt64; rw [if_pos (by omega)]
    rw [h64] at hF
    exact atof32Body_stages cvt _ _ _ rest _ _ ev _ eneg h1 hF hP

theorem atof32_signed {F D : Type} [FloatLike F] [FloatLike D] (cvt : D → F) (L : Literal) (rest : List Nat)
    (hwf : WFw L) (hst : Stops L rest) :
    atof32 (D := D) cvt (L.text ++ rest) =
      (atof32Body (D := D) cvt (L.ip ++ Literal.fracText L.frac ++ Literal.expText L.exp ++ rest)).map
        fun (ret, r) => (if L.isNeg then FloatLike.neg ret else ret, (L.text ++ rest).length - r.length) := by
  obtain ⟨c0, s1, ht, hb, hneg⟩ := literal_sign_split L rest hwf hst
  rw [ht]
  show (atof32Body (D := D) cvt (if c0 = 43 ∨ c0 = 45 then s1 else c0 :: s1)).map _ = _
  rw [hb]; simp only [hneg]

theorem atof32_literal {F D : Type} [FloatLike F] [FloatLike D] (cvt : D → F) (L : Literal) (rest : List Nat)
    (hwf : WFw L) (hst : Stops L rest) (hip32 : valL L.ip < 2 ^ 32) (hfp18 : L.fracDigits.length ≤ 18) :
    ∃ (eneg : Bool) (ev : Nat), (if eneg then -(ev : Int) else ev) = expSat L ∧
      atof32 (D := D) cvt (L.text ++ rest) =
        some (if L.isNeg then FloatLike.neg (scale32 (mant32 cvt L) eneg ev) else scale32 (mant32 cvt L) eneg ev,
          L.text.length) := by
  obtain ⟨eneg, ev, hev, hb⟩ := atof32Body_literal cvt L rest hwf hst hip32 hfp18
  refine ⟨eneg, ev, hev, ?_⟩
  rw [atof32_signed cvt L rest hwf hst, hb]
  simp

theorem mant32_Q (L : Literal) :
    mant32 (F := Rat) (D := Rat) id L = ((valL (L.ip ++ L.fracDigits) : Nat) : Rat) / (10 : Rat) ^ L.fracDigits.length := by
  unfold mant32 Literal.fracDigits
  cases L.frac with
  | none => simp [Rat.intCast_natCast]; grind
  | some fp =>
    have := pow10_pos fp.length
    have e10 : ((10 : Nat) : Rat) = 10 := by decide
    simp only [Option.getD_some, valL_append, natCast_digits, q_add, q_div, q_ofInt, id, Rat.intCast_natCast, Rat.natCast_pow, e10]
    grind

end Igris.C12
