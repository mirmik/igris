import IgrisModel.C12.Orig
import IgrisModel.C12.LemDprint
import IgrisModel.C12.LemAuto
import IgrisModel.C12.LemComplete
/-!
  C12 — property theorems.

  Property text: "For every finite float or double in the supported magnitude
  range and every precision 0..10 (or automatic), the rendered text is a
  well-formed decimal ([-]digits[.digits] with exactly the requested number of
  fraction digits) whose value differs from the argument by no more than one
  unit of the last printed digit plus the binary representation error;
  infinities and NaN render as inf/nan tokens, and no input produces a
  non-numeric character or a write beyond the text.  Parsing any decimal literal
  (sign, integer part, fraction, exponent with its own sign) returns the value
  strtod returns to within a few ulps and reports the end of the literal, for
  the float, double and libc strtod/atof entry points alike."

  Level "proof (partial)".  The shape clauses hold for every arithmetic instance; the
  accuracy and grammar clauses are proved over exact arithmetic (`FloatLike Rat`) and,
  for the renderer and `igris_atof64`, over the software binary32/binary64 the driver
  runs, which is proved to be round-to-nearest arithmetic (`softfloat_rounds_to_nearest`,
  instances `IEEE F32`, `IEEE F64`).  NOT proved: an IEEE error bound for
  `igris_atof32` (division has no rounding law) and for the debug printers;
  the agreement of the soft-float with the FPU and of the transcription with the
  C code is tested on every run, not proved.
-/
namespace Igris.C12
open Spec FloatLike

/-! ## A. shape of the rendering — every arithmetic instance -/

/-- infinities render as `+inf` / `-inf`, NaN as `nan` -/
theorem ftoa_tokens {F : Type} [FloatLike F] (f : F) (prec : Int) :
    (isInf f = true → f32toa f prec = some ((if lt (ofInt 0) f then 43 else 45) :: [105, 110, 102])) ∧
    (isInf f = false → isNaN f = true → f32toa f prec = some [110, 97, 110]) := by
  constructor
  · intro h; simp [f32toa, h, tokInf]
  · intro h1 h2; simp [f32toa, h1, h2, tokNan]

/-- For a finite argument, whenever the routine does not run into undefined
    behaviour, the text is  sign ++ integer part ++ [ '.' ++ fraction ]  with
    exactly `p` fraction characters (`p` = the clamped or automatic precision,
    at most 10), no point for `p = 0`, 1..10 integer characters and '-' exactly
    when `f < 0`. -/
theorem ftoa_shape {F : Type} [FloatLike F] (f : F) (prec : Int) (t : List Nat)
    (hinf : isInf f = false) (hnan : isNaN f = false) (h : f32toa f prec = some t) :
    let ng := lt f (ofInt 0)
    let p := effPrec (if ng then FloatLike.neg f else f) prec
    ∃ ip fr : List Nat,
      t = (if ng then [45] else []) ++ ip ++ (if p ≠ 0 then 46 :: fr else []) ∧
      fr.length = p ∧ 1 ≤ ip.length ∧ ip.length ≤ 10 ∧ p ≤ 10 := by
  intro ng p
  rw [f32toa_eq_from f prec hinf hnan] at h
  obtain ⟨ip, fr, ht, hfr, h1, h2⟩ := f32toaFrom_shape _ _ _ _ h
  exact ⟨ip, fr, ht, hfr, h1, h2, effPrec_le _ _⟩

/-- bounded length: at most sign + 10 + '.' + 10 characters, so 23 bytes with the NUL -/
theorem ftoa_length {F : Type} [FloatLike F] (f : F) (prec : Int) (t : List Nat)
    (h : f32toa f prec = some t) : t.length + 1 ≤ 23 := by
  by_cases hinf : isInf f = true
  · have := (ftoa_tokens f prec).1 hinf
    rw [this] at h; cases h; simp
  · have hinf' : isInf f = false := by simpa using hinf
    by_cases hnan : isNaN f = true
    · have := (ftoa_tokens f prec).2 hinf' hnan
      rw [this] at h; cases h; simp
    · have hnan' : isNaN f = false := by simpa using hnan
      obtain ⟨ip, fr, ht, hfr, _, hip, hp⟩ := ftoa_shape f prec t hinf' hnan' h
      rw [ht]
      simp only [List.length_append]
      split <;> split <;> simp <;> omega

/-- the buffer after the call: the text, a NUL, every other byte untouched; the
    returned pointer is the buffer; a buffer of fewer than length+1 bytes is a fault -/
theorem ftoa_buffer {F : Type} [FloatLike F] (f : F) (prec : Int) (t buf : List Nat)
    (h : f32toa f prec = some t) :
    (t.length + 1 ≤ buf.length → f32toaBuf f prec buf = some (t ++ 0 :: buf.drop (t.length + 1), 0)) ∧
    (buf.length < t.length + 1 → f32toaBuf f prec buf = none) := by
  constructor
  · intro hl; simp [f32toaBuf, h, hl]
  · intro hl; simp [f32toaBuf, h]; omega

/-- a precision above 10 is 10 -/
theorem ftoa_precision_clamped {F : Type} [FloatLike F] (f : F) (prec : Int) (h : 10 ≤ prec) :
    f32toa f prec = f32toa f 10 := by
  simp only [f32toa, fun g : F => effPrec_of_ge g prec h, fun g : F => effPrec_of_ge g 10 (Int.le_refl 10)]

/-! ## B. accuracy over exact arithmetic -/

/-- Over exact arithmetic, for every `x` with `|x| + rounder < 2^31` and every
    precision, the routine succeeds and prints  [-] ip [. fr]  where `ip` is a
    canonical digit string (≤ 10 digits), `fr` consists of exactly `p` digits, and
    the printed number `ip.fr`, scaled by `10^p`, is the FLOOR of
    `(|x| + r) * 10^p`  (`r` = half a unit of the last place for p > 0, 0 for p = 0). -/
theorem ftoa_exact_Q (x : Rat) (prec : Int)
    (hr : absQ x + rnd (effPrec (absQ x) prec) < 2147483648) :
    ∃ ip fr : List Nat,
      f32toa x prec = some ((if x < 0 then [45] else []) ++ ip ++
        (if effPrec (absQ x) prec ≠ 0 then 46 :: fr else [])) ∧
      AllDigits ip ∧ Canonical ip ∧ ip.length ≤ 10 ∧ AllDigits fr ∧ fr.length = effPrec (absQ x) prec ∧
      ((valL (ip ++ fr) : Nat) : Rat) ≤ (absQ x + rnd (effPrec (absQ x) prec)) * (10 : Rat) ^ effPrec (absQ x) prec ∧
      (absQ x + rnd (effPrec (absQ x) prec)) * (10 : Rat) ^ effPrec (absQ x) prec < ((valL (ip ++ fr) : Nat) : Rat) + 1 := by
  obtain ⟨habs, hsign⟩ := q_abs_arg x
  have hf1 : ∀ p : Nat, (if p ≠ 0 then add (absQ x) (rounder p) else absQ x) = absQ x + rnd p := by
    intro p; unfold rnd
    by_cases hp : p ≠ 0
    · rw [if_pos hp, if_pos hp]; rfl
    · rw [if_neg hp, if_neg hp, Rat.add_zero]
  rw [f32toa_eq_from x prec rfl rfl, habs, hsign, hf1]
  generalize effPrec (absQ x) prec = p at *
  have hnn : 0 ≤ absQ x + rnd p := by
    have := absQ_nonneg x; have := rnd_nonneg p; grind
  generalize absQ x + rnd p = f1 at *
  obtain ⟨k, hk, hfl, hfu⟩ := floor_nat hnn
  have hkmax : f1.floor < 2147483648 := Rat.floor_lt_iff.mpr (by simpa using hr)
  obtain ⟨ip, fr, h, h2, h3, h4, h5, h6, hlo, hhi⟩ := f32toaFrom_steps digitStep_Q f1 p (if x < 0 then [45] else []) k
    (by omega) (by rw [q_trunc, truncQ_nonneg hnn, hk]) trivial (by simp [Rat.intCast_natCast]) hfl hfu
  have he : fracErr 0 p = 0 := by unfold fracErr; grind
  rw [he, id] at hlo hhi
  exact ⟨ip, fr, h, h2, h3, h4, h5, h6, by grind, by grind⟩

example : absQ (307582293 / 1000 : Rat) + rnd (effPrec (absQ (307582293 / 1000 : Rat)) 2) < 2147483648 := by decide +kernel

/-- ... hence the printed value is within HALF a unit of the last printed digit for
    p > 0 (round half up) and within one unit (truncation) for p = 0:
    with `T` = the printed digits read as an integer, `|x|*10^p - 1/2 < T ≤ |x|*10^p + 1/2`,
    resp. `|x| - 1 < T ≤ |x|`. -/
theorem ftoa_within_one_unit_Q (x : Rat) (prec : Int)
    (hr : absQ x + rnd (effPrec (absQ x) prec) < 2147483648) :
    ∃ ip fr : List Nat,
      f32toa x prec = some ((if x < 0 then [45] else []) ++ ip ++
        (if effPrec (absQ x) prec ≠ 0 then 46 :: fr else [])) ∧
      (effPrec (absQ x) prec ≠ 0 →
        absQ x * (10 : Rat) ^ effPrec (absQ x) prec - 1 / 2 < ((valL (ip ++ fr) : Nat) : Rat) ∧
        ((valL (ip ++ fr) : Nat) : Rat) ≤ absQ x * (10 : Rat) ^ effPrec (absQ x) prec + 1 / 2) ∧
      (effPrec (absQ x) prec = 0 →
        absQ x - 1 < ((valL (ip ++ fr) : Nat) : Rat) ∧ ((valL (ip ++ fr) : Nat) : Rat) ≤ absQ x) := by
  obtain ⟨ip, fr, h, _, _, _, _, _, hlo, hhi⟩ := ftoa_exact_Q x prec hr
  refine ⟨ip, fr, h, ?_, ?_⟩
  · intro hp
    have := rnd_scaled _ hp
    have e : (absQ x + rnd (effPrec (absQ x) prec)) * (10 : Rat) ^ effPrec (absQ x) prec
        = absQ x * (10 : Rat) ^ effPrec (absQ x) prec + 1 / 2 := by grind
    rw [e] at hlo hhi
    constructor <;> grind
  · intro hp
    rw [hp] at hlo hhi
    simp [rnd] at hlo hhi
    constructor <;> grind

/-- The full statement without the range hypothesis is false: the integer part is
    taken with `(int32_t)f`.  Witness (exact arithmetic): 4e9 at precision 2. -/
theorem ftoa_range_witness : f32toa (4000000000 : Rat) 2 = none := by decide +kernel

/-- the same witness on the software binary32 instance (pattern 0x4f6e6b28 = 4e9f) -/
theorem ftoa_range_witness_binary32 : f32toa (⟨0x4f6e6b28⟩ : F32) 2 = none := by decide +kernel

/-- and a finite double beyond the float range renders as an infinity (1e300) -/
theorem f64toa_range_witness :
    f64toa F64.toF32 (⟨0x7e37e43c8800759c⟩ : F64) 3 = some [43, 105, 110, 102] := by decide +kernel

/-! ## C. the literal grammar  [+-] d* [ . d* ] [ (e|E) [+-] d+ ]

  `Literal` (Spec.lean) is a decomposition sign / integer digits / optional
  '.' + fraction digits / optional exponent; `L.text` its characters, `L.value`
  the rational it denotes (digits / 10^#fraction-digits * 10^exponent, negated
  for '-'), `Stops L rest` says that the bytes behind it (up to the end of the
  allocation) contain the NUL and do not continue the literal (no digit; no
  '.', no exponent start where one could still follow; no sign when the literal
  is empty).  Exponent values up to 999999 (the code saturates beyond). -/

/-- igris_atof64 (= igris_strtod = compat strtod; atof drops the end pointer):
    for EVERY literal of the grammar followed by any such tail, over exact
    arithmetic the value is the decimal value of the literal and the reported end
    is the end of the literal. -/
theorem atof64_grammar (L : Literal) (rest : List Nat) (hwf : L.WF) (hst : Stops L rest) :
    atof64 (F := Rat) (L.text ++ rest) = some (L.value, L.text.length) := by
  have h0 : (ofInt 0 : Rat) = 0 := q_zero
  rw [atof64_literal L rest hwf.w hst, expSat_eq hwf, horner_Q _ (literal_digits hwf.w), scale64_Q, scale_shift, h0,
    Rat.zero_mul, Rat.zero_add]
  unfold Literal.value
  cases L.isNeg
  · simp
  · simp; grind

/-- the hypotheses are satisfiable: "-12.5e-3" followed by "x\0" -/
example : atof64 (F := Rat) ([45, 49, 50, 46, 53, 101, 45, 51] ++ [120, 0]) = some (-(125 / 10000 : Rat), 8) := by
  decide +kernel

/-- igris_atof32 (and binreader::read_ascii_decimal_float): the same, for literals
    whose integer part is below 2^32 and that have at most 18 fraction digits.
    (The full statement is false, see the two witnesses.) -/
theorem atof32_grammar_partial (L : Literal) (rest : List Nat) (hwf : L.WF) (hst : Stops L rest)
    (hip32 : valL L.ip < 2 ^ 32) (hfp18 : L.fracDigits.length ≤ 18) :
    atof32 (F := Rat) (D := Rat) id (L.text ++ rest) = some (L.value, L.text.length) := by
  obtain ⟨eneg, ev, hev, h⟩ := atof32_literal (F := Rat) (D := Rat) id L rest hwf.w hst hip32 hfp18
  rw [h, scale32_Q, hev, expSat_eq hwf, ← scale10_eq, mant32_Q]
  unfold Literal.value
  cases L.isNeg <;> simp

example : atof32 (F := Rat) (D := Rat) id ([43, 46, 53, 69, 50] ++ [0]) = some ((50 : Rat), 5) := by
  decide +kernel

/-- "4294967296": the integer part wraps modulo 2^32 (igris_atou32) -/
theorem atof32_wrap_witness :
    atof32 (F := Rat) (D := Rat) id [52, 50, 57, 52, 57, 54, 55, 50, 57, 54, 0] = some ((0 : Rat), 10) := by
  decide +kernel

/-- "0.1000000000000000000" (19 fraction digits): `local_pow(10, 19)` overflows `int64_t` -/
theorem atof32_ub_witness :
    atof32 (F := Rat) (D := Rat) id
      [48, 46, 49, 48, 48, 48, 48, 48, 48, 48, 48, 48, 48, 48, 48, 48, 48, 48, 48, 48, 48, 0] = none := by
  decide +kernel

/-- The reported end does not depend on the arithmetic: for EVERY instance (in
    particular the software binary64 the driver runs, and IEEE hardware as far as
    it is modelled by it) igris_atof64 reports the end of the literal. -/
theorem atof64_end_any_arithmetic {F : Type} [FloatLike F] (L : Literal) (rest : List Nat)
    (hwf : L.WF) (hst : Stops L rest) :
    (atof64 (F := F) (L.text ++ rest)).map (fun x => x.2) = some L.text.length := by
  rw [atof64_literal L rest hwf.w hst]; rfl

/-- the same for igris_atof32, whenever `local_pow` does not overflow (at most 18
    fraction digits); stated for the class of `atof32_grammar_partial` (integer part
    below 2^32), in which `atof32_literal` computes the whole result -/
theorem atof32_end_any_arithmetic_partial {F D : Type} [FloatLike F] [FloatLike D] (cvt : D → F)
    (L : Literal) (rest : List Nat) (hwf : L.WF) (hst : Stops L rest)
    (hip32 : valL L.ip < 2 ^ 32) (hfp18 : L.fracDigits.length ≤ 18) :
    (atof32 (D := D) cvt (L.text ++ rest)).map (fun x => x.2) = some L.text.length := by
  obtain ⟨eneg, ev, _, h⟩ := atof32_literal cvt L rest hwf.w hst hip32 hfp18
  rw [h]; rfl

/-! ## D. the debug printers (debug_printdec_double_prec; _float_prec widens exactly) -/

theorem dprint_tokens {D : Type} [FloatLike D] (a : D) (prec : Int) :
    (isNaN a = true → dprintDouble a prec = some [110, 97, 110]) ∧
    (isNaN a = false → isInf a = true →
      dprintDouble a prec = some ((if lt (ofInt 0) a then 43 else 45) :: [105, 110, 102])) := by
  constructor
  · intro h; simp [dprintDouble, h, tokNan]
  · intro h1 h2; simp [dprintDouble, h1, h2, tokInf]

/-- Over exact arithmetic, for |a| < 2^64 - 1 and every precision (clamped to
    0..18 =: p) the routine prints  [-] ip [. fr]  with `ip` the canonical decimal of
    `N / 10^p`, `fr` exactly `p` digits with value `N % 10^p`, where `N` is
    `|a| * 10^p` rounded half up to an integer: the printed number is within half a
    unit of the last printed digit. -/
theorem dprint_exact_Q (a : Rat) (prec : Int) (hr : absQ a < 18446744073709551615) :
    let p : Nat := if prec > 18 then 18 else prec.toNat
    ∃ (N : Nat) (ip fr : List Nat),
      ((N : Nat) : Rat) ≤ absQ a * (10 : Rat) ^ p + 1 / 2 ∧ absQ a * (10 : Rat) ^ p + 1 / 2 < ((N : Nat) : Rat) + 1 ∧
      dprintDouble a prec = some ((if a < 0 then [45] else []) ++ ip ++ (if p > 0 then 46 :: fr else [])) ∧
      AllDigits ip ∧ Canonical ip ∧ valL ip = N / 10 ^ p ∧
      AllDigits fr ∧ fr.length = p ∧ valL fr = N % 10 ^ p := by
  intro p
  have hs0 : 0 ≤ absQ a * (10 : Rat) ^ p + 1 / 2 := by
    have := Rat.mul_nonneg (absQ_nonneg a) (Rat.le_of_lt (pow10_pos p)); grind
  obtain ⟨N, hN, hfl, hfu'⟩ := floor_nat hs0
  obtain ⟨fr, h1, h2, h3, h4, h5, h6, h7⟩ := dprintDouble_Q_rounded a prec hr p N rfl (by rw [hN]; simp)
  exact ⟨N, _, fr, hfl, hfu', h1, h5, h6, h7, h2, h3, h4⟩

example : absQ (-(96 / 100) : Rat) < 18446744073709551615 := by decide +kernel

/-- without the range hypothesis the statement is false: `(uint64_t)a` for a = 2^64 -/
theorem dprint_range_witness : dprintDouble (18446744073709551616 : Rat) 2 = none := by decide +kernel

/-! ## E. the routines as they were before the `fix:` commits (Orig.lean) -/

/-- "1e-2" was -100: the '-' of the exponent went to the mantissa sign -/
theorem atof64Orig_sign_witness :
    atof64Orig (F := Rat) [49, 101, 45, 50, 0] = some (-(100 : Rat), 4) ∧
    atof64 (F := Rat) [49, 101, 45, 50, 0] = some ((1 / 100 : Rat), 4) := by
  constructor <;> decide +kernel

/-- "1ex": the 'e' was consumed although no exponent follows -/
theorem atof64Orig_end_witness :
    atof64Orig (F := Rat) [49, 101, 120, 0] = some ((1 : Rat), 2) ∧
    atof64 (F := Rat) [49, 101, 120, 0] = some ((1 : Rat), 1) := by
  constructor <;> decide +kernel

/-- "+1.5", ".5", "abc": igris_atof32 returned 0 without storing `*pend` (modelled as `none`) -/
theorem atof32Orig_guard_witness :
    atof32Orig (F := Rat) (D := Rat) id [43, 49, 46, 53, 0] = none ∧
    atof32Orig (F := Rat) (D := Rat) id [46, 53, 0] = none ∧
    atof32 (F := Rat) (D := Rat) id [43, 49, 46, 53, 0] = some ((3 / 2 : Rat), 4) ∧
    atof32 (F := Rat) (D := Rat) id [46, 53, 0] = some ((1 / 2 : Rat), 2) := by
  refine ⟨?_, ?_, ?_, ?_⟩ <;> decide +kernel

/-- "1e5": igris_atof32 ignored the exponent -/
theorem atof32Orig_exponent_witness :
    atof32Orig (F := Rat) (D := Rat) id [49, 101, 53, 0] = some ((1 : Rat), 1) ∧
    atof32 (F := Rat) (D := Rat) id [49, 101, 53, 0] = some ((100000 : Rat), 3) := by
  constructor <;> decide +kernel

/-- debug_printdec_double_prec: 0.96 at one digit printed "0.10", 1.0 at three
    digits "1.0000", 2.7 at zero digits "2.1"; the repaired routine prints
    "1.0", "1.000", "3" -/
theorem dprintOrig_witness :
    dprintDoubleOrig (96 / 100 : Rat) 1 = some [48, 46, 49, 48] ∧
    dprintDoubleOrig (1 : Rat) 3 = some [49, 46, 48, 48, 48, 48] ∧
    dprintDoubleOrig (27 / 10 : Rat) 0 = some [50, 46, 49] ∧
    dprintDouble (96 / 100 : Rat) 1 = some [49, 46, 48] ∧
    dprintDouble (1 : Rat) 3 = some [49, 46, 48, 48, 48] ∧
    dprintDouble (27 / 10 : Rat) 0 = some [51] := by
  refine ⟨?_, ?_, ?_, ?_, ?_, ?_⟩ <;> decide +kernel

/-! ## F. IEEE-754 arithmetic is part of the model

  `RN B v r` (Ieee.lean) = "`r` is the non-negative rational `v` rounded to nearest in
  the binary format `B`": `r` is a value of the format, no value of the format is
  closer to `v`, and the standard model `r = v (1 + δ)`, `|δ| ≤ u = 2^-prec` (below the
  normal range: absolute error ≤ half the smallest subnormal).  `RNs` is the
  sign-symmetric version.  The software binary32/binary64 of Model.lean — the
  arithmetic the driver runs and the harness compares with the FPU operation by
  operation — rounds in exactly one place, `roundPack`. -/

/-- `roundPack f s m e` is a finite encoding of sign `s` whose
    magnitude is `m * 2^e` rounded to nearest (no overflow below `2^bias`), for
    every format with ≥ 2 exponent and ≥ 1 fraction bits (binary32, binary64). -/
theorem softfloat_rounds_to_nearest (f : Fmt) (hf : f.WF) (s : Bool) (m : Nat) (e : Int) (hm : 0 < m)
    (hv : (m : Rat) * pow2 e < pow2 f.bias) :
    FinEnc f (roundPack f s m e) ∧
    ∃ M e', decode f (roundPack f s m e) = .fin s M e' ∧ M < 2 ^ (f.mbits + 1) ∧ f.bin.emin ≤ e' ∧
      RN f.bin ((m : Rat) * pow2 e) ((M : Rat) * pow2 e') :=
  roundPack_rn f hf s m e hm hv

example : (3 : Rat) * pow2 5 < pow2 b32.bias := by decide +kernel

/-- the standard model of rounding: in the normal range `|fl(v) - v| ≤ 2^-prec * v` -/
theorem rounding_standard_model {B : BinFmt} {v r : Rat} (h : RN B v r) (hv : B.tiny ≤ v) :
    r - v ≤ B.u * v ∧ v - r ≤ B.u * v :=
  h.rel (Or.inr hv)

/-- every operation of the software binary32 is the exact operation followed by
    one rounding to nearest: `+`, `-`, `*`, the statement `f *= 10.0` of the digit
    loop; the cast to an integer is the exact truncation (the instance `IEEE F32` of
    SoftOps.lean packages these and int -> float, `IEEE F64` the same for binary64) -/
theorem binary32_operations_round_once (x y : F32) (hx : x.Fin) (hy : y.Fin) :
    (InRange binary32 (x.val + y.val) → (add x y).Fin ∧ RNs binary32 (x.val + y.val) (add x y).val) ∧
    (InRange binary32 (x.val - y.val) → (sub x y).Fin ∧ RNs binary32 (x.val - y.val) (sub x y).val) ∧
    (InRange binary32 (x.val * y.val) → (mul x y).Fin ∧ RNs binary32 (x.val * y.val) (mul x y).val) ∧
    (InRange binary32 (x.val * 10) → (mul10 x).Fin ∧ RNs binary32 (x.val * 10) (mul10 x).val) ∧
    trunc x = some (truncQ x.val) :=
  ⟨IEEE.add_rn x y hx hy, IEEE.sub_rn x y hx hy, IEEE.mul_rn x y hx hy, IEEE.mul10_rn x hx, IEEE.trunc_val x hx⟩

/-- `+` and `*` of binary64 likewise, and the cast `(float)d` is one rounding to nearest binary32 -/
theorem binary64_operations_round_once (x y : F64) (hx : x.Fin) (hy : y.Fin) :
    (InRange binary64 (x.val + y.val) → (add x y).Fin ∧ RNs binary64 (x.val + y.val) (add x y).val) ∧
    (InRange binary64 (x.val * y.val) → (mul x y).Fin ∧ RNs binary64 (x.val * y.val) (mul x y).val) ∧
    (InRange binary32 x.val → x.toF32.Fin ∧ RNs binary32 x.val x.toF32.val) :=
  ⟨IEEE.add_rn x y hx hy, IEEE.mul_rn x y hx hy, f64_toF32_rn x hx⟩

/-! ## G. the renderer over binary32 arithmetic — error bound, totality, doubles -/

/-- ERROR BOUND of `igris_f32toa` as the code is (binary32 arithmetic, one rounding
    per operation).  For EVERY finite binary32 `x` with `|x| < 2^31` and EVERY
    precision the routine succeeds (no undefined behaviour), every character is a
    digit, the integer part is canonical, there are exactly `p` fraction digits
    (`p` = clamped / automatic precision ≤ 10), and the printed number `T / 10^p`
    (`T` = the digits read as an integer) satisfies, for p > 0,
        | T - |x| * 10^p |  ≤  1/2 + 2^-24 * 10^p * (|x| + 2)      (lower side strict)
    i.e. |printed - |x|| ≤ half a unit of the last digit + 2^-24 * (|x| + 2) — "one
    unit of the last printed digit plus the binary representation error"; for
    p = 0 the integer part is exact (truncation). -/
theorem ftoa_error_bound (x : F32) (prec : Int) (hx : x.Fin) (hr : absQ x.val < 2147483648) :
    ∃ (p : Nat) (ip fr : List Nat),
      p = effPrec (if lt x (ofInt 0) then FloatLike.neg x else x) prec ∧ p ≤ 10 ∧
      f32toa x prec = some ((if x.val < 0 then [45] else []) ++ ip ++ (if p ≠ 0 then 46 :: fr else [])) ∧
      AllDigits ip ∧ Canonical ip ∧ ip.length ≤ 10 ∧ AllDigits fr ∧ fr.length = p ∧
      (p ≠ 0 →
        absQ x.val * (10 : Rat) ^ p - 1 / 2 - (10 : Rat) ^ p * (absQ x.val + 2) / 16777216
          < ((valL (ip ++ fr) : Nat) : Rat) ∧
        ((valL (ip ++ fr) : Nat) : Rat)
          ≤ absQ x.val * (10 : Rat) ^ p + 1 / 2 + (10 : Rat) ^ p * (absQ x.val + 2) / 16777216) ∧
      (p = 0 → absQ x.val - 1 < ((valL (ip ++ fr) : Nat) : Rat) ∧ ((valL (ip ++ fr) : Nat) : Rat) ≤ absQ x.val) := by
  obtain ⟨p, ip, fr, h1, h2, h3, h4, h5, h6, h7, h8, h9, h10⟩ := f32toa_I x prec hx (f32_range x hx hr)
  refine ⟨p, ip, fr, h1, h2, h3, h4, h5, h6, h7, h8, fun hp => ?_, h10⟩
  have := h9 hp
  rw [B32_u, val32] at this
  constructor <;> grind

/-- the hypotheses are satisfiable: 0x42c80001 (100.00000762939453125) -/
example : (⟨0x42c80001⟩ : F32).Fin ∧ absQ (⟨0x42c80001⟩ : F32).val < 2147483648 := by
  constructor
  · unfold F32.Fin FinEnc; decide +kernel
  · decide +kernel

/-- TOTALITY (the `= some` hypothesis of `ftoa_shape` / `ftoa_length` discharged): for
    every finite binary32 below 2^31 in magnitude, every precision and every buffer of
    at least 23 bytes the call is defined, writes text + NUL, leaves the rest of the
    buffer alone and returns the buffer. -/
theorem ftoa_total (x : F32) (prec : Int) (buf : List Nat) (hx : x.Fin) (hr : absQ x.val < 2147483648)
    (hb : 23 ≤ buf.length) :
    ∃ t, f32toa x prec = some t ∧ t.length + 1 ≤ 23 ∧
      f32toaBuf x prec buf = some (t ++ 0 :: buf.drop (t.length + 1), 0) := by
  obtain ⟨p, ip, fr, _, _, h, _⟩ := ftoa_error_bound x prec hx hr
  have hl := ftoa_length x prec _ h
  exact ⟨_, h, hl, (ftoa_buffer x prec _ buf h).1 (by omega)⟩

/-- "WITHIN ONE UNIT of the last printed digit" holds where the float has the digits:
    whenever `10^p * (|x| + 2) ≤ 2^23` (e.g. p ≤ 6 for |x| ≤ 6, p ≤ 5 for |x| ≤ 81,
    p ≤ 2 for |x| ≤ 83884; the automatic-precision table keeps 10^p * (|x| + 2) below
    3.1e6 < 2^23: `ftoa_auto_precision_within_one_unit`).  The statement without
    this hypothesis is false, see the two witnesses. -/
theorem ftoa_within_one_unit_partial (x : F32) (prec : Int) (hx : x.Fin) (hr : absQ x.val < 2147483648)
    (hd : (10 : Rat) ^ effPrec (if lt x (ofInt 0) then FloatLike.neg x else x) prec * (absQ x.val + 2) ≤ 8388608) :
    ∃ (p : Nat) (ip fr : List Nat),
      p = effPrec (if lt x (ofInt 0) then FloatLike.neg x else x) prec ∧
      f32toa x prec = some ((if x.val < 0 then [45] else []) ++ ip ++ (if p ≠ 0 then 46 :: fr else [])) ∧
      absQ x.val * (10 : Rat) ^ p - 1 < ((valL (ip ++ fr) : Nat) : Rat) ∧
      ((valL (ip ++ fr) : Nat) : Rat) ≤ absQ x.val * (10 : Rat) ^ p + 1 := by
  obtain ⟨p, ip, fr, hp, h, _, hb⟩ := f32toa_one_unit_I x prec hx (f32_range x hx hr)
    (Or.inr (by rw [B32_u, val32]; grind))
  exact ⟨p, ip, fr, hp, h, hb⟩

example : (10 : Rat) ^ effPrec (if lt (⟨0x3f7fffff⟩ : F32) (ofInt 0) then FloatLike.neg (⟨0x3f7fffff⟩ : F32) else ⟨0x3f7fffff⟩) 6
    * (absQ (⟨0x3f7fffff⟩ : F32).val + 2) ≤ 8388608 := by decide +kernel

/-- witness 1: already at precision 7 the printed value can be more than one unit of
    the last digit away: 0x4033b239 = 2.80775284767150878906 prints as 2.8077527
    (1.47 units low) -/
theorem ftoa_one_unit_witness_p7 :
    f32toa (⟨0x4033b239⟩ : F32) 7 = some [50, 46, 56, 48, 55, 55, 53, 50, 55] ∧
    (⟨0x4033b239⟩ : F32).val * (10 : Rat) ^ 7 - 28077527 > 1 := by
  constructor <;> decide +kernel

/-- witness 2: 0x3f7fffff = 1 - 2^-24 = 0.99999994039... at precision 10
    prints as 0.9999999046, 357 units of the last digit low (exact arithmetic prints
    0.9999999404) — well inside the bound `1/2 + 2^-24 * 10^10 * 3 ≈ 1789` of `ftoa_error_bound` -/
theorem ftoa_one_unit_witness_p10 :
    f32toa (⟨0x3f7fffff⟩ : F32) 10 = some [48, 46, 57, 57, 57, 57, 57, 57, 57, 48, 52, 54] ∧
    f32toa ((⟨0x3f7fffff⟩ : F32).val) 10 = some [48, 46, 57, 57, 57, 57, 57, 57, 57, 52, 48, 52] ∧
    (⟨0x3f7fffff⟩ : F32).val * (10 : Rat) ^ 10 - 9999999046 > 357 := by
  refine ⟨?_, ?_, ?_⟩ <;> decide +kernel

/-- DOUBLES (`igris_f64toa` = `igris_ftoa`): the argument is cast to float first.  For
    every finite double with `|d| ≤ 2^31 - 128` the cast `y = (float)d` is a finite
    binary32 of the same sign with `|y - d| ≤ 2^-24 * (|d| + 2^-126)` (one rounding to
    nearest) and the text is the rendering of `y`, for which `ftoa_error_bound` holds:
    what is guaranteed for a double is the accuracy of a float, never more. -/
theorem f64toa_error_bound (d : F64) (prec : Int) (hd : d.Fin) (hr : absQ d.val ≤ 2147483520) :
    ∃ (y : F32) (p : Nat) (ip fr : List Nat),
      y = d.toF32 ∧ y.Fin ∧ (d.val < 0 → y.val ≤ 0) ∧ (0 ≤ d.val → 0 ≤ y.val) ∧
      absQ (y.val - d.val) ≤ (absQ d.val + pow2 (-126)) / 16777216 ∧
      p = effPrec (if lt y (ofInt 0) then FloatLike.neg y else y) prec ∧ p ≤ 10 ∧
      f64toa F64.toF32 d prec = some ((if y.val < 0 then [45] else []) ++ ip ++ (if p ≠ 0 then 46 :: fr else [])) ∧
      AllDigits ip ∧ Canonical ip ∧ ip.length ≤ 10 ∧ AllDigits fr ∧ fr.length = p ∧
      (p ≠ 0 →
        absQ y.val * (10 : Rat) ^ p - 1 / 2 - (10 : Rat) ^ p * (absQ y.val + 2) / 16777216
          < ((valL (ip ++ fr) : Nat) : Rat) ∧
        ((valL (ip ++ fr) : Nat) : Rat)
          ≤ absQ y.val * (10 : Rat) ^ p + 1 / 2 + (10 : Rat) ^ p * (absQ y.val + 2) / 16777216) ∧
      (p = 0 → absQ y.val - 1 < ((valL (ip ++ fr) : Nat) : Rat) ∧ ((valL (ip ++ fr) : Nat) : Rat) ≤ absQ y.val) := by
  obtain ⟨hf, hle, hs1, hs2, herr⟩ := toF32_below d hd hr
  obtain ⟨p, ip, fr, h1, h2, h3, h4⟩ := ftoa_error_bound d.toF32 prec hf (by grind)
  exact ⟨d.toF32, p, ip, fr, rfl, hf, hs1, hs2, herr, h1, h2, h3, h4⟩

example : (⟨0x408F40FCD6E9B9CB⟩ : F64).Fin ∧ absQ (⟨0x408F40FCD6E9B9CB⟩ : F64).val ≤ 2147483520 := by
  constructor
  · unfold F64.Fin FinEnc; decide +kernel
  · decide +kernel

/-- witness: the double 1000.123456789 at precision 10 prints as
    1000.1234741210 — 173 320 units of the last digit away from the double (the float
    cast alone moves it by 1.7e-5), so no "one unit" statement about doubles holds -/
theorem f64toa_cast_witness :
    f64toa F64.toF32 (⟨0x408F40FCD6E9B9CB⟩ : F64) 10 =
      some [49, 48, 48, 48, 46, 49, 50, 51, 52, 55, 52, 49, 50, 49, 48] ∧
    10001234741210 - (⟨0x408F40FCD6E9B9CB⟩ : F64).val * (10 : Rat) ^ 10 > 173319 := by
  constructor <;> decide +kernel

/-! ## H. the parser over binary64 arithmetic — error bound in units of u = 2^-53

  `atofCost 53 L` (LemAtof.lean) is the rounding budget `k(L)` of a literal in HALF
  units of `u`: each digit step `val = val * 10.0 + d` is exact (0) while the
  accumulated integer stays below 2^53 and nothing was rounded before, otherwise two
  roundings (4); then `d = exponent - #fraction digits` scaling steps: `val *= 10.0`
  costs one rounding (2) unless still exact, `val *= 0.1` costs 3 (one rounding plus
  the error `u/2` of the constant 0.1).  `u * |value| ≤ ulp(value)`, so `k/2` is a
  bound in ulps. -/

/-- ERROR BOUND of `igris_atof64` (= igris_strtod / strtod / atof) as the code is, over
    binary64 arithmetic: for EVERY literal of the grammar followed by any tail that does
    not continue it, provided the digit string read as an integer and the value stay
    below 2^1022 (no intermediate overflow — see the witness) and the value is zero or at
    least 2^-1021 (no gradual underflow), the result is finite, the reported end is
    the end of the literal, and
        |result - value| ≤ 1.01 * (k/2) * 2^-53 * |value|,   k = atofCost 53 L. -/
theorem atof64_error_bound_partial (L : Literal) (rest : List Nat) (hwf : L.WF) (hst : Stops L rest)
    (hD : 2 * ((valL (L.ip ++ L.fracDigits) : Nat) : Rat) ≤ pow2 1023)
    (hV : 2 * absQ L.value ≤ pow2 1023)
    (hN : L.value = 0 ∨ pow2 (-1021) ≤ absQ L.value)
    (hn : (atofCost 53 L : Rat) * pow2 (-53) ≤ 1 / 100) :
    ∃ r : F64, atof64 (F := F64) (L.text ++ rest) = some (r, L.text.length) ∧ r.Fin ∧
      absQ (r.val - L.value) ≤ (101 / 200 : Rat) * (atofCost 53 L : Rat) * pow2 (-53) * absQ L.value := by
  have h2 := binary64_tiny2
  exact atof64_error_bound (F := F64) L rest hwf hst (by decide) hD hV (by rw [fmtOf_F64, h2]; exact hN) hn

/-- closed forms of the budget: k ≤ 4 * #digits + 3 * |d| for every literal; k ≤ 3 * |d|
    when the digit string is below 2^53 (all literals of at most 15 digits); k = 0 (the
    result is EXACTLY the decimal value, hence what strtod returns) when
    digits * 10^d is an integer below 2^53 -/
theorem atof64_budget (L : Literal) :
    atofCost 53 L ≤ 4 * (L.ip ++ L.fracDigits).length + 3 * (L.expValue - (L.fracDigits.length : Int)).natAbs ∧
    (valL (L.ip ++ L.fracDigits) < 2 ^ 53 →
      atofCost 53 L ≤ 3 * (L.expValue - (L.fracDigits.length : Int)).natAbs) ∧
    (0 ≤ L.expValue - (L.fracDigits.length : Int) →
      valL (L.ip ++ L.fracDigits) * 10 ^ (L.expValue - (L.fracDigits.length : Int)).toNat < 2 ^ 53 →
      atofCost 53 L = 0) :=
  ⟨atofCost_le 53 L, atofCost_le_of_exact_mantissa 53 L, atofCost_zero 53 L⟩

/-- the exact class: integers and short decimals with a non-negative net exponent
    (`digits * 10^d < 2^53`) are parsed without any error -/
theorem atof64_exact_class (L : Literal) (rest : List Nat) (hwf : L.WF) (hst : Stops L rest)
    (hd : 0 ≤ L.expValue - (L.fracDigits.length : Int))
    (h : valL (L.ip ++ L.fracDigits) * 10 ^ (L.expValue - (L.fracDigits.length : Int)).toNat < 2 ^ 53) :
    ∃ r : F64, atof64 (F := F64) (L.text ++ rest) = some (r, L.text.length) ∧ r.Fin ∧ r.val = L.value := by
  have hc := atofCost_zero 53 L hd h
  have hDn : valL (L.ip ++ L.fracDigits) < 2 ^ 53 := Nat.lt_of_le_of_lt (le_mul_pow10 _ _) h
  obtain ⟨N, hN, hNlt⟩ := absQ_value53 L hd h
  obtain ⟨hV, hT⟩ := nat53_bounds N hNlt
  rw [← hN] at hV hT
  obtain ⟨r, h1, h2, h3⟩ := atof64_error_bound_partial L rest hwf hst (nat53_bounds _ hDn).1 hV
    (hT.imp_left absQ_eq_zero) (by rw [hc]; simp; grind)
  refine ⟨r, h1, h2, ?_⟩
  rw [hc] at h3
  simp at h3
  have := absQ_eq_zero (Rat.le_antisymm h3 (absQ_nonneg _))
  grind

/-- the hypotheses of `atof64_error_bound_partial` are satisfiable: "1e-300" followed by NUL
    (budget 900 half units: the bound is 454.5 u |value|) -/
example :
    let L : Literal := ⟨none, [49], none, some (101, some true, [51, 48, 48])⟩
    2 * ((valL (L.ip ++ L.fracDigits) : Nat) : Rat) ≤ pow2 1023 ∧ 2 * absQ L.value ≤ pow2 1023 ∧
    pow2 (-1021) ≤ absQ L.value ∧ atofCost 53 L = 900 ∧ (atofCost 53 L : Rat) * pow2 (-53) ≤ 1 / 100 := by
  decide +kernel

/-- "within a few ulps of strtod" is false for large exponents — witness "1e-300": the
    routine returns the encoding 0x01a56e1fc2f8f3be, the correctly rounded value (what
    strtod returns) is 0x01a56e1fc2f8f359: 101 units in the last place apart, which is
    more than 50 u |value| (the theorem's bound for this literal is 454.5 u |value|) -/
theorem atof64_ulp_witness :
    atof64 (F := F64) [49, 101, 45, 51, 48, 48, 0] = some (⟨118622047889322942⟩, 6) ∧
    sfLit b64 1 300 = 118622047889322841 ∧
    (⟨118622047889322942⟩ : F64).val - 1 / (10 : Rat) ^ 300 > 50 * pow2 (-53) * (1 / (10 : Rat) ^ 300) := by
  refine ⟨?_, ?_, ?_⟩ <;> decide +kernel

/-- the hypothesis `hD` cannot be dropped — witness: "1" followed by 310 zeros and
    "e-310" denotes 1, but the digit string overflows binary64 before the scaling loop
    runs, and the routine returns +inf (0x7ff0000000000000); end offset 316 is right -/
theorem atof64_mantissa_overflow_witness :
    atof64 (F := F64) (49 :: List.replicate 310 48 ++ [101, 45, 51, 49, 48, 0]) =
      some (⟨0x7ff0000000000000⟩, 316) ∧
    (⟨none, 49 :: List.replicate 310 48, none, some (101, some true, [51, 49, 48])⟩ : Literal).value = 1 := by
  refine ⟨?_, by decide +kernel⟩
  have hwf : (⟨none, 49 :: List.replicate 310 48, none, some (101, some true, [51, 49, 48])⟩ : Literal).WF := by
    refine ⟨fun c hc => ?_, fun fp h => (by cases h), fun ch s ds h => ?_⟩
    · rcases List.mem_cons.mp hc with rfl | hc
      · decide
      · rw [(List.mem_replicate.mp hc).2]; decide
    · cases h; exact ⟨Or.inr rfl, by unfold AllDigits; decide, by decide, by decide⟩
  have hst : Stops ⟨none, 49 :: List.replicate 310 48, none, some (101, some true, [51, 49, 48])⟩ [0] := by
    refine ⟨by decide, ?_, fun h => (by cases h), fun h => (by cases h), fun _ _ _ h => (by cases h)⟩
    show ¬ (48 ≤ 0 ∧ 0 ≤ 57); decide
  -- the mantissa loop: "1", then 310 zeros (`x + 0.0` does nothing); the product overflows at 10^309
  have hm : horner (ofInt 0 : F64) (49 :: List.replicate 310 48 ++ []) = ⟨0x7ff0000000000000⟩ := by
    rw [List.append_nil, horner, List.foldl_cons]
    exact horner_zeros 310 _ _ (by decide +kernel)
  -- +inf is left alone by `val *= 10.0` and `val *= 0.1`: the exponent -310 changes nothing
  have h := atof64_of_fixed (F := F64) _ [0] hwf.w hst _ hm (by decide +kernel) (by decide +kernel)
  exact Eq.trans (congrArg _ (by decide +kernel)) (h.trans (by decide +kernel))

/-! ## I. every entry point; "no digits -> no conversion"; the counters at their C width

  `igris_atof64` / `igris_atof32` begin with `has_mantissa_digit` (a `fix:` commit): a text
  without a digit in its integer part and in its fraction ("", "-", "+", ".", "-.", ".e5", "abc") converts
  NOTHING — the end is the start, the value 0 — as strtod specifies; `atof64` / `atof32` of the sections
  above are the rest of the two functions.  `L.hasDigit` (namespace `Spec`, defined in LemEntry.lean) = the
  literal has a digit in `ip` or in its fraction.  The grammar clause for EVERY entry point:
  `end` = end of the literal, value = value of the literal when the literal has a digit; (0, start)
  otherwise.  ("End of the literal" is the end of the LONGEST prefix of the text that matches the grammar:
  that is what `Stops L rest` — the tail does not continue the literal — says.) -/

/-- igris_atof64, exact arithmetic, EVERY literal of the grammar and every tail that does not continue it -/
theorem igris_atof64_grammar (L : Literal) (rest : List Nat) (hwf : L.WF) (hst : Stops L rest) :
    igrisAtof64 (F := Rat) (L.text ++ rest) =
      some (if L.hasDigit then (L.value, L.text.length) else (0, 0)) := by
  rw [igrisAtof64_literal L rest hwf.w hst, atof64_grammar L rest hwf hst]
  cases L.hasDigit <;> rfl

/-- both branches are inhabited: "-12.5e-3x" has digits, "-.e5" has none -/
example : (⟨some true, [49, 50], some [53], some (101, some true, [51])⟩ : Literal).hasDigit = true ∧
    (⟨some true, [], some [], none⟩ : Literal).hasDigit = false := by decide

/-- "no digits -> no conversion", for EVERY arithmetic instance (in particular the software binary64 /
    binary32 the driver runs): value `0.0`, end = start -/
theorem igris_atof64_no_digits {F : Type} [FloatLike F] (L : Literal) (rest : List Nat) (hwf : L.WF)
    (hst : Stops L rest) (hd : L.hasDigit = false) :
    igrisAtof64 (F := F) (L.text ++ rest) = some (ofInt 0, 0) := by
  rw [igrisAtof64_literal L rest hwf.w hst, hd]; rfl

/-- the reported end of igris_atof64 for EVERY arithmetic instance -/
theorem igris_atof64_end_any_arithmetic {F : Type} [FloatLike F] (L : Literal) (rest : List Nat)
    (hwf : L.WF) (hst : Stops L rest) :
    (igrisAtof64 (F := F) (L.text ++ rest)).map (fun x => x.2) =
      some (if L.hasDigit then L.text.length else 0) := by
  rw [igrisAtof64_literal L rest hwf.w hst]
  cases L.hasDigit
  · rfl
  · exact atof64_end_any_arithmetic L rest hwf hst

/-- igris_atof32, for the class of `atof32_grammar_partial` (integer part < 2^32, at most 18 fraction digits) -/
theorem igris_atof32_grammar_partial (L : Literal) (rest : List Nat) (hwf : L.WF) (hst : Stops L rest)
    (hip32 : valL L.ip < 2 ^ 32) (hfp18 : L.fracDigits.length ≤ 18) :
    igrisAtof32 (F := Rat) (D := Rat) id (L.text ++ rest) =
      some (if L.hasDigit then (L.value, L.text.length) else (0, 0)) := by
  rw [igrisAtof32_literal id L rest hwf.w hst, atof32_grammar_partial L rest hwf hst hip32 hfp18]
  cases L.hasDigit <;> rfl

theorem igris_atof32_no_digits {F D : Type} [FloatLike F] [FloatLike D] (cvt : D → F) (L : Literal)
    (rest : List Nat) (hwf : L.WF) (hst : Stops L rest) (hd : L.hasDigit = false) :
    igrisAtof32 (D := D) cvt (L.text ++ rest) = some (ofInt 0, 0) := by
  rw [igrisAtof32_literal cvt L rest hwf.w hst, hd]; rfl

theorem igris_atof32_end_any_arithmetic_partial {F D : Type} [FloatLike F] [FloatLike D] (cvt : D → F)
    (L : Literal) (rest : List Nat) (hwf : L.WF) (hst : Stops L rest)
    (hip32 : valL L.ip < 2 ^ 32) (hfp18 : L.fracDigits.length ≤ 18) :
    (igrisAtof32 (D := D) cvt (L.text ++ rest)).map (fun x => x.2) =
      some (if L.hasDigit then L.text.length else 0) := by
  rw [igrisAtof32_literal cvt L rest hwf.w hst]
  cases L.hasDigit
  · rfl
  · exact atof32_end_any_arithmetic_partial cvt L rest hwf hst hip32 hfp18

/-- igris_strtod (default build) -/
theorem igris_strtod_grammar (L : Literal) (rest : List Nat) (hwf : L.WF) (hst : Stops L rest) :
    igrisStrtod (F := Rat) (L.text ++ rest) =
      some (if L.hasDigit then (L.value, L.text.length) else (0, 0)) :=
  igris_atof64_grammar L rest hwf hst

/-- compat/libc `strtod` (default build) -/
theorem compat_strtod_grammar (L : Literal) (rest : List Nat) (hwf : L.WF) (hst : Stops L rest) :
    compatStrtod (F := Rat) (L.text ++ rest) =
      some (if L.hasDigit then (L.value, L.text.length) else (0, 0)) :=
  igris_atof64_grammar L rest hwf hst

/-- compat/libc `atof` (default build): the value, no end pointer -/
theorem compat_atof_value (L : Literal) (rest : List Nat) (hwf : L.WF) (hst : Stops L rest) :
    compatAtof (F := Rat) (L.text ++ rest) = some (if L.hasDigit then L.value else 0) := by
  unfold compatAtof
  rw [igris_atof64_grammar L rest hwf hst]
  cases L.hasDigit <;> rfl

/-- binreader::read_ascii_decimal_float: value and new read position -/
theorem binreader_float_grammar_partial (L : Literal) (rest : List Nat) (hwf : L.WF) (hst : Stops L rest)
    (hip32 : valL L.ip < 2 ^ 32) (hfp18 : L.fracDigits.length ≤ 18) :
    binreaderFloat (F := Rat) (D := Rat) id (L.text ++ rest) =
      some (if L.hasDigit then (L.value, L.text.length) else (0, 0)) :=
  igris_atof32_grammar_partial L rest hwf hst hip32 hfp18

/-- igris_strtod and compat strtod / atof of the WITHOUT_ATOF64 build (they call igris_atof32; the float is
    widened on return: exactly, `id` over exact arithmetic) -/
theorem strtod32_flavour_grammar_partial (L : Literal) (rest : List Nat) (hwf : L.WF) (hst : Stops L rest)
    (hip32 : valL L.ip < 2 ^ 32) (hfp18 : L.fracDigits.length ≤ 18) :
    igrisStrtod32 (F := Rat) (D := Rat) id id (L.text ++ rest) =
        some (if L.hasDigit then (L.value, L.text.length) else (0, 0)) ∧
    compatStrtod32 (F := Rat) (D := Rat) id id (L.text ++ rest) =
        some (if L.hasDigit then (L.value, L.text.length) else (0, 0)) ∧
    compatAtof32 (F := Rat) (D := Rat) id id (L.text ++ rest) = some (if L.hasDigit then L.value else 0) := by
  unfold igrisStrtod32 compatStrtod32 compatAtof32
  rw [igris_atof32_grammar_partial L rest hwf hst hip32 hfp18]
  cases L.hasDigit <;> exact ⟨rfl, rfl, rfl⟩

/-- the end offsets of ALL entry points for EVERY arithmetic instance, every cast and every widening -/
theorem entry_points_end_any_arithmetic {F D : Type} [FloatLike F] [FloatLike D] (cvt : D → F) (widen : F → D)
    (L : Literal) (rest : List Nat) (hwf : L.WF) (hst : Stops L rest) :
    (igrisStrtod (F := D) (L.text ++ rest)).map (fun x => x.2) = some (if L.hasDigit then L.text.length else 0) ∧
    (compatStrtod (F := D) (L.text ++ rest)).map (fun x => x.2) = some (if L.hasDigit then L.text.length else 0) ∧
    (valL L.ip < 2 ^ 32 → L.fracDigits.length ≤ 18 →
      (binreaderFloat (D := D) cvt (L.text ++ rest)).map (fun x => x.2) = some (if L.hasDigit then L.text.length else 0) ∧
      (igrisStrtod32 cvt widen (L.text ++ rest)).map (fun x => x.2) = some (if L.hasDigit then L.text.length else 0) ∧
      (compatStrtod32 cvt widen (L.text ++ rest)).map (fun x => x.2) = some (if L.hasDigit then L.text.length else 0)) := by
  refine ⟨igris_atof64_end_any_arithmetic L rest hwf hst, igris_atof64_end_any_arithmetic L rest hwf hst, ?_⟩
  intro h1 h2
  have h := igris_atof32_end_any_arithmetic_partial cvt L rest hwf hst h1 h2
  refine ⟨h, ?_, ?_⟩
  · unfold igrisStrtod32
    rw [Option.map_map]
    exact h
  · unfold compatStrtod32
    rw [Option.map_map]
    exact h

/-- what the code does (software binary64, the arithmetic the driver runs) for the texts the property's
    grammar admits although they are not numbers, and for a point / an exponent letter without digits:
    "-", ".", ".e5" convert nothing; "5." is 5 with end 2; "5.e" and "5.e+" are 5 with end 2 (the `e` is left) -/
theorem no_digits_examples :
    igrisAtof64 (F := F64) [45, 0] = some (⟨0⟩, 0) ∧
    igrisAtof64 (F := F64) [46, 0] = some (⟨0⟩, 0) ∧
    igrisAtof64 (F := F64) [46, 101, 53, 0] = some (⟨0⟩, 0) ∧
    igrisAtof64 (F := F64) [53, 46, 0] = some (⟨0x4014000000000000⟩, 2) ∧
    igrisAtof64 (F := F64) [53, 46, 101, 0] = some (⟨0x4014000000000000⟩, 2) ∧
    igrisAtof64 (F := F64) [53, 46, 101, 43, 0] = some (⟨0x4014000000000000⟩, 2) ∧
    igrisAtof32 (D := F64) F64.toF32 [45, 46, 0] = some ((⟨0⟩ : F32), 0) ∧
    igrisAtof32 (D := F64) F64.toF32 [53, 46, 0] = some ((⟨0x40a00000⟩ : F32), 2) ∧
    igrisStrtod32 F64.toF32 F32.toF64 [53, 46, 101, 0] = some ((⟨0x4014000000000000⟩ : F64), 2) := by
  decide +kernel

/-- a guard "no conversion when the LAST CONSUMED character is not a digit" would be wrong for "5.":
    the literal has a digit, so by `igris_strtod_grammar` the end is 2 and the value 5 -/
example : (⟨none, [53], some [], none⟩ : Literal).hasDigit = true ∧
    (⟨none, [53], some [], none⟩ : Literal).text = [53, 46] ∧
    (⟨none, [53], some [], none⟩ : Literal).value = 5 := by decide +kernel

/-- `int e_val`: thanks to the saturation guard `e_val < 100000` the 32-bit accumulator never wraps — the
    loop over a wrapping C `int` computes exactly what the model's loop over naturals computes, and the
    result is at most 999999 -/
theorem exponent_counter_fits_int (p : List Nat) :
    expDigitsC p 0 = (expDigits p 0).map (fun x => ((x.1 : Int), x.2)) ∧
    ∀ e r, expDigits p 0 = some (e, r) → e ≤ 999999 :=
  expDigitsC_fits_int p 0 (by omega)

/-- `int d` (fraction digits counted down, exponent added): no wrap for fewer than 2^31 - 10^6 fraction digits -/
theorem delta_counter_fits_int (nfrac : Nat) (eneg : Bool) (ev : Nat) (he : ev ≤ 999999)
    (hn : nfrac ≤ 2146483648) :
    deltaC nfrac eneg (ev : Int) = (if eneg then -(ev : Int) else ev) - nfrac := by
  unfold deltaC wrapInt32
  cases eneg <;> simp <;> omega

example : deltaC 307201 true 999999 = -1307200 := by decide

/-! ## J. the automatic-precision table and the one-unit region -/

/-- the table of `precision < 0`, stated on the VALUE of the (finite, non-negative or not) binary32 argument — an
    independent statement of what the model's helper `autoPrec` returns: 6 digits below 1, 5 below 10, 4 below 100,
    3 below 1000, 2 below 10000, 1 below 100000, none from there on (the comparisons `f < 10.0` ... are exact: the
    thresholds are representable and the software comparison is the comparison of the values, `sfLt_val`) -/
theorem auto_precision_table (y : F32) (hy : y.Fin) :
    (y.val < 1 ∧ autoPrec y = 6) ∨ (1 ≤ y.val ∧ y.val < 10 ∧ autoPrec y = 5) ∨
    (10 ≤ y.val ∧ y.val < 100 ∧ autoPrec y = 4) ∨ (100 ≤ y.val ∧ y.val < 1000 ∧ autoPrec y = 3) ∨
    (1000 ≤ y.val ∧ y.val < 10000 ∧ autoPrec y = 2) ∨ (10000 ≤ y.val ∧ y.val < 100000 ∧ autoPrec y = 1) ∨
    (100000 ≤ y.val ∧ autoPrec y = 0) :=
  autoPrec32_spec y hy

/-- AUTOMATIC PRECISION is always inside the one-unit region: for EVERY finite binary32 `x` with `|x| < 2^31`
    and every negative `precision` igris_f32toa prints `p` = table value fraction digits and the printed number
    is within ONE unit of the last printed digit of `|x|` (the hypothesis `10^p (|x|+2) <= 2^23` of
    `ftoa_within_one_unit_partial` is discharged by the table; for p = 0 the integer part is the exact truncation) -/
theorem ftoa_auto_precision_within_one_unit (x : F32) (prec : Int) (hauto : prec < 0) (hx : x.Fin)
    (hr : absQ x.val < 2147483648) :
    ∃ (p : Nat) (ip fr : List Nat),
      p = autoPrec (if lt x (ofInt 0) then FloatLike.neg x else x) ∧
      f32toa x prec = some ((if x.val < 0 then [45] else []) ++ ip ++ (if p ≠ 0 then 46 :: fr else [])) ∧
      fr.length = p ∧
      absQ x.val * (10 : Rat) ^ p - 1 < ((valL (ip ++ fr) : Nat) : Rat) ∧
      ((valL (ip ++ fr) : Nat) : Rat) ≤ absQ x.val * (10 : Rat) ^ p + 1 := by
  obtain ⟨hyf, hyv', -⟩ := abs_arg x hx
  have hyv : (absArg x).val = absQ x.val := hyv'
  have hb := autoPrec32_budget _ hyf
  rw [hyv, ← effPrec_auto _ prec hauto] at hb
  obtain ⟨p, ip, fr, hp, h⟩ := f32toa_one_unit_I x prec hx (f32_range x hx hr)
    (hb.imp_right fun hb => by rw [B32_u, val32]; grind)
  exact ⟨p, ip, fr, by rw [hp, effPrec_auto _ _ hauto], h⟩

/-- the hypotheses are satisfiable: 0x42c80001 (100.0000076...) with precision -1 -/
example : ((-1 : Int) < 0) ∧ (⟨0x42c80001⟩ : F32).Fin ∧ absQ (⟨0x42c80001⟩ : F32).val < 2147483648 := by
  refine ⟨by decide, ?_, by decide +kernel⟩
  unfold F32.Fin FinEnc; decide +kernel

/-! ## K. totality of the double parsers on NUL-terminated texts; the twin of igris_ftoa -/

/-- TOTALITY (next to the grammar theorems, which are about texts of the form literal ++ tail): for EVERY
    arithmetic instance and EVERY text that contains a NUL — whether or not it starts with a literal —
    igris_atof64 is defined (the model's `none`, a read behind the allocation, does not occur: nothing behind the
    NUL is read) and the reported end is the length of a NUL-free prefix of the text, i.e. the end pointer lies
    inside the text, at or before the first NUL -/
theorem igris_atof64_total {F : Type} [FloatLike F] (s : List Nat) (h : 0 ∈ s) :
    ∃ (v : F) (pre r : List Nat), s = pre ++ r ∧ 0 ∉ pre ∧ 0 ∈ r ∧ igrisAtof64 s = some (v, pre.length) := by
  obtain ⟨L, rest, e, hw, hst, h0⟩ := exists_literal s h
  by_cases hd : L.hasDigit = true
  · exact ⟨_, L.text, rest, e, h0, hst.1,
      by rw [e, igrisAtof64_literal L rest hw hst, if_pos hd, atof64_literal L rest hw hst]⟩
  · exact ⟨ofInt 0, [], s, rfl, by simp, h, by rw [e, igrisAtof64_literal L rest hw hst, if_neg hd]; rfl⟩

example : (0 : Nat) ∈ [45, 46, 120, 0, 7] := by decide

/-- the same for igris_strtod, compat strtod and compat atof (default build) -/
theorem double_entry_points_total {F : Type} [FloatLike F] (s : List Nat) (h : 0 ∈ s) :
    (∃ (v : F) (pre r : List Nat), s = pre ++ r ∧ 0 ∉ pre ∧ 0 ∈ r ∧ igrisStrtod s = some (v, pre.length)) ∧
    (∃ (v : F) (pre r : List Nat), s = pre ++ r ∧ 0 ∉ pre ∧ 0 ∈ r ∧ compatStrtod s = some (v, pre.length)) ∧
    (∃ v : F, compatAtof s = some v) := by
  refine ⟨igris_atof64_total s h, igris_atof64_total s h, ?_⟩
  obtain ⟨v, pre, r, _, _, _, e⟩ := igris_atof64_total (F := F) s h
  exact ⟨v, by unfold compatAtof; rw [e]; rfl⟩

/-- igris_ftoa of the WITHOUT_ATOF64 build (argument type float32_t: a double is converted at the call) is the
    same function of a double argument as igris_f64toa / igris_ftoa of the default build: `f64toa_error_bound`
    and the renderer theorems apply to it verbatim -/
theorem igris_ftoa32_is_f64toa {F D : Type} [FloatLike F] (cvt : D → F) (d : D) (p : Int) :
    igrisFtoa32 cvt d p = f64toa cvt d p := rfl

/-! ## L. "the end of the literal" is a function of the text

  The grammar theorems speak about texts of the form `L.text ++ rest` with `Stops L rest` (the tail does not continue
  the literal): that is how "the longest prefix of the text that matches the grammar" is expressed.  This section
  states separately that such a decomposition is UNIQUE, so "the end of the literal" - the offset every entry point
  reports - does not depend on how the text is read as literal + tail. -/

/-- Two readings of ONE text as a well-formed literal followed by a tail that does not continue it are the same
    reading: the same characters belong to the literal (in particular the same END), the same tail follows, and
    the same decimal value is denoted.  (Proof: the exact-arithmetic parser is a function of the text and returns
    value and end of either reading - `atof64_grammar`.)  Hence no well-formed literal that is a prefix of the text
    and whose own tail stops can be longer or shorter than the reported end. -/
theorem literal_end_unique (L L' : Literal) (rest rest' : List Nat) (hwf : L.WF) (hst : Stops L rest)
    (hwf' : L'.WF) (hst' : Stops L' rest') (h : L.text ++ rest = L'.text ++ rest') :
    L.text = L'.text ∧ rest = rest' ∧ L.value = L'.value := by
  have h1 := atof64_grammar L rest hwf hst
  have h2 := atof64_grammar L' rest' hwf' hst'
  rw [h, h2] at h1
  have hp := Prod.mk.inj (Option.some.inj h1)
  have hl : L.text.length = L'.text.length := hp.2.symm
  have ha := List.append_inj h hl
  exact ⟨ha.1, ha.2, hp.1.symm⟩

/-- the hypotheses are satisfiable: "1" followed by "x\0" -/
example : (⟨none, [49], none, none⟩ : Literal).WF ∧ Stops ⟨none, [49], none, none⟩ [120, 0] := by
  refine ⟨⟨?_, ?_, ?_⟩, by decide, ?_, ?_, ?_, ?_⟩
  · intro c hc
    have : c = 49 := by simpa using hc
    subst this; decide
  · intro fp h; cases h
  · intro ch s ds h; cases h
  · show ¬ (48 ≤ 120 ∧ 120 ≤ 57); decide
  · intro _; decide
  · intro _ _; decide
  · intro _ h; cases h

/-- and a reading whose tail CONTINUES the literal is excluded by `Stops`: "1" followed by "5x\0" -/
example : ¬ Stops ⟨none, [49], none, none⟩ [53, 120, 0] := by
  intro h
  have h2 : ¬ (48 ≤ 53 ∧ 53 ≤ 57) := h.2.1
  exact h2 (by decide)

end Igris.C12
