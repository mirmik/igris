import IgrisModel.C12.Ieee
/-!
  C12 — the software binary32/binary64 of Model.lean IS round-to-nearest
  arithmetic, part 1: decoding and `roundPack` (the single place where the
  model rounds).  `roundPack_rn` is the standard model lemma for the format.
-/
namespace Igris.C12

/-- the formats the model is used with: at least 2 exponent bits and 1 fraction bit -/
structure Fmt.WF (f : Fmt) : Prop where
  ebits_ge : 2 ≤ f.ebits
  mbits_ge : 1 ≤ f.mbits

/-- parameters of the format as a `BinFmt`: binary32 ↦ ⟨24, -149, 127⟩, binary64 ↦ ⟨53, -1074, 1023⟩ -/
def Fmt.bin (f : Fmt) : BinFmt := ⟨f.mbits + 1, 1 - (f.bias : Int) - f.mbits, f.bias⟩

/-- the rational a decoded finite operand stands for (0 for inf / nan) -/
def Dec.toQ : Dec → Rat
  | .fin s m e => if s then -((m : Rat) * pow2 e) else (m : Rat) * pow2 e
  | _ => 0

def FinEnc (f : Fmt) (b : Nat) : Prop :=
  b < 2 * f.signBit ∧ b / 2 ^ f.mbits % 2 ^ f.ebits ≠ f.expMax

theorem b32_wf : b32.WF := ⟨by decide, by decide⟩
theorem b64_wf : b64.WF := ⟨by decide, by decide⟩

/-! ### format facts -/

theorem Fmt.WF.two_pow_ebits {f : Fmt} (hf : f.WF) : 2 ^ f.ebits = 2 * f.bias + 2 := by
  have h := hf.ebits_ge
  have e1 : f.ebits = (f.ebits - 1) + 1 := by omega
  have hp : 0 < 2 ^ (f.ebits - 1) := Nat.two_pow_pos _
  unfold Fmt.bias
  rw [e1, Nat.pow_succ]
  simp only [Nat.add_sub_cancel]
  omega

theorem Fmt.WF.bias_pos {f : Fmt} (hf : f.WF) : 1 ≤ f.bias := by
  have := hf.two_pow_ebits
  have : 2 ^ 2 ≤ 2 ^ f.ebits := Nat.pow_le_pow_right (by decide) hf.ebits_ge
  omega

theorem Fmt.WF.expMax_eq {f : Fmt} (hf : f.WF) : f.expMax = 2 * f.bias + 1 := by
  have := hf.two_pow_ebits
  unfold Fmt.expMax; omega

theorem Fmt.WF.expMax_lt {f : Fmt} (hf : f.WF) : f.expMax < 2 ^ f.ebits := by
  have := hf.two_pow_ebits; have := hf.expMax_eq; omega

theorem Fmt.signBit_eq (f : Fmt) : f.signBit = 2 ^ f.ebits * 2 ^ f.mbits := by
  unfold Fmt.signBit; rw [Nat.pow_add]

/-- the field extractions of `decode`, with `P = 2^mbits`, `E = 2^ebits` -/
theorem fields (P E ex r σ : Nat) (hP : 0 < P) (hex : ex < E) (hr : r < P) (hσ : σ < 2) :
    let X := σ * (E * P) + ex * P + r
    X / (E * P) % 2 = σ ∧ X / P % E = ex ∧ X % P = r ∧ X < 2 * (E * P) := by
  intro X
  have hX : X = (σ * E + ex) * P + r := by
    show σ * (E * P) + ex * P + r = _
    rw [Nat.add_mul, Nat.mul_assoc]
  have h1 : X / P = σ * E + ex := by
    rw [hX, Nat.mul_comm, Nat.mul_add_div hP, Nat.div_eq_of_lt hr]; rfl
  have h2 : X % P = r := by
    rw [hX, Nat.mul_comm, Nat.mul_add_mod, Nat.mod_eq_of_lt hr]
  have hE : 0 < E := by omega
  have h3 : X / (E * P) = σ := by
    rw [Nat.mul_comm E P, ← Nat.div_div_eq_div_mul, h1, Nat.mul_comm σ E, Nat.mul_add_div hE,
      Nat.div_eq_of_lt hex]; rfl
  refine ⟨?_, ?_, h2, ?_⟩
  · rw [h3]; exact Nat.mod_eq_of_lt hσ
  · rw [h1, Nat.mul_comm σ E, Nat.mul_add_mod, Nat.mod_eq_of_lt hex]
  · have : (σ * E + ex) * P + r < (σ * E + ex + 1) * P := by
      rw [Nat.add_mul (σ * E + ex) 1 P]; omega
    have h5 : σ * E + ex + 1 ≤ 2 * E := by
      have : σ * E ≤ 1 * E := Nat.mul_le_mul_right E (by omega)
      omega
    have := Nat.mul_le_mul_right P h5
    rw [hX, ← Nat.mul_assoc]; omega

theorem withSign_eq (f : Fmt) (s : Bool) (x : Nat) :
    withSign f s x = (if s then 1 else 0) * (2 ^ f.ebits * 2 ^ f.mbits) + x := by
  unfold withSign; rw [f.signBit_eq]; cases s <;> simp [Nat.add_comm]

theorem decode_pack (f : Fmt) (hf : f.WF) (s : Bool) (ex r : Nat) (hex : ex < f.expMax)
    (hr : r < 2 ^ f.mbits) :
    FinEnc f (withSign f s (ex * 2 ^ f.mbits + r)) ∧
    decode f (withSign f s (ex * 2 ^ f.mbits + r)) =
      if ex = 0 then .fin s r (1 - (f.bias : Int) - f.mbits)
      else .fin s (r + 2 ^ f.mbits) ((ex : Int) - f.bias - f.mbits) := by
  have hP : 0 < 2 ^ f.mbits := Nat.two_pow_pos _
  have hE := hf.expMax_lt
  have hσ : (if s then 1 else 0) < 2 := by cases s <;> simp
  obtain ⟨h1, h2, h3, h4⟩ := fields (2 ^ f.mbits) (2 ^ f.ebits) ex r (if s then 1 else 0) hP
    (by omega) hr hσ
  rw [withSign_eq, ← Nat.add_assoc]
  refine ⟨⟨?_, ?_⟩, ?_⟩
  · rw [f.signBit_eq]; exact h4
  · rw [h2]; omega
  · unfold decode
    rw [f.signBit_eq]
    simp only [h1, h2, h3]
    have hne : (ex == f.expMax) = false := by
      have : ex ≠ f.expMax := by omega
      simpa using this
    simp only [hne]
    cases s <;> simp

theorem pack_lt (P ex r X : Nat) (hr : r < P) (hex : ex < X) : ex * P + r < X * P := by
  have h1 : ex * P + r < (ex + 1) * P := by rw [Nat.add_mul]; omega
  have h2 : (ex + 1) * P ≤ X * P := Nat.mul_le_mul_right P hex
  omega

theorem finEnc_pack (f : Fmt) (b : Nat) (h : FinEnc f b) :
    ∃ s ex r, b = withSign f s (ex * 2 ^ f.mbits + r) ∧ ex < f.expMax ∧ r < 2 ^ f.mbits := by
  obtain ⟨hb, hex⟩ := h
  have hP : 0 < 2 ^ f.mbits := Nat.two_pow_pos _
  have hE : 0 < 2 ^ f.ebits := Nat.two_pow_pos _
  have hx : f.expMax = 2 ^ f.ebits - 1 := rfl
  have h1 := Nat.div_add_mod b (2 ^ f.mbits)
  have h2 := Nat.div_add_mod (b / 2 ^ f.mbits) (2 ^ f.ebits)
  have hr := Nat.mod_lt b hP
  have he := Nat.mod_lt (b / 2 ^ f.mbits) hE
  have ht : b / 2 ^ f.mbits / 2 ^ f.ebits < 2 := by
    rw [Nat.div_div_eq_div_mul, Nat.div_lt_iff_lt_mul (Nat.mul_pos hP hE), Nat.mul_comm (2 ^ f.mbits), ← f.signBit_eq]
    exact hb
  rw [f.signBit_eq] at hb
  generalize b / 2 ^ f.mbits % 2 ^ f.ebits = ex at *
  generalize b % 2 ^ f.mbits = r at *
  refine ⟨decide (b / 2 ^ f.mbits / 2 ^ f.ebits = 1), ex, r, ?_, by omega, hr⟩
  unfold withSign; rw [f.signBit_eq]
  generalize b / 2 ^ f.mbits / 2 ^ f.ebits = t at *
  have : t = 0 ∨ t = 1 := by omega
  rcases this with rfl | rfl
  · simp only [Nat.mul_zero, Nat.zero_add] at h2
    rw [← h1, ← h2, Nat.mul_comm]; simp
  · simp only [Nat.mul_one] at h2
    rw [← h1, ← h2, Nat.mul_add, Nat.mul_comm _ ex, Nat.mul_comm (2 ^ f.mbits)]; simp; omega

theorem pack_lt_signBit (f : Fmt) (hf : f.WF) (ex r : Nat) (hex : ex < f.expMax) (hr : r < 2 ^ f.mbits) :
    ex * 2 ^ f.mbits + r < f.signBit := by
  have := pack_lt _ _ _ _ hr hex
  have hE := hf.expMax_lt
  have := Nat.mul_lt_mul_of_pos_right hE (Nat.two_pow_pos f.mbits)
  rw [f.signBit_eq]; omega

theorem decode_fin (f : Fmt) (hf : f.WF) (b : Nat) (h : FinEnc f b) :
    ∃ m e, decode f b = .fin (decide (f.signBit ≤ b)) m e ∧ m < 2 ^ (f.mbits + 1) ∧ f.bin.emin ≤ e := by
  obtain ⟨s, ex, r, rfl, hex, hr⟩ := finEnc_pack f b h
  have hlt := pack_lt_signBit f hf ex r hex hr
  have hs : decide (f.signBit ≤ withSign f s (ex * 2 ^ f.mbits + r)) = s := by
    unfold withSign; cases s <;> simp <;> omega
  rw [hs, (decode_pack f hf s ex r hex hr).2, Nat.pow_succ]
  show ∃ m e, _ ∧ _ ∧ 1 - (f.bias : Int) - f.mbits ≤ e
  split
  · exact ⟨_, _, rfl, by omega, Int.le_refl _⟩
  · exact ⟨_, _, rfl, by omega, by omega⟩

/-- `M = 2^(mbits+1)` is allowed: the carry runs into the exponent field and the encoding still
    stands for `M * 2^(Bx + 1 - bias - mbits)` -/
theorem decode_pack_carry (f : Fmt) (hf : f.WF) (s : Bool) (Bx M : Nat)
    (hM : M ≤ 2 ^ (f.mbits + 1)) (hsub : M < 2 ^ f.mbits → Bx = 0) (hBx : Bx + 2 < f.expMax) :
    Bx * 2 ^ f.mbits + M < f.infBits ∧
    FinEnc f (withSign f s (Bx * 2 ^ f.mbits + M)) ∧
    ∃ M' e', decode f (withSign f s (Bx * 2 ^ f.mbits + M)) = .fin s M' e' ∧
      M' < 2 ^ (f.mbits + 1) ∧ f.bin.emin ≤ e' ∧
      (M' : Rat) * pow2 e' = (M : Rat) * pow2 ((Bx : Int) + 1 - f.bias - f.mbits) := by
  have hP : 0 < 2 ^ f.mbits := Nat.two_pow_pos _
  have h2P : 2 ^ (f.mbits + 1) = 2 * 2 ^ f.mbits := by rw [Nat.pow_succ]; omega
  rw [h2P] at hM ⊢
  show _ ∧ _ ∧ ∃ M' e', _ ∧ _ ∧ 1 - (f.bias : Int) - f.mbits ≤ e' ∧ _
  unfold Fmt.infBits
  generalize hPdef : 2 ^ f.mbits = P at *
  by_cases c1 : M < P
  · have hB := hsub c1
    subst hB
    obtain ⟨d1, d2⟩ := decode_pack f hf s 0 M (by omega) (by omega)
    rw [hPdef] at d1 d2
    refine ⟨pack_lt P 0 M _ c1 (by omega), d1, M, 1 - (f.bias : Int) - f.mbits, ?_, by omega, by omega, ?_⟩
    · rw [d2]; simp
    · congr 2
  · by_cases c2 : M < 2 * P
    · have e : Bx * P + M = (Bx + 1) * P + (M - P) := by rw [Nat.add_mul]; omega
      rw [e]
      obtain ⟨d1, d2⟩ := decode_pack f hf s (Bx + 1) (M - P) (by omega) (by omega)
      rw [hPdef] at d1 d2
      refine ⟨pack_lt P (Bx + 1) (M - P) _ (by omega) (by omega), d1, M,
        ((Bx + 1 : Nat) : Int) - f.bias - f.mbits, ?_, by omega, by omega, ?_⟩
      · rw [d2, if_neg (by omega)]
        have : M - P + P = M := by omega
        rw [this]
      · congr 2
    · have hMe : M = 2 * P := by omega
      subst hMe
      have e : Bx * P + 2 * P = (Bx + 2) * P + 0 := by rw [Nat.add_mul]; omega
      rw [e]
      obtain ⟨d1, d2⟩ := decode_pack f hf s (Bx + 2) 0 (by omega) (by omega)
      rw [hPdef] at d1 d2
      refine ⟨pack_lt P (Bx + 2) 0 _ (by omega) (by omega), d1, P,
        ((Bx + 2 : Nat) : Int) - f.bias - f.mbits, ?_, by omega, by omega, ?_⟩
      · rw [d2, if_neg (by omega), Nat.zero_add]
      · have e2 : ((Bx + 2 : Nat) : Int) - f.bias - f.mbits = ((Bx : Int) + 1 - f.bias - f.mbits) + 1 := by
          omega
        rw [e2, pow2_succ, Rat.natCast_mul]
        simp only [Rat.natCast_ofNat]
        grind

theorem roundPack_zero (f : Fmt) (hf : f.WF) (s : Bool) (e : Int) (st : Bool) :
    roundPack f s 0 e st = withSign f s 0 ∧ FinEnc f (withSign f s 0) ∧
    decode f (withSign f s 0) = .fin s 0 f.bin.emin := by
  have hP : 0 < 2 ^ f.mbits := Nat.two_pow_pos _
  have hx := hf.expMax_eq
  obtain ⟨d1, d2⟩ := decode_pack f hf s 0 0 (by omega) hP
  simp only [Nat.zero_mul, Nat.add_zero] at d1 d2
  refine ⟨?_, d1, ?_⟩
  · unfold roundPack; simp
  · rw [d2]; simp [Fmt.bin]

/-! ### the rounded significand -/

/-- the significand `roundPack` computes (no sticky bit): `m * 2^e / 2^q` rounded to nearest even -/
def rndM (m : Nat) (e q : Int) : Nat :=
  if q ≤ e then m <<< (e - q).toNat
  else
    let sh := (q - e).toNat
    let M0 := m >>> sh
    let rem := m % 2 ^ sh
    let half := 2 ^ (sh - 1)
    if rem > half || (rem == half && (false || M0 % 2 == 1)) then M0 + 1 else M0

theorem roundPack_eq (f : Fmt) (s : Bool) (m : Nat) (e : Int) (hm : m ≠ 0) :
    roundPack f s m e =
      withSign f s
        (if (max (e + Nat.log2 m + f.bias - 1) 0).toNat * 2 ^ f.mbits +
              rndM m e (max (e + Nat.log2 m + f.bias - 1) 0 + 1 - f.bias - f.mbits) ≥ f.infBits
          then f.infBits
          else (max (e + Nat.log2 m + f.bias - 1) 0).toNat * 2 ^ f.mbits +
              rndM m e (max (e + Nat.log2 m + f.bias - 1) 0 + 1 - f.bias - f.mbits)) := by
  have : (m == 0) = false := by simpa using hm
  unfold roundPack rndM
  simp only [this]
  rfl

theorem rndM_exact (m : Nat) (e q : Int) (h : q ≤ e) : rndM m e q = m * 2 ^ (e - q).toNat := by
  unfold rndM; rw [if_pos h, Nat.shiftLeft_eq]

theorem rndM_half (m : Nat) (e q : Int) (h : e < q) :
    2 * (rndM m e q * 2 ^ (q - e).toNat) ≤ 2 * m + 2 ^ (q - e).toNat ∧
    2 * m ≤ 2 * (rndM m e q * 2 ^ (q - e).toNat) + 2 ^ (q - e).toNat := by
  unfold rndM; rw [if_neg (by omega)]
  simp only [Nat.shiftRight_eq_div_pow]
  have hsh : (q - e).toNat = ((q - e).toNat - 1) + 1 := by omega
  have hS : 2 ^ (q - e).toNat = 2 * 2 ^ ((q - e).toNat - 1) := by
    conv => lhs; rw [hsh, Nat.pow_succ]
    omega
  generalize (q - e).toNat - 1 = k at *
  generalize (q - e).toNat = sh at *
  have hdm := Nat.div_add_mod m (2 ^ sh)
  have hrem : m % 2 ^ sh < 2 ^ sh := Nat.mod_lt _ (Nat.two_pow_pos _)
  have hmul : (m / 2 ^ sh + 1) * 2 ^ sh = 2 ^ sh * (m / 2 ^ sh) + 2 ^ sh := by
    rw [Nat.add_mul, Nat.mul_comm]; omega
  have hmul0 : (m / 2 ^ sh) * 2 ^ sh = 2 ^ sh * (m / 2 ^ sh) := Nat.mul_comm _ _
  generalize 2 ^ k = half at *
  generalize m % 2 ^ sh = rem at *
  generalize m / 2 ^ sh = M0 at *
  generalize 2 ^ sh = S at *
  generalize S * M0 = Z at *
  split
  · rename_i hc
    rw [hmul]
    simp at hc
    omega
  · rename_i hc
    rw [hmul0]
    simp at hc
    omega

theorem rndM_near (m : Nat) (e q : Int) :
    (rndM m e q : Rat) - (m : Rat) * pow2 (e - q) ≤ 1 / 2 ∧
    (m : Rat) * pow2 (e - q) - (rndM m e q : Rat) ≤ 1 / 2 := by
  by_cases h : q ≤ e
  · rw [rndM_exact m e q h, Rat.natCast_mul, ← pow2_toNat (e - q) (by omega)]
    constructor <;> grind
  · have h' : e < q := by omega
    obtain ⟨h1, h2⟩ := rndM_half m e q h'
    have hS : pow2 (q - e) = ((2 ^ (q - e).toNat : Nat) : Rat) := pow2_toNat _ (by omega)
    have h1' := Rat.natCast_le_natCast.2 h1
    have h2' := Rat.natCast_le_natCast.2 h2
    generalize rndM m e q = M at *
    generalize 2 ^ (q - e).toNat = S at *
    push_cast at h1' h2'
    rw [← hS] at h1' h2'
    have hpos := pow2_pos (q - e)
    have hc := pow2_mul_cancel (e - q) (q - e) (by omega)
    generalize pow2 (q - e) = X at *
    generalize pow2 (e - q) = Y at *
    have hmYX : (m : Rat) * Y * X = m := by rw [Rat.mul_assoc, hc, Rat.mul_one]
    clear h1 h2 hS hc
    constructor
    · have : (2 * (M : Rat)) * X ≤ (2 * ((m : Rat) * Y) + 1) * X := by grind
      have := Rat.le_of_mul_le_mul_right this hpos
      grind
    · have : (2 * ((m : Rat) * Y)) * X ≤ (2 * (M : Rat) + 1) * X := by grind
      have := Rat.le_of_mul_le_mul_right this hpos
      grind

/-! ### nearest integers -/

theorem near_int (M N : Nat) (t : Rat) (h1 : (M : Rat) - t ≤ 1 / 2) (h2 : t - (M : Rat) ≤ 1 / 2) :
    ((M : Rat) - t ≤ N - t ∨ (M : Rat) - t ≤ t - N) ∧ (t - (M : Rat) ≤ N - t ∨ t - (M : Rat) ≤ t - N) := by
  rcases Nat.lt_trichotomy M N with h | h | h
  · have : ((M + 1 : Nat) : Rat) ≤ (N : Rat) := Rat.natCast_le_natCast.2 h
    push_cast at this
    constructor
    · left; grind
    · left; grind
  · subst h
    constructor
    · left; grind
    · right; grind
  · have : ((N + 1 : Nat) : Rat) ≤ (M : Rat) := Rat.natCast_le_natCast.2 h
    push_cast at this
    constructor
    · right; grind
    · right; grind

theorem near_int_le (M N : Nat) (t : Rat) (h1 : (M : Rat) - t ≤ 1 / 2) (ht : t < (N : Rat)) : M ≤ N := by
  have : ((2 * M : Nat) : Rat) < ((2 * N + 1 : Nat) : Rat) := by push_cast; grind
  have := Rat.natCast_lt_natCast.1 this
  omega

theorem near_int_ge (M N : Nat) (t : Rat) (h2 : t - (M : Rat) ≤ 1 / 2) (ht : (N : Rat) ≤ t) : N ≤ M := by
  have : ((2 * N : Nat) : Rat) ≤ ((2 * M + 1 : Nat) : Rat) := by push_cast; grind
  have := Rat.natCast_le_natCast.1 this
  omega

theorem sub_le_sub_mul {p q r s X : Rat} (hX : 0 ≤ X) (h : p - q ≤ r - s) : p * X - q * X ≤ r * X - s * X := by
  have := Rat.mul_le_mul_of_nonneg_right h hX; grind

theorem near_grid (M N : Nat) (t X : Rat) (hX : 0 < X) (h1 : (M : Rat) - t ≤ 1 / 2)
    (h2 : t - (M : Rat) ≤ 1 / 2) :
    ((M : Rat) * X - t * X ≤ N * X - t * X ∨ (M : Rat) * X - t * X ≤ t * X - N * X) ∧
    (t * X - (M : Rat) * X ≤ N * X - t * X ∨ t * X - (M : Rat) * X ≤ t * X - N * X) := by
  have hX' : 0 ≤ X := Rat.le_of_lt hX
  obtain ⟨a, b⟩ := near_int M N t h1 h2
  exact ⟨a.imp (sub_le_sub_mul hX') (sub_le_sub_mul hX'), b.imp (sub_le_sub_mul hX') (sub_le_sub_mul hX')⟩

theorem log2_bounds (m : Nat) (hm : m ≠ 0) (e : Int) :
    pow2 (e + Nat.log2 m) ≤ (m : Rat) * pow2 e ∧ (m : Rat) * pow2 e < pow2 (e + Nat.log2 m + 1) := by
  have h1 : ((2 ^ Nat.log2 m : Nat) : Rat) ≤ (m : Rat) := Rat.natCast_le_natCast.2 (Nat.log2_self_le hm)
  have h2 : (m : Rat) < ((2 ^ (Nat.log2 m + 1) : Nat) : Rat) := Rat.natCast_lt_natCast.2 Nat.lt_log2_self
  rw [← pow2_nat] at h1 h2
  have hp := pow2_pos e
  constructor
  · rw [pow2_add, Rat.mul_comm]
    exact Rat.mul_le_mul_of_nonneg_right h1 (Rat.le_of_lt hp)
  · have e1 : e + (Nat.log2 m : Int) + 1 = ((Nat.log2 m + 1 : Nat) : Int) + e := by omega
    rw [e1, pow2_add]
    exact Rat.mul_lt_mul_of_pos_right h2 hp

theorem val_split (m : Nat) (e q : Int) : (m : Rat) * pow2 e = (m : Rat) * pow2 (e - q) * pow2 q := by
  rw [Rat.mul_assoc, pow2_sub]

theorem half_err (m : Nat) (e q : Int) (M : Nat)
    (hM1 : (M : Rat) - (m : Rat) * pow2 (e - q) ≤ 1 / 2)
    (hM2 : (m : Rat) * pow2 (e - q) - (M : Rat) ≤ 1 / 2) :
    (M : Rat) * pow2 q - (m : Rat) * pow2 e ≤ pow2 (q - 1) ∧
    (m : Rat) * pow2 e - (M : Rat) * pow2 q ≤ pow2 (q - 1) := by
  rw [val_split m e q, pow2_pred]
  have hX := Rat.le_of_lt (pow2_pos q)
  have a := Rat.mul_le_mul_of_nonneg_right hM1 hX
  have b := Rat.mul_le_mul_of_nonneg_right hM2 hX
  generalize pow2 q = X at *
  generalize (m : Rat) * pow2 (e - q) = t at *
  constructor <;> grind

theorem rn_err (f : Fmt) (m : Nat) (e q E : Int) (M : Nat)
    (hE1 : pow2 E ≤ (m : Rat) * pow2 e) (hE2 : (m : Rat) * pow2 e < pow2 (E + 1))
    (hq : (0 ≤ E + f.bias - 1 ∧ q = E - f.mbits) ∨ (E + f.bias - 1 < 0 ∧ q = 1 - f.bias - f.mbits))
    (hM1 : (M : Rat) - (m : Rat) * pow2 (e - q) ≤ 1 / 2)
    (hM2 : (m : Rat) * pow2 (e - q) - (M : Rat) ≤ 1 / 2) :
    ((M : Rat) * pow2 q - (m : Rat) * pow2 e ≤ f.bin.u * ((m : Rat) * pow2 e) ∧
      (m : Rat) * pow2 e - (M : Rat) * pow2 q ≤ f.bin.u * ((m : Rat) * pow2 e)) ∨
    ((m : Rat) * pow2 e < f.bin.tiny ∧ (M : Rat) * pow2 q - (m : Rat) * pow2 e ≤ f.bin.eta ∧
      (m : Rat) * pow2 e - (M : Rat) * pow2 q ≤ f.bin.eta) := by
  obtain ⟨a, b⟩ := half_err m e q M hM1 hM2
  rcases hq with ⟨h0, hq⟩ | ⟨h0, hq⟩
  · left
    have hu : f.bin.u * pow2 E = pow2 (q - 1) := by
      show pow2 (-((f.mbits + 1 : Nat) : Int)) * pow2 E = _
      rw [← pow2_add]; congr 1; omega
    have hupos : 0 ≤ f.bin.u := Rat.le_of_lt (pow2_pos _)
    have := Rat.mul_le_mul_of_nonneg_left hE1 hupos
    rw [hu] at this
    exact ⟨Rat.le_trans a this, Rat.le_trans b this⟩
  · right
    have ht : pow2 (E + 1) ≤ f.bin.tiny := by
      show _ ≤ pow2 ((1 - (f.bias : Int) - f.mbits) + ((f.mbits + 1 : Nat) : Int) - 1)
      apply pow2_mono; omega
    have he : f.bin.eta = pow2 (q - 1) := by
      show pow2 ((1 - (f.bias : Int) - f.mbits) - 1) = _
      rw [hq]
    rw [he]
    exact ⟨by grind, a, b⟩

theorem rn_nearest (f : Fmt) (m : Nat) (e q E : Int) (M : Nat)
    (hE1 : pow2 E ≤ (m : Rat) * pow2 e)
    (hq : q = E - f.mbits ∨ q = 1 - f.bias - f.mbits)
    (hM1 : (M : Rat) - (m : Rat) * pow2 (e - q) ≤ 1 / 2)
    (hM2 : (m : Rat) * pow2 (e - q) - (M : Rat) ≤ 1 / 2) (w : Rat) (hw : Rep f.bin w) :
    ((M : Rat) * pow2 q - (m : Rat) * pow2 e ≤ w - (m : Rat) * pow2 e ∨
      (M : Rat) * pow2 q - (m : Rat) * pow2 e ≤ (m : Rat) * pow2 e - w) ∧
    ((m : Rat) * pow2 e - (M : Rat) * pow2 q ≤ w - (m : Rat) * pow2 e ∨
      (m : Rat) * pow2 e - (M : Rat) * pow2 q ≤ (m : Rat) * pow2 e - w) := by
  obtain ⟨m0, e0, hm0, he0, rfl⟩ := hw
  have hm0 : m0 < 2 ^ (f.mbits + 1) := hm0
  have he0 : 1 - (f.bias : Int) - f.mbits ≤ e0 := he0
  have hX := pow2_pos q
  by_cases hc : q ≤ e0
  · -- `w` is on the grid of multiples of `2^q`
    have hw : (m0 : Rat) * pow2 e0 = ((m0 * 2 ^ (e0 - q).toNat : Nat) : Rat) * pow2 q := by
      rw [Rat.natCast_mul, ← pow2_toNat (e0 - q) (by omega), Rat.mul_assoc, pow2_sub]
    rw [hw, val_split m e q]
    exact near_grid M _ _ _ hX hM1 hM2
  · -- `w` is below the binade of `v`; the lower end of the binade is on the grid
    have hq' : q = E - f.mbits := by omega
    have hg : pow2 E = ((2 ^ f.mbits : Nat) : Rat) * pow2 q := by
      rw [← pow2_nat, ← pow2_add]; congr 1; omega
    have hwlt : (m0 : Rat) * pow2 e0 ≤ pow2 E := by
      have h1 : (m0 : Rat) < ((2 ^ (f.mbits + 1) : Nat) : Rat) := Rat.natCast_lt_natCast.2 hm0
      rw [← pow2_nat] at h1
      have h2 := Rat.mul_lt_mul_of_pos_right h1 (pow2_pos e0)
      rw [← pow2_add] at h2
      have h3 : pow2 (((f.mbits + 1 : Nat) : Int) + e0) ≤ pow2 E := pow2_mono (by omega)
      grind
    have key := near_grid M (2 ^ f.mbits) _ _ hX hM1 hM2
    rw [← hg, ← val_split m e q] at key
    generalize (m : Rat) * pow2 e = v at *
    generalize (M : Rat) * pow2 q = r at *
    generalize (m0 : Rat) * pow2 e0 = w at *
    generalize pow2 E = g at *
    obtain ⟨k1, k2⟩ := key
    constructor
    · right; grind
    · right; grind

theorem pack_rn (f : Fmt) (hf : f.WF) (s : Bool) (m : Nat) (e : Int) (hm : m ≠ 0)
    (hv : (m : Rat) * pow2 e < pow2 f.bias) (Bx : Nat)
    (hB : (Bx : Int) = max (e + Nat.log2 m + f.bias - 1) 0) (M : Nat)
    (hM1 : (M : Rat) - (m : Rat) * pow2 (e - ((Bx : Int) + 1 - f.bias - f.mbits)) ≤ 1 / 2)
    (hM2 : (m : Rat) * pow2 (e - ((Bx : Int) + 1 - f.bias - f.mbits)) - (M : Rat) ≤ 1 / 2) :
    Bx * 2 ^ f.mbits + M < f.infBits ∧
    FinEnc f (withSign f s (Bx * 2 ^ f.mbits + M)) ∧
    ∃ M' e', decode f (withSign f s (Bx * 2 ^ f.mbits + M)) = .fin s M' e' ∧
      M' < 2 ^ (f.mbits + 1) ∧ f.bin.emin ≤ e' ∧
      RN f.bin ((m : Rat) * pow2 e) ((M' : Rat) * pow2 e') := by
  obtain ⟨hE1, hE2⟩ := log2_bounds m hm e
  have hE : e + (Nat.log2 m : Int) < f.bias := by
    apply pow2_lt_iff.1; grind
  have hx := hf.expMax_eq
  have hb := hf.bias_pos
  generalize hq : (Bx : Int) + 1 - f.bias - f.mbits = q at *
  generalize hEdef : e + (Nat.log2 m : Int) = E at *
  obtain ⟨ht1, ht2⟩ := log2_bounds m hm (e - q)
  have hEq : e - q + (Nat.log2 m : Int) = E - q := by omega
  rw [hEq] at ht1 ht2
  have hMle : M ≤ 2 ^ (f.mbits + 1) := by
    apply near_int_le M _ _ hM1
    rw [← pow2_nat]
    have : pow2 (E - q + 1) ≤ pow2 ((f.mbits + 1 : Nat) : Int) := pow2_mono (by omega)
    grind
  have hMge : M < 2 ^ f.mbits → Bx = 0 := by
    intro hlt
    apply Decidable.byContradiction; intro hne
    have : 2 ^ f.mbits ≤ M := by
      apply near_int_ge M _ _ hM2
      rw [← pow2_nat]
      have : pow2 (f.mbits : Int) ≤ pow2 (E - q) := pow2_mono (by omega)
      grind
    omega
  obtain ⟨hlt, hfe, M', e', hd, hM', he', hval⟩ := decode_pack_carry f hf s Bx M hMle hMge (by omega)
  refine ⟨hlt, hfe, M', e', hd, hM', he', ?_⟩
  rw [hq] at hval
  rw [hval]
  refine ⟨?_, ?_, ?_⟩
  · rw [← hval]; exact ⟨M', e', hM', he', rfl⟩
  · exact rn_nearest f m e q E M hE1 (by omega) hM1 hM2
  · exact rn_err f m e q E M hE1 hE2 (by omega) hM1 hM2

/-- the standard model of the format for `roundPack` without sticky bit, short of overflow (`hv`) -/
theorem roundPack_rn (f : Fmt) (hf : f.WF) (s : Bool) (m : Nat) (e : Int) (hm : 0 < m)
    (hv : (m : Rat) * pow2 e < pow2 f.bias) :
    FinEnc f (roundPack f s m e) ∧
    ∃ M e', decode f (roundPack f s m e) = .fin s M e' ∧ M < 2 ^ (f.mbits + 1) ∧ f.bin.emin ≤ e' ∧
      RN f.bin ((m : Rat) * pow2 e) ((M : Rat) * pow2 e') := by
  have hm' : m ≠ 0 := by omega
  rw [roundPack_eq f s m e hm']
  have hB : (((max (e + (Nat.log2 m : Int) + f.bias - 1) 0).toNat : Nat) : Int) =
      max (e + (Nat.log2 m : Int) + f.bias - 1) 0 := by omega
  generalize (max (e + (Nat.log2 m : Int) + f.bias - 1) 0).toNat = Bx at *
  rw [← hB]
  obtain ⟨n1, n2⟩ := rndM_near m e ((Bx : Int) + 1 - f.bias - f.mbits)
  obtain ⟨hlt, rest⟩ := pack_rn f hf s m e hm' hv Bx hB _ n1 n2
  rw [if_neg (by omega)]
  exact rest

end Igris.C12
