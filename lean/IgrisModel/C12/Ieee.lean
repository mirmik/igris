import IgrisModel.C12.Model
/-!
  C12 — IEEE-754 binary arithmetic as a first-class part of the model.

  `BinFmt` = the parameters of a binary format, `Rep B v` = "the non-negative
  rational `v` is a value of the format", `RN B v r` = "`r` is `v` rounded to
  nearest in the format" (stated by its consequences: `r` is a value of the
  format, no value of the format is closer to `v`, and the standard model
  `r = v (1 + δ)`, `|δ| ≤ u = 2^-prec`, resp. an absolute error of at most half
  the smallest subnormal when `v` is below the normal range).

  `class IEEE F` says that an arithmetic instance `FloatLike F` IS such an
  arithmetic: every operation but `div` (no law is stated for it; only
  `igris_atof32` divides) returns the exact result rounded to nearest
  (`val (add x y)` is `RN` of `val x + val y`, ...), as long as the exact
  result is below the overflow threshold `2^emax`.  The instances for the
  software binary32 / binary64 of Model.lean (the arithmetic the driver runs and
  the harness compares with the FPU operation by operation) are proved in
  Soft*.lean; the error-bound theorems about the renderer and the parser
  (LemRender.lean, LemAtof.lean) are proved for every instance of the class.
-/
namespace Igris.C12
open FloatLike

/-! ### powers of two with an integer exponent -/

def pow2 (e : Int) : Rat := (2 : Rat) ^ e

theorem pow2_pos (e : Int) : 0 < pow2 e := Rat.zpow_pos (by decide)
theorem pow2_add (a b : Int) : pow2 (a + b) = pow2 a * pow2 b := Rat.zpow_add (by decide) a b
@[simp] theorem pow2_zero : pow2 0 = 1 := Rat.zpow_zero 2
theorem pow2_one : pow2 1 = 2 := Rat.zpow_one 2
theorem pow2_succ (e : Int) : pow2 (e + 1) = 2 * pow2 e := by rw [pow2_add, pow2_one]; grind
theorem pow2_pred (e : Int) : pow2 (e - 1) = pow2 e / 2 := by
  have : pow2 e = 2 * pow2 (e - 1) := by
    have := pow2_succ (e - 1); rwa [Int.sub_add_cancel] at this
  grind
theorem pow2_nat (n : Nat) : pow2 (n : Int) = ((2 ^ n : Nat) : Rat) := by
  unfold pow2; rw [Rat.zpow_natCast, Rat.natCast_pow]; rfl
theorem pow2_toNat (k : Int) (h : 0 ≤ k) : pow2 k = ((2 ^ k.toNat : Nat) : Rat) := by
  rw [← pow2_nat]; congr 1; omega
theorem pow2_mul_cancel (a b : Int) (h : a + b = 0) : pow2 a * pow2 b = 1 := by
  rw [← pow2_add, h, pow2_zero]
theorem pow2_sub (a b : Int) : pow2 (a - b) * pow2 b = pow2 a := by
  rw [← pow2_add]; congr 1; omega
theorem pow2_mono_nat (e : Int) (k : Nat) : pow2 e ≤ pow2 (e + k) := by
  induction k with
  | zero => simp
  | succ k ih =>
    have := pow2_pos (e + k)
    have e2 : e + ((k + 1 : Nat) : Int) = e + k + 1 := by omega
    rw [e2, pow2_succ]; grind
theorem pow2_mono {a b : Int} (h : a ≤ b) : pow2 a ≤ pow2 b := by
  have := pow2_mono_nat a (b - a).toNat
  have e : a + ((b - a).toNat : Int) = b := by omega
  rwa [e] at this
theorem pow2_strict {a b : Int} (h : a < b) : pow2 a < pow2 b := by
  have h1 : pow2 (a + 1) ≤ pow2 b := pow2_mono (by omega)
  have := pow2_pos a; rw [pow2_succ] at h1; grind
theorem pow2_lt_iff {a b : Int} : pow2 a < pow2 b ↔ a < b := by
  constructor
  · intro h
    apply Decidable.byContradiction; intro hn
    have := pow2_mono (show b ≤ a by omega)
    grind
  · exact pow2_strict
theorem pow2_le_iff {a b : Int} : pow2 a ≤ pow2 b ↔ a ≤ b := by
  rw [← Rat.not_lt, pow2_lt_iff, Int.not_lt]

/-! ### binary formats -/

structure BinFmt where
  /-- bits of the significand including the hidden one (24 / 53) -/
  prec : Nat
  /-- exponent of the smallest positive value, `2^emin` (-149 / -1074) -/
  emin : Int
  /-- an exact result of magnitude below `2^emax` is rounded without overflow (127 / 1023) -/
  emax : Int

namespace BinFmt
/-- the unit roundoff: half an ulp of 1 -/
def u (B : BinFmt) : Rat := pow2 (-(B.prec : Int))
/-- half the smallest subnormal: the absolute rounding error below the normal range -/
def eta (B : BinFmt) : Rat := pow2 (B.emin - 1)
/-- the smallest normal value -/
def tiny (B : BinFmt) : Rat := pow2 (B.emin + B.prec - 1)
/-- the overflow threshold used in this development -/
def big (B : BinFmt) : Rat := pow2 B.emax
end BinFmt

def binary32 : BinFmt := ⟨24, -149, 127⟩
def binary64 : BinFmt := ⟨53, -1074, 1023⟩

/-- the non-negative rational `v` is a value of the format: `m * 2^e` with a
    significand of at most `prec` bits and an exponent not below `emin` -/
def Rep (B : BinFmt) (v : Rat) : Prop :=
  ∃ (m : Nat) (e : Int), m < 2 ^ B.prec ∧ B.emin ≤ e ∧ v = (m : Rat) * pow2 e

/-- `r` is the non-negative rational `v` rounded to nearest in the format `B` -/
structure RN (B : BinFmt) (v r : Rat) : Prop where
  rep : Rep B r
  nearest : ∀ w, Rep B w → (r - v ≤ w - v ∨ r - v ≤ v - w) ∧ (v - r ≤ w - v ∨ v - r ≤ v - w)
  /-- the standard model: relative error at most `u`; below the normal range an
      absolute error of at most half the smallest subnormal -/
  err : (r - v ≤ B.u * v ∧ v - r ≤ B.u * v) ∨ (v < B.tiny ∧ r - v ≤ B.eta ∧ v - r ≤ B.eta)

/-- rounding to nearest of a value of either sign (symmetric) -/
def RNs (B : BinFmt) (v r : Rat) : Prop := (0 ≤ v → RN B v r) ∧ (v ≤ 0 → RN B (-v) (-r))

def InRange (B : BinFmt) (v : Rat) : Prop := -B.big < v ∧ v < B.big

/-- An arithmetic instance that is IEEE-754 arithmetic of the format `B`:
    `val` reads a finite element as a rational; every operation but `div` is the exact
    operation followed by one rounding to nearest. -/
class IEEE (F : Type) [FloatLike F] where
  B : BinFmt
  /-- the format is sane: at least 4 bits of significand, `2^emin` far below 1, threshold above 2^31 -/
  prec_ge : 4 ≤ B.prec
  emin_le : B.emin + B.prec + 3 ≤ 0
  emax_ge : 32 ≤ B.emax
  val : F → Rat
  /-- finite (a well-formed encoding that is neither an infinity nor a NaN) -/
  fin : F → Prop
  fin_special : ∀ x, fin x → isNaN x = false ∧ isInf x = false
  fin_rep : ∀ x, fin x → (0 ≤ val x → Rep B (val x)) ∧ (val x ≤ 0 → Rep B (-(val x)))
  lt_zero : ∀ x, fin x → (lt x (ofInt 0) = true ↔ val x < 0)
  neg_val : ∀ x, fin x → fin (neg x) ∧ val (neg x) = -(val x)
  add_rn : ∀ x y, fin x → fin y → InRange B (val x + val y) →
    fin (add x y) ∧ RNs B (val x + val y) (val (add x y))
  sub_rn : ∀ x y, fin x → fin y → InRange B (val x - val y) →
    fin (sub x y) ∧ RNs B (val x - val y) (val (sub x y))
  mul_rn : ∀ x y, fin x → fin y → InRange B (val x * val y) →
    fin (mul x y) ∧ RNs B (val x * val y) (val (mul x y))
  ofInt_rn : ∀ n : Int, InRange B (n : Rat) → fin (ofInt n) ∧ RNs B (n : Rat) (val (ofInt n : F))
  trunc_val : ∀ x, fin x → trunc x = some (truncQ (val x))
  /-- `f *= 10.0` -/
  mul10_rn : ∀ x, fin x → InRange B (val x * 10) → fin (mul10 x) ∧ RNs B (val x * 10) (val (mul10 x))
  /-- `(float)rounders[p]`: positive, within `2u` (two roundings) of `0.5e-p` -/
  rounder_ok : ∀ p, p ≤ 10 → fin (rounder p) ∧
    (1 - 2 * B.u) * (1 / (2 * (10 : Rat) ^ p)) ≤ val (rounder p) ∧
    val (rounder p) ≤ (1 + 2 * B.u) * (1 / (2 * (10 : Rat) ^ p))
  /-- the literal `0.1`: within `u/2` (relative) of one tenth -/
  tenth_ok : fin (lit 1 1) ∧ (1 - B.u / 2) * (1 / 10) ≤ val (lit 1 1 : F) ∧
    val (lit 1 1 : F) ≤ (1 + B.u / 2) * (1 / 10)

end Igris.C12
