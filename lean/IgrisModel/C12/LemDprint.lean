import IgrisModel.C12.LemParse
/-! C12 — debug_printdec_double_prec over exact arithmetic. -/
namespace Igris.C12
open Spec FloatLike

theorem natDigitsRev_length (p fuel n : Nat) (h1 : 10 ^ p ≤ n) (h2 : n < 10 ^ (p + 1)) (hf : p + 1 ≤ fuel) :
    (natDigitsRev fuel n).length = p + 1 := by
  induction p generalizing fuel n with
  | zero =>
    obtain ⟨f, rfl⟩ : ∃ f, fuel = f + 1 := ⟨fuel - 1, by omega⟩
    have hn : n ≠ 0 := by simp at h1; omega
    have hq : n / 10 = 0 := by simp at h2; omega
    simp only [natDigitsRev, hn, if_false, hq]
    cases f <;> simp [natDigitsRev]
  | succ p ih =>
    obtain ⟨f, rfl⟩ : ∃ f, fuel = f + 1 := ⟨fuel - 1, by omega⟩
    have hn : n ≠ 0 := by omega
    simp only [natDigitsRev, hn, if_false, List.length_cons]
    rw [Nat.pow_succ] at h1
    rw [show 10 ^ (p + 1 + 1) = 10 ^ (p + 1) * 10 by rw [Nat.pow_succ]] at h2
    rw [ih f (n / 10) (by omega) (by omega) (by omega)]

theorem decText_spec (n : Nat) (h : n < 10 ^ 20) :
    AllDigits (decText n) ∧ valL (decText n) = n ∧ Canonical (decText n) :=
  have h := digitsText_spec 20 n (by decide) h
  ⟨h.1, h.2.1, h.2.2.1⟩

theorem decText_length (p n : Nat) (h1 : 10 ^ p ≤ n) (h2 : n < 10 ^ (p + 1)) (hp : p + 1 ≤ 20) :
    (decText n).length = p + 1 := by
  have h0 : n ≠ 0 := by omega
  simp only [decText, h0, if_false, List.length_reverse]
  exact natDigitsRev_length p 20 n h1 h2 hp

theorem decText_length_small (n : Nat) (h : n < 10) : (decText n).length = 1 := by
  by_cases h0 : n = 0
  · subst h0; simp [decText]
  · exact decText_length 0 n (by simp; omega) (by simpa using h) (by omega)

theorem zeroPad_one (fuel frac : Nat) : zeroPad fuel 1 frac = [] := by
  cases fuel <;> simp [zeroPad]

theorem zeroPad_spec (p fuel frac : Nat) (hf : frac < 10 ^ (p + 1)) (hfuel : p ≤ fuel) (hp : p + 1 ≤ 20) :
    (zeroPad fuel (10 ^ p) frac ++ decText frac).length = p + 1 ∧
    AllDigits (zeroPad fuel (10 ^ p) frac ++ decText frac) ∧
    valL (zeroPad fuel (10 ^ p) frac ++ decText frac) = frac := by
  have hdt := decText_spec frac (by have := Nat.pow_le_pow_right (n := 10) (by decide) hp; omega)
  induction p generalizing fuel with
  | zero =>
    simp only [Nat.pow_zero, zeroPad_one, List.nil_append]
    exact ⟨decText_length_small frac (by simpa using hf), hdt.1, hdt.2.1⟩
  | succ p ih =>
    obtain ⟨f, rfl⟩ : ∃ f, fuel = f + 1 := ⟨fuel - 1, by omega⟩
    have hgt1 : 10 ^ (p + 1) > 1 := by rw [Nat.pow_succ]; omega
    have hdiv : 10 ^ (p + 1) / 10 = 10 ^ p := by rw [Nat.pow_succ]; omega
    by_cases hlt : 10 ^ (p + 1) > frac
    · simp only [zeroPad, hlt, hgt1, and_self, if_true, hdiv, List.cons_append]
      obtain ⟨i1, i2, i3⟩ := ih f hlt (by omega) (by omega)
      refine ⟨by simp [i1], ?_, ?_⟩
      · rw [allDigits_cons]; exact ⟨by omega, i2⟩
      · rw [valL_cons, i3]; simp
    · have hnot : ¬ (10 ^ (p + 1) > frac ∧ 10 ^ (p + 1) > 1) := fun h => hlt h.1
      simp only [zeroPad, hnot, if_false, List.nil_append]
      exact ⟨decText_length (p + 1) frac (by omega) hf (by omega), hdt.1, hdt.2.1⟩

theorem q_half : (lit 5 1 : Rat) = 1 / 2 := by
  simp only [q_lit]; decide +kernel

theorem scaleUp_Q (n : Nat) (o : Rat) : scaleUp n o = o * (10 : Rat) ^ n := by
  unfold scaleUp; rw [iter_mul10]

/-- rounding half up after scaling by `P`, split at the integer part: with `n = ⌊x⌋` and
    `fr = ⌊(x - n) P + 1/2⌋ ≤ P` (equality = the carry), `⌊x P + 1/2⌋ = n P + fr` -/
theorem round_split (x : Rat) (P n : Nat) (hP : 0 < P) (hfl : (n : Rat) ≤ x) (hfu : x < (n : Rat) + 1) :
    ∃ fr : Nat, ((x - (n : Rat)) * (P : Rat) + 1 / 2).floor = (fr : Int) ∧ fr ≤ P ∧
      0 ≤ (x - (n : Rat)) * (P : Rat) + 1 / 2 ∧ (x * (P : Rat) + 1 / 2).floor = ((n * P + fr : Nat) : Int) := by
  have hPq : (0 : Rat) < (P : Rat) := by
    have := Rat.natCast_lt_natCast.mpr hP; simpa using this
  generalize ho : x - (n : Rat) = o
  have hs0 : 0 ≤ o * (P : Rat) + 1 / 2 := by
    have : 0 ≤ o * (P : Rat) := Rat.mul_nonneg (by grind) (Rat.le_of_lt hPq)
    grind
  have hs1 : o * (P : Rat) + 1 / 2 < (P : Rat) + 1 := by
    have : o * (P : Rat) < 1 * (P : Rat) := Rat.mul_lt_mul_of_pos_right (by grind) hPq
    grind
  obtain ⟨fr, hfr, -, -⟩ := floor_nat hs0
  have hfrle : fr ≤ P := by
    have : (o * (P : Rat) + 1 / 2).floor < (P : Int) + 1 := by
      apply Rat.floor_lt_iff.mpr
      rw [Rat.intCast_add, Rat.intCast_natCast]; simpa using hs1
    omega
  refine ⟨fr, hfr, hfrle, hs0, ?_⟩
  have e : x * (P : Rat) + 1 / 2 = (o * (P : Rat) + 1 / 2) + (((n * P : Nat) : Int) : Rat) := by
    rw [Rat.intCast_natCast, Rat.natCast_mul]; grind
  rw [e, Rat.floor_add_intCast, hfr]; omega

theorem carry_divmod (n fr P : Nat) (hP : 0 < P) (hfr : fr ≤ P) :
    (n * P + fr) / P = (if P ≤ fr then n + 1 else n) ∧ (n * P + fr) % P = (if P ≤ fr then fr - P else fr) := by
  by_cases hcarry : P ≤ fr
  · have hfreq : fr = P := by omega
    have e : n * P + fr = (n + 1) * P := by rw [hfreq, Nat.add_mul]; simp
    rw [if_pos hcarry, if_pos hcarry, e, Nat.mul_div_cancel _ hP, Nat.mul_mod_left, hfreq, Nat.sub_self]
    exact ⟨rfl, rfl⟩
  · have hfrlt : fr < P := by omega
    rw [if_neg hcarry, if_neg hcarry, Nat.mul_comm, Nat.mul_add_div hP, Nat.div_eq_of_lt hfrlt,
      Nat.mul_add_mod, Nat.mod_eq_of_lt hfrlt]
    exact ⟨rfl, rfl⟩

theorem fracText_spec (p m : Nat) (hp : p ≤ 18) (hm : m < 10 ^ p) :
    ∃ fr : List Nat,
      (if p > 0 then 46 :: (zeroPad 20 (10 ^ p / 10) m ++ decText m) else []) = (if p > 0 then 46 :: fr else []) ∧
      AllDigits fr ∧ fr.length = p ∧ valL fr = m := by
  by_cases hp0 : p > 0
  · obtain ⟨q, rfl⟩ : ∃ q, p = q + 1 := ⟨p - 1, by omega⟩
    have hdiv : 10 ^ (q + 1) / 10 = 10 ^ q := by rw [Nat.pow_succ]; omega
    have hz := zeroPad_spec q 20 m hm (by omega) (by omega)
    exact ⟨_, by rw [hdiv], hz.2.1, hz.1, hz.2.2⟩
  · have hp0' : p = 0 := by omega
    subst hp0'
    exact ⟨[], rfl, allDigits_nil, rfl, by simp [valL]; omega⟩

/-- the routine over exact arithmetic, given its two casts: `n = (uint64_t)|a|` and
    `fr = (uint64_t)((|a| - n) * 10^p + 0.5)` -/
theorem dprintDouble_Q (a : Rat) (prec : Int) (n fr : Nat) (hn : (absQ a).floor = (n : Int)) (hn64 : n < 2 ^ 64)
    (hs0 : 0 ≤ (absQ a - (n : Rat)) * (10 : Rat) ^ (if prec > 18 then 18 else prec.toNat) + 1 / 2)
    (hfr : ((absQ a - (n : Rat)) * (10 : Rat) ^ (if prec > 18 then 18 else prec.toNat) + 1 / 2).floor = (fr : Int))
    (hfr64 : fr < 2 ^ 64) :
    dprintDouble a prec =
      (let p : Nat := if prec > 18 then 18 else prec.toNat
       let carry := 10 ^ p ≤ fr
       if p > 0 then some ((if a < 0 then [45] else []) ++ decText (if carry then (n + 1) % 2 ^ 64 else n) ++
           46 :: (zeroPad 20 (10 ^ p / 10) (if carry then fr - 10 ^ p else fr) ++
             decText (if carry then fr - 10 ^ p else fr)))
       else some ((if a < 0 then [45] else []) ++ decText (if carry then (n + 1) % 2 ^ 64 else n))) := by
  obtain ⟨habs, hsign⟩ := q_abs_arg a
  have hn64' : ¬ ((n : Int) < 0 ∨ (2 : Int) ^ 64 ≤ (n : Int)) := by omega
  have hfr64' : ¬ ((fr : Int) < 0 ∨ (2 : Int) ^ 64 ≤ (fr : Int)) := by omega
  simp only [dprintDouble, q_isNaN, q_isInf, Bool.false_eq_true, if_false, habs, hsign]
  simp only [if_false, q_ofInt,
    q_trunc, truncQ_nonneg (absQ_nonneg a), hn, hn64', q_sub, Rat.intCast_natCast, scaleUp_Q, q_add, q_half,
    truncQ_nonneg hs0, hfr, hfr64', Int.toNat_natCast]

theorem dprintDouble_Q_rounded (a : Rat) (prec : Int) (hr : absQ a < 18446744073709551615)
    (p N : Nat) (hp : p = if prec > 18 then 18 else prec.toNat)
    (hNdef : N = (absQ a * (10 : Rat) ^ p + 1 / 2).floor.toNat) :
    ∃ fr : List Nat,
      dprintDouble a prec = some ((if a < 0 then [45] else []) ++ decText (N / 10 ^ p) ++
        (if p > 0 then 46 :: fr else [])) ∧
      AllDigits fr ∧ fr.length = p ∧ valL fr = N % 10 ^ p ∧
      AllDigits (decText (N / 10 ^ p)) ∧ Canonical (decText (N / 10 ^ p)) ∧ valL (decText (N / 10 ^ p)) = N / 10 ^ p := by
  have hp18 : p ≤ 18 := by
    rw [hp]; split <;> omega
  have hP0 : 0 < 10 ^ p := Nat.pow_pos (by decide)
  have h1018 : 10 ^ p ≤ 10 ^ 18 := Nat.pow_le_pow_right (by decide) hp18
  have hcast : ((10 ^ p : Nat) : Rat) = (10 : Rat) ^ p := by rw [Rat.natCast_pow]; rfl
  obtain ⟨n, hn, hfl, hfu⟩ := floor_nat (absQ_nonneg a)
  have hkmax : (absQ a).floor < 18446744073709551615 := Rat.floor_lt_iff.mpr (by simpa using hr)
  obtain ⟨fr, hfr, hfrle, hs0, hNfl⟩ := round_split (absQ a) (10 ^ p) n hP0 hfl hfu
  rw [hcast] at hfr hs0 hNfl
  have hN : N = n * 10 ^ p + fr := by rw [hNdef, hNfl]; rfl
  obtain ⟨hNd, hNm⟩ := carry_divmod n fr (10 ^ p) hP0 hfrle
  rw [← hN] at hNd hNm
  have hmod64 : (n + 1) % 2 ^ 64 = n + 1 := Nat.mod_eq_of_lt (by omega)
  rw [dprintDouble_Q a prec n fr hn (by omega) (hp ▸ hs0) (hp ▸ hfr) (by omega)]
  simp only [← hp, hmod64, ← hNd, ← hNm]
  obtain ⟨d1, d2, d3⟩ := decText_spec (N / 10 ^ p) (by rw [hNd]; split <;> omega)
  obtain ⟨ft, hft, f1, f2, f3⟩ := fracText_spec p (N % 10 ^ p) hp18 (Nat.mod_lt _ hP0)
  refine ⟨ft, ?_, f1, f2, f3, d1, d3, d2⟩
  by_cases hp0 : p > 0
  · rw [if_pos hp0] at hft
    rw [if_pos hp0, hft]
  · rw [if_neg hp0, if_neg hp0, List.append_nil]

end Igris.C12
