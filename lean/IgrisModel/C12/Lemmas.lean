import IgrisModel.C12.Model
import IgrisModel.C12.Spec
/-! C12 — digit strings; the digit loop and the text of `igris_f32toa` for any arithmetic whose rounds are
    sound up to an error (`DigitStep`), and its instance over exact rationals. -/
namespace Igris.C12
open Spec FloatLike

/-! ### the `Rat` instance, unfolded -/
@[simp] theorem q_isNaN (a : Rat) : isNaN a = false := rfl
@[simp] theorem q_isInf (a : Rat) : isInf a = false := rfl
@[simp] theorem q_lt (a b : Rat) : lt a b = decide (a < b) := rfl
@[simp] theorem q_neg (a : Rat) : FloatLike.neg a = -a := rfl
@[simp] theorem q_add (a b : Rat) : add a b = a + b := rfl
@[simp] theorem q_sub (a b : Rat) : sub a b = a - b := rfl
@[simp] theorem q_mul (a b : Rat) : mul a b = a * b := rfl
@[simp] theorem q_div (a b : Rat) : div a b = a / b := rfl
@[simp] theorem q_ofInt (n : Int) : (ofInt n : Rat) = (n : Rat) := rfl
@[simp] theorem q_trunc (a : Rat) : trunc a = some (truncQ a) := rfl
@[simp] theorem q_mul10 (a : Rat) : mul10 a = a * 10 := rfl
@[simp] theorem q_rounder (p : Nat) : (rounder p : Rat) = 1 / (2 * (10 : Rat) ^ p) := rfl
@[simp] theorem q_lit (m k : Nat) : (lit m k : Rat) = (m : Rat) / (10 : Rat) ^ k := rfl

theorem truncQ_nonneg {q : Rat} (h : 0 ≤ q) : truncQ q = q.floor := by simp [truncQ, h]

theorem floor_nat {q : Rat} (h : 0 ≤ q) : ∃ k : Nat, q.floor = (k : Int) ∧ (k : Rat) ≤ q ∧ q < (k : Rat) + 1 := by
  have hk0 : 0 ≤ q.floor := Rat.le_floor_iff.mpr (by simpa using h)
  obtain ⟨k, hk⟩ : ∃ k : Nat, q.floor = (k : Int) := ⟨q.floor.toNat, by omega⟩
  have hfl := Rat.floor_le q
  have hfu := Rat.lt_floor_add_one q
  rw [hk, Rat.intCast_add, Rat.intCast_natCast] at hfu
  rw [hk, Rat.intCast_natCast] at hfl
  exact ⟨k, hk, hfl, by simpa using hfu⟩

theorem pow10_pos (p : Nat) : (0 : Rat) < (10 : Rat) ^ p := Rat.pow_pos (by decide)

theorem one_le_pow10 (j : Nat) : (1 : Rat) ≤ (10 : Rat) ^ j := by
  induction j with
  | zero => simp
  | succ j ih => rw [Rat.pow_succ]; grind

theorem half_unit (p : Nat) : (1 / (2 * (10 : Rat) ^ p)) * (10 : Rat) ^ p = 1 / 2 := by
  have := pow10_pos p; grind

/-! ### digit strings -/

theorem foldl_val (ds : List Nat) (a : Nat) :
    ds.foldl (fun a c => a * 10 + (c - 48)) a = a * 10 ^ ds.length + valL ds := by
  induction ds generalizing a with
  | nil => simp [valL]
  | cons c ds ih =>
    simp only [List.foldl_cons, List.length_cons, valL]
    rw [ih, ih (0 * 10 + (c - 48))]
    simp [Nat.pow_succ]; grind

theorem valL_nil : valL [] = 0 := rfl

theorem valL_cons (c : Nat) (ds : List Nat) : valL (c :: ds) = (c - 48) * 10 ^ ds.length + valL ds := by
  simp only [valL, List.foldl_cons]
  rw [foldl_val]; simp [valL]

theorem valL_append (xs ys : List Nat) : valL (xs ++ ys) = valL xs * 10 ^ ys.length + valL ys := by
  simp only [valL, List.foldl_append]
  rw [foldl_val]; simp [valL]

theorem horner_step (acc d len v : Nat) :
    (acc * 10 + d) * 10 ^ len + v = acc * 10 ^ (len + 1) + (d * 10 ^ len + v) := by
  rw [Nat.add_mul, Nat.pow_succ]; simp [Nat.mul_assoc, Nat.mul_comm, Nat.add_assoc]

theorem le_mul_pow10 (a k : Nat) : a ≤ a * 10 ^ k := Nat.le_mul_of_pos_right _ (Nat.pow_pos (by decide))

theorem allDigits_nil : AllDigits [] := by intro c h; cases h
theorem allDigits_cons {c : Nat} {ds : List Nat} : AllDigits (c :: ds) ↔ (48 ≤ c ∧ c ≤ 57) ∧ AllDigits ds := by
  simp [AllDigits]
theorem allDigits_append {xs ys : List Nat} : AllDigits (xs ++ ys) ↔ AllDigits xs ∧ AllDigits ys := by
  simp [AllDigits]; grind

theorem valL_lt (ds : List Nat) (h : AllDigits ds) : valL ds < 10 ^ ds.length := by
  induction ds with
  | nil => simp [valL]
  | cons c ds ih =>
    rw [valL_cons]
    have hc := (allDigits_cons.mp h).1
    have := ih (allDigits_cons.mp h).2
    simp only [List.length_cons, Nat.pow_succ]
    have : c - 48 ≤ 9 := by omega
    calc (c - 48) * 10 ^ ds.length + valL ds < (c - 48) * 10 ^ ds.length + 10 ^ ds.length := by omega
      _ = (c - 48 + 1) * 10 ^ ds.length := by rw [Nat.add_mul]; simp
      _ ≤ 10 * 10 ^ ds.length := Nat.mul_le_mul_right _ (by omega)
      _ = 10 ^ ds.length * 10 := Nat.mul_comm _ _

/-! ### the integer-part loop -/

theorem charOfInt_digit (d : Nat) (h : d ≤ 9) : charOfInt (48 + (d : Int)) = 48 + d := by
  unfold charOfInt; omega

theorem intDigitsRev_nat (fuel n : Nat) : intDigitsRev fuel (n : Int) = natDigitsRev fuel n := by
  induction fuel generalizing n with
  | zero => rfl
  | succ fuel ih =>
    simp only [intDigitsRev, natDigitsRev]
    by_cases h : n = 0
    · simp [h]
    · have h' : (n : Int) ≠ 0 := by omega
      simp only [h, h', if_false]
      have e1 : Int.tmod (n : Int) 10 = ((n % 10 : Nat) : Int) := rfl
      have e2 : Int.tdiv (n : Int) 10 = ((n / 10 : Nat) : Int) := rfl
      rw [e1, e2, ih, charOfInt_digit _ (by omega)]

theorem natDigitsRev_spec (fuel n : Nat) (hn : n < 10 ^ fuel) (hpos : 0 < n) :
    let ds := (natDigitsRev fuel n).reverse
    AllDigits ds ∧ valL ds = n ∧ ds.length ≤ fuel ∧ ds ≠ [] ∧ ds.head? ≠ some 48 := by
  induction fuel generalizing n with
  | zero => simp at hn; omega
  | succ fuel ih =>
    have hne : n ≠ 0 := by omega
    simp only [natDigitsRev, hne, if_false, List.reverse_cons]
    by_cases hq : n / 10 = 0
    · have : natDigitsRev fuel (n / 10) = [] := by
        rw [hq]; cases fuel <;> simp [natDigitsRev]
      rw [this]
      refine ⟨?_, ?_, ?_, ?_, ?_⟩
      · simp [AllDigits]; omega
      · simp [valL]; omega
      · simp
      · simp
      · simp; omega
    · have hq' : n / 10 < 10 ^ fuel := by
        rw [Nat.pow_succ] at hn; omega
      obtain ⟨h1, h2, h3, h4, h5⟩ := ih (n / 10) hq' (by omega)
      refine ⟨?_, ?_, ?_, ?_, ?_⟩
      · rw [allDigits_append]; refine ⟨h1, ?_⟩; simp [AllDigits]; omega
      · rw [valL_append, h2]; simp [valL]; omega
      · simp at h3 ⊢; omega
      · simp
      · intro h
        apply h5
        cases hrev : (natDigitsRev fuel (n / 10)).reverse with
        | nil => exact absurd hrev h4
        | cons a l => rw [hrev] at h; simpa using h

/-- "0" or the digits of the backwards loop reversed: what `debug_printdec_uint64` and the integer part of
    `igris_f32toa` write -/
theorem digitsText_spec (fuel n : Nat) (hf : 0 < fuel) (hn : n < 10 ^ fuel) :
    AllDigits (if n = 0 then [48] else (natDigitsRev fuel n).reverse) ∧
    valL (if n = 0 then [48] else (natDigitsRev fuel n).reverse) = n ∧
    Canonical (if n = 0 then [48] else (natDigitsRev fuel n).reverse) ∧
    (if n = 0 then [48] else (natDigitsRev fuel n).reverse).length ≤ fuel := by
  by_cases h0 : n = 0
  · subst h0; simp [AllDigits, valL, Canonical]; omega
  · rw [if_neg h0]
    obtain ⟨h1, h2, h3, h4, h5⟩ := natDigitsRev_spec fuel n hn (by omega)
    exact ⟨h1, h2, ⟨h4, fun hh => absurd hh h5⟩, h3⟩

/-- the integer part as `igris_f32toa` writes it (`int32_t` loop with C division, then reversed) -/
theorem intText_spec (k : Nat) (hk : k < 2147483648) :
    ∃ ip, (if (k : Int) = 0 then [48] else (intDigitsRev 10 (k : Int)).reverse) = ip ∧
      AllDigits ip ∧ Canonical ip ∧ ip.length ≤ 10 ∧ valL ip = k := by
  obtain ⟨h1, h2, h3, h4⟩ := digitsText_spec 10 k (by decide) (by omega)
  refine ⟨_, ?_, h1, h3, h4, h2⟩
  rw [intDigitsRev_nat]
  by_cases h0 : k = 0 <;> simp [h0]

/-! ### the fraction loop, for an arithmetic whose rounds are sound up to an error

  The digit loop is analysed once.  `val` reads an element as a rational, `ok` is the invariant the
  elements keep (nothing for exact arithmetic, "finite" for IEEE arithmetic), `u` the unit of error:
  exact rationals satisfy `DigitStep` with `u = 0`, an IEEE format with its unit roundoff. -/

/-- one round `f *= 10.0; c = (char)f; f -= c` on an element with value in [0, 1): the digit is 0..9,
    the remainder is again in [0, 1), and digit + remainder is `10 f` up to `10 u` -/
def DigitStep {F : Type} [FloatLike F] (val : F → Rat) (ok : F → Prop) (u : Rat) : Prop :=
  ∀ g : F, ok g → 0 ≤ val g → val g < 1 →
    ∃ c : Nat, c ≤ 9 ∧ trunc (mul10 g) = some (c : Int) ∧
      ok (sub (mul10 g) (ofInt (c : Int))) ∧
      0 ≤ val (sub (mul10 g) (ofInt (c : Int))) ∧ val (sub (mul10 g) (ofInt (c : Int))) < 1 ∧
      (c : Rat) + val (sub (mul10 g) (ofInt (c : Int))) - val g * 10 ≤ 10 * u ∧
      val g * 10 - ((c : Rat) + val (sub (mul10 g) (ofInt (c : Int)))) ≤ 10 * u

/-- accumulated error of `p` rounds of the digit loop, in units of the last digit:
    `u * (10 + 100 + ... + 10^p)` -/
def fracErr (u : Rat) (p : Nat) : Rat := 10 / 9 * u * ((10 : Rat) ^ p - 1)

theorem fracErr_succ (u : Rat) (p : Nat) : fracErr u (p + 1) = fracErr u p + (10 : Rat) ^ (p + 1) * u := by
  unfold fracErr; rw [Rat.pow_succ]; grind

theorem natCast_digits (c p v : Nat) :
    ((c * 10 ^ p + v : Nat) : Rat) = (c : Rat) * (10 : Rat) ^ p + (v : Rat) := by
  simp [Rat.natCast_add, Rat.natCast_mul, Rat.natCast_pow]

theorem fracLoop_steps {F : Type} [FloatLike F] {val : F → Rat} {ok : F → Prop} {u : Rat}
    (hstep : DigitStep val ok u) (p : Nat) (g : F) (hg : ok g) (h0 : 0 ≤ val g) (h1 : val g < 1) :
    ∃ ds, fracLoop p g = some ds ∧ ds.length = p ∧ AllDigits ds ∧
      ((valL ds : Nat) : Rat) ≤ val g * (10 : Rat) ^ p + fracErr u p ∧
      val g * (10 : Rat) ^ p - fracErr u p < ((valL ds : Nat) : Rat) + 1 := by
  induction p generalizing g with
  | zero =>
    refine ⟨[], rfl, rfl, allDigits_nil, ?_, ?_⟩ <;> simp [valL, fracErr] <;> grind
  | succ p ih =>
    obtain ⟨c, hc9, htr, hfs, hs0, hs1, he1, he2⟩ := hstep g hg h0 h1
    obtain ⟨ds, hds, hlen, hall, hlo, hhi⟩ := ih _ hfs hs0 hs1
    have hpp := pow10_pos p
    have h3 := Rat.mul_le_mul_of_nonneg_right he1 (Rat.le_of_lt hpp)
    have h4 := Rat.mul_le_mul_of_nonneg_right he2 (Rat.le_of_lt hpp)
    have hv : ((valL ((48 + c) :: ds) : Nat) : Rat) = (c : Rat) * (10 : Rat) ^ p + ((valL ds : Nat) : Rat) := by
      rw [valL_cons, hlen, Nat.add_sub_cancel_left, natCast_digits]
    refine ⟨(48 + c) :: ds, ?_, by simp [hlen], allDigits_cons.mpr ⟨by omega, hall⟩, ?_, ?_⟩
    · have : ¬ ((c : Int) < -128 ∨ 127 < (c : Int)) := by omega
      simp only [fracLoop, htr, this, if_false, hds, Option.map_some, charOfInt_digit c hc9]
    · rw [hv, fracErr_succ, Rat.pow_succ]; clear ih; grind
    · rw [hv, fracErr_succ, Rat.pow_succ]; clear ih; grind

theorem digitStep_Q : DigitStep (F := Rat) id (fun _ => True) 0 := by
  intro f _ h0 h1
  have hf10 : 0 ≤ f * 10 := by grind
  obtain ⟨c, hc, hfl, hfu⟩ := floor_nat hf10
  have hc9 : c < 10 := by
    apply Rat.natCast_lt_natCast.mp
    grind
  refine ⟨c, by omega, by rw [q_mul10, q_trunc, truncQ_nonneg hf10, hc], trivial, ?_⟩
  simp only [q_mul10, q_sub, q_ofInt, Rat.intCast_natCast, id]
  refine ⟨?_, ?_, ?_, ?_⟩ <;> grind

/-! ### shape facts that hold for every arithmetic -/

theorem fracLoop_length {F : Type} [FloatLike F] (p : Nat) (f : F) (ds : List Nat)
    (h : fracLoop p f = some ds) : ds.length = p := by
  induction p generalizing f ds with
  | zero => simp [fracLoop] at h; subst h; rfl
  | succ p ih =>
    simp only [fracLoop] at h
    split at h
    · cases h
    · split at h
      · cases h
      · obtain ⟨r, hr, rfl⟩ := Option.map_eq_some_iff.mp h
        simp [ih _ _ hr]

theorem intDigitsRev_length_le (fuel : Nat) (n : Int) : (intDigitsRev fuel n).length ≤ fuel := by
  induction fuel generalizing n with
  | zero => simp [intDigitsRev]
  | succ fuel ih =>
    simp only [intDigitsRev]
    split
    · simp
    · simp; exact ih _

theorem intDigitsRev_ne_nil (fuel : Nat) (n : Int) (h : n ≠ 0) : intDigitsRev (fuel + 1) n ≠ [] := by
  simp [intDigitsRev, h]

theorem ite_le {c : Prop} [Decidable c] {a b n : Nat} (ha : a ≤ n) (hb : b ≤ n) : (if c then a else b) ≤ n := by
  split <;> assumption

theorem autoPrec_le {F : Type} [FloatLike F] (f : F) : autoPrec f ≤ 6 :=
  ite_le (Nat.le_refl 6) <| ite_le (by decide) <| ite_le (by decide) <| ite_le (by decide) <|
    ite_le (by decide) <| ite_le (by decide) (by decide)

/-- the automatic-precision table in terms of a reading `v` of the argument, for any arithmetic in which
    the six comparisons `f < 1.0`, ..., `f < 100000.0` are comparisons of `v` -/
theorem autoPrec_table {F : Type} [FloatLike F] (y : F) (v : Rat)
    (h1 : lt y (ofInt 1) = true ↔ v < 1) (h2 : lt y (ofInt 10) = true ↔ v < 10)
    (h3 : lt y (ofInt 100) = true ↔ v < 100) (h4 : lt y (ofInt 1000) = true ↔ v < 1000)
    (h5 : lt y (ofInt 10000) = true ↔ v < 10000) (h6 : lt y (ofInt 100000) = true ↔ v < 100000) :
    (v < 1 ∧ autoPrec y = 6) ∨ (1 ≤ v ∧ v < 10 ∧ autoPrec y = 5) ∨
    (10 ≤ v ∧ v < 100 ∧ autoPrec y = 4) ∨ (100 ≤ v ∧ v < 1000 ∧ autoPrec y = 3) ∨
    (1000 ≤ v ∧ v < 10000 ∧ autoPrec y = 2) ∨ (10000 ≤ v ∧ v < 100000 ∧ autoPrec y = 1) ∨
    (100000 ≤ v ∧ autoPrec y = 0) := by
  unfold autoPrec
  by_cases a1 : v < 1
  · rw [if_pos (h1.mpr a1)]; exact Or.inl ⟨a1, rfl⟩
  rw [if_neg (mt h1.mp a1)]
  by_cases a2 : v < 10
  · rw [if_pos (h2.mpr a2)]; exact Or.inr (Or.inl ⟨Rat.not_lt.mp a1, a2, rfl⟩)
  rw [if_neg (mt h2.mp a2)]
  by_cases a3 : v < 100
  · rw [if_pos (h3.mpr a3)]; exact Or.inr (Or.inr (Or.inl ⟨Rat.not_lt.mp a2, a3, rfl⟩))
  rw [if_neg (mt h3.mp a3)]
  by_cases a4 : v < 1000
  · rw [if_pos (h4.mpr a4)]; exact Or.inr (Or.inr (Or.inr (Or.inl ⟨Rat.not_lt.mp a3, a4, rfl⟩)))
  rw [if_neg (mt h4.mp a4)]
  by_cases a5 : v < 10000
  · rw [if_pos (h5.mpr a5)]; exact Or.inr (Or.inr (Or.inr (Or.inr (Or.inl ⟨Rat.not_lt.mp a4, a5, rfl⟩))))
  rw [if_neg (mt h5.mp a5)]
  by_cases a6 : v < 100000
  · rw [if_pos (h6.mpr a6)]
    exact Or.inr (Or.inr (Or.inr (Or.inr (Or.inr (Or.inl ⟨Rat.not_lt.mp a5, a6, rfl⟩)))))
  rw [if_neg (mt h6.mp a6)]
  exact Or.inr (Or.inr (Or.inr (Or.inr (Or.inr (Or.inr ⟨Rat.not_lt.mp a6, rfl⟩)))))

theorem effPrec_le {F : Type} [FloatLike F] (f : F) (prec : Int) : effPrec f prec ≤ 10 := by
  unfold effPrec MAX_PRECISION
  have := autoPrec_le f
  simp only
  split <;> split <;> omega

theorem effPrec_auto {F : Type} [FloatLike F] (f : F) (prec : Int) (h : prec < 0) : effPrec f prec = autoPrec f := by
  unfold effPrec MAX_PRECISION
  have h1 : ¬ (prec > ((10 : Nat) : Int)) := by omega
  simp only [h1, if_false, h, if_true]

theorem effPrec_of_ge {F : Type} [FloatLike F] (f : F) (prec : Int) (h : 10 ≤ prec) : effPrec f prec = 10 := by
  unfold effPrec MAX_PRECISION
  simp only
  split <;> split <;> omega

/-! ### the renderer from the integer cast on, in any arithmetic -/

/-- `igris_f32toa` from the cast `(int32_t)f` on; `f1` is the argument after `if (f < 0) f = -f` and
    `f += rounders[p]` -/
def f32toaFrom {G : Type} [FloatLike G] (f1 : G) (p : Nat) (sign : List Nat) : Option (List Nat) :=
  match trunc f1 with
  | none => none
  | some ip =>
    if ip < -2147483648 ∨ 2147483647 < ip then none
    else
      if p ≠ 0 then
        (fracLoop p (sub f1 (ofInt ip))).map
          (fun fr => sign ++ (if ip = 0 then [48] else (intDigitsRev 10 ip).reverse) ++ 46 :: fr)
      else some (sign ++ (if ip = 0 then [48] else (intDigitsRev 10 ip).reverse))

/-- the argument after `if (f < 0) f = -f` -/
abbrev absArg {G : Type} [FloatLike G] (x : G) : G := if lt x (ofInt 0) then FloatLike.neg x else x

theorem f32toa_eq_from {G : Type} [FloatLike G] (x : G) (prec : Int)
    (hinf : isInf x = false) (hnan : isNaN x = false) :
    f32toa x prec =
      f32toaFrom
        (if effPrec (absArg x) prec ≠ 0 then add (absArg x) (rounder (effPrec (absArg x) prec)) else absArg x)
        (effPrec (absArg x) prec)
        (if lt x (ofInt 0) then [45] else []) := by
  simp only [f32toa, f32toaFrom, hinf, hnan, Bool.false_eq_true, if_false]
  rfl

theorem f32toaFrom_shape {G : Type} [FloatLike G] (f1 : G) (p : Nat) (sign t : List Nat)
    (h : f32toaFrom f1 p sign = some t) :
    ∃ ip fr : List Nat, t = sign ++ ip ++ (if p ≠ 0 then 46 :: fr else []) ∧ fr.length = p ∧
      1 ≤ ip.length ∧ ip.length ≤ 10 := by
  unfold f32toaFrom at h
  split at h
  · cases h
  · rename_i ip _
    have hlen : 1 ≤ (if ip = 0 then [48] else (intDigitsRev 10 ip).reverse).length ∧
        (if ip = 0 then [48] else (intDigitsRev 10 ip).reverse).length ≤ 10 := by
      split
      · simp
      · rename_i hne
        have h1 := intDigitsRev_length_le 10 ip
        have h2 : 0 < (intDigitsRev 10 ip).length := List.length_pos_iff.mpr (intDigitsRev_ne_nil 9 ip hne)
        rw [List.length_reverse]; omega
    split at h
    · cases h
    · by_cases hp0 : p = 0
      · simp only [hp0, ne_eq, not_true_eq_false, if_false] at h ⊢
        exact ⟨_, [], by rw [List.append_nil]; exact (Option.some.inj h).symm, rfl, hlen⟩
      · simp only [hp0, ne_eq, not_false_eq_true, if_true] at h ⊢
        obtain ⟨fr, hfr, rfl⟩ := Option.map_eq_some_iff.mp h
        exact ⟨_, fr, rfl, fracLoop_length _ _ _ hfr, hlen⟩

theorem f32toaFrom_steps {F : Type} [FloatLike F] {val : F → Rat} {ok : F → Prop} {u : Rat}
    (hstep : DigitStep val ok u) (f1 : F) (p : Nat) (sign : List Nat) (k : Nat) (hk : k < 2147483648)
    (htr : trunc f1 = some (k : Int)) (hg : ok (sub f1 (ofInt (k : Int))))
    (hv : val (sub f1 (ofInt (k : Int))) = val f1 - (k : Rat))
    (h0 : (k : Rat) ≤ val f1) (h1 : val f1 < (k : Rat) + 1) :
    ∃ ip fr : List Nat,
      f32toaFrom f1 p sign = some (sign ++ ip ++ (if p ≠ 0 then 46 :: fr else [])) ∧
      AllDigits ip ∧ Canonical ip ∧ ip.length ≤ 10 ∧ AllDigits fr ∧ fr.length = p ∧
      ((valL (ip ++ fr) : Nat) : Rat) ≤ val f1 * (10 : Rat) ^ p + fracErr u p ∧
      val f1 * (10 : Rat) ^ p - fracErr u p < ((valL (ip ++ fr) : Nat) : Rat) + 1 := by
  obtain ⟨ip, hip, hipd, hipc, hipl, hipv⟩ := intText_spec k hk
  obtain ⟨fr, hfr, hfrl, hfrd, hlo, hhi⟩ := fracLoop_steps hstep p _ hg (by rw [hv]; grind) (by rw [hv]; grind)
  have hrange : ¬ ((k : Int) < -2147483648 ∨ 2147483647 < (k : Int)) := by omega
  refine ⟨ip, fr, ?_, hipd, hipc, hipl, hfrd, hfrl, ?_, ?_⟩
  · by_cases hp0 : p = 0
    · simp only [f32toaFrom, htr, hrange, if_false, hip, hp0]; simp
    · simp only [f32toaFrom, htr, hrange, if_false, hip, hp0, ne_eq, not_false_eq_true, if_true, hfr, Option.map_some]
  all_goals
    rw [valL_append, hipv, hfrl, natCast_digits]
    rw [hv] at hlo hhi
    grind

/-! ### exact arithmetic -/

theorem absQ_nonneg (x : Rat) : 0 ≤ absQ x := by unfold absQ; split <;> grind
theorem absQ_of_nonneg {x : Rat} (h : 0 ≤ x) : absQ x = x := by unfold absQ; split <;> grind
theorem absQ_neg (x : Rat) : absQ (-x) = absQ x := by unfold absQ; split <;> split <;> grind
theorem absQ_eq_zero {x : Rat} (h : absQ x = 0) : x = 0 := by
  unfold absQ at h; split at h <;> grind

theorem rnd_nonneg (p : Nat) : 0 ≤ rnd p := by
  unfold rnd; split
  · have h := pow10_pos p
    have h2 : (0 : Rat) < 2 * (10 : Rat) ^ p := by grind
    have : (1 / (2 * (10 : Rat) ^ p)) * (2 * (10 : Rat) ^ p) = 1 := by grind
    apply Rat.not_lt.mp
    intro hneg
    have := Rat.mul_lt_mul_of_pos_right hneg h2
    grind
  · exact Rat.le_refl

theorem rnd_scaled (p : Nat) (hp : p ≠ 0) : rnd p * (10 : Rat) ^ p = 1 / 2 := by
  unfold rnd; rw [if_pos hp]; exact half_unit p

/-- `if (f < 0) f = -f` and the '-' written for it, over exact arithmetic -/
theorem q_abs_arg (x : Rat) :
    absArg x = absQ x ∧
    (if lt x (ofInt 0) then [45] else ([] : List Nat)) = if x < 0 then [45] else [] := by
  have hz : ((0 : Int) : Rat) = 0 := rfl
  unfold absQ absArg
  by_cases h : x < 0 <;> simp [h, hz]

end Igris.C12
