import IgrisModel.C12.SoftCore
import IgrisModel.C12.IeeeLemmas
/-!
  C12 — the software binary32/binary64 of Model.lean IS round-to-nearest
  arithmetic, part 2: every operation but `sfDiv` is the exact operation followed by
  `roundPack`; the instances `IEEE F32`, `IEEE F64`; the double -> float cast.
-/
namespace Igris.C12
open FloatLike

def encVal (f : Fmt) (b : Nat) : Rat := (decode f b).toQ

def sgnQ (s : Bool) (v : Rat) : Rat := if s then -v else v

theorem encVal_of_decode {f : Fmt} {b : Nat} {s : Bool} {m : Nat} {e : Int} (h : decode f b = .fin s m e) :
    encVal f b = sgnQ s ((m : Rat) * pow2 e) := by
  simp [encVal, h, Dec.toQ, sgnQ]

private theorem decode_fin_val (f : Fmt) (hf : f.WF) (a : Nat) (h : FinEnc f a) :
    ∃ m e, decode f a = .fin (decide (f.signBit ≤ a)) m e ∧ m < 2 ^ (f.mbits + 1) ∧ f.bin.emin ≤ e ∧
      encVal f a = sgnQ (decide (f.signBit ≤ a)) ((m : Rat) * pow2 e) := by
  obtain ⟨m, e, hd, hm, he⟩ := decode_fin f hf a h
  exact ⟨m, e, hd, hm, he, encVal_of_decode hd⟩

theorem finEnc_not_special (f : Fmt) (hf : f.WF) (a : Nat) (h : FinEnc f a) :
    sfIsNaN f a = false ∧ sfIsInf f a = false := by
  obtain ⟨m, e, hd, -⟩ := decode_fin f hf a h
  simp [sfIsNaN, sfIsInf, hd]

theorem finEnc_rep (f : Fmt) (hf : f.WF) (a : Nat) (h : FinEnc f a) :
    (0 ≤ encVal f a → Rep f.bin (encVal f a)) ∧ (encVal f a ≤ 0 → Rep f.bin (-(encVal f a))) := by
  obtain ⟨m, e, hd, hm, he, hv⟩ := decode_fin_val f hf a h
  have h0 := natCast_mul_pow2_nonneg m e
  have hr : Rep f.bin ((m : Rat) * pow2 e) := ⟨m, e, hm, he, rfl⟩
  have hz : (m : Rat) * pow2 e ≤ 0 → Rep f.bin (-((m : Rat) * pow2 e)) := fun h1 => by
    rw [show (m : Rat) * pow2 e = 0 by grind]; exact rep_zero _
  rw [hv]
  cases decide (f.signBit ≤ a) <;> simp only [sgnQ, if_true, if_false, Bool.false_eq_true]
  · exact ⟨fun _ => hr, hz⟩
  · exact ⟨fun h1 => hz (by grind), fun _ => by rw [Rat.neg_neg]; exact hr⟩

private theorem rn_zero (B : BinFmt) : RN B 0 0 := by
  refine ⟨rep_zero B, fun w hw => ?_, Or.inl ?_⟩
  · have := rep_nonneg hw; grind
  · grind

private theorem rns_zero (B : BinFmt) : RNs B 0 0 :=
  ⟨fun _ => rn_zero _, fun _ => by simpa using rn_zero B⟩

private theorem withSign_zero_val (f : Fmt) (hf : f.WF) (s : Bool) :
    FinEnc f (withSign f s 0) ∧ encVal f (withSign f s 0) = 0 := by
  obtain ⟨-, h2, h3⟩ := roundPack_zero f hf s 0 false
  exact ⟨h2, by simp [encVal, h3, Dec.toQ]⟩

private theorem inRange_mag (f : Fmt) (s : Bool) (x : Rat) (h : InRange f.bin (sgnQ s x)) :
    x < pow2 f.bias := by
  have hb : f.bin.big = pow2 f.bias := rfl
  unfold InRange at h; rw [hb] at h
  cases s <;> simp only [sgnQ, if_true, if_false, Bool.false_eq_true] at h <;> grind

theorem roundPack_op (f : Fmt) (hf : f.WF) (s : Bool) (m : Nat) (e : Int) (v : Rat)
    (hv : v = sgnQ s ((m : Rat) * pow2 e)) (hr : InRange f.bin v) :
    FinEnc f (roundPack f s m e) ∧ RNs f.bin v (encVal f (roundPack f s m e)) := by
  subst hv
  rcases Nat.eq_zero_or_pos m with rfl | hm
  · obtain ⟨z1, z2⟩ := withSign_zero_val f hf s
    have : sgnQ s (((0 : Nat) : Rat) * pow2 e) = 0 := by cases s <;> simp [sgnQ]
    rw [(roundPack_zero f hf s e false).1, z2, this]
    exact ⟨z1, rns_zero _⟩
  · obtain ⟨h1, M, e', hd, hM, he', hrn⟩ := roundPack_rn f hf s m e hm (inRange_mag f s _ hr)
    refine ⟨h1, ?_⟩
    have hpos : 0 < (m : Rat) * pow2 e :=
      Rat.mul_pos (by exact_mod_cast hm) (pow2_pos e)
    rw [encVal_of_decode hd]
    cases s <;> simp only [sgnQ, if_true, if_false, Bool.false_eq_true]
    · exact ⟨fun _ => hrn, fun h => by grind⟩
    · refine ⟨fun h => by grind, fun _ => ?_⟩
      rw [Rat.neg_neg, Rat.neg_neg]; exact hrn

theorem sfNeg_withSign (f : Fmt) (s : Bool) (x : Nat) (hx : x < f.signBit) :
    sfNeg f (withSign f s x) = withSign f (!s) x := by
  unfold sfNeg withSign
  cases s
  · simp only [Bool.false_eq_true, if_false, Bool.not_false, if_true]; rw [if_neg (by omega)]
  · simp only [if_true, Bool.not_true, Bool.false_eq_true, if_false]; rw [if_pos (by omega)]; omega

theorem sfNeg_spec (f : Fmt) (hf : f.WF) (a : Nat) (h : FinEnc f a) :
    FinEnc f (sfNeg f a) ∧ encVal f (sfNeg f a) = -(encVal f a) := by
  obtain ⟨s, ex, r, rfl, hex, hr⟩ := finEnc_pack f a h
  rw [sfNeg_withSign f s _ (pack_lt_signBit f hf ex r hex hr)]
  obtain ⟨d1, d2⟩ := decode_pack f hf (!s) ex r hex hr
  refine ⟨d1, ?_⟩
  unfold encVal
  rw [d2, (decode_pack f hf s ex r hex hr).2]
  split <;> cases s <;> simp [Dec.toQ]

private theorem int_sgn (n : Int) : (n : Rat) = sgnQ (decide (n < 0)) (n.natAbs : Rat) := by
  by_cases h : n < 0
  · simp only [h, decide_true, sgnQ, if_true]
    have : (n : Rat) = -((n.natAbs : Int) : Rat) := by
      rw [← Rat.intCast_neg]; congr 1; omega
    rw [this, Rat.intCast_natCast]
  · simp only [h, decide_false, sgnQ, if_false, Bool.false_eq_true]
    have : (n : Rat) = ((n.natAbs : Int) : Rat) := by congr 1; omega
    rw [this, Rat.intCast_natCast]

private theorem shl_val (m : Nat) (e lo : Int) (h : lo ≤ e) :
    ((m <<< (e - lo).toNat : Nat) : Rat) * pow2 lo = (m : Rat) * pow2 e := by
  rw [Nat.shiftLeft_eq, Rat.natCast_mul, ← pow2_nat, Rat.mul_assoc, ← pow2_add]
  congr 2; omega

/-- `if s then -x else x` of `sfAdd` and `sfLt` -/
private def alignI (s : Bool) (m : Nat) (e lo : Int) : Int :=
  if s then -((m <<< (e - lo).toNat : Nat) : Int) else ((m <<< (e - lo).toNat : Nat) : Int)

private theorem alignI_val (s : Bool) (m : Nat) (e lo : Int) (h : lo ≤ e) :
    ((alignI s m e lo : Int) : Rat) * pow2 lo = sgnQ s ((m : Rat) * pow2 e) := by
  have := shl_val m e lo h
  cases s <;> simp only [alignI, sgnQ, if_true, if_false, Bool.false_eq_true]
  · rw [Rat.intCast_natCast]; exact this
  · rw [Rat.intCast_neg, Rat.intCast_natCast, Rat.neg_mul, this]

private theorem sfAdd_fin (f : Fmt) (a b : Nat) (s t : Bool) (m n : Nat) (e k : Int)
    (h1 : decode f a = .fin s m e) (h2 : decode f b = .fin t n k) :
    sfAdd f a b =
      if alignI s m e (min e k) + alignI t n k (min e k) = 0 then withSign f (s && t) 0
      else roundPack f (decide (alignI s m e (min e k) + alignI t n k (min e k) < 0))
        (alignI s m e (min e k) + alignI t n k (min e k)).natAbs (min e k) := by
  simp only [sfAdd, h1, h2, alignI, beq_iff_eq]
  rfl

private theorem sfLt_fin (f : Fmt) (a b : Nat) (s t : Bool) (m n : Nat) (e k : Int)
    (h1 : decode f a = .fin s m e) (h2 : decode f b = .fin t n k) :
    sfLt f a b = decide (alignI s m e (min e k) < alignI t n k (min e k)) := by
  simp only [sfLt, h1, h2, alignI]
  rfl

/-- two finite operands as integers `x`, `y` over a common power of two: `sfAdd` rounds `x + y`, `sfLt` compares them -/
private theorem aligned (f : Fmt) (hf : f.WF) (a b : Nat) (ha : FinEnc f a) (hb : FinEnc f b) :
    ∃ (x y lo : Int) (s t : Bool), (x : Rat) * pow2 lo = encVal f a ∧ (y : Rat) * pow2 lo = encVal f b ∧
      sfAdd f a b = (if x + y = 0 then withSign f (s && t) 0
        else roundPack f (decide (x + y < 0)) (x + y).natAbs lo) ∧
      sfLt f a b = decide (x < y) := by
  obtain ⟨m, e, hda, -, -, hva⟩ := decode_fin_val f hf a ha
  obtain ⟨n, k, hdb, -, -, hvb⟩ := decode_fin_val f hf b hb
  exact ⟨_, _, min e k, _, _, (alignI_val _ m e _ (by omega)).trans hva.symm,
    (alignI_val _ n k _ (by omega)).trans hvb.symm, sfAdd_fin f a b _ _ m n e k hda hdb,
    sfLt_fin f a b _ _ m n e k hda hdb⟩

theorem sfAdd_rn (f : Fmt) (hf : f.WF) (a b : Nat) (ha : FinEnc f a) (hb : FinEnc f b)
    (hr : InRange f.bin (encVal f a + encVal f b)) :
    FinEnc f (sfAdd f a b) ∧ RNs f.bin (encVal f a + encVal f b) (encVal f (sfAdd f a b)) := by
  obtain ⟨x, y, lo, s, t, hx, hy, hadd, -⟩ := aligned f hf a b ha hb
  rw [hadd]
  have hsum : encVal f a + encVal f b = ((x + y : Int) : Rat) * pow2 lo := by
    rw [← hx, ← hy, Rat.intCast_add]; grind
  by_cases h0 : x + y = 0
  · simp only [h0, if_true]
    have hz := withSign_zero_val f hf (s && t)
    refine ⟨hz.1, ?_⟩
    rw [hz.2, hsum, h0]
    simpa using rns_zero f.bin
  · simp only [h0, if_false]
    apply roundPack_op f hf _ _ _ _ _ hr
    rw [hsum, int_sgn (x + y)]
    cases decide (x + y < 0) <;> simp [sgnQ, Rat.neg_mul]

theorem sfSub_rn (f : Fmt) (hf : f.WF) (a b : Nat) (ha : FinEnc f a) (hb : FinEnc f b)
    (hr : InRange f.bin (encVal f a - encVal f b)) :
    FinEnc f (sfSub f a b) ∧ RNs f.bin (encVal f a - encVal f b) (encVal f (sfSub f a b)) := by
  obtain ⟨n, k, hdb, -⟩ := decode_fin_val f hf b hb
  have hs : sfSub f a b = sfAdd f a (sfNeg f b) := by simp only [sfSub, hdb]
  obtain ⟨hn1, hn2⟩ := sfNeg_spec f hf b hb
  have he : encVal f a - encVal f b = encVal f a + encVal f (sfNeg f b) := by rw [hn2]; grind
  rw [hs, he]
  rw [he] at hr
  exact sfAdd_rn f hf a _ ha hn1 hr

private theorem sgnQ_mul (s t : Bool) (x y : Rat) : sgnQ s x * sgnQ t y = sgnQ (s != t) (x * y) := by
  cases s <;> cases t <;> simp [sgnQ] <;> grind

theorem sfMul_rn (f : Fmt) (hf : f.WF) (a b : Nat) (ha : FinEnc f a) (hb : FinEnc f b)
    (hr : InRange f.bin (encVal f a * encVal f b)) :
    FinEnc f (sfMul f a b) ∧ RNs f.bin (encVal f a * encVal f b) (encVal f (sfMul f a b)) := by
  obtain ⟨m, e, hda, -, -, hva⟩ := decode_fin_val f hf a ha
  obtain ⟨n, k, hdb, -, -, hvb⟩ := decode_fin_val f hf b hb
  have : sfMul f a b = roundPack f (decide (f.signBit ≤ a) != decide (f.signBit ≤ b)) (m * n) (e + k) := by
    simp only [sfMul, hda, hdb]
  rw [this]
  apply roundPack_op f hf _ _ _ _ _ hr
  rw [hva, hvb, sgnQ_mul, pow2_add]; congr 1
  push_cast; grind

theorem sfOfInt_rn (f : Fmt) (hf : f.WF) (n : Int) (hr : InRange f.bin (n : Rat)) :
    FinEnc f (sfOfInt f n) ∧ RNs f.bin (n : Rat) (encVal f (sfOfInt f n)) := by
  unfold sfOfInt
  apply roundPack_op f hf _ _ _ _ _ hr
  rw [pow2_zero, Rat.mul_one]
  exact int_sgn n

private theorem floor_mant (m : Nat) (e : Int) :
    ((m : Rat) * pow2 e).floor = ((if 0 ≤ e then m <<< e.toNat else m >>> (-e).toNat : Nat) : Int) := by
  by_cases he : 0 ≤ e
  · rw [if_pos he, Nat.shiftLeft_eq, mul_pow2_nonneg m e he, ← Rat.intCast_natCast, Rat.floor_intCast]
  · rw [if_neg he, Nat.shiftRight_eq_div_pow, floor_mul_pow2_neg m e (by omega)]

theorem sfTrunc_spec (f : Fmt) (hf : f.WF) (a : Nat) (h : FinEnc f a) :
    sfTrunc f a = some (truncQ (encVal f a)) := by
  obtain ⟨m, e, hd, -, -, hv⟩ := decode_fin_val f hf a h
  have h0 := natCast_mul_pow2_nonneg m e
  have hfl := floor_mant m e
  simp only [sfTrunc, hd]
  rw [hv]
  congr 1
  cases decide (f.signBit ≤ a) <;> simp only [sgnQ, if_true, if_false, Bool.false_eq_true]
  · simp only [truncQ, h0, if_true, hfl]
  · unfold truncQ
    by_cases hz : 0 ≤ -((m : Rat) * pow2 e)
    · have : (m : Rat) * pow2 e = 0 := by grind
      rw [this] at hfl ⊢
      simp only [Rat.neg_zero, Rat.le_refl, if_true]
      rw [← hfl]; decide
    · simp only [hz, if_false, Rat.neg_neg, hfl]

theorem sfLt_val (f : Fmt) (hf : f.WF) (a b : Nat) (ha : FinEnc f a) (hb : FinEnc f b) :
    sfLt f a b = true ↔ encVal f a < encVal f b := by
  obtain ⟨x, y, lo, -, -, hx, hy, -, hlt⟩ := aligned f hf a b ha hb
  rw [hlt, ← hx, ← hy]
  have hp := pow2_pos lo
  simp only [decide_eq_true_eq]
  constructor
  · intro h
    have : (x : Rat) < (y : Rat) := by exact_mod_cast h
    exact Rat.mul_lt_mul_of_pos_right this hp
  · intro h
    have := Rat.lt_of_mul_lt_mul_right h (Rat.le_of_lt hp)
    exact_mod_cast this

theorem sfLt_zero (f : Fmt) (hf : f.WF) (a : Nat) (h : FinEnc f a) :
    sfLt f a (sfOfInt f 0) = true ↔ encVal f a < 0 := by
  have e : sfOfInt f 0 = withSign f false 0 := (roundPack_zero f hf false 0 false).1
  obtain ⟨z1, z2⟩ := withSign_zero_val f hf false
  rw [e, sfLt_val f hf a _ h z1, z2]

/-- conversion between formats (`(float)d`, `(double)f`) is one rounding -/
theorem sfCvt_rn (src dst : Fmt) (hs : src.WF) (hd : dst.WF) (a : Nat) (ha : FinEnc src a)
    (hr : InRange dst.bin (encVal src a)) :
    FinEnc dst (sfCvt src dst a) ∧ RNs dst.bin (encVal src a) (encVal dst (sfCvt src dst a)) := by
  obtain ⟨m, e, hda, -, -, hva⟩ := decode_fin_val src hs a ha
  have : sfCvt src dst a = roundPack dst (decide (src.signBit ≤ a)) m e := by
    simp only [sfCvt, hda]
  rw [this]
  exact roundPack_op dst hd _ _ _ _ hva hr

/-! ### adding +0 changes nothing -/

theorem rndM_mul_pow (m k : Nat) (e : Int) : rndM (m * 2 ^ k) e (e + k) = m := by
  cases k with
  | zero => rw [rndM_exact _ _ _ (by omega)]; simp
  | succ k =>
    have hsh : (e + ((k + 1 : Nat) : Int) - e).toNat = k + 1 := by omega
    have hpos : 0 < 2 ^ (k + 1) := Nat.two_pow_pos _
    unfold rndM
    rw [if_neg (by omega)]
    simp only [hsh, Nat.shiftRight_eq_div_pow, Nat.mul_div_cancel _ hpos, Nat.mul_mod_left, Nat.add_sub_cancel]
    have : 0 < 2 ^ k := Nat.two_pow_pos _
    have h2 : (0 == 2 ^ k) = false := by simp; omega
    simp [h2]

/-- `roundPack` re-encodes what `decode` returns for the fields `ex` (not all ones) and `r`, aligned to
    the smallest exponent as `sfAdd` does: the binade is found again (`log2`) and nothing is rounded -/
theorem roundPack_fields (f : Fmt) (s : Bool) (ex r : Nat) (hex : ex < f.expMax) (hr : r < 2 ^ f.mbits)
    (h0 : ex * 2 ^ f.mbits + r ≠ 0) :
    roundPack f s ((if ex = 0 then r else r + 2 ^ f.mbits) * 2 ^ (ex - 1)) (1 - (f.bias : Int) - f.mbits)
      = withSign f s (ex * 2 ^ f.mbits + r) := by
  have hinf : ex * 2 ^ f.mbits + r < f.infBits := pack_lt _ _ _ _ hr hex
  by_cases hz : ex = 0
  · subst hz
    have hr0 : r ≠ 0 := by simpa using h0
    have hl : Nat.log2 r < f.mbits := (Nat.log2_lt hr0).2 hr
    rw [if_pos rfl, Nat.pow_zero, Nat.mul_one, roundPack_eq f s r _ hr0]
    have hb : max ((1 - (f.bias : Int) - f.mbits) + (Nat.log2 r : Int) + f.bias - 1) 0 = 0 := by omega
    rw [hb]
    have hq : (0 : Int) + 1 - f.bias - f.mbits = (1 - (f.bias : Int) - f.mbits) + ((0 : Nat) : Int) := by omega
    have := rndM_mul_pow r 0 (1 - (f.bias : Int) - f.mbits)
    rw [Nat.pow_zero, Nat.mul_one] at this
    rw [hq, this]
    simp only [Int.toNat_zero, Nat.zero_mul, Nat.zero_add] at hinf ⊢
    rw [if_neg (by omega)]
  · rw [if_neg hz]
    have h2 : 0 < 2 ^ (ex - 1) := Nat.two_pow_pos _
    have hm0 : (r + 2 ^ f.mbits) * 2 ^ (ex - 1) ≠ 0 := Nat.mul_ne_zero (by omega) (by omega)
    have hl : Nat.log2 ((r + 2 ^ f.mbits) * 2 ^ (ex - 1)) = f.mbits + (ex - 1) := by
      rw [Nat.log2_eq_iff hm0, Nat.pow_add, Nat.pow_succ, Nat.pow_add]
      constructor
      · exact Nat.mul_le_mul_right _ (by omega)
      · rw [Nat.mul_right_comm]; exact Nat.mul_lt_mul_of_pos_right (by omega) h2
    rw [roundPack_eq f s _ _ hm0, hl]
    have hb : max ((1 - (f.bias : Int) - f.mbits) + ((f.mbits + (ex - 1) : Nat) : Int) + f.bias - 1) 0
        = ((ex - 1 : Nat) : Int) := by omega
    have hq : ((ex - 1 : Nat) : Int) + 1 - f.bias - f.mbits
        = (1 - (f.bias : Int) - f.mbits) + ((ex - 1 : Nat) : Int) := by omega
    rw [hb, hq, rndM_mul_pow, Int.toNat_natCast]
    have e : (ex - 1) * 2 ^ f.mbits + (r + 2 ^ f.mbits) = ex * 2 ^ f.mbits + r := by
      have : ex * 2 ^ f.mbits = (ex - 1) * 2 ^ f.mbits + 2 ^ f.mbits := by
        conv => lhs; rw [show ex = (ex - 1) + 1 by omega, Nat.add_mul, Nat.one_mul]
      omega
    rw [e, if_neg (by omega)]

theorem decode_inf (f : Fmt) (hf : f.WF) : decode f f.infBits = .inf false := by
  have hE := hf.expMax_lt
  obtain ⟨h1, h2, h3, -⟩ := fields (2 ^ f.mbits) (2 ^ f.ebits) f.expMax 0 0 (Nat.two_pow_pos _) hE
    (Nat.two_pow_pos _) (by decide)
  simp only [Nat.zero_mul, Nat.zero_add, Nat.add_zero] at h1 h2 h3
  unfold decode
  rw [f.signBit_eq]
  simp [Fmt.infBits, h1, h2, h3]

theorem sfAdd_zero (f : Fmt) (hf : f.WF) (a : Nat) (h0 : 0 < a) (h1 : a ≤ f.infBits) : sfAdd f a 0 = a := by
  have hP : 0 < 2 ^ f.mbits := Nat.two_pow_pos _
  have hd0 : decode f 0 = .fin false 0 (1 - (f.bias : Int) - f.mbits) := (roundPack_zero f hf false 0 false).2.2
  rcases Nat.lt_or_eq_of_le h1 with hlt | rfl
  · have hdm : a / 2 ^ f.mbits * 2 ^ f.mbits + a % 2 ^ f.mbits = a := by
      rw [Nat.mul_comm]; exact Nat.div_add_mod a _
    have hex : a / 2 ^ f.mbits < f.expMax := (Nat.div_lt_iff_lt_mul hP).2 hlt
    have hr := Nat.mod_lt a hP
    have hda := (decode_pack f hf false _ _ hex hr).2
    have hrp := roundPack_fields f false _ _ hex hr (by omega)
    rw [hdm] at hda hrp
    generalize a / 2 ^ f.mbits = ex at *
    generalize a % 2 ^ f.mbits = r at *
    have hw : ∀ x, withSign f false x = x := fun x => rfl
    rw [hw] at hda hrp
    obtain ⟨e, he, hk, hda'⟩ : ∃ e : Int, 1 - (f.bias : Int) - f.mbits ≤ e ∧
        (e - (1 - (f.bias : Int) - f.mbits)).toNat = ex - 1 ∧
        decode f a = .fin false (if ex = 0 then r else r + 2 ^ f.mbits) e := by
      by_cases hz : ex = 0
      · exact ⟨1 - (f.bias : Int) - f.mbits, Int.le_refl _, by omega, by rw [hda, if_pos hz, if_pos hz]⟩
      · exact ⟨(ex : Int) - f.bias - f.mbits, by omega, by omega, by rw [hda, if_neg hz, if_neg hz]⟩
    generalize (if ex = 0 then r else r + 2 ^ f.mbits) = m at *
    have hm : m * 2 ^ (ex - 1) ≠ 0 := by
      intro h; rw [h] at hrp
      have := (roundPack_zero f hf false (1 - (f.bias : Int) - f.mbits) false).1
      rw [this, hw] at hrp; omega
    rw [sfAdd_fin f a 0 _ _ _ _ _ _ hda' hd0, Int.min_eq_right he]
    simp only [alignI, Bool.false_eq_true, if_false, hk, Int.sub_self, Int.toNat_zero, Nat.shiftLeft_eq,
      Nat.zero_mul, Int.natCast_zero, Int.add_zero]
    have hne : ((m * 2 ^ (ex - 1) : Nat) : Int) ≠ 0 := by omega
    have hnn : ¬ ((m * 2 ^ (ex - 1) : Nat) : Int) < 0 := by omega
    rw [if_neg hne, decide_eq_false hnn, Int.natAbs_natCast]
    exact hrp
  · simp only [sfAdd, decode_inf f hf, hd0]

/-! ### the two instances -/

def F32.val (x : F32) : Rat := encVal b32 x.bits
def F64.val (x : F64) : Rat := encVal b64 x.bits
def F32.Fin (x : F32) : Prop := FinEnc b32 x.bits
def F64.Fin (x : F64) : Prop := FinEnc b64 x.bits

theorem b32_bin : b32.bin = binary32 := by
  simp [Fmt.bin, binary32, b32, Fmt.bias]
theorem b64_bin : b64.bin = binary64 := by
  simp [Fmt.bin, binary64, b64, Fmt.bias]

theorem rep_32_64 {v : Rat} (h : Rep binary32 v) : Rep binary64 v := by
  obtain ⟨m, e, hm, he, rfl⟩ := h
  refine ⟨m, e, ?_, ?_, rfl⟩
  · have : (2 : Nat) ^ binary32.prec ≤ 2 ^ binary64.prec := by decide
    omega
  · have : binary32.emin = -149 := rfl
    have : binary64.emin = -1074 := rfl
    omega

theorem rep_32_64_mul10 {v : Rat} (h : Rep binary32 v) : Rep binary64 (v * 10) := by
  obtain ⟨m, e, hm, he, rfl⟩ := h
  refine ⟨m * 10, e, ?_, ?_, ?_⟩
  · have : (2 : Nat) ^ binary32.prec * 10 ≤ 2 ^ binary64.prec := by decide
    omega
  · have : binary32.emin = -149 := rfl
    have : binary64.emin = -1074 := rfl
    omega
  · push_cast; grind

theorem sfOfInt64_ten : FinEnc b64 (sfOfInt b64 10) ∧ encVal b64 (sfOfInt b64 10) = 10 := by
  unfold FinEnc
  decide +kernel

private theorem inRange_64_of_32 {v : Rat} (h : InRange binary32 v) : InRange binary64 v := by
  have : binary32.big ≤ binary64.big := pow2_mono (by decide)
  unfold InRange at *
  constructor <;> grind

private theorem inRange_of_mul10 {B : BinFmt} {v : Rat} (h : InRange B (v * 10)) : InRange B v := by
  have : 0 < B.big := pow2_pos _
  unfold InRange at *
  constructor <;> grind

/-- the double product `(double)x * 10.0` of a binary32 `x` is exact -/
theorem mul10_exact (a : Nat) (h : FinEnc b32 a) (hr : InRange binary32 (encVal b32 a * 10)) :
    FinEnc b64 (sfMul b64 (sfCvt b32 b64 a) (sfOfInt b64 10)) ∧
    encVal b64 (sfMul b64 (sfCvt b32 b64 a) (sfOfInt b64 10)) = encVal b32 a * 10 := by
  obtain ⟨hp, hn⟩ := finEnc_rep b32 b32_wf a h
  rw [b32_bin] at hp hn
  have hr1 : InRange b64.bin (encVal b32 a) := by
    rw [b64_bin]; exact inRange_64_of_32 (inRange_of_mul10 hr)
  obtain ⟨w1, w2⟩ := sfCvt_rn b32 b64 b32_wf b64_wf a h hr1
  rw [b64_bin] at w2
  have hw : encVal b64 (sfCvt b32 b64 a) = encVal b32 a :=
    w2.exact (fun h => rep_32_64 (hp h)) (fun h => rep_32_64 (hn h))
  obtain ⟨t1, t2⟩ := sfOfInt64_ten
  have hr2 : InRange b64.bin (encVal b64 (sfCvt b32 b64 a) * encVal b64 (sfOfInt b64 10)) := by
    rw [b64_bin, hw, t2]; exact inRange_64_of_32 hr
  obtain ⟨p1, p2⟩ := sfMul_rn b64 b64_wf _ _ w1 t1 hr2
  refine ⟨p1, ?_⟩
  rw [b64_bin, hw, t2] at p2
  refine p2.exact (fun h => rep_32_64_mul10 (hp (by grind))) (fun h => ?_)
  have := rep_32_64_mul10 (hn (by grind))
  have e : -(encVal b32 a * 10) = -(encVal b32 a) * 10 := by grind
  rw [e]; exact this

/-- `f *= 10.0` on a binary32 (widened exactly, multiplied exactly in binary64, rounded once on the way back) -/
theorem f32_mul10_rn (x : F32) (h : x.Fin) (hr : InRange binary32 (x.val * 10)) :
    (mul10 x).Fin ∧ RNs binary32 (x.val * 10) (mul10 x).val := by
  obtain ⟨p1, p2⟩ := mul10_exact x.bits h hr
  have hr3 : InRange b32.bin (encVal b64 (sfMul b64 (sfCvt b32 b64 x.bits) (sfOfInt b64 10))) := by
    rw [p2, b32_bin]; exact hr
  have := sfCvt_rn b64 b32 b64_wf b32_wf _ p1 hr3
  rw [p2, b32_bin] at this
  exact this

theorem rounder32_ok (p : Nat) (hp : p ≤ 10) : F32.Fin (rounder p) ∧
    (1 - 2 * binary32.u) * (1 / (2 * (10 : Rat) ^ p)) ≤ F32.val (rounder p) ∧
    F32.val (rounder p) ≤ (1 + 2 * binary32.u) * (1 / (2 * (10 : Rat) ^ p)) := by
  revert p
  unfold F32.Fin F32.val FinEnc
  decide +kernel

theorem rounder64_ok (p : Nat) (hp : p ≤ 10) : F64.Fin (rounder p) ∧
    (1 - 2 * binary64.u) * (1 / (2 * (10 : Rat) ^ p)) ≤ F64.val (rounder p) ∧
    F64.val (rounder p) ≤ (1 + 2 * binary64.u) * (1 / (2 * (10 : Rat) ^ p)) := by
  revert p
  unfold F64.Fin F64.val FinEnc
  decide +kernel

theorem tenth32_ok : F32.Fin (lit 1 1) ∧ (1 - binary32.u / 2) * (1 / 10) ≤ F32.val (lit 1 1) ∧
    F32.val (lit 1 1) ≤ (1 + binary32.u / 2) * (1 / 10) := by
  unfold F32.Fin F32.val FinEnc
  decide +kernel

theorem tenth64_ok : F64.Fin (lit 1 1) ∧ (1 - binary64.u / 2) * (1 / 10) ≤ F64.val (lit 1 1) ∧
    F64.val (lit 1 1) ≤ (1 + binary64.u / 2) * (1 / 10) := by
  unfold F64.Fin F64.val FinEnc
  decide +kernel

theorem f64_mul10_rn (x : F64) (h : x.Fin) (hr : InRange binary64 (x.val * 10)) :
    F64.Fin (mul10 x) ∧ RNs binary64 (x.val * 10) (F64.val (mul10 x)) := by
  obtain ⟨t1, t2⟩ := sfOfInt64_ten
  have := sfMul_rn b64 b64_wf x.bits _ h t1 (by rw [b64_bin, t2]; exact hr)
  rw [b64_bin, t2] at this
  exact this

instance : IEEE F32 where
  B := binary32
  prec_ge := by decide
  emin_le := by decide
  emax_ge := by decide
  val := F32.val
  fin := F32.Fin
  fin_special := fun x h => finEnc_not_special b32 b32_wf x.bits h
  fin_rep := fun x h => b32_bin ▸ finEnc_rep b32 b32_wf x.bits h
  lt_zero := fun x h => sfLt_zero b32 b32_wf x.bits h
  neg_val := fun x h => sfNeg_spec b32 b32_wf x.bits h
  add_rn := fun x y hx hy hr => b32_bin ▸ sfAdd_rn b32 b32_wf x.bits y.bits hx hy (b32_bin ▸ hr)
  sub_rn := fun x y hx hy hr => b32_bin ▸ sfSub_rn b32 b32_wf x.bits y.bits hx hy (b32_bin ▸ hr)
  mul_rn := fun x y hx hy hr => b32_bin ▸ sfMul_rn b32 b32_wf x.bits y.bits hx hy (b32_bin ▸ hr)
  ofInt_rn := fun n hr => b32_bin ▸ sfOfInt_rn b32 b32_wf n (b32_bin ▸ hr)
  trunc_val := fun x h => sfTrunc_spec b32 b32_wf x.bits h
  mul10_rn := f32_mul10_rn
  rounder_ok := rounder32_ok
  tenth_ok := tenth32_ok

instance : IEEE F64 where
  B := binary64
  prec_ge := by decide
  emin_le := by decide
  emax_ge := by decide
  val := F64.val
  fin := F64.Fin
  fin_special := fun x h => finEnc_not_special b64 b64_wf x.bits h
  fin_rep := fun x h => b64_bin ▸ finEnc_rep b64 b64_wf x.bits h
  lt_zero := fun x h => sfLt_zero b64 b64_wf x.bits h
  neg_val := fun x h => sfNeg_spec b64 b64_wf x.bits h
  add_rn := fun x y hx hy hr => b64_bin ▸ sfAdd_rn b64 b64_wf x.bits y.bits hx hy (b64_bin ▸ hr)
  sub_rn := fun x y hx hy hr => b64_bin ▸ sfSub_rn b64 b64_wf x.bits y.bits hx hy (b64_bin ▸ hr)
  mul_rn := fun x y hx hy hr => b64_bin ▸ sfMul_rn b64 b64_wf x.bits y.bits hx hy (b64_bin ▸ hr)
  ofInt_rn := fun n hr => b64_bin ▸ sfOfInt_rn b64 b64_wf n (b64_bin ▸ hr)
  trunc_val := fun x h => sfTrunc_spec b64 b64_wf x.bits h
  mul10_rn := f64_mul10_rn
  rounder_ok := rounder64_ok
  tenth_ok := tenth64_ok

/-- `(float32_t)d`: one rounding to nearest binary32 -/
theorem f64_toF32_rn (d : F64) (h : d.Fin) (hr : InRange binary32 d.val) :
    d.toF32.Fin ∧ RNs binary32 d.val d.toF32.val := by
  have := sfCvt_rn b64 b32 b64_wf b32_wf d.bits h (by rw [b32_bin]; exact hr)
  rw [b32_bin] at this
  exact this

end Igris.C12
