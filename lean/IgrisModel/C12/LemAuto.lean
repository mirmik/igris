import IgrisModel.C12.LemF32
/-!
  C12 — the automatic-precision table of igris_f32toa (`precision < 0`)
  always stays inside the region where the rendering is within ONE unit of the
  last printed digit.
-/
namespace Igris.C12
open Spec FloatLike

/-- the six thresholds of the table are binary32 values: `(float)n` is exact -/
theorem thr32 (n : Int) (h : n = 1 ∨ n = 10 ∨ n = 100 ∨ n = 1000 ∨ n = 10000 ∨ n = 100000) :
    FinEnc b32 (sfOfInt b32 n) ∧ encVal b32 (sfOfInt b32 n) = (n : Rat) := by
  rcases h with rfl | rfl | rfl | rfl | rfl | rfl <;>
  · constructor
    · unfold FinEnc; decide +kernel
    · decide +kernel

theorem lt_thr32 (y : F32) (hy : y.Fin) (n : Int)
    (h : n = 1 ∨ n = 10 ∨ n = 100 ∨ n = 1000 ∨ n = 10000 ∨ n = 100000) :
    lt y (ofInt n : F32) = true ↔ y.val < (n : Rat) := by
  obtain ⟨h1, h2⟩ := thr32 n h
  have := sfLt_val b32 b32_wf y.bits (sfOfInt b32 n) hy h1
  rw [h2] at this
  exact this

theorem autoPrec32_spec (y : F32) (hy : y.Fin) :
    (y.val < 1 ∧ autoPrec y = 6) ∨ (1 ≤ y.val ∧ y.val < 10 ∧ autoPrec y = 5) ∨
    (10 ≤ y.val ∧ y.val < 100 ∧ autoPrec y = 4) ∨ (100 ≤ y.val ∧ y.val < 1000 ∧ autoPrec y = 3) ∨
    (1000 ≤ y.val ∧ y.val < 10000 ∧ autoPrec y = 2) ∨ (10000 ≤ y.val ∧ y.val < 100000 ∧ autoPrec y = 1) ∨
    (100000 ≤ y.val ∧ autoPrec y = 0) :=
  autoPrec_table y y.val (lt_thr32 y hy 1 (by omega)) (lt_thr32 y hy 10 (by omega)) (lt_thr32 y hy 100 (by omega))
    (lt_thr32 y hy 1000 (by omega)) (lt_thr32 y hy 10000 (by omega)) (lt_thr32 y hy 100000 (by omega))

/-- `8388608 = 2^23`: then `2^-24 10^p (|y| + 2) ≤ 1/2`, the hypothesis of `f32toa_one_unit_I` -/
theorem autoPrec32_budget (y : F32) (hy : y.Fin) :
    autoPrec y = 0 ∨ (10 : Rat) ^ autoPrec y * (y.val + 2) ≤ 8388608 := by
  rcases autoPrec32_spec y hy with ⟨a, e⟩ | ⟨a, b, e⟩ | ⟨a, b, e⟩ | ⟨a, b, e⟩ | ⟨a, b, e⟩ | ⟨a, b, e⟩ | ⟨a, e⟩
  · right; rw [e]; grind
  · right; rw [e]; grind
  · right; rw [e]; grind
  · right; rw [e]; grind
  · right; rw [e]; grind
  · right; rw [e]; grind
  · left; exact e

end Igris.C12
