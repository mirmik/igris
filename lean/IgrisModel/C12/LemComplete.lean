import IgrisModel.C12.LemEntry
/-!
  C12 — completeness of the literal grammar: EVERY text that contains a NUL is a literal (`WFw`: the exponent
  is not bounded, the code saturates) followed by a tail that does not continue it (`exists_literal`), so the
  theorems about `L.text ++ rest` speak about every NUL-terminated text.
-/
namespace Igris.C12
open Spec FloatLike

-- `p` is a NUL-free prefix followed by `r`, and `r` holds the NUL: what `igris_atof64_total` says, written out,
-- of a text and the part behind the reported end (`Tail.length`: that end, `p.length - r.length`, is the prefix length)
def Tail (p r : List Nat) : Prop := ∃ pre, p = pre ++ r ∧ 0 ∉ pre ∧ 0 ∈ r

theorem Tail.length {p r : List Nat} (h : Tail p r) :
    ∃ pre, p = pre ++ r ∧ 0 ∉ pre ∧ 0 ∈ r ∧ p.length - r.length = pre.length := by
  obtain ⟨pre, e, h1, h2⟩ := h
  refine ⟨pre, e, h1, h2, ?_⟩
  rw [e, List.length_append]; omega

theorem digits_split (p : List Nat) (h : 0 ∈ p) :
    ∃ ds r, p = ds ++ r ∧ AllDigits ds ∧ NonDigitHead r ∧ 0 ∈ r := by
  induction p with
  | nil => cases h
  | cons c p ih =>
    by_cases hc : 48 ≤ c ∧ c ≤ 57
    · obtain ⟨ds, r, e, hd, hr, h0⟩ := ih (List.mem_of_ne_of_mem (by omega) h)
      exact ⟨c :: ds, r, by rw [e]; rfl, allDigits_cons.mpr ⟨hc, hd⟩, hr, h0⟩
    · exact ⟨[], c :: p, rfl, allDigits_nil, ⟨c, p, rfl, hc⟩, h⟩

theorem sign_split (s : List Nat) (h : 0 ∈ s) :
    ∃ sg s1, s = Literal.signText sg ++ s1 ∧ 0 ∈ s1 ∧ (sg = none → s1.head? ≠ some 43 ∧ s1.head? ≠ some 45) := by
  match s, h with
  | c :: t, h =>
    by_cases h45 : c = 45
    · exact ⟨some true, t, by rw [h45]; rfl, List.mem_of_ne_of_mem (by omega) h, fun h => by cases h⟩
    · by_cases h43 : c = 43
      · exact ⟨some false, t, by rw [h43]; rfl, List.mem_of_ne_of_mem (by omega) h, fun h => by cases h⟩
      · exact ⟨none, c :: t, rfl, h, fun _ => by simp [h43, h45]⟩

theorem frac_split (r1 : List Nat) (hr : NonDigitHead r1) (h0 : 0 ∈ r1) :
    ∃ fr r2, r1 = Literal.fracText fr ++ r2 ∧ (∀ fp, fr = some fp → AllDigits fp) ∧ NonDigitHead r2 ∧ 0 ∈ r2 ∧
      (fr = none → r2 = r1 ∧ r2.head? ≠ some 46) := by
  obtain ⟨c, q, rfl, hc⟩ := hr
  by_cases h46 : c = 46
  · obtain ⟨fp, r2, e, hd, hr2, h2⟩ := digits_split q (List.mem_of_ne_of_mem (by omega) h0)
    exact ⟨some fp, r2, by rw [h46, e]; rfl, fun fp' h => by cases h; exact hd, hr2, h2, fun h => by cases h⟩
  · exact ⟨none, c :: q, rfl, (fun _ h => nomatch h), ⟨c, q, rfl, hc⟩, h0, fun _ => ⟨rfl, by simp [h46]⟩⟩

theorem expStart_inv (r : List Nat) (h : expStart r = true) :
    ∃ ch es d q, r = ch :: (Literal.signText es ++ d :: q) ∧ (ch = 69 ∨ ch = 101) ∧ (48 ≤ d ∧ d ≤ 57) := by
  match r, h with
  | c :: d :: tl, h =>
    simp only [expStart, Bool.and_eq_true, Bool.or_eq_true, beq_iff_eq, decide_eq_true_eq] at h
    obtain ⟨hc, h2⟩ := h
    rcases h2 with hd | ⟨hs, hx⟩
    · exact ⟨c, none, d, tl, rfl, hc, hd⟩
    · match tl, hx with
      | x :: q, hx =>
        simp only [Bool.and_eq_true, decide_eq_true_eq] at hx
        rcases hs with rfl | rfl
        · exact ⟨c, some false, x, q, rfl, hc, hx⟩
        · exact ⟨c, some true, x, q, rfl, hc, hx⟩

theorem signText_no_nul (es : Option Bool) : 0 ∉ Literal.signText es := by
  match es with
  | none => simp [Literal.signText]
  | some true => simp [Literal.signText]
  | some false => simp [Literal.signText]

theorem allDigits_no_nul {ds : List Nat} (h : AllDigits ds) : 0 ∉ ds := fun h0 => by have := h 0 h0; omega

theorem exp_split (r2 : List Nat) (hr : NonDigitHead r2) (h0 : 0 ∈ r2) :
    ∃ ex r3, r2 = Literal.expText ex ++ r3 ∧
      (∀ ch s ds, ex = some (ch, s, ds) → (ch = 69 ∨ ch = 101) ∧ AllDigits ds ∧ ds ≠ []) ∧
      NonDigitHead r3 ∧ 0 ∈ r3 ∧ (ex = none → r3 = r2 ∧ expStart r3 = false) := by
  by_cases he : expStart r2 = true
  · obtain ⟨ch, es, d, q, rfl, hch, hd⟩ := expStart_inv r2 he
    have hq : 0 ∈ q := by
      have h1 := List.mem_of_ne_of_mem (by omega) h0
      rcases List.mem_append.mp h1 with h | h
      · exact absurd h (signText_no_nul es)
      · exact List.mem_of_ne_of_mem (by omega) h
    obtain ⟨ds, r3, e, hds, hr3, h3⟩ := digits_split q hq
    refine ⟨some (ch, es, d :: ds), r3, by rw [e]; simp [Literal.expText], ?_, hr3, h3, fun h => by cases h⟩
    intro ch' s' ds' h; cases h
    exact ⟨hch, allDigits_cons.mpr ⟨hd, hds⟩, by simp⟩
  · exact ⟨none, r2, rfl, (fun _ _ _ h => nomatch h), hr, h0, fun _ => ⟨rfl, by simpa using he⟩⟩

theorem text_no_nul {L : Literal} (hw : WFw L) : 0 ∉ L.text := by
  obtain ⟨sg, ip, fr, ex⟩ := L
  obtain ⟨hip, hfr, hex⟩ := hw
  simp only [Literal.text, List.mem_append, not_or]
  refine ⟨⟨⟨signText_no_nul sg, allDigits_no_nul hip⟩, ?_⟩, ?_⟩
  · cases fr with
    | none => simp [Literal.fracText]
    | some fp => simp [Literal.fracText]; exact allDigits_no_nul (hfr fp rfl)
  · match ex with
    | none => simp [Literal.expText]
    | some (ch, s, ds) =>
      obtain ⟨hch, hds, _⟩ := hex ch s ds rfl
      simp only [Literal.expText, List.mem_cons, List.mem_append, not_or]
      exact ⟨by omega, signText_no_nul s, allDigits_no_nul hds⟩

theorem exists_literal (s : List Nat) (h : 0 ∈ s) :
    ∃ (L : Literal) (rest : List Nat), s = L.text ++ rest ∧ WFw L ∧ Stops L rest ∧ 0 ∉ L.text := by
  obtain ⟨sg, s1, e1, h1, hsg⟩ := sign_split s h
  obtain ⟨ip, r1, e2, hip, hr1, h01⟩ := digits_split s1 h1
  obtain ⟨fr, r2, e3, hfr, hr2, h02, hfn⟩ := frac_split r1 hr1 h01
  obtain ⟨ex, r3, e4, hex, hr3, h03, hen⟩ := exp_split r2 hr2 h02
  have hw : WFw ⟨sg, ip, fr, ex⟩ := ⟨hip, hfr, hex⟩
  refine ⟨⟨sg, ip, fr, ex⟩, r3, by rw [e1, e2, e3, e4]; simp [Literal.text], hw, ?_, text_no_nul hw⟩
  obtain ⟨c, tl, rfl, hc⟩ := hr3
  refine ⟨h03, hc, fun he => (hen he).2, fun he hf => ?_, fun hs hi hf he => ?_⟩
  · rw [(hen he).1]; exact (hfn hf).2
  · simp only at hs hi hf he
    have : s1 = c :: tl := by rw [e2, hi, (hfn hf).1.symm, (hen he).1.symm]; rfl
    rw [← this]; exact hsg hs

end Igris.C12
