import IgrisModel.C12.IeeeLemmas
import IgrisModel.C12.Lemmas
/-!
  C12 — error analysis of the renderer `igris_f32toa` over ANY IEEE arithmetic
  instance (`class IEEE`): one round of the digit loop is sound up to `10 u`
  (`digitStep_I`), the rest is the induction of Lemmas.lean.  Props.lean reads the results
  (`f32toa_I`, `f32toa_one_unit_I`) at the software binary32 the driver runs
  (`instance IEEE F32` of SoftOps.lean).
-/
namespace Igris.C12
open Spec FloatLike

/-! ### the operations that are exact in the renderer -/

section
variable {F : Type} [FloatLike F] [IEEE F]

local notation "𝔹" => (IEEE.B (F := F))

theorem sub_exact (x y : F) (hx : IEEE.fin x) (hy : IEEE.fin y)
    (hrep : Rep 𝔹 (IEEE.val x - IEEE.val y)) (hlt : IEEE.val x - IEEE.val y < 4294967296) :
    IEEE.fin (sub x y) ∧ IEEE.val (sub x y) = IEEE.val x - IEEE.val y := by
  have h0 := rep_nonneg hrep
  obtain ⟨hf, hr⟩ := IEEE.sub_rn x y hx hy (inRange_of h0 hlt)
  exact ⟨hf, (hr.pos h0).exact hrep⟩

/-- the cast `k = (int32_t)f`, `(float)k` and `f - k` are all exact: `⌊f⌋` and `f - ⌊f⌋` are values of the format -/
theorem intPart_exact (f : F) (hf : IEEE.fin f) (h0 : 0 ≤ IEEE.val f) (hlt : IEEE.val f < 2147483648) :
    ∃ k : Nat, k < 2147483648 ∧ trunc f = some (k : Int) ∧ IEEE.fin (sub f (ofInt (k : Int))) ∧
      IEEE.val (sub f (ofInt (k : Int))) = IEEE.val f - (k : Rat) ∧
      (k : Rat) ≤ IEEE.val f ∧ IEEE.val f < (k : Rat) + 1 := by
  obtain ⟨k, hfl, hrk, hrf, hkle, hflt⟩ := rep_floor_frac (emin_le_zero (F := F)) ((IEEE.fin_rep _ hf).1 h0)
  have hk : k < 2147483648 := by
    apply Rat.natCast_lt_natCast.mp
    grind
  obtain ⟨hfc, hvc⟩ := ofInt_exact (F := F) k hrk (by grind)
  have hsub : Rep 𝔹 (IEEE.val f - IEEE.val (ofInt (k : Int) : F)) := by rw [hvc]; exact hrf
  obtain ⟨hfs, hvs⟩ := sub_exact f (ofInt (k : Int)) hf hfc hsub (by rw [hvc]; grind)
  rw [hvc] at hvs
  exact ⟨k, hk, by rw [IEEE.trunc_val _ hf, truncQ_nonneg h0, hfl], hfs, hvs, hkle, by grind⟩

/-! ### the fraction loop -/

/-- rounding `v = 10 g` for `g ≤ 1 - u`: the result stays below 10 and moves by at most `10 u`
    (`t` = smallest normal number, below which the error is absolute, `u t`) -/
theorem mul10_arith (u t g r : Rat) (hu : 0 < u) (ht : t ≤ 1 / 16) (hg : g ≤ 1 - u)
    (herr : (r - g * 10 ≤ u * (g * 10) ∧ g * 10 - r ≤ u * (g * 10)) ∨
      (g * 10 < t ∧ r - g * 10 ≤ u * t ∧ g * 10 - r ≤ u * t)) :
    r < 10 ∧ r - g * 10 ≤ 10 * u ∧ g * 10 - r ≤ 10 * u := by
  have h2 : u * (g * 10) ≤ u * ((1 - u) * 10) := Rat.mul_le_mul_of_nonneg_left (by grind) (Rat.le_of_lt hu)
  have h3 : 0 < u * u := Rat.mul_pos hu hu
  have h4 : u * t ≤ u * (1 / 16) := Rat.mul_le_mul_of_nonneg_left ht (Rat.le_of_lt hu)
  rcases herr with ⟨a, b⟩ | ⟨c, a, b⟩ <;> refine ⟨?_, ?_, ?_⟩ <;> grind

/-- IEEE arithmetic: `f *= 10.0` is the only rounding of a round (`fl(10 f) < 10` because `f ≤ 1 - u`);
    the cast and `f -= c` are exact -/
theorem digitStep_I : DigitStep (F := F) IEEE.val IEEE.fin (𝔹).u := by
  intro g hg h0 h1
  have hu := u_pos 𝔹
  have hP := IEEE.prec_ge (F := F)
  have hv0 : 0 ≤ IEEE.val g * 10 := by grind
  obtain ⟨hfh, hrh⟩ := IEEE.mul10_rn g hg (inRange_of hv0 (by grind))
  have hrn := hrh.pos hv0
  have hh0 : 0 ≤ IEEE.val (mul10 g) := hrn.nonneg
  have hg1 : IEEE.val g ≤ 1 - (𝔹).u := rep_lt_one ((IEEE.fin_rep g hg).1 h0) h1 (by omega)
  obtain ⟨hlt10, he1, he2⟩ := mul10_arith _ _ _ _ hu (tiny_le (F := F))
    hg1 (by rw [← eta_eq]; exact hrn.err)
  obtain ⟨c, -, htr, hfs, hvs, hcle, hclt⟩ := intPart_exact (mul10 g) hfh hh0 (by grind)
  have hc9 : c ≤ 9 := by
    have : (c : Rat) < ((10 : Nat) : Rat) := by
      have : ((10 : Nat) : Rat) = 10 := by decide
      grind
    have := Rat.natCast_lt_natCast.mp this
    omega
  refine ⟨c, hc9, htr, hfs, ?_, ?_, ?_, ?_⟩ <;> rw [hvs] <;> grind

/-! ### the renderer after the sign has been taken off -/

theorem half_unit_le (p : Nat) (hp : p ≠ 0) : 1 / (2 * (10 : Rat) ^ p) ≤ 1 / 20 ∧ 0 < 1 / (2 * (10 : Rat) ^ p) := by
  obtain ⟨k, rfl⟩ : ∃ k, p = k + 1 := ⟨p - 1, by omega⟩
  have hk := pow10_pos k
  have h1 := one_le_pow10 k
  have hpos : (0 : Rat) < 2 * (10 : Rat) ^ (k + 1) := by rw [Rat.pow_succ]; grind
  have hx : (1 / (2 * (10 : Rat) ^ (k + 1))) * (2 * (10 : Rat) ^ (k + 1)) = 1 := by grind
  constructor
  · apply Rat.le_of_mul_le_mul_right _ hpos
    rw [hx, Rat.pow_succ]; grind
  · apply Rat.lt_of_mul_lt_mul_right _ (Rat.le_of_lt hpos)
    rw [hx]; grind

/-- the arithmetic of `rounder_step`: `ρ` is `h = 0.5e-p ≤ 1/20` up to `2u`, `s` is `a + ρ` rounded:
    within `u (a + ρ + t)` of it, and not farther from it than the representable `a` is -/
theorem rounder_arith (a h ρ u t s : Rat) (hh : h ≤ 1 / 20) (hu : 0 < u)
    (hu16 : u ≤ 1 / 16) (ht : t ≤ 1 / 16) (hlo : (1 - 2 * u) * h ≤ ρ) (hhi : ρ ≤ (1 + 2 * u) * h)
    (he1 : s - (a + ρ) ≤ u * (a + ρ + t)) (he2 : a + ρ - s ≤ u * (a + ρ + t))
    (hd1 : s - (a + ρ) ≤ a + ρ - a) :
    s < a + 1 ∧ s ≤ a + h + u * (a + 1 / 4) ∧ a + h - u * (a + 1 / 4) ≤ s := by
  have huh2 : u * h ≤ u * (1 / 20) := Rat.mul_le_mul_of_nonneg_left hh (Rat.le_of_lt hu)
  have hmul : u * (a + ρ + t) ≤ u * (a + 9 / 160 + 1 / 16) :=
    Rat.mul_le_mul_of_nonneg_left (by grind) (Rat.le_of_lt hu)
  refine ⟨?_, ?_, ?_⟩ <;> grind

/-- `f += (float)rounders[p]` -/
theorem rounder_step (f0 : F) (p : Nat) (hf : IEEE.fin f0) (h0 : 0 ≤ IEEE.val f0) (hp : p ≤ 10) (hp0 : p ≠ 0)
    (hr : IEEE.val f0 + 1 ≤ 2147483648) :
    IEEE.fin (add f0 (rounder p)) ∧ 0 ≤ IEEE.val (add f0 (rounder p)) ∧
      IEEE.val (add f0 (rounder p)) < IEEE.val f0 + 1 ∧
      IEEE.val (add f0 (rounder p)) ≤ IEEE.val f0 + 1 / (2 * (10 : Rat) ^ p) + (𝔹).u * (IEEE.val f0 + 1 / 4) ∧
      IEEE.val f0 + 1 / (2 * (10 : Rat) ^ p) - (𝔹).u * (IEEE.val f0 + 1 / 4) ≤ IEEE.val (add f0 (rounder p)) := by
  have hu := u_pos 𝔹
  have hu16 := u_le_sixteenth (F := F)
  obtain ⟨hfr, hlo, hhi⟩ := IEEE.rounder_ok (F := F) p hp
  obtain ⟨hh20, hhpos⟩ := half_unit_le p hp0
  have hρ0 : 0 ≤ IEEE.val (rounder p : F) := by
    have := Rat.mul_nonneg (show 0 ≤ 1 - 2 * (𝔹).u by grind) (Rat.le_of_lt hhpos)
    grind
  have hρ1 : IEEE.val (rounder p : F) ≤ 1 := by
    have := Rat.mul_le_mul_of_nonneg_left hh20 (show 0 ≤ 1 + 2 * (𝔹).u by grind)
    grind
  have hv0 : 0 ≤ IEEE.val f0 + IEEE.val (rounder p : F) := by grind
  obtain ⟨hfa, hra⟩ := IEEE.add_rn f0 (rounder p) hf hfr (inRange_of hv0 (by grind))
  have hrn := hra.pos hv0
  obtain ⟨he1, he2⟩ := hrn.abs_err hv0
  have hd := hrn.dist_le ((IEEE.fin_rep f0 hf).1 h0) (by grind)
  exact ⟨hfa, hrn.nonneg, rounder_arith _ _ _ _ _ _ hh20 hu hu16
    (tiny_le (F := F)) hlo hhi he1 he2 hd.1⟩

/-- the arithmetic of the final bound: `f1` is `a + h` up to `u a + u/4` (the rounder step), `V` is
    `f1 X` truncated up to `E` (the digit loop); `h X = 1/2`, `E = 10/9 u (X - 1)` -/
theorem render_arith (a f1 V X h u E q : Rat) (hX : 0 < X) (hu : 0 < u) (hh : 2 * (h * X) = 1)
    (hE : 9 * E = 10 * (u * X) - 10 * u) (hq : 4 * q = u)
    (hb1 : f1 ≤ a + h + u * a + q) (hb2 : a + h - u * a - q ≤ f1)
    (hlo : V ≤ f1 * X + E) (hhi : f1 * X - E < V + 1) :
    a * X - 1 / 2 - u * X * (a + 2) < V ∧ V ≤ a * X + 1 / 2 + u * X * (a + 2) := by
  have m1 := Rat.mul_le_mul_of_nonneg_right hb1 (Rat.le_of_lt hX)
  have m2 := Rat.mul_le_mul_of_nonneg_right hb2 (Rat.le_of_lt hX)
  have hup : 0 < u * X := Rat.mul_pos hu hX
  have hqX : 4 * (q * X) = u * X := by rw [← hq]; grind
  constructor <;> grind

theorem f32toaFrom_I (f0 : F) (p : Nat) (sign : List Nat) (hf : IEEE.fin f0) (h0 : 0 ≤ IEEE.val f0)
    (hp : p ≤ 10) (hr : IEEE.val f0 + 1 ≤ 2147483648) :
    ∃ ip fr : List Nat,
      f32toaFrom (if p ≠ 0 then add f0 (rounder p) else f0) p sign
        = some (sign ++ ip ++ (if p ≠ 0 then 46 :: fr else [])) ∧
      AllDigits ip ∧ Canonical ip ∧ ip.length ≤ 10 ∧ AllDigits fr ∧ fr.length = p ∧
      (p ≠ 0 →
        IEEE.val f0 * (10 : Rat) ^ p - 1 / 2 - (𝔹).u * (10 : Rat) ^ p * (IEEE.val f0 + 2) < ((valL (ip ++ fr) : Nat) : Rat) ∧
        ((valL (ip ++ fr) : Nat) : Rat) ≤ IEEE.val f0 * (10 : Rat) ^ p + 1 / 2 + (𝔹).u * (10 : Rat) ^ p * (IEEE.val f0 + 2)) ∧
      (p = 0 → IEEE.val f0 - 1 < ((valL (ip ++ fr) : Nat) : Rat) ∧ ((valL (ip ++ fr) : Nat) : Rat) ≤ IEEE.val f0) := by
  have hu := u_pos 𝔹
  obtain ⟨f1, hf1def, hf1, h10, h1lt, hbnd⟩ : ∃ f1 : F, (if p ≠ 0 then add f0 (rounder p) else f0) = f1 ∧
      IEEE.fin f1 ∧ 0 ≤ IEEE.val f1 ∧ IEEE.val f1 < 2147483648 ∧
      ((p ≠ 0 → IEEE.val f1 ≤ IEEE.val f0 + 1 / (2 * (10 : Rat) ^ p) + (𝔹).u * (IEEE.val f0 + 1 / 4) ∧
        IEEE.val f0 + 1 / (2 * (10 : Rat) ^ p) - (𝔹).u * (IEEE.val f0 + 1 / 4) ≤ IEEE.val f1) ∧
       (p = 0 → IEEE.val f1 = IEEE.val f0)) := by
    by_cases hp0 : p = 0
    · refine ⟨f0, by simp [hp0], hf, h0, by grind, fun h => absurd hp0 h, fun _ => rfl⟩
    · obtain ⟨a, b, c, d, e⟩ := rounder_step f0 p hf h0 hp hp0 hr
      refine ⟨_, by simp [hp0], a, b, by grind, fun _ => ⟨d, e⟩, fun h => absurd h hp0⟩
  rw [hf1def]
  obtain ⟨k, hklt, htr, hfs, hvs, hkle, hklt'⟩ := intPart_exact f1 hf1 h10 h1lt
  obtain ⟨ip, fr, htxt, hipd, hipc, hipl, hfrd, hfrl, hlo, hhi⟩ :=
    f32toaFrom_steps digitStep_I f1 p sign k hklt htr hfs hvs hkle hklt'
  refine ⟨ip, fr, htxt, hipd, hipc, hipl, hfrd, hfrl, fun hp0 => ?_, fun hp0 => ?_⟩
  · obtain ⟨hb1, hb2⟩ := hbnd.1 hp0
    have hpp := pow10_pos p
    have hfe : fracErr (𝔹).u p = 10 / 9 * (𝔹).u * (10 : Rat) ^ p - 10 / 9 * (𝔹).u := by unfold fracErr; grind
    have hh2 : 2 * (1 / (2 * (10 : Rat) ^ p) * (10 : Rat) ^ p) = 1 := by rw [half_unit]; grind
    exact render_arith _ _ _ _ _ _ _ ((𝔹).u / 4) hpp hu hh2 (by rw [hfe]; grind) (by grind)
      (by grind) (by grind) hlo hhi
  · subst hp0
    have hv0 := hbnd.2 rfl
    have he : fracErr (𝔹).u 0 = 0 := by simp [fracErr]; grind
    rw [he, Rat.pow_zero] at hlo hhi
    constructor <;> grind

/-- `if (f < 0) f = -f` and the '-' written for it -/
theorem abs_arg (x : F) (hx : IEEE.fin x) :
    IEEE.fin (absArg x) ∧
    IEEE.val (absArg x) = absQ (IEEE.val x) ∧
    (if lt x (ofInt 0) then [45] else ([] : List Nat)) = (if IEEE.val x < 0 then [45] else []) := by
  have hlt := IEEE.lt_zero x hx
  unfold absArg
  by_cases hneg : IEEE.val x < 0
  · obtain ⟨a, b⟩ := IEEE.neg_val x hx
    rw [if_pos (hlt.mpr hneg), if_pos (hlt.mpr hneg), if_pos hneg]
    exact ⟨a, by rw [b]; simp [absQ, hneg], rfl⟩
  · have hl : ¬ (lt x (ofInt 0) = true) := fun h => hneg (hlt.mp h)
    rw [if_neg hl, if_neg hl, if_neg hneg]
    exact ⟨hx, by simp [absQ, hneg], rfl⟩

theorem f32toa_I (x : F) (prec : Int) (hx : IEEE.fin x) (hr : absQ (IEEE.val x) + 1 ≤ 2147483648) :
    ∃ (p : Nat) (ip fr : List Nat),
      p = effPrec (absArg x) prec ∧ p ≤ 10 ∧
      f32toa x prec = some ((if IEEE.val x < 0 then [45] else []) ++ ip ++ (if p ≠ 0 then 46 :: fr else [])) ∧
      AllDigits ip ∧ Canonical ip ∧ ip.length ≤ 10 ∧ AllDigits fr ∧ fr.length = p ∧
      (p ≠ 0 →
        absQ (IEEE.val x) * (10 : Rat) ^ p - 1 / 2 - (𝔹).u * (10 : Rat) ^ p * (absQ (IEEE.val x) + 2)
          < ((valL (ip ++ fr) : Nat) : Rat) ∧
        ((valL (ip ++ fr) : Nat) : Rat)
          ≤ absQ (IEEE.val x) * (10 : Rat) ^ p + 1 / 2 + (𝔹).u * (10 : Rat) ^ p * (absQ (IEEE.val x) + 2)) ∧
      (p = 0 → absQ (IEEE.val x) - 1 < ((valL (ip ++ fr) : Nat) : Rat) ∧
        ((valL (ip ++ fr) : Nat) : Rat) ≤ absQ (IEEE.val x)) := by
  obtain ⟨hnan, hinf⟩ := IEEE.fin_special x hx
  obtain ⟨hf0, hv0, hsign⟩ := abs_arg x hx
  rw [f32toa_eq_from x prec hinf hnan, hsign]
  generalize (absArg x) = f0 at *
  have hp : effPrec f0 prec ≤ 10 := effPrec_le _ _
  obtain ⟨ip, fr, h1, h2, h3, h4, h5, h6, h7, h8⟩ := f32toaFrom_I f0 (effPrec f0 prec)
    (if IEEE.val x < 0 then [45] else []) hf0 (by rw [hv0]; exact absQ_nonneg _) hp (by rw [hv0]; exact hr)
  rw [hv0] at h7 h8
  exact ⟨effPrec f0 prec, ip, fr, rfl, hp, h1, h2, h3, h4, h5, h6, h7, h8⟩

/-- within ONE unit of the last digit wherever the format has the digits: `u 10^p (|x| + 2) ≤ 1/2` -/
theorem f32toa_one_unit_I (x : F) (prec : Int) (hx : IEEE.fin x) (hr : absQ (IEEE.val x) + 1 ≤ 2147483648)
    (hd : effPrec (absArg x) prec = 0 ∨
      2 * ((𝔹).u * (10 : Rat) ^ effPrec (absArg x) prec *
        (absQ (IEEE.val x) + 2)) ≤ 1) :
    ∃ (p : Nat) (ip fr : List Nat),
      p = effPrec (absArg x) prec ∧
      f32toa x prec = some ((if IEEE.val x < 0 then [45] else []) ++ ip ++ (if p ≠ 0 then 46 :: fr else [])) ∧
      fr.length = p ∧
      absQ (IEEE.val x) * (10 : Rat) ^ p - 1 < ((valL (ip ++ fr) : Nat) : Rat) ∧
      ((valL (ip ++ fr) : Nat) : Rat) ≤ absQ (IEEE.val x) * (10 : Rat) ^ p + 1 := by
  obtain ⟨p, ip, fr, hp, _, h, _, _, _, _, hlen, h9, h10⟩ := f32toa_I x prec hx hr
  refine ⟨p, ip, fr, hp, h, hlen, ?_⟩
  rw [← hp] at hd
  by_cases hp0 : p = 0
  · have := h10 hp0
    subst hp0
    simp at this ⊢
    constructor <;> grind
  · have := h9 hp0
    rcases hd with hd | hd
    · exact absurd hd hp0
    · constructor <;> grind

end
end Igris.C12
