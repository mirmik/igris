/-
  C19 — the index-level models of Ptr.lean against the cursor models: an index `p` into a memory `m` of exactly
  the extent stands for the cursor `m.drop p`; each routine never faults and computes what the list-level model
  of Model.lean computes.  A `fooP_eq` is an equation (or a pair of results) where the lemma shows that neither side
  faults, a `Refines` otherwise (`compareNodeP_eq` gives the fault side too, and the `Refines` read off it, like the one
  for `removePrefixLoopP`, is `…_ok`); `fooP_sim` is the whole routine as `Refines Eq`.
-/
import IgrisModel.C19.Reader
namespace Igris.C19
open Igris.Proto

/-! ## refinement of a cursor-level computation by an index-level one -/

/-- wherever the cursor-level `o` yields a value, the index-level `r` yields one too: no `oob`, no `fuel` -/
def Refines {α β : Type} (R : α → β → Prop) (o : Option α) (r : PR β) : Prop :=
  ∀ a, o = some a → ∃ b, r = .ok b ∧ R a b

namespace Refines
variable {α β γ δ : Type} {R : α → β → Prop} {S : γ → δ → Prop}

theorem none {r : PR β} : Refines R none r := fun _ h => by cases h

theorem pure {a : α} {b : β} (h : R a b) : Refines R (some a) (Pure.pure b) :=
  fun _ e => ⟨b, rfl, Option.some.inj e ▸ h⟩

theorem bind {o : Option α} {r : PR β} {f : α → Option γ} {g : β → PR δ}
    (h : Refines R o r) (hfg : ∀ a b, R a b → Refines S (f a) (g b)) : Refines S (o >>= f) (r >>= g) := by
  intro c hc
  cases o with
  | none => cases hc
  | some a =>
    obtain ⟨b, hb, hab⟩ := h a rfl
    rw [hb]
    exact hfg a b hab c hc

theorem ite {c : Prop} [Decidable c] {o1 o2 : Option α} {r1 r2 : PR β}
    (h1 : c → Refines R o1 r1) (h2 : ¬ c → Refines R o2 r2) :
    Refines R (if c then o1 else o2) (if c then r1 else r2) := by
  by_cases h : c
  · rw [if_pos h, if_pos h]; exact h1 h
  · rw [if_neg h, if_neg h]; exact h2 h

theorem mono {S : α → β → Prop} {o : Option α} {r : PR β} (h : Refines R o r) (hRS : ∀ a b, R a b → S a b) :
    Refines S o r :=
  fun a ha => (h a ha).imp fun b hb => ⟨hb.1, hRS a b hb.2⟩

theorem eq_ok {o : Option α} {r : PR α} {a : α} (h : Refines Eq o r) (ho : o = some a) : r = .ok a := by
  obtain ⟨_, hb, rfl⟩ := h a ho
  exact hb

theorem toOption_eq {o : Option α} {r : PR α} {a : α} (h : Refines Eq o r) (ho : o = some a) : r.toOption = o := by
  rw [h.eq_ok ho, ho]; rfl

/-- an index-level step that has no cursor-level counterpart (a guarded scan, a store) and does not fault -/
theorem bind_ok {o : Option γ} {r : PR β} {b : β} {g : β → PR δ} (h : r = .ok b) (h' : Refines S o (g b)) :
    Refines S o (r >>= g) := by rw [h]; exact h'

theorem if_neg_right {c : Prop} [Decidable c] {o : Option α} {r1 r2 : PR β} (hc : ¬ c) (h : Refines R o r2) :
    Refines R o (if c then r1 else r2) := by rw [if_neg hc]; exact h

theorem map_left {o : Option α} {r : PR β} {F : α → γ} {S : γ → β → Prop} (h : Refines R o r)
    (hS : ∀ a b, R a b → S (F a) b) : Refines S (o >>= fun a => some (F a)) r := by
  intro c hc
  cases o with
  | none => cases hc
  | some a =>
    obtain ⟨b, hb, hab⟩ := h a rfl
    exact ⟨b, hb, Option.some.inj hc ▸ hS a b hab⟩

end Refines

/-! ## reads and scans -/

theorem rd_lt (m : Str) (i : Nat) (h : i < m.length) : rd m i = .ok m[i] := by
  simp [rd, List.getElem?_eq_getElem h]

theorem rd_ge (m : Str) (i : Nat) (h : m.length ≤ i) : rd m i = .oob i := by
  unfold rd
  rw [List.getElem?_eq_none h]

theorem rd_refines (m : Str) (p : Nat) : Refines Eq (m.drop p).head? (rd m p) := by
  intro a h
  rw [List.head?_drop] at h
  exact ⟨a, by rw [rd, h], rfl⟩

theorem scanG_spec (m : Str) (P : Byte → Bool) : ∀ (f p : Nat), p ≤ m.length → m.length - p < f →
    ∃ q, scanG m m.length P f p = .ok q ∧ p ≤ q ∧ q ≤ m.length ∧ m.drop q = (m.drop p).dropWhile P := by
  intro f
  induction f with
  | zero => intro p _ h; omega
  | succ f ih =>
    intro p hp hf
    unfold scanG
    by_cases hpe : p = m.length
    · subst hpe
      refine ⟨m.length, by simp, by omega, by omega, by simp⟩
    · have hlt : p < m.length := by omega
      have hne : (p != m.length) = true := by simp [hpe]
      rw [if_pos hne, rd_lt m p hlt, List.drop_eq_getElem_cons hlt]
      simp only [PR.ok_bind]
      by_cases hP : P m[p] = true
      · rw [if_pos hP]
        obtain ⟨q, h1, h2, h3, h4⟩ := ih (p + 1) (by omega) (by omega)
        refine ⟨q, h1, by omega, h3, ?_⟩
        rw [h4, List.dropWhile_cons_of_pos hP]
      · rw [if_neg hP]
        refine ⟨p, rfl, by omega, hp, ?_⟩
        rw [List.dropWhile_cons_of_neg hP, List.drop_eq_getElem_cons hlt]

/-- a guarded scan `while (p != e && P(*p)) ++p` on the index side stands for `dropWhile P` on the cursor side -/
theorem Refines.bind_scanG {γ δ : Type} {S : γ → δ → Prop} {o : Option γ} {g : Nat → PR δ}
    (m : Str) (P : Byte → Bool) (p : Nat) (hp : p ≤ m.length)
    (h : ∀ q, p ≤ q → q ≤ m.length → m.drop q = (m.drop p).dropWhile P → Refines S o (g q)) :
    Refines S o (scanG m m.length P (m.length + 1) p >>= g) := by
  obtain ⟨q, h1, h2, h3, h4⟩ := scanG_spec m P (m.length + 1) p hp (by omega)
  exact Refines.bind_ok h1 (h q h2 h3 h4)

/-- `while (P(*p)) ++p;` on both sides: `k` is the cursor loop (`scanTo P` written out for one predicate), `g` the
index loop with its fuel (`hs`: its body, as the `do` block elaborates) -/
theorem scanZ_eq_of_shape (m : Str) (P : Byte → Bool) {k : Cur → Option Cur} {g : Nat → Nat → PR Nat}
    (hk : ∀ d, k d = scanTo P d)
    (hs : ∀ f p, g (f + 1) p = rd m p >>= fun c => if P c then g f (p + 1) else pure p) :
    ∀ (f p : Nat), m.length - p < f →
    Refines (fun c q => p ≤ q ∧ q < m.length ∧ c = m.drop q) (k (m.drop p)) (g f p) := by
  intro f
  induction f with
  | zero => intro p h; omega
  | succ f ih =>
    intro p hf
    rcases Nat.lt_or_ge p m.length with hp | hp
    · rw [hk, List.drop_eq_getElem_cons hp, scanTo, hs, ← hk, ← List.drop_eq_getElem_cons hp]
      refine Refines.bind_ok (rd_lt m p hp) (Refines.ite (fun _ => ?_) fun _ => Refines.pure ⟨Nat.le_refl _, hp, rfl⟩)
      exact (ih (p + 1) (by omega)).mono fun c q ⟨h1, h2, h3⟩ => ⟨by omega, h2, h3⟩
    · rw [hk, List.drop_eq_nil_of_le hp]; exact Refines.none

theorem scanZ_eq (m : Str) (P : Byte → Bool) (f p : Nat) (hf : m.length - p < f) :
    Refines (fun c q => p ≤ q ∧ q < m.length ∧ c = m.drop q) (scanTo P (m.drop p)) (scanZ m P f p) :=
  scanZ_eq_of_shape m P (fun _ => rfl) (fun _ _ => rfl) f p hf

theorem rdRange_ok (m : Str) (p n : Nat) (h : p + n ≤ m.length) : rdRange m p n = .ok ((m.drop p).take n) := by
  unfold rdRange
  by_cases hn : n = 0
  · simp [hn]
  · simp [hn, h]

theorem length_drop_sub (m : Str) {p q : Nat} (hpq : p ≤ q) (hq : q ≤ m.length) :
    (m.drop p).length - (m.drop q).length = q - p := by
  simp only [List.length_drop]; omega

theorem drop_isEmpty_eq (m : Str) (q : Nat) (hq : q ≤ m.length) : (m.drop q).isEmpty = (q == m.length) := by
  by_cases h : q = m.length
  · subst h; simp
  · have : q < m.length := by omega
    rw [List.drop_eq_getElem_cons this]
    simp [List.isEmpty, h]

/-- `std::string(strt, ptr - strt)` for two indices of the same memory -/
theorem rdRange_between (m : Str) (s q : Nat) (hsq : s ≤ q) (hq : q ≤ m.length) :
    rdRange m s (q - s) = .ok (between (m.drop s) (m.drop q)) := by
  rw [rdRange_ok m s (q - s) (by omega), between, length_drop_sub m hsq hq]

theorem rdRange_rest (m : Str) (p : Nat) (hp : p ≤ m.length) : rdRange m p (m.length - p) = .ok (m.drop p) := by
  rw [rdRange_ok m p _ (by omega)]
  congr 1
  apply List.take_of_length_le
  simp

theorem rdI_nat (m : Str) (i : Nat) : rdI m (i : Int) = rd m i := by
  unfold rdI
  rw [if_neg (by omega)]
  simp

/-! ## split(buffer, char), split(buffer, delims), split_cmdargs -/

theorem splitCharLoopP_eq (m : Str) (d : Byte) : ∀ (f p : Nat) (out : List Str), p ≤ m.length →
    Refines Eq (splitCharLoop d f (m.drop p) out) (splitCharLoopP m m.length d f p out) := by
  intro f
  induction f with
  | zero => intro p out _; exact Refines.none
  | succ f ih =>
    intro p out hp
    rw [splitCharLoop, splitCharLoopP]
    refine Refines.bind_scanG m _ p hp fun q1 _ hq1 hd1 => ?_
    simp only [← hd1, drop_isEmpty_eq m q1 hq1]
    refine Refines.ite (fun _ => Refines.pure rfl) fun _ => ?_
    refine Refines.bind_scanG m _ q1 hq1 fun q2 hq12 hq2 hd2 => ?_
    rw [← hd2]
    exact Refines.bind_ok (rdRange_between m q1 q2 hq12 hq2) (ih q2 _ hq2)

theorem splitCharP_sim (buf : Str) (d : Byte) : Refines Eq (splitChar buf d) (splitCharP buf d) :=
  splitCharLoopP_eq buf d _ 0 [] (Nat.zero_le _)

theorem splitDelimsLoopP_eq (m : Str) (ds : Str) : ∀ (f p : Nat) (out : List Str), p ≤ m.length →
    Refines Eq (splitDelimsLoop ds f (m.drop p) out) (splitDelimsLoopP m m.length ds f p out) := by
  intro f
  induction f with
  | zero => intro p out _; exact Refines.none
  | succ f ih =>
    intro p out hp
    rw [splitDelimsLoop, splitDelimsLoopP]
    refine Refines.bind_scanG m _ p hp fun q1 _ hq1 hd1 => ?_
    simp only [← hd1, drop_isEmpty_eq m q1 hq1]
    refine Refines.ite (fun _ => Refines.pure rfl) fun _ => ?_
    refine Refines.bind_scanG m _ q1 hq1 fun q2 hq12 hq2 hd2 => ?_
    simp only [← hd2, drop_isEmpty_eq m q2 hq2]
    refine Refines.bind_ok (rdRange_between m q1 q2 hq12 hq2) ?_
    exact Refines.ite (fun _ => Refines.pure rfl) fun _ => ih q2 _ hq2

theorem splitDelimsP_sim (buf ds : Str) : Refines Eq (splitDelims buf ds) (splitDelimsP buf ds) :=
  Refines.ite (fun _ => Refines.pure rfl) fun _ => splitDelimsLoopP_eq buf ds _ 0 [] (Nat.zero_le _)

theorem cmdargsLoopP_eq (m : Str) : ∀ (f p : Nat) (out : List Str), p ≤ m.length →
    Refines Eq (cmdargsLoop f (m.drop p) out) (cmdargsLoopP m m.length f p out) := by
  intro f
  induction f with
  | zero => intro p out _; exact Refines.none
  | succ f ih =>
    intro p out hp
    rw [cmdargsLoop, cmdargsLoopP]
    refine Refines.bind_scanG m _ p hp fun q1 _ hq1 hd1 => ?_
    rw [← hd1]
    by_cases he : q1 = m.length
    · rw [he, List.drop_length, if_pos (by simp)]
      exact Refines.pure rfl
    · have hlt : q1 < m.length := by omega
      rw [List.drop_eq_getElem_cons hlt, if_neg (by simp [he]), rd_lt m q1 hlt]
      simp only [PR.ok_bind]
      refine Refines.ite (fun _ => ?_) fun _ => ?_
      · refine Refines.bind_scanG m _ (q1 + 1) hlt fun q2 hq12 hq2 hd2 => ?_
        rw [← hd2]
        refine Refines.bind_ok (rdRange_between m (q1 + 1) q2 hq12 hq2) ?_
        by_cases he2 : q2 = m.length
        · rw [he2, List.drop_length, if_pos (by simp)]
          exact Refines.pure rfl
        · rw [List.drop_eq_getElem_cons (by omega), if_neg (by simp [he2])]
          exact ih (q2 + 1) _ (by omega)
      · rw [← List.drop_eq_getElem_cons hlt]
        refine Refines.bind_scanG m _ q1 hq1 fun q2 hq12 hq2 hd2 => ?_
        rw [← hd2]
        exact Refines.bind_ok (rdRange_between m q1 q2 hq12 hq2) (ih q2 _ hq2)

theorem splitCmdargsP_sim (buf : Str) : Refines Eq (splitCmdargs buf) (splitCmdargsP buf) :=
  Refines.ite (fun _ => Refines.pure rfl) fun _ => cmdargsLoopP_eq buf _ 0 [] (Nat.zero_le _)

/-! ## trim -/

/-- the bytes `[left, right]` taken first and dropped second, so that the tail is the segment of `right - 1` as it
stands -/
theorem revSeg_cons (m : Str) (l r : Nat) (hlr : l ≤ r) (hr : r < m.length) :
    ((m.take (r + 1)).drop l).reverse = m[r] :: ((m.take r).drop l).reverse := by
  rw [List.take_succ_eq_append_getElem hr, List.drop_append_of_le_length (by simp; omega), List.reverse_append]
  rfl

/-- the reversals: the scan reads the segment from `*right` down to `*left` -/
theorem scanBack_spec (m : Str) (l : Nat) : ∀ (f r : Nat), l ≤ r → r < m.length → r - l < f →
    ∃ r' : Nat, scanBack m (l : Int) isWsTrim f (r : Int) = .ok ((r' : Nat) : Int) ∧ l ≤ r' ∧ r' ≤ r ∧
      ((m.take (r' + 1)).drop l).reverse = trimBack ((m.take (r + 1)).drop l).reverse := by
  intro f
  induction f with
  | zero => intro r _ _ h; omega
  | succ f ih =>
    intro r hlr hr hf
    rw [scanBack]
    by_cases he : l = r
    · subst he
      refine ⟨l, by simp, Nat.le_refl _, Nat.le_refl _, ?_⟩
      rw [revSeg_cons m l l (Nat.le_refl _) hr, List.drop_take_self]; rfl
    · obtain ⟨r0, rfl⟩ : ∃ r0, r = r0 + 1 := ⟨r - 1, by omega⟩
      have hl0 : l ≤ r0 := by omega
      rw [if_pos (by simp; omega), rdI_nat, rd_lt m _ hr, revSeg_cons m l (r0 + 1) hlr hr,
        revSeg_cons m l r0 hl0 (by omega)]
      simp only [PR.ok_bind, trimBack]
      by_cases hP : isWsTrim m[r0 + 1] = true
      · obtain ⟨r', h1, h2, h3, h4⟩ := ih r0 hl0 (by omega) (by omega)
        rw [if_pos hP, if_pos hP, show (((r0 + 1 : Nat) : Int) - 1) = ((r0 : Nat) : Int) by omega,
          ← revSeg_cons m l r0 hl0 (by omega)]
        exact ⟨r', h1, h2, by omega, h4⟩
      · rw [if_neg hP, if_neg hP]
        exact ⟨r0 + 1, rfl, hlr, Nat.le_refl _, by rw [revSeg_cons m l (r0 + 1) hlr hr, revSeg_cons m l r0 hl0 (by omega)]⟩

/-! ## igris_memmem -/

theorem memchrP_eq (m : Str) (b : Nat) (c : Byte) : ∀ (n i : Nat), b + i + n = m.length →
    memchrP m b c n i = .ok ((memchr c (m.drop (b + i)) i).map (· + b)) := by
  intro n
  induction n with
  | zero =>
    intro i h
    have : m.drop (b + i) = [] := by simp; omega
    simp [memchrP, this, memchr]
  | succ n ih =>
    intro i h
    have hlt : b + i < m.length := by omega
    unfold memchrP
    rw [rd_lt m _ hlt, List.drop_eq_getElem_cons hlt]
    simp only [PR.ok_bind, memchr]
    by_cases hx : (m[b + i] == c) = true
    · simp [hx, Nat.add_comm]
    · rw [if_neg hx, if_neg hx, ih (i + 1) (by omega)]
      rfl

/-- the cursor loop is given the index as its running offset, so both loops step alike -/
theorem memmemLoopP_eq (lm sm : Str) (last : Nat) (hs : sm ≠ []) (hlast : last + sm.length = lm.length) :
    ∀ (f cur : Nat), cur ≤ lm.length → lm.length - cur < f →
    memmemLoopP lm sm sm.length last f cur = .ok (memmemLoop sm (lm.drop cur) cur) := by
  have hpos : 0 < sm.length := List.length_pos_iff.mpr hs
  have hhead : sm.head? = some sm[0] := by
    cases sm with
    | nil => exact absurd rfl hs
    | cons a as => rfl
  intro f
  induction f with
  | zero => intro cur _ h; omega
  | succ f ih =>
    intro cur hc hf
    rw [memmemLoopP]
    by_cases hcl : cur ≤ last
    · have hlt : cur < lm.length := by omega
      have hlen : ¬ (lm[cur] :: lm.drop (cur + 1)).length < sm.length := by
        rw [← List.drop_eq_getElem_cons hlt]; simp; omega
      rw [if_pos hcl, rd_lt lm cur hlt, rd_lt sm 0 hpos, List.drop_eq_getElem_cons hlt, memmemLoop, if_neg hlen,
        ← List.drop_eq_getElem_cons hlt, hhead]
      simp only [PR.ok_bind, memcmpEqP, rdRange_ok lm cur sm.length (by omega), rdRange_ok sm 0 sm.length (by omega),
        List.drop_zero, List.take_length, PR.pure_eq, ih (cur + 1) (by omega) (by omega)]
      by_cases hab : lm[cur] = sm[0]
      · by_cases hm : ((lm.drop cur).take sm.length == sm) = true <;> simp [hab, hm]
      · have : ¬ sm[0] = lm[cur] := fun e => hab e.symm
        simp [hab, this]
    · rw [if_neg hcl]
      cases hd : lm.drop cur with
      | nil => rfl
      | cons a rest =>
        have : (a :: rest).length < sm.length := by rw [← hd]; simp; omega
        rw [memmemLoop, if_pos this]; rfl

/-- `igris_memmem(lm + l, l_len, sm, s_len)` where the `l_len` bytes are the
rest of the block and `s_len` is the size of `sm` -/
theorem memmemP_eq (lm sm : Str) (l : Nat) (hl : l ≤ lm.length) :
    memmemP lm l (lm.length - l) sm sm.length = .ok ((memmem (lm.drop l) sm).map (· + l)) := by
  unfold memmemP memmem
  simp only [List.length_drop]
  by_cases h1 : lm.length - l = 0 ∨ sm.length = 0
  · rw [if_pos h1, if_pos h1]; rfl
  · rw [if_neg h1, if_neg h1]
    by_cases h2 : lm.length - l < sm.length
    · rw [if_pos h2, if_pos h2]; rfl
    · rw [if_neg h2, if_neg h2]
      have hs : sm ≠ [] := by intro h; subst h; simp at h1
      have hpos : 0 < sm.length := List.length_pos_iff.mpr hs
      by_cases h3 : sm.length = 1
      · rw [if_pos h3, if_pos h3, rd_lt sm 0 hpos]
        simp only [PR.ok_bind]
        rw [memchrP_eq lm l _ (lm.length - l) 0 (by omega)]
        have : sm.headD NUL = sm[0] := by
          cases sm with
          | nil => exact absurd rfl hs
          | cons a as => rfl
        rw [this]; rfl
      · rw [if_neg h3, if_neg h3]
        rw [memmemLoopP_eq lm sm (l + (lm.length - l) - sm.length) hs (by omega) _ l hl (by omega),
          memmemLoop_shift sm _ l hs]

/-! ## igris::replace, replace_substrings -/

theorem replaceLoopP_eq (im sm rep : Str) (hs : sm ≠ []) : ∀ (f strit : Nat) (out : Str), strit ≤ im.length →
    Refines Eq (replaceLoop sm rep f (im.drop strit) out) (replaceLoopP im sm rep im.length f strit out) := by
  intro f
  induction f with
  | zero => intro strit out _; exact Refines.none
  | succ f ih =>
    intro strit out hp
    rw [replaceLoop, replaceLoopP]
    refine Refines.bind_ok (memmemP_eq im sm strit hp) ?_
    cases hm : memmem (im.drop strit) sm with
    | none => exact Refines.bind_ok (rdRange_rest im strit hp) (Refines.pure rfl)
    | some step =>
      have hb := memmem_bound _ _ _ hs hm
      rw [List.length_drop] at hb
      simp only [Option.map_some, Nat.add_sub_cancel, List.drop_drop]
      refine Refines.bind_ok (rdRange_ok im strit step (by omega)) ?_
      rw [Nat.add_assoc]
      exact ih _ _ (by omega)

theorem replaceP_sim (input sub rep : Str) : Refines Eq (replace input sub rep) (replaceP input sub rep) :=
  Refines.ite (fun _ => Refines.pure rfl) fun h =>
    replaceLoopP_eq input sub rep (fun e => h (e ▸ rfl)) _ 0 [] (Nat.zero_le _)

/-- the writer never passes `buffer[maxsize - 2]`: one byte is kept for the terminator -/
def RsInv (maxsize : Nat) (st : Str × Nat) : Prop := st.1.length + st.2 + 1 ≤ maxsize

theorem rsPutP_eq (maxsize : Nat) (st : Str × Nat) (srcm : Str) (src len : Nat)
    (hsrc : src + len ≤ srcm.length) (hinv : RsInv maxsize st) :
    rsPutP maxsize st srcm src len = .ok (rsPut st (srcm.drop src) len) ∧
      RsInv maxsize (rsPut st (srcm.drop src) len) := by
  unfold rsPutP rsPut RsInv at *
  have hmin : min len st.2 ≤ len := Nat.min_le_left _ _
  have hmin2 : min len st.2 ≤ st.2 := Nat.min_le_right _ _
  simp only []
  rw [rdRange_ok srcm src _ (by omega)]
  simp only [PR.ok_bind]
  constructor
  · rw [if_neg (by omega)]; rfl
  · simp only [List.length_append, List.length_take, List.length_drop]
    omega

theorem rsLoopP_eq (maxsize : Nat) (im sm rm : Str) (hs : sm ≠ []) :
    ∀ (f strit : Nat) (st : Str × Nat), strit ≤ im.length → RsInv maxsize st →
    Refines (fun v v' => v' = v ∧ RsInv maxsize v) (rsLoop sm rm f (im.drop strit) st)
      (rsLoopP maxsize im sm rm im.length f strit st) := by
  intro f
  induction f with
  | zero => intro strit st _ _; exact Refines.none
  | succ f ih =>
    intro strit st hp hinv
    rw [rsLoop, rsLoopP]
    refine Refines.bind_ok (memmemP_eq im sm strit hp) ?_
    cases hm : memmem (im.drop strit) sm with
    | none =>
      obtain ⟨e, i⟩ := rsPutP_eq maxsize st im strit (im.length - strit) (by omega) hinv
      rw [List.length_drop]
      intro _ h
      cases h
      exact ⟨_, e, rfl, i⟩
    | some step =>
      have hb := memmem_bound _ _ _ hs hm
      rw [List.length_drop] at hb
      simp only [Option.map_some, Nat.add_sub_cancel, List.drop_drop]
      obtain ⟨e1, i1⟩ := rsPutP_eq maxsize st im strit step (by omega) hinv
      obtain ⟨e2, i2⟩ := rsPutP_eq maxsize _ rm 0 rm.length (by omega) i1
      rw [List.drop_zero] at e2 i2
      refine Refines.bind_ok e1 (Refines.bind_ok e2 ?_)
      rw [Nat.add_assoc]
      exact ih _ _ (by omega) i2

theorem replaceSubstringsP_sim (maxsize : Nat) (input sub rep : Str) :
    Refines Eq (replaceSubstrings maxsize input sub rep) (replaceSubstringsP maxsize input sub rep) := by
  unfold replaceSubstrings replaceSubstringsP
  refine Refines.ite (fun _ => Refines.pure rfl) fun h0 => Refines.ite (fun _ => ?_) fun hsl => ?_
  · have hmin : min (maxsize - 1) input.length ≤ input.length := Nat.min_le_right _ _
    have hmin2 : min (maxsize - 1) input.length ≤ maxsize - 1 := Nat.min_le_left _ _
    refine Refines.bind_ok (rdRange_ok input 0 _ (by omega)) ?_
    rw [if_pos (by omega)]; exact Refines.pure rfl
  · cases hl : rsLoop sub rep (input.length + 1) input ([], maxsize - 1) with
    | none => exact Refines.none
    | some st =>
      obtain ⟨_, e, rfl, i⟩ := rsLoopP_eq maxsize input sub rep (fun e => hsl (e ▸ rfl)) _ 0 _ (Nat.zero_le _)
        (show RsInv maxsize ([], maxsize - 1) by unfold RsInv; simp; omega) st hl
      refine Refines.bind_ok e ?_
      unfold RsInv at i
      rw [if_pos (by omega)]; exact Refines.pure rfl

/-! ## join -/

theorem rdV_lt (vec : List Str) (i : Nat) (h : i < vec.length) : rdV vec i = .ok vec[i] := by
  simp [rdV, List.getElem?_eq_getElem h]

theorem joinLoop_step (delim t u : Str) (rest : List Str) (ret : Str) :
    joinLoop delim (t :: u :: rest) ret = joinLoop delim (u :: rest) (ret ++ t ++ delim) := by
  simp [joinLoop]

theorem joinLoopP_eq (vec : List Str) (delim : Str) : ∀ (f iter : Nat) (ret : Str) (h : iter < vec.length),
    vec.length - iter ≤ f →
    ∃ ret', joinLoopP vec delim (vec.length - 1) f iter ret = .ok (vec.length - 1, ret') ∧
      ret' ++ vec[vec.length - 1]'(by omega) = joinLoop delim (vec.drop iter) ret := by
  intro f
  induction f with
  | zero => intro iter ret h hf; omega
  | succ f ih =>
    intro iter ret h hf
    unfold joinLoopP
    by_cases he : iter = vec.length - 1
    · have hne : (iter != vec.length - 1) = false := by simp [he]
      rw [hne]
      refine ⟨ret, by simp [he], ?_⟩
      rw [List.drop_eq_getElem_cons h]
      have : vec.drop (iter + 1) = [] := by simp; omega
      rw [this]
      simp [joinLoop, he]
    · have hne : (iter != vec.length - 1) = true := by simp [he]
      rw [hne, if_pos rfl, rdV_lt vec iter h]
      simp only [PR.ok_bind]
      have h1 : iter + 1 < vec.length := by omega
      obtain ⟨ret', e, hr⟩ := ih (iter + 1) (ret ++ vec[iter] ++ delim) h1 (by omega)
      refine ⟨ret', e, ?_⟩
      rw [hr, List.drop_eq_getElem_cons h, List.drop_eq_getElem_cons h1, joinLoop_step]

/-- the loop from the first element on, then `ret.append(*iter)`, as the `do` blocks of `joinP` and `joinFmtP` have it;
`k` is what they do with the result -/
theorem joinLoopP_read (vec : List Str) (delim ret : Str) (h0 : vec.length ≠ 0) {β : Type} (k : Str → PR β) :
    (do let (iter, r) ← joinLoopP vec delim (vec.length - 1) (vec.length + 1) 0 ret
        let s ← rdV vec iter
        k (r ++ s)) = k (joinLoop delim vec ret) := by
  obtain ⟨ret', e, hr⟩ := joinLoopP_eq vec delim (vec.length + 1) 0 ret (by omega) (by omega)
  rw [e]
  simp only [PR.ok_bind]
  rw [rdV_lt vec _ (by omega)]
  simp only [PR.ok_bind]
  rw [hr, List.drop_zero]

/-- as long as the 32-bit counter cannot wrap, the counted loop of the iterator-range `join` is the
iterator loop of `join(vec, char)` -/
theorem joinFmtLoopP_eq_joinLoopP (vec : List Str) (delim : Str) (n : Nat) (hn : n < 2 ^ 32) :
    ∀ (f i : Nat) (ret : Str), i ≤ n → joinFmtLoopP vec delim n f i i ret = joinLoopP vec delim n f i ret := by
  intro f
  induction f with
  | zero => intro _ _ _; rfl
  | succ f ih =>
    intro i ret hi
    rw [joinFmtLoopP, joinLoopP]
    by_cases he : i = n
    · subst he; simp
    · rw [if_pos (by omega), if_pos (by simpa using he), Nat.mod_eq_of_lt (by omega)]
      simp only [ih _ _ (show i + 1 ≤ n by omega)]

theorem joinFmtP_eq (vec : List Str) (delim pre post : Str) (h32 : vec.length ≤ 2 ^ 32) :
    joinFmtP vec delim pre post = .ok (joinFmt vec delim pre post) := by
  unfold joinFmtP joinFmt
  by_cases h0 : vec.length = 0
  · simp [h0]
  · simp only []
    rw [if_neg h0, if_neg h0]
    have hsd : sizeDec vec.length = vec.length - 1 := by simp [sizeDec, h0]
    rw [hsd, joinFmtLoopP_eq_joinLoopP vec delim _ (by omega) _ 0 pre (by omega)]
    exact joinLoopP_read vec delim pre h0 fun r => pure (r ++ post)

/-- once `tot - 1 ≥ 2³²` the test `i < tot - 1` is true for every value the wrapping counter
can take: the loop only stops by reading `*it` behind the last element -/
theorem joinFmtLoopP_overrun (vec : List Str) (delim : Str) (totm1 : Nat) (h : 2 ^ 32 ≤ totm1) :
    ∀ (f i it : Nat) (ret : Str), i < 2 ^ 32 → it ≤ vec.length → vec.length - it < f →
      joinFmtLoopP vec delim totm1 f i it ret = .oob vec.length := by
  intro f
  induction f with
  | zero => intro i it ret _ _ hf; omega
  | succ f ih =>
    intro i it ret hi hit hf
    unfold joinFmtLoopP
    rw [if_pos (by omega)]
    by_cases he : it = vec.length
    · subst he
      simp [rdV]
    · have hlt : it < vec.length := by omega
      rw [rdV_lt vec it hlt]
      simp only [PR.ok_bind]
      exact ih _ _ _ (Nat.mod_lt _ (by decide)) (by omega) (by omega)

/-! ## creader_readline -/

theorem rewindCRP_eq (mem : Str) (token : Nat) : ∀ (f it : Nat), token ≤ it → it ≤ mem.length → it - token < f →
    ∃ it' : Nat, rewindCR mem token it = some it' ∧
      rewindCRP mem (token : Int) f (it : Int) = .ok ((it' : Nat) : Int) := by
  intro f
  induction f with
  | zero => intro it _ _ h; omega
  | succ f ih =>
    intro it ht hl hf
    unfold rewindCRP
    by_cases he : it = token
    · subst he
      exact ⟨it, rewindCR_self mem it, by simp⟩
    · have hne : ((it : Int) != (token : Int)) = true := by simp; omega
      rw [if_pos hne]
      cases it with
      | zero => omega
      | succ k =>
        have hk : k < mem.length := by omega
        have hcast : (((k + 1 : Nat) : Int) - 1) = ((k : Nat) : Int) := by omega
        rw [hcast, rdI_nat, rd_lt mem k hk]
        simp only [PR.ok_bind]
        unfold rewindCR
        rw [if_neg he, List.getElem?_eq_getElem hk]
        simp only
        by_cases hc : (mem[k] == CR) = true
        · rw [if_pos hc, if_pos hc]
          exact ih k (by omega) (by omega) (by omega)
        · rw [if_neg hc, if_neg hc]
          exact ⟨k + 1, rfl, rfl⟩

theorem creaderReadlineP_eq (mem : Str) (cursor : Nat) (h : cursor ≤ mem.length) :
    ∃ r, creaderReadlineP mem cursor = .ok r ∧ creaderReadline mem cursor = some r ∧ r.2.2 ≤ mem.length := by
  unfold creaderReadline creaderReadlineP
  simp only []
  rw [drop_isEmpty_eq mem cursor h]
  by_cases he : cursor = mem.length
  · simp [he]
  · have hne : (cursor == mem.length) = false := by simp [he]
    rw [hne]
    simp only [Bool.false_eq_true, if_false]
    obtain ⟨q, h1, hcq, hq, hd⟩ :=
      scanG_spec mem (fun c => c != NL && c != NUL) (mem.length + 1) cursor h (by omega)
    rw [h1, ← hd, drop_isEmpty_eq mem q hq]
    simp only [PR.ok_bind, List.length_drop]
    have hit : mem.length - (mem.length - q) = q := by omega
    rw [hit]
    by_cases he2 : q = mem.length
    · simp [he2]
    · have hne2 : (q == mem.length) = false := by simp [he2]
      rw [hne2]
      simp only [Bool.not_false, if_true]
      rw [if_pos (by simp [he2])]
      obtain ⟨it', e1, e2⟩ := rewindCRP_eq mem cursor (mem.length + 1) q hcq hq (by omega)
      rw [e1, e2]
      simp only [PR.ok_bind, PR.pure_eq]
      exact ⟨_, rfl, rfl, by simp; omega⟩

theorem creaderAllP_eq (mem : Str) : ∀ (f cursor : Nat), cursor ≤ mem.length →
    Refines Eq (creaderAll mem f cursor) (creaderAllP mem f cursor) := by
  intro f
  induction f with
  | zero => intro cursor _; exact Refines.pure rfl
  | succ f ih =>
    intro cursor hc
    obtain ⟨⟨len, tok, cur'⟩, e2, e1, hb⟩ := creaderReadlineP_eq mem cursor hc
    rw [creaderAll, creaderAllP, e1]
    refine Refines.bind_ok e2 (Refines.ite (fun _ => Refines.pure rfl) fun _ => ?_)
    intro v hv
    cases hr : creaderAll mem f cur' with
    | none => rw [hr] at hv; cases hv
    | some w =>
      rw [hr] at hv
      cases hv
      exact ⟨_, by rw [(ih cur' hb).eq_ok hr]; rfl, rfl⟩

end Igris.C19
