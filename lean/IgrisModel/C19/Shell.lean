/-
  C19 — datastruct/argvc.h, shell/mshell.c, shell/rshell.c: the argv splitters, command lookup, the help texts
  (the dispatchers themselves are proved in Props.lean from `argvSplit_spec`).
-/
import IgrisModel.C19.Strings
namespace Igris.C19
open Igris.Proto

/-! ## white space of the splitters -/

theorem strchrHit_ws (c : Byte) : strchrHit wsArgv c = (c == NUL || isWsArgv c) := by
  simp only [strchrHit, wsArgv, isWsArgv, List.contains, List.elem, Bool.or_assoc]
  cases (c == SP) <;> cases (c == CR) <;> cases (c == NL) <;> cases (c == TAB) <;> simp

theorem strchrHit_ws_fun : strchrHit wsArgv = fun c => c == NUL || isWsArgv c := funext strchrHit_ws

theorem isWsArgv_NUL : isWsArgv NUL = false := by decide

theorem strchrHit_NUL (s : Str) : strchrHit s NUL = true := by simp [strchrHit]

theorem skipWsZ_eq_scanTo (d : Cur) : skipWsZ d = scanTo (fun c => c != NUL && strchrHit wsArgv c) d := by
  induction d with
  | nil => rfl
  | cons c rest ih =>
    rw [skipWsZ, scanTo, ih]
    cases c != NUL <;> cases strchrHit wsArgv c <;> rfl

theorem scanTokZ_eq_scanTo (d : Cur) : scanTokZ d = scanTo (fun c => !strchrHit wsArgv c && c != NUL) d := by
  induction d with
  | nil => rfl
  | cons c rest ih => rw [scanTokZ, scanTo, ih]

theorem skipWsZ_eq (text junk : Str) (hn : NUL ∉ text) :
    skipWsZ (text ++ NUL :: junk) = some (text.dropWhile (strchrHit wsArgv) ++ NUL :: junk) := by
  rw [skipWsZ_eq_scanTo, scanTo_cstr (strchrHit wsArgv) text junk hn rfl fun c h => by simp [h]]

theorem scanTokZ_eq (text junk : Str) (hn : NUL ∉ text) :
    scanTokZ (text ++ NUL :: junk) = some (text.dropWhile (fun c => !strchrHit wsArgv c) ++ NUL :: junk) := by
  rw [scanTokZ_eq_scanTo, scanTo_cstr (fun c => !strchrHit wsArgv c) text junk hn rfl fun c h => by simp [h]]

theorem skipWsZ_suffix (d d' : Str) (h : skipWsZ d = some d') : d' <:+ d :=
  scanTo_suffix _ d d' (skipWsZ_eq_scanTo d ▸ h)

theorem scanTokZ_suffix (d d' : Str) (h : scanTokZ d = some d') : d' <:+ d :=
  scanTo_suffix _ d d' (scanTokZ_eq_scanTo d ▸ h)

/-! ## the strings `argv` points to -/

theorem cstrAt_shift (A m : Str) (o : Nat) : cstrAt (A ++ m) (o + A.length) = cstrAt m o := by
  unfold cstrAt
  rw [Nat.add_comm, List.drop_length_add_append]

theorem cstrAt_token (pre tok rest : Str) (ht : NUL ∉ tok) :
    cstrAt (pre ++ tok ++ NUL :: rest) pre.length = some tok := by
  unfold cstrAt
  rw [List.append_assoc, List.drop_left]
  simp only [List.contains_eq_mem, List.mem_append, List.mem_cons, true_or, or_true, decide_true, ↓reduceIte]
  rw [takeWhile_ne_append tok rest NUL ht]

theorem argStrings_shift (A m : Str) (offs : List Nat) :
    argStrings (A ++ m) (offs.map (· + A.length)) = argStrings m offs := by
  induction offs with
  | nil => rfl
  | cons o os ih => simp only [List.map_cons, argStrings, cstrAt_shift, ih]

theorem argStrings_length (m : Str) (offs : List Nat) (r : List Str) (h : argStrings m offs = some r) :
    r.length = offs.length := by
  induction offs generalizing r with
  | nil => simp [argStrings] at h; subst h; rfl
  | cons o os ih =>
    rw [argStrings] at h
    obtain ⟨s, _, h⟩ := Option.bind_eq_some_iff.mp h
    obtain ⟨r', h2, h⟩ := Option.bind_eq_some_iff.mp h
    cases h
    simp [ih r' h2]

theorem cstrAtN_shift (A m : Str) (o : Nat) : cstrAtN (A ++ m) (o + A.length) = cstrAtN m o := by
  unfold cstrAtN
  rw [Nat.add_comm, List.drop_length_add_append]

theorem cstrAtN_token (pre tok rest : Str) (ht : NUL ∉ tok) :
    cstrAtN (pre ++ tok ++ NUL :: rest) pre.length = tok := by
  unfold cstrAtN
  rw [List.append_assoc, List.drop_left, takeWhile_ne_append tok rest NUL ht]

theorem cstrAtN_last (pre tok : Str) (ht : NUL ∉ tok) : cstrAtN (pre ++ tok) pre.length = tok := by
  unfold cstrAtN
  rw [List.drop_left, takeWhile_ne_of_not_mem tok NUL ht]

theorem cstrAt_append_nul (mem junk : Str) (o : Nat) (h : o ≤ mem.length) :
    cstrAt (mem ++ NUL :: junk) o = some (cstrAtN mem o) := by
  simp only [cstrAt, cstrAtN, List.drop_append_of_le_length h]
  rw [takeWhile_append_neg _ junk (t := NUL) rfl]
  simp

theorem argStrings_append_nul (mem junk : Str) (offs : List Nat) (h : ∀ o ∈ offs, o < mem.length) :
    argStrings (mem ++ NUL :: junk) offs = some (offs.map (cstrAtN mem)) := by
  induction offs with
  | nil => rfl
  | cons o os ih =>
    simp only [argStrings, cstrAt_append_nul mem junk o (Nat.le_of_lt (h o (by simp))),
      ih (fun x hx => h x (by simp [hx])), Option.bind_eq_bind, Option.bind_some, List.map_cons]

/-! ## what a splitter writes -/

theorem onlyTerminated_refl (s : Str) : onlyTerminated s s = true := by
  induction s with
  | nil => rfl
  | cons a as ih => simp [onlyTerminated, ih]

theorem onlyTerminated_append (a b c d : Str) (h1 : onlyTerminated a b = true) (h2 : onlyTerminated c d = true) :
    onlyTerminated (a ++ c) (b ++ d) = true := by
  induction a generalizing b with
  | nil =>
    cases b with
    | nil => simpa using h2
    | cons y ys => simp [onlyTerminated] at h1
  | cons x xs ih =>
    cases b with
    | nil => simp [onlyTerminated] at h1
    | cons y ys =>
      simp only [onlyTerminated, Bool.and_eq_true] at h1
      simp only [List.cons_append, onlyTerminated, Bool.and_eq_true]
      exact ⟨h1.1, ih ys h1.2⟩

/-- the one write of a splitter iteration: `*data++ = '\0'` on the separator `w` behind the token -/
theorem onlyTerminated_splice (A rest mem' : Str) (w : Byte) (hw : strchrHit wsArgv w = true)
    (h : onlyTerminated mem' rest = true) : onlyTerminated (A ++ NUL :: mem') (A ++ w :: rest) = true := by
  apply onlyTerminated_append _ _ _ _ (onlyTerminated_refl A)
  simp only [onlyTerminated, h, Bool.and_true, BEq.rfl, Bool.true_and]
  rcases (Bool.or_eq_true _ _).mp (strchrHit_ws w ▸ hw) with h1 | h1
  · rw [beq_iff_eq.mp h1]; rfl
  · rw [h1, Bool.or_true]

/-! ## argvc_internal_split_n -/

/-- NUL counts as white space (`strchr(ws, 0)` is not NULL), so a token does not begin with it -/
theorem token_head_ne_NUL {data : Str} {c : Byte} {cs : Str}
    (h : data.dropWhile (strchrHit wsArgv) = c :: cs) : (c == NUL) = false := by
  have hch := dropWhile_head h
  have : c ≠ NUL := fun e => by rw [e, strchrHit_NUL] at hch; cases hch
  simpa using this

theorem argvSplitNGo_stop (argcmax f : Nat) (data : Str) (argc : Nat)
    (h : data.dropWhile (strchrHit wsArgv) = [] ∨ argcmax ≤ argc) :
    argvSplitNGo argcmax (f + 1) data argc = some ⟨argc, [], data⟩ := by
  rw [argvSplitNGo]
  cases h1 : data.dropWhile (strchrHit wsArgv) with
  | nil => rfl
  | cons c cs =>
    have hle : argcmax ≤ argc := h.resolve_left (by rw [h1]; exact List.cons_ne_nil _ _)
    simp only [ge_iff_le, hle, decide_true, Bool.or_true, if_true]

theorem argvSplitNGo_last (argcmax f : Nat) (data : Str) (argc : Nat) (c : Byte) (cs : Str)
    (h1 : data.dropWhile (strchrHit wsArgv) = c :: cs)
    (h2 : (c :: cs).dropWhile (fun c => !strchrHit wsArgv c) = [])
    (hlt : argc < argcmax) :
    argvSplitNGo argcmax (f + 1) data argc = some ⟨argc + 1, [data.length - (c :: cs).length], data⟩ := by
  have hc := token_head_ne_NUL h1
  rw [argvSplitNGo, h1]
  simp only [hc, Bool.false_or, decide_eq_true_eq, if_neg (Nat.not_le.mpr hlt), h2]

theorem argvSplitNGo_step (argcmax f : Nat) (data : Str) (argc : Nat) (c : Byte) (cs : Str) (w : Byte) (t3 : Str)
    (h1 : data.dropWhile (strchrHit wsArgv) = c :: cs)
    (h2 : (c :: cs).dropWhile (fun c => !strchrHit wsArgv c) = w :: t3)
    (hlt : argc < argcmax) :
    argvSplitNGo argcmax (f + 1) data argc
      = (argvSplitNGo argcmax f t3 (argc + 1)).map fun r =>
          ⟨r.argc, (data.length - (c :: cs).length) :: r.argv.map (· + (data.length - (w :: t3).length + 1)),
            data.take (data.length - (w :: t3).length) ++ NUL :: r.mem⟩ := by
  have hc := token_head_ne_NUL h1
  have hw : strchrHit wsArgv w = true := by simpa using dropWhile_head h2
  rw [argvSplitNGo, h1]
  simp only [hc, Bool.false_or, decide_eq_true_eq, if_neg (Nat.not_le.mpr hlt), h2, hw, if_true, Nat.add_sub_cancel]
  cases argvSplitNGo argcmax f t3 (argc + 1) <;> rfl

theorem argvSplitNGo_spec (argcmax : Nat) (f : Nat) (data : Str) (argc : Nat) (hf : data.length < f) :
    ∃ r, argvSplitNGo argcmax f data argc = some r
      ∧ r.argc = argc + r.argv.length
      ∧ r.argv.map (cstrAtN r.mem) = (runs (strchrHit wsArgv) data).take (argcmax - argc)
      ∧ r.mem.length = data.length
      ∧ (∀ o ∈ r.argv, o < data.length)
      ∧ onlyTerminated r.mem data = true := by
  induction f generalizing data argc with
  | zero => omega
  | succ f ih =>
    rw [runs_unfold]
    cases ht1 : data.dropWhile (strchrHit wsArgv) with
    | nil =>
      exact ⟨_, argvSplitNGo_stop argcmax f data argc (Or.inl ht1), by simp, by simp, rfl, by simp,
        onlyTerminated_refl _⟩
    | cons c cs =>
      simp only
      by_cases hmax : argcmax ≤ argc
      · exact ⟨_, argvSplitNGo_stop argcmax f data argc (Or.inr hmax), by simp,
          by simp [Nat.sub_eq_zero_of_le hmax], rfl, by simp, onlyTerminated_refl _⟩
      · have hlt : argc < argcmax := Nat.lt_of_not_le hmax
        have h1 : argcmax - argc = (argcmax - (argc + 1)) + 1 := by omega
        -- the line is `pre ++ tok ++ rest`: separators, the token, what follows it
        obtain ⟨pre, hpre, hdata1⟩ : ∃ pre, pre = data.takeWhile (strchrHit wsArgv) ∧ data = pre ++ c :: cs :=
          ⟨_, rfl, by rw [← ht1, List.takeWhile_append_dropWhile]⟩
        have hsplit2 := @List.takeWhile_append_dropWhile _ (fun c => !strchrHit wsArgv c) (c :: cs)
        generalize htokd : (c :: cs).takeWhile (fun c => !strchrHit wsArgv c) = tok at hsplit2 ⊢
        have hntok : NUL ∉ tok := by
          intro m
          have := mem_takeWhile_sat (p := fun c => !strchrHit wsArgv c) (l := c :: cs) (x := NUL) (by rw [htokd]; exact m)
          simp [strchrHit_NUL] at this
        have hl1 : data.length - (c :: cs).length = pre.length := by rw [hdata1]; simp
        cases ht2 : (c :: cs).dropWhile (fun c => !strchrHit wsArgv c) with
        | nil =>
          have htok : tok = c :: cs := by rw [ht2, List.append_nil] at hsplit2; exact hsplit2
          refine ⟨_, argvSplitNGo_last argcmax f data argc c cs ht1 ht2 hlt, by simp, ?_, rfl, ?_,
            onlyTerminated_refl _⟩
          · rw [hl1, runs_nil, h1, List.take_succ_cons, List.take_nil, hdata1, ← htok]
            simp only [List.map_cons, List.map_nil, cstrAtN_last pre tok hntok]
          · simp only [List.mem_singleton, forall_eq, hdata1, List.length_append, List.length_cons]; omega
        | cons w t3 =>
          have hww : strchrHit wsArgv w = true := by simpa using dropWhile_head ht2
          have hdata : data = (pre ++ tok) ++ w :: t3 := by
            rw [hdata1, ← hsplit2, ht2, List.append_assoc]
          have hl2 : data.length - (w :: t3).length = (pre ++ tok).length := by
            rw [hdata]; simp only [List.length_append, List.length_cons]; omega
          obtain ⟨r', hr', hargc', hstr', hlen', hoff', hmem'⟩ := ih t3 (argc + 1) (by
            rw [hdata] at hf; simp only [List.length_append, List.length_cons] at hf; omega)
          refine ⟨⟨r'.argc, (data.length - (c :: cs).length) :: r'.argv.map (· + (data.length - (w :: t3).length + 1)),
              data.take (data.length - (w :: t3).length) ++ NUL :: r'.mem⟩,
            by rw [argvSplitNGo_step argcmax f data argc c cs w t3 ht1 ht2 hlt, hr']; rfl, ?_, ?_, ?_, ?_, ?_⟩
          · simp only [List.length_cons, List.length_map, hargc']; omega
          · have hruns := runs_cons_delim (strchrHit wsArgv) w t3 hww
            have hmem : ∀ x, pre ++ tok ++ NUL :: x = (pre ++ tok ++ [NUL]) ++ x := fun x => by simp
            have hk : (pre ++ tok).length + 1 = (pre ++ tok ++ [NUL]).length := by
              simp only [List.length_append, List.length_cons, List.length_nil]
            rw [hruns, h1, List.take_succ_cons, ← hstr', hl1, hl2, hdata, List.take_left' rfl]
            simp only [List.map_cons, cstrAtN_token pre tok _ hntok, List.map_map]
            congr 1
            apply List.map_congr_left
            intro o _
            simp only [Function.comp]
            rw [hmem r'.mem, hk, cstrAtN_shift]
          · simp only [hl2]
            rw [hdata, List.take_left' rfl]
            simp only [List.length_append, List.length_cons, hlen']
          · intro o ho
            have hdl : data.length = (pre ++ tok).length + (t3.length + 1) := by
              rw [hdata]; simp only [List.length_append, List.length_cons]
            simp only [List.mem_cons, List.mem_map, hl1, hl2, List.length_append] at ho
            simp only [List.length_append] at hdl
            rcases ho with rfl | ⟨o', ho', rfl⟩
            · omega
            · have := hoff' o' ho'; omega
          · simp only [hl2]
            rw [hdata, List.take_left' rfl]
            exact onlyTerminated_splice _ _ _ w hww hmem'

/-! ## argvc_internal_split: on a terminated line it is the bounded splitter on the text -/

theorem argvSplitGo_terminated (argcmax : Nat) (junk : Str) : ∀ (f : Nat) (text : Str) (argc : Nat), NUL ∉ text →
    argvSplitGo argcmax f (text ++ NUL :: junk) argc
      = (argvSplitNGo argcmax f text argc).map fun r => ⟨r.argc, r.argv, r.mem ++ NUL :: junk⟩ := by
  intro f
  induction f with
  | zero => intro _ _ _; rfl
  | succ f ih =>
    intro text argc hn
    rw [argvSplitGo]
    simp only [skipWsZ_eq text junk hn, head?_cstr, Option.bind_eq_bind, Option.bind_some]
    cases h1 : text.dropWhile (strchrHit wsArgv) with
    | nil => rw [argvSplitNGo_stop _ _ _ _ (Or.inl h1)]; simp
    | cons c cs =>
      have hn1 : NUL ∉ c :: cs := fun m => hn ((List.dropWhile_suffix _).subset (h1 ▸ m))
      by_cases hmax : argcmax ≤ argc
      · rw [argvSplitNGo_stop _ _ _ _ (Or.inr hmax)]; simp [hmax]
      · have hlt : argc < argcmax := Nat.lt_of_not_le hmax
        simp only [List.headD_cons, head_ne_of_not_mem hn1, ge_iff_le, hmax, decide_false, Bool.or_self, Bool.false_eq_true,
          if_false, scanTokZ_eq (c :: cs) junk hn1, head?_cstr, Option.bind_some, length_append_sub]
        cases h2 : (c :: cs).dropWhile (fun c => !strchrHit wsArgv c) with
        | nil => rw [argvSplitNGo_last _ _ _ _ c cs h1 h2 hlt]; simp
        | cons w t3 =>
          have hsuf : (w :: t3) <:+ (c :: cs) := h2 ▸ List.dropWhile_suffix _
          have hn2 : NUL ∉ w :: t3 := fun m => hn1 (hsuf.subset m)
          have hw : strchrHit wsArgv w = true := by
            simpa using dropWhile_head h2
          rw [argvSplitNGo_step _ _ _ _ c cs w t3 h1 h2 hlt]
          simp only [List.headD_cons, head_ne_of_not_mem hn2, Bool.false_eq_true, if_false, hw, if_true, List.cons_append,
            List.tail_cons, ih t3 (argc + 1) fun m => hn2 (List.mem_cons_of_mem _ m)]
          cases argvSplitNGo argcmax f t3 (argc + 1) with
          | none => rfl
          | some r' =>
            simp [List.take_append_of_le_length (Nat.sub_le _ _)]

theorem argvSplitGo_writes (argcmax f : Nat) (data : Str) (argc : Nat) (r : ArgvRes)
    (h : argvSplitGo argcmax f data argc = some r) : onlyTerminated r.mem data = true := by
  induction f generalizing data argc r with
  | zero => cases h
  | succ f ih =>
    rw [argvSplitGo] at h
    obtain ⟨d1, h1, h⟩ := Option.bind_eq_some_iff.mp h
    obtain ⟨c, _, h⟩ := Option.bind_eq_some_iff.mp h
    split at h
    · cases h; exact onlyTerminated_refl _
    obtain ⟨d2, h2, h⟩ := Option.bind_eq_some_iff.mp h
    obtain ⟨c2, hc2, h⟩ := Option.bind_eq_some_iff.mp h
    split at h
    · cases h; exact onlyTerminated_refl _
    split at h
    · rename_i hws
      obtain ⟨r', hr, h⟩ := Option.bind_eq_some_iff.mp h
      cases h
      obtain ⟨t2, rfl⟩ : ∃ t2, d2 = c2 :: t2 := by
        cases d2 with
        | nil => cases hc2
        | cons x t => exact ⟨t, by rw [Option.some.inj hc2]⟩
      obtain ⟨A, rfl⟩ := (scanTokZ_suffix _ _ h2).trans (skipWsZ_suffix _ _ h1)
      have hk : (A ++ c2 :: t2).length - (c2 :: t2).length + 1 - 1 = A.length := by simp
      simp only [hk, List.take_left']
      exact onlyTerminated_splice A t2 _ c2 hws (ih _ _ _ hr)
    · cases h; exact onlyTerminated_refl _

/-! ## command lookup -/

theorem findCmd_eq (a0 : Str) (tbl : List Str) (k : Nat) : findCmd a0 tbl k = (tbl.idxOf? a0).map (k + ·) := by
  induction tbl generalizing k with
  | nil => rfl
  | cons n rest ih =>
    rw [findCmd, List.idxOf?_cons, ih]
    split
    · rfl
    · rw [Option.map_map]; congr 1; funext x; simp only [Function.comp]; omega

theorem findCmdTables_none_iff (a0 : Str) (tables : List (List Str × Nat)) (t : Nat) :
    findCmdTables a0 tables t = none ↔ ∀ e ∈ tables, a0 ∉ e.1 := by
  induction tables generalizing t with
  | nil => simp [findCmdTables]
  | cons e rest ih =>
    rw [findCmdTables, findCmd_eq, List.forall_mem_cons, ← ih (t + 1), ← List.idxOf?_eq_none_iff]
    cases List.idxOf? a0 e.1 <;> simp

theorem findCmdTables_some_spec (a0 : Str) (tables : List (List Str × Nat)) (t0 h drop : Nat)
    (hh : findCmdTables a0 tables t0 = some (h, drop)) :
    ∃ t i tbl, h = 4 * (t0 + t) + i ∧ tables[t]? = some (tbl, drop) ∧ tbl[i]? = some a0
      ∧ (∀ i', i' < i → tbl[i']? ≠ some a0)
      ∧ (∀ t', t' < t → ∀ e, tables[t']? = some e → a0 ∉ e.1) := by
  induction tables generalizing t0 with
  | nil => cases hh
  | cons e rest ih =>
    obtain ⟨tbl, d⟩ := e
    rw [findCmdTables, findCmd_eq] at hh
    cases hf : List.idxOf? a0 tbl with
    | some i =>
      rw [hf] at hh
      obtain ⟨hi, hget, hfirst⟩ := List.idxOf?_eq_some_iff.mp hf
      cases hh
      exact ⟨0, i, tbl, by show 4 * t0 + (0 + i) = _; omega, rfl, by rw [List.getElem?_eq_getElem hi, hget],
        fun i' hi' e => hfirst i' hi' (by rw [List.getElem?_eq_getElem (by omega)] at e; exact Option.some.inj e),
        fun t' ht' => by omega⟩
    | none =>
      rw [hf] at hh
      obtain ⟨t, i, tbl', hh', htab, hi, hfirst, hprev⟩ := ih (t0 + 1) hh
      refine ⟨t + 1, i, tbl', by omega, htab, hi, hfirst, fun t' ht' e he => ?_⟩
      cases t' with
      | zero => cases he; exact List.idxOf?_eq_none_iff.mp hf
      | succ t' => exact hprev t' (by omega) e he

/-! ## help texts -/

theorem take_append_take (k : Nat) (T src : Str) :
    T.take k ++ src.take (k - (T.take k).length) = (T ++ src).take k := by
  rw [List.take_append]
  congr 1
  simp only [List.length_take]
  by_cases h : T.length ≤ k
  · rw [Nat.min_eq_right h]
  · have : k - T.length = 0 := by omega
    have h2 : k - min k T.length = 0 := by omega
    rw [this, h2]

theorem helpPut_take (m : Nat) (T src : Str) :
    helpPut m (T.take (m - 1)) src = (T ++ src).take (m - 1) := by
  unfold helpPut
  rw [← take_append_take]
  congr 1
  have : min src.length (m - (T.take (m - 1)).length - 1) ≤ src.length := Nat.min_le_left _ _
  rw [show m - (T.take (m - 1)).length - 1 = m - 1 - (T.take (m - 1)).length by omega]
  by_cases h : src.length ≤ m - 1 - (T.take (m - 1)).length
  · rw [Nat.min_eq_left h, List.take_of_length_le h, List.take_of_length_le (Nat.le_refl _)]
  · rw [Nat.min_eq_right (by omega)]

theorem rshellHelpLoop_eq (m : Nat) (t : List HelpEntry) (T : Str) :
    rshellHelpLoop m t (T.take (m - 1)) = (T ++ helpText t).take (m - 1) := by
  induction t generalizing T with
  | nil => simp [rshellHelpLoop, helpText]
  | cons e r ih =>
    obtain ⟨name, help⟩ := e
    cases help <;>
    · simp only [rshellHelpLoop, helpPut_take, ih]
      simp [helpText, helpLine]

theorem rshellHelp_pos (t : List HelpEntry) (m : Nat) (h : 0 < m) :
    rshellHelp t (m : Int)
      = (((helpText t).take (m - 1)).length, (helpText t).take (m - 1) ++ [NUL]) := by
  have hm0 : m ≠ 0 := by omega
  have := rshellHelpLoop_eq m t []
  simp only [List.take_nil, List.nil_append] at this
  simp [rshellHelp, hm0, this]

theorem rshellHelp_text (t : List HelpEntry) (m : Int) :
    (rshellHelp t m).2.take (rshellHelp t m).1 = (helpText t).take (m.toNat - 1) := by
  by_cases hm : m ≤ 0
  · have : m.toNat = 0 := by omega
    simp [rshellHelp, hm, this]
  · obtain ⟨M, rfl⟩ : ∃ M : Nat, m = M := ⟨m.toNat, by omega⟩
    rw [rshellHelp_pos t M (by omega)]
    simp

theorem rshellTablesHelpLoop_eq (M : Nat) (ts : List (List HelpEntry)) (T : Str) :
    rshellTablesHelpLoop (M : Int) ts (T.take (M - 2)) = (T ++ helpTextTables ts).take (M - 2) := by
  induction ts generalizing T with
  | nil => simp [rshellTablesHelpLoop, helpTextTables]
  | cons t r ih =>
    simp only [rshellTablesHelpLoop, rshellHelp_text]
    have hlen : (T.take (M - 2)).length ≤ M - 2 := by simp [List.length_take]; omega
    have hk : (((M : Int) - ((T.take (M - 2)).length : Int) - 1).toNat - 1)
        = (M - 2) - (T.take (M - 2)).length := by omega
    rw [hk, take_append_take, ih]
    simp [helpTextTables, List.append_assoc]

end Igris.C19
