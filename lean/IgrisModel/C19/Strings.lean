/-
  C19 — util/string.{h,cpp}, string/*.c, buffer.h, dstring: the list-level loops of Model.lean / Model2.lean
  compute the reference definitions of Spec.lean / Spec2.lean; the length-carrying loops of Model3.lean compute what
  those of Model.lean do.
-/
import IgrisModel.C19.Spec2
import IgrisModel.C19.Model3
import IgrisModel.Common.ListScan
namespace Igris.C19
open Igris.Proto

/-! ## list facts: `dropWhile` / `takeWhile` as the guarded pointer scans -/

theorem between_dropWhile (p : Byte → Bool) (s : Str) : between s (s.dropWhile p) = s.takeWhile p := by
  rw [between, dropWhile_eq_drop, List.length_drop, Nat.sub_sub_self (length_takeWhile_le p s), take_takeWhile_length]

theorem dropWhile_dropWhile (p : Byte → Bool) (s : Str) : (s.dropWhile p).dropWhile p = s.dropWhile p := by
  induction s with
  | nil => rfl
  | cons c cs ih =>
    simp only [List.dropWhile_cons]
    split
    · exact ih
    · rename_i h; simp [h]

/-- the guard `if (size == 0) return …;` in front of a loop: the empty input, and the rest with the guard's test false -/
@[elab_as_elim]
theorem length_guard {α : Type} {motive : List α → Prop} (l : List α) (nil : motive [])
    (cons : l.length ≠ 0 → motive l) : motive l := by
  cases l with
  | nil => exact nil
  | cons a as => exact cons (Nat.succ_ne_zero _)

theorem head_ne_and_not_mem_tail {x c : Byte} {cs : Str} (h : x ∉ c :: cs) : c ≠ x ∧ x ∉ cs :=
  ⟨fun e => h (e ▸ List.mem_cons_self), fun m => h (List.mem_cons_of_mem _ m)⟩

theorem head_ne_of_not_mem {x c : Byte} {cs : Str} (h : x ∉ c :: cs) : (c == x) = false := by
  simpa using (head_ne_and_not_mem_tail h).1

/-- `headD NUL`, so that the caller need not split on `s` -/
theorem head?_cstr (s j : Str) : (s ++ NUL :: j).head? = some (s.headD NUL) := by cases s <;> rfl

theorem headD_eq_NUL {s : Str} (hn : NUL ∉ s) : (s.headD NUL == NUL) = s.isEmpty := by
  cases s with
  | nil => rfl
  | cons c cs => exact head_ne_of_not_mem hn

theorem head?_dropWhile_not (p : Byte → Bool) (l : Str) (c : Byte)
    (h : (l.dropWhile p).head? = some c) : p c = false := by
  simpa [h] using List.head?_dropWhile_not p l

theorem getLast?_dropWhile (p : Byte → Bool) (l : Str) (c : Byte)
    (h : (l.dropWhile p).getLast? = some c) : l.getLast? = some c := by
  have := @List.takeWhile_append_dropWhile _ p l
  rw [← this, List.getLast?_append, h]
  rfl

theorem takeWhile_ne_of_not_mem (l : Str) (x : Byte) (h : x ∉ l) : l.takeWhile (· != x) = l :=
  takeWhile_all fun a ha => by simpa using fun e : a = x => h (e ▸ ha)

theorem takeWhile_ne_append (tok rest : Str) (x : Byte) (ht : x ∉ tok) :
    (tok ++ x :: rest).takeWhile (· != x) = tok := by
  rw [takeWhile_append_neg tok rest (by simp), takeWhile_ne_of_not_mem tok x ht]

theorem length_append_sub (a b t : Str) : (a ++ t).length - (b ++ t).length = a.length - b.length := by
  rw [List.length_append, List.length_append, Nat.add_sub_add_right]

/-! ## the unguarded scan -/

/-- `while (P(*p)) ++p;` on a cursor: there is no end test, so running off the extent is the fault.
`skipWsZ`, `scanTokZ` and `scanComp` are this loop for three predicates that are false on NUL. -/
def scanTo (P : Byte → Bool) : Cur → Option Cur
  | [] => none
  | c :: rest => if P c then scanTo P rest else some (c :: rest)

/-- on a C string: the scan stops at the terminator, and in front of it `P` may be read as any `Q` that agrees with
it off NUL -/
theorem scanTo_cstr {P : Byte → Bool} (Q : Byte → Bool) (text junk : Str) (hn : NUL ∉ text) (h0 : P NUL = false)
    (hPQ : ∀ c, c ≠ NUL → P c = Q c) :
    scanTo P (text ++ NUL :: junk) = some (text.dropWhile Q ++ NUL :: junk) := by
  induction text with
  | nil => simp [scanTo, h0]
  | cons c cs ih =>
    have hc : c ≠ NUL := fun e => hn (e ▸ List.mem_cons_self)
    simp only [List.cons_append, scanTo, List.dropWhile_cons, hPQ c hc, ih fun m => hn (List.mem_cons_of_mem _ m)]
    split <;> rfl

theorem scanTo_suffix (P : Byte → Bool) (d d' : Str) (h : scanTo P d = some d') : d' <:+ d := by
  induction d with
  | nil => cases h
  | cons c rest ih =>
    rw [scanTo] at h
    split at h
    · exact (ih h).trans (List.suffix_cons _ _)
    · cases h; exact List.suffix_refl _

/-! ## runs -/

theorem runsGo_acc (d : Byte → Bool) (s acc : Str) :
    runsGo d acc s =
      if (acc ++ s.takeWhile (fun c => !d c)).isEmpty then runsGo d [] (s.dropWhile (fun c => !d c))
      else (acc ++ s.takeWhile (fun c => !d c)) :: runsGo d [] (s.dropWhile (fun c => !d c)) := by
  induction s generalizing acc with
  | nil => cases acc <;> simp [runsGo]
  | cons c cs ih =>
    by_cases hc : d c
    · cases acc <;> simp [runsGo, hc]
    · rw [runsGo]; simp only [hc, Bool.false_eq_true, ↓reduceIte]
      rw [ih]
      simp [hc]

theorem runs_cons_delim (d : Byte → Bool) (c : Byte) (cs : Str) (hc : d c = true) : runs d (c :: cs) = runs d cs := by
  simp [runs, runsGo, hc]

theorem runs_dropWhile (d : Byte → Bool) (s : Str) : runs d s = runs d (s.dropWhile d) := by
  induction s with
  | nil => rfl
  | cons c cs ih =>
    by_cases hc : d c
    · simp only [List.dropWhile_cons, hc, ↓reduceIte]
      rw [← ih, runs_cons_delim d c cs hc]
    · simp [hc]

theorem runs_nil (d : Byte → Bool) : runs d [] = [] := rfl

theorem runs_cons_token (d : Byte → Bool) (c : Byte) (cs : Str) (hc : d c = false) :
    runs d (c :: cs) =
      (c :: cs).takeWhile (fun c => !d c) :: runs d ((c :: cs).dropWhile (fun c => !d c)) := by
  unfold runs
  rw [runsGo_acc]
  simp [hc]

/-- the equation the splitting loops follow -/
theorem runs_unfold (d : Byte → Bool) (s : Str) :
    runs d s =
      match s.dropWhile d with
      | [] => []
      | c :: cs => (c :: cs).takeWhile (fun c => !d c) :: runs d ((c :: cs).dropWhile (fun c => !d c)) := by
  rw [runs_dropWhile]
  split
  · rename_i h; rw [h]; rfl
  · rename_i c cs h
    rw [h]; exact runs_cons_token d c cs (dropWhile_head h)

theorem runsGo_congr (d d' : Byte → Bool) (s acc : Str) (h : ∀ c ∈ s, d c = d' c) :
    runsGo d acc s = runsGo d' acc s := by
  induction s generalizing acc with
  | nil => rfl
  | cons c cs ih =>
    have hc := h c (by simp)
    have hcs : ∀ x ∈ cs, d x = d' x := fun x hx => h x (by simp [hx])
    simp only [runsGo, hc, ih _ hcs]

theorem runs_congr (d d' : Byte → Bool) (s : Str) (h : ∀ c ∈ s, d c = d' c) : runs d s = runs d' s :=
  runsGo_congr d d' s [] h

/-- the `c == NUL ||` is that of `strchrHit`: `strchr` finds the terminator of the delimiter string -/
theorem runs_or_NUL (d : Byte → Bool) (s : Str) (h : NUL ∉ s) : runs (fun c => c == NUL || d c) s = runs d s :=
  runs_congr _ _ s fun c hc => by
    have : c ≠ NUL := fun e => h (e ▸ hc)
    simp [this]

/-! ## tokens of `runs`, and the inverse laws -/

theorem runsGo_tokens (d : Byte → Bool) (s acc : Str) (hacc : ∀ c ∈ acc, d c = false) :
    ∀ t ∈ runsGo d acc s, t ≠ [] ∧ ∀ c ∈ t, d c = false := by
  induction s generalizing acc with
  | nil =>
    intro t ht
    cases acc with
    | nil => simp [runsGo] at ht
    | cons a as => simp [runsGo] at ht; subst ht; exact ⟨by simp, hacc⟩
  | cons c cs ih =>
    intro t ht
    by_cases hc : d c
    · cases acc with
      | nil =>
        simp only [runsGo, hc, ↓reduceIte, List.isEmpty_nil] at ht
        exact ih [] (by simp) t ht
      | cons a as =>
        simp only [runsGo, hc, ↓reduceIte, List.isEmpty_cons, Bool.false_eq_true, List.mem_cons] at ht
        rcases ht with ht | ht
        · subst ht; exact ⟨by simp, hacc⟩
        · exact ih [] (by simp) t ht
    · simp only [runsGo, hc, Bool.false_eq_true, ↓reduceIte] at ht
      refine ih (acc ++ [c]) ?_ t ht
      intro x hx
      simp only [List.mem_append, List.mem_singleton] at hx
      rcases hx with hx | hx
      · exact hacc x hx
      · subst hx; simpa using hc

theorem runsGo_flatten (d : Byte → Bool) (s acc : Str) :
    (runsGo d acc s).flatten = acc ++ s.filter (fun c => !d c) := by
  induction s generalizing acc with
  | nil => cases acc <;> simp [runsGo]
  | cons c cs ih =>
    by_cases hc : d c
    · cases acc <;> simp [runsGo, hc, ih]
    · simp [runsGo, hc, ih]

theorem runsGo_append_token (d : Byte → Bool) (t rest acc : Str) (hd : ∀ c ∈ t, d c = false) :
    runsGo d acc (t ++ rest) = runsGo d (acc ++ t) rest := by
  induction t generalizing acc with
  | nil => simp
  | cons c cs ih =>
    have hc : d c = false := hd c (by simp)
    simp only [List.cons_append, runsGo, hc, Bool.false_eq_true, ↓reduceIte]
    rw [ih _ (fun x hx => hd x (by simp [hx]))]
    simp [List.append_assoc]

theorem runs_token_append (d : Byte → Bool) (t rest : Str) (ht : t ≠ []) (hd : ∀ c ∈ t, d c = false)
    (hr : rest = [] ∨ ∃ c r, rest = c :: r ∧ d c = true) :
    runs d (t ++ rest) = t :: runs d rest := by
  unfold runs
  rw [runsGo_append_token d t rest [] hd]
  cases t with
  | nil => exact absurd rfl ht
  | cons a as =>
    rcases hr with hr | ⟨c, r, hr, hc⟩
    · subst hr; simp [runsGo]
    · subst hr; simp [runsGo, hc]

theorem runs_split_join (d : Byte → Bool) (delim : Byte) (hdel : d delim = true) (toks : List Str)
    (h : ∀ t ∈ toks, t ≠ [] ∧ ∀ c ∈ t, d c = false) :
    runs d (List.intercalate [delim] toks) = toks := by
  induction toks with
  | nil => simp [List.intercalate, runs, runsGo]
  | cons t rest ih =>
    have ⟨ht, hd⟩ := h t (by simp)
    cases rest with
    | nil =>
      rw [List.intercalate_singleton]
      have := runs_token_append d t [] ht hd (Or.inl rfl)
      simpa [runs_nil] using this
    | cons u rest =>
      rw [List.intercalate_cons_cons, List.append_assoc, List.singleton_append,
        runs_token_append d t _ ht hd (Or.inr ⟨delim, _, rfl, hdel⟩)]
      rw [runs_cons_delim d _ _ hdel, ih (fun x hx => h x (by simp [hx]))]

/-! ## igris::split: skip delimiters, scan a token -/

theorem length_scan_lt (d : Byte → Bool) {ptr : Str} {c : Byte} {cs : Str} (hp : ptr.dropWhile d = c :: cs) :
    ((c :: cs).dropWhile (fun c => !d c)).length < ptr.length := by
  have hl := length_dropWhile_le d ptr
  have := length_dropWhile_le (fun c => !d c) cs
  simp only [List.dropWhile_cons, dropWhile_head hp, Bool.not_false, ↓reduceIte]
  rw [hp, List.length_cons] at hl
  omega

theorem splitCharLoop_eq (delim : Byte) (f : Nat) (ptr : Cur) (out : List Str) (h : ptr.length < f) :
    splitCharLoop delim f ptr out = some (out ++ runs (· == delim) ptr) := by
  induction f generalizing ptr out with
  | zero => omega
  | succ f ih =>
    unfold splitCharLoop
    simp only
    rw [runs_unfold]
    cases hp : ptr.dropWhile (· == delim) with
    | nil => simp
    | cons c cs =>
      have hlt := length_scan_lt _ hp
      simp only [List.isEmpty_cons, Bool.false_eq_true, ↓reduceIte]
      rw [show (fun c : Byte => c != delim) = (fun c => !(c == delim)) from rfl, ih _ _ (by omega), between_dropWhile]
      simp [List.append_assoc]

theorem splitDelimsLoop_eq (delims : Str) (f : Nat) (ptr : Cur) (out : List Str) (h : ptr.length < f) :
    splitDelimsLoop delims f ptr out = some (out ++ runs (strchrHit delims) ptr) := by
  induction f generalizing ptr out with
  | zero => omega
  | succ f ih =>
    unfold splitDelimsLoop
    simp only
    rw [runs_unfold]
    cases hp : ptr.dropWhile (strchrHit delims) with
    | nil => simp
    | cons c cs =>
      have hlt := length_scan_lt _ hp
      simp only [List.isEmpty_cons, Bool.false_eq_true, ↓reduceIte]
      rw [between_dropWhile]
      split
      · rename_i he
        have : (c :: cs).dropWhile (fun c => !strchrHit delims c) = [] := by simpa using he
        rw [this, runs_nil]
      · rw [ih _ _ (by omega)]
        simp [List.append_assoc]

/-! ## join -/

theorem joinLoop_eq (delim : Str) (vec : List Str) (ret : Str) :
    joinLoop delim vec ret = ret ++ List.intercalate delim vec := by
  induction vec generalizing ret with
  | nil => simp [joinLoop, List.intercalate]
  | cons t rest ih =>
    cases rest with
    | nil => simp [joinLoop]
    | cons u rest =>
      rw [joinLoop, ih, List.intercalate_cons_cons]
      simp [List.append_assoc]
      intro h; cases h

/-! ## trim -/

theorem trimBack_eq (pre : Str) (x : Byte) (hx : isWsTrim x = false) :
    trimBack (pre ++ [x]) = (pre ++ [x]).dropWhile isWsTrim := by
  induction pre with
  | nil => simp [trimBack, hx]
  | cons p ps ih =>
    have hne : ps ++ [x] ≠ [] := by simp
    obtain ⟨q, qs, h⟩ := List.exists_cons_of_ne_nil hne
    rw [List.cons_append, h, trimBack, List.dropWhile_cons, ← h, ih]
    intro e; cases e

theorem strip_exact (w : Byte → Bool) (s : Str) :
    ∃ pre post, s = pre ++ strip w s ++ post
      ∧ (∀ c ∈ pre, w c = true) ∧ (∀ c ∈ post, w c = true)
      ∧ (∀ c, (strip w s).head? = some c → w c = false)
      ∧ (∀ c, (strip w s).getLast? = some c → w c = false) := by
  refine ⟨s.takeWhile w, (((s.dropWhile w).reverse).takeWhile w).reverse, ?_, ?_, ?_, ?_, ?_⟩
  · unfold strip
    rw [List.append_assoc, ← List.reverse_append, List.takeWhile_append_dropWhile,
      List.reverse_reverse, List.takeWhile_append_dropWhile]
  · exact fun c hc => mem_takeWhile_sat hc
  · intro c hc
    exact mem_takeWhile_sat (p := w) (l := (s.dropWhile w).reverse) (by simpa using hc)
  · intro c hc
    unfold strip at hc
    rw [List.head?_reverse] at hc
    have := getLast?_dropWhile w _ c hc
    rw [List.getLast?_reverse] at this
    exact head?_dropWhile_not w s c this
  · intro c hc
    unfold strip at hc
    rw [List.getLast?_reverse] at hc
    exact head?_dropWhile_not w _ c hc

/-! ## igris_memmem -/

theorem isPrefixOf_eq_take (s l : Str) : s.isPrefixOf l = (l.take s.length == s) := by
  rw [Bool.eq_iff_iff]
  simp only [List.isPrefixOf_iff_prefix, beq_iff_eq]
  rw [List.prefix_iff_eq_take]
  exact eq_comm

theorem isPrefixOf_short (s l : Str) (h : l.length < s.length) : s.isPrefixOf l = false := by
  rw [Bool.eq_false_iff]
  intro hp
  have := (List.isPrefixOf_iff_prefix.mp hp).length_le
  omega

theorem firstOcc_short (s l : Str) (h : l.length < s.length) : firstOcc s l = none := by
  induction l with
  | nil =>
    cases s with
    | nil => simp at h
    | cons a as => simp [firstOcc]
  | cons c cs ih =>
    simp only [firstOcc, isPrefixOf_short s (c :: cs) h, Bool.false_eq_true, ↓reduceIte]
    rw [ih (by simp only [List.length_cons] at h; omega)]; rfl

theorem memchr_eq (x : Byte) (l : Str) (off : Nat) :
    memchr x l off = (firstOcc [x] l).map (· + off) := by
  induction l generalizing off with
  | nil => simp [memchr, firstOcc]
  | cons c cs ih =>
    by_cases h : c = x
    · subst h; simp [memchr, firstOcc, List.isPrefixOf]
    · have h' : ¬ x = c := fun e => h e.symm
      have hb : (x == c) = false := by simpa using h'
      have hb' : (c == x) = false := by simpa using h
      simp only [memchr, firstOcc, List.isPrefixOf, hb, hb', ↓reduceIte, Bool.false_and,
        Bool.false_eq_true, ih, Option.map_map]
      congr 1; funext n; show n + (off + 1) = n + 1 + off; omega

theorem memmemLoop_eq (s l : Str) (off : Nat) (hs : s ≠ []) :
    memmemLoop s l off = (firstOcc s l).map (· + off) := by
  induction l generalizing off with
  | nil => rw [firstOcc_short s [] (List.length_pos_iff.mpr hs)]; rfl
  | cons c cs ih =>
    unfold memmemLoop
    split
    · rename_i hlt; rw [firstOcc_short s _ hlt]; rfl
    · have hp : (s.head? == some c && (c :: cs).take s.length == s) = s.isPrefixOf (c :: cs) := by
        rw [isPrefixOf_eq_take]
        cases s with
        | nil => exact absurd rfl hs
        | cons a as =>
          by_cases hac : a = c
          · subst hac; simp
          · simp [hac]
            intro h1 h2; exact absurd h1.symm hac
      rw [hp]
      simp only [firstOcc]
      split
      · simp
      · rw [ih, Option.map_map]
        congr 1; funext n; show n + (off + 1) = n + 1 + off; omega

theorem memmemLoop_shift (s c : Str) (off : Nat) (hs : s ≠ []) :
    memmemLoop s c off = (memmemLoop s c 0).map (· + off) := by
  rw [memmemLoop_eq s c off hs, memmemLoop_eq s c 0 hs, Option.map_map]
  congr 1

theorem memmem_eq_firstOcc_of_ne_nil (l s : Str) (hs : s ≠ []) : memmem l s = firstOcc s l := by
  unfold memmem
  have hs' : s.length ≠ 0 := fun h => hs (List.eq_nil_of_length_eq_zero h)
  split
  · rename_i h
    rcases h with h | h
    · have : l = [] := List.eq_nil_of_length_eq_zero h
      subst this
      rw [firstOcc_short]; simp; omega
    · exact absurd h hs'
  · split
    · rename_i h; rw [firstOcc_short _ _ h]
    · split
      · rename_i h1
        match s, h1 with
        | [x], _ => rw [memchr_eq]; simp
      · rw [memmemLoop_eq _ _ _ hs]; simp

theorem firstOcc_cons_some {s : Str} {c : Byte} {cs : Str} {i : Nat} (h : firstOcc s (c :: cs) = some i) :
    (s.isPrefixOf (c :: cs) = true ∧ i = 0) ∨
    (s.isPrefixOf (c :: cs) = false ∧ ∃ i', firstOcc s cs = some i' ∧ i = i' + 1) := by
  rw [firstOcc] at h
  split at h
  · rename_i hp; exact Or.inl ⟨hp, (Option.some.inj h).symm⟩
  · rename_i hp
    obtain ⟨i', ho, e⟩ := Option.map_eq_some_iff.mp h
    exact Or.inr ⟨Bool.eq_false_iff.mpr hp, i', ho, e.symm⟩

theorem firstOcc_cons_none {s : Str} {c : Byte} {cs : Str} (h : firstOcc s (c :: cs) = none) :
    s.isPrefixOf (c :: cs) = false ∧ firstOcc s cs = none := by
  rw [firstOcc] at h
  split at h
  · cases h
  · rename_i hp; exact ⟨Bool.eq_false_iff.mpr hp, Option.map_eq_none_iff.mp h⟩

theorem firstOcc_some_spec (s l : Str) (i : Nat) (h : firstOcc s l = some i) :
    s <+: l.drop i ∧ ∀ j, j < i → ¬ s <+: l.drop j := by
  induction l generalizing i with
  | nil =>
    rw [firstOcc] at h
    split at h
    · rename_i he
      cases h
      have : s = [] := by simpa using he
      subst this; simp
    · cases h
  | cons c cs ih =>
    rcases firstOcc_cons_some h with ⟨hp, rfl⟩ | ⟨hp, i', ho, rfl⟩
    · exact ⟨by simpa using List.isPrefixOf_iff_prefix.mp hp, fun j hj => by omega⟩
    · have ⟨h1, h2⟩ := ih i' ho
      refine ⟨by simpa using h1, fun j hj => ?_⟩
      cases j with
      | zero => simpa [← List.isPrefixOf_iff_prefix] using hp
      | succ j => simpa using h2 j (by omega)

theorem firstOcc_none_spec (s l : Str) (hs : s ≠ []) (h : firstOcc s l = none) :
    ∀ j, ¬ s <+: l.drop j := by
  induction l with
  | nil =>
    intro j hp
    simp only [List.drop_nil, List.prefix_nil] at hp
    exact hs hp
  | cons c cs ih =>
    have ⟨hp, ho⟩ := firstOcc_cons_none h
    intro j
    cases j with
    | zero => simpa [← List.isPrefixOf_iff_prefix] using hp
    | succ j => simpa using ih ho j

theorem firstOcc_bound (s l : Str) (i : Nat) (hs : s ≠ []) (h : firstOcc s l = some i) :
    i + s.length ≤ l.length := by
  have := (firstOcc_some_spec s l i h).1.length_le
  simp only [List.length_drop] at this
  have hpos : 0 < s.length := List.length_pos_iff.mpr hs
  omega

theorem memmem_bound (l s : Str) (i : Nat) (hs : s ≠ []) (h : memmem l s = some i) :
    i + s.length ≤ l.length :=
  firstOcc_bound s l i hs (memmem_eq_firstOcc_of_ne_nil l s hs ▸ h)

/-! ## substitution: igris::replace, replace_substrings -/

theorem substGo_skip (sub rep : Str) (k : Nat) (s : Str) :
    substGo sub rep k s = substGo sub rep 0 (s.drop k) := by
  induction k generalizing s with
  | zero => simp
  | succ k ih =>
    cases s with
    | nil => simp [substGo]
    | cons c cs => simp [substGo, ih]

theorem substGo_none (sub rep s : Str) (h : firstOcc sub s = none) : substGo sub rep 0 s = s := by
  induction s with
  | nil => rfl
  | cons c cs ih =>
    have ⟨hp, ho⟩ := firstOcc_cons_none h
    simp only [substGo, hp, Bool.false_eq_true, ↓reduceIte, ih ho]

theorem substGo_some (sub rep s : Str) (i : Nat) (hs : sub ≠ []) (h : firstOcc sub s = some i) :
    substGo sub rep 0 s = s.take i ++ rep ++ substGo sub rep 0 (s.drop (i + sub.length)) := by
  induction s generalizing i with
  | nil => rw [firstOcc_short sub [] (List.length_pos_iff.mpr hs)] at h; cases h
  | cons c cs ih =>
    rcases firstOcc_cons_some h with ⟨hp, rfl⟩ | ⟨hp, i', ho, rfl⟩
    · obtain ⟨a, as, rfl⟩ := List.exists_cons_of_ne_nil hs
      simp only [substGo, hp, ↓reduceIte, List.take_zero, List.nil_append, Nat.zero_add, List.length_cons,
        Nat.add_sub_cancel, List.drop_succ_cons]
      rw [substGo_skip]
    · simp only [substGo, hp, Bool.false_eq_true, ↓reduceIte, ih i' ho]
      have : i' + 1 + sub.length = (i' + sub.length) + 1 := by omega
      simp [this]

theorem replaceLoop_eq (sub rep : Str) (hs : sub ≠ []) (f : Nat) (strit out : Str) (h : strit.length < f) :
    replaceLoop sub rep f strit out = some (out ++ substGo sub rep 0 strit) := by
  induction f generalizing strit out with
  | zero => omega
  | succ f ih =>
    unfold replaceLoop
    rw [memmem_eq_firstOcc_of_ne_nil strit sub hs]
    cases ho : firstOcc sub strit with
    | none => simp [substGo_none sub rep strit ho]
    | some step =>
      simp only
      have hb := firstOcc_bound sub strit step hs ho
      have hpos : 0 < sub.length := List.length_pos_iff.mpr hs
      rw [ih _ _ (by simp only [List.length_drop]; omega), substGo_some sub rep strit step hs ho]
      simp [List.append_assoc]

/-- `(w, room)` stands for "the unbounded output so far is `F`, the buffer holds `R` characters" -/
def RsRep (F : Str) (R : Nat) : Str × Nat := (F.take R, R - F.length)

theorem rsPut_rep (F : Str) (R : Nat) (src : Str) (len : Nat) (hl : len ≤ src.length) :
    rsPut (RsRep F R) src len = RsRep (F ++ src.take len) R := by
  have h1 : (src.take len).length = len := List.length_take_of_le hl
  have h2 : src.take (min len (R - F.length)) = (src.take len).take (R - F.length) := by
    rw [List.take_take, Nat.min_comm]
  simp only [rsPut, RsRep, List.take_append, List.length_append, h1, h2]
  rw [Nat.sub_sub, Nat.min_def]
  split <;> congr 1 <;> omega

theorem rsLoop_eq (sub rep : Str) (hs : sub ≠ []) (R : Nat) (f : Nat) (strit F : Str) (h : strit.length < f) :
    rsLoop sub rep f strit (RsRep F R) = some (RsRep (F ++ substGo sub rep 0 strit) R) := by
  induction f generalizing strit F with
  | zero => omega
  | succ f ih =>
    unfold rsLoop
    rw [memmem_eq_firstOcc_of_ne_nil strit sub hs]
    cases ho : firstOcc sub strit with
    | none =>
      simp only
      rw [rsPut_rep F R strit strit.length (Nat.le_refl _), substGo_none sub rep strit ho]
      simp
    | some step =>
      simp only
      have hb := firstOcc_bound sub strit step hs ho
      have hpos : 0 < sub.length := List.length_pos_iff.mpr hs
      rw [rsPut_rep F R strit step (by omega), rsPut_rep _ R rep rep.length (Nat.le_refl _),
        ih _ _ (by simp only [List.length_drop]; omega), substGo_some sub rep strit step hs ho]
      simp [List.append_assoc]

/-! ## the evaluation that carries the remaining length along -/

theorem memmemLoopF_eq (s : Str) : ∀ (cur : Cur) (off : Nat),
    memmemLoopF s s.length cur cur.length off = memmemLoop s cur off := by
  intro cur
  induction cur with
  | nil => intro off; simp [memmemLoopF, memmemLoop]
  | cons a rest ih =>
    intro off
    simp only [memmemLoopF, memmemLoop, List.length_cons, Nat.add_sub_cancel]
    rw [ih]

theorem memmemF_fun : memmemF = memmem := by
  funext l s
  unfold memmemF memmem
  rw [memmemLoopF_eq]

theorem replaceLoopF_eq (sub rep : Str) : ∀ (f : Nat) (strit : Cur) (out : Str),
    replaceLoopF sub rep f strit out = replaceLoop sub rep f strit out := by
  intro f
  induction f with
  | zero => intro _ _; rfl
  | succ f ih =>
    intro strit out
    simp only [replaceLoopF, replaceLoop, memmemF_fun]
    cases memmem strit sub with
    | none => rfl
    | some step => exact ih _ _

theorem rsLoopF_eq (sub rep : Str) : ∀ (f : Nat) (strit : Cur) (st : Str × Nat),
    rsLoopF sub rep f strit st = rsLoop sub rep f strit st := by
  intro f
  induction f with
  | zero => intro _ _; rfl
  | succ f ih =>
    intro strit st
    simp only [rsLoopF, rsLoop, memmemF_fun]
    cases memmem strit sub with
    | none => rfl
    | some step => exact ih _ _

/-! ## split_cmdargs -/

theorem cmdGo_gap_skip (s : Str) : cmdGo .gap s = cmdGo .gap (s.dropWhile (· == SP)) := by
  induction s with
  | nil => rfl
  | cons c cs ih =>
    by_cases h : (c == SP) = true
    · simp only [List.dropWhile_cons, h, ↓reduceIte]
      rw [← ih]; simp [cmdGo, h]
    · simp [h]

theorem cmdGo_gap_cons (c : Byte) (rest : Str) (hc : (c == SP) = false) :
    cmdGo .gap (c :: rest) = if c == DQ || c == SQ then cmdGo (.quote c []) rest else cmdGo (.word [c]) rest := by
  simp only [cmdGo, hc, Bool.false_eq_true, ↓reduceIte]

theorem cmdGo_word (s acc : Str) :
    cmdGo (.word acc) s = (acc ++ s.takeWhile (· != SP)) :: cmdGo .gap (s.dropWhile (· != SP)) := by
  induction s generalizing acc with
  | nil => simp [cmdGo]
  | cons c cs ih =>
    by_cases h : c = SP
    · subst h; simp [cmdGo]
    · simp [cmdGo, h, ih]

theorem cmdGo_quote (q : Byte) (s acc : Str) :
    cmdGo (.quote q acc) s =
      (acc ++ s.takeWhile (· != q)) ::
        (match s.dropWhile (· != q) with
         | [] => []
         | _ :: r => cmdGo .gap r) := by
  induction s generalizing acc with
  | nil => simp [cmdGo]
  | cons c cs ih =>
    by_cases h : c = q
    · subst h; simp [cmdGo]
    · simp [cmdGo, h, ih]

theorem cmdargsLoop_eq (f : Nat) (ptr : Cur) (out : List Str) (h : ptr.length < f) :
    cmdargsLoop f ptr out = some (out ++ cmdGo .gap ptr) := by
  induction f generalizing ptr out with
  | zero => omega
  | succ f ih =>
    unfold cmdargsLoop
    rw [cmdGo_gap_skip ptr]
    have hl := length_dropWhile_le (· == SP) ptr
    cases hp : ptr.dropWhile (· == SP) with
    | nil => simp [cmdGo]
    | cons c rest =>
      have hc := dropWhile_head hp
      rw [hp] at hl
      simp only [List.length_cons] at hl
      simp only
      rw [cmdGo_gap_cons c rest hc]
      split
      · have hl2 := length_dropWhile_le (· != c) rest
        rw [cmdGo_quote, between_dropWhile]
        cases hp2 : rest.dropWhile (· != c) with
        | nil => simp
        | cons x p' =>
          rw [hp2] at hl2
          simp only [List.length_cons] at hl2
          simp only
          rw [ih _ _ (by omega)]
          simp [List.append_assoc]
      · have hne : (c != SP) = true := by simp [bne, hc]
        have hl2 := length_dropWhile_le (· != SP) rest
        rw [cmdGo_word, between_dropWhile]
        simp only [List.dropWhile_cons, List.takeWhile_cons, hne, ↓reduceIte]
        rw [ih _ _ (by omega)]
        simp [List.append_assoc]

theorem cmdGo_eq_runsGo (s : Str) (h : DQ ∉ s ∧ SQ ∉ s) :
    (∀ acc, acc ≠ [] → cmdGo (.word acc) s = runsGo (· == SP) acc s)
      ∧ cmdGo .gap s = runsGo (· == SP) [] s := by
  induction s with
  | nil =>
    refine ⟨fun acc ha => ?_, rfl⟩
    cases acc with
    | nil => exact absurd rfl ha
    | cons a as => simp [cmdGo, runsGo]
  | cons c cs ih =>
    have ⟨hdq, hd⟩ := head_ne_and_not_mem_tail h.1
    have ⟨hsq, hs⟩ := head_ne_and_not_mem_tail h.2
    have ⟨ih1, ih2⟩ := ih ⟨hd, hs⟩
    refine ⟨fun acc ha => ?_, ?_⟩
    · by_cases hc : c = SP
      · subst hc
        cases acc with
        | nil => exact absurd rfl ha
        | cons a as => simp [cmdGo, runsGo, ih2]
      · simp [cmdGo, runsGo, hc, ih1]
    · by_cases hc : c = SP
      · subst hc; simp [cmdGo, runsGo, ih2]
      · simp [cmdGo, runsGo, hc, hdq, hsq, ih1]

/-! ## igris::buffer comparisons -/

theorem strncmpEq_cstr (t junk : Str) (hn : NUL ∉ t) :
    ∀ (n : Nat) (a : Str), n ≤ a.length →
      strncmpEq a (t ++ NUL :: junk) n = some ((a.take n).takeWhile (· != NUL) == t.take n) := by
  intro n
  induction n generalizing t with
  | zero => intro a _; simp [strncmpEq]
  | succ n ih =>
    intro a hle
    match a, hle with
    | x :: a', hle =>
      have hle' : n ≤ a'.length := by simpa using hle
      cases t with
      | nil =>
        by_cases hx : x = NUL
        · subst hx; simp [strncmpEq]
        · simp [strncmpEq, hx]
      | cons y t' =>
        have ⟨hy, ht'⟩ := head_ne_and_not_mem_tail hn
        by_cases hxy : x = y
        · subst hxy
          simp [strncmpEq, hy, ih t' ht' a' hle']
        · by_cases hx : x = NUL
          · subst hx; simp [strncmpEq, hxy]
          · simp [strncmpEq, hxy, hx]

/-! ## dstring -/

theorem nibbles_reassemble : ∀ c : Byte, (((c &&& 0xF0#8) >>> 4) <<< 4 ||| (c &&& 0x0F#8)) = c := by decide +kernel

theorem hexDigit_roundtrip : ∀ n : Byte, n.toNat < 16 →
    unhexD (half2hex n) = some n ∧ isPrint (half2hex n) = true := by decide +kernel

theorem nibbles_lt (c : Byte) : ((c &&& 0xF0#8) >>> 4).toNat < 16 ∧ (c &&& 0x0F#8).toNat < 16 := by
  constructor
  · rw [BitVec.toNat_ushiftRight, Nat.shiftRight_eq_div_pow]
    have : (c &&& 0xF0#8).toNat < 256 := (c &&& 0xF0#8).isLt
    omega
  · rw [BitVec.toNat_and]
    exact Nat.lt_of_le_of_lt Nat.and_le_right (by decide)

theorem dstringByte_shape (c : Byte) :
    (c = BSL ∧ dstringByte c = [BSL, BSL]) ∨
    (c ≠ BSL ∧ isPrint c = true ∧ dstringByte c = [c]) ∨
    (c = NL ∧ dstringByte c = [BSL, LN]) ∨
    (c = TAB ∧ dstringByte c = [BSL, LT]) ∨
    dstringByte c = [BSL, LX, half2hex ((c &&& 0xF0#8) >>> 4), half2hex (c &&& 0x0F#8)] := by
  unfold dstringByte
  by_cases h1 : c = BSL
  · exact Or.inl ⟨h1, by simp [h1]⟩
  · by_cases h2 : isPrint c = true
    · exact Or.inr (Or.inl ⟨h1, h2, by simp [h1, h2]⟩)
    · by_cases h3 : c = NL
      · subst h3; exact Or.inr (Or.inr (Or.inl ⟨rfl, by decide⟩))
      · by_cases h4 : c = TAB
        · subst h4; exact Or.inr (Or.inr (Or.inr (Or.inl ⟨rfl, by decide⟩)))
        · exact Or.inr (Or.inr (Or.inr (Or.inr (by simp [h1, h2, h3, h4]))))

theorem dstringByte_printable (c : Byte) : ∀ x ∈ dstringByte c, isPrint x = true := by
  have ⟨hh, hl⟩ := nibbles_lt c
  rcases dstringByte_shape c with ⟨_, e⟩ | ⟨_, hp, e⟩ | ⟨_, e⟩ | ⟨_, e⟩ | e <;> rw [e] <;>
    simp only [List.mem_cons, List.not_mem_nil, or_false, forall_eq_or_imp, forall_eq]
  · decide
  · exact hp
  · decide
  · decide
  · exact ⟨by decide, by decide, (hexDigit_roundtrip _ hh).2, (hexDigit_roundtrip _ hl).2⟩

theorem dstringByte_length (c : Byte) : 1 ≤ (dstringByte c).length ∧ (dstringByte c).length ≤ 4 := by
  rcases dstringByte_shape c with ⟨_, e⟩ | ⟨_, _, e⟩ | ⟨_, e⟩ | ⟨_, e⟩ | e <;> simp [e]

theorem decodeD_byte (c : Byte) (rest : Str) (f : Nat) :
    decodeD (f + 1) (dstringByte c ++ rest) = (decodeD f rest).map (c :: ·) := by
  have e2 : (LN == BSL) = false := by decide
  have e3 : (LT == BSL) = false := by decide
  have e4 : (LX == BSL) = false := by decide
  have e5 : (LT == LN) = false := by decide
  have e6 : (LX == LN) = false := by decide
  have e7 : (LX == LT) = false := by decide
  rcases dstringByte_shape c with ⟨h, e⟩ | ⟨h, _, e⟩ | ⟨h, e⟩ | ⟨h, e⟩ | e
  · subst h; rw [e]; simp [decodeD]
  · rw [e]
    have : (c != BSL) = true := by simp [h]
    simp [decodeD, this]
  · subst h; rw [e]; simp [decodeD, e2]
  · subst h; rw [e]; simp [decodeD, e3, e5]
  · have ⟨hh, hl⟩ := nibbles_lt c
    rw [e]; simp [decodeD, e4, e6, e7, (hexDigit_roundtrip _ hh).1, (hexDigit_roundtrip _ hl).1, nibbles_reassemble c]

theorem decodeD_dstring (s : Str) : ∀ f, s.length < f → decodeD f (dstring s) = some s := by
  induction s with
  | nil => intro f hf; cases f with | zero => omega | succ f => simp [dstring, decodeD]
  | cons c r ih =>
    intro f hf
    cases f with
    | zero => omega
    | succ f =>
      have := ih f (by simpa using hf)
      simp [dstring, decodeD_byte, this]

theorem dstring_length (s : Str) : s.length ≤ (dstring s).length ∧ (dstring s).length ≤ 4 * s.length := by
  induction s with
  | nil => simp [dstring]
  | cons c r ih =>
    have := dstringByte_length c
    simp only [dstring, List.length_append, List.length_cons]
    omega

end Igris.C19
