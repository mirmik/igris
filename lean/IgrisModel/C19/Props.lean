/-
  C19 — PROPERTY THEOREMS.

  Property: "Text, path and command-line utilities match their definitions and
  stay in bounds.  For every input, split returns exactly the maximal runs of
  non-delimiter characters in order, join is its inverse on such token lists,
  trim removes exactly the leading and trailing white space, replace performs
  left-to-right non-overlapping substitution and igris_memmem finds the first
  occurrence or none.  The argv splitter and the shell dispatchers tokenise on
  white space, never produce more than the allowed arguments, invoke the
  handler of the first token if and only if it names a command, and tolerate
  empty and blank lines.  Path helpers (next, iterate, compare_node,
  remove_prefix) agree with a component-wise reference, and none of these
  routines reads or writes outside the extent of the buffers it is given."

  Model: Model.lean (the code after the fix-C19 repairs).  Specifications:
  Spec.lean.  "Stays in bounds" is part of every `… = some …` statement: the
  model functions return `none` on an access outside the extent they are given
  (see the header of Model.lean), so equality with `some spec` says at once
  "no fault, enough fuel, and this value".
-/
import IgrisModel.C19.Reader
import IgrisModel.C19.RefineShell
import IgrisModel.C19.RefinePath
namespace Igris.C19
open Igris.Proto

/-! ## split -/

/-- `split(buf, delim)`: for every buffer (any bytes, any length, not
terminated) exactly the maximal runs of characters `≠ delim`, and no access
outside the buffer -/
theorem splitChar_eq_runs (buf : Str) (delim : Byte) :
    splitChar buf delim = some (runs (· == delim) buf) := by
  unfold splitChar
  rw [splitCharLoop_eq delim _ buf [] (by omega)]
  simp

theorem runs_tokens (d : Byte → Bool) (s : Str) :
    ∀ t ∈ runs d s, t ≠ [] ∧ ∀ c ∈ t, d c = false :=
  runsGo_tokens d s [] (by simp)

/-- nothing lost, nothing invented, nothing reordered -/
theorem runs_flatten (d : Byte → Bool) (s : Str) :
    (runs d s).flatten = s.filter (fun c => !d c) := by
  simpa [runs] using runsGo_flatten d s []

/-- `split(buf, delims)` as the code is: NUL is a delimiter too, whatever
`delims` says (`strchr(delims, 0)` finds the terminator of `delims`).
Holds for every buffer; no access outside the buffer. -/
theorem splitDelims_eq_runs_with_nul (buf delims : Str) :
    splitDelims buf delims = some (runs (fun c => c == NUL || delims.contains c) buf) := by
  refine length_guard buf rfl fun h => ?_
  rw [splitDelims, if_neg h, splitDelimsLoop_eq delims _ buf [] (by omega)]
  simp only [List.nil_append]
  rfl

/-
  FULL STATEMENT (false on the tree, see `splitDelims_nul_witness`):
     ∀ buf delims, splitDelims buf delims = some (runs (fun c => delims.contains c) buf)
  Proved part: buffers without NUL.   Recorded finding: C19-split-delims-nul.
-/
theorem splitDelims_eq_runs_partial (buf delims : Str) (h : NUL ∉ buf) :
    splitDelims buf delims = some (runs (fun c => delims.contains c) buf) := by
  rw [splitDelims_eq_runs_with_nul, runs_or_NUL _ buf h]

/-- "a\0a" split at "," : the code returns two tokens, the definition one -/
theorem splitDelims_nul_witness :
    splitDelims [0x61#8, NUL, 0x61#8] [0x2c#8]
      ≠ some (runs (fun c => [0x2c#8].contains c) [0x61#8, NUL, 0x61#8]) := by decide

-- non-vacuity of the hypothesis of `splitDelims_eq_runs_partial`
example : NUL ∉ ([0x61#8, 0x20#8, 0x62#8] : Str) := by decide

/-- before `fix: split(buffer, char) tests for the end of the buffer …` the
delimiter-skipping loop read the byte behind the buffer — on the empty buffer
and after the last token of any other -/
theorem splitCharOrig_overread_witness :
    splitCharOrig [] SP = none ∧ splitCharOrig [0x61#8] SP = none := by decide

/-! ## join, and join ∘ split / split ∘ join -/

/-- `join(vec, delim)` = the tokens with one delimiter between neighbours -/
theorem join_eq_intercalate (vec : List Str) (delim : Byte) :
    join vec delim = List.intercalate [delim] vec := by
  refine length_guard vec rfl fun h => ?_
  rw [join, if_neg h, joinLoop_eq]; simp

/-- the iterator-range `join` of string.h (with the repaired empty range) -/
theorem joinFmt_eq (vec : List Str) (delim pre post : Str) :
    joinFmt vec delim pre post = pre ++ List.intercalate delim vec ++ post := by
  refine length_guard vec (by simp [joinFmt, List.intercalate]) fun h => ?_
  simp only [joinFmt, if_neg h, joinLoop_eq]

/-- split ∘ join = id on lists of non-empty delimiter-free tokens -/
theorem split_join (toks : List Str) (delim : Byte)
    (h : ∀ t ∈ toks, t ≠ [] ∧ delim ∉ t) :
    splitChar (join toks delim) delim = some toks := by
  rw [splitChar_eq_runs, join_eq_intercalate]
  congr 1
  apply runs_split_join _ delim (by simp)
  intro t ht
  refine ⟨(h t ht).1, fun c hc => ?_⟩
  have : c ≠ delim := fun e => (h t ht).2 (e ▸ hc)
  simpa using this

-- the hypothesis is satisfiable
example : ∀ t ∈ ([[0x61#8], [0x62#8, 0x63#8]] : List Str), t ≠ [] ∧ SP ∉ t := by decide

/-- what split returns is such a token list: join ∘ split is a fixed point of split -/
theorem split_join_split (buf : Str) (delim : Byte) :
    ∀ toks, splitChar buf delim = some toks → splitChar (join toks delim) delim = some toks := by
  intro toks h
  rw [splitChar_eq_runs] at h
  cases h
  apply split_join
  intro t ht
  have := runs_tokens (· == delim) buf t ht
  refine ⟨this.1, fun hm => ?_⟩
  have := this.2 delim hm
  simp at this


/-! ## trim -/

/-- `trim(view)` = the view without its leading and without its trailing
white space (`' ' \n \r \t`), for every buffer; all reads inside the view -/
theorem trim_eq_strip (view : Str) : trim view = strip isWsTrim view := by
  refine length_guard view rfl fun h => ?_
  unfold trim strip
  rw [if_neg h]
  cases hl : view.dropWhile isWsTrim with
  | nil => rfl
  | cons c cs =>
    have hc := dropWhile_head hl
    simp only [List.isEmpty_cons, Bool.false_eq_true, ↓reduceIte, List.reverse_cons]
    rw [trimBack_eq _ _ hc]

/-- "removes exactly the leading and trailing white space", declaratively:
the view is `pre ++ trim view ++ post` with `pre`, `post` white space only,
and a non-empty result neither starts nor ends with white space
(this determines `pre`, the result and `post` uniquely) -/
theorem trim_exact (view : Str) :
    ∃ pre post, view = pre ++ trim view ++ post
      ∧ (∀ c ∈ pre, isWsTrim c = true) ∧ (∀ c ∈ post, isWsTrim c = true)
      ∧ (∀ c, (trim view).head? = some c → isWsTrim c = false)
      ∧ (∀ c, (trim view).getLast? = some c → isWsTrim c = false) := by
  rw [trim_eq_strip]
  exact strip_exact isWsTrim view

/-! ## igris_memmem -/

/-- for a non-empty needle `igris_memmem` returns the offset of the first
occurrence, or NULL when there is none … -/
theorem memmem_eq_firstOcc (l s : Str) (hs : s ≠ []) : memmem l s = firstOcc s l :=
  memmem_eq_firstOcc_of_ne_nil l s hs

/-- … declaratively: a returned offset is an occurrence and no smaller offset is -/
theorem memmem_some (l s : Str) (i : Nat) (hs : s ≠ []) (h : memmem l s = some i) :
    s <+: l.drop i ∧ (∀ j, j < i → ¬ s <+: l.drop j) ∧ i + s.length ≤ l.length := by
  have h' := h
  rw [memmem_eq_firstOcc l s hs] at h'
  exact ⟨(firstOcc_some_spec s l i h').1, (firstOcc_some_spec s l i h').2, memmem_bound l s i hs h⟩

/-- NULL is returned only when the needle occurs nowhere -/
theorem memmem_none (l s : Str) (hs : s ≠ []) (h : memmem l s = none) : ∀ j, ¬ s <+: l.drop j := by
  rw [memmem_eq_firstOcc l s hs] at h
  exact firstOcc_none_spec s l hs h

/-- the routine's own convention ("we need something to compare"): an empty
needle is never found.  (`firstOcc [] l` would be `some 0`.) -/
theorem memmem_empty_needle (l : Str) : memmem l [] = none := by simp [memmem]

example : memmem [0x61#8, 0x62#8, 0x61#8, 0x62#8] [0x62#8] = some 1 := by decide

/-! ## replace -/

/-- `igris::replace(input, sub, rep)` = left-to-right non-overlapping
substitution (an empty pattern replaces nothing), for all inputs -/
theorem replace_eq_subst (input sub rep : Str) : replace input sub rep = some (subst sub rep input) := by
  refine length_guard sub rfl fun h => ?_
  have hs : sub ≠ [] := fun e => h (by simp [e])
  rw [replace, if_neg h, replaceLoop_eq sub rep hs _ input [] (by omega), subst]
  cases sub with
  | nil => exact absurd rfl hs
  | cons a as => simp

/-- the substitution spec itself: where the pattern does not occur nothing
changes, at the first occurrence the pattern is replaced and the scan resumes
*behind* it (non-overlapping, the replacement is not rescanned) -/
theorem subst_unfold (sub rep s : Str) (hs : sub ≠ []) :
    subst sub rep s =
      match firstOcc sub s with
      | none => s
      | some i => s.take i ++ rep ++ subst sub rep (s.drop (i + sub.length)) := by
  have he : sub.isEmpty = false := List.isEmpty_eq_false_iff.mpr hs
  unfold subst
  simp only [he, Bool.false_eq_true, ↓reduceIte]
  cases ho : firstOcc sub s with
  | none => exact substGo_none sub rep s ho
  | some i => exact substGo_some sub rep s i hs ho

/-! ## replace_substrings -/

/-- `replace_substrings(buffer, maxsize, …)`: the bytes written are, from
`buffer[0]` on, the substitution result cut to `maxsize - 1` characters and a
NUL; nothing for `maxsize = 0` -/
theorem replaceSubstrings_eq (maxsize : Nat) (input sub rep : Str) :
    replaceSubstrings maxsize input sub rep =
      some (if maxsize = 0 then [] else (subst sub rep input).take (maxsize - 1) ++ [NUL]) := by
  unfold replaceSubstrings subst
  split
  · rfl
  · split
    · rename_i h
      have : sub = [] := List.eq_nil_of_length_eq_zero h
      subst this
      simp only [List.isEmpty_nil, ↓reduceIte]
      congr 2
      rw [List.take_eq_take_iff]
      omega
    · rename_i h
      have hs : sub ≠ [] := fun e => h (by simp [e])
      have he : sub.isEmpty = false := List.isEmpty_eq_false_iff.mpr hs
      have := rsLoop_eq sub rep hs (maxsize - 1) (input.length + 1) input [] (by omega)
      simp only [RsRep, List.take_nil, List.length_nil, Nat.sub_zero, List.nil_append] at this
      simp only [this, he, Bool.false_eq_true, ↓reduceIte]

/-- hence no byte at an offset `≥ maxsize` is written -/
theorem replaceSubstrings_in_bounds (maxsize : Nat) (input sub rep w : Str)
    (h : replaceSubstrings maxsize input sub rep = some w) : w.length ≤ maxsize := by
  rw [replaceSubstrings_eq] at h
  cases h
  split
  · simp
  · simp only [List.length_append, List.length_take, List.length_singleton]; omega

/-! ## split_cmdargs -/

/-- `split_cmdargs(buf)` = the quote-aware tokenisation `cmdargsSpec`, for
every buffer; no access outside the buffer -/
theorem splitCmdargs_eq (buf : Str) : splitCmdargs buf = some (cmdargsSpec buf) := by
  refine length_guard buf rfl fun h => ?_
  rw [splitCmdargs, if_neg h, cmdargsLoop_eq _ buf [] (by omega), cmdargsSpec]; simp

/-- without quote characters `split_cmdargs` is `split(buf, ' ')` -/
theorem cmdargsSpec_no_quotes (s : Str) (h : DQ ∉ s ∧ SQ ∉ s) :
    cmdargsSpec s = runs (· == SP) s :=
  (cmdGo_eq_runsGo s h).2


/-! ## the argv splitters -/

/-- `argvc_internal_split(data, argv, argcmax)` on a NUL-terminated line
(`text`, its terminator, anything behind it): no access behind the terminator,
at most `argcmax` pointers are stored, and the C strings they point to after
the call are exactly the first `argcmax` maximal runs of non-white-space
characters of `text` (white space = `" \r\n\t"`).  The line keeps its length. -/
theorem argvSplit_spec (text junk : Str) (argcmax : Nat) (hn : NUL ∉ text) :
    ∃ r, argvSplit (text ++ NUL :: junk) argcmax = some r
      ∧ r.argc = r.argv.length ∧ r.argc ≤ argcmax
      ∧ argStrings r.mem r.argv = some ((runs isWsArgv text).take argcmax)
      ∧ r.mem.length = (text ++ NUL :: junk).length := by
  obtain ⟨r, h1, h2, h3, h4, h5, _⟩ :=
    argvSplitNGo_spec argcmax ((text ++ NUL :: junk).length + 1) text 0 (by simp; omega)
  rw [strchrHit_ws_fun, runs_or_NUL _ text hn, Nat.sub_zero] at h3
  have hlen := congrArg List.length h3
  rw [List.length_map, List.length_take] at hlen
  exact ⟨⟨r.argc, r.argv, r.mem ++ NUL :: junk⟩,
    by rw [argvSplit, argvSplitGo_terminated argcmax junk _ text 0 hn, h1]; rfl,
    show r.argc = r.argv.length by omega, show r.argc ≤ argcmax by omega,
    by rw [argStrings_append_nul r.mem junk r.argv (h4 ▸ h5), h3], by simp [h4]⟩

-- the hypothesis is satisfiable, and a blank line gives argc = 0
example : NUL ∉ ([0x20#8, 0x61#8, 0x09#8, 0x62#8] : Str) := by decide
example : (argvSplit [0x20#8, 0x20#8, NUL] 10).map (·.argc) = some 0 := by decide

/-- `argvc_internal_split_n(data, maxlen, argv, argcmax)` on exactly `maxlen`
bytes, not terminated: no access at or behind `data[maxlen]`, at most `argcmax`
pointers, and the strings they point to (up to the next NUL or to
`data + maxlen`) are the first `argcmax` maximal runs of characters that are
neither white space nor NUL -/
theorem argvSplitN_spec (data : Str) (argcmax : Nat) :
    ∃ r, argvSplitN data argcmax = some r
      ∧ r.argc = r.argv.length ∧ r.argc ≤ argcmax
      ∧ r.argv.map (cstrAtN r.mem) = (runs (fun c => c == NUL || isWsArgv c) data).take argcmax
      ∧ r.mem.length = data.length := by
  obtain ⟨r, h1, h2, h3, h4, _⟩ := argvSplitNGo_spec argcmax (data.length + 1) data 0 (by omega)
  rw [strchrHit_ws_fun] at h3
  refine ⟨r, h1, by omega, ?_, by simpa using h3, h4⟩
  have : r.argv.length = ((runs (fun c => c == NUL || isWsArgv c) data).take (argcmax - 0)).length := by
    rw [← h3]; simp
  rw [h2, Nat.zero_add, this, List.length_take]
  omega

/-- what the two splitters write: the line after the call is the line before
it with some white-space characters (for the `_n` variant: or NULs) replaced
by NUL — same length, every other byte untouched, nothing outside the extent -/
theorem argvSplit_writes (data : Str) (argcmax : Nat) (r : ArgvRes)
    (h : argvSplit data argcmax = some r) : onlyTerminated r.mem data = true :=
  argvSplitGo_writes _ _ _ _ _ h

theorem argvSplitN_writes (data : Str) (argcmax : Nat) (r : ArgvRes)
    (h : argvSplitN data argcmax = some r) : onlyTerminated r.mem data = true := by
  obtain ⟨r', h1, _, _, _, _, h6⟩ := argvSplitNGo_spec argcmax (data.length + 1) data 0 (by omega)
  cases h1.symm.trans h
  exact h6

/-! ## the shell dispatchers -/

/-- all four dispatchers: on a NUL-terminated line the result is
`dispatchSpec` of the first 10 white-space separated tokens — return code for
empty and blank lines, ENOENT when the first token names no command,
otherwise exactly one call, of the first entry (table order, then entry order)
whose name equals the first token, with `argc - dropargs` and the tokens from
`dropargs` on.  No access behind the terminator, never more than 10 arguments. -/
theorem shellExecute_spec (rcEmpty : Int) (text junk : Str) (tables : List (List Str × Nat))
    (hn : NUL ∉ text) :
    shellExecute rcEmpty (text ++ NUL :: junk) tables
      = some (dispatchSpec rcEmpty ((runs isWsArgv text).take SSHELL_ARGCMAX) tables) := by
  obtain ⟨r, h1, h2, _, h3, _⟩ := argvSplit_spec text junk SSHELL_ARGCMAX hn
  have hlen := argStrings_length _ _ _ h3
  rw [shellExecute]
  simp only [head?_cstr, headD_eq_NUL hn, h1, h3, Option.bind_eq_bind, Option.bind_some, h2, ← hlen]
  cases text with
  | nil => rfl
  | cons c cs =>
    generalize (runs isWsArgv (c :: cs)).take SSHELL_ARGCMAX = toks
    cases toks with
    | nil => rfl
    | cons t0 rest => simp only [dispatchSpec]; cases findCmdTables t0 tables 0 <;> rfl

theorem mshellExecute_spec (text junk : Str) (table : List Str) (hn : NUL ∉ text) :
    mshellExecute (text ++ NUL :: junk) table
      = some (dispatchSpec ENOENT ((runs isWsArgv text).take 10) [(table, 0)]) :=
  shellExecute_spec _ _ _ _ hn

theorem mshellTablesExecute_spec (text junk : Str) (tables : List (List Str)) (hn : NUL ∉ text) :
    mshellTablesExecute (text ++ NUL :: junk) tables
      = some (dispatchSpec ENOENT ((runs isWsArgv text).take 10) (tables.map fun t => (t, 0))) :=
  shellExecute_spec _ _ _ _ hn

theorem rshellExecute_spec (text junk : Str) (table : List Str) (dropargs : Nat) (hn : NUL ∉ text) :
    rshellExecute (text ++ NUL :: junk) table dropargs
      = some (dispatchSpec 0 ((runs isWsArgv text).take 10) [(table, dropargs)]) :=
  shellExecute_spec _ _ _ _ hn

theorem rshellTablesExecute_spec (text junk : Str) (tables : List (List Str × Nat)) (hn : NUL ∉ text) :
    rshellTablesExecute (text ++ NUL :: junk) tables
      = some (dispatchSpec 0 ((runs isWsArgv text).take 10) tables) :=
  shellExecute_spec _ _ _ _ hn

/-- a handler is invoked if and only if the line has a first token and that
token is the name of an entry of one of the tables -/
theorem dispatch_calls_iff (rcBlank : Int) (toks : List Str) (tables : List (List Str × Nat)) :
    (dispatchSpec rcBlank toks tables).call.isSome
      ↔ ∃ t0 rest, toks = t0 :: rest ∧ ∃ e ∈ tables, t0 ∈ e.1 := by
  cases toks with
  | nil => simp [dispatchSpec]
  | cons t0 rest =>
    simp only [dispatchSpec]
    cases hf : findCmdTables t0 tables 0 with
    | none =>
      have := (findCmdTables_none_iff t0 tables 0).mp hf
      simp only [Option.isSome_none, Bool.false_eq_true, false_iff]
      rintro ⟨t, r, he, e, hmem, hin⟩
      cases he
      exact this e hmem hin
    | some p =>
      obtain ⟨t, i, tbl, _, htab, hi, _⟩ := findCmdTables_some_spec t0 tables 0 p.1 p.2 hf
      simp only [Option.isSome_some, true_iff]
      exact ⟨t0, rest, rfl, (tbl, p.2), List.mem_of_getElem? htab, List.mem_of_getElem? hi⟩

/-- … and it is the handler of the *first* such entry, called with the tokens
(minus `dropargs`): `h = 4 * table + entry` is the harness' numbering -/
theorem dispatch_call_spec (rcBlank : Int) (toks : List Str) (tables : List (List Str × Nat))
    (h : Nat) (argc : Int) (args : List Str)
    (hc : (dispatchSpec rcBlank toks tables).call = some (h, argc, args)) :
    ∃ t0 rest t i tbl drop, toks = t0 :: rest
      ∧ h = 4 * t + i ∧ tables[t]? = some (tbl, drop) ∧ tbl[i]? = some t0
      ∧ (∀ i', i' < i → tbl[i']? ≠ some t0)
      ∧ (∀ t', t' < t → ∀ e, tables[t']? = some e → t0 ∉ e.1)
      ∧ argc = (toks.length : Int) - drop ∧ args = toks.drop drop
      ∧ (dispatchSpec rcBlank toks tables).rc = 0 := by
  cases toks with
  | nil => simp [dispatchSpec] at hc
  | cons t0 rest =>
    simp only [dispatchSpec] at hc ⊢
    cases hf : findCmdTables t0 tables 0 with
    | none => rw [hf] at hc; simp at hc
    | some p =>
      obtain ⟨k, drop⟩ := p
      rw [hf] at hc
      simp only [Option.some.injEq, Prod.mk.injEq] at hc
      obtain ⟨t, i, tbl, hk, htab, hi, hfirst, hprev⟩ := findCmdTables_some_spec t0 tables 0 k drop hf
      exact ⟨t0, rest, t, i, tbl, drop, rfl, by omega, htab, hi, hfirst, hprev, hc.2.1.symm, hc.2.2.symm, rfl⟩

/-- before the repairs a blank line made the dispatchers use `argv[0]` without
ever having stored it -/
theorem shellExecuteOrig_blank_witness :
    shellExecuteOrig ENOENT [SP, SP, NUL] [([[0x61#8]], 0)] = none := by decide

-- a line with tokens, a table that names the first one
example : mshellExecute [0x61#8, 0x20#8, 0x62#8, NUL] [[0x62#8], [0x61#8]]
    = some ⟨0, some (1, 2, [[0x61#8], [0x62#8]])⟩ := by decide
-- blank line: tolerated
example : mshellExecute [0x20#8, 0x09#8, NUL] [[0x61#8]] = some ⟨ENOENT, none⟩ := by decide


/-! ## path helpers (NUL-terminated: `p` is the text, then the terminator, then
whatever else the allocation holds; a read behind the allocation is a fault) -/

/-- `path_next`: NULL iff nothing is left after the leading slashes and single
dots, else the offset of the first real component and its length -/
theorem pathNext_spec (p junk : Str) (hn : NUL ∉ p) :
    pathNext (p ++ NUL :: junk)
      = some (match skipRef p with
              | [] => none
              | c :: r => some (p.length - (c :: r).length, (headComp (c :: r)).length)) := by
  have hnr := skipRef_nonul p hn
  rw [pathNext]
  simp only [skipSlashDots_eq p junk hn, head?_cstr, headD_eq_NUL hnr, scanComp_eq _ junk hnr,
    Option.bind_eq_bind, Option.bind_some, length_append_sub]
  cases hr : skipRef p with
  | nil => rfl
  | cons c r =>
    simp only [List.isEmpty_cons, Bool.false_eq_true, if_false, headComp]
    rw [dropWhile_eq_drop, List.length_drop, Nat.sub_sub_self (length_takeWhile_le _ _)]

/-- component-wise: `path_next` returns NULL iff the path has no component;
otherwise it points at the first component (`"."` and empty pieces skipped)
and what follows `path + off + len` has exactly the remaining components —
walking with `path_next` enumerates `comps p` -/
theorem pathNext_components (p junk : Str) (hn : NUL ∉ p) :
    match pathNext (p ++ NUL :: junk) with
    | none => False
    | some none => comps p = []
    | some (some (off, len)) =>
        ∃ h t, comps p = h :: t ∧ (p.drop off).take len = h ∧ comps (p.drop (off + len)) = t := by
  rw [pathNext_spec p junk hn]
  have hc := skipRef_components p
  have hsuf := skipRef_suffix p
  cases hr : skipRef p with
  | nil => rw [hr] at hc; exact hc
  | cons c r =>
    rw [hr] at hc hsuf
    obtain ⟨h, t, h1, h2, h3, h4⟩ := hc
    obtain ⟨pre, hpre⟩ := hsuf
    have hoff : p.length - (c :: r).length = pre.length := by rw [← hpre]; simp
    have hdrop : p.drop pre.length = c :: r := by
      rw [← hpre]; simp
    refine ⟨h, t, h1, ?_, ?_⟩
    · simp only [hoff, hdrop, h2, h3]
    · simp only [hoff, h2, ← List.drop_drop, hdrop, h4]

/-- before the repair `path_is_single_dot` read the byte behind the terminator
whenever it was called at the end of a string (every path_next / path_iterate
walk ends there) -/
theorem isSingleDotOrig_overread_witness :
    isSingleDotOrig [NUL] = none ∧ isSingleDot [NUL] = some false := by decide

/-- `path_iterate`: NULL on the empty path, else the cursor at the next real
component behind the first piece (a leading slash is a piece of its own) -/
theorem pathIterate_spec (p junk : Str) (hn : NUL ∉ p) :
    pathIterate (p ++ NUL :: junk)
      = some (if p.isEmpty then none else some (iterRef p ++ NUL :: junk)) :=
  pathIterate_eq p junk hn

/-- `path_compare_node`: lexicographic order (signed `char`) of the two first pieces -/
theorem compareNode_spec (a ja b jb : Str) (ha : NUL ∉ a) (hb : NUL ∉ b) :
    compareNode (a ++ NUL :: ja) (b ++ NUL :: jb) = some (lexCmp (headComp a) (headComp b)) :=
  compareNode_eq a ja b jb ha hb

/-- in particular it returns 0 exactly when the first pieces are equal -/
theorem compareNode_zero_iff (a ja b jb : Str) (ha : NUL ∉ a) (hb : NUL ∉ b) :
    compareNode (a ++ NUL :: ja) (b ++ NUL :: jb) = some 0 ↔ headComp a = headComp b := by
  rw [compareNode_eq a ja b jb ha hb]
  simp [lexCmp_eq_zero_iff]

/-- `path_remove_prefix`: the cursor into `path` after stepping over the
leading pieces it shares with `prefix` (never NULL, never a fault) -/
theorem pathRemovePrefix_spec (p jp q jq : Str) (hp : NUL ∉ p) (hq : NUL ∉ q) :
    pathRemovePrefix (p ++ NUL :: jp) (q ++ NUL :: jq) = some (removePrefixSpec p q ++ NUL :: jp) := by
  unfold pathRemovePrefix removePrefixSpec
  rw [removePrefixLoop_eq _ p jp q jq hp hq (by simp; omega)]
  congr 2
  exact removePrefixRef_stable _ _ p q (by simp; omega) (by omega)

/-- the result is a suffix of `path` -/
theorem removePrefixSpec_suffix (p q : Str) : removePrefixSpec p q <:+ p :=
  removePrefixRef_suffix _ p q

-- "/a/b" minus "/a/c" = "b" (cf. pathops.remove_prefix_3 of tests/pathops.cpp)
example : pathRemovePrefix [SLASH, 0x61#8, SLASH, 0x62#8, NUL] [SLASH, 0x61#8, SLASH, 0x63#8, NUL]
    = some [0x62#8, NUL] := by decide


/-! ## creader_readline -/

/-- one call with the cursor anywhere inside the buffer: -1 at the end,
otherwise the length of the next line as `lineRef` defines it, `*token` = the
old cursor, and the cursor moves behind the line and its terminator.
No access outside `[strt, fini)`. -/
theorem creaderReadline_spec (mem : Str) (cursor : Nat) (h : cursor ≤ mem.length) :
    creaderReadline mem cursor
      = some (if (mem.drop cursor).isEmpty then (-1, cursor, cursor)
              else (((lineRef (mem.drop cursor)).1 : Int), cursor, cursor + (lineRef (mem.drop cursor)).2)) :=
  creaderReadline_eq mem cursor h

/-- every successful call consumes at least one character and stays inside … -/
theorem lineRef_progress (s : Str) (hs : s ≠ []) : 1 ≤ (lineRef s).2 ∧ (lineRef s).2 ≤ s.length :=
  lineRef_used s hs

/-- … hence a read loop `while ((len = creader_readline(..)) >= 0)` ends after
at most `size + 1` calls, on every buffer (also one whose last line has no
terminator) -/
theorem creader_loop_ends (mem : Str) : ∃ l, creaderAll mem (mem.length + 2) 0 = some (l, true) :=
  creaderAll_ends mem _ 0 (by omega) (by omega)

-- "a\r\n" is one line of length 1 ("a\n" gave 0 before the repair)
example : creaderReadline [0x61#8, CR, NL] 0 = some (1, 0, 3) := by decide

/-! # The remaining routines of the anchored files

Model: Model2.lean, reference definitions: Spec2.lean.
A C string is again `text ++ NUL :: junk` (the whole allocation), `= some …`
says "no access outside the extent" as well. -/

/-! ## pathops.h: predicates -/

/-- `path_is_abs`: the first character is `'/'` (false for the empty path) -/
theorem pathIsAbs_spec (s junk : Str) (hn : NUL ∉ s) :
    pathIsAbs (s ++ NUL :: junk) = some (s.head? == some SLASH) := by
  cases s with
  | nil => simp [pathIsAbs]; decide
  | cons c r => simp [pathIsAbs]

/-- `path_is_simple`: no `'/'` anywhere in the path; stops at the terminator -/
theorem pathIsSimple_spec (s junk : Str) (hn : NUL ∉ s) :
    pathIsSimple (s ++ NUL :: junk) = some (!s.contains SLASH) := by
  induction s with
  | nil => simp [pathIsSimple]
  | cons c r ih =>
    have ⟨hc, hr⟩ := head_ne_and_not_mem_tail hn
    simp only [List.cons_append, pathIsSimple]
    by_cases hs : c = SLASH
    · subst hs; simp; decide
    · have hs' : ¬ SLASH = c := fun e => hs e.symm
      simp [hc, hs, hs', ih hr]

/-- `path_is_double_dot`: the first piece of the path (up to the first `'/'`)
is exactly `".."`; `path[1]`, `path[2]` are read only inside the string -/
theorem pathIsDoubleDot_spec (s junk : Str) (hn : NUL ∉ s) :
    pathIsDoubleDot (s ++ NUL :: junk) = some (headComp s == [DOT, DOT]) := by
  have e1 : ¬ NUL = DOT := by decide
  have e2 : (DOT != SLASH) = true := by decide
  have e4 : ¬ SLASH = DOT := by decide
  match s, hn with
  | [], _ => simp [pathIsDoubleDot, headComp, e1]
  | c0 :: r0, hn =>
    by_cases h0 : c0 = DOT
    · subst h0
      match r0, hn with
      | [], _ => simp [pathIsDoubleDot, headComp, e1, e2]
      | c1 :: r1, hn =>
        by_cases h1 : c1 = DOT
        · subst h1
          match r1, hn with
          | [], _ => simp [pathIsDoubleDot, headComp, e2]
          | c2 :: r2, hn =>
            have h2 : c2 ≠ NUL := fun e => hn (by simp [e])
            by_cases h3 : c2 = SLASH
            · subst h3; simp [pathIsDoubleDot, headComp, e2]
            · have h3' : (c2 != SLASH) = true := by simp [h3]
              simp [pathIsDoubleDot, headComp, h2, h3, h3', e2]
        · by_cases h1s : c1 = SLASH
          · subst h1s; simp [pathIsDoubleDot, headComp, e2, e4]
          · have h1' : (c1 != SLASH) = true := by simp [h1s]
            simp [pathIsDoubleDot, headComp, h1, h1', e2]
    · by_cases h0s : c0 = SLASH
      · subst h0s; simp [pathIsDoubleDot, headComp, e4]
      · have h0' : (c0 != SLASH) = true := by simp [h0s]
        simp [pathIsDoubleDot, headComp, h0, h0']

example : NUL ∉ ([DOT, DOT, SLASH, 0x61#8] : Str) := by decide

/-! ## path_last_node -/

/-- the algorithm of `path_last_node`, for ANY separator byte: the returned
pointer is `path + (length - |lastSeg|)`, i.e. it points at what stands behind
the last separator (at the whole path when there is none, at the terminator
when the path ends with the separator); every read lies inside the string -/
theorem pathLastNodeSep_spec (sep : Byte) (s junk : Str) (hn : NUL ∉ s) :
    pathLastNodeSep sep (s ++ NUL :: junk) = some (s.length - (lastSeg sep s).length) := by
  rw [pathLastNodeSep]
  simp only [head?_cstr, headD_eq_NUL hn, strlenZ_eq s junk hn, Option.bind_eq_bind, Option.bind_some]
  cases hs : s with
  | nil => rfl
  | cons c r =>
    rw [← hs]
    have := lastNode_eq sep s (NUL :: junk) s.length (by simp [hs]) (Nat.le_refl _)
    rw [List.take_length] at this
    rw [show s.isEmpty = false by rw [hs]; rfl]
    simp only [Bool.false_eq_true, if_false]
    rw [this, lastSeg, List.length_reverse]

/-- `lastSeg` is what its name says, and it is the suffix of `s` at the returned offset -/
theorem lastSeg_exact (sep : Byte) (s : Str) :
    (∃ pre, s = pre ++ lastSeg sep s ∧ sep ∉ lastSeg sep s ∧ (pre = [] ∨ pre.getLast? = some sep))
    ∧ s.drop (s.length - (lastSeg sep s).length) = lastSeg sep s := by
  -- `s.reverse` is `takeWhile ++ dropWhile`; reversed back, the `dropWhile` part is what precedes the last segment,
  -- and its head (the separator that stopped the scan) is the last byte of it
  have hc : ∃ pre, s = pre ++ lastSeg sep s ∧ sep ∉ lastSeg sep s ∧ (pre = [] ∨ pre.getLast? = some sep) := by
    refine ⟨(s.reverse.dropWhile (· != sep)).reverse, ?_, ?_, ?_⟩
    · rw [lastSeg, ← List.reverse_append, List.takeWhile_append_dropWhile, List.reverse_reverse]
    · intro hm
      have := mem_takeWhile_sat (p := (· != sep)) (l := s.reverse) (x := sep) (by simpa [lastSeg] using hm)
      simp at this
    · cases hd : s.reverse.dropWhile (· != sep) with
      | nil => exact Or.inl rfl
      | cons x xs =>
        have hx : x = sep := by simpa using dropWhile_head hd
        exact Or.inr (by rw [List.getLast?_reverse, hx]; rfl)
  refine ⟨hc, ?_⟩
  obtain ⟨pre, h1, _, _⟩ := hc
  have hl : s.length = pre.length + (lastSeg sep s).length := by
    conv => lhs; rw [h1]
    simp
  conv => lhs; arg 2; rw [h1]
  rw [hl]; simp

/-- the code as it is: the separator is the backslash -/
theorem pathLastNode_spec (s junk : Str) (hn : NUL ∉ s) :
    pathLastNode (s ++ NUL :: junk) = some (s.length - (lastSeg BSL s).length) :=
  pathLastNodeSep_spec BSL s junk hn

/-
  FULL STATEMENT in the reading of every other helper of pathops.h (false on the
  tree, see `pathLastNode_slash_witness`):
     ∀ s, pathLastNode (s ++ NUL :: junk) = some (s.length - (lastSeg SLASH s).length)
  Proved part: paths in which neither separator occurs.
  Recorded finding: C19-path-last-node-backslash.
-/
theorem pathLastNode_slash_partial (s junk : Str) (hn : NUL ∉ s) (h1 : BSL ∉ s) (h2 : SLASH ∉ s) :
    pathLastNode (s ++ NUL :: junk) = some (s.length - (lastSeg SLASH s).length) := by
  rw [pathLastNode_spec s junk hn, lastSeg_of_not_mem BSL s h1, lastSeg_of_not_mem SLASH s h2]

/-- `path_last_node("a/b")` returns `"a/b"`, not `"b"` -/
theorem pathLastNode_slash_witness :
    pathLastNode [0x61#8, SLASH, 0x62#8, NUL]
      ≠ some (([0x61#8, SLASH, 0x62#8] : Str).length - (lastSeg SLASH [0x61#8, SLASH, 0x62#8]).length) := by
  decide

example : NUL ∉ ([0x61#8, 0x62#8] : Str) ∧ BSL ∉ ([0x61#8, 0x62#8] : Str) ∧ SLASH ∉ ([0x61#8, 0x62#8] : Str) := by
  decide

/-- before `fix: path_last_node("") …` the loop stepped in front of the string -/
theorem pathLastNodeOrig_underread_witness :
    pathLastNodeOrig [NUL] = none ∧ pathLastNodeOrig [NUL, 0x61#8] = none ∧ pathLastNode [NUL] = some 0 := by
  decide

/-! ## path_next(path, NULL), argvc_length_of_first -/

/-- `path_next(path, NULL)` finds the same component as `path_next(path, &len)` -/
theorem pathNextNoLen_spec (p junk : Str) (hn : NUL ∉ p) :
    pathNextNoLen (p ++ NUL :: junk)
      = some (match skipRef p with
              | [] => none
              | c :: r => some (p.length - (c :: r).length)) := by
  rw [pathNextNoLen]
  simp only [skipSlashDots_eq p junk hn, head?_cstr, headD_eq_NUL (skipRef_nonul p hn),
    Option.bind_eq_bind, Option.bind_some, length_append_sub]
  cases skipRef p <;> rfl

/-- `argvc_length_of_first`: the length of the run in front of the first space -/
theorem lengthOfFirst_spec (s junk : Str) (hn : NUL ∉ s) :
    lengthOfFirst (s ++ NUL :: junk) = some (s.takeWhile (· != SP)).length := by
  induction s with
  | nil => simp [lengthOfFirst]
  | cons c r ih =>
    have ⟨hc, hr⟩ := head_ne_and_not_mem_tail hn
    simp only [List.cons_append, lengthOfFirst, List.takeWhile_cons]
    by_cases hs : c = SP
    · subst hs; simp
    · simp [hs, hc, ih hr]

/-! ## creader_skip / creader_skipws -/

/-- `creader_skip`: the count is the length of the longest prefix of the unread
part made of characters of `symbols`, the cursor ends behind it; the unread
part is not read beyond `fini`, `symbols` not behind its terminator -/
theorem creaderSkip_spec (cur sy junk : Str) (hn : NUL ∉ sy) :
    creaderSkip cur (sy ++ NUL :: junk)
      = some ((cur.takeWhile (sy.contains ·)).length, cur.dropWhile (sy.contains ·)) := by
  simpa [creaderSkip] using creaderSkipLoop_eq sy junk hn cur 0

/-- `creader_skipws` leaves the cursor at the first character that is not one
of tab, LF, CR, space (or at the end), and counts what it passed -/
theorem creaderSkipws_spec (cur : Str) :
    creaderSkipws cur
      = some ((cur.takeWhile isWsTrim).length, cur.dropWhile isWsTrim) := by
  have h := creaderSkip_spec cur [TAB, NL, CR, SP] [] (by decide)
  have hf : (fun c => ([TAB, NL, CR, SP] : Str).contains c) = isWsTrim := by
    funext c
    simp only [isWsTrim, List.contains_cons, List.contains_nil, Bool.or_false]
    cases h1 : (c == SP) <;> cases h2 : (c == NL) <;> cases h3 : (c == CR) <;> cases h4 : (c == TAB) <;> rfl
  rw [hf] at h
  exact h

theorem creaderSkipws_exact (cur : Str) :
    ∃ n rest, creaderSkipws cur = some (n, rest) ∧ cur = cur.take n ++ rest ∧
      (∀ c ∈ cur.take n, isWsTrim c = true) ∧ (∀ c r, rest = c :: r → isWsTrim c = false) := by
  refine ⟨_, _, creaderSkipws_spec cur, ?_, ?_, ?_⟩
  · rw [take_takeWhile_length]; exact List.takeWhile_append_dropWhile.symm
  · intro c hc
    rw [take_takeWhile_length] at hc
    exact mem_takeWhile_sat hc
  · intro c r hr
    exact dropWhile_head hr

/-! ## igris::buffer -/

/-- `buffer == buffer` (after the repair) is equality of the byte sequences,
`!=` its negation; neither reads outside the two extents -/
theorem bufEq_spec (a b : Str) : bufEq a b = some (decide (a = b)) ∧ bufNe a b = some (decide (a ≠ b)) := by
  have he : bufEq a b = some (decide (a = b)) := by
    unfold bufEq memcmpEq
    by_cases hl : a.length = b.length
    · by_cases h0 : a.length = 0
      · have ha : a = [] := List.eq_nil_of_length_eq_zero h0
        have hb : b = [] := List.eq_nil_of_length_eq_zero (by omega)
        subst ha; subst hb; simp
      · have hb0 : b ≠ [] := by intro e; subst e; simp at hl; exact h0 (by simp [hl])
        have ha : a.take b.length = a := by rw [← hl]; exact List.take_length
        simp [hl, hb0, ha, Bool.beq_eq_decide_eq]
    · have hne : a ≠ b := fun e => hl (by rw [e])
      simp [hl, hne]
  refine ⟨he, ?_⟩
  have h : bufNe a b = (bufEq a b).map (!·) := by
    unfold bufNe bufEq
    split
    · rfl
    · split <;> rfl
  rw [h, he]
  simp

/-- before `fix: buffer == … memcmp`: "a\0b" == "a\0c" -/
theorem bufEqOrig_nul_witness :
    bufEqOrig [0x61#8, NUL, 0x62#8] [0x61#8, NUL, 0x63#8] = some true := by decide

/-- `buffer == const char*` exactly as the code is (`strncmp(buf, str, sz) == 0`),
for every buffer and every C string: the buffer's bytes up to its first NUL
are compared with the first `sz` characters of `str`.  No read outside the
buffer or behind the terminator of `str`. -/
theorem bufEqZ_exact (a t junk : Str) (hn : NUL ∉ t) :
    bufEqZ a (t ++ NUL :: junk) = some (a.takeWhile (· != NUL) == t.take a.length) := by
  have := strncmpEq_cstr t junk hn a.length a (Nat.le_refl _)
  simpa [bufEqZ, List.take_length] using this

/-
  FULL STATEMENT (false on the tree, see `bufEqZ_prefix_witness`):
     ∀ a t, bufEqZ a (t ++ NUL :: junk) = some (decide (a = t))
  Proved part: NUL-free buffers compared with strings that are not longer.
  Recorded finding: C19-buffer-eq-cstr-prefix.
-/
theorem bufEqZ_partial (a t junk : Str) (hn : NUL ∉ t) (ha : NUL ∉ a) (hl : t.length ≤ a.length) :
    bufEqZ a (t ++ NUL :: junk) = some (decide (a = t)) := by
  rw [bufEqZ_exact a t junk hn, takeWhile_ne_of_not_mem a NUL ha, List.take_of_length_le hl, Bool.beq_eq_decide_eq]

/-- `buffer("c", 1) == "cmd"` and `buffer("ab\0x", 4) == "ab"` hold -/
theorem bufEqZ_prefix_witness :
    bufEqZ [0x63#8] [0x63#8, 0x6d#8, 0x64#8, NUL] = some true ∧
    bufEqZ [0x61#8, 0x62#8, NUL, 0x78#8] [0x61#8, 0x62#8, NUL] = some true := by decide

example : NUL ∉ ([0x61#8] : Str) ∧ ([0x61#8] : Str).length ≤ ([0x61#8, 0x62#8] : Str).length := by decide

/-! ## dstring -/

/-- the notation is unambiguous: reading the output back gives the input, for
every byte string (so `dstring` is injective) -/
theorem undstring_dstring (s : Str) : undstring (dstring s) = some s :=
  decodeD_dstring s _ (by have := (dstring_length s).1; omega)

theorem dstring_injective (s t : Str) (h : dstring s = dstring t) : s = t := by
  have h1 := undstring_dstring s
  rw [h, undstring_dstring t] at h1
  exact (Option.some.inj h1).symm

/-- the output is printable ASCII only and at most four characters per byte
(`bytes_to_dstring` needs `4 * size + 1` bytes of room, never more) -/
theorem dstring_output (s : Str) :
    (∀ c ∈ dstring s, isPrint c = true) ∧ (dstring s).length ≤ 4 * s.length := by
  refine ⟨?_, (dstring_length s).2⟩
  induction s with
  | nil => simp [dstring]
  | cons c r ih =>
    intro x hx
    simp only [dstring, List.mem_append] at hx
    rcases hx with hx | hx
    · exact dstringByte_printable c x hx
    · exact ih x hx

/-- before `fix: dstring … escape the backslash`: the two bytes `\ n` and the
line feed had the same image -/
theorem dstringOrig_ambiguous_witness :
    dstringOrig [BSL, LN] = dstringOrig [NL] ∧ ([BSL, LN] : Str) ≠ [NL] := by decide

/-! ## help texts -/

/-- `mshell_help` / `mshell_tables_help`: the pieces handed to `write`, in call
order, concatenate to the help text of the table(s) -/
theorem mshellHelp_spec (t : List HelpEntry) (ts : List (List HelpEntry)) :
    (mshellHelp t).flatten = helpText t ∧ (mshellTablesHelp ts).flatten = helpTextTables ts := by
  have h1 : ∀ t, (mshellHelp t).flatten = helpText t := by
    intro t
    induction t with
    | nil => rfl
    | cons e r ih =>
      obtain ⟨name, help⟩ := e
      cases help <;> simp [mshellHelp, helpText, helpLine, ih] <;> rfl
  refine ⟨h1 t, ?_⟩
  induction ts with
  | nil => rfl
  | cons t r ih => simp [mshellTablesHelp, helpTextTables, h1, ih]

/-- `rshell_help(table, ans, ansmax)` for `ansmax ≥ 1`: the answer is the help
text cut to `ansmax - 1` characters plus the terminator, the return value its
length; at most `ansmax` bytes are written -/
theorem rshellHelp_spec (t : List HelpEntry) (m : Nat) (h : 0 < m) :
    rshellHelp t (m : Int)
      = (((helpText t).take (m - 1)).length, (helpText t).take (m - 1) ++ [NUL])
    ∧ (rshellHelp t (m : Int)).2.length ≤ m := by
  rw [rshellHelp_pos t m h]
  refine ⟨rfl, ?_⟩
  simp [List.length_take]; omega

example : (0 : Nat) < 1 := by decide

/-- `rshell_tables_help` for `ansmax ≥ 1`: the concatenated help texts cut to
`ansmax - 2` characters (the routine keeps one byte more in reserve than
`rshell_help`) plus the terminator; at most `ansmax` bytes are written — also
for `ansmax = 1`, where the unrepaired code gave `memcpy` the length -1 -/
theorem rshellTablesHelp_spec (ts : List (List HelpEntry)) (m : Nat) (h : 0 < m) :
    rshellTablesHelp ts (m : Int)
      = (((helpTextTables ts).take (m - 2)).length, (helpTextTables ts).take (m - 2) ++ [NUL])
    ∧ (rshellTablesHelp ts (m : Int)).2.length ≤ m := by
  have hm0 : m ≠ 0 := by omega
  have := rshellTablesHelpLoop_eq m ts []
  simp only [List.take_nil, List.nil_append] at this
  have hpos : rshellTablesHelp ts (m : Int)
      = (((helpTextTables ts).take (m - 2)).length, (helpTextTables ts).take (m - 2) ++ [NUL]) := by
    simp [rshellTablesHelp, hm0, this]
  rw [hpos]
  refine ⟨rfl, ?_⟩
  simp [List.length_take]; omega

/-- no room, nothing written (both routines) -/
theorem rshellHelp_no_room (t : List HelpEntry) (ts : List (List HelpEntry)) (m : Int) (h : m ≤ 0) :
    rshellHelp t m = (0, []) ∧ rshellTablesHelp ts m = (0, []) := by
  simp [rshellHelp, rshellTablesHelp, h]

example : (-1 : Int) ≤ 0 := by decide

/-! ## rshell_execute_v called with the caller's argv -/

/-- with `argc ≥ 1` the routine is `dispatchSpec` on the argument strings as
they are (no tokenising: they may contain white space) -/
theorem rshellExecuteV_spec (a0 : Str) (rest : List Str) (table : List Str) (dropargs : Nat) :
    rshellExecuteV (a0 :: rest) table dropargs
      = some (dispatchSpec 0 (a0 :: rest) [(table, dropargs)]) := by
  simp only [rshellExecuteV, dispatchSpec, findCmdTables]
  cases findCmd a0 table 0 <;> simp

/-- `argc = 0` is outside the routine's contract: it reads `argv[0]` -/
theorem rshellExecuteV_argc0_witness (table : List Str) (d : Nat) :
    rshellExecuteV [] table d = none := rfl


/-! # "Stays in bounds" as a theorem

Pointer-level models: Ptr.lean (explicit indices into a memory of exactly the
given extent; `PR.oob i` = an access at index `i` outside it, `PR.fuel` = a
loop did not end; loop tests in the order the code evaluates them).  For each
routine: `…P_safe` — for EVERY input the pointer-level model yields `PR.ok` of
the specified value (no access outside the extent, every loop ends);
`…P_refines` — it computes what the list-level model of Model.lean computes
(so every value theorem above is a theorem about it); `…OrigP_overread_witness`
— the body before the repair yields `PR.oob` on the inputs recorded in
corpus/C19/fixed-defects.ops.  The driver runs the `…P` functions. -/

/-! ## split -/

/-- `split(buf, delim)`, pointer level: never an access outside `[data, data+size)`,
both loops end, and the tokens are the maximal runs -/
theorem splitCharP_safe (buf : Str) (delim : Byte) :
    splitCharP buf delim = .ok (runs (· == delim) buf) :=
  (splitCharP_sim buf delim).eq_ok (splitChar_eq_runs buf delim)

theorem splitCharP_refines (buf : Str) (delim : Byte) :
    (splitCharP buf delim).toOption = splitChar buf delim :=
  (splitCharP_sim buf delim).toOption_eq (splitChar_eq_runs buf delim)

/-- 8b4a8e9: `while (*ptr == delim) ptr++;` read `data[size]` — index 0 of the
empty buffer, index 1 of "a" (`splitc - 20`, `splitc 61 20`) -/
theorem splitCharOrigP_overread_witness :
    splitCharOrigP [] SP = .oob 0 ∧ splitCharOrigP [0x61#8] SP = .oob 1 := by decide

/-- `split(buf, delims)`, pointer level (exact behaviour: NUL is a delimiter too) -/
theorem splitDelimsP_safe (buf delims : Str) :
    splitDelimsP buf delims = .ok (runs (fun c => c == NUL || delims.contains c) buf) :=
  (splitDelimsP_sim buf delims).eq_ok (splitDelims_eq_runs_with_nul buf delims)

theorem splitDelimsP_refines (buf delims : Str) :
    (splitDelimsP buf delims).toOption = splitDelims buf delims :=
  (splitDelimsP_sim buf delims).toOption_eq (splitDelims_eq_runs_with_nul buf delims)

/-- 76a8f9d: `while (strchr(delims, *ptr) != NULL && ptr != end)` read `data[size]`
after a trailing delimiter (`splitd 6120 202f`: index 2 of a 2-byte buffer) -/
theorem splitDelimsOrigP_overread_witness :
    splitDelimsOrigP [0x61#8, SP] [SP, SLASH] = .oob 2 := by decide

/-! ## split_cmdargs -/

theorem splitCmdargsP_safe (buf : Str) : splitCmdargsP buf = .ok (cmdargsSpec buf) :=
  (splitCmdargsP_sim buf).eq_ok (splitCmdargs_eq buf)

theorem splitCmdargsP_refines (buf : Str) : (splitCmdargsP buf).toOption = splitCmdargs buf :=
  (splitCmdargsP_sim buf).toOption_eq (splitCmdargs_eq buf)

/-- 16fd822: `while (*ptr == ' ' && ptr != end)` read `data[size]` after the last
token / the closing quote (`cmdargs 61`, `cmdargs 226122`) -/
theorem splitCmdargsOrigP_overread_witness :
    splitCmdargsOrigP [0x61#8] = .oob 1 ∧ splitCmdargsOrigP [DQ, 0x61#8, DQ] = .oob 3 := by decide

/-! ## trim -/

/-- `trim(view)`, pointer level: `left` stays in `[0, size]`, `right` (which is
decremented) in `[left, size-1]` — in particular never below 0 — and the
result is the strip -/
theorem trimP_refines (view : Str) : trimP view = .ok (trim view) := by
  unfold trimP trim
  by_cases h0 : view.length = 0
  · simp [h0]
  · rw [if_neg h0, if_neg h0]
    obtain ⟨q, h1, _, hq, hd⟩ := scanG_spec view isWsTrim (view.length + 1) 0 (by omega) (by omega)
    simp only []
    rw [h1]
    simp only [PR.ok_bind]
    simp only [List.drop_zero] at hd
    rw [← hd, drop_isEmpty_eq view q hq]
    by_cases he : q = view.length
    · simp [he]
    · have hne : (q == view.length) = false := by simp [he]
      rw [hne]
      simp only [Bool.false_eq_true, if_false]
      obtain ⟨r', h2, h3, h4, h5⟩ := scanBack_spec view q (view.length + 1) (view.length - 1)
        (by omega) (by omega) (by omega)
      rw [show ((view.length : Int) - 1) = ((view.length - 1 : Nat) : Int) by omega, h2]
      simp only [PR.ok_bind]
      rw [show (((r' : Int) - (q : Int)) + 1).toNat = r' + 1 - q by omega, rdRange_ok view q _ (by omega)]
      rw [Nat.sub_add_cancel (by omega), List.take_length] at h5
      rw [← h5, List.reverse_reverse, List.drop_take]

theorem trimP_safe (view : Str) : trimP view = .ok (strip isWsTrim view) := by
  rw [trimP_refines, trim_eq_strip]

/-! ## igris_memmem, replace, replace_substrings -/

/-- `igris_memmem(l, l_len, s, s_len)` on exactly sized blocks: every `cur[0]`,
`cs[0]`, `memcmp` and `memchr` access is inside them; result = the list-level
`memmem` (for which `memmem_some` / `memmem_none` hold) -/
theorem memmemP_refines (l s : Str) : memmemP l 0 l.length s s.length = .ok (memmem l s) := by
  have := memmemP_eq l s 0 (by omega)
  simp only [Nat.sub_zero, List.drop_zero, Nat.add_zero] at this
  rw [this]
  cases memmem l s <;> rfl

theorem memmemP_safe (l s : Str) (hs : s ≠ []) : memmemP l 0 l.length s s.length = .ok (firstOcc s l) := by
  rw [memmemP_refines, memmem_eq_firstOcc l s hs]

-- the hypothesis is satisfiable
example : ([0x61#8] : Str) ≠ [] := by decide

/-- the same for a call on the rest of a block from index `b` on (the calls of
`replace` / `replace_substrings`): the returned pointer is `b + offset` -/
theorem memmemP_rest (lm sm : Str) (b : Nat) (hb : b ≤ lm.length) :
    memmemP lm b (lm.length - b) sm sm.length = .ok ((memmem (lm.drop b) sm).map (· + b)) :=
  memmemP_eq lm sm b hb

example : (0 : Nat) ≤ ([0x61#8] : Str).length := by decide

/-- `igris::replace`, pointer level -/
theorem replaceP_safe (input sub rep : Str) : replaceP input sub rep = .ok (subst sub rep input) :=
  (replaceP_sim input sub rep).eq_ok (replace_eq_subst input sub rep)

theorem replaceP_refines (input sub rep : Str) : (replaceP input sub rep).toOption = replace input sub rep :=
  (replaceP_sim input sub rep).toOption_eq (replace_eq_subst input sub rep)

/-- `replace_substrings`, pointer level: the destination is a block of exactly
`maxsize` bytes; no `memcpy` and not the final `*bufit = 0` touches
`buffer[maxsize]` or beyond, no read leaves `input` / `rep`, for every `maxsize` -/
theorem replaceSubstringsP_safe (maxsize : Nat) (input sub rep : Str) :
    replaceSubstringsP maxsize input sub rep =
      .ok (if maxsize = 0 then [] else (subst sub rep input).take (maxsize - 1) ++ [NUL]) :=
  (replaceSubstringsP_sim maxsize input sub rep).eq_ok (replaceSubstrings_eq maxsize input sub rep)

theorem replaceSubstringsP_refines' (maxsize : Nat) (input sub rep : Str) :
    (replaceSubstringsP maxsize input sub rep).toOption = replaceSubstrings maxsize input sub rep :=
  (replaceSubstringsP_sim maxsize input sub rep).toOption_eq (replaceSubstrings_eq maxsize input sub rep)

/-- d4e621a: the unrepaired routine wrote behind the destination
(`rsub 2 61616161 61 6262`, `rsub 0 6161 61 62`, `rsub 3 61616161 - 62`) -/
theorem replaceSubstringsOrigP_overwrite_witness :
    replaceSubstringsOrigP 2 [0x61#8, 0x61#8, 0x61#8, 0x61#8] [0x61#8] [0x62#8, 0x62#8] = .oob 2
    ∧ replaceSubstringsOrigP 0 [0x61#8, 0x61#8] [0x61#8] [0x62#8] = .oob 0
    ∧ replaceSubstringsOrigP 3 [0x61#8, 0x61#8, 0x61#8, 0x61#8] [] [0x62#8] = .oob 3 := by decide

/-! ## join -/

/-- `join(vec, delim)`, iterators as indices: `*iter` only for `iter < size` -/
theorem joinP_refines (vec : List Str) (delim : Byte) : joinP vec delim = .ok (join vec delim) := by
  unfold joinP join
  by_cases h0 : vec.length = 0
  · simp [h0]
  · rw [if_neg h0, if_neg h0]
    exact joinLoopP_read vec [delim] [] h0 fun r => pure r

theorem joinP_safe (vec : List Str) (delim : Byte) : joinP vec delim = .ok (List.intercalate [delim] vec) := by
  rw [joinP_refines, join_eq_intercalate]

/-- the iterator-range `join`: the counter `i` is a 32-bit `unsigned`, so the
statement is for ranges of at most 2³² elements -/
theorem joinFmtP_safe (vec : List Str) (delim pre post : Str) (h32 : vec.length ≤ 2 ^ 32) :
    joinFmtP vec delim pre post = .ok (pre ++ List.intercalate delim vec ++ post) := by
  rw [joinFmtP_eq vec delim pre post h32, joinFmt_eq]

example : ([[0x61#8]] : List Str).length ≤ 2 ^ 32 := by decide

/-- 6236ab4: without the `tot == 0` guard `tot - 1` wraps and `*it` is read on
the empty range (`joinf 2c 5b 5d`) -/
theorem joinFmtOrigP_overread_witness : joinFmtOrigP [] [0x2c#8] [0x5b#8] [0x5d#8] = .oob 0 := by decide

/-! ## argvc_internal_split_n -/

/-- `argvc_internal_split_n`, pointer level, on exactly `maxlen` bytes and an
`argv` array of exactly `argcmax` slots: no read or write at or behind
`data[maxlen]`, no store at or behind `argv[argcmax]`; the result (argc,
pointers as indices, the line after the call) is that of the list-level model,
for which `argvSplitN_spec` / `argvSplitN_writes` hold -/
theorem argvSplitNP_refines (data : Str) (argcmax : Nat) :
    ∃ r, argvSplitNP data argcmax = .ok r ∧ argvSplitN data argcmax = some r :=
  let ⟨r, h, _⟩ := argvSplitN_spec data argcmax
  ⟨r, (argvSplitNP_sim data argcmax).eq_ok h, h⟩

/-- eff14ad: the unrepaired tests read `data[maxlen]` (`argvn 61 2`, `argvn 6120 2`) -/
theorem argvSplitNOrigP_overread_witness :
    argvSplitNOrigP [0x61#8] 2 = .oob 1 ∧ argvSplitNOrigP [0x61#8, SP] 2 = .oob 2 := by decide

/-! ## creader_readline -/

/-- one call, pointer level: the forward scan tests `it != fini` before `*it`,
the rewind never reads in front of `*token`; value = the list-level model
(`creaderReadline_spec`); the new cursor stays inside `[strt, fini]` -/
theorem creaderReadlineP_refines (mem : Str) (cursor : Nat) (h : cursor ≤ mem.length) :
    ∃ r, creaderReadlineP mem cursor = .ok r ∧ creaderReadline mem cursor = some r ∧ r.2.2 ≤ mem.length :=
  creaderReadlineP_eq mem cursor h

example : (0 : Nat) ≤ ([0x61#8] : Str).length := by decide

/-- the read loop over the pointer-level reader ends on every buffer, without a fault -/
theorem creaderP_loop_ends (mem : Str) : ∃ l, creaderAllP mem (mem.length + 2) 0 = .ok (l, true) := by
  obtain ⟨l, h⟩ := creader_loop_ends mem
  exact ⟨l, (creaderAllP_eq mem _ 0 (by omega)).eq_ok h⟩

/-- 6d1ea18: `while (*it != '\n' && *it != '\0' && it != fini)` read `*fini` on an
unterminated last line (`creader 6162`) -/
theorem creaderReadlineOrigP_overread_witness :
    creaderReadlineOrigP [0x61#8, 0x62#8] 0 = .oob 2 := by decide


/-! ## argvc_internal_split_n and the terminator (finding C19-argvn-nul-not-terminator)

argvc.h calls `_n` the "safe variant of argvc_internal_split that also checks
the length"; its source has the test `*data == '\0'` → `return argc`.  That
test is dead: `strchr(ws, 0)` is not NULL, so a NUL is skipped as white space
and parsing goes on behind it.  `argvSplitN_spec` (above) is the EXACT
behaviour for all inputs (NUL counts as a separator).

  FULL STATEMENT (false on the tree, see `argvSplitN_nul_witness`):
     ∀ data argcmax, ∃ r, argvSplitN data argcmax = some r ∧
        r.argv.map (cstrAtN r.mem) = (runs isWsArgv (data.takeWhile (· != NUL))).take argcmax
     — "tokenise on white space", the line ending at its terminator as in argvc_internal_split.
  Proved part: buffers without NUL. -/
theorem argvSplitN_ws_partial (data : Str) (argcmax : Nat) (hn : NUL ∉ data) :
    ∃ r, argvSplitN data argcmax = some r
      ∧ r.argc = r.argv.length ∧ r.argc ≤ argcmax
      ∧ r.argv.map (cstrAtN r.mem) = (runs isWsArgv data).take argcmax
      ∧ r.mem.length = data.length := by
  obtain ⟨r, h1, h2, h3, h4, h5⟩ := argvSplitN_spec data argcmax
  exact ⟨r, h1, h2, h3, by rw [h4, runs_or_NUL _ data hn], h5⟩

/-- on a NUL-free text the two splitters produce the same argument strings
(`_n` on the bare text, the terminated one on the text with its terminator) -/
theorem argvSplitN_eq_terminated_partial (text junk : Str) (argcmax : Nat) (hn : NUL ∉ text) :
    ∃ r rz, argvSplitN text argcmax = some r ∧ argvSplit (text ++ NUL :: junk) argcmax = some rz
      ∧ some (r.argv.map (cstrAtN r.mem)) = argStrings rz.mem rz.argv := by
  obtain ⟨r, h1, _, _, h4, _⟩ := argvSplitN_ws_partial text argcmax hn
  obtain ⟨rz, g1, _, _, g4, _⟩ := argvSplit_spec text junk argcmax hn
  exact ⟨r, rz, h1, g1, by rw [h4, g4]⟩

example : NUL ∉ ([0x61#8, SP, 0x62#8] : Str) := by decide

/-- "a\0j": `_n` delivers two arguments `a`, `j`; `argvc_internal_split` on the
same terminated line delivers `a`; a pure white-space tokenisation would give
the single run `a\0j` -/
theorem argvSplitN_nul_witness :
    (argvSplitN [0x61#8, NUL, 0x6a#8] 10).map (fun r => r.argv.map (cstrAtN r.mem)) = some [[0x61#8], [0x6a#8]]
    ∧ (argvSplit [0x61#8, NUL, 0x6a#8, NUL] 10).bind (fun r => argStrings r.mem r.argv) = some [[0x61#8]]
    ∧ (runs isWsArgv [0x61#8, NUL, 0x6a#8]).take 10 = [[0x61#8, NUL, 0x6a#8]] := by decide

/-! ## path_remove_prefix against an independent definition

`pathRemovePrefix_spec` (above) refines the cursor loop to the list recursion
`removePrefixRef`, which has the shape of the loop.  Independent definition
(Spec3.lean): `nodes p` — the first piece of the path as it stands (empty for
an absolute path), then the real components of the rest — and `lcpLen`, the
length of the longest common prefix of two lists.  -/

/-- `path_iterate` walks the nodes: the first piece is `nodes p`'s head, the
path `iterRef p` it returns (`pathIterate_spec`) has the remaining nodes -/
theorem nodes_walk (p : Str) (hp : p ≠ []) : nodes p = headComp p :: nodes (iterRef p) :=
  nodes_iterRef p hp

example : ([0x61#8] : Str) ≠ [] := by decide

/-- `path_remove_prefix(path, prefix)` for all NUL-terminated inputs: never
NULL, no fault, the result is a suffix of `path`, and its nodes are the nodes
of `path` without the longest common prefix of the two node lists
(not only when `prefix` matches entirely: `/a/b` minus `/a/c` is `b`) -/
theorem pathRemovePrefix_nodes (p jp q jq : Str) (hp : NUL ∉ p) (hq : NUL ∉ q) :
    ∃ r, pathRemovePrefix (p ++ NUL :: jp) (q ++ NUL :: jq) = some (r ++ NUL :: jp)
      ∧ r <:+ p ∧ nodes r = (nodes p).drop (lcpLen (nodes p) (nodes q)) :=
  ⟨removePrefixSpec p q, pathRemovePrefix_spec p jp q jq hp hq, removePrefixSpec_suffix p q,
    removePrefixRef_nodes _ p q (by omega)⟩

example : NUL ∉ ([SLASH, 0x61#8] : Str) := by decide

/-- nodes vs. components: they are the same list up to the first piece —
`comps` is `nodes` without the non-real pieces (the empty root, a leading dot) -/
theorem comps_eq_nodes_filter (p : Str) : comps p = (nodes p).filter isReal := by
  by_cases hp : p = []
  · subst hp; simp [nodes_nil, comps, splitSlash, isReal]
  · obtain ⟨t, ht⟩ := splitSlash_head p
    have : p.isEmpty = false := List.isEmpty_eq_false_iff.mpr hp
    rw [comps, nodes, ht]
    simp [this, List.filter_cons]

/-
  FULL STATEMENT in terms of `comps`, the component list `path_next` enumerates
  (false on the tree, see `pathRemovePrefix_dot_witness`):
     comps (result) = (comps path).drop (lcpLen (comps path) (comps prefix))
  Proved part: neither path begins with a single-dot piece, and both are
  absolute or both relative.  Recorded finding: C19-path-remove-prefix-leading-dot.
-/
theorem pathRemovePrefix_comps_partial (p jp q jq : Str) (hp : NUL ∉ p) (hq : NUL ∉ q)
    (hdp : headComp p ≠ [DOT]) (hdq : headComp q ≠ [DOT])
    (hk : p.head? = some SLASH ↔ q.head? = some SLASH) :
    ∃ r, pathRemovePrefix (p ++ NUL :: jp) (q ++ NUL :: jq) = some (r ++ NUL :: jp)
      ∧ r <:+ p ∧ comps r = (comps p).drop (lcpLen (comps p) (comps q)) := by
  refine ⟨removePrefixSpec p q, pathRemovePrefix_spec p jp q jq hp hq, removePrefixSpec_suffix p q, ?_⟩
  unfold removePrefixSpec
  rw [comps_eq_nodes_filter, removePrefixRef_nodes _ p q (by omega), nodes_of_plain p hdp, nodes_of_plain q hdq]
  by_cases ha : p.head? = some SLASH
  · rw [if_pos ha, if_pos (hk.mp ha)]
    simp only [lcpLen, BEq.rfl, if_true, List.drop_succ_cons]
    exact filter_real_drop_comps p _
  · rw [if_neg ha, if_neg (fun h => ha (hk.mpr h))]
    exact filter_real_drop_comps p _

-- the hypotheses are satisfiable: "/a/b" and "/a"
example : headComp [SLASH, 0x61#8, SLASH, 0x62#8] ≠ [DOT] ∧ headComp [SLASH, 0x61#8] ≠ [DOT]
    ∧ (([SLASH, 0x61#8, SLASH, 0x62#8] : Str).head? = some SLASH ↔ ([SLASH, 0x61#8] : Str).head? = some SLASH) := by
  decide

/-- "./a/b" minus "a": both paths have the first component `a`, `path_next`
on "./a/b" points at `a`, but `path_remove_prefix` counts the leading dot as a
node and returns the path unchanged (the `comps` reading gives `b`) -/
theorem pathRemovePrefix_dot_witness :
    pathRemovePrefix [DOT, SLASH, 0x61#8, SLASH, 0x62#8, NUL] [0x61#8, NUL]
      = some [DOT, SLASH, 0x61#8, SLASH, 0x62#8, NUL]
    ∧ comps [DOT, SLASH, 0x61#8, SLASH, 0x62#8] = [[0x61#8], [0x62#8]]
    ∧ comps [0x61#8] = [[0x61#8]]
    ∧ (comps [DOT, SLASH, 0x61#8, SLASH, 0x62#8]).drop
        (lcpLen (comps [DOT, SLASH, 0x61#8, SLASH, 0x62#8]) (comps [0x61#8])) = [[0x62#8]] := by decide


/-! ## path_next / path_iterate, pointer level

The cursor models of Model.lean already fault on a read behind the allocation;
here the same routines with explicit indices into the allocation. -/

/-- `path_next(path, &len)`: every `*path`, `path[1]`, `*end` is inside the
allocation (in fact not behind the terminator), both loops end, and the result
is that of `pathNext_spec` -/
theorem pathNextP_safe (p junk : Str) (hn : NUL ∉ p) :
    pathNextP (p ++ NUL :: junk) 0
      = .ok (match skipRef p with
             | [] => none
             | c :: r => some (p.length - (c :: r).length, (headComp (c :: r)).length)) :=
  (pathNextP_sim _).eq_ok (pathNext_spec p junk hn)

/-- `path_iterate(path)`: no access outside the allocation, and the returned
pointer is the index at which `iterRef p` (and the terminator) begins -/
theorem pathIterateP_safe (p junk : Str) (hn : NUL ∉ p) :
    ∃ r, pathIterateP (p ++ NUL :: junk) 0 = .ok r ∧
      (if p.isEmpty then none else some (iterRef p ++ NUL :: junk)) = r.map (fun q => (p ++ NUL :: junk).drop q) :=
  pathIterateP_eq (p ++ NUL :: junk) 0 _ (pathIterate_spec p junk hn)

example : NUL ∉ ([DOT, SLASH, 0x61#8] : Str) := by decide

/-- 03ab9aa: `path_is_single_dot` loaded `path[1]` first — index 1 of the
1-byte allocation of `""` (`pnext -`) -/
theorem isSingleDotOrigP_overread_witness :
    isSingleDotOrigP [NUL] 0 = .oob 1 ∧ isSingleDotP [NUL] 0 = .ok false := by decide


/-! ## argvc_internal_split, pointer level -/

/-- `argvc_internal_split` with explicit indices into the allocation of the
terminated line and an `argv` array of exactly `argcmax` slots: no read or
write outside the allocation (none behind the terminator), no store at or
behind `argv[argcmax]`, all loops end; the result is that of the cursor model,
for which `argvSplit_spec` / `argvSplit_writes` hold -/
theorem argvSplitP_refines (text junk : Str) (argcmax : Nat) (hn : NUL ∉ text) :
    ∃ r, argvSplitP (text ++ NUL :: junk) argcmax = .ok r ∧ argvSplit (text ++ NUL :: junk) argcmax = some r :=
  let ⟨r, h, _⟩ := argvSplit_spec text junk argcmax hn
  ⟨r, (argvSplitP_sim _ argcmax).eq_ok h, h⟩

example : NUL ∉ ([0x61#8, SP, 0x62#8] : Str) := by decide


/-! ## the iterator-range `join` beyond 2³² elements (32-bit counter) -/

/-- `for (unsigned int i = 0; i < tot - 1; ++i)`: for a range of MORE than 2³² elements the
counter wraps before it reaches `tot - 1`, the loop never ends by its test and `*it` is read
behind the last element (index `size`). -/
theorem joinFmtP_overrun (vec : List Str) (delim pre post : Str) (h : 2 ^ 32 < vec.length) :
    joinFmtP vec delim pre post = .oob vec.length := by
  unfold joinFmtP
  have h0 : vec.length ≠ 0 := by omega
  simp only []
  rw [if_neg h0]
  have hsd : sizeDec vec.length = vec.length - 1 := by simp [sizeDec, h0]
  rw [hsd, joinFmtLoopP_overrun vec delim (vec.length - 1) (by omega) (vec.length + 1) 0 0 pre (by decide) (by omega) (by omega)]
  rfl

example (n : Nat) (h : 2 ^ 32 < n) : 2 ^ 32 < (List.replicate n ([] : Str)).length := by
  rw [List.length_replicate]; exact h

/-- the excluded region of `joinFmtP_safe`, exactly: the routine is correct (and in bounds)
iff the range has at most 2³² elements -/
theorem joinFmtP_safe_iff (vec : List Str) (delim pre post : Str) :
    joinFmtP vec delim pre post = .ok (pre ++ List.intercalate delim vec ++ post) ↔ vec.length ≤ 2 ^ 32 := by
  constructor
  · intro h
    by_cases hl : vec.length ≤ 2 ^ 32
    · exact hl
    · rw [joinFmtP_overrun vec delim pre post (by omega)] at h
      cases h
  · exact joinFmtP_safe vec delim pre post

/-! ## `replace_substrings` in place (`buffer == input`) -/

/-- replacement SHORTER than the pattern: the output cursor falls behind the input cursor and
the copy of the next piece overlaps its source — `memcpy` with overlapping ranges, undefined
(`"aabb"`, `"aa"` → `"."` in a 5-byte block: `memcpy(buf+1, buf+2, 2)`) -/
theorem rsInPlace_shorter_witness :
    replaceSubstringsInPlace [0x61#8, 0x61#8, 0x62#8, 0x62#8, 0x5a#8] 4 [0x61#8, 0x61#8] [0x2e#8] = .oob (-1) := by decide

/-- replacement LONGER than the pattern: the output overtakes the input and overwrites bytes
that have not been read yet (`"aa"`, `"a"` → `"bb"`: the block becomes `"bbb\0"`, the
substitution is `"bbbb"`) -/
theorem rsInPlace_longer_witness :
    replaceSubstringsInPlace [0x61#8, 0x61#8, 0x5a#8, 0x5a#8, 0x5a#8] 2 [0x61#8] [0x62#8, 0x62#8]
        = .ok [0x62#8, 0x62#8, 0x62#8, 0x00#8, 0x5a#8]
      ∧ subst [0x61#8] [0x62#8, 0x62#8] [0x61#8, 0x61#8] = [0x62#8, 0x62#8, 0x62#8, 0x62#8] := by decide

/-- replacement as long as the pattern: every `memcpy` has `dst == src`, the block receives the
substitution, the terminator, and keeps the rest (instance; the general statement is open) -/
theorem rsInPlace_samelen_example :
    replaceSubstringsInPlace [0x61#8, 0x2e#8, 0x61#8, 0x5a#8, 0x59#8] 3 [0x61#8] [0x62#8]
      = .ok [0x62#8, 0x2e#8, 0x62#8, 0x00#8, 0x59#8] := by decide

/-! ## the linear-time evaluation the driver uses for long inputs = the models -/

theorem memmemF_eq (l s : Str) : memmemF l s = memmem l s := by rw [memmemF_fun]

theorem replaceF_eq (input sub rep : Str) : replaceF input sub rep = replace input sub rep := by
  unfold replaceF replace
  rw [replaceLoopF_eq]

theorem replaceSubstringsF_eq (maxsize : Nat) (input sub rep : Str) :
    replaceSubstringsF maxsize input sub rep = replaceSubstrings maxsize input sub rep := by
  have h : rsLoopF = rsLoop := by
    funext a b c d e; exact rsLoopF_eq a b c d e
  simp only [replaceSubstringsF, replaceSubstrings, h]
  split
  · rfl
  · split
    · rfl
    · cases rsLoop sub rep (input.length + 1) input ([], maxsize - 1) <;> rfl

/-! ## a membership table for `strchr` (the harmless form of the seeded change) -/

/-- looking a byte up in the table is `strchr(delims, c) != NULL` — for every delimiter string
and byte; so a table built from the contents at every call (or cached under the contents)
changes nothing, whereas a table cached under the ADDRESS of `delims` is only right as long as
the contents behind that address do not change (seeded change
`C19-split-delims-table-by-address`, caught by the fixed-address cases `re`) -/
theorem delimTable_lookup (d : Str) (c : Byte) : (delimTable d)[c.toNat]? = some (strchrHit d c) := by
  have hc : c.toNat < 256 := c.isLt
  unfold delimTable strchrHit
  rw [List.getElem?_map, List.getElem?_range hc]
  simp only [Option.map_some]
  congr 1
  have key : ∀ x : Byte, (x.toNat == c.toNat) = (x == c) := by
    intro x
    by_cases h : x = c
    · subst h; simp
    · have hn : x.toNat ≠ c.toNat := fun e => h (BitVec.eq_of_toNat_eq e)
      rw [beq_eq_false_iff_ne.mpr hn, beq_eq_false_iff_ne.mpr h]
  have h0 : (c.toNat == 0) = (c == NUL) := by
    have := key NUL
    rw [show (NUL : Byte).toNat = 0 from rfl] at this
    rw [Bool.beq_comm, this, Bool.beq_comm]
  have h1 : d.any (fun x => x.toNat == c.toNat) = d.contains c := by
    induction d with
    | nil => rfl
    | cons x xs ih =>
      rw [List.any_cons, List.contains_cons, ih, key x, Bool.beq_comm]
  rw [h0, h1]

/-! ## `path_compare_node` with explicit indices

`compareNodeP` (Model3.lean) reads the two allocations through `rd`: an index behind a block is
`PR.oob index`, exhausted fuel is `PR.fuel`.  The driver runs THIS function for `pcmp`. -/

/-- refinement: wherever the cursor model of Model.lean yields a value, the index-level model
yields the same value - so `compareNode_spec` / `compareNode_zero_iff` transfer; the fuel
`remaining bytes of a's block + 1` always suffices -/
theorem compareNodeP_refines (ma mb : Str) (a b : Nat) (v : Int)
    (h : compareNode (ma.drop a) (mb.drop b) = some v) :
    compareNodeP ma mb (ma.length - a + 1) a b = .ok v :=
  (compareNodeP_ok ma mb _ a b (by omega)).eq_ok h

example : compareNode (([0x61#8, 0x2f#8, 0#8] : Str).drop 0) (([0x62#8, 0#8] : Str).drop 0) = some (-1) := by decide

/-- for two C strings (text, terminator, anything behind it): no access outside either
allocation, the loop ends, and the value is the signed lexicographic order of the first pieces -/
theorem compareNodeP_safe (a ja b jb : Str) (ha : NUL ∉ a) (hb : NUL ∉ b) :
    compareNodeP (a ++ NUL :: ja) (b ++ NUL :: jb) ((a ++ NUL :: ja).length + 1) 0 0
      = .ok (lexCmp (headComp a) (headComp b)) :=
  (compareNodeP_ok _ _ _ 0 0 (by omega)).eq_ok (compareNode_spec a ja b jb ha hb)

example : NUL ∉ ([0x61#8, 0x2f#8] : Str) := by decide

/-- totality, exactly: with enough fuel the routine either returns a value or touches the byte
directly behind one of the two blocks - never any other index, never `fuel`; and it returns a
value **iff** the cursor model does (i.e. iff both first pieces end inside their blocks) -/
theorem compareNodeP_total (ma mb : Str) (a b : Nat) (hal : a ≤ ma.length) (hbl : b ≤ mb.length) :
    (∃ v, compareNodeP ma mb (ma.length - a + 1) a b = .ok v ∧ compareNode (ma.drop a) (mb.drop b) = some v)
    ∨ (compareNode (ma.drop a) (mb.drop b) = none ∧
        (compareNodeP ma mb (ma.length - a + 1) a b = .oob ma.length
          ∨ compareNodeP ma mb (ma.length - a + 1) a b = .oob mb.length)) := by
  have h := compareNodeP_eq ma mb (ma.length - a + 1) a b (by omega) hal hbl
  cases hc : compareNode (ma.drop a) (mb.drop b) with
  | some v => rw [hc] at h; exact Or.inl ⟨v, h, rfl⟩
  | none => rw [hc] at h; exact Or.inr ⟨rfl, h⟩

/-- non-terminated arguments (outside the contract): equal texts without terminator run to the
byte behind the first block; a piece that ends in `a` but not in `b` reads behind `b`'s block -/
theorem compareNodeP_unterminated_witness :
    compareNodeP [0x61#8] [0x61#8] 2 0 0 = .oob 1
    ∧ compareNodeP [0x61#8, 0#8] [0x61#8] 3 0 0 = .oob 1
    ∧ compareNodeP [0x61#8, 0x62#8, 0#8] [0x61#8] 4 0 0 = .oob 1 := by decide

/-! ## `path_remove_prefix` with explicit indices

`pathRemovePrefixP` (Ptr2.lean): the loop of the C code over two memory blocks, built from `rd`,
`compareNodeP` and `pathIterateP`; a NULL from `path_iterate` would be the result `oob (-1)`.
The driver runs THIS function for `prem`. -/

/-- refinement: wherever the cursor model yields a cursor, the index-level model yields the
index at which that cursor begins -/
theorem pathRemovePrefixP_refines (mp mq : Str) (c : Cur) (h : pathRemovePrefix mp mq = some c) :
    ∃ r, pathRemovePrefixP mp mq = .ok r ∧ c = mp.drop r :=
  removePrefixLoopP_ok mp mq _ 0 0 c h

example : pathRemovePrefix [0x61#8, 0#8] [0x61#8, 0#8] = some [0#8] := by decide

/-- for two C strings: no access outside either allocation, no NULL dereference, the loop ends
within `strlen(path) + strlen(prefix) + 3` iterations, and the returned pointer is where the
component-wise reference `removePrefixSpec` (followed by the terminator) begins -/
theorem pathRemovePrefixP_safe (p jp q jq : Str) (hp : NUL ∉ p) (hq : NUL ∉ q) :
    ∃ r, pathRemovePrefixP (p ++ NUL :: jp) (q ++ NUL :: jq) = .ok r ∧
      (p ++ NUL :: jp).drop r = removePrefixSpec p q ++ NUL :: jp := by
  obtain ⟨r, hr, e⟩ := pathRemovePrefixP_refines _ _ _ (pathRemovePrefix_spec p jp q jq hp hq)
  exact ⟨r, hr, e.symm⟩

/-- instances: `"/a/b"` minus `"/a"` is the pointer at offset 3 (`"b"`); a prefix block without
terminator is read behind its end (outside the contract) -/
theorem pathRemovePrefixP_witness :
    pathRemovePrefixP [0x2f#8, 0x61#8, 0x2f#8, 0x62#8, 0#8] [0x2f#8, 0x61#8, 0#8] = .ok 3
    ∧ pathRemovePrefixP [0x61#8, 0#8] [0x61#8] = .oob 1 := by decide

end Igris.C19
