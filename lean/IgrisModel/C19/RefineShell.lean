/-
  C19 — the index-level argv splitters of Ptr.lean (writes into the line, `argv` slots) against the cursor models.
-/
import IgrisModel.C19.Refine
import IgrisModel.C19.Shell
namespace Igris.C19
open Igris.Proto

/-- one iteration that found the token `[q1, q2)` and recursed behind it: the result as the index loop assembles it
(left) is the cursor loop's, offsets relative to `m.drop data`, read through the relation of `argvSplitNLoopP_eq` (right) -/
theorem argvRes_glue (m : Str) (data q1 q2 : Nat) (argv : List Nat) (r : ArgvRes)
    (h1 : data ≤ q1) (h2 : q1 ≤ q2) (h3 : q2 < m.length) :
    (⟨r.argc, argv ++ [q1] ++ r.argv.map (· + (q2 + 1)), (m.set q2 NUL).take (q2 + 1) ++ r.mem⟩ : ArgvRes)
      = ⟨r.argc, argv ++ ((q1 - data) :: r.argv.map (· + (q2 - data + 1))).map (· + data),
          m.take data ++ ((m.drop data).take (q2 - data + 1 - 1) ++ NUL :: r.mem)⟩ := by
  rw [take_set_succ m q2 NUL h3, Nat.add_sub_cancel, ← List.append_assoc (m.take data), ← List.take_add,
    Nat.add_sub_cancel' (Nat.le_trans h1 h2)]
  simp only [List.map_cons, List.map_map, List.append_assoc, List.singleton_append, Nat.sub_add_cancel h1]
  congr 5
  funext x
  simp only [Function.comp]
  omega

theorem argvSplitNLoopP_eq (argcmax : Nat) : ∀ (f : Nat) (m : Str) (data argc : Nat) (argv : List Nat),
    data ≤ m.length →
    Refines (fun r r' => r' = ⟨r.argc, argv ++ r.argv.map (· + data), m.take data ++ r.mem⟩)
      (argvSplitNGo argcmax f (m.drop data) argc) (argvSplitNLoopP argcmax m.length f m data argc argv) := by
  intro f
  induction f with
  | zero => intro m data argc argv _; exact Refines.none
  | succ f ih =>
    intro m data argc argv hd
    rw [argvSplitNGo, argvSplitNLoopP]
    refine Refines.bind_scanG m _ data hd fun q1 hdq1 hq1 hd1 => ?_
    simp only [← hd1, length_drop_sub m hdq1 hq1]
    by_cases he : q1 = m.length
    · rw [he, List.drop_length, if_pos (by simp)]; exact Refines.pure (by simp)
    have hlt : q1 < m.length := by omega
    rw [if_neg (by simp [he]), rd_lt m q1 hlt]
    -- only the discriminant of the `match`: the second scan starts from `m.drop q1` as it stands
    rw (occs := .pos [1]) [List.drop_eq_getElem_cons hlt]
    simp only [PR.ok_bind]
    refine Refines.ite (fun _ => Refines.pure (by simp)) fun hc => ?_
    refine Refines.if_neg_right (fun hge => hc (by simp [hge])) ?_
    refine Refines.bind_scanG m _ q1 hq1 fun q2 hq12 hq2 hd2 => ?_
    simp only [← hd2, length_drop_sub m (Nat.le_trans hdq1 hq12) hq2]
    by_cases he2 : q2 = m.length
    · rw [he2, List.drop_length, if_neg (by simp)]; exact Refines.pure (by simp [Nat.sub_add_cancel hdq1])
    have hlt2 : q2 < m.length := by omega
    rw [List.drop_eq_getElem_cons hlt2, if_pos (by simp [he2]), rd_lt m q2 hlt2]
    simp only [PR.ok_bind]
    refine Refines.ite (fun _ => ?_) fun _ => Refines.pure (by simp [Nat.sub_add_cancel hdq1])
    have hlen : (m.set q2 NUL).length = m.length := List.length_set
    have hi := ih (m.set q2 NUL) (q2 + 1) (argc + 1) (argv ++ [q1]) (by rw [hlen]; omega)
    rw [hlen, List.drop_set_of_lt (by omega)] at hi
    refine Refines.bind_ok (b := m.set q2 NUL) (by rw [wr, if_pos hlt2]) ?_
    cases hr : argvSplitNGo argcmax f (m.drop (q2 + 1)) (argc + 1) with
    | none => exact Refines.none
    | some r =>
      obtain ⟨_, hb, rfl⟩ := hi r hr
      exact fun _ e => ⟨_, hb, Option.some.inj e ▸ argvRes_glue m data q1 q2 argv r hdq1 hq12 hlt2⟩

theorem argvSplitNP_sim (data : Str) (argcmax : Nat) : Refines Eq (argvSplitN data argcmax) (argvSplitNP data argcmax) :=
  (argvSplitNLoopP_eq argcmax _ data 0 0 [] (Nat.zero_le _)).mono fun r r' h => by rw [h]; simp

theorem skipWsZP_eq (m : Str) (f p : Nat) (hf : m.length - p < f) :
    Refines (fun c q => p ≤ q ∧ q < m.length ∧ c = m.drop q) (skipWsZ (m.drop p)) (skipWsZP m f p) := by
  refine scanZ_eq_of_shape m (fun c => c != NUL && strchrHit wsArgv c) skipWsZ_eq_scanTo (fun f p => ?_) f p hf
  rw [skipWsZP]
  congr 1; funext c
  cases c != NUL <;> cases strchrHit wsArgv c <;> rfl

theorem scanTokZP_eq (m : Str) (f p : Nat) (hf : m.length - p < f) :
    Refines (fun c q => p ≤ q ∧ q < m.length ∧ c = m.drop q) (scanTokZ (m.drop p)) (scanTokZP m f p) :=
  scanZ_eq_of_shape m (fun c => !strchrHit wsArgv c && c != NUL) scanTokZ_eq_scanTo (fun _ _ => rfl) f p hf

theorem argvSplitLoopP_eq (argcmax : Nat) : ∀ (f : Nat) (m : Str) (data argc : Nat) (argv : List Nat),
    data ≤ m.length →
    Refines (fun r r' => r' = ⟨r.argc, argv ++ r.argv.map (· + data), m.take data ++ r.mem⟩)
      (argvSplitGo argcmax f (m.drop data) argc) (argvSplitLoopP argcmax f m data argc argv) := by
  intro f
  induction f with
  | zero => intro m data argc argv _; exact Refines.none
  | succ f ih =>
    intro m data argc argv hd
    rw [argvSplitGo, argvSplitLoopP]
    refine Refines.bind (skipWsZP_eq m _ data (by omega)) fun d1 q1 ⟨hdq1, hlt1, e1⟩ => ?_
    subst e1
    refine Refines.bind (rd_refines m q1) fun c _ e => ?_
    subst e
    refine Refines.ite (fun _ => Refines.pure (by simp)) fun hc => ?_
    refine Refines.if_neg_right (fun hge => hc (by simp [hge])) ?_
    refine Refines.bind (scanTokZP_eq m _ q1 (by omega)) fun d2 q2 ⟨hq12, hlt2, e2⟩ => ?_
    subst e2
    refine Refines.bind (rd_refines m q2) fun c2 _ e => ?_
    subst e
    simp only [length_drop_sub m hdq1 (Nat.le_of_lt hlt1), length_drop_sub m (Nat.le_trans hdq1 hq12) (Nat.le_of_lt hlt2)]
    refine Refines.ite (fun _ => Refines.pure (by simp [Nat.sub_add_cancel hdq1])) fun _ => ?_
    refine Refines.ite (fun _ => ?_) fun _ => Refines.pure (by simp [Nat.sub_add_cancel hdq1])
    have hlen : (m.set q2 NUL).length = m.length := List.length_set
    have hi := ih (m.set q2 NUL) (q2 + 1) (argc + 1) (argv ++ [q1]) (by rw [hlen]; omega)
    rw [List.drop_set_of_lt (by omega)] at hi
    refine Refines.bind_ok (b := m.set q2 NUL) (by rw [wr, if_pos hlt2]) ?_
    rw [List.tail_drop]
    exact Refines.map_left hi fun r r' hr => hr ▸ argvRes_glue m data q1 q2 argv r hdq1 hq12 hlt2

theorem argvSplitP_sim (data : Str) (argcmax : Nat) : Refines Eq (argvSplit data argcmax) (argvSplitP data argcmax) :=
  (argvSplitLoopP_eq argcmax _ data 0 0 [] (Nat.zero_le _)).mono fun r r' h => by rw [h]; simp

end Igris.C19
