/-
  C19 — POINTER-LEVEL models.

  Model.lean writes the guarded scans `while (p != end && P(*p)) ++p` as
  `List.dropWhile`: an over-read cannot even be expressed there, so "stays in
  bounds" holds of those routines by construction.  Here
  the same routines are written the way the C code is:

    * a buffer is a memory `m : List Byte` of EXACTLY the extent the caller
      gives (`data()[0 .. size())`, no terminator, nothing behind it);
    * a pointer is an explicit index (`Nat` for pointers that only move
      forward from the start of the buffer, `Int` for the ones that are
      decremented);
    * every `*p`, `p[i]`, `memcmp`, `memcpy`, `std::string(p, n)` is a read
      `rd`/`rdI`/`rdRange`, every store a `wr`: an index `< 0` or `≥ length`
      is the explicit result `PR.oob index` (what ASan reports on an exactly
      sized heap block);
    * `p != end` compares indices and reads nothing; the loop tests are
      evaluated IN THE ORDER THE CODE WRITES THEM: `scanG` is
      `while (p != end && P(*p)) ++p`, `scanU` is `while (P(*p) && p != end) ++p`
      (the order of the unrepaired code), `scanZ` is `while (P(*p)) ++p`;
    * loops have explicit fuel; running out of it is the separate result
      `PR.fuel` (so "fault" and "did not terminate" are told apart).

  Refine.lean, RefineShell.lean, RefinePath.lean / Props.lean prove for every routine: the pointer-level model
  never yields `oob` or `fuel`, and its value is the value of the list-level
  model of Model.lean (so all value theorems transfer); the unrepaired bodies
  (`…OrigP`) yield `oob` on the inputs recorded in corpus/C19/fixed-defects.ops.
  The driver (Main.lean) runs THESE functions.
-/
import IgrisModel.C19.Model2
namespace Igris.C19
open Igris.Proto

inductive PR (α : Type)
  | ok (a : α)
  /-- an access at this index of a memory block that does not contain it -/
  | oob (i : Int)
  | fuel
deriving DecidableEq, Repr

namespace PR
def bind {α β : Type} : PR α → (α → PR β) → PR β
  | ok a, f => f a
  | oob i, _ => oob i
  | fuel, _ => fuel
instance : Monad PR where
  pure := ok
  bind := PR.bind
@[simp] theorem ok_bind {α β : Type} (a : α) (f : α → PR β) : (ok a >>= f) = f a := rfl
@[simp] theorem oob_bind {α β : Type} (i : Int) (f : α → PR β) : ((oob i : PR α) >>= f) = oob i := rfl
@[simp] theorem fuel_bind {α β : Type} (f : α → PR β) : ((fuel : PR α) >>= f) = fuel := rfl
@[simp] theorem pure_eq {α : Type} (a : α) : (pure a : PR α) = ok a := rfl
/-- forget why it failed (the list-level models have only `none`) -/
def toOption {α : Type} : PR α → Option α
  | ok a => some a
  | _ => none
end PR

/-! ## memory accesses -/

/-- `*(base + i)` for a forward index -/
def rd (m : Str) (i : Nat) : PR Byte :=
  match m[i]? with
  | some c => .ok c
  | none => .oob i

/-- `*(base + i)` for an index that may have been decremented -/
def rdI (m : Str) (i : Int) : PR Byte :=
  if i < 0 then .oob i else rd m i.toNat

/-- the `n` bytes `base[p .. p+n)`: `std::string(p, n)`, the source of a
`memcpy`, one side of a `memcmp`.  `n = 0` reads nothing. -/
def rdRange (m : Str) (p n : Nat) : PR Str :=
  if n = 0 then .ok []
  else if p + n ≤ m.length then .ok ((m.drop p).take n)
  else .oob (max p m.length)

/-- `base[i] = c` -/
def wr (m : Str) (i : Nat) (c : Byte) : PR Str :=
  if i < m.length then .ok (m.set i c) else .oob i

/-! ## the three loop shapes -/

/-- `while (p != e && P(*p)) ++p;` — the end test comes first -/
def scanG (m : Str) (e : Nat) (P : Byte → Bool) : Nat → Nat → PR Nat
  | 0, _ => .fuel
  | f + 1, p =>
    if p != e then do
      let c ← rd m p
      if P c then scanG m e P f (p + 1) else pure p
    else pure p

/-- `while (P(*p) && p != e) ++p;` — the read comes first (unrepaired order) -/
def scanU (m : Str) (e : Nat) (P : Byte → Bool) : Nat → Nat → PR Nat
  | 0, _ => .fuel
  | f + 1, p => do
    let c ← rd m p
    if P c && p != e then scanU m e P f (p + 1) else pure p

/-- `while (P(*p)) ++p;` — no end test at all -/
def scanZ (m : Str) (P : Byte → Bool) : Nat → Nat → PR Nat
  | 0, _ => .fuel
  | f + 1, p => do
    let c ← rd m p
    if P c then scanZ m P f (p + 1) else pure p

/-! ## igris::split(buffer, char) — string.cpp -/

/-- `ptr`, `strt` are indices into `m`, `e` is `end` -/
def splitCharLoopP (m : Str) (e : Nat) (delim : Byte) : Nat → Nat → List Str → PR (List Str)
  | 0, _, _ => .fuel
  | f + 1, ptr, outvec => do
    -- while (ptr != end && *ptr == delim) ptr++;
    let ptr ← scanG m e (· == delim) (m.length + 1) ptr
    -- if (ptr == end) break;
    if ptr == e then pure outvec else
    let strt := ptr
    -- while (ptr != end && *ptr != delim) ptr++;
    let ptr ← scanG m e (· != delim) (m.length + 1) ptr
    -- outvec.emplace_back(strt, ptr - strt);
    let tok ← rdRange m strt (ptr - strt)
    splitCharLoopP m e delim f ptr (outvec ++ [tok])

def splitCharP (buf : Str) (delim : Byte) : PR (List Str) :=
  splitCharLoopP buf buf.length delim (buf.length + 1) 0 []

/-- before 8b4a8e9: `while (*ptr == delim) ptr++;` -/
def splitCharOrigLoopP (m : Str) (e : Nat) (delim : Byte) : Nat → Nat → List Str → PR (List Str)
  | 0, _, _ => .fuel
  | f + 1, ptr, outvec => do
    let ptr ← scanZ m (· == delim) (m.length + 1) ptr
    if ptr == e then pure outvec else
    let strt := ptr
    let ptr ← scanG m e (· != delim) (m.length + 1) ptr
    let tok ← rdRange m strt (ptr - strt)
    splitCharOrigLoopP m e delim f ptr (outvec ++ [tok])

def splitCharOrigP (buf : Str) (delim : Byte) : PR (List Str) :=
  splitCharOrigLoopP buf buf.length delim (buf.length + 1) 0 []

/-! ## igris::split(buffer, const char *delims) -/

def splitDelimsLoopP (m : Str) (e : Nat) (delims : Str) : Nat → Nat → List Str → PR (List Str)
  | 0, _, _ => .fuel
  | f + 1, ptr, outvec => do
    -- while (ptr != end && strchr(delims, *ptr) != NULL) ptr++;
    let ptr ← scanG m e (strchrHit delims) (m.length + 1) ptr
    if ptr == e then pure outvec else
    let strt := ptr
    -- while (ptr != end && strchr(delims, *ptr) == NULL) ptr++;
    let ptr ← scanG m e (fun c => !strchrHit delims c) (m.length + 1) ptr
    let tok ← rdRange m strt (ptr - strt)
    let outvec := outvec ++ [tok]
    -- if (ptr == end) break;
    if ptr == e then pure outvec else splitDelimsLoopP m e delims f ptr outvec

def splitDelimsP (buf delims : Str) : PR (List Str) :=
  if buf.length = 0 then pure [] else splitDelimsLoopP buf buf.length delims (buf.length + 1) 0 []

/-- before 76a8f9d: `while (strchr(delims, *ptr) != NULL && ptr != end) ptr++;` -/
def splitDelimsOrigLoopP (m : Str) (e : Nat) (delims : Str) : Nat → Nat → List Str → PR (List Str)
  | 0, _, _ => .fuel
  | f + 1, ptr, outvec => do
    let ptr ← scanU m e (strchrHit delims) (m.length + 2) ptr
    if ptr == e then pure outvec else
    let strt := ptr
    let ptr ← scanG m e (fun c => !strchrHit delims c) (m.length + 1) ptr
    let tok ← rdRange m strt (ptr - strt)
    let outvec := outvec ++ [tok]
    if ptr == e then pure outvec else splitDelimsOrigLoopP m e delims f ptr outvec

def splitDelimsOrigP (buf delims : Str) : PR (List Str) :=
  if buf.length = 0 then pure [] else splitDelimsOrigLoopP buf buf.length delims (buf.length + 1) 0 []

/-! ## igris::split_cmdargs -/

def cmdargsLoopP (m : Str) (e : Nat) : Nat → Nat → List Str → PR (List Str)
  | 0, _, _ => .fuel
  | f + 1, ptr, outvec => do
    -- while (ptr != end && *ptr == ' ') ptr++;
    let ptr ← scanG m e (· == SP) (m.length + 1) ptr
    -- if (ptr == end) break;
    if ptr == e then pure outvec else
    -- if (*ptr == '"' || *ptr == '\'')
    let c ← rd m ptr
    if c == DQ || c == SQ then
      -- char delim = *ptr; ptr++; strt = ptr;
      let delim ← rd m ptr
      let ptr := ptr + 1
      let strt := ptr
      -- while (ptr != end && *ptr != delim) ptr++;
      let ptr ← scanG m e (· != delim) (m.length + 1) ptr
      let tok ← rdRange m strt (ptr - strt)
      let outvec := outvec ++ [tok]
      -- if (ptr == end) break;  ptr++;
      if ptr == e then pure outvec else cmdargsLoopP m e f (ptr + 1) outvec
    else
      let strt := ptr
      -- while (ptr != end && *ptr != ' ') ptr++;
      let ptr ← scanG m e (· != SP) (m.length + 1) ptr
      let tok ← rdRange m strt (ptr - strt)
      cmdargsLoopP m e f ptr (outvec ++ [tok])

def splitCmdargsP (buf : Str) : PR (List Str) :=
  if buf.length = 0 then pure [] else cmdargsLoopP buf buf.length (buf.length + 1) 0 []

/-- before 16fd822: `while (*ptr == ' ' && ptr != end) ptr++;` -/
def cmdargsOrigLoopP (m : Str) (e : Nat) : Nat → Nat → List Str → PR (List Str)
  | 0, _, _ => .fuel
  | f + 1, ptr, outvec => do
    let ptr ← scanU m e (· == SP) (m.length + 2) ptr
    if ptr == e then pure outvec else
    let c ← rd m ptr
    if c == DQ || c == SQ then
      let delim ← rd m ptr
      let ptr := ptr + 1
      let strt := ptr
      let ptr ← scanG m e (· != delim) (m.length + 1) ptr
      let tok ← rdRange m strt (ptr - strt)
      let outvec := outvec ++ [tok]
      if ptr == e then pure outvec else cmdargsOrigLoopP m e f (ptr + 1) outvec
    else
      let strt := ptr
      let ptr ← scanG m e (· != SP) (m.length + 1) ptr
      let tok ← rdRange m strt (ptr - strt)
      cmdargsOrigLoopP m e f ptr (outvec ++ [tok])

def splitCmdargsOrigP (buf : Str) : PR (List Str) :=
  if buf.length = 0 then pure [] else cmdargsOrigLoopP buf buf.length (buf.length + 1) 0 []

/-! ## igris::trim — string.h -/

/-- `while (left != right && ws(*right)) --right;` — `right` is decremented:
an `Int` index, read with `rdI` -/
def scanBack (m : Str) (left : Int) (P : Byte → Bool) : Nat → Int → PR Int
  | 0, _ => .fuel
  | f + 1, right =>
    if left != right then do
      let c ← rdI m right
      if P c then scanBack m left P f (right - 1) else pure right
    else pure right

def trimP (view : Str) : PR Str :=
  if view.length = 0 then pure [] else do
  -- left = data; right = data + size - 1; end = data + size;
  let e := view.length
  let right : Int := (view.length : Int) - 1
  -- while (left != end && ws(*left)) ++left;
  let left ← scanG view e isWsTrim (view.length + 1) 0
  -- if (left == end) return "";
  if left == e then pure [] else
  -- while (left != right && ws(*right)) --right;
  let right ← scanBack view left isWsTrim (view.length + 1) right
  -- return std::string(left, (right - left) + 1);
  rdRange view left ((right - left) + 1).toNat

/-! ## igris_memmem — memmem.c

`lm` is the memory block `l` points into, `l` the index of the first byte,
`l_len` the length the caller passes; `sm`, `s_len` the same for the needle
(`cs` = index 0).  Result: NULL or the index (into `lm`) of the match. -/

/-- libc `memchr(base + b, c, n)`: looks at `base[b], base[b+1], …` in turn -/
def memchrP (m : Str) (b : Nat) (c : Byte) : Nat → Nat → PR (Option Nat)
  | 0, _ => pure none
  | n + 1, i => do
    let x ← rd m (b + i)
    if x == c then pure (some (b + i)) else memchrP m b c n (i + 1)

/-- libc `memcmp(lm + lp, sm + sp, n) == 0`: may read all `n` bytes of both -/
def memcmpEqP (lm : Str) (lp : Nat) (sm : Str) (sp n : Nat) : PR Bool := do
  let a ← rdRange lm lp n
  let b ← rdRange sm sp n
  pure (a == b)

/-- `for (cur = cl; cur <= last; cur++) if (cur[0] == cs[0] && memcmp(cur, cs, s_len) == 0) return cur;` -/
def memmemLoopP (lm sm : Str) (s_len last : Nat) : Nat → Nat → PR (Option Nat)
  | 0, _ => .fuel
  | f + 1, cur =>
    if cur ≤ last then do
      let a ← rd lm cur
      let b ← rd sm 0
      if a == b then
        if (← memcmpEqP lm cur sm 0 s_len) then pure (some cur)
        else memmemLoopP lm sm s_len last f (cur + 1)
      else memmemLoopP lm sm s_len last f (cur + 1)
    else pure none

def memmemP (lm : Str) (l l_len : Nat) (sm : Str) (s_len : Nat) : PR (Option Nat) :=
  -- if (l_len == 0 || s_len == 0) return NULL;
  if l_len = 0 ∨ s_len = 0 then pure none
  -- if (l_len < s_len) return NULL;
  else if l_len < s_len then pure none
  -- if (s_len == 1) return memchr(l, (int)*cs, l_len);
  else if s_len = 1 then do
    let c ← rd sm 0
    memchrP lm l c l_len 0
  else
    -- last = cl + l_len - s_len;
    let last := l + l_len - s_len
    memmemLoopP lm sm s_len last (l_len + 1) l

/-! ## igris::replace — replace.cpp -/

def replaceLoopP (im sm rep : Str) (streit : Nat) : Nat → Nat → Str → PR Str
  | 0, _, _ => .fuel
  | f + 1, strit, output => do
    -- while ((finded = igris_memmem(strit, streit - strit, sub.data(), sub.size())) != NULL)
    match ← memmemP im strit (streit - strit) sm sm.length with
    | none =>
      -- output.append(strit, streit - strit);
      let t ← rdRange im strit (streit - strit)
      pure (output ++ t)
    | some finded =>
      let step := finded - strit
      -- output.append(strit, step); strit += step;
      let t ← rdRange im strit step
      let output := output ++ t
      let strit := strit + step
      -- output.append(rep); strit += sub.size();
      let output := output ++ rep
      let strit := strit + sm.length
      replaceLoopP im sm rep streit f strit output

def replaceP (input sub rep : Str) : PR Str :=
  if sub.length = 0 then pure input
  else replaceLoopP input sub rep input.length (input.length + 1) 0 []

/-! ## replace_substrings — replace_substrings.c

The destination is a block of exactly `maxsize` bytes.  State of the writer:
the bytes written so far from `buffer[0]` on (`bufit` = their number) and
`room`. -/

/-- `replace_substrings_put(&bufit, &room, srcm + src, len)` -/
def rsPutP (maxsize : Nat) (st : Str × Nat) (srcm : Str) (src len : Nat) : PR (Str × Nat) := do
  let len := min len st.2
  -- memcpy(*bufit, src, len): reads src[0..len), writes bufit[0..len)
  let bytes ← rdRange srcm src len
  if len ≠ 0 ∧ st.1.length + len > maxsize then .oob maxsize else
  pure (st.1 ++ bytes, st.2 - len)

def rsLoopP (maxsize : Nat) (im sm rm : Str) (streit : Nat) : Nat → Nat → Str × Nat → PR (Str × Nat)
  | 0, _, _ => .fuel
  | f + 1, strit, st => do
    match ← memmemP im strit (streit - strit) sm sm.length with
    | none => rsPutP maxsize st im strit (streit - strit)
    | some finded =>
      let step := finded - strit
      let st ← rsPutP maxsize st im strit step
      let strit := strit + step
      let st ← rsPutP maxsize st rm 0 rm.length
      let strit := strit + sm.length
      rsLoopP maxsize im sm rm streit f strit st

def replaceSubstringsP (maxsize : Nat) (input sub rep : Str) : PR Str :=
  if maxsize = 0 then pure [] else
  let room := maxsize - 1
  if sub.length = 0 then do
    let len := min (maxsize - 1) input.length
    -- memcpy(buffer, input, len); buffer[len] = 0;
    let bytes ← rdRange input 0 len
    if len < maxsize then pure (bytes ++ [NUL]) else .oob len
  else do
    let st ← rsLoopP maxsize input sub rep input.length (input.length + 1) 0 ([], room)
    -- *bufit = 0;
    if st.1.length < maxsize then pure (st.1 ++ [NUL]) else .oob st.1.length

/-- before d4e621a: plain `memcpy`s, `maxsize` looked at only for an empty pattern
(and then `maxsize - 1` wraps for 0) — the writer state is just the bytes written -/
def rsPutOrigP (maxsize : Nat) (w : Str) (srcm : Str) (src len : Nat) : PR Str := do
  let bytes ← rdRange srcm src len
  if len ≠ 0 ∧ w.length + len > maxsize then .oob maxsize else pure (w ++ bytes)

def rsOrigLoopP (maxsize : Nat) (im sm rm : Str) (streit : Nat) : Nat → Nat → Str → PR Str
  | 0, _, _ => .fuel
  | f + 1, strit, w => do
    match ← memmemP im strit (streit - strit) sm sm.length with
    | none =>
      -- memcpy(bufit, strit, lastlen); *(bufit + lastlen) = 0;
      let w ← rsPutOrigP maxsize w im strit (streit - strit)
      if w.length < maxsize then pure (w ++ [NUL]) else .oob w.length
    | some finded =>
      let step := finded - strit
      let w ← rsPutOrigP maxsize w im strit step
      let w ← rsPutOrigP maxsize w rm 0 rm.length
      rsOrigLoopP maxsize im sm rm streit f (strit + step + sm.length) w

def replaceSubstringsOrigP (maxsize : Nat) (input sub rep : Str) : PR Str := do
  -- if (sublen == 0) { len = MIN(maxsize - 1, inlen); memcpy(buffer, input, len); buffer[len] = 0; }  (no return)
  if sub.length = 0 then
    let len := min ((maxsize + 2 ^ 64 - 1) % 2 ^ 64) input.length
    let _ ← rdRange input 0 len
    if len ≥ maxsize then .oob maxsize else pure ()
  rsOrigLoopP maxsize input sub rep input.length (input.length + 1) 0 []

/-! ## join — string.cpp / string.h: iterators are indices into the vector -/

/-- `*iter` -/
def rdV (vec : List Str) (i : Nat) : PR Str :=
  match vec[i]? with
  | some s => .ok s
  | none => .oob i

/-- `for (; iter != preend; iter++) { ret.append(*iter); ret.push_back(delim); }` -/
def joinLoopP (vec : List Str) (delim : Str) (preend : Nat) : Nat → Nat → Str → PR (Nat × Str)
  | 0, _, _ => .fuel
  | f + 1, iter, ret =>
    if iter != preend then do
      let s ← rdV vec iter
      joinLoopP vec delim preend f (iter + 1) (ret ++ s ++ delim)
    else pure (iter, ret)

def joinP (vec : List Str) (delim : Byte) : PR Str :=
  if vec.length = 0 then pure [] else do
  -- preend = vec.end(); iter = vec.begin(); preend--;
  let preend := vec.length - 1
  let (iter, ret) ← joinLoopP vec [delim] preend (vec.length + 1) 0 []
  -- ret.append(*iter);
  let s ← rdV vec iter
  pure (ret ++ s)

/-- `for (unsigned int i = 0; i < tot - 1; ++i) { ret.append(*it++); ret.append(delim); }`
`i` is a 32-bit counter (`++i` wraps), `tot - 1` a `size_t` (`totm1`) -/
def joinFmtLoopP (vec : List Str) (delim : Str) (totm1 : Nat) : Nat → Nat → Nat → Str → PR (Nat × Str)
  | 0, _, _, _ => .fuel
  | f + 1, i, it, ret =>
    if i < totm1 then do
      let s ← rdV vec it
      joinFmtLoopP vec delim totm1 f ((i + 1) % 2 ^ 32) (it + 1) (ret ++ s ++ delim)
    else pure (it, ret)

/-- `tot - 1` for a `size_t`: wraps to 2⁶⁴−1 for 0 -/
def sizeDec (tot : Nat) : Nat := if tot = 0 then 2 ^ 64 - 1 else tot - 1

def joinFmtP (vec : List Str) (delim pre post : Str) : PR Str :=
  let tot := vec.length
  let ret := pre
  -- if (tot == 0) { ret.append(postfix); return ret; }
  if tot = 0 then pure (ret ++ post) else do
  let (it, ret) ← joinFmtLoopP vec delim (sizeDec tot) (vec.length + 1) 0 0 ret
  let s ← rdV vec it
  pure (ret ++ s ++ post)

/-- before 6236ab4: no `tot == 0` guard -/
def joinFmtOrigP (vec : List Str) (delim pre post : Str) : PR Str := do
  let tot := vec.length
  let ret := pre
  let (it, ret) ← joinFmtLoopP vec delim (sizeDec tot) (vec.length + 1) 0 0 ret
  let s ← rdV vec it
  pure (ret ++ s ++ post)

/-! ## argvc_internal_split_n — argvc.h

`m` = the `maxlen` bytes the caller gives, `eptr = maxlen`; `argv` is an array
of `argcmax` slots: the store `argv[argc++] = data` is a fault for
`argc ≥ argcmax`.  Pointers stored in `argv` are indices into `m`. -/

def argvSplitNLoopP (argcmax eptr : Nat) : Nat → Str → Nat → Nat → List Nat → PR ArgvRes
  | 0, _, _, _, _ => .fuel
  | f + 1, m, data, argc, argv => do
    -- while (data != eptr && strchr(ws, *data)) ++data;
    let data ← scanG m eptr (strchrHit wsArgv) (m.length + 1) data
    -- if (data == eptr || *data == '\0' || argc >= argcmax) return argc;
    if data == eptr then pure ⟨argc, argv, m⟩ else
    let c ← rd m data
    if c == NUL || argc ≥ argcmax then pure ⟨argc, argv, m⟩ else
    -- argv[argc++] = data;
    if argc ≥ argcmax then .oob argc else
    let argv := argv ++ [data]
    let argc := argc + 1
    -- while (data != eptr && !strchr(ws, *data)) ++data;
    let data ← scanG m eptr (fun c => !strchrHit wsArgv c) (m.length + 1) data
    -- if (data != eptr && strchr(ws, *data)) { *data++ = '\0'; goto newarg_search; }
    if data != eptr then
      let c2 ← rd m data
      if strchrHit wsArgv c2 then
        let m ← wr m data NUL
        argvSplitNLoopP argcmax eptr f m (data + 1) argc argv
      else pure ⟨argc, argv, m⟩
    else pure ⟨argc, argv, m⟩

def argvSplitNP (data : Str) (argcmax : Nat) : PR ArgvRes :=
  argvSplitNLoopP argcmax data.length (data.length + 1) data 0 0 []

/-- before eff14ad:
`while (strchr(ws, *data) && data != eptr)`, `if (*data == '\0' || argc >= argcmax || data == eptr)`,
`while (!strchr(ws, *data) && data != eptr)`, `if (strchr(ws, *data))` -/
def argvSplitNOrigLoopP (argcmax eptr : Nat) : Nat → Str → Nat → Nat → List Nat → PR ArgvRes
  | 0, _, _, _, _ => .fuel
  | f + 1, m, data, argc, argv => do
    let data ← scanU m eptr (strchrHit wsArgv) (m.length + 2) data
    let c ← rd m data
    if c == NUL || argc ≥ argcmax || data == eptr then pure ⟨argc, argv, m⟩ else
    if argc ≥ argcmax then .oob argc else
    let argv := argv ++ [data]
    let argc := argc + 1
    let data ← scanU m eptr (fun c => !strchrHit wsArgv c) (m.length + 2) data
    let c2 ← rd m data
    if strchrHit wsArgv c2 then
      let m ← wr m data NUL
      argvSplitNOrigLoopP argcmax eptr f m (data + 1) argc argv
    else pure ⟨argc, argv, m⟩

def argvSplitNOrigP (data : Str) (argcmax : Nat) : PR ArgvRes :=
  argvSplitNOrigLoopP argcmax data.length (data.length + 1) data 0 0 []

/-! ## creader_readline — creader.h (`strt = 0`, `fini = mem.length`) -/

/-- `while ((it != *token) && (*(it - 1) == '\r')) --it;` -/
def rewindCRP (mem : Str) (token : Int) : Nat → Int → PR Int
  | 0, _ => .fuel
  | f + 1, it =>
    if it != token then do
      let c ← rdI mem (it - 1)
      if c == CR then rewindCRP mem token f (it - 1) else pure it
    else pure it

def creaderReadlineP (mem : Str) (cursor : Nat) : PR (Int × Nat × Nat) :=
  let fini := mem.length
  -- it = reader->cursor; *token = reader->cursor;
  let token := cursor
  -- if (creader_end(reader)) return -1;
  if cursor == fini then pure (-1, token, cursor) else do
  -- while (it != fini && *it != '\n' && *it != '\0') it++;
  let it ← scanG mem fini (fun c => c != NL && c != NUL) (mem.length + 1) cursor
  if it != fini then
    -- reader->cursor = it + 1;
    let cursor' := it + 1
    -- while ((it != *token) && (*(it - 1) == '\r')) --it;
    let it' ← rewindCRP mem token (mem.length + 1) it
    -- len = it - *token;
    pure (it' - (token : Int), token, cursor')
  else
    -- reader->cursor = it; return it - *token;
    pure ((it : Int) - (token : Int), token, it)

/-- before 6d1ea18: `while (*it != '\n' && *it != '\0' && it != reader->fini) it++;`
(only the scan matters for the witness; what follows is the repaired code) -/
def creaderReadlineOrigP (mem : Str) (cursor : Nat) : PR (Int × Nat × Nat) :=
  let fini := mem.length
  let token := cursor
  if cursor == fini then pure (-1, token, cursor) else do
  let it ← scanU mem fini (fun c => c != NL && c != NUL) (mem.length + 2) cursor
  if it != fini then
    let cursor' := it + 1
    let it' ← rewindCRP mem token (mem.length + 1) it
    pure (it' - (token : Int), token, cursor')
  else
    pure ((it : Int) - (token : Int), token, it)

/-- the harness loop over the pointer-level reader -/
def creaderAllP (mem : Str) : Nat → Nat → PR (List (Nat × Int × Nat) × Bool)
  | 0, _ => pure ([], false)
  | f + 1, cursor => do
    let (len, tok, cur') ← creaderReadlineP mem cursor
    if len < 0 then pure ([], true) else
    let (l, ended) ← creaderAllP mem f cur'
    pure ((tok, len, cur') :: l, ended)

/-! ## path_next / path_iterate — pathops.h

`m` is the whole allocation of the NUL-terminated path (text, terminator and
whatever follows), a `const char *` is an index into it. -/

/-- `*path == '.' && (*(path + 1) == '/' || *(path + 1) == '\0')` -/
def isSingleDotP (m : Str) (path : Nat) : PR Bool := do
  let c ← rd m path
  if c != DOT then pure false else
  let nc ← rd m (path + 1)
  pure (nc == SLASH || nc == NUL)

/-- before 03ab9aa: `char nc = *(path + 1);` came first -/
def isSingleDotOrigP (m : Str) (path : Nat) : PR Bool := do
  let nc ← rd m (path + 1)
  let c ← rd m path
  pure (c == DOT && (nc == SLASH || nc == NUL))

/-- `while (*path == '/' || path_is_single_dot(path)) ++path;` -/
def skipSlashDotsP (m : Str) : Nat → Nat → PR Nat
  | 0, _ => .fuel
  | f + 1, path => do
    let c ← rd m path
    if c == SLASH then skipSlashDotsP m f (path + 1) else
    if (← isSingleDotP m path) then skipSlashDotsP m f (path + 1) else pure path

/-- `while (*end && *end != '/') ++end;` -/
def scanCompP (m : Str) : Nat → Nat → PR Nat
  | 0, _ => .fuel
  | f + 1, e => do
    let c ← rd m e
    if c != NUL && c != SLASH then scanCompP m f (e + 1) else pure e

/-- `path_next(path, &len)` for `path != NULL`: NULL or (returned pointer, `*p_len`) -/
def pathNextP (m : Str) (path : Nat) : PR (Option (Nat × Nat)) := do
  let path ← skipSlashDotsP m (m.length + 1) path
  -- if (!*path) return NULL;
  let c ← rd m path
  if c == NUL then pure none else
  -- end = path; while (*end && *end != '/') ++end; *p_len = end - path;
  let e ← scanCompP m (m.length + 1) path
  pure (some (path, e - path))

/-- `path_iterate(path)` for `path != NULL` -/
def pathIterateP (m : Str) (path : Nat) : PR (Option Nat) := do
  -- if (*path == '\0') return NULL;
  let c ← rd m path
  if c == NUL then pure none else
  if c == SLASH then
    let p ← skipSlashDotsP m (m.length + 1) path
    pure (some p)
  else
    let p ← scanCompP m (m.length + 1) path
    let p ← skipSlashDotsP m (m.length + 1) p
    pure (some p)

/-! ## argvc_internal_split — argvc.h (NUL-terminated; `m` = the whole allocation) -/

/-- `while (*data != '\0') { if (strchr(ws, *data)) ++data; else break; }` -/
def skipWsZP (m : Str) : Nat → Nat → PR Nat
  | 0, _ => .fuel
  | f + 1, data => do
    let c ← rd m data
    if c != NUL then (if strchrHit wsArgv c then skipWsZP m f (data + 1) else pure data) else pure data

/-- `while (!strchr(ws, *data) && *data != '\0') ++data;` -/
def scanTokZP (m : Str) : Nat → Nat → PR Nat
  | 0, _ => .fuel
  | f + 1, data => do
    let c ← rd m data
    if !strchrHit wsArgv c && c != NUL then scanTokZP m f (data + 1) else pure data

def argvSplitLoopP (argcmax : Nat) : Nat → Str → Nat → Nat → List Nat → PR ArgvRes
  | 0, _, _, _, _ => .fuel
  | f + 1, m, data, argc, argv => do
    let data ← skipWsZP m (m.length + 1) data
    -- if (*data == '\0' || argc >= argcmax) return argc;
    let c ← rd m data
    if c == NUL || argc ≥ argcmax then pure ⟨argc, argv, m⟩ else
    -- argv[argc++] = data;   (an array of argcmax slots)
    if argc ≥ argcmax then .oob argc else
    let argv := argv ++ [data]
    let argc := argc + 1
    let data ← scanTokZP m (m.length + 1) data
    -- if (*data == '\0') return argc;
    let c2 ← rd m data
    if c2 == NUL then pure ⟨argc, argv, m⟩ else
    -- if (strchr(ws, *data)) { *data++ = '\0'; continue; }  break;
    if strchrHit wsArgv c2 then
      let m ← wr m data NUL
      argvSplitLoopP argcmax f m (data + 1) argc argv
    else pure ⟨argc, argv, m⟩

/-- `argvc_internal_split(data, argv, argcmax)` -/
def argvSplitP (data : Str) (argcmax : Nat) : PR ArgvRes :=
  argvSplitLoopP argcmax (data.length + 1) data 0 0 []

end Igris.C19
