/-
  C19 — the index-level path routines (Ptr.lean, Model3.lean, Ptr2.lean) against the cursor models.
-/
import IgrisModel.C19.Refine
import IgrisModel.C19.Path
import IgrisModel.C19.Ptr2
namespace Igris.C19
open Igris.Proto

/-! ## path_next / path_iterate -/

theorem isSingleDotP_eq (m : Str) (p : Nat) : Refines Eq (isSingleDot (m.drop p)) (isSingleDotP m p) := by
  rcases Nat.lt_or_ge p m.length with hp | hp
  · rw [List.drop_eq_getElem_cons hp, isSingleDot.eq_def, isSingleDotP]
    simp only
    refine Refines.bind_ok (rd_lt m p hp) (Refines.ite (fun _ => Refines.pure rfl) fun _ => ?_)
    rcases Nat.lt_or_ge (p + 1) m.length with hp1 | hp1
    · rw [List.drop_eq_getElem_cons hp1]
      exact Refines.bind_ok (rd_lt m (p + 1) hp1) (Refines.pure rfl)
    · rw [List.drop_eq_nil_of_le hp1]; exact Refines.none
  · rw [List.drop_eq_nil_of_le hp]; exact Refines.none

theorem skipSlashDotsP_eq (m : Str) : ∀ (f p : Nat), m.length - p < f →
    Refines (fun c q => p ≤ q ∧ q < m.length ∧ c = m.drop q) (skipSlashDots (m.drop p)) (skipSlashDotsP m f p) := by
  intro f
  induction f with
  | zero => intro p h; omega
  | succ f ih =>
    intro p hf
    rcases Nat.lt_or_ge p m.length with hp | hp
    · have hrec : Refines (fun c q => p ≤ q ∧ q < m.length ∧ c = m.drop q) (skipSlashDots (m.drop (p + 1)))
          (skipSlashDotsP m f (p + 1)) :=
        (ih (p + 1) (by omega)).mono fun c q ⟨h1, h2, h3⟩ => ⟨by omega, h2, h3⟩
      rw [List.drop_eq_getElem_cons hp, skipSlashDots, skipSlashDotsP, ← List.drop_eq_getElem_cons hp]
      refine Refines.bind_ok (rd_lt m p hp) (Refines.ite (fun _ => hrec) fun _ => ?_)
      cases hd : isSingleDot (m.drop p) with
      | none => exact Refines.none
      | some b =>
        refine Refines.bind_ok ((isSingleDotP_eq m p).eq_ok hd) ?_
        cases b
        · exact Refines.pure ⟨Nat.le_refl _, hp, rfl⟩
        · exact hrec
    · rw [List.drop_eq_nil_of_le hp]; exact Refines.none

theorem scanCompP_eq (m : Str) (f p : Nat) (hf : m.length - p < f) :
    Refines (fun c q => p ≤ q ∧ q < m.length ∧ c = m.drop q) (scanComp (m.drop p)) (scanCompP m f p) :=
  scanZ_eq_of_shape m (fun c => c != NUL && c != SLASH) scanComp_eq_scanTo (fun _ _ => rfl) f p hf

theorem pathNextP_eq (m : Str) (path : Nat) (hp : path ≤ m.length) :
    Refines (fun r r' => r' = r.map fun x => (path + x.1, x.2)) (pathNext (m.drop path)) (pathNextP m path) := by
  rw [pathNext, pathNextP]
  refine Refines.bind (skipSlashDotsP_eq m _ path (by omega)) fun _ q ⟨hpq, hq, e⟩ => ?_
  subst e
  refine Refines.bind (rd_refines m q) fun c _ e => ?_
  subst e
  refine Refines.ite (fun _ => Refines.pure rfl) fun _ => ?_
  refine Refines.bind (scanCompP_eq m _ q (by omega)) fun _ q2 ⟨hq12, hq2, e⟩ => ?_
  subst e
  refine Refines.pure ?_
  rw [length_drop_sub m hpq (Nat.le_of_lt hq), length_drop_sub m hq12 (Nat.le_of_lt hq2), Option.map_some,
    Nat.add_sub_cancel' hpq]

theorem pathNextP_sim (m : Str) : Refines Eq (pathNext m) (pathNextP m 0) :=
  (pathNextP_eq m 0 (Nat.zero_le _)).mono fun r r' h => by rw [h]; cases r <;> simp

theorem pathIterateP_eq (m : Str) (path : Nat) :
    Refines (fun r r' => r = r'.map fun q => m.drop q) (pathIterate (m.drop path)) (pathIterateP m path) := by
  rw [pathIterate, pathIterateP]
  refine Refines.bind (rd_refines m path) fun c _ e => ?_
  subst e
  refine Refines.ite (fun _ => Refines.pure rfl) fun _ => ?_
  refine Refines.ite (fun _ => ?_) fun _ => ?_
  · refine Refines.bind (skipSlashDotsP_eq m _ path (by omega)) fun _ q ⟨_, _, e⟩ => ?_
    exact Refines.pure (e ▸ rfl)
  · refine Refines.bind (scanCompP_eq m _ path (by omega)) fun _ q2 ⟨_, _, e⟩ => ?_
    subst e
    refine Refines.bind (skipSlashDotsP_eq m _ q2 (by omega)) fun _ q ⟨_, _, e⟩ => ?_
    exact Refines.pure (e ▸ rfl)

/-! ## path_compare_node -/

/-- the fault side too: the cursor model faults by a read on the empty cursor, an access exactly at the end of a block -/
theorem compareNodeP_eq (ma mb : Str) : ∀ (f a b : Nat), ma.length < a + f → a ≤ ma.length → b ≤ mb.length →
    match compareNode (ma.drop a) (mb.drop b) with
    | some v => compareNodeP ma mb f a b = .ok v
    | none => compareNodeP ma mb f a b = .oob ma.length ∨ compareNodeP ma mb f a b = .oob mb.length := by
  intro f
  induction f with
  | zero => intro a b hf ha; omega
  | succ f ih =>
    intro a b hf hal hbl
    rw [compareNodeP]
    rcases Nat.lt_or_ge a ma.length with ha | ha
    · rw [List.drop_eq_getElem_cons ha, compareNode.eq_def, rd_lt ma a ha]
      rcases Nat.lt_or_ge b mb.length with hb | hb
      · rw [List.drop_eq_getElem_cons hb, rd_lt mb b hb]
        simp only [PR.ok_bind]
        by_cases h1 : (ma[a] != NUL && ma[a] != SLASH) = true
        · rw [if_pos h1, if_pos h1]
          by_cases h2 : (mb[b] != NUL && mb[b] != SLASH) = true
          · rw [if_pos h2, if_pos h2]
            by_cases h3 : (ma[a] == mb[b]) = true
            · rw [if_pos h3, if_pos h3]
              exact ih (a + 1) (b + 1) (by omega) (by omega) (by omega)
            · rw [if_neg h3, if_neg h3]; rfl
          · rw [if_neg h2, if_neg h2]; rfl
        · rw [if_neg h1, if_neg h1, ← apply_ite some]; rfl
      · rw [List.drop_eq_nil_of_le hb, rd_ge mb b hb, Nat.le_antisymm hbl hb]
        simp only [PR.ok_bind, PR.oob_bind]
        by_cases h1 : (ma[a] != NUL && ma[a] != SLASH) = true
        · rw [if_pos h1, if_pos h1]; exact Or.inr rfl
        · rw [if_neg h1, if_neg h1]; exact Or.inr rfl
    · rw [List.drop_eq_nil_of_le ha, rd_ge ma a ha, Nat.le_antisymm hal ha]
      exact Or.inl rfl

theorem compareNode_nil_right (x : Cur) : compareNode x [] = none := by
  cases x with
  | nil => rfl
  | cons c r => rw [compareNode.eq_def]; simp only; split <;> rfl

theorem compareNodeP_ok (ma mb : Str) (f a b : Nat) (hf : ma.length < a + f) :
    Refines Eq (compareNode (ma.drop a) (mb.drop b)) (compareNodeP ma mb f a b) := by
  intro v hv
  rcases Nat.lt_or_ge ma.length a with h | ha
  · rw [List.drop_eq_nil_of_le (Nat.le_of_lt h)] at hv; cases hv
  rcases Nat.lt_or_ge mb.length b with h | hb
  · rw [List.drop_eq_nil_of_le (Nat.le_of_lt h), compareNode_nil_right] at hv; cases hv
  have := compareNodeP_eq ma mb f a b hf ha hb
  rw [hv] at this
  exact ⟨v, this, rfl⟩

/-! ## path_remove_prefix -/

theorem removePrefixLoopP_ok (mp mq : Str) : ∀ (f p q : Nat),
    Refines (fun c r => c = mp.drop r) (removePrefixLoop f (mp.drop p) (mq.drop q)) (removePrefixLoopP mp mq f p q) := by
  intro f
  induction f with
  | zero => intro p q; exact Refines.none
  | succ f ih =>
    intro p q
    rw [removePrefixLoop, removePrefixLoopP]
    refine Refines.bind (rd_refines mq q) fun cp _ e => ?_
    subst e
    refine Refines.bind (R := Eq) (Refines.ite (fun _ => Refines.pure rfl) fun _ =>
      Refines.bind (rd_refines mp p) fun c _ e => e ▸ Refines.pure rfl) fun cont _ e => ?_
    subst e
    refine Refines.ite (fun _ => Refines.pure rfl) fun _ => ?_
    refine Refines.bind (compareNodeP_ok mp mq _ p q (by omega)) fun cmp _ e => ?_
    subst e
    refine Refines.ite (fun _ => ?_) fun _ => Refines.pure rfl
    refine Refines.bind (rd_refines mp p) fun c _ e => ?_
    subst e
    refine Refines.ite (fun _ => Refines.pure rfl) fun _ => ?_
    refine Refines.bind (pathIterateP_eq mp p) fun r1 r1' h1 => ?_
    refine Refines.bind (pathIterateP_eq mq q) fun r2 r2' h2 => ?_
    subst h1 h2
    cases r1' <;> cases r2' <;> first | exact Refines.none | exact ih _ _

end Igris.C19
