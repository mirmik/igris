/-
  C19 — util/pathops.h: the path helpers against the component-wise references of Spec.lean, Spec2.lean
  (`lastSeg`) and Spec3.lean (`nodes`).
-/
import IgrisModel.C19.Strings
import IgrisModel.C19.Spec3
namespace Igris.C19
open Igris.Proto

/-! ## splitSlash / joinSlash -/

theorem splitSlash_head (p : Str) : ∃ t, splitSlash p = headComp p :: t := by
  induction p with
  | nil => exact ⟨[], rfl⟩
  | cons x xs ih =>
    obtain ⟨t, ht⟩ := ih
    by_cases hx : x = SLASH
    · subst hx
      exact ⟨splitSlash xs, by simp [splitSlash, headComp]⟩
    · have hx' : (x == SLASH) = false := by simpa using hx
      refine ⟨t, ?_⟩
      simp [splitSlash, hx', ht, headComp, hx]

theorem splitSlash_ne_nil (p : Str) : splitSlash p ≠ [] := by
  obtain ⟨t, h⟩ := splitSlash_head p
  rw [h]; exact List.cons_ne_nil _ _

theorem joinSlash_cons_cons (a b : Str) (rest : List Str) :
    joinSlash (a :: b :: rest) = a ++ SLASH :: joinSlash (b :: rest) := by
  simp [joinSlash]

theorem joinSlash_single (a : Str) : joinSlash [a] = a := by simp [joinSlash]

theorem joinSlash_nil : joinSlash [] = [] := by simp [joinSlash, List.intercalate]

theorem joinSlash_cons (a : Str) (rest : List Str) (h : rest ≠ []) :
    joinSlash (a :: rest) = a ++ SLASH :: joinSlash rest := by
  cases rest with
  | nil => exact absurd rfl h
  | cons b r => exact joinSlash_cons_cons a b r

theorem joinSlash_splitSlash (p : Str) : joinSlash (splitSlash p) = p := by
  induction p with
  | nil => simp [splitSlash, joinSlash_single]
  | cons c cs ih =>
    simp only [splitSlash]
    split
    · rename_i hc
      have : c = SLASH := by simpa using hc
      subst this
      rw [joinSlash_cons _ _ (splitSlash_ne_nil cs), ih]; rfl
    · obtain ⟨a, rest, hs⟩ := List.exists_cons_of_ne_nil (splitSlash_ne_nil cs)
      rw [hs] at ih ⊢
      simp only
      cases rest with
      | nil => rw [joinSlash_single] at ih ⊢; rw [ih]
      | cons b r =>
        rw [joinSlash_cons_cons] at ih ⊢
        rw [← ih]; rfl

theorem splitSlash_noslash (p : Str) : ∀ c ∈ splitSlash p, SLASH ∉ c := by
  induction p with
  | nil => simp [splitSlash]
  | cons x xs ih =>
    rw [splitSlash]
    split
    · simpa using ih
    · rename_i hx
      obtain ⟨rest, hs⟩ := splitSlash_head xs
      rw [hs] at ih ⊢
      have hx' : ¬ SLASH = x := fun e => hx (by simp [e])
      simp_all

theorem splitSlash_mem (p : Str) : ∀ c ∈ splitSlash p, ∀ x ∈ c, x ∈ p := by
  induction p with
  | nil => simp [splitSlash]
  | cons y ys ih =>
    rw [splitSlash]
    split
    · intro c hc x hx
      rcases List.mem_cons.mp hc with rfl | hc
      · cases hx
      · exact List.mem_cons_of_mem _ (ih c hc x hx)
    · obtain ⟨rest, hs⟩ := splitSlash_head ys
      rw [hs] at ih ⊢
      intro c hc x hx
      rcases List.mem_cons.mp hc with rfl | hc
      · rcases List.mem_cons.mp hx with rfl | hx
        · exact List.mem_cons_self
        · exact List.mem_cons_of_mem _ (ih _ List.mem_cons_self x hx)
      · exact List.mem_cons_of_mem _ (ih c (List.mem_cons_of_mem _ hc) x hx)

theorem splitSlash_noslash_self (c : Str) (hs : SLASH ∉ c) : splitSlash c = [c] := by
  induction c with
  | nil => rfl
  | cons x xs ih =>
    simp [splitSlash, head_ne_of_not_mem hs, ih (fun m => hs (by simp [m]))]

theorem splitSlash_append_slash (c X : Str) (hs : SLASH ∉ c) :
    splitSlash (c ++ SLASH :: X) = c :: splitSlash X := by
  induction c with
  | nil => simp [splitSlash]
  | cons x xs ih =>
    simp [splitSlash, head_ne_of_not_mem hs, ih (fun m => hs (by simp [m]))]

theorem splitSlash_joinSlash (cs : List Str) (hne : cs ≠ []) (hs : ∀ c ∈ cs, SLASH ∉ c) :
    splitSlash (joinSlash cs) = cs := by
  induction cs with
  | nil => exact absurd rfl hne
  | cons c rest ih =>
    cases rest with
    | nil => rw [joinSlash_single]; exact splitSlash_noslash_self c (hs c (by simp))
    | cons d r =>
      rw [joinSlash_cons_cons, splitSlash_append_slash c _ (hs c (by simp)),
        ih (by simp) (fun x hx => hs x (by simp [hx]))]

theorem joinSlash_dropWhile_suffix (q : Str → Bool) (cs : List Str) :
    joinSlash (cs.dropWhile q) <:+ joinSlash cs := by
  induction cs with
  | nil => exact List.suffix_refl _
  | cons c rest ih =>
    simp only [List.dropWhile_cons]
    split
    · cases rest with
      | nil => simp [joinSlash_nil]
      | cons d r =>
        rw [joinSlash_cons_cons]
        refine List.IsSuffix.trans ih ?_
        exact ⟨c ++ [SLASH], by simp⟩
    · exact List.suffix_refl _

/-! ## skipping slashes and single dots, scanning a component -/

theorem scanComp_eq_scanTo (d : Cur) : scanComp d = scanTo (fun c => c != NUL && c != SLASH) d := by
  induction d with
  | nil => rfl
  | cons c rest ih => rw [scanComp, scanTo, ih]

theorem scanComp_eq (p junk : Str) (hn : NUL ∉ p) :
    scanComp (p ++ NUL :: junk) = some (p.dropWhile (· != SLASH) ++ NUL :: junk) := by
  rw [scanComp_eq_scanTo, scanTo_cstr (· != SLASH) p junk hn rfl fun c h => by simp [h]]

theorem skipSlashDots_real (c tail : Str) (hreal : isReal c = true) (hs : SLASH ∉ c) (hn : NUL ∉ c) :
    skipSlashDots (c ++ tail) = some (c ++ tail) := by
  cases c with
  | nil => simp [isReal] at hreal
  | cons x xs =>
    by_cases hd : x = DOT
    · subst hd
      cases xs with
      | nil => simp [isReal] at hreal
      | cons y ys =>
        have hy : y ≠ SLASH := fun e => hs (by simp [e])
        have hyn : y ≠ NUL := fun e => hn (by simp [e])
        have hb : (y == SLASH || y == NUL) = false := by simp [hy, hyn]
        simp +decide [skipSlashDots, isSingleDot, hb]
    · simp +decide [skipSlashDots, isSingleDot, head_ne_of_not_mem hs, hd]

theorem skipSlashDots_join (cs : List Str) (junk : Str) (hne : cs ≠ [])
    (hs : ∀ c ∈ cs, SLASH ∉ c ∧ NUL ∉ c) :
    skipSlashDots (joinSlash cs ++ NUL :: junk)
      = some (joinSlash (cs.dropWhile (fun c => !isReal c)) ++ NUL :: junk) := by
  induction cs with
  | nil => exact absurd rfl hne
  | cons c rest ih =>
    have ⟨hcs, hcn⟩ := hs c (by simp)
    by_cases hreal : isReal c = true
    · simp only [List.dropWhile_cons, hreal, Bool.not_true, Bool.false_eq_true, ↓reduceIte]
      cases rest with
      | nil => rw [joinSlash_single]; exact skipSlashDots_real c _ hreal hcs hcn
      | cons d r =>
        rw [joinSlash_cons_cons, List.append_assoc]
        exact skipSlashDots_real c _ hreal hcs hcn
    · have hreal' : isReal c = false := by simpa using hreal
      simp only [List.dropWhile_cons, hreal', Bool.not_false, ↓reduceIte]
      have hc : c = [] ∨ c = [DOT] := by
        cases c with
        | nil => exact Or.inl rfl
        | cons x xs =>
          simp only [isReal, List.isEmpty_cons, Bool.not_false, Bool.true_and, bne_eq_false_iff_eq] at hreal'
          exact Or.inr hreal'
      cases rest with
      | nil =>
        rw [joinSlash_single]
        rcases hc with hc | hc <;> subst hc <;>
          simp +decide [skipSlashDots, isSingleDot, joinSlash_nil]
      | cons d r =>
        have ih' := ih (by simp) (fun x hx => hs x (by simp [hx]))
        rw [joinSlash_cons_cons]
        rcases hc with hc | hc <;> subst hc <;>
          simp +decide [skipSlashDots, isSingleDot, ih']

theorem skipSlashDots_eq (p junk : Str) (hn : NUL ∉ p) :
    skipSlashDots (p ++ NUL :: junk) = some (skipRef p ++ NUL :: junk) := by
  have := skipSlashDots_join (splitSlash p) junk (splitSlash_ne_nil p)
    fun c hc => ⟨splitSlash_noslash p c hc, fun m => hn (splitSlash_mem p c hc NUL m)⟩
  rw [joinSlash_splitSlash] at this
  exact this

theorem skipRef_suffix (p : Str) : skipRef p <:+ p := by
  have := joinSlash_dropWhile_suffix (fun c => !isReal c) (splitSlash p)
  rw [joinSlash_splitSlash] at this
  exact this

theorem skipRef_nonul (p : Str) (hn : NUL ∉ p) : NUL ∉ skipRef p :=
  fun m => hn ((skipRef_suffix p).subset m)

theorem filter_dropWhile_not (q : Str → Bool) (cs : List Str) :
    (cs.dropWhile (fun c => !q c)).filter q = cs.filter q := by
  induction cs with
  | nil => rfl
  | cons c rest ih =>
    by_cases h : q c = true
    · simp [h]
    · have h' : q c = false := by simpa using h
      simp [h', ih]

/-- `joinSlash_splitSlash` and `takeWhile_append_dropWhile` both split `p` behind `headComp p`: cancel it -/
theorem dropWhile_ne_slash (p : Str) :
    p.dropWhile (· != SLASH)
      = (match (splitSlash p).tail with
         | [] => []
         | t => SLASH :: joinSlash t) := by
  obtain ⟨t, ht⟩ := splitSlash_head p
  have hj := joinSlash_splitSlash p
  have hs : headComp p ++ p.dropWhile (· != SLASH) = p := List.takeWhile_append_dropWhile
  rw [ht] at hj ⊢
  cases t with
  | nil => rw [joinSlash_single] at hj; exact List.append_cancel_left (hs.trans (hj.symm.trans (List.append_nil _).symm))
  | cons d r => rw [joinSlash_cons_cons] at hj; exact List.append_cancel_left (hs.trans hj.symm)

/-- the `[]` is the empty piece in front of the slash that ended the first piece -/
theorem splitSlash_after_first (p : Str) :
    splitSlash (p.dropWhile (· != SLASH)) = [] :: (splitSlash p).tail := by
  rw [dropWhile_ne_slash]
  have hns := splitSlash_noslash p
  obtain ⟨t, hsp⟩ := splitSlash_head p
  rw [hsp] at hns ⊢
  cases t with
  | nil => rfl
  | cons d r =>
    simp only [List.tail_cons, splitSlash, BEq.rfl, ↓reduceIte]
    rw [splitSlash_joinSlash (d :: r) (by simp) (fun x hx => hns x (by simp [hx]))]

theorem iterRef_eq_skipRef (p : Str) : iterRef p = skipRef (p.dropWhile (· != SLASH)) := by
  rw [skipRef, splitSlash_after_first]
  rfl

theorem iterRef_length_lt (p : Str) (hp : p ≠ []) : (iterRef p).length < p.length := by
  unfold iterRef
  have hj := joinSlash_splitSlash p
  obtain ⟨t, hsp⟩ := splitSlash_head p
  rw [hsp] at hj ⊢
  simp only [List.tail_cons]
  cases t with
  | nil =>
    simp only [List.dropWhile_nil, joinSlash_nil, List.length_nil]
    cases p with
    | nil => exact absurd rfl hp
    | cons a as => simp
  | cons d r =>
    have hs := (joinSlash_dropWhile_suffix (fun c => !isReal c) (d :: r)).length_le
    rw [joinSlash_cons_cons] at hj
    rw [← hj]
    simp only [List.length_append, List.length_cons] at hs ⊢
    omega

theorem iterRef_suffix (p : Str) : iterRef p <:+ p := by
  rw [iterRef_eq_skipRef]
  exact (skipRef_suffix _).trans (List.dropWhile_suffix _)

/-! ## path_next / path_iterate -/

theorem pathIterate_eq (p junk : Str) (hn : NUL ∉ p) :
    pathIterate (p ++ NUL :: junk)
      = some (if p.isEmpty then none else some (iterRef p ++ NUL :: junk)) := by
  have hn2 : NUL ∉ p.dropWhile (· != SLASH) := fun m => hn ((List.dropWhile_suffix _).subset m)
  rw [pathIterate]
  simp only [head?_cstr, headD_eq_NUL hn, skipSlashDots_eq p junk hn, scanComp_eq p junk hn,
    skipSlashDots_eq _ junk hn2, Option.bind_eq_bind, Option.bind_some, iterRef_eq_skipRef]
  cases p with
  | nil => rfl
  | cons c cs =>
    -- `simp only [List.headD_cons]` rewrites the condition `c == SLASH` of the `if` but not its `Decidable` instance:
    -- a following `rw [if_pos h]` or `split` fails on the mismatch, `simp [h]` does not
    simp only [List.isEmpty_cons, List.headD_cons, Bool.false_eq_true, if_false]
    by_cases hs : c = SLASH
    · subst hs; simp
    · simp [hs]

theorem comps_after_first (p : Str) :
    comps (p.dropWhile (· != SLASH)) = ((splitSlash p).tail).filter isReal := by
  rw [comps, splitSlash_after_first]
  rfl

theorem skipRef_components (p : Str) :
    match skipRef p with
    | [] => comps p = []
    | c :: r => ∃ h t, comps p = h :: t ∧ headComp (c :: r) = h ∧ (c :: r).take h.length = h
        ∧ comps ((c :: r).drop h.length) = t := by
  have hsub : ∀ x ∈ (splitSlash p).dropWhile (fun c => !isReal c), SLASH ∉ x :=
    fun x hx => splitSlash_noslash p x ((List.dropWhile_suffix _).subset hx)
  have hcomps : comps p = ((splitSlash p).dropWhile (fun c => !isReal c)).filter isReal :=
    (filter_dropWhile_not isReal _).symm
  cases hd : (splitSlash p).dropWhile (fun c => !isReal c) with
  | nil =>
    rw [hd] at hcomps
    rw [skipRef, hd, joinSlash_nil]
    exact hcomps
  | cons h t =>
    have hreal : isReal h = true := by
      have := List.head_dropWhile_not (fun c => !isReal c) (l := splitSlash p) (by rw [hd]; simp)
      simpa [hd] using this
    rw [hd] at hsub hcomps
    -- the pieces of `skipRef p` are `h :: t`, so its first piece is `h` and what follows it has the components of `t`
    have hsp : splitSlash (skipRef p) = h :: t := by
      rw [skipRef, hd]; exact splitSlash_joinSlash _ (by simp) hsub
    obtain ⟨t', ht'⟩ := splitSlash_head (skipRef p)
    have hh : headComp (skipRef p) = h := by rw [hsp] at ht'; exact (List.cons.inj ht').1.symm
    cases hX : skipRef p with
    | nil => rw [hX] at hh; subst hh; simp [isReal, headComp] at hreal
    | cons c r =>
      rw [hX] at hh hsp
      refine ⟨h, t.filter isReal, by rw [hcomps]; simp [hreal], hh, ?_, ?_⟩
      · rw [← hh]; exact take_takeWhile_length _ _
      · rw [← hh, headComp, ← dropWhile_eq_drop, comps_after_first, hsp]; rfl

/-! ## path_compare_node -/

theorem compareNode_eq (a ja b jb : Str) (ha : NUL ∉ a) (hb : NUL ∉ b) :
    compareNode (a ++ NUL :: ja) (b ++ NUL :: jb) = some (lexCmp (headComp a) (headComp b)) := by
  induction a generalizing b with
  | nil =>
    cases b with
    | nil => simp +decide [compareNode, headComp, lexCmp]
    | cons cb rb =>
      have hcb : cb ≠ NUL := fun e => hb (by simp [e])
      by_cases hs : cb = SLASH
      · subst hs; simp +decide [compareNode, headComp, lexCmp]
      · simp +decide [compareNode, headComp, lexCmp, hcb, hs]
  | cons ca ra ih =>
    have ⟨hca, hra⟩ := head_ne_and_not_mem_tail ha
    by_cases hsa : ca = SLASH
    · subst hsa
      cases b with
      | nil => simp +decide [compareNode, headComp, lexCmp]
      | cons cb rb =>
        have hcb : cb ≠ NUL := fun e => hb (by simp [e])
        by_cases hs : cb = SLASH
        · subst hs; simp +decide [compareNode, headComp, lexCmp]
        · simp +decide [compareNode, headComp, lexCmp, hcb, hs]
    · cases b with
      | nil => simp +decide [compareNode, headComp, lexCmp, hca, hsa]
      | cons cb rb =>
        have ⟨hcb, hrb⟩ := head_ne_and_not_mem_tail hb
        by_cases hs : cb = SLASH
        · subst hs; simp +decide [compareNode, headComp, lexCmp, hca, hsa]
        · have := ih rb hra hrb
          simp only [headComp] at this
          by_cases he : ca = cb
          · subst he
            simp +decide [compareNode, headComp, lexCmp, hca, hsa, this]
          · simp +decide [compareNode, headComp, lexCmp, hca, hsa, hcb, hs, he]

theorem lexCmp_eq_zero_iff (x y : Str) : lexCmp x y = 0 ↔ x = y := by
  induction x generalizing y with
  | nil => cases y <;> simp [lexCmp]
  | cons a as ih =>
    cases y with
    | nil => simp [lexCmp]
    | cons b bs =>
      by_cases h : a = b
      · subst h; simp [lexCmp, ih]
      · simp only [lexCmp, beq_iff_eq, h, ↓reduceIte, List.cons.injEq, false_and, iff_false]
        split <;> simp

/-! ## path_remove_prefix -/

theorem removePrefixLoop_eq (f : Nat) (p jp q jq : Str) (hp : NUL ∉ p) (hq : NUL ∉ q) (hf : p.length < f) :
    removePrefixLoop f (p ++ NUL :: jp) (q ++ NUL :: jq) = some (removePrefixRef f p q ++ NUL :: jp) := by
  induction f generalizing p q with
  | zero => omega
  | succ f ih =>
    rw [removePrefixLoop, removePrefixRef]
    simp only [head?_cstr, compareNode_eq p jp q jq hp hq, pathIterate_eq _ _ hp, pathIterate_eq _ _ hq,
      Option.bind_eq_bind, Option.bind_some, bne, headD_eq_NUL hp, headD_eq_NUL hq]
    have hz : (lexCmp (headComp p) (headComp q) == 0) = (headComp p == headComp q) := by
      rw [Bool.eq_iff_iff]; simp [lexCmp_eq_zero_iff]
    rw [hz]
    cases hpe : p.isEmpty <;> cases hqe : q.isEmpty <;> simp
    have hne : p ≠ [] := List.isEmpty_eq_false_iff.mp hpe
    split
    · exact ih _ _ (fun m => hp ((iterRef_suffix _).subset m)) (fun m => hq ((iterRef_suffix _).subset m))
        (by have := iterRef_length_lt p hne; omega)
    · rfl

theorem removePrefixRef_stable (f g : Nat) (p q : Str) (hf : p.length < f) (hg : p.length < g) :
    removePrefixRef f p q = removePrefixRef g p q := by
  induction f generalizing g p q with
  | zero => omega
  | succ f ih =>
    cases g with
    | zero => omega
    | succ g =>
      unfold removePrefixRef
      split
      · rfl
      · rename_i hne
        split
        · have hp : p ≠ [] := by
            intro e; subst e; simp at hne
          have hlt := iterRef_length_lt p hp
          exact ih g _ _ (by omega) (by omega)
        · rfl

theorem removePrefixRef_suffix (f : Nat) (p q : Str) : removePrefixRef f p q <:+ p := by
  induction f generalizing p q with
  | zero => exact List.suffix_refl _
  | succ f ih =>
    unfold removePrefixRef
    split
    · exact List.suffix_refl _
    · split
      · exact (ih _ _).trans (iterRef_suffix p)
      · exact List.suffix_refl _

/-! ## nodes: `path_remove_prefix` in terms of node lists and of component lists -/

theorem nodes_eq (p : Str) (hp : p ≠ []) : nodes p = headComp p :: comps (p.dropWhile (· != SLASH)) := by
  obtain ⟨t, ht⟩ := splitSlash_head p
  rw [comps_after_first, nodes, ht]
  have : p.isEmpty = false := List.isEmpty_eq_false_iff.mpr hp
  simp [this]

theorem nodes_nil : nodes [] = [] := by simp [nodes, splitSlash]

theorem nodes_skipRef (x : Str) : nodes (skipRef x) = comps x := by
  have h := skipRef_components x
  cases hs : skipRef x with
  | nil => rw [hs] at h; simp only at h; rw [h, nodes_nil]
  | cons c r =>
    rw [hs] at h
    simp only at h
    obtain ⟨hh, t, h1, h2, _, h4⟩ := h
    rw [nodes_eq (c :: r) (by simp), dropWhile_eq_drop, h1]
    have : ((c :: r).takeWhile (· != SLASH)) = hh := h2
    rw [this, h4, h2]

theorem nodes_iterRef (p : Str) (hp : p ≠ []) : nodes p = headComp p :: nodes (iterRef p) := by
  rw [iterRef_eq_skipRef, nodes_skipRef, nodes_eq p hp]

theorem lcpLen_nil_left (l : List Str) : lcpLen [] l = 0 := by simp [lcpLen]

theorem lcpLen_nil_right (l : List Str) : lcpLen l [] = 0 := by cases l <;> simp [lcpLen]

theorem removePrefixRef_nodes (f : Nat) (p q : Str) (hf : p.length < f) :
    nodes (removePrefixRef f p q) = (nodes p).drop (lcpLen (nodes p) (nodes q)) := by
  induction f generalizing p q with
  | zero => omega
  | succ f ih =>
    unfold removePrefixRef
    by_cases hp : p = []
    · subst hp; simp [nodes_nil]
    · by_cases hq : q = []
      · subst hq
        have : p.isEmpty = false := List.isEmpty_eq_false_iff.mpr hp
        simp [this, nodes_nil, lcpLen_nil_right]
      · have e1 : p.isEmpty = false := List.isEmpty_eq_false_iff.mpr hp
        have e2 : q.isEmpty = false := List.isEmpty_eq_false_iff.mpr hq
        simp only [e1, e2, Bool.or_self, Bool.false_eq_true, if_false]
        rw [nodes_iterRef p hp, nodes_iterRef q hq]
        by_cases he : (headComp p == headComp q) = true
        · rw [if_pos he]
          have hlt := iterRef_length_lt p hp
          rw [ih _ _ (by omega)]
          simp [lcpLen, he]
        · rw [if_neg he]
          simp only [lcpLen, he, Bool.false_eq_true, if_false, List.drop_zero]
          rw [← nodes_iterRef p hp]

theorem filter_real_drop_comps (p : Str) (k : Nat) : ((comps p).drop k).filter isReal = (comps p).drop k := by
  apply List.filter_eq_self.mpr
  intro x hx
  exact (List.mem_filter.mp ((List.drop_sublist k _).subset hx)).2

theorem nodes_of_plain (p : Str) (hd : headComp p ≠ [DOT]) :
    nodes p = if p.head? = some SLASH then [] :: comps p else comps p := by
  cases p with
  | nil => simp [nodes_nil, comps, splitSlash, isReal]
  | cons c cs =>
    obtain ⟨t, ht⟩ := splitSlash_head (c :: cs)
    have hC := comps_after_first (c :: cs)
    rw [ht, List.tail_cons] at hC
    rw [nodes_eq (c :: cs) (by simp), hC]
    have hcomps : comps (c :: cs) = (headComp (c :: cs) :: t).filter isReal := by rw [comps, ht]
    by_cases hc : c = SLASH
    · subst hc
      have hh : headComp (SLASH :: cs) = [] := by simp [headComp]
      rw [hcomps, hh]
      simp [isReal]
    · have hne : headComp (c :: cs) ≠ [] := by simp [headComp, hc]
      have hreal : isReal (headComp (c :: cs)) = true := by
        unfold isReal
        simp only [Bool.and_eq_true, Bool.not_eq_true', bne_iff_ne, ne_eq]
        exact ⟨by cases h : headComp (c :: cs) with | nil => exact absurd h hne | cons a as => rfl, hd⟩
      rw [hcomps]
      simp [hreal, hc]

/-! ## path_last_node -/

theorem strlenZ_eq (s junk : Str) (hn : NUL ∉ s) : strlenZ (s ++ NUL :: junk) = some s.length := by
  induction s with
  | nil => simp [strlenZ]
  | cons c r ih =>
    have ⟨hc, hr⟩ := head_ne_and_not_mem_tail hn
    simp [strlenZ, hc, ih hr]

/-- the do-while together with the `if (*it == sep) it++` behind it: one iteration is one step of `takeWhile` on the
reversed prefix, `(s.take (k+1)).reverse = s[k] :: (s.take k).reverse` -/
theorem lastNode_eq (sep : Byte) (s rest : Str) : ∀ n, 0 < n → n ≤ s.length →
    ((lastNodeBack sep (s ++ rest) n).bind fun it =>
        (s ++ rest)[it]?.bind fun c => some (if c == sep then it + 1 else it))
      = some (n - ((s.take n).reverse.takeWhile (· != sep)).length) := by
  intro n
  induction n with
  | zero => intro h; omega
  | succ k ih =>
    intro _ hk
    have hlt : k < s.length := by omega
    have hget : (s ++ rest)[k]? = some s[k] := by
      rw [List.getElem?_append_left hlt]; simp [hlt]
    rw [lastNodeBack, hget, List.take_succ_eq_append_getElem hlt, List.reverse_append, List.reverse_singleton,
      List.singleton_append, List.takeWhile_cons]
    simp only []
    by_cases hc : s[k] = sep
    · simp [hc, hget]
    · by_cases hk0 : k = 0
      · subst hk0; simp [hc, hget]
      · rw [if_pos (by simp [hc, hk0]), ih (by omega) (by omega), if_pos (by simpa using hc), List.length_cons]
        congr 1; omega

theorem lastSeg_of_not_mem (sep : Byte) (s : Str) (h : sep ∉ s) : lastSeg sep s = s := by
  simp only [lastSeg]
  rw [takeWhile_ne_of_not_mem _ sep (by simpa using h), List.reverse_reverse]

end Igris.C19
