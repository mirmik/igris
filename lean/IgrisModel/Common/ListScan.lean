/- `takeWhile` / `dropWhile` as the two halves of a scan "advance while `p` holds": the facts the string, number
   and printf directories need beyond core, and two facts about `set` / `getElem?` that several of them share.
   Core only; in `namespace Igris`, so every directory sees the names unqualified. -/
namespace Igris
variable {α : Type _} {p : α → Bool}

theorem mem_takeWhile_sat {l : List α} {x : α} (h : x ∈ l.takeWhile p) : p x = true :=
  List.all_eq_true.mp List.all_takeWhile x h

theorem takeWhile_all {l : List α} (h : ∀ x ∈ l, p x = true) : l.takeWhile p = l := by
  simpa using List.takeWhile_append_of_pos (l₂ := []) h

/-- the scan stops at the first element that fails `p`, whatever follows it -/
theorem takeWhile_append_neg (l : List α) {t : α} (r : List α) (ht : p t = false) :
    (l ++ t :: r).takeWhile p = l.takeWhile p := by
  induction l with
  | nil => simp [ht]
  | cons a as ih => simp only [List.cons_append, List.takeWhile_cons, ih]

theorem takeWhile_append_stop {l : List α} {t : α} (r : List α) (hl : ∀ x ∈ l, p x = true) (ht : p t = false) :
    (l ++ t :: r).takeWhile p = l := by
  rw [takeWhile_append_neg l r ht, takeWhile_all hl]

theorem dropWhile_head {l : List α} {b : α} {rest : List α} (h : l.dropWhile p = b :: rest) : p b = false := by
  simpa [h] using List.head_dropWhile_not p (l := l) (by simp [h])

theorem take_takeWhile_length (p : α → Bool) (l : List α) : l.take (l.takeWhile p).length = l.takeWhile p :=
  (List.prefix_iff_eq_take.mp (List.takeWhile_prefix p)).symm

theorem dropWhile_eq_drop (p : α → Bool) (l : List α) : l.dropWhile p = l.drop (l.takeWhile p).length := by
  conv => rhs; arg 2; rw [← List.takeWhile_append_dropWhile (p := p) (l := l)]
  exact List.drop_left.symm

theorem length_takeWhile_le (p : α → Bool) (l : List α) : (l.takeWhile p).length ≤ l.length :=
  (List.takeWhile_sublist p).length_le

theorem length_dropWhile_le (p : α → Bool) (l : List α) : (l.dropWhile p).length ≤ l.length :=
  (List.dropWhile_sublist p).length_le

/-- the scan stops strictly inside a list that holds an element failing `p` -/
theorem length_takeWhile_lt {l : List α} (h : ∃ x ∈ l, p x = false) : (l.takeWhile p).length < l.length := by
  have hle := length_takeWhile_le p l
  refine Nat.lt_of_le_of_ne hle fun e => ?_
  obtain ⟨x, hx, hpx⟩ := h
  have : l.takeWhile p = l := by
    simpa [e] using (take_takeWhile_length p l).symm
  exact absurd (mem_takeWhile_sat (this ▸ hx)) (by simp [hpx])

theorem take_set_succ (l : List α) (i : Nat) (a : α) (h : i < l.length) :
    (l.set i a).take (i + 1) = l.take i ++ [a] := by
  rw [List.take_add_one, List.take_set_of_le (Nat.le_refl i)]
  simp [h]

theorem lt_of_getElem?_some {l : List α} {i : Nat} {a : α} (h : l[i]? = some a) : i < l.length :=
  (List.getElem?_eq_some_iff.mp h).1
end Igris
