/-
  C14 — lemmas for `Model3.lean`.  Every function with a `w`-bit counter is its natural-number original once the
  capacity fits the counter (`…W_eq`, all from `stored_small`).  A write through an accessor is a `set` on the
  reference sequence (`abs_set`; the range-for: `abs_overwrite`); `erase` with a throwing assignment is the shift
  loop stopped early (`shiftLoopX_eq`), whose partial result `shift_abs` of `Lemmas.lean` already describes.
  A block of `unbounded_array` holding `xs` is a full `static_vector` of capacity `|xs|` (`uabs_iff`), so the zone
  lemmas of `Abs` serve it.
-/
import IgrisModel.C14.Model3
import IgrisModel.C14.Ledger

namespace Igris.C14
open Igris.Proto

/-! ## width -/

theorem stored_small {w n : Nat} (h : n < 2 ^ w) : stored w n = n := Nat.mod_eq_of_lt h

theorem stored_eq_iff {w n : Nat} : stored w n = n ↔ n < 2 ^ w :=
  ⟨fun h => h ▸ Nat.mod_lt n (Nat.two_pow_pos w), stored_small⟩

theorem bumpW_eq (w : Nat) : ∀ (k n : Nat), n + k < 2 ^ w → bumpW w k n = n + k := by
  intro k
  induction k with
  | zero => intro n _; rfl
  | succ k ih =>
    intro n h
    simp only [bumpW]
    rw [stored_small (by omega), ih _ (by omega)]; omega

theorem pushBackW_eq {w N : Nat} (hN : N < 2 ^ w) (v : SVec) (x : Nat) :
    pushBackW w N v x = pushBack N v x := by
  unfold pushBackW pushBack
  by_cases hf : v.size ≥ N
  · simp [hf]
  · have : stored w (v.size + 1) = v.size + 1 := stored_small (by omega)
    simp [hf, this]

theorem rangeLoopW_eq {w N : Nat} (hN : N < 2 ^ w) : ∀ (xs : List Nat) (v : SVec),
    rangeLoopW w N xs v = rangeLoop N xs v := by
  intro xs
  induction xs with
  | nil => intro v; rfl
  | cons x xs ih =>
    intro v
    simp only [rangeLoopW, rangeLoop, pushBackW_eq hN v x]
    cases pushBack N v x with
    | error e => rfl
    | ok q =>
      simp only [bind, Except.bind]
      rw [ih q.1]

theorem ilLoopW_eq {w N : Nat} (hN : N < 2 ^ w) : ∀ (xs : List Nat) (v : SVec),
    ilLoopW w N xs v = ilLoop N xs v := by
  intro xs
  induction xs with
  | nil => intro v; rfl
  | cons x xs ih =>
    intro v
    simp only [ilLoopW, ilLoop]
    by_cases hf : v.size ≥ N
    · simp [hf]
    · simp only [hf, if_false]
      rw [stored_small (show v.size + 1 < 2 ^ w by omega)]
      cases hc : construct v.slots v.size (some x) with
      | error e => rfl
      | ok s =>
        simp only [bind, Except.bind]
        rw [ih ⟨s, v.size + 1⟩]

theorem copyCtorW_eq {w N : Nat} {o : SVec} (h : o.size < 2 ^ w) : copyCtorW w N o = copyCtor N o := by
  simp only [copyCtorW, copyCtor, bumpW_eq w o.size 0 (by omega), Nat.zero_add]

theorem moveCtorW_eq {w : Nat} {port trk : Bool} {N : Nat} {o : SVec} (h : o.size < 2 ^ w) :
    moveCtorW w port trk N o = moveCtor port trk N o := by
  simp only [moveCtorW, moveCtor, bumpW_eq w o.size 0 (by omega), Nat.zero_add]

theorem clear_size {v v' : SVec} {t : Tr} (h : clear v = .ok (v', t)) : v'.size = 0 := by
  simp only [clear] at h
  obtain ⟨q, _, h2⟩ := bind_ok h
  cases h2; rfl

theorem clear_bind_congr {β : Type} (v : SVec) {f g : SVec × Tr → Except Fault β}
    (h : ∀ v1 t1, v1.size = 0 → f (v1, t1) = g (v1, t1)) : (clear v >>= f) = (clear v >>= g) := by
  cases hc : clear v with
  | error e => rfl
  | ok q => exact h q.1 q.2 (clear_size hc)

theorem assignCopyW_eq {w : Nat} {v o : SVec} (h : o.size < 2 ^ w) : assignCopyW w v o = assignCopy v o := by
  simp only [assignCopyW, assignCopy]
  refine clear_bind_congr v fun v1 t1 hz => ?_
  simp only [hz, bumpW_eq w o.size 0 (by omega), Nat.zero_add]

theorem assignMoveW_eq {w : Nat} {trk : Bool} {v o : SVec} (h : o.size < 2 ^ w) :
    assignMoveW w trk v o = assignMove trk v o := by
  simp only [assignMoveW, assignMove]
  refine clear_bind_congr v fun v1 t1 hz => ?_
  simp only [hz, bumpW_eq w o.size 0 (by omega), Nat.zero_add]

theorem resizeLoopW_eq (w : Nat) : ∀ (f ns : Nat) (s : Slots) (sz : Nat), ns < 2 ^ w → ns - sz ≤ f →
    resizeLoopW w f ns s sz =
      (valueInitLoop (ns - sz) sz s).map (fun q => (q.1, q.2, if sz ≤ ns then ns else sz)) := by
  have stop : ∀ (f ns : Nat) (s : Slots) (sz : Nat), ¬ sz < ns → resizeLoopW w f ns s sz =
      (valueInitLoop (ns - sz) sz s).map (fun q => (q.1, q.2, if sz ≤ ns then ns else sz)) := by
    intro f ns s sz hlt
    have e : (if sz ≤ ns then ns else sz) = sz := by split <;> omega
    rw [show ns - sz = 0 by omega, e]
    cases f <;> simp [resizeLoopW, valueInitLoop, Except.map, hlt]
  intro f
  induction f with
  | zero => intro ns s sz _ hf; exact stop 0 ns s sz (by omega)
  | succ f ih =>
    intro ns s sz hns hf
    by_cases hlt : sz < ns
    · obtain ⟨d, hd⟩ : ∃ d, ns - sz = d + 1 := ⟨ns - sz - 1, by omega⟩
      rw [hd]
      simp only [resizeLoopW, hlt, if_true, valueInitLoop]
      rw [stored_small (by omega)]
      cases hc : construct s sz (some 0) with
      | error e => rfl
      | ok s1 =>
        simp only [bind, Except.bind]
        rw [ih ns s1 (sz + 1) hns (by omega)]
        have e : ns - (sz + 1) = d := by omega
        rw [e]
        cases hv : valueInitLoop d (sz + 1) s1 with
        | error e => rfl
        | ok q =>
          have h1 : sz + 1 ≤ ns := by omega
          have h2 : sz ≤ ns := by omega
          simp [Except.map, pure, Except.pure, h1, h2]
    · exact stop _ ns s sz hlt

theorem resizeW_eq {w N : Nat} (hN : N < 2 ^ w) (v : SVec) (n : Nat) : resizeW w N v n = resize N v n := by
  simp only [resizeW, resize]
  have hns : (if n ≥ N then N else n) < 2 ^ w := by split <;> omega
  generalize (if n ≥ N then N else n) = ns at hns
  rw [resizeLoopW_eq w (ns + 1) ns v.slots v.size hns (by omega), stored_small hns]
  cases hv : valueInitLoop (ns - v.size) v.size v.slots with
  | error e => rfl
  | ok q =>
    obtain ⟨s1, t1⟩ := q
    simp only [Except.map, bind, Except.bind]
    by_cases h : v.size ≤ ns
    · simp only [h, if_true]
      have : v.size - ns = 0 := by omega
      rw [this, Nat.sub_self]
    · simp only [h, if_false]

theorem eraseW_eq {w N : Nat} (hN : N < 2 ^ w) (trk : Bool) (v : SVec) (i j : Nat) (hs : v.size ≤ N) :
    eraseW w trk v i j = erase trk v i j := by
  simp only [eraseW, erase]
  rw [stored_small (show v.size - (j - i) < 2 ^ w by omega)]

theorem stepW_eq {w : Nat} {c : Cfg} {m : Mach} {sp : SpecRegs} (h : MInv c m sp) (hN : c.N < 2 ^ w) (op : Op) :
    stepW w c m op = step c m op := by
  have sz : ∀ {r v}, m.regs r = some v → v.size < 2 ^ w := fun hv => Nat.lt_of_le_of_lt (reg_size_le h hv) hN
  cases op <;> simp only [stepW, step]
  case copy r s =>
    refine lookG1 (m.regs r) (fun _ _ _ => rfl) (fun _ _ => ?_) (fun _ => rfl)
    cases hs : m.regs s with
    | none => rfl
    | some o => simp only [copyCtorW_eq (sz hs)]
  case move r s =>
    refine lookG1 (m.regs r) (fun _ _ _ => rfl) (fun _ _ => ?_) (fun _ => rfl)
    cases hs : m.regs s with
    | none => rfl
    | some o => simp only [moveCtorW_eq (sz hs)]
  case range r xs =>
    refine lookG1 (m.regs r) (fun _ _ _ => rfl) (fun _ _ => ?_) (fun _ => rfl)
    simp only [rangeLoopW_eq hN xs, rangeCtor]
  case il r xs =>
    refine lookG1 (m.regs r) (fun _ _ _ => rfl) (fun _ _ => ?_) (fun _ => rfl)
    simp only [ilLoopW_eq hN xs, ilCtor]
  case acopy r s =>
    refine lookG1 (m.regs r) (fun _ v _ => ?_) (fun _ _ => rfl) (fun _ => rfl)
    cases hs : m.regs s with
    | none => rfl
    | some o => simp only [assignCopyW_eq (sz hs)]
  case amove r s =>
    refine lookG1 (m.regs r) (fun _ v _ => ?_) (fun _ _ => rfl) (fun _ => rfl)
    cases hs : m.regs s with
    | none => rfl
    | some o => simp only [assignMoveW_eq (sz hs)]
  case push r x | emplace r x =>
    refine lookG1 (m.regs r) (fun _ v _ => ?_) (fun _ _ => rfl) (fun _ => rfl)
    simp only [pushBackW_eq hN v x, emplaceBack_eq]
  case resize r n =>
    refine lookG1 (m.regs r) (fun _ v _ => ?_) (fun _ _ => rfl) (fun _ => rfl)
    simp only [resizeW_eq hN v n]
  case erase r i j =>
    refine lookG1 (m.regs r) (fun _ v hv => ?_) (fun _ _ => rfl) (fun _ => rfl)
    simp only [eraseW_eq hN c.trk v i j (reg_size_le h hv)]

theorem runW_eq {w : Nat} {c : Cfg} (hN : c.N < 2 ^ w) : ∀ (ops : List Op) (m : Mach) (sp : SpecRegs), MInv c m sp →
    runW w c ops m = run c ops m := by
  intro ops
  induction ops with
  | nil => intro m sp _; rfl
  | cons op ops ih =>
    intro m sp h
    simp only [runW, run, stepW_eq h hN op]
    obtain ⟨mr, h1, h2⟩ := step_refines h op
    rw [h1]
    simp only [bind, Except.bind]
    exact ih mr.1 _ h2

/-! ## writes through the accessors -/

theorem abs_set {N : Nat} {v : SVec} {es : List Elem} (h : Abs N v es) {i : Nat} (hi : i < es.length) (e : Elem) :
    Abs N ⟨v.slots.set i (.obj e), v.size⟩ (es.set i e) := by
  refine ⟨by simp [h.len], by simp [h.size], by simp [h.le], ?_⟩
  intro p
  have hp := h.pt p
  have hl := h.len; have hle := h.le
  simp only [slotAt, List.length_set] at hp ⊢
  by_cases hpi : p = i
  · subst hpi
    rw [List.getElem?_set_self (by omega)]
    simp [hi]
  · rw [List.getElem?_set_ne (by omega), hp, List.getElem?_set_ne (by omega)]

theorem setAt_spec {N : Nat} {v : SVec} {es : List Elem} (h : Abs N v es) {i : Nat} (hi : i < es.length) (x : Nat) :
    ∃ v', v.setAt i x = .ok (v', [⟨false, .asg, i⟩]) ∧ Abs N v' (es.set i (some x)) := by
  refine ⟨⟨v.slots.set i (.obj (some x)), v.size⟩, ?_, abs_set h hi _⟩
  simp [SVec.setAt, assign_ok _ (abs_obj h hi), bind, Except.bind, pure, Except.pure]

theorem assignLoop_spec (x : Nat) : ∀ (k pos : Nat) (s : Slots),
    (∀ p, pos ≤ p → p < pos + k → ∃ e, s[p]? = some (.obj e)) →
    ∃ s' tr, assignLoop x k pos s = .ok (s', tr) ∧ nC tr = 0 ∧ nD tr = 0 ∧ s'.length = s.length ∧
      ∀ p, s'[p]? = if pos ≤ p ∧ p < pos + k then some (.obj (some x)) else s[p]? :=
  slotLoop_spec (kind := .asg) (prim := fun s p => assign s p (some x)) (ok := fun _ o => ∃ e, o = some (.obj e))
    (g := fun _ => some (.obj (some x)))
    (fun _ _ => rfl) (fun _ _ _ => rfl) (fun _ _ ⟨_, he⟩ => ⟨lt_of_getElem?_some he, _, rfl, assign_ok _ he⟩)

theorem fillAll_spec {N : Nat} {v : SVec} {es : List Elem} (h : Abs N v es) (x : Nat) :
    ∃ v' tr, v.fillAll x = .ok (v', tr) ∧ Abs N v' (es.map fun _ => some x) ∧ nC tr = 0 ∧ nD tr = 0 := by
  have hs := h.size
  obtain ⟨s', tr, h1, h2, h3, h4, h5⟩ := assignLoop_spec x v.size 0 v.slots (fun p _ hp =>
    ⟨_, abs_obj h (show p < es.length by omega)⟩)
  refine ⟨⟨s', v.size⟩, tr, by simp [SVec.fillAll, h1, bind, Except.bind, pure, Except.pure],
    abs_overwrite h (by simp) h4 (fun p hp => ?_) (fun p hp => ?_), h2, h3⟩
  · rw [List.length_map] at hp
    rw [h5 p, if_pos (by omega)]; simp
  · rw [h5 p, if_neg (by omega)]

/-- what `T y = std::move(v[i])` leaves in the sequence -/
def specTake (trk : Bool) (es : List Elem) (i : Nat) : List Elem := if trk then es.set i none else es

theorem takeAt_spec (trk : Bool) {N : Nat} {v : SVec} {es : List Elem} (h : Abs N v es) {i : Nat} (hi : i < es.length) :
    ∃ v', v.takeAt trk i = .ok (es.getD i none, v', [⟨false, .mv, i⟩]) ∧ Abs N v' (specTake trk es i) := by
  cases trk with
  | false =>
    refine ⟨⟨v.slots, v.size⟩, ?_, by simpa [specTake] using h⟩
    simp [SVec.takeAt, moveOut_ok false (abs_obj h hi), List.getElem?_eq_getElem hi, bind, Except.bind, pure, Except.pure]
  | true =>
    refine ⟨⟨v.slots.set i (.obj none), v.size⟩, ?_, by simpa [specTake] using abs_set h hi none⟩
    simp [SVec.takeAt, moveOut_ok true (abs_obj h hi), List.getElem?_eq_getElem hi, bind, Except.bind, pure, Except.pure]

def specStep3 (c : Cfg) (sp : SpecRegs) : Op3 → SpecRegs
  | .base op => specStep c sp op
  | .setAt r i x =>
      match decide (r < c.K), sp r with
      | true, some es => if i < es.length then setSpec sp r (some (es.set i (some x))) else sp
      | _, _ => sp
  | .setFront r x =>
      match decide (r < c.K), sp r with
      | true, some es => if 0 < es.length then setSpec sp r (some (es.set 0 (some x))) else sp
      | _, _ => sp
  | .setBack r x =>
      match decide (r < c.K), sp r with
      | true, some es => if 0 < es.length then setSpec sp r (some (es.set (es.length - 1) (some x))) else sp
      | _, _ => sp
  | .fill r x =>
      match decide (r < c.K), sp r with
      | true, some es => setSpec sp r (some (es.map fun _ => some x))
      | _, _ => sp
  | .take r i =>
      match decide (r < c.K), sp r with
      | true, some es => if i < es.length then setSpec sp r (some (specTake c.trk es i)) else sp
      | _, _ => sp

def specRun3 (c : Cfg) : List Op3 → SpecRegs → SpecRegs
  | [], sp => sp
  | op :: ops, sp => specRun3 c ops (specStep3 c sp op)

theorem specTake_length (trk : Bool) (es : List Elem) (i : Nat) : (specTake trk es i).length = es.length := by
  unfold specTake; split <;> simp

theorem step3_refines {c : Cfg} {m : Mach} {sp : SpecRegs} (h : MInv c m sp) (op : Op3) :
    ∃ mr : Mach × Res, step3 c m op = .ok mr ∧ MInv c mr.1 (specStep3 c sp op) := by
  -- a write to register r that keeps the length: the common part
  have key : ∀ (r : Nat) (v v' : SVec) (es es' : List Elem) (tr : Tr), r < c.K → m.regs r = some v → sp r = some es →
      Abs c.N v' es' → es'.length = es.length → nC tr = 0 → nD tr = 0 →
      MInv c (m.log (setReg m.regs r (some v')) (glob r r tr)).1 (setSpec sp r (some es')) := by
    intro r v v' es es' tr hr hv hs ha hl hc hd
    exact minv_set1 h hr (v' := some v') (es' := some es') r tr ha (by simp [szOf_some hs, hl, hc, hd])
  have hR := regRel_V c.N
  have skip : ∃ mr : Mach × Res, Except.ok (ε := Fault) (m, none) = .ok mr ∧ MInv c mr.1 sp := ⟨_, rfl, h⟩
  cases op <;> simp only [step3, specStep3]
  case base op => exact step_refines h op
  case setAt r i x =>
    refine lookG hR (m.regs r) (sp r) (h.rel r) (fun hk v es hm hs ha => ?_) (fun _ _ _ => skip) (fun _ => skip)
    simp only [ha.size]
    by_cases hi : i < es.length
    · obtain ⟨v', p1, p2⟩ := setAt_spec ha hi x
      rw [if_pos hi, if_pos hi]
      exact ⟨_, by rw [p1]; rfl, key r v v' es _ _ hk hm hs p2 (by simp) (by simp) (by simp)⟩
    · rw [if_neg hi, if_neg hi]; exact skip
  case setFront r x =>
    refine lookG hR (m.regs r) (sp r) (h.rel r) (fun hk v es hm hs ha => ?_) (fun _ _ _ => skip) (fun _ => skip)
    simp only [ha.size]
    by_cases hi : 0 < es.length
    · obtain ⟨v', p1, p2⟩ := setAt_spec ha hi x
      rw [if_pos hi, if_pos hi, SVec.setFront]
      exact ⟨_, by rw [p1]; rfl, key r v v' es _ _ hk hm hs p2 (by simp) (by simp) (by simp)⟩
    · rw [if_neg hi, if_neg hi]; exact skip
  case setBack r x =>
    refine lookG hR (m.regs r) (sp r) (h.rel r) (fun hk v es hm hs ha => ?_) (fun _ _ _ => skip) (fun _ => skip)
    simp only [ha.size]
    by_cases hi : 0 < es.length
    · obtain ⟨v', p1, p2⟩ := setAt_spec ha (show es.length - 1 < es.length by omega) x
      rw [if_pos hi, if_pos hi, SVec.setBack, ha.size]
      exact ⟨_, by rw [p1]; rfl, key r v v' es _ _ hk hm hs p2 (by simp) (by simp) (by simp)⟩
    · rw [if_neg hi, if_neg hi]; exact skip
  case fill r x =>
    refine lookG hR (m.regs r) (sp r) (h.rel r) (fun hk v es hm hs ha => ?_) (fun _ _ _ => skip) (fun _ => skip)
    obtain ⟨v', tr, p1, p2, p3, p4⟩ := fillAll_spec ha x
    exact ⟨_, by simp only [p1]; rfl, key r v v' es _ _ hk hm hs p2 (by simp) p3 p4⟩
  case take r i =>
    refine lookG hR (m.regs r) (sp r) (h.rel r) (fun hk v es hm hs ha => ?_) (fun _ _ _ => skip) (fun _ => skip)
    simp only [ha.size]
    by_cases hi : i < es.length
    · obtain ⟨v', p1, p2⟩ := takeAt_spec c.trk ha hi
      rw [if_pos hi, if_pos hi]
      exact ⟨_, by rw [p1]; rfl, key r v v' es _ _ hk hm hs p2 (specTake_length _ _ _) (by simp) (by simp)⟩
    · rw [if_neg hi, if_neg hi]; exact skip

theorem run3_refines {c : Cfg} : ∀ (ops : List Op3) (m : Mach) (sp : SpecRegs), MInv c m sp →
    ∃ m', run3 c ops m = .ok m' ∧ MInv c m' (specRun3 c ops sp) := by
  intro ops
  induction ops with
  | nil => intro m sp h; exact ⟨m, rfl, h⟩
  | cons op ops ih =>
    intro m sp h
    obtain ⟨mr, h1, h2⟩ := step3_refines h op
    obtain ⟨m', g1, g2⟩ := ih mr.1 _ h2
    exact ⟨m', by simp [run3, h1, g1, bind, Except.bind], g2⟩

/-! ## erase with a throwing move assignment -/

theorem shiftLoopX_eq (trk : Bool) : ∀ (k src dst : Nat) (s : Slots) (a : Nat),
    shiftLoopX trk k src dst s a =
      (shiftLoop trk (min k a) src dst s).map (fun q => (q.1, q.2, decide (a < k))) := by
  intro k
  induction k with
  | zero => intro src dst s a; simp [shiftLoopX, shiftLoop, Except.map]
  | succ k ih =>
    intro src dst s a
    cases a with
    | zero => simp [shiftLoopX, shiftLoop, Except.map]
    | succ a =>
      have hm : min (k + 1) (a + 1) = min k a + 1 := by omega
      simp only [shiftLoopX, hm, shiftLoop]
      cases h1 : moveOut trk s src with
      | error e => rfl
      | ok q =>
        obtain ⟨e, s1⟩ := q
        simp only [bind, Except.bind]
        cases h2 : assign s1 dst e with
        | error e => rfl
        | ok s2 =>
          simp only [ih]
          cases h3 : shiftLoop trk (min k a) (src + 1) (dst + 1) s2 with
          | error e => rfl
          | ok q => simp [Except.map, pure, Except.pure]

theorem eraseX_fail (trk : Bool) {N : Nat} {v : SVec} {es : List Elem} (h : Abs N v es) {i j a : Nat}
    (hij : i < j) (hj : j ≤ es.length) (ha : a < es.length - j) :
    ∃ w tr, eraseX trk v i j a = .ok (w, tr, true) ∧ Abs N w (specEraseFail trk es i j a) ∧
      w.size = es.length ∧ nC tr = 0 ∧ nD tr = 0 := by
  have hs := h.size
  obtain ⟨s', tr, h1, h2, h3, h4⟩ := shift_abs trk h hij hj (Nat.le_of_lt ha)
  have hne : ¬ i = j := by omega
  have hmin : min (v.size - j) a = a := by omega
  have hdec : decide (a < v.size - j) = true := by simp; omega
  exact ⟨⟨s', v.size⟩, tr,
    by simp [eraseX, hne, shiftLoopX_eq, hmin, h1, hdec, Except.map, bind, Except.bind, pure, Except.pure], h2, hs, h3, h4⟩

/-- an empty range assigns nothing, so no budget is needed for it -/
theorem eraseX_nothrow (trk : Bool) (v : SVec) (i j a : Nat) (ha : i = j ∨ v.size - j ≤ a) :
    eraseX trk v i j a = (erase trk v i j).map (fun q => (q.1, q.2, false)) := by
  simp only [eraseX, erase]
  by_cases hne : i = j
  · simp [hne, Except.map]
  · have ha := ha.resolve_left hne
    have hmin : min (v.size - j) a = v.size - j := by omega
    have hdec : decide (a < v.size - j) = false := by simp; omega
    simp only [hne, if_false, shiftLoopX_eq, hmin, hdec]
    cases h1 : shiftLoop trk (v.size - j) j i v.slots with
    | error e => rfl
    | ok q =>
      simp only [Except.map, bind, Except.bind]
      cases h2 : destroyLoop (j - i) (v.size - (j - i)) q.1 with
      | error e => simp
      | ok q2 => simp [pure, Except.pure]

/-! ## unbounded_array: the storage model refines the list-level meaning `ustep` -/

/-- the block holds exactly the live objects of `xs`, nothing else (`nullptr` for no block) -/
structure UAbs (a : UArr) (xs : List Nat) : Prop where
  size : a.size = xs.length
  len : a.slots.length = xs.length
  pt : ∀ p : Nat, a.slots[p]? = (xs[p]?).map fun x => Slot.obj (some x)

@[simp] theorem uslots_some (s : Slots) (n : Nat) : (⟨some s, n⟩ : UArr).slots = s := rfl

theorem uabs_nil : UAbs ⟨none, 0⟩ [] := ⟨rfl, rfl, by intro p; simp [UArr.slots]⟩

theorem uabs_iff {a : UArr} {xs : List Nat} : UAbs a xs ↔ Abs xs.length ⟨a.slots, a.size⟩ (xs.map some) := by
  constructor
  · intro h
    exact abs_of_zones h.len (by simp [h.size]) (by simp)
      (fun p hp => by rw [List.length_map] at hp; simp [h.pt p, List.getElem?_eq_getElem hp])
      (fun p h1 h2 => by rw [List.length_map] at h1; omega)
  · intro h
    refine ⟨by simpa using h.size, h.len, fun p => ?_⟩
    by_cases hp : p < xs.length
    · have := abs_obj h (p := p) (by simpa using hp)
      simpa [List.getElem?_eq_getElem hp] using this
    · rw [List.getElem?_eq_none_iff.mpr (by rw [h.len]; omega), List.getElem?_eq_none_iff.mpr (by omega)]; rfl

theorem uCreate_spec (n : Nat) :
    ∃ a tr, uCreate n = .ok (a, tr) ∧ UAbs a (List.replicate n 0) ∧ nC tr = n ∧ nD tr = 0 := by
  obtain ⟨s', tr, h1, h2, h3, h4⟩ := abs_grow (abs_fresh n) (k := n) (by simp)
  refine ⟨⟨some s', n⟩, tr, by simp only [uCreate, h1, bind, Except.bind]; rfl, uabs_iff.mpr ?_, h3, h4⟩
  simpa using h2

theorem uInvalidate_spec {a : UArr} {xs : List Nat} (h : UAbs a xs) :
    ∃ tr, uInvalidate a = .ok (⟨none, 0⟩, tr) ∧ nC tr = 0 ∧ nD tr = xs.length := by
  obtain ⟨s', tr, h1, _, h3, h4⟩ := abs_truncate (uabs_iff.mp h) (Nat.zero_le _)
  rw [Nat.sub_zero, List.length_map] at h1 h4
  exact ⟨tr, by simp only [uInvalidate, h.size, h1, bind, Except.bind]; rfl, h3, h4⟩

theorem uCopyIn_spec (src : List Nat) (k pos : Nat) (s : Slots) (hsrc : pos + k ≤ src.length)
    (h : ∀ p, pos ≤ p → p < pos + k → ∃ e, s[p]? = some (.obj e)) :
    ∃ s' tr, uCopyIn src k pos s = .ok (s', tr) ∧ nC tr = 0 ∧ nD tr = 0 ∧ s'.length = s.length ∧
      ∀ p, s'[p]? = if pos ≤ p ∧ p < pos + k then (src[p]?).map (fun x => Slot.obj (some x)) else s[p]? :=
  slotLoop_spec (loop := uCopyIn src) (kind := .asg)
    (prim := fun s p => match src[p]? with
      | none => .error .oob
      | some x => assign s p (some x))
    (ok := fun p o => p < src.length ∧ ∃ e, o = some (.obj e)) (g := fun p => (src[p]?).map (fun x => Slot.obj (some x)))
    (fun _ _ => rfl) (fun k pos s => by simp only [uCopyIn]; cases src[pos]? <;> rfl)
    (fun s p ⟨hp, _, he⟩ => ⟨lt_of_getElem?_some he, _, by rw [List.getElem?_eq_getElem hp]; rfl, by
      simp [List.getElem?_eq_getElem hp, assign_ok _ he]⟩) k pos s
    (fun p h1 h2 => ⟨by omega, h p h1 h2⟩)

theorem uCopyBlk_spec (src : Slots) (k pos : Nat) (s : Slots)
    (h : ∀ p, pos ≤ p → p < pos + k → (∃ e, s[p]? = some (.obj e)) ∧ ∃ e, src[p]? = some (.obj e)) :
    ∃ s' tr, uCopyBlk src k pos s = .ok (s', tr) ∧ nC tr = 0 ∧ nD tr = 0 ∧ s'.length = s.length ∧
      ∀ p, s'[p]? = if pos ≤ p ∧ p < pos + k then src[p]? else s[p]? :=
  slotLoop_spec (loop := uCopyBlk src) (kind := .asg)
    (prim := fun s p => readObj src p >>= assign s p)
    (ok := fun p o => (∃ e, o = some (.obj e)) ∧ ∃ e, src[p]? = some (.obj e)) (g := fun p => src[p]?)
    (fun _ _ => rfl) (fun k pos s => by simp only [uCopyBlk]; cases readObj src pos <;> rfl)
    (fun s p ⟨⟨_, h0⟩, e, he⟩ =>
      ⟨lt_of_getElem?_some h0, _, he, by simp [readObj_ok he, assign_ok _ h0, bind, Except.bind]⟩) k pos s h

theorem uFromPtr_spec (xs : List Nat) :
    ∃ a tr, uFromPtr xs xs.length = .ok (a, tr) ∧ UAbs a xs ∧ nC tr = xs.length ∧ nD tr = 0 := by
  obtain ⟨a, tr1, h1, ha, c1, d1⟩ := uCreate_spec xs.length
  have hv := uabs_iff.mp ha
  have hz : a.size = xs.length := by simpa using ha.size
  rw [List.length_replicate] at hv
  obtain ⟨s', tr2, g1, g2, g3, g4, g5⟩ := uCopyIn_spec xs xs.length 0 a.slots (by omega) (fun p _ hp =>
    ⟨_, abs_obj hv (by simpa using hp)⟩)
  refine ⟨⟨some s', xs.length⟩, tr1 ++ tr2, by simp [uFromPtr, h1, g1, bind, Except.bind, pure, Except.pure],
    uabs_iff.mpr ?_, by simp [c1, g2], by simp [d1, g3]⟩
  have := abs_overwrite hv (ys := xs.map some) (by simp) g4
    (fun p hp => by rw [List.length_map] at hp; simp [g5 p, hp])
    (fun p hp => by rw [List.length_map, List.length_replicate] at hp; rw [g5 p, if_neg (by omega)])
  rwa [hz] at this

theorem uCopyCtor_spec {o : UArr} {ys : List Nat} (ho : UAbs o ys) :
    ∃ a tr, uCopyCtor o = .ok (a, tr) ∧ UAbs a ys ∧ nC tr = ys.length ∧ nD tr = 0 := by
  have hos := ho.size
  have hvo := uabs_iff.mp ho
  obtain ⟨a, tr1, h1, ha, c1, d1⟩ := uCreate_spec o.size
  have hv := uabs_iff.mp ha
  have hz : a.size = ys.length := by simpa [hos] using ha.size
  rw [List.length_replicate, hos] at hv
  obtain ⟨s', tr2, g1, g2, g3, g4, g5⟩ := uCopyBlk_spec o.slots o.size 0 a.slots (fun p _ hp =>
    ⟨⟨_, abs_obj hv (by simpa [hos] using hp)⟩, _, abs_obj hvo (show p < (ys.map some).length by simpa [hos] using hp)⟩)
  refine ⟨⟨some s', o.size⟩, tr1 ++ tr2, by simp [uCopyCtor, h1, g1, bind, Except.bind, pure, Except.pure],
    uabs_iff.mpr ?_, by simp [c1, g2, hos], by simp [d1, g3]⟩
  have := abs_overwrite hv (ys := ys.map some) (by simp) g4
    (fun p hp => by rw [g5 p, if_pos (by rw [List.length_map] at hp; omega), abs_obj hvo hp])
    (fun p hp => by rw [List.length_map, List.length_replicate] at hp; rw [g5 p, if_neg (by omega)])
  rw [hz] at this
  rw [hos]; exact this

theorem uAssign_spec {a o : UArr} {xs ys : List Nat} (ha : UAbs a xs) (ho : UAbs o ys) :
    ∃ a' tr, uAssign a o = .ok (a', tr) ∧ UAbs a' ys ∧ nC tr = ys.length ∧ nD tr = xs.length := by
  obtain ⟨tr1, h1, c1, d1⟩ := uInvalidate_spec ha
  have hos := ho.size
  obtain ⟨s', tr2, g1, g2, g3, g4⟩ := copyInto_prefix (abs_fresh ys.length) (uabs_iff.mp ho) ys.length (by simp)
  rw [← hos] at g1
  refine ⟨⟨some s', o.size⟩, tr1 ++ tr2, by simp only [uAssign, h1, g1, bind, Except.bind]; rfl,
    uabs_iff.mpr ?_, by simp [c1, g3], by simp [d1, g4]⟩
  rw [← List.length_map (f := some), List.take_length] at g2
  simpa [hos] using g2

theorem uResize_spec {a : UArr} {xs : List Nat} (ha : UAbs a xs) (n : Nat) :
    ∃ a' tr, uResize a n = .ok (a', tr) ∧ UAbs a' (List.replicate n 0) ∧ nC tr = n ∧ nD tr = xs.length := by
  obtain ⟨tr1, h1, c1, d1⟩ := uInvalidate_spec ha
  obtain ⟨b, tr2, g1, g2, g3, g4⟩ := uCreate_spec n
  exact ⟨b, tr1 ++ tr2, by simp [uResize, h1, g1, bind, Except.bind, pure, Except.pure], g2, by simp [c1, g3], by simp [d1, g4]⟩

theorem uslots_map {a : UArr} {s : Slots} (h : a.slots.length = s.length) (n : Nat) :
    (⟨a.blk.map fun _ => s, n⟩ : UArr).slots = s := by
  cases hb : a.blk with
  | none =>
    have : s.length = 0 := by rw [← h]; simp [UArr.slots, hb]
    simp [UArr.slots, List.length_eq_zero_iff.mp this]
  | some b => simp [UArr.slots]

theorem uFill_spec {a : UArr} {xs : List Nat} (ha : UAbs a xs) (x : Nat) :
    ∃ a' tr, uFill a x = .ok (a', tr) ∧ UAbs a' (xs.map fun _ => x) ∧ nC tr = 0 ∧ nD tr = 0 := by
  obtain ⟨v', tr, p1, p2, p3, p4⟩ := fillAll_spec (uabs_iff.mp ha) x
  obtain ⟨⟨s', tr'⟩, h1, e⟩ := bind_ok p1
  cases e
  have hl : a.slots.length = s'.length := by rw [p2.len, ha.len]
  refine ⟨⟨a.blk.map fun _ => s', a.size⟩, tr, by simp only [uFill, h1, bind, Except.bind]; rfl, uabs_iff.mpr ?_, p3, p4⟩
  rw [uslots_map hl]
  simpa [Function.comp_def] using p2

theorem uSet_spec {a : UArr} {xs : List Nat} (ha : UAbs a xs) {i : Nat} (hi : i < xs.length) (x : Nat) :
    ∃ a', uSet a i x = .ok (a', [⟨false, .asg, i⟩]) ∧ UAbs a' (xs.set i x) := by
  obtain ⟨v', p1, p2⟩ := setAt_spec (uabs_iff.mp ha) (i := i) (by simpa using hi) x
  obtain ⟨s', h1, e⟩ := bind_ok p1
  cases e
  have hl : a.slots.length = s'.length := by rw [p2.len, ha.len]
  refine ⟨⟨a.blk.map fun _ => s', a.size⟩, by simp only [uSet, h1, bind, Except.bind]; rfl, uabs_iff.mpr ?_⟩
  rw [uslots_map hl]
  simpa [List.map_set] using p2

def URel : Option UArr → Option (List Nat) → Prop
  | none, none => True
  | some a, some xs => UAbs a xs
  | _, _ => False

def UInv (m : URegsS) (sp : URegs) : Prop := ∀ r, URel (m r) (sp r)

theorem urel_none {o : Option UArr} {x : Option (List Nat)} (h : URel o x) : o = none ↔ x = none := by
  cases o <;> cases x <;> simp_all [URel]

theorem urel_some {a : UArr} {x : Option (List Nat)} (h : URel (some a) x) : ∃ xs, x = some xs ∧ UAbs a xs := by
  cases x with
  | none => exact h.elim
  | some xs => exact ⟨xs, rfl, h⟩

theorem uinv_set {m : URegsS} {sp : URegs} (h : UInv m sp) (r : Nat) {a : Option UArr} {xs : Option (List Nat)}
    (hr : URel a xs) : UInv (setUS m r a) (setU sp r xs) := by
  intro q
  by_cases hq : q = r
  · subst hq; simpa [setUS, setU] using hr
  · simpa [setUS, setU, hq] using h q

def UOut : Option URegsS → Option URegs → Prop
  | some m, some sp => UInv m sp
  | none, none => True
  | _, _ => False

theorem regRel_U : RegRel URel UAbs := ⟨fun _ h => h, fun _ h => h, fun _ _ h => h⟩

theorem ustepS_refines {K : Nat} {m : URegsS} {sp : URegs} (h : UInv m sp) (op : UOp) :
    ∃ res, ustepS K m op = .ok res ∧ UOut res (ustep K sp op) := by
  have hR := regRel_U
  have skip : ∃ res, Except.ok (ε := Fault) (none : Option URegsS) = .ok res ∧ UOut res none := ⟨_, rfl, trivial⟩
  have commit : ∀ (r : Nat) {x : Except Fault (UArr × Tr)} {a : UArr} {tr : Tr} {ys : List Nat}, x = .ok (a, tr) → UAbs a ys →
      ∃ res, (do let (a, _) ← x; pure (some (setUS m r (some a)))) = .ok res ∧ UOut res (some (setU sp r (some ys))) :=
    fun r _ a _ _ h1 h2 => ⟨some (setUS m r (some a)), by rw [h1]; rfl, uinv_set h r (a := some a) (xs := some _) h2⟩
  cases op <;> simp only [ustepS, ustep]
  case new r n =>
    refine lookG hR (m r) (sp r) (h r) (fun _ _ _ _ _ _ => skip) (fun _ _ _ => ?_) (fun _ => skip)
    obtain ⟨a, tr, h1, h2, _⟩ := uCreate_spec n
    exact commit r h1 h2
  case «from» r xs =>
    refine lookG hR (m r) (sp r) (h r) (fun _ _ _ _ _ _ => skip) (fun _ _ _ => ?_) (fun _ => skip)
    obtain ⟨a, tr, h1, h2, _⟩ := uFromPtr_spec xs
    exact commit r h1 h2
  case copy r s =>
    refine lookG hR (m r) (sp r) (h r) (fun _ _ _ _ _ _ => skip) (fun _ _ _ => ?_) (fun _ => skip)
    refine look0 hR (m s) (sp s) (h s) (fun o ys _ _ ho => ?_) (fun _ _ => skip)
    obtain ⟨a, tr, h1, h2, _⟩ := uCopyCtor_spec ho
    exact commit r h1 h2
  case move r s =>
    refine lookG hR (m r) (sp r) (h r) (fun _ _ _ _ _ _ => skip) (fun _ _ _ => ?_) (fun _ => skip)
    refine look0 hR (m s) (sp s) (h s) (fun o ys _ _ ho => ?_) (fun _ _ => skip)
    exact ⟨_, rfl, uinv_set (uinv_set h s (a := some ⟨none, 0⟩) (xs := some []) uabs_nil) r (a := some o)
      (xs := some ys) ho⟩
  case assign r s =>
    refine lookG hR (m r) (sp r) (h r) (fun _ u xs _ _ ha => ?_) (fun _ _ _ => skip) (fun _ => skip)
    refine look0 hR (m s) (sp s) (h s) (fun o ys _ hy ho => ?_) (fun _ _ => skip)
    simp only []
    by_cases hrs : r = s
    · subst hrs
      rw [if_pos rfl]
      refine ⟨_, rfl, fun q => ?_⟩
      by_cases hq : q = r
      · subst hq; simp only [setU, if_true]; rw [← hy]; exact h q
      · simp only [setU, hq, if_false]; exact h q
    · obtain ⟨a', tr, h1, h2, _⟩ := uAssign_spec ha ho
      rw [if_neg hrs]
      exact commit r h1 h2
  case resize r n =>
    refine lookG hR (m r) (sp r) (h r) (fun _ u xs _ _ ha => ?_) (fun _ _ _ => skip) (fun _ => skip)
    obtain ⟨a', tr, h1, h2, _⟩ := uResize_spec ha n
    exact commit r h1 h2
  case fill r x =>
    refine lookG hR (m r) (sp r) (h r) (fun _ u xs _ _ ha => ?_) (fun _ _ _ => skip) (fun _ => skip)
    obtain ⟨a', tr, h1, h2, _⟩ := uFill_spec ha x
    exact commit r h1 h2
  case set r i x =>
    refine lookG hR (m r) (sp r) (h r) (fun _ u xs _ _ ha => ?_) (fun _ _ _ => skip) (fun _ => skip)
    simp only [ha.size]
    by_cases hi : i < xs.length
    · obtain ⟨a', h1, h2⟩ := uSet_spec ha hi x
      rw [if_pos hi, if_pos hi]
      exact commit r h1 h2
    · rw [if_neg hi, if_neg hi]; exact skip
  case clear r =>
    refine lookG hR (m r) (sp r) (h r) (fun _ u xs _ _ ha => ?_) (fun _ _ _ => skip) (fun _ => skip)
    obtain ⟨tr, h1, _⟩ := uInvalidate_spec ha
    exact ⟨some (setUS m r (some ⟨none, 0⟩)), by simp only [h1]; rfl,
      uinv_set h r (a := some ⟨none, 0⟩) (xs := some []) uabs_nil⟩
  case del r =>
    refine lookG hR (m r) (sp r) (h r) (fun _ u xs _ _ ha => ?_) (fun _ _ _ => skip) (fun _ => skip)
    obtain ⟨tr, h1, _⟩ := uInvalidate_spec ha
    exact ⟨some (setUS m r none), by simp only [h1]; rfl, uinv_set h r (a := none) (xs := none) trivial⟩
  case finish => exact ⟨_, rfl, fun _ => trivial⟩

/-- a history on the list level: operations outside the contract are skipped -/
def urun (K : Nat) : List UOp → URegs → URegs
  | [], sp => sp
  | op :: ops, sp => urun K ops ((ustep K sp op).getD sp)

def urunS (K : Nat) : List UOp → URegsS → Except Fault URegsS
  | [], m => .ok m
  | op :: ops, m => do
      let r ← ustepS K m op
      urunS K ops (r.getD m)

theorem urunS_refines {K : Nat} : ∀ (ops : List UOp) (m : URegsS) (sp : URegs), UInv m sp →
    ∃ m', urunS K ops m = .ok m' ∧ UInv m' (urun K ops sp) := by
  intro ops
  induction ops with
  | nil => intro m sp h; exact ⟨m, rfl, h⟩
  | cons op ops ih =>
    intro m sp h
    obtain ⟨res, h1, h2⟩ := ustepS_refines (K := K) h op
    have hnext : UInv (res.getD m) ((ustep K sp op).getD sp) := by
      cases res with
      | none =>
        cases hu : ustep K sp op with
        | none => simpa using h
        | some sp' => rw [hu] at h2; exact h2.elim
      | some m1 =>
        cases hu : ustep K sp op with
        | none => rw [hu] at h2; exact h2.elim
        | some sp' => rw [hu] at h2; simpa [UOut] using h2
    obtain ⟨m', g1, g2⟩ := ih _ _ hnext
    exact ⟨m', by simp [urunS, h1, g1, bind, Except.bind], by simpa [urun] using g2⟩

/-! ## static_string with a `w`-bit counter -/

theorem sPushW_eq {w N : Nat} (hN : N < 2 ^ w) (s : SStr) (c : Byte) : sPushW w N s c = sPush N s c := by
  unfold sPushW sPush
  by_cases hf : s.size ≥ N
  · simp [hf]
  · simp only [hf, if_false]
    rw [stored_small (show s.size + 1 < 2 ^ w by omega)]

theorem sCtorPtrLenW_eq {w N : Nat} (hN : N < 2 ^ w) (junk arg : List Byte) (sz : Nat) :
    sCtorPtrLenW w N junk arg sz = sCtorPtrLen N junk arg sz := by
  unfold sCtorPtrLenW sCtorPtrLen
  rw [stored_small (show (if sz > N then N else sz) < 2 ^ w by split <;> omega)]

/-- the C-string constructor stores `strlen(dat)` BEFORE it clamps: the counter
    must hold the length of the ARGUMENT, not only the capacity -/
theorem sCtorPtrW_eq {w N : Nat} (hN : N < 2 ^ w) {junk arg : List Byte} (h0 : (0 : Byte) ∈ arg)
    (hlen : arg.length ≤ 2 ^ w) : sCtorPtrW w N junk arg = sCtorPtr N junk arg := by
  unfold sCtorPtrW sCtorPtr
  rw [strlen_spec h0]
  have := takeWhile_length_lt h0
  simp only [bind, Except.bind]
  rw [stored_small (show (arg.takeWhile nz).length < 2 ^ w by omega), stored_small hN]

/-- what a C-string argument must satisfy for a `w`-bit counter: its length fits -/
def SOp.fitsW (w : Nat) : SOp → Prop
  | .ptr _ arg => arg.length ≤ 2 ^ w
  | _ => True

theorem sstepW_eq {w : Nat} {c : SCfg} (hN : c.N < 2 ^ w) (m : SRegs) (op : SOp) (hwf : op.wf) (hfit : op.fitsW w) :
    sstepW w c m op = sstep c m op := by
  cases op <;> simp only [sstepW, sstep]
  case ptr r arg =>
    refine lookG1 (m r) (fun _ _ _ => rfl) (fun _ _ => ?_) (fun _ => rfl)
    simp only [sCtorPtrW_eq hN hwf hfit]
  case ptrlen r arg n =>
    refine lookG1 (m r) (fun _ _ _ => rfl) (fun _ _ => ?_) (fun _ => rfl)
    simp only [sCtorPtrLenW_eq hN]
  case push r ch | add r ch =>
    refine lookG1 (m r) (fun _ s _ => ?_) (fun _ _ => rfl) (fun _ => rfl)
    simp only [sPushW_eq hN]

theorem srunW_eq {w : Nat} {c : SCfg} (hN : c.N < 2 ^ w) : ∀ (ops : List SOp) (m : SRegs),
    (∀ op, op ∈ ops → op.wf ∧ op.fitsW w) → srunW w c ops m = srun c ops m := by
  intro ops
  induction ops with
  | nil => intro m _; rfl
  | cons op ops ih =>
    intro m hwf
    have h0 := hwf op (List.mem_cons_self ..)
    simp only [srunW, srun, sstepW_eq hN m op h0.1 h0.2]
    cases sstep c m op with
    | error e => rfl
    | ok q => simp only [bind, Except.bind]; rw [ih q.1 (fun o ho => hwf o (List.mem_cons_of_mem _ ho))]

end Igris.C14
