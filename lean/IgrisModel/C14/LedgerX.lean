/-
  C14 — the lifetime ledger for the member functions whose element constructors
  THROW (Exc.lean).  Every loop with a throw point is the plain loop run for
  `min k b` iterations (`…X_eq`), so the replay lemmas of Ledger.lean carry
  over; a constructor that throws runs `~static_vector()` on what it had built,
  after which no slot of the object is live (`destructor_all_dead`, which needs
  the abstraction of the partial result).  That is why the closed forms of the
  four constructors (`…CtorX_spec`) stand here, their ledger fact among the rest.
-/
import IgrisModel.C14.Ledger
import IgrisModel.C14.LemmasX

namespace Igris.C14

theorem valueInitLoopX_replay {k pos : Nat} {sl sl' : Slots} {b n : Nat} {tr : Tr} {t : Bool}
    (h : valueInitLoopX k pos sl b = .ok (sl', tr, n, t)) :
    ∀ (g : GOcc) (r s : Nat), g r = occOf sl → replayG (glob r s tr) g = some (setG g r (occOf sl')) := by
  rw [valueInitLoopX_eq] at h
  obtain ⟨⟨s1, t1⟩, hv, e⟩ := map_ok h
  cases e
  exact valueInitLoop_replay _ _ _ _ _ hv

theorem copyLoopX_replay {src : Slots} {k pos : Nat} {sl sl' : Slots} {b n : Nat} {tr : Tr} {t : Bool}
    (h : copyLoopX src k pos sl b = .ok (sl', tr, n, t)) :
    ∀ (g : GOcc) (r s : Nat), g r = occOf sl → replayG (glob r s tr) g = some (setG g r (occOf sl')) := by
  rw [copyLoopX_eq] at h
  obtain ⟨⟨s1, t1⟩, hv, e⟩ := map_ok h
  cases e
  exact copyLoop_replay _ _ _ _ _ _ hv

theorem moveLoopX_replay {trk : Bool} {k pos : Nat} {d src d' s' : Slots} {b n : Nat} {tr : Tr} {t : Bool}
    (h : moveLoopX trk k pos d src b = .ok (d', s', tr, n, t)) :
    ∀ (g : GOcc) (r s : Nat), r ≠ s → g r = occOf d → g s = occOf src →
      replayG (glob r s tr) g = some (setG (setG g s (occOf s')) r (occOf d')) := by
  rw [moveLoopX_eq] at h
  obtain ⟨⟨d1, s1, t1⟩, hv, e⟩ := map_ok h
  cases e
  exact moveLoop_replay trk _ _ _ _ _ _ _ hv

theorem pushBackX_replay {N : Nat} {v v' : SVec} {x b : Nat} {tr : Tr} {t : Bool}
    (h : pushBackX N v x b = .ok (v', tr, t)) : UReplay v v' tr := by
  cases b with
  | zero =>
    simp only [pushBackX] at h
    split at h <;> (cases h; exact ureplay_nil v)
  | succ b =>
    rw [pushBackX_succ] at h
    obtain ⟨⟨v1, t1⟩, hr, e⟩ := map_ok h
    cases e
    exact pushBack_replay hr

theorem ilLoopX_replay (N : Nat) (xs : List Nat) (v v' : SVec) (b : Nat) (tr : Tr) (t : Bool)
    (h : ilLoopX N xs v b = .ok (v', tr, t)) : UReplay v v' tr := by
  rw [ilLoopX_eq] at h
  obtain ⟨⟨v1, t1⟩, hr, e⟩ := map_ok h
  cases e
  exact rangeLoop_replay N _ _ _ _ hr

theorem resizeX_replay {N : Nat} {v v' : SVec} {n b : Nat} {tr : Tr} {t : Bool}
    (h : resizeX N v n b = .ok (v', tr, t)) : UReplay v v' tr := by
  simp only [resizeX] at h
  obtain ⟨⟨s1, t1, k, tt⟩, h1, h⟩ := bind_ok h
  have a : UReplay v ⟨s1, v.size + k⟩ t1 := valueInitLoopX_replay h1
  cases tt with
  | true => simp only [if_true] at h; cases h; exact a
  | false =>
    simp only [Bool.false_eq_true, if_false] at h
    obtain ⟨⟨s2, t2⟩, h2, h⟩ := bind_ok h
    cases h
    have b' : UReplay ⟨s1, v.size + k⟩ ⟨s2, if n ≥ N then N else n⟩ t2 := destroyLoop_replay _ _ _ _ _ h2
    exact ureplay_trans a b'

theorem assignCopyX_replay {v o v' : SVec} {b : Nat} {tr : Tr} {t : Bool}
    (h : assignCopyX v o b = .ok (v', tr, t)) : UReplay v v' tr := by
  simp only [assignCopyX] at h
  obtain ⟨⟨v1, t1⟩, h1, h⟩ := bind_ok h
  obtain ⟨⟨s2, t2, n, tt⟩, h2, h⟩ := bind_ok h
  cases h
  have b' : UReplay v1 ⟨s2, n⟩ t2 := copyLoopX_replay h2
  exact ureplay_trans (clear_replay h1) b'

theorem assignMoveX_replay {trk : Bool} {v o v' o' : SVec} {b : Nat} {tr : Tr} {t : Bool}
    (h : assignMoveX trk v o b = .ok (v', o', tr, t)) : BReplay v o v' o' tr := by
  simp only [assignMoveX] at h
  obtain ⟨⟨v1, t1⟩, h1, h⟩ := bind_ok h
  obtain ⟨⟨d2, s2, t2, n, tt⟩, h2, h⟩ := bind_ok h
  have a : BReplay v o v1 o t1 := breplay_of_u_left (clear_replay h1)
  have b' : BReplay v1 o (some ⟨d2, n⟩) ⟨s2, o.size⟩ t2 := moveLoopX_replay h2
  cases tt with
  | true =>
    simp only [if_true] at h
    cases h
    exact breplay_trans a b'
  | false =>
    simp only [Bool.false_eq_true, if_false] at h
    obtain ⟨⟨o3, t3⟩, h3, h⟩ := bind_ok h
    cases h
    have c : BReplay (some ⟨d2, n⟩) ⟨s2, o.size⟩ (some ⟨d2, n⟩) o3 (t3.map Ev.flip) :=
      breplay_of_u_right (clear_replay h3)
    exact breplay_trans (breplay_trans a b') c

/-- the common tail of the copy, iterator-range and initializer-list constructors -/
theorem ctor_tail_replay {N : Nat} {v : SVec} {es : List Elem} (ha : Abs N v es) {tr1 : Tr} (hu : UReplay ⟨rawStore N, 0⟩ v tr1)
    {tt : Bool} {w : Option SVec} {tr : Tr} {t : Bool}
    (h : (if tt then unwindCtor v tr1 else pure (some v, tr1, false)) = Except.ok (w, tr, t)) :
    ∀ (g : GOcc) (r s : Nat), g r = (fun _ => false) → replayG (glob r s tr) g = some (setG g r (occO w)) := by
  intro g r s hg
  have h0 := hu g r s (by rw [hg, occOf_rawStore])
  cases tt with
  | false =>
    simp only [Bool.false_eq_true, if_false, pure, Except.pure] at h
    cases h
    exact h0
  | true =>
    simp only [if_true, unwindCtor] at h
    obtain ⟨⟨v2, tr2⟩, h2, h⟩ := bind_ok h
    cases h
    rw [glob_append, replayG_append, h0]
    simp only [Option.bind]
    rw [destructor_replay h2 _ r s (by simp [setG]), destructor_all_dead ha h2, setG_setG]
    rfl

theorem listCtorX_replay {N : Nat} {v : SVec} {es : List Elem} (ha : Abs N v es) {tr1 : Tr}
    (hu : UReplay ⟨rawStore N, 0⟩ v tr1) {tt : Bool} {w : Option SVec} {tr : Tr} {t : Bool}
    (h : (if tt then unwindCtor v tr1 else pure (some v, tr1, false)) = Except.ok (w, tr, t)) :
    ∀ (g : GOcc) (r s : Nat), g r = (fun _ => false) → replayG (glob r s tr) g = some (setG g r (occO w)) :=
  ctor_tail_replay ha hu h

theorem copyCtorX_spec {N : Nat} {o : SVec} {eo : List Elem} (ho : Abs N o eo) (b : Nat) :
    ∃ w tr, copyCtorX N o b = .ok (w, tr, decide (b < eo.length)) ∧
      Rel N w (if b < eo.length then none else some eo) ∧
      nC tr = min eo.length b ∧ nD tr = (if b < eo.length then b else 0) ∧ OReplay none w tr := by
  have hs := ho.size
  obtain ⟨d', tr, h1, h2, h3, h4⟩ := copyInto_prefix (abs_fresh N) ho (min eo.length b) (by omega)
  simp only at h1
  have hu : UReplay ⟨rawStore N, 0⟩ ⟨d', min eo.length b⟩ tr := copyLoop_replay _ _ _ _ _ _ h1
  by_cases hb : b < eo.length
  · have hm : min eo.length b = b := by omega
    rw [hm] at h1 h2 h3 hu
    obtain ⟨tr2, u1, u2, u3⟩ := unwindCtor_spec h2 tr
    refine ⟨none, tr ++ tr2, ?_, by simp [hb, Rel], by simp [h3, u2, hm], by simp [h4, u3, hb]; omega,
      ctor_tail_replay h2 hu (tt := true) u1⟩
    simp only [copyCtorX, copyLoopX_eq, hs, hm, h1, Except.map, bind, Except.bind]
    simp [u1, hb]
  · have hm : min eo.length b = eo.length := by omega
    rw [hm] at h1 h2 h3 hu
    rw [List.take_of_length_le (Nat.le_refl _)] at h2
    refine ⟨some ⟨d', eo.length⟩, tr, ?_, by simpa [hb, Rel] using h2, by simp [h3, hm], by simp [h4, hb],
      ctor_tail_replay h2 hu (tt := false) rfl⟩
    have : decide (b < eo.length) = false := by simp; omega
    simp only [copyCtorX, copyLoopX_eq, hs, hm, h1, Except.map, bind, Except.bind]
    simp [this, pure, Except.pure]

theorem moveCtorX_spec (port trk : Bool) {N : Nat} {o : SVec} {eo : List Elem} (ho : Abs N o eo) (b : Nat) :
    ∃ w o' tr, moveCtorX port trk N o b = .ok (w, o', tr, decide (b < eo.length)) ∧
      Rel N w (if b < eo.length then none else some eo) ∧
      Abs N o' (if b < eo.length then movedPrefix trk b eo else if port then movedFrom trk eo else []) ∧
      nC tr = min eo.length b ∧
      nD tr = (if b < eo.length then b else if port then 0 else eo.length) ∧ BReplay none o w o' tr := by
  have hs := ho.size
  obtain ⟨d', s', tr, h1, h2, h3, h4, h5⟩ := moveInto_prefix trk (abs_fresh N) ho (min eo.length b) (by omega)
  simp only at h1
  have hl : BReplay none o (some ⟨d', min eo.length b⟩) ⟨s', o.size⟩ tr :=
    breplay_fresh (n := 0) (moveLoop_replay trk _ _ _ _ _ _ _ h1)
  by_cases hb : b < eo.length
  · have hm : min eo.length b = b := by omega
    rw [hm] at h1 h2 h3 h4 hl
    obtain ⟨v', tr2, p1, p2, p3, p4⟩ := destructor_spec h2
    refine ⟨none, ⟨s', o.size⟩, tr ++ tr2, ?_, by simp [hb, Rel], by simpa [hb] using h3,
      by simp [h4, p3, hm], by simp [h5, p4, hb]; omega, fun g r s hne hg hgs => ?_⟩
    · have : decide (b < eo.length) = true := by simp; omega
      simp only [moveCtorX, moveLoopX_eq, hs, hm, h1, Except.map, bind, Except.bind]
      simp [this, p1, pure, Except.pure]
    · rw [breplay_trans hl (breplay_of_u_left (destructor_replay p1)) g r s hne hg hgs, occO,
        destructor_all_dead h2 p1]; rfl
  · have hm : min eo.length b = eo.length := by omega
    rw [hm] at h1 h2 h3 h4 hl
    rw [List.take_of_length_le (Nat.le_refl _)] at h2
    rw [movedPrefix_full trk (Nat.le_refl _)] at h3
    have hd : decide (b < eo.length) = false := by simp; omega
    cases port
    · obtain ⟨o', tr2, c1, c2, c3, c4⟩ := clear_spec h3
      refine ⟨some ⟨d', eo.length⟩, o', tr ++ tr2.map Ev.flip, ?_, by simpa [hb, Rel] using h2,
        by simpa [hb] using c2, by simp [h4, c3, hm], by simp [h5, c4, hb],
        breplay_trans hl (breplay_of_u_right (clear_replay c1))⟩
      rw [hs] at c1
      simp only [moveCtorX, moveLoopX_eq, hs, hm, h1, Except.map, bind, Except.bind]
      simp [hd, c1, pure, Except.pure]
    · refine ⟨some ⟨d', eo.length⟩, ⟨s', o.size⟩, tr, ?_, by simpa [hb, Rel] using h2,
        by simpa [hb] using h3, by simp [h4, hm], by simp [h5, hb], hl⟩
      simp only [moveCtorX, moveLoopX_eq, hs, hm, h1, Except.map, bind, Except.bind]
      simp [hd, pure, Except.pure]

theorem ilCtorX_spec (N : Nat) (xs : List Nat) (b : Nat) :
    ∃ w tr, ilCtorX N xs b = .ok (w, tr, decide (b < min xs.length N)) ∧
      Rel N w (if b < min xs.length N then none else some (specCtor N xs)) ∧
      nC tr = min (min xs.length N) b ∧ nD tr = (if b < min xs.length N then b else 0) ∧ OReplay none w tr := by
  obtain ⟨v, tr, h1, h2, h3, h4⟩ := ilLoopX_spec N xs b
  have hu : UReplay ⟨rawStore N, 0⟩ v tr := ilLoopX_replay N xs _ _ _ _ _ h1
  by_cases hb : b < min xs.length N
  · obtain ⟨tr2, u1, u2, u3⟩ := unwindCtor_spec h2 tr
    have hlen : ((xs.take (min N b)).map some).length = b := by simp; omega
    refine ⟨none, tr ++ tr2, ?_, by simp [hb, Rel], by simp [h3, u2], by rw [nD_append, h4, u3, hlen]; simp [hb],
      ctor_tail_replay h2 hu (tt := true) u1⟩
    simp only [ilCtorX, h1, decide_eq_true hb, bind, Except.bind]
    simpa using u1
  · have hm : (xs.take (min N b)).map some = specCtor N xs := by
      simp only [specCtor]
      by_cases hN : N ≤ b
      · rw [show min N b = N by omega]
      · rw [List.take_of_length_le (by omega), List.take_of_length_le (by omega)]
    refine ⟨some v, tr, ?_, by simpa [hb, Rel, hm] using h2, h3, by simp [h4, hb],
      ctor_tail_replay h2 hu (tt := false) rfl⟩
    simp only [ilCtorX, h1, decide_eq_false hb, bind, Except.bind]
    rfl

theorem rangeCtorX_spec (N : Nat) (xs : List Nat) (b : Nat) :
    ∃ w tr, rangeCtorX N xs b = .ok (w, tr, decide (b < min xs.length N)) ∧
      Rel N w (if b < min xs.length N then none else some (specCtor N xs)) ∧
      nC tr = min (min xs.length N) b ∧ nD tr = (if b < min xs.length N then b else 0) ∧ OReplay none w tr := by
  rw [rangeCtorX_eq_ilCtorX]; exact ilCtorX_spec N xs b

end Igris.C14
