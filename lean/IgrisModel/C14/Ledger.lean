/-
  C14 — the lifetime ledger replayed over the EVENT TRACE.

  `replayG` is the check the harness performs on the real code with its
  Tracked element type: it walks the sequence of lifetime events and keeps the
  set of storage locations (register, slot) that hold a live object; a
  constructor event on a live location, a destructor / assignment / move event
  on a dead one is a failure.  Here it is shown that the events the model emits
  always replay successfully and that the replayed live-set is exactly the set
  of occupied slots of the model — so every constructor event is followed by
  exactly one destructor event on the same location before the next
  constructor event there (or before the end, after `finish`).

  `…_replay`: a successful call implies that its events replay, from any ledger
  state that agrees with the object on its own row.  The machine is analysed
  once, in `step_sim`, which carries the refinement invariant of `Lemmas.lean`
  and the ledger together.
-/
import IgrisModel.C14.Lemmas

namespace Igris.C14

abbrev GOcc := Nat → Nat → Bool

def setG (g : GOcc) (r : Nat) (o : Nat → Bool) : GOcc := fun q => if q = r then o else g q
def setB (o : Nat → Bool) (i : Nat) (b : Bool) : Nat → Bool := fun p => if p = i then b else o p

def replayG1 (g : GOcc) (e : GEv) : Option GOcc :=
  match e.k with
  | .ctor => if g e.reg e.i then none else some (setG g e.reg (setB (g e.reg) e.i true))
  | .dtor => if g e.reg e.i then some (setG g e.reg (setB (g e.reg) e.i false)) else none
  | .asg => if g e.reg e.i then some g else none
  | .mv => if g e.reg e.i then some g else none

def replayG : List GEv → GOcc → Option GOcc
  | [], g => some g
  | e :: t, g => (replayG1 g e).bind (replayG t)

theorem replayG_append (a b : List GEv) (g : GOcc) : replayG (a ++ b) g = (replayG a g).bind (replayG b) := by
  induction a generalizing g with
  | nil => rfl
  | cons e a ih =>
    simp only [List.cons_append, replayG]
    cases replayG1 g e with
    | none => rfl
    | some g1 => simp [ih]

def occOf (s : Slots) : Nat → Bool := fun p =>
  match s[p]? with
  | some (.obj _) => true
  | _ => false

theorem setG_self (g : GOcc) (r : Nat) : setG g r (g r) = g := by
  funext q; simp only [setG]; split
  · next h => rw [h]
  · rfl

theorem setG_setG (g : GOcc) (r : Nat) (a b : Nat → Bool) : setG (setG g r a) r b = setG g r b := by
  funext q; simp only [setG]; split <;> rfl

@[simp] theorem setG_get (g : GOcc) (r : Nat) (a : Nat → Bool) : setG g r a r = a := by simp [setG]
theorem setG_get_ne (g : GOcc) {r q : Nat} (a : Nat → Bool) (h : q ≠ r) : setG g r a q = g q := by simp [setG, h]

theorem setG_comm (g : GOcc) {r s : Nat} (h : r ≠ s) (a b : Nat → Bool) :
    setG (setG g r a) s b = setG (setG g s b) r a := by
  funext q; simp only [setG]
  by_cases h1 : q = s
  · by_cases h2 : q = r
    · exact absurd (h2.symm.trans h1) h
    · rw [if_pos h1, if_neg h2, if_pos h1]
  · by_cases h2 : q = r
    · rw [if_neg h1, if_pos h2, if_pos h2]
    · rw [if_neg h1, if_neg h2, if_neg h2, if_neg h1]

theorem occOf_rawStore (N : Nat) : occOf (rawStore N) = fun _ => false := by
  funext p; simp only [occOf, rawStore_getElem?]; split <;> simp_all

theorem occOf_set {s : Slots} {i : Nat} (h : i < s.length) (x : Slot) :
    occOf (s.set i x) = setB (occOf s) i (match x with | .obj _ => true | .raw => false) := by
  funext p; simp only [occOf, setB, List.getElem?_set]
  by_cases hp : p = i
  · subst hp; cases x <;> simp [h]
  · have : ¬ i = p := fun e => hp e.symm
    simp [hp, this]

theorem occOf_set_same {s : Slots} {i : Nat} {e0 : Elem} (h : s[i]? = some (.obj e0)) (e : Elem) :
    occOf (s.set i (.obj e)) = occOf s := by
  rw [occOf_set (lt_of_getElem?_some h)]
  funext p; simp only [setB]; split
  · next hp => subst hp; simp [occOf, h]
  · rfl

theorem replay_ctor {g : GOcc} {r i : Nat} (h : g r i = false) :
    replayG1 g ⟨r, .ctor, i⟩ = some (setG g r (setB (g r) i true)) := by simp [replayG1, h]
theorem replay_dtor {g : GOcc} {r i : Nat} (h : g r i = true) :
    replayG1 g ⟨r, .dtor, i⟩ = some (setG g r (setB (g r) i false)) := by simp [replayG1, h]
theorem replay_asg {g : GOcc} {r i : Nat} (h : g r i = true) : replayG1 g ⟨r, .asg, i⟩ = some g := by simp [replayG1, h]
theorem replay_mv {g : GOcc} {r i : Nat} (h : g r i = true) : replayG1 g ⟨r, .mv, i⟩ = some g := by simp [replayG1, h]

theorem construct_replay {s s' : Slots} {i : Nat} {e : Elem} (h : construct s i e = .ok s') {g : GOcc} {r : Nat}
    (hg : g r = occOf s) : replayG1 g ⟨r, .ctor, i⟩ = some (setG g r (occOf s')) := by
  unfold construct at h
  split at h
  · cases h
  · cases h
  · next hr =>
    cases h
    rw [replay_ctor (by simp [hg, occOf, hr]), hg, occOf_set (lt_of_getElem?_some hr) (.obj e)]

theorem destroy_replay {s s' : Slots} {i : Nat} (h : destroy s i = .ok s') {g : GOcc} {r : Nat}
    (hg : g r = occOf s) : replayG1 g ⟨r, .dtor, i⟩ = some (setG g r (occOf s')) := by
  unfold destroy at h
  split at h
  · cases h
  · cases h
  · next e0 hr =>
    cases h
    rw [replay_dtor (by simp [hg, occOf, hr]), hg, occOf_set (lt_of_getElem?_some hr) .raw]

theorem assign_inv {s s' : Slots} {i : Nat} {e : Elem} (h : assign s i e = .ok s') :
    occOf s i = true ∧ occOf s' = occOf s := by
  unfold assign at h
  split at h
  · cases h
  · cases h
  · next e0 hr => cases h; exact ⟨by simp [occOf, hr], occOf_set_same hr e⟩

theorem moveOut_inv {trk : Bool} {s s' : Slots} {i : Nat} {e : Elem} (h : moveOut trk s i = .ok (e, s')) :
    occOf s i = true ∧ occOf s' = occOf s := by
  unfold moveOut at h
  split at h
  · cases h
  · cases h
  · next e0 hr =>
    cases h
    refine ⟨by simp [occOf, hr], ?_⟩
    cases trk
    · rfl
    · exact occOf_set_same hr none

/-- the ledger side of `slotLoop_spec` -/
theorem slotLoop_replay {loop : Nat → Nat → Slots → Except Fault (Slots × Tr)}
    {prim : Slots → Nat → Except Fault Slots} {kind : EvK}
    (h0 : ∀ pos s, loop 0 pos s = .ok (s, []))
    (hs : ∀ k pos s, loop (k + 1) pos s = (do
      let s ← prim s pos
      let (s, tr) ← loop k (pos + 1) s
      pure (s, ⟨false, kind, pos⟩ :: tr)))
    (hprim : ∀ s p s', prim s p = .ok s' → ∀ (g : GOcc) (r : Nat), g r = occOf s →
      replayG1 g ⟨r, kind, p⟩ = some (setG g r (occOf s'))) :
    ∀ (k pos : Nat) (sl sl' : Slots) (tr : Tr), loop k pos sl = .ok (sl', tr) →
    ∀ (g : GOcc) (r s : Nat), g r = occOf sl → replayG (glob r s tr) g = some (setG g r (occOf sl')) := by
  intro k
  induction k with
  | zero =>
    intro pos sl sl' tr h g r s hg
    rw [h0] at h; cases h
    simp [glob, replayG, ← hg, setG_self]
  | succ k ih =>
    intro pos sl sl' tr h g r s hg
    rw [hs] at h
    obtain ⟨s1, h1, h⟩ := bind_ok h
    obtain ⟨⟨s2, tr2⟩, h2, h⟩ := bind_ok h
    have := ih (pos + 1) s1 s2 tr2 h2 (setG g r (occOf s1)) r s (by simp)
    cases h
    simp only [glob, List.map_cons, replayG, Bool.false_eq_true, if_false]
    rw [hprim _ _ _ h1 g r hg]
    simp only [Option.bind]
    simp only [glob] at this
    rw [this, setG_setG]

theorem destroyLoop_replay : ∀ (k pos : Nat) (sl sl' : Slots) (tr : Tr), destroyLoop k pos sl = .ok (sl', tr) →
    ∀ (g : GOcc) (r s : Nat), g r = occOf sl → replayG (glob r s tr) g = some (setG g r (occOf sl')) :=
  slotLoop_replay (kind := .dtor) (prim := destroy) (fun _ _ => rfl) (fun _ _ _ => rfl) fun _ _ _ h1 _ _ hg =>
    destroy_replay h1 hg

theorem valueInitLoop_replay : ∀ (k pos : Nat) (sl sl' : Slots) (tr : Tr), valueInitLoop k pos sl = .ok (sl', tr) →
    ∀ (g : GOcc) (r s : Nat), g r = occOf sl → replayG (glob r s tr) g = some (setG g r (occOf sl')) :=
  slotLoop_replay (kind := .ctor) (prim := fun s p => construct s p (some 0)) (fun _ _ => rfl) (fun _ _ _ => rfl)
    fun _ _ _ h1 _ _ hg => construct_replay h1 hg

theorem copyLoop_replay (src : Slots) : ∀ (k pos : Nat) (sl sl' : Slots) (tr : Tr), copyLoop src k pos sl = .ok (sl', tr) →
    ∀ (g : GOcc) (r s : Nat), g r = occOf sl → replayG (glob r s tr) g = some (setG g r (occOf sl')) :=
  slotLoop_replay (kind := .ctor) (prim := fun d p => readObj src p >>= construct d p) (fun _ _ => rfl)
    (fun k pos d => by simp only [copyLoop]; cases readObj src pos <;> rfl)
    fun _ _ _ h1 _ _ hg => by
      obtain ⟨e, _, h1⟩ := bind_ok h1
      exact construct_replay h1 hg

theorem shiftLoop_replay (trk : Bool) : ∀ (k src dst : Nat) (sl sl' : Slots) (tr : Tr),
    shiftLoop trk k src dst sl = .ok (sl', tr) →
    ∀ (g : GOcc) (r s : Nat), g r = occOf sl → replayG (glob r s tr) g = some (setG g r (occOf sl')) := by
  intro k
  induction k with
  | zero =>
    intro src dst sl sl' tr h g r s hg
    simp only [shiftLoop] at h; cases h
    simp [glob, replayG, ← hg, setG_self]
  | succ k ih =>
    intro src dst sl sl' tr h g r s hg
    simp only [shiftLoop] at h
    obtain ⟨⟨e, s0⟩, h0, h⟩ := bind_ok h
    obtain ⟨s1, h1, h⟩ := bind_ok h
    obtain ⟨⟨s2, tr2⟩, h2, h⟩ := bind_ok h
    cases h
    obtain ⟨a1, a2⟩ := moveOut_inv h0
    obtain ⟨b1, b2⟩ := assign_inv h1
    have := ih (src + 1) (dst + 1) s1 s2 tr2 h2 g r s (by rw [hg, b2, a2])
    simp only [glob, List.map_cons, replayG, Bool.false_eq_true, if_false]
    rw [replay_mv (by rw [hg]; exact a1)]
    simp only [Option.bind]
    rw [replay_asg (by rw [hg, ← a2]; exact b1)]
    exact this

theorem moveLoop_replay (trk : Bool) : ∀ (k pos : Nat) (d src d' s' : Slots) (tr : Tr),
    moveLoop trk k pos d src = .ok (d', s', tr) →
    ∀ (g : GOcc) (r s : Nat), r ≠ s → g r = occOf d → g s = occOf src →
      replayG (glob r s tr) g = some (setG (setG g s (occOf s')) r (occOf d')) := by
  intro k
  induction k with
  | zero =>
    intro pos d src d' s' tr h g r s hne hg hs
    simp only [moveLoop] at h; cases h
    simp [glob, replayG, ← hg, ← hs, setG_self]
  | succ k ih =>
    intro pos d src d' s' tr h g r s hne hg hs
    simp only [moveLoop] at h
    obtain ⟨⟨e, s0⟩, h0, h⟩ := bind_ok h
    obtain ⟨d1, h1, h⟩ := bind_ok h
    obtain ⟨⟨d2, s2, tr2⟩, h2, h⟩ := bind_ok h
    cases h
    obtain ⟨a1, a2⟩ := moveOut_inv h0
    have hne' : s ≠ r := fun e => hne e.symm
    have := ih (pos + 1) d1 s0 d2 s2 tr2 h2 (setG g r (occOf d1)) r s hne
      (by simp) (by rw [setG_get_ne _ _ hne', hs, a2])
    simp only [glob, List.map_cons, replayG, if_true, Bool.false_eq_true, if_false]
    rw [replay_mv (by rw [hs]; exact a1)]
    simp only [Option.bind]
    rw [construct_replay h1 hg]
    refine this.trans ?_
    rw [setG_comm _ hne, setG_setG, setG_comm _ hne']

/-- the events `tr` of a member function that takes `v` to `v'` pass the ledger, whatever register `r` holds the object -/
def UReplay (v v' : SVec) (tr : Tr) : Prop :=
  ∀ (g : GOcc) (r s : Nat), g r = occOf v.slots → replayG (glob r s tr) g = some (setG g r (occOf v'.slots))

theorem glob_append (r s : Nat) (a b : Tr) : glob r s (a ++ b) = glob r s a ++ glob r s b := by simp [glob]

theorem glob_flip (r s : Nat) (t : Tr) : glob r s (t.map Ev.flip) = glob s r t := by
  simp only [glob, List.map_map]
  apply List.map_congr_left
  intro e _
  cases h : e.other <;> simp [Ev.flip, h]

theorem ureplay_trans {a b c : SVec} {t1 t2 : Tr} (h1 : UReplay a b t1) (h2 : UReplay b c t2) : UReplay a c (t1 ++ t2) := by
  intro g r s hg
  rw [glob_append, replayG_append, h1 g r s hg]
  simp only [Option.bind]
  rw [h2 _ r s (by simp), setG_setG]

theorem ureplay_nil (v : SVec) : UReplay v v [] := by
  intro g r s hg
  simp [glob, replayG, ← hg, setG_self]

theorem clear_replay {v v' : SVec} {tr : Tr} (h : clear v = .ok (v', tr)) : UReplay v v' tr := by
  simp only [clear] at h
  obtain ⟨⟨s1, tr1⟩, h1, h⟩ := bind_ok h
  cases h
  exact destroyLoop_replay _ _ _ _ _ h1

theorem destructor_replay {v v' : SVec} {tr : Tr} (h : destructor v = .ok (v', tr)) : UReplay v v' tr :=
  clear_replay h

theorem ctor_event_replay {v : SVec} {s1 : Slots} {x : Elem} (h1 : construct v.slots v.size x = .ok s1) (sz : Nat) :
    UReplay v ⟨s1, sz⟩ [⟨false, .ctor, v.size⟩] := by
  intro g r s hg
  simp only [glob, List.map_cons, List.map_nil, replayG, Bool.false_eq_true, if_false]
  rw [construct_replay h1 hg]
  rfl

theorem pushBack_replay {N : Nat} {v v' : SVec} {x : Nat} {tr : Tr} (h : pushBack N v x = .ok (v', tr)) : UReplay v v' tr := by
  unfold pushBack at h
  split at h
  · cases h; exact ureplay_nil v
  · obtain ⟨s1, h1, h⟩ := bind_ok h
    cases h
    exact ctor_event_replay h1 _

theorem rangeLoop_replay (N : Nat) : ∀ (xs : List Nat) (v v' : SVec) (tr : Tr), rangeLoop N xs v = .ok (v', tr) → UReplay v v' tr := by
  intro xs
  induction xs with
  | nil => intro v v' tr h; simp only [rangeLoop] at h; cases h; exact ureplay_nil v
  | cons x xs ih =>
    intro v v' tr h
    simp only [rangeLoop] at h
    obtain ⟨⟨v1, t1⟩, h1, h⟩ := bind_ok h
    obtain ⟨⟨v2, t2⟩, h2, h⟩ := bind_ok h
    cases h
    exact ureplay_trans (pushBack_replay h1) (ih _ _ _ h2)

theorem ilLoop_replay (N : Nat) (xs : List Nat) (v v' : SVec) (tr : Tr) (h : ilLoop N xs v = .ok (v', tr)) :
    UReplay v v' tr :=
  rangeLoop_replay N xs v v' tr (ilLoop_eq_rangeLoop N xs v ▸ h)

theorem resize_replay {N : Nat} {v v' : SVec} {n : Nat} {tr : Tr} (h : resize N v n = .ok (v', tr)) : UReplay v v' tr := by
  simp only [resize] at h
  obtain ⟨⟨s1, t1⟩, h1, h⟩ := bind_ok h
  obtain ⟨⟨s2, t2⟩, h2, h⟩ := bind_ok h
  cases h
  have a : UReplay v ⟨s1, v.size⟩ t1 := valueInitLoop_replay _ _ _ _ _ h1
  have b : UReplay ⟨s1, v.size⟩ ⟨s2, if n ≥ N then N else n⟩ t2 := destroyLoop_replay _ _ _ _ _ h2
  exact ureplay_trans a b

theorem erase_replay {trk : Bool} {v v' : SVec} {i j : Nat} {tr : Tr} (h : erase trk v i j = .ok (v', tr)) : UReplay v v' tr := by
  unfold erase at h
  split at h
  · cases h; exact ureplay_nil v
  · obtain ⟨⟨s1, t1⟩, h1, h⟩ := bind_ok h
    obtain ⟨⟨s2, t2⟩, h2, h⟩ := bind_ok h
    cases h
    have a : UReplay v ⟨s1, v.size⟩ t1 := shiftLoop_replay trk _ _ _ _ _ _ h1
    have b : UReplay ⟨s1, v.size⟩ ⟨s2, v.size - (j - i)⟩ t2 := destroyLoop_replay _ _ _ _ _ h2
    exact ureplay_trans a b

theorem copyCtor_replay {N : Nat} {o v' : SVec} {tr : Tr} (h : copyCtor N o = .ok (v', tr)) :
    UReplay ⟨rawStore N, 0⟩ v' tr := by
  simp only [copyCtor] at h
  obtain ⟨⟨s1, t1⟩, h1, h⟩ := bind_ok h
  cases h
  exact copyLoop_replay _ _ _ _ _ _ h1

theorem assignCopy_replay {v o v' : SVec} {tr : Tr} (h : assignCopy v o = .ok (v', tr)) : UReplay v v' tr := by
  simp only [assignCopy] at h
  obtain ⟨⟨v1, t1⟩, h1, h⟩ := bind_ok h
  obtain ⟨⟨s2, t2⟩, h2, h⟩ := bind_ok h
  cases h
  have b : UReplay v1 ⟨s2, o.size⟩ t2 := copyLoop_replay _ _ _ _ _ _ h2
  exact ureplay_trans (clear_replay h1) b

def occO : Option SVec → (Nat → Bool)
  | some u => occOf u.slots
  | none => fun _ => false

/-- a member function of the object in register `r` (`a` before the call, `w` after it; `none`: no object) that also
    changes its argument `o` (register s ≠ r) -/
def BReplay (a : Option SVec) (o : SVec) (w : Option SVec) (o' : SVec) (tr : Tr) : Prop :=
  ∀ (g : GOcc) (r s : Nat), r ≠ s → g r = occO a → g s = occOf o.slots →
    replayG (glob r s tr) g = some (setG (setG g s (occOf o'.slots)) r (occO w))

theorem breplay_of_u_left {v v1 o : SVec} {t : Tr} (h : UReplay v v1 t) : BReplay v o v1 o t := by
  intro g r s hne hg hs
  rw [h g r s hg, ← hs, setG_self]
  rfl

theorem breplay_of_u_right {a : Option SVec} {o o1 : SVec} {t : Tr} (h : UReplay o o1 t) : BReplay a o a o1 (t.map Ev.flip) := by
  intro g r s hne hg hs
  rw [glob_flip, h g s r hs, ← hg]
  congr 1
  have hne' : r ≠ s := hne
  funext q
  simp only [setG]
  by_cases h1 : q = r
  · subst h1; simp [hne']
  · simp [h1]

theorem breplay_trans {a a1 a2 : Option SVec} {b b1 b2 : SVec} {t1 t2 : Tr} (h1 : BReplay a b a1 b1 t1) (h2 : BReplay a1 b1 a2 b2 t2) :
    BReplay a b a2 b2 (t1 ++ t2) := by
  intro g r s hne hg hs
  have hne' : s ≠ r := fun e => hne e.symm
  rw [glob_append, replayG_append, h1 g r s hne hg hs]
  simp only [Option.bind]
  rw [h2 _ r s hne (by simp) (by rw [setG_get_ne _ _ hne']; simp)]
  congr 1
  funext q
  simp only [setG]
  by_cases h1 : q = r <;> by_cases h2 : q = s <;> simp [h1, h2]

theorem breplay_fresh {N n : Nat} {w : Option SVec} {o o' : SVec} {tr : Tr} (h : BReplay (some ⟨rawStore N, n⟩) o w o' tr) :
    BReplay none o w o' tr :=
  fun g r s hne hg hs => h g r s hne (by rw [hg]; exact (occOf_rawStore N).symm) hs

theorem moveCtor_replay {port trk : Bool} {N : Nat} {o v' o' : SVec} {tr : Tr}
    (h : moveCtor port trk N o = .ok (v', o', tr)) : BReplay none o v' o' tr := by
  simp only [moveCtor] at h
  obtain ⟨⟨d1, s1, t1⟩, h1, h⟩ := bind_ok h
  have a : BReplay (some ⟨rawStore N, 0⟩) o (some ⟨d1, o.size⟩) ⟨s1, o.size⟩ t1 := moveLoop_replay trk _ _ _ _ _ _ _ h1
  cases port
  · simp only [Bool.false_eq_true, if_false] at h
    obtain ⟨⟨o2, t2⟩, h2, h⟩ := bind_ok h
    cases h
    exact breplay_fresh (breplay_trans a (breplay_of_u_right (clear_replay h2)))
  · simp only [if_true] at h
    cases h
    exact breplay_fresh a

theorem assignMove_replay {trk : Bool} {v o v' o' : SVec} {tr : Tr}
    (h : assignMove trk v o = .ok (v', o', tr)) : BReplay v o v' o' tr := by
  simp only [assignMove] at h
  obtain ⟨⟨v1, t1⟩, h1, h⟩ := bind_ok h
  obtain ⟨⟨d2, s2, t2⟩, h2, h⟩ := bind_ok h
  obtain ⟨⟨o3, t3⟩, h3, h⟩ := bind_ok h
  cases h
  have a : BReplay v o v1 o t1 := breplay_of_u_left (clear_replay h1)
  have b : BReplay v1 o (some ⟨d2, o.size⟩) ⟨s2, o.size⟩ t2 := moveLoop_replay trk _ _ _ _ _ _ _ h2
  have c : BReplay (some ⟨d2, o.size⟩) ⟨s2, o.size⟩ (some ⟨d2, o.size⟩) o3 (t3.map Ev.flip) :=
    breplay_of_u_right (clear_replay h3)
  exact breplay_trans (breplay_trans a b) c

def occR (regs : Nat → Option SVec) : GOcc := fun r =>
  match regs r with
  | some v => occOf v.slots
  | none => fun _ => false

theorem occR_set_opt (f : Nat → Option SVec) (r : Nat) (w : Option SVec) :
    occR (setReg f r w) = setG (occR f) r (occO w) := by
  funext q; by_cases hq : q = r <;> cases w <;> simp [occR, occO, setReg, setG, hq]

theorem occR_set_some (f : Nat → Option SVec) (r : Nat) (v : SVec) :
    occR (setReg f r (some v)) = setG (occR f) r (occOf v.slots) :=
  occR_set_opt f r (some v)

theorem occR_set_none (f : Nat → Option SVec) (r : Nat) :
    occR (setReg f r none) = setG (occR f) r (fun _ => false) :=
  occR_set_opt f r none

theorem occR_of {f : Nat → Option SVec} {r : Nat} {a : Option SVec} (h : f r = a) : occR f r = occO a := by
  subst h; cases hq : f r <;> simp [occR, occO, hq]

theorem occR_some {f : Nat → Option SVec} {r : Nat} {v : SVec} (h : f r = some v) : occR f r = occOf v.slots :=
  occR_of h
theorem occR_none {f : Nat → Option SVec} {r : Nat} (h : f r = none) : occR f r = fun _ => false :=
  occR_of h

theorem occR_init : occR Mach.init.regs = fun _ _ => false := rfl

theorem occR_empty {regs : Nat → Option SVec} (h : ∀ r, regs r = none) : occR regs = fun _ _ => false := by
  funext r; simp [occR, h r]

/-- `UReplay` for a call that may create or end the object of its register (`none`: the register holds no object) -/
def OReplay (a w : Option SVec) (tr : Tr) : Prop :=
  ∀ (g : GOcc) (r s : Nat), g r = occO a → replayG (glob r s tr) g = some (setG g r (occO w))

theorem oreplay_fresh {N : Nat} {v' : SVec} {tr : Tr} (h : UReplay ⟨rawStore N, 0⟩ v' tr) : OReplay none (some v') tr :=
  fun g r s hg => h g r s (by rw [hg, occOf_rawStore]; rfl)

def StepReplay (m m' : Mach) (res : Res) : Prop :=
  match res with
  | none => m' = m
  | some evs => replayG evs (occR m.regs) = some (occR m'.regs)

theorem stepReplay_append {m m1 m' : Mach} {res : Res} {evs : List GEv} (hr : StepReplay m m1 res)
    (h : replayG evs (occR m1.regs) = some (occR m'.regs)) :
    replayG (res.getD [] ++ evs) (occR m.regs) = some (occR m'.regs) := by
  cases res with
  | none =>
    have e : m1 = m := hr
    rw [← e]; exact h
  | some ev =>
    have e : replayG ev (occR m.regs) = some (occR m1.regs) := hr
    rw [Option.getD_some, replayG_append, e]; exact h

theorem replay_set1 {m : Mach} {r : Nat} {a w : Option SVec} {tr : Tr} (s : Nat) (hm : m.regs r = a)
    (h : OReplay a w tr) : StepReplay m (m.log (setReg m.regs r w) (glob r s tr)).1 (some (glob r s tr)) := by
  simp only [StepReplay, Mach.log]
  rw [h (occR m.regs) r s (occR_of hm), occR_set_opt]

theorem replay_set2 {m : Mach} {r s : Nat} (hne : r ≠ s) {a w : Option SVec} {o o' : SVec} {tr : Tr}
    (hm : m.regs r = a) (hs : m.regs s = some o) (h : BReplay a o w o' tr) :
    StepReplay m (m.log (setReg (setReg m.regs s (some o')) r w) (glob r s tr)).1 (some (glob r s tr)) := by
  simp only [StepReplay, Mach.log]
  rw [h (occR m.regs) r s hne (occR_of hm) (occR_some hs), occR_set_opt, occR_set_some]

theorem destructor_all_dead {N : Nat} {v v' : SVec} {es : List Elem} {tr : Tr} (ha : Abs N v es)
    (h : destructor v = .ok (v', tr)) : occOf v'.slots = fun _ => false := by
  obtain ⟨v2, tr2, h2, h3, _⟩ := destructor_spec ha
  rw [h] at h2; cases h2
  rw [(abs_nil_rawStore h3).1, occOf_rawStore]

theorem finishLoop_sim {c : Cfg} : ∀ (k : Nat) (m : Mach) (sp : SpecRegs) (acc : List GEv), MInv c m sp → k ≤ c.K →
    ∃ m' ev, finishLoop k m acc = .ok (m', acc ++ ev) ∧ MInv c m' (specFinish k sp) ∧
      replayG ev (occR m.regs) = some (occR m'.regs) := by
  intro k
  induction k with
  | zero =>
    intro m sp acc h _
    have e : specFinish 0 sp = sp := by funext q; simp [specFinish]
    exact ⟨m, [], by simp [finishLoop], by rw [e]; exact h, rfl⟩
  | succ k ih =>
    intro m sp acc h hk
    rw [specFinish_succ]
    cases hm : m.regs k with
    | none =>
      have hs : sp k = none := (rel_none (h.rel k)).mp hm
      have e : setSpec sp k none = sp := by
        funext q; by_cases hq : q = k
        · rw [hq, hs]; simp [setSpec]
        · simp [setSpec, hq]
      obtain ⟨m', ev, h1, h2, h3⟩ := ih m sp acc h (by omega)
      exact ⟨m', ev, by simp [finishLoop, hm, h1], by rw [e]; exact h2, h3⟩
    | some v =>
      obtain ⟨es, hs, ha⟩ := rel_some (hm ▸ h.rel k)
      obtain ⟨v', tr, p1, p2, p3, p4⟩ := destructor_spec ha
      have hinv := minv_set1 h (show k < c.K by omega) (es' := none) k tr (v' := none) trivial
        (by simp only [szOf_set_none, szOf_of hs]; omega)
      obtain ⟨m', ev, h1, h2, h3⟩ := ih _ _ (acc ++ glob k k tr) hinv (by omega)
      refine ⟨m', glob k k tr ++ ev, by simpa [finishLoop, hm, p1, bind, Except.bind, Mach.log] using h1, h2, ?_⟩
      rw [replayG_append, destructor_replay p1 (occR m.regs) k k (occR_some hm)]
      simp only [Option.bind]
      rw [destructor_all_dead ha p1, ← occR_set_none]
      simpa [Mach.log] using h3

theorem step_sim {c : Cfg} {m : Mach} {sp : SpecRegs} (h : MInv c m sp) (op : Op) :
    ∃ mr : Mach × Res, step c m op = .ok mr ∧ MInv c mr.1 (specStep c sp op) ∧ StepReplay m mr.1 mr.2 := by
  have hR := regRel_V c.N
  have skip : ∃ mr : Mach × Res, Except.ok (ε := Fault) (m, none) = .ok mr ∧ MInv c mr.1 sp ∧ StepReplay m mr.1 mr.2 :=
    ⟨_, rfl, h, rfl⟩
  cases op <;> simp only [step, specStep, ilCtor_eq_rangeCtor]
  case push r x | emplace r x =>
    refine lookG hR (m.regs r) (sp r) (h.rel r) (fun hk v es hm hs ha => ?_) (fun _ _ _ => skip) (fun _ => skip)
    obtain ⟨v', tr, p1, p2, p3, p4⟩ := pushBack_spec ha x
    exact ⟨_, by simp only [emplaceBack_eq, p1]; rfl, minv_set1 h hk r tr (v' := some v') (es' := some _) p2
      (by rw [szOf_set_self, szOf_some hs]; omega), replay_set1 r hm (w := some v') (pushBack_replay p1)⟩
  case resize r n =>
    refine lookG hR (m.regs r) (sp r) (h.rel r) (fun hk v es hm hs ha => ?_) (fun _ _ _ => skip) (fun _ => skip)
    obtain ⟨v', tr, p1, p2, p3, p4⟩ := resize_spec ha n
    exact ⟨_, by simp only [p1]; rfl, minv_set1 h hk r tr (v' := some v') (es' := some _) p2
      (by rw [szOf_set_self, szOf_some hs, specResize_length]; omega),
      replay_set1 r hm (w := some v') (resize_replay p1)⟩
  case clear r =>
    refine lookG hR (m.regs r) (sp r) (h.rel r) (fun hk v es hm hs ha => ?_) (fun _ _ _ => skip) (fun _ => skip)
    obtain ⟨v', tr, p1, p2, p3, p4⟩ := clear_spec ha
    exact ⟨_, by simp only [p1]; rfl, minv_set1 h hk r tr (v' := some v') (es' := some []) p2
      (by rw [szOf_set_self, szOf_some hs, p3, p4]; simp), replay_set1 r hm (w := some v') (clear_replay p1)⟩
  case del r =>
    refine lookG hR (m.regs r) (sp r) (h.rel r) (fun hk v es hm hs ha => ?_) (fun _ _ _ => skip) (fun _ => skip)
    obtain ⟨v', tr, p1, p2, p3, p4⟩ := destructor_spec ha
    exact ⟨_, by simp only [p1]; rfl, minv_set1 h hk r tr (v' := none) (es' := none) trivial
      (by rw [szOf_set_none, szOf_some hs, p3, p4]; omega),
      replay_set1 r hm (w := none) fun g r s hg => by
        rw [destructor_replay p1 g r s hg, destructor_all_dead ha p1]; rfl⟩
  case erase r i j =>
    refine lookG hR (m.regs r) (sp r) (h.rel r) (fun hk v es hm hs ha => ?_) (fun _ _ _ => skip) (fun _ => skip)
    simp only [ha.size]
    by_cases hij : i ≤ j ∧ j ≤ es.length
    · obtain ⟨v', tr, p1, p2, p3, p4⟩ := erase_spec c.trk ha hij.1 hij.2
      rw [if_pos hij, if_pos hij]
      exact ⟨_, by rw [p1]; rfl, minv_set1 h hk.1 r tr (v' := some v') (es' := some _) p2
        (by rw [szOf_set_self, szOf_some hs]; omega), replay_set1 r hm (w := some v') (erase_replay p1)⟩
    · rw [if_neg hij, if_neg hij]; exact skip
  case new r =>
    refine lookG hR (m.regs r) (sp r) (h.rel r) (fun _ _ _ _ _ _ => skip) (fun hk hm hs => ?_) (fun _ => skip)
    exact ⟨_, rfl, minv_set1 h hk r [] (v' := some (defaultCtor c.N).1) (es' := some []) (abs_fresh c.N)
      (by rw [szOf_set_self, szOf_none hs]; rfl), replay_set1 r hm (oreplay_fresh (ureplay_nil _))⟩
  case range r xs | il r xs =>
    refine lookG hR (m.regs r) (sp r) (h.rel r) (fun _ _ _ _ _ _ => skip) (fun hk hm hs => ?_) (fun _ => skip)
    obtain ⟨v', tr, p1, p2, p3, p4⟩ := rangeCtor_spec c.N xs
    exact ⟨_, by simp only [p1]; rfl, minv_set1 h hk.1 r tr (v' := some v') (es' := some _) p2
      (by rw [szOf_set_self, szOf_none hs]; omega), replay_set1 r hm (oreplay_fresh (rangeLoop_replay c.N xs _ _ _ p1))⟩
  case copy r s =>
    refine lookG hR (m.regs r) (sp r) (h.rel r) (fun _ _ _ _ _ _ => skip) (fun hk hm hs => ?_) (fun _ => skip)
    refine look0 hR (m.regs s) (sp s) (h.rel s) (fun o eo _ _ ho => ?_) (fun _ _ => skip)
    obtain ⟨v', tr, p1, p2, p3, p4⟩ := copyCtor_spec ho
    exact ⟨_, by simp only [p1]; rfl, minv_set1 h hk.1 s tr (v' := some v') (es' := some _) p2
      (by rw [szOf_set_self, szOf_none hs]; omega), replay_set1 s hm (oreplay_fresh (copyCtor_replay p1))⟩
  case move r s =>
    refine lookG hR (m.regs r) (sp r) (h.rel r) (fun _ _ _ _ _ _ => skip) (fun hk hm hs => ?_) (fun _ => skip)
    refine look0 hR (m.regs s) (sp s) (h.rel s) (fun o eo hm2 hs2 ho => ?_) (fun _ _ => skip)
    have hne : r ≠ s := by intro e; subst e; rw [hm] at hm2; cases hm2
    obtain ⟨v', o', tr, p1, p2, p3, p4, p5⟩ := moveCtor_spec c.port c.trk ho
    exact ⟨_, by simp only [p1]; rfl, minv_set2 h hk.1 hk.2 hne (er' := some eo) (es' := some _) tr
      (v' := some v') (o' := some o') p2 p3
      (by simp only [szOf_set_self, szOf_none hs, szOf_some hs2, p4, p5]; split <;> simp),
      replay_set2 hne hm hm2 (moveCtor_replay p1)⟩
  case acopy r s =>
    refine lookG hR (m.regs r) (sp r) (h.rel r) (fun hk v es hm hs hv => ?_) (fun _ _ _ => skip) (fun _ => skip)
    refine look0 hR (m.regs s) (sp s) (h.rel s) (fun o eo _ hs2 ho => ?_) (fun _ _ => skip)
    simp only []
    by_cases hrs : r = s
    · subst hrs
      rw [if_pos rfl]
      have e : setSpec sp r (some eo) = sp := by
        funext q; by_cases hq : q = r
        · subst hq; simp [setSpec, hs2]
        · simp [setSpec, hq]
      exact ⟨_, rfl, by rw [e]; exact minv_same h, rfl⟩
    · obtain ⟨v', tr, p1, p2, p3, p4⟩ := assignCopy_spec hv ho
      rw [if_neg hrs]
      exact ⟨_, by rw [p1]; rfl, minv_set1 h hk.1 s tr (v' := some v') (es' := some eo) p2
        (by rw [szOf_set_self, szOf_some hs]; omega), replay_set1 s hm (w := some v') (assignCopy_replay p1)⟩
  case amove r s =>
    refine lookG hR (m.regs r) (sp r) (h.rel r) (fun hk v es hm hs hv => ?_) (fun _ _ _ => skip) (fun _ => skip)
    refine look0 hR (m.regs s) (sp s) (h.rel s) (fun o eo hm2 hs2 ho => ?_) (fun _ _ => skip)
    simp only []
    by_cases hrs : r = s
    · rw [if_pos hrs, if_pos hrs]; exact ⟨_, rfl, minv_same h, rfl⟩
    · obtain ⟨v', o', tr, p1, p2, p3, p4, p5⟩ := assignMove_spec c.trk hv ho
      rw [if_neg hrs, if_neg hrs]
      exact ⟨_, by rw [p1]; rfl, minv_set2 h hk.1 hk.2 hrs (er' := some eo) (es' := some []) tr
        (v' := some v') (o' := some o') p2 p3
        (by simp only [szOf_set_self, szOf_some hs, szOf_some hs2, p4, p5]; simp; omega),
        replay_set2 hrs hm hm2 (w := some v') (assignMove_replay p1)⟩
  case finish =>
    obtain ⟨m', ev, h1, h2, h3⟩ := finishLoop_sim c.K m sp [] h (Nat.le_refl _)
    refine ⟨(m', some ev), by simp [h1, bind, Except.bind, pure, Except.pure], ?_, h3⟩
    have e : (fun _ => none) = specFinish c.K sp := by
      funext q
      simp only [specFinish]
      by_cases hq : q < c.K
      · rw [if_pos hq]
      · rw [if_neg hq, h.out q (by omega)]
    rw [e]; exact h2

theorem step_refines {c : Cfg} {m : Mach} {sp : SpecRegs} (h : MInv c m sp) (op : Op) :
    ∃ mr : Mach × Res, step c m op = .ok mr ∧ MInv c mr.1 (specStep c sp op) := by
  obtain ⟨mr, h1, h2, _⟩ := step_sim h op
  exact ⟨mr, h1, h2⟩

/-- all lifetime events of a history, in order (what the driver prints op by op) -/
def runEv (c : Cfg) : List Op → Mach → Except Fault (Mach × List GEv)
  | [], m => .ok (m, [])
  | op :: ops, m => do
      let (m', res) ← step c m op
      let (m'', evs) ← runEv c ops m'
      pure (m'', res.getD [] ++ evs)

theorem runEv_replays {c : Cfg} : ∀ (ops : List Op) (m : Mach) (sp : SpecRegs), MInv c m sp →
    ∃ m' evs, runEv c ops m = .ok (m', evs) ∧ run c ops m = .ok m' ∧ MInv c m' (specRun c ops sp) ∧
      replayG evs (occR m.regs) = some (occR m'.regs) := by
  intro ops
  induction ops with
  | nil => intro m sp h; exact ⟨m, [], rfl, rfl, h, rfl⟩
  | cons op ops ih =>
    intro m sp h
    obtain ⟨mr, h1, h2, hr⟩ := step_sim h op
    obtain ⟨m', evs, g1, g0, g2, g3⟩ := ih mr.1 _ h2
    exact ⟨m', mr.2.getD [] ++ evs, by simp [runEv, h1, g1, bind, Except.bind, pure, Except.pure],
      by simp [run, h1, g0, bind, Except.bind], g2, stepReplay_append hr g3⟩

theorem run_refines {c : Cfg} : ∀ (ops : List Op) (m : Mach) (sp : SpecRegs), MInv c m sp →
    ∃ m', run c ops m = .ok m' ∧ MInv c m' (specRun c ops sp) := by
  intro ops m sp h
  obtain ⟨m', _, _, h1, h2, _⟩ := runEv_replays ops m sp h
  exact ⟨m', h1, h2⟩

end Igris.C14
