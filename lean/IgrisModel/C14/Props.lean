/-
  C14 — property theorems.

  "static_vector<T,N>, static_string<N> and their std_portable twins never hold
   more than N elements and never write outside their inline storage, whatever
   is pushed, emplaced, resized to, or passed to a constructor (iterator range,
   initializer list, C string, another container).  Within capacity they expose
   exactly the contents of a reference sequence, excess input is dropped
   keeping the prefix, and every element constructed is destroyed exactly once
   across erase, clear, assignment and destruction."

  The model (`Model.lean`) is the code after the eight `fix:` commits of branch
  fix-C14; the bodies as they were are kept as `…Orig` and refuted by the
  `…_orig_witness` theorems below, except `uCtorXOrig` and `uResizeXOrig` of
  `Model3b.lean`, for which no witness is stated (the second only calls
  `uCreateXOrig`, which has one).  All theorems hold for EVERY capacity `N`
  (including the degenerate N = 0), every number of objects K, both twins
  (`port`), both element kinds (`trk`), every history and every argument.

  A *fault* of the model is: an access at an index ≥ the
  storage length (`oob` — a write outside `_data`), a placement-new over a live
  element (`ctorOverLive` — that element is never destroyed), a destructor call
  on raw storage (`dtorRaw` — double destruction), a read/assignment/move of
  raw storage (`useRaw`).  "No fault on any history" is therefore the memory-
  and lifetime-safety clause; `nctor`/`ndtor` count the constructor and
  destructor calls.
-/
import IgrisModel.C14.Lemmas
import IgrisModel.C14.Ledger
import IgrisModel.C14.MachX
import IgrisModel.C14.Access
import IgrisModel.C14.Width
import IgrisModel.C14.Lemmas3
import IgrisModel.C14.LedgerX
import IgrisModel.C14.Lemmas3b

namespace Igris.C14
open Igris.Proto

/-! ## static_vector: every history refines K reference sequences -/

/-- ONE operation (any of the 14, any arguments, in or outside the contract) from
    any state that represents reference sequences: no fault, and the new state
    represents the reference result. -/
theorem sv_step_refines {c : Cfg} {m : Mach} {sp : SpecRegs} (h : MInv c m sp) (op : Op) :
    ∃ mr : Mach × Res, step c m op = .ok mr ∧ MInv c mr.1 (specStep c sp op) :=
  step_refines h op

/-- EVERY history of operations on K objects, starting with no object: the run
    ends without a fault and the final state represents what the reference
    machine (K lists, `specStep`) computes. -/
theorem sv_history_refines (c : Cfg) (ops : List Op) :
    ∃ m, run c ops Mach.init = .ok m ∧ MInv c m (specRun c ops (fun _ => none)) :=
  run_refines ops _ _ (minv_init c)

/-- never a write outside the storage, never a constructor over a live element,
    never a second destructor call, never a use of raw storage — on any history -/
theorem sv_no_fault (c : Cfg) (ops : List Op) (f : Fault) : run c ops Mach.init ≠ .error f := by
  obtain ⟨m, h, _⟩ := sv_history_refines c ops
  rw [h]; intro e; cases e

/-- after any history every object holds at most N elements in a storage of
    exactly N slots, `size()`/`room()`/the element sequence are the reference's,
    the slots `[0,size)` hold objects and the slots `[size,N)` are raw. -/
theorem sv_size_le_N_and_contents (c : Cfg) (ops : List Op) :
    ∃ m, run c ops Mach.init = .ok m ∧ ∀ r v, m.regs r = some v →
      ∃ es, specRun c ops (fun _ => none) r = some es ∧
        v.size ≤ c.N ∧ v.slots.length = c.N ∧ v.size = es.length ∧ v.contents = es ∧
        v.room c.N = c.N - es.length ∧
        (∀ p, p < v.size → ∃ e, v.slots[p]? = some (.obj e)) ∧
        (∀ p, v.size ≤ p → p < c.N → v.slots[p]? = some .raw) := by
  obtain ⟨m, h, hi⟩ := sv_history_refines c ops
  refine ⟨m, h, fun r v hv => ?_⟩
  obtain ⟨es, hs, hr⟩ := rel_some (hv ▸ hi.rel r)
  obtain ⟨l1, l2, l3, l4⟩ := abs_layout hr
  exact ⟨es, hs, l1, l2, hr.size, hr.contents, by simp [SVec.room, hr.size], l3, l4⟩

theorem sv_objects_agree (c : Cfg) (ops : List Op) :
    ∃ m, run c ops Mach.init = .ok m ∧ ∀ r, (m.regs r).isSome = (specRun c ops (fun _ => none) r).isSome := by
  obtain ⟨m, h, hi⟩ := sv_history_refines c ops
  refine ⟨m, h, fun r => ?_⟩
  have := hi.rel r
  cases h1 : m.regs r <;> cases h2 : specRun c ops (fun _ => none) r <;> simp_all [Rel]

/-! ### excess input is dropped, the prefix is kept -/

/-- iterator-range constructor with an argument of ANY length -/
theorem range_ctor_keeps_prefix (N : Nat) (xs : List Nat) :
    ∃ v tr, rangeCtor N xs = .ok (v, tr) ∧ v.contents = (xs.take N).map some ∧ v.size = min xs.length N ∧
      nC tr = min xs.length N ∧ nD tr = 0 := by
  obtain ⟨v, tr, h1, h2, h3, h4⟩ := rangeCtor_spec N xs
  refine ⟨v, tr, h1, h2.contents, ?_, ?_, h4⟩
  · rw [h2.size]; simp [specCtor, Nat.min_comm]
  · rw [h3]; simp [specCtor, Nat.min_comm]

/-- initializer-list constructor with an argument of ANY length (this is the
    constructor that smashed the stack before the repair) -/
theorem il_ctor_keeps_prefix (N : Nat) (xs : List Nat) :
    ∃ v tr, ilCtor N xs = .ok (v, tr) ∧ v.contents = (xs.take N).map some ∧ v.size = min xs.length N ∧
      nC tr = min xs.length N ∧ nD tr = 0 :=
  ilCtor_eq_rangeCtor N xs ▸ range_ctor_keeps_prefix N xs

theorem spec_push_all_keeps_prefix (N : Nat) : ∀ (xs : List Nat) (es : List Elem), es.length ≤ N →
    xs.foldl (specPush N) es = es ++ (xs.take (N - es.length)).map some := by
  intro xs es _
  exact foldl_specPush N xs es

/-- copies are exact: the copy constructor reproduces the source, the copy
    assignment replaces the old contents (destroying every old element once) -/
theorem copy_is_exact {N : Nat} {v o : SVec} {es eo : List Elem} (hv : Abs N v es) (ho : Abs N o eo) :
    (∃ w tr, copyCtor N o = .ok (w, tr) ∧ w.contents = eo ∧ nC tr = eo.length ∧ nD tr = 0) ∧
    (∃ w tr, assignCopy v o = .ok (w, tr) ∧ w.contents = eo ∧ nC tr = eo.length ∧ nD tr = es.length) := by
  obtain ⟨w, tr, h1, h2, h3, h4⟩ := copyCtor_spec ho
  obtain ⟨w', tr', g1, g2, g3, g4⟩ := assignCopy_spec hv ho
  exact ⟨⟨w, tr, h1, h2.contents, h3, h4⟩, ⟨w', tr', g1, g2.contents, g3, g4⟩⟩

/-- moves: the destination gets the source's elements; the source is left empty
    with every moved-from element destroyed (container/ twin, and both twins for
    assignment) or keeps its N' moved-from elements as live objects
    (std_portable.h move constructor) — in both cases nothing is lost -/
theorem move_is_exact (port trk : Bool) {N : Nat} {v o : SVec} {es eo : List Elem} (hv : Abs N v es) (ho : Abs N o eo) :
    (∃ w o' tr, moveCtor port trk N o = .ok (w, o', tr) ∧ w.contents = eo ∧
        o'.contents = (if port then movedFrom trk eo else []) ∧
        nC tr = eo.length ∧ nD tr = (if port then 0 else eo.length)) ∧
    (∃ w o' tr, assignMove trk v o = .ok (w, o', tr) ∧ w.contents = eo ∧ o'.contents = [] ∧
        nC tr = eo.length ∧ nD tr = es.length + eo.length) := by
  obtain ⟨w, o', tr, h1, h2, h3, h4, h5⟩ := moveCtor_spec port trk ho
  obtain ⟨w', o'', tr', g1, g2, g3, g4, g5⟩ := assignMove_spec trk hv ho
  exact ⟨⟨w, o', tr, h1, h2.contents, h3.contents, h4, h5⟩, ⟨w', o'', tr', g1, g2.contents, g3.contents, g4, g5⟩⟩

/-- erase / resize / clear against the reference sequence, with the exact
    number of destructor and constructor calls -/
theorem erase_resize_clear_exact (trk : Bool) {N : Nat} {v : SVec} {es : List Elem} (h : Abs N v es) :
    (∀ i j, i ≤ j → j ≤ es.length → ∃ w tr, erase trk v i j = .ok (w, tr) ∧
        w.contents = es.take i ++ es.drop j ∧ nC tr = 0 ∧ nD tr = j - i) ∧
    (∀ n, ∃ w tr, resize N v n = .ok (w, tr) ∧ w.contents = specResize N es n ∧ w.size = min n N ∧
        nC tr = min n N - es.length ∧ nD tr = es.length - min n N) ∧
    (∃ w tr, clear v = .ok (w, tr) ∧ w.contents = [] ∧ nC tr = 0 ∧ nD tr = es.length) := by
  refine ⟨?_, ?_, ?_⟩
  · intro i j hij hj
    obtain ⟨w, tr, h1, h2, h3, h4⟩ := erase_spec trk h hij hj
    refine ⟨w, tr, h1, h2.contents, h3, ?_⟩
    simp [specErase] at h4; omega
  · intro n
    obtain ⟨w, tr, h1, h2, h3, h4⟩ := resize_spec h n
    exact ⟨w, tr, h1, h2.contents, by rw [h2.size, specResize_length], h3, h4⟩
  · obtain ⟨w, tr, h1, h2, h3, h4⟩ := clear_spec h
    exact ⟨w, tr, h1, h2.contents, h3, h4⟩

/-! ### every element constructed is destroyed exactly once -/

/-- The destructor destroys exactly the `size` live elements (one destructor
    call each, no constructor call) and leaves N raw slots: nothing survives
    the container, nothing is destroyed twice (that would be a fault). -/
theorem destructor_destroys_all {N : Nat} {v : SVec} {es : List Elem} (h : Abs N v es) :
    ∃ v' tr, destructor v = .ok (v', tr) ∧ v'.slots = rawStore N ∧ v'.size = 0 ∧ nC tr = 0 ∧ nD tr = es.length := by
  obtain ⟨v', tr, h1, h2, h3, h4⟩ := destructor_spec h
  exact ⟨v', tr, h1, (abs_nil_rawStore h2).1, (abs_nil_rawStore h2).2, h3, h4⟩

/-- Ledger balance on EVERY history: constructor calls = destructor calls +
    the number of elements currently held by the K objects.  (Together with
    `sv_no_fault` — no construction over a live element, no destruction of raw
    storage — this is "constructed ⇒ destroyed at most once, and only live
    elements are still owed a destructor".) -/
theorem sv_lifetime_balance (c : Cfg) (ops : List Op) :
    ∃ m, run c ops Mach.init = .ok m ∧
      m.nctor = m.ndtor + total (szOf (specRun c ops (fun _ => none))) c.K := by
  obtain ⟨m, h, hi⟩ := sv_history_refines c ops
  exact ⟨m, h, hi.bal⟩

/-- Any history followed by the destruction of all objects: no fault, no object
    left, and the number of destructor calls equals the number of constructor
    calls — every element constructed anywhere in the history (push, emplace,
    resize, the five constructors, both assignments, erase's shifting) has been
    destroyed exactly once across erase, clear, assignment, resize and
    destruction. -/
theorem sv_lifetime_once (c : Cfg) (ops : List Op) :
    ∃ m, run c (ops ++ [.finish]) Mach.init = .ok m ∧ m.nctor = m.ndtor ∧ ∀ r, m.regs r = none := by
  obtain ⟨m, h, hi⟩ := sv_history_refines c (ops ++ [.finish])
  rw [specRun_append] at hi
  exact ⟨m, h, minv_empty hi⟩

/-- The ledger replayed over the EVENT TRACE.  `replayG` walks a sequence of
    lifetime events keeping the set of live storage locations (object, slot) and
    fails on a constructor event at a live location and on a destructor /
    assignment / move event at a dead one (it is the check the harness's Tracked
    type performs on the real code).  For EVERY history the complete event
    sequence of the run passes it, and the live-set it ends with is exactly the
    set of occupied slots of the final state. -/
theorem sv_trace_passes_ledger (c : Cfg) (ops : List Op) :
    ∃ m evs, runEv c ops Mach.init = .ok (m, evs) ∧ run c ops Mach.init = .ok m ∧
      replayG evs (fun _ _ => false) = some (occR m.regs) := by
  obtain ⟨m, evs, h1, h0, _, h3⟩ := runEv_replays ops _ _ (minv_init c)
  rw [occR_init] at h3
  exact ⟨m, evs, h1, h0, h3⟩

/-- EVERY ELEMENT CONSTRUCTED IS DESTROYED EXACTLY ONCE: for any history followed
    by the destruction of all objects, the event sequence replays from "nothing
    live" to "nothing live" without a failure.  Hence at every storage location
    constructor and destructor events alternate, beginning with a constructor
    and ending with a destructor: each constructor event (each element ever
    created by push, emplace, resize, a constructor, an assignment) is followed
    by exactly one destructor event for it — none is destroyed twice, none is
    overwritten, none survives. -/
theorem sv_every_element_destroyed_exactly_once (c : Cfg) (ops : List Op) :
    ∃ m evs, runEv c (ops ++ [.finish]) Mach.init = .ok (m, evs) ∧
      replayG evs (fun _ _ => false) = some (fun _ _ => false) := by
  obtain ⟨m, evs, h1, _, h2, h3⟩ := runEv_replays (c := c) (ops ++ [.finish]) _ _ (minv_init c)
  rw [specRun_append] at h2
  rw [occR_init, occR_empty (minv_empty h2).2] at h3
  exact ⟨m, evs, h1, h3⟩

/-- the ledger is not vacuous: it rejects a double destruction, a construction
    over a live element, an assignment to raw storage, and reports a leak -/
example : (replayG [⟨0, .ctor, 0⟩, ⟨0, .dtor, 0⟩, ⟨0, .dtor, 0⟩] (fun _ _ => false)).isNone = true := by decide
example : (replayG [⟨0, .ctor, 0⟩, ⟨0, .ctor, 0⟩] (fun _ _ => false)).isNone = true := by decide
example : (replayG [⟨0, .asg, 1⟩] (fun _ _ => false)).isNone = true := by decide
example : ((replayG [⟨0, .ctor, 0⟩, ⟨0, .ctor, 1⟩, ⟨0, .dtor, 0⟩] (fun _ _ => false)).map fun g => g 0 1) = some true := by decide

/-! ### the code as it was: one witness per repaired defect -/

def isFault (f : Fault) : Except Fault Mach → Bool
  | .error g => decide (g = f)
  | .ok _ => false

def cfgC : Cfg := ⟨2, 2, false, true⟩   -- container/ twin, N = 2, two objects, element type with a real move
def cfgP : Cfg := ⟨2, 2, true, true⟩    -- std_portable.h twin

/-- `static_vector<T,2>{1,2,3}`: the third placement-new is outside `_data` -/
theorem il_ctor_orig_witness : isFault .oob (runOrig cfgC [.il 0 [1, 2, 3]] Mach.init) = true := by decide

/-- `clear()` then `push_back`: placement-new over the element that was never destroyed (both twins) -/
theorem clear_orig_witness :
    isFault .ctorOverLive (runOrig cfgC [.new 0, .push 0 5, .clear 0, .push 0 6] Mach.init) = true ∧
    isFault .ctorOverLive (runOrig cfgP [.new 0, .push 0 5, .clear 0, .push 0 6] Mach.init) = true := by decide

/-- `a = b` with `a` non-empty: placement-new over a live element (both twins) -/
theorem assign_copy_orig_witness :
    isFault .ctorOverLive (runOrig cfgC [.new 0, .push 0 1, .new 1, .push 1 2, .acopy 0 1] Mach.init) = true ∧
    isFault .ctorOverLive (runOrig cfgP [.new 0, .push 0 1, .new 1, .push 1 2, .acopy 0 1] Mach.init) = true := by decide

/-- `a = std::move(b)`: over a live element when `a` is non-empty; with `a` empty the
    moved-from elements of `b` stay undestroyed and the next `b.push_back` constructs over one -/
theorem assign_move_orig_witness :
    isFault .ctorOverLive (runOrig cfgC [.new 0, .push 0 1, .new 1, .push 1 2, .amove 0 1] Mach.init) = true ∧
    isFault .ctorOverLive (runOrig cfgP [.new 0, .new 1, .push 1 2, .amove 0 1, .push 1 3] Mach.init) = true := by decide

/-- container/ move constructor: `other.clear()` dropped the moved-from elements -/
theorem move_ctor_orig_witness :
    isFault .ctorOverLive (runOrig cfgC [.new 0, .push 0 1, .move 1 0, .push 0 2] Mach.init) = true := by decide

/-- `erase(begin(), begin()+1)` of two elements: move-assignment into the destroyed slot 0 -/
theorem erase_orig_witness :
    isFault .useRaw (runOrig cfgC [.new 0, .push 0 1, .push 0 2, .erase 0 0 1] Mach.init) = true := by decide

/-- `resize(1)` of two elements then `push_back`: the dropped element is still there -/
theorem resize_orig_witness :
    isFault .ctorOverLive (runOrig cfgC [.new 0, .push 0 1, .push 0 2, .resize 0 1, .push 0 3] Mach.init) = true ∧
    isFault .ctorOverLive (runOrig cfgP [.new 0, .push 0 1, .push 0 2, .resize 0 1, .push 0 3] Mach.init) = true := by decide

/-- the first of these histories on the repaired code: no fault (that none of the seven
    histories faults there is an instance of `sv_no_fault`) -/
example : isFault .oob (run cfgC [.il 0 [1, 2, 3]] Mach.init) = false := by decide


/-! ## element constructors that throw: the basic exception guarantee

`Exc.lean`: every member function that constructs elements, with a failure
possible at each construction (`b` = how many constructions of the call still
succeed; the next one throws).  `stepX c m op b` / `runX` are the machine of K
containers where every operation of a history carries its own throw point. -/

/-- ONE operation with the throw at ANY of its constructions (or none), from any
    state that represents reference sequences: no fault, it throws exactly when
    the reference says so, and the state it leaves represents the reference
    result of the failed call — in particular every container is again a valid
    container (`MInv`: size ≤ N, objects exactly in the slots below size, ledger
    balanced). -/
theorem sx_step_refines {c : Cfg} {m : Mach} {sp : SpecRegs} (h : MInv c m sp) (op : Op) (b : Nat) :
    ∃ m' res, stepX c m op b = .ok (m', res, (specStepX c sp op b).2) ∧ MInv c m' (specStepX c sp op b).1 := by
  obtain ⟨m', res, h1, h2, _⟩ := stepX_sim h op b
  exact ⟨m', res, h1, h2⟩

/-- EVERY history in which ANY subset of the operations throws at ANY of their
    constructions: no fault, and the final state represents the reference
    machine with the same failures. -/
theorem sx_history_refines (c : Cfg) (ops : List (Op × Nat)) :
    ∃ m, runX c ops Mach.init = .ok m ∧ MInv c m (specRunX c ops (fun _ => none)) :=
  runX_refines ops _ _ (minv_init c)

/-- no write outside the storage, no constructor over a live element, no
    destructor on raw storage, no use of raw storage — whatever throws -/
theorem sx_no_fault (c : Cfg) (ops : List (Op × Nat)) (f : Fault) : runX c ops Mach.init ≠ .error f := by
  obtain ⟨m, h, _⟩ := sx_history_refines c ops
  rw [h]; intro e; cases e

/-- THE BASIC EXCEPTION GUARANTEE.  After every history with failures, each
    object that exists has `size ≤ N`, every slot below `size` holds a live
    object, no slot at or above `size` holds one, and nothing that was ever
    constructed is lost: constructor calls − destructor calls = the sum of the
    sizes (a constructor that threw has destroyed what it had constructed). -/
theorem sx_basic_guarantee (c : Cfg) (ops : List (Op × Nat)) :
    ∃ m, runX c ops Mach.init = .ok m ∧
      (∀ r v, m.regs r = some v → v.size ≤ c.N ∧ v.slots.length = c.N ∧
        (∀ p, p < v.size → ∃ e, v.slots[p]? = some (.obj e)) ∧
        (∀ p, v.size ≤ p → p < c.N → v.slots[p]? = some .raw)) ∧
      m.nctor = m.ndtor + total (heldBy m) c.K := by
  obtain ⟨m, h, hi⟩ := sx_history_refines c ops
  exact ⟨m, h, minv_guarantee hi⟩

/-- THE CONTAINERS STAY USABLE: after any history with failures, ANY further
    history (again with failures anywhere) runs without a fault and refines the
    reference machine continued from the reference state. -/
theorem sx_usable_after_failure (c : Cfg) (ops more : List (Op × Nat)) :
    ∃ m m', runX c ops Mach.init = .ok m ∧ runX c more m = .ok m' ∧
      MInv c m' (specRunX c more (specRunX c ops (fun _ => none))) := by
  obtain ⟨m, h, hi⟩ := sx_history_refines c ops
  obtain ⟨m', h', hi'⟩ := runX_refines more m _ hi
  exact ⟨m, m', h, h', hi'⟩

/-- any history with failures followed by the destruction of all objects:
    constructor calls = destructor calls, no object left — every element that a
    failed or a successful call constructed has been destroyed exactly once -/
theorem sx_lifetime_once (c : Cfg) (ops : List (Op × Nat)) :
    ∃ m, runX c (ops ++ [(.finish, 0)]) Mach.init = .ok m ∧ m.nctor = m.ndtor ∧ ∀ r, m.regs r = none := by
  obtain ⟨m, h, hi⟩ := sx_history_refines c (ops ++ [(.finish, 0)])
  rw [specRunX_append] at hi
  exact ⟨m, h, minv_empty hi⟩

/-- a failed `push_back` / `emplace_back` changes nothing (strong guarantee) -/
theorem failed_push_changes_nothing (N : Nat) (v : SVec) (x : Nat) (hroom : v.size < N) :
    pushBackX N v x 0 = .ok (v, [], true) := by
  have : ¬ v.size ≥ N := by omega
  simp [pushBackX, this]

/-- a failed copy assignment has destroyed the old elements and holds exactly the
    `b` elements it had copied; a failed move assignment likewise, its source
    keeps all its elements, the first `b` of them moved-from -/
theorem failed_assign_keeps_prefix (trk : Bool) {N : Nat} {v o : SVec} {es eo : List Elem}
    (hv : Abs N v es) (ho : Abs N o eo) {b : Nat} (hb : b < eo.length) :
    (∃ v' tr, assignCopyX v o b = .ok (v', tr, true) ∧ v'.contents = eo.take b ∧ v'.size = b ∧
        nC tr = b ∧ nD tr = es.length) ∧
    (∃ v' o' tr, assignMoveX trk v o b = .ok (v', o', tr, true) ∧ v'.contents = eo.take b ∧ v'.size = b ∧
        o'.contents = movedPrefix trk b eo ∧ o'.size = eo.length ∧ nC tr = b ∧ nD tr = es.length) := by
  obtain ⟨v', tr, p1, p2, p3, p4⟩ := assignCopyX_spec hv ho b
  obtain ⟨w', o', tr', q1, q2, q3, q4, q5⟩ := assignMoveX_spec trk hv ho b
  have hd : decide (b < eo.length) = true := by simpa using hb
  rw [hd] at p1 q1
  rw [if_pos hb] at q3 q5
  refine ⟨⟨v', tr, p1, p2.contents, by rw [p2.size]; simp; omega, by rw [p3]; omega, p4⟩,
    ⟨w', o', tr', q1, q2.contents, by rw [q2.size]; simp; omega, q3.contents, by rw [q3.size]; simp,
      by rw [q4]; omega, by rw [q5]; omega⟩⟩

/-- a failed `resize` keeps the old elements and the `b` new ones it had constructed -/
theorem failed_resize_keeps_constructed {N : Nat} {v : SVec} {es : List Elem} (h : Abs N v es) {n b : Nat}
    (hb : es.length < min n N ∧ b < min n N - es.length) :
    ∃ v' tr, resizeX N v n b = .ok (v', tr, true) ∧ v'.contents = es ++ List.replicate b (some 0) ∧
      v'.size = es.length + b ∧ nC tr = b ∧ nD tr = 0 := by
  obtain ⟨v', tr, p1, p2, p3, p4⟩ := resizeX_fail h hb
  exact ⟨v', tr, p1, p2.contents, by rw [p2.size, List.length_append, List.length_replicate], p3, p4⟩

/-- a constructor whose element constructor throws leaves NO object and has
    destroyed exactly the `b` elements it had constructed (copy, move, iterator
    range and initializer-list constructor) -/
theorem failed_ctor_leaves_nothing (port trk : Bool) {N : Nat} {o : SVec} {eo : List Elem} (ho : Abs N o eo) (b : Nat) :
    (b < eo.length → ∃ tr, copyCtorX N o b = .ok (none, tr, true) ∧ nC tr = b ∧ nD tr = b) ∧
    (b < eo.length → ∃ o' tr, moveCtorX port trk N o b = .ok (none, o', tr, true) ∧
        o'.contents = movedPrefix trk b eo ∧ o'.size = eo.length ∧ nC tr = b ∧ nD tr = b) ∧
    (∀ xs : List Nat, b < min xs.length N →
        (∃ tr, rangeCtorX N xs b = .ok (none, tr, true) ∧ nC tr = b ∧ nD tr = b) ∧
        (∃ tr, ilCtorX N xs b = .ok (none, tr, true) ∧ nC tr = b ∧ nD tr = b)) := by
  refine ⟨?_, ?_, ?_⟩
  · intro hb
    obtain ⟨w, tr, p1, p2, p3, p4, _⟩ := copyCtorX_spec ho b
    have hd : decide (b < eo.length) = true := by simpa using hb
    rw [hd] at p1; rw [if_pos hb] at p2 p4
    cases w with
    | some v => exact p2.elim
    | none => exact ⟨tr, p1, by rw [p3]; omega, p4⟩
  · intro hb
    obtain ⟨w, o', tr, p1, p2, p3, p4, p5, _⟩ := moveCtorX_spec port trk ho b
    have hd : decide (b < eo.length) = true := by simpa using hb
    rw [hd] at p1; rw [if_pos hb] at p2 p3 p5
    cases w with
    | some v => exact p2.elim
    | none => exact ⟨o', tr, p1, p3.contents, by rw [p3.size]; simp, by rw [p4]; omega, p5⟩
  · intro xs hb
    have hd : decide (b < min xs.length N) = true := by simpa using hb
    obtain ⟨w, tr, p1, p2, p3, p4, _⟩ := rangeCtorX_spec N xs b
    obtain ⟨w', tr', q1, q2, q3, q4, _⟩ := ilCtorX_spec N xs b
    rw [hd] at p1 q1; rw [if_pos hb] at p2 p4 q2 q4
    cases w with
    | some v => exact p2.elim
    | none =>
      cases w' with
      | some v => exact q2.elim
      | none => exact ⟨⟨tr, p1, by rw [p3]; omega, p4⟩, ⟨tr', q1, by rw [q3]; omega, q4⟩⟩

/-- a copy constructor, copy assignment or `resize` call of `Exc.lean` that did
    not throw is the call of `Model.lean`: same storage, same size, same events
    (the two descriptions of these member functions agree where they overlap) -/
theorem no_throw_is_plain {N : Nat} {v o v' : SVec} {n b : Nat} {tr : Tr} :
    (∀ w, copyCtorX N o b = .ok (w, tr, false) → ∃ u, w = some u ∧ copyCtor N o = .ok (u, tr)) ∧
    (assignCopyX v o b = .ok (v', tr, false) → assignCopy v o = .ok (v', tr)) ∧
    (resizeX N v n b = .ok (v', tr, false) → resize N v n = .ok (v', tr)) :=
  ⟨fun _ h => copyCtorX_done h, assignCopyX_done, resizeX_done⟩

/-- the hypotheses above are satisfiable, and a throw really is a throw -/
example : (stepX ⟨2, 2, false, true⟩ Mach.init (.new 0) 0).toOption.isSome = true := by decide
example : (match pushBackX 2 ⟨[.raw, .raw], 0⟩ 7 0 with | .ok (_, _, t) => t | _ => false) = true := by decide

/-! ### the code as it was, with a throwing element constructor -/

/-- `a = b` with `m_size = other.m_size` before the loop, second copy throws:
    `size()` is 2 with one element; the destructor then runs on raw storage -/
theorem assign_throw_orig_witness :
    (match assignCopyXOrig ⟨[.raw, .raw], 0⟩ ⟨[.obj (some 5), .obj (some 6)], 2⟩ 1 with
      | .ok (v, _, true) => (match destructor v with | .error .dtorRaw => true | _ => false)
      | _ => false) = true := by decide

/-- `resize(3)` of one element, second `T{}` throws: one new element stays above
    `size()`; the next `push_back` constructs over it -/
theorem resize_throw_orig_witness :
    (match resizeXOrig 3 ⟨[.obj (some 1), .raw, .raw], 1⟩ 3 1 with
      | .ok (v, _, true) => (match pushBack 3 v 9 with | .error .ctorOverLive => true | _ => false)
      | _ => false) = true := by decide

/-- copy constructor, second copy throws: one element constructed, none destroyed, no object -/
theorem ctor_throw_orig_witness :
    (match copyCtorXOrig 2 ⟨[.obj (some 1), .obj (some 2)], 2⟩ 1 with
      | .ok (none, tr, true) => decide (nC tr = 1 ∧ nD tr = 0)
      | _ => false) = true := by decide

/-- the same three calls on the repaired code -/
example : (match assignCopyX ⟨[.raw, .raw], 0⟩ ⟨[.obj (some 5), .obj (some 6)], 2⟩ 1 with
      | .ok (v, _, true) => (match destructor v with | .ok _ => true | _ => false)
      | _ => false) = true := by decide
example : (match resizeX 3 ⟨[.obj (some 1), .raw, .raw], 1⟩ 3 1 with
      | .ok (v, _, true) => (match pushBack 3 v 9 with | .ok _ => true | _ => false)
      | _ => false) = true := by decide
example : (match copyCtorX 2 ⟨[.obj (some 1), .obj (some 2)], 2⟩ 1 with
      | .ok (none, tr, true) => decide (nC tr = 1 ∧ nD tr = 1)
      | _ => false) = true := by decide

/-! ## the width of the size counter

The model keeps `size : Nat`.  The code keeps `std::size_t m_size`; a store
into a `w`-bit unsigned counter keeps `n % 2^w`. -/

/-- A `w`-bit counter represents every size `0 … N` of a container of capacity
    `N` exactly iff `N < 2^w` (N + 1 values are needed): for `size_t` the model's
    `Nat` is faithful for every `N < 2^64`, a `uint8_t` counter is not for
    `N = 256`, a `uint16_t` one not for `N = 65536`.  The correspondence stream
    runs the capacities `2^w − 1, 2^w, 2^w + 1` for `w = 8, 16` (strings also
    `w = 7`) filled to capacity and beyond. -/
theorem size_counter_width (w N : Nat) : (∀ n, n ≤ N → stored w n = n) ↔ N < 2 ^ w := by
  constructor
  · intro h
    exact stored_eq_iff.mp (h N (Nat.le_refl _))
  · intro h n hn
    exact stored_small (by omega)

/-- at `N = 2^w` the full container reads `size() = 0` -/
theorem size_counter_wraps (w : Nat) : stored w (2 ^ w) = 0 := Nat.mod_self _

/-- `push_back` with a `w`-bit counter IS the `push_back` of the model whenever
    the capacity fits the counter (`N < 2^w`) and the size is in range — for
    `size_t` (w = 64) that is every capacity below 2^64 -/
theorem narrow_counter_exact {w N : Nat} (hN : N < 2 ^ w) (v : SVec) (x : Nat) (hs : v.size ≤ N) :
    pushBackW w N v x = pushBack N v x := pushBackW_eq hN v x

/-- and it is NOT when `N = 2^w` (here w = 2, N = 4, the shape of the seeded
    `uint8_t` counter for N = 256): the fourth push makes the full container read
    size 0, its guard can never fire again, and the fifth push placement-constructs
    over the live element in slot 0.  The model's `push_back` drops it. -/
theorem narrow_counter_witness :
    (match pushAllW 2 4 [1, 2, 3, 4] ⟨rawStore 4, 0⟩ with
      | .ok v => decide (v.size = 0) && (match pushBackW 2 4 v 5 with | .error .ctorOverLive => true | _ => false)
      | _ => false) = true ∧
    (match rangeLoop 4 [1, 2, 3, 4, 5] ⟨rawStore 4, 0⟩ with
      | .ok (v, _) => decide (v.size = 4)
      | _ => false) = true := by decide

/-! ## read accessors -/

/-- `operator[]`, `data()[i]`, `*(begin()+i)` for every `i < size()`, `front()`,
    `back()`, `end() - begin()`: no fault, and the element of the reference
    sequence -/
theorem sv_accessors_refine {N : Nat} {v : SVec} {es : List Elem} (h : Abs N v es) :
    (∀ i, i < es.length → v.at i = .ok (es.getD i none)) ∧
    (0 < es.length → v.front = .ok (es.getD 0 none) ∧ v.back = .ok (es.getD (es.length - 1) none)) ∧
    v.dist = es.length := by
  have hat : ∀ i, i < es.length → v.at i = .ok (es.getD i none) := by
    intro i hi
    rw [getD_of_lt hi]
    simp [SVec.at, readObj, abs_obj h hi]
  refine ⟨hat, ?_, h.size⟩
  intro hpos
  refine ⟨hat 0 hpos, ?_⟩
  have := hat (es.length - 1) (by omega)
  simpa [SVec.back, SVec.at, h.size] using this

example : (match SVec.at ⟨[.obj (some 7), .raw], 1⟩ 0 with | .ok (some 7) => true | _ => false) = true := by decide
example : (match SVec.at ⟨[.obj (some 7), .raw], 1⟩ 1 with | .error .useRaw => true | _ => false) = true := by decide

/-! ## static_string -/

/-- `static_string(const char*)` for a C string of ANY length: no access outside
    `data[N+1]`, at most N characters kept, and they are the first N. -/
theorem ss_cstring_ctor_keeps_prefix {N : Nat} {junk arg : List Byte} (hj : junk.length = N + 1)
    (h0 : (0 : Byte) ∈ arg) :
    ∃ s, sCtorPtr N junk arg = .ok s ∧ s.size = min (arg.takeWhile nz).length N ∧ s.size ≤ N ∧
      s.data.length = N + 1 ∧ s.contents = (arg.takeWhile nz).take N := by
  obtain ⟨s, h1, h2⟩ := sCtorPtr_spec hj h0
  refine ⟨s, h1, ?_, by rw [h2.size]; exact h2.le, h2.len, h2.contents⟩
  rw [h2.size]; simp [Nat.min_comm]

/-- `static_string(const char*, size_t)` (std_portable.h; used by `split`) -/
theorem ss_ptr_len_ctor_keeps_prefix {N : Nat} {junk arg : List Byte} {n : Nat} (hj : junk.length = N + 1)
    (hn : n ≤ arg.length) :
    ∃ s, sCtorPtrLen N junk arg n = .ok s ∧ s.size = min n N ∧ s.data.length = N + 1 ∧
      s.contents = (arg.take n).take N := by
  obtain ⟨s, h1, h2⟩ := sCtorPtrLen_spec hj hn
  refine ⟨s, h1, ?_, h2.len, h2.contents⟩
  rw [h2.size]; simp; omega

/-- EVERY history of string operations (constructors from C strings of any
    length, push_back / operator+= beyond the capacity, operator[] writes,
    c_str, copies, clear) on K objects: no access outside any `data[N+1]`,
    every answer (`c_str()`, `operator[]`) is the reference's, and the final
    objects represent the reference strings.  `hwf` is the caller's side of the
    contract: a `const char*` argument is NUL-terminated. -/
theorem ss_history_refines (c : SCfg) (hj : c.junk.length = c.N + 1) (ops : List SOp)
    (hwf : ∀ op, op ∈ ops → op.wf) :
    ∃ m, srun c ops (fun _ => none) = .ok (m, (specSRun c ops (fun _ => none)).2) ∧
      SInv c m (specSRun c ops (fun _ => none)).1 :=
  srun_refines hj ops _ _ (fun _ => trivial) hwf

/-- after every such history each string holds at most N characters in a `data`
    of N + 1 bytes, and they are the reference string's -/
theorem ss_size_le_N (c : SCfg) (hj : c.junk.length = c.N + 1) (ops : List SOp)
    (hwf : ∀ op, op ∈ ops → op.wf) :
    ∃ m outs, srun c ops (fun _ => none) = .ok (m, outs) ∧ ∀ r s, m r = some s →
      s.size ≤ c.N ∧ s.data.length = c.N + 1 ∧ (specSRun c ops (fun _ => none)).1 r = some s.contents := by
  obtain ⟨m, h, hi⟩ := ss_history_refines c hj ops hwf
  refine ⟨m, _, h, ?_⟩
  intro r s hs
  have := hi r
  rw [hs] at this
  cases hq : (specSRun c ops (fun _ => none)).1 r with
  | none => rw [hq] at this; exact this.elim
  | some es =>
    rw [hq] at this
    exact ⟨by rw [this.size]; exact this.le, this.len, by rw [this.contents]⟩

/-- `c_str()` writes the terminator inside the object and the caller reads the
    contents up to their first NUL — all of them when there is none -/
theorem ss_c_str {N : Nat} {s : SStr} {es : List Byte} (h : SAbs N s es) :
    ∃ s' out, sCStr s = .ok (s', out) ∧ s'.contents = es ∧ out = es.takeWhile nz ∧
      ((0 : Byte) ∉ es → out = es) := by
  obtain ⟨s', out, h1, h2, h3⟩ := sCStr_spec h
  refine ⟨s', out, h1, h2.contents, h3, ?_⟩
  intro hz
  rw [h3]
  apply takeWhile_all
  intro x hx
  have : x ≠ 0 := fun e => hz (e ▸ hx)
  simp [nz]; exact this

/-- `split<VSize,SSize>(delim)` (std_portable.h) of a string holding `es`, for
    every VSize, SSize, delimiter and contents: no access outside the string or
    outside any token object, at most VSize tokens of at most SSize characters
    each, and they are the first VSize tokens of the reference tokenizer
    (`tokens`: maximal delimiter-free runs, empty ones skipped), each cut to its
    first SSize characters. -/
theorem ss_split_refines {N : Nat} {s : SStr} {es : List Byte} (h : SAbs N s es) (delim : Byte) (VS SS : Nat)
    {junk : List Byte} (hj : junk.length = SS + 1) :
    ∃ toks, sSplit s delim VS SS junk = .ok toks ∧ toks.length ≤ VS ∧
      (∀ t, t ∈ toks → t.size ≤ SS ∧ t.data.length = SS + 1) ∧
      toks.map SStr.contents = ((tokens delim es).map (List.take SS)).take VS := by
  obtain ⟨toks, h1, h2, h3, h4⟩ := splitLoop_spec (d := s.data) (endp := s.size) (post := s.data.drop s.size) delim VS SS hj
    (s.size + 1) es [] 0 [] (by rw [List.nil_append, ← h.eq, List.take_append_drop]) rfl (by rw [h.size, Nat.zero_add])
    (by rw [h.size]; omega) (Nat.zero_le _) (fun _ ht => by cases ht)
  exact ⟨toks, h1, h3, h2, by simpa using h4⟩

/-- the reference tokenizer on ",a,,bc," -/
example : tokens 0x2c [0x2c, 0x61, 0x2c, 0x2c, 0x62, 0x63, 0x2c] = [[0x61], [0x62, 0x63]] := by decide

/-- before the repair: "abcde" into a `static_string<3>` writes `data[4]` -/
theorem ss_ctor_orig_witness :
    (match sCtorPtrOrig (List.replicate 4 0xAA) [0x61, 0x62, 0x63, 0x64, 0x65, 0] with
      | .error .oob => true | _ => false) = true ∧
    (match sCtorPtrLenOrig (List.replicate 4 0xAA) [0x61, 0x62, 0x63, 0x64, 0x65] 5 with
      | .error .oob => true | _ => false) = true := by decide

/-- the hypotheses above are satisfiable -/
example : SAbs 3 ⟨[0x61, 0x62, 0xAA, 0xAA], 2⟩ [0x61, 0x62] := ⟨rfl, rfl, by decide, rfl⟩
example : Abs 2 ⟨[.obj (some 7), .raw], 1⟩ [some 7] :=
  ⟨rfl, rfl, by decide, by intro p; match p with | 0 => rfl | 1 => rfl | (p + 2) => simp [slotAt]⟩
example : (SOp.ptr 0 [0x61, 0]).wf := by simp [SOp.wf]

/-- reads of `static_string::operator[]` at ANY position `≤ N` (the terminator
    slot included) stay inside `data[N+1]` -/
theorem ss_index_inside {N : Nat} {s : SStr} {es : List Byte} (h : SAbs N s es) {i : Nat} (hi : i ≤ N) :
    ∃ b, sGetAny s i = .ok b := by
  have : i < s.data.length := by rw [h.len]; omega
  exact ⟨s.data[i], by simp [sGetAny, rd, List.getElem?_eq_getElem this]⟩

/-! ## the size counter has the bit width of its C type

`stepW w` / `runW w` (`Model3.lean`) is the machine of `Model.lean` with a
`w`-bit `m_size`: every store keeps `n % 2^w`, the loops that count `++m_size`
count through the narrow counter.  The driver runs THIS machine, with the
width that the harness reads out of the compiled code (`8 * sizeof(m_size)`) —
so the theorems below are what carries every list-level theorem of this file
over to the code's counter type. -/

/-- the counter of EVERY state that represents a reference sequence is stored
    exactly iff the capacity fits the counter (`N + 1` values are needed) -/
theorem width_exact_iff (w N : Nat) :
    (∀ v es, Abs N v es → stored w v.size = v.size) ↔ N < 2 ^ w := by
  constructor
  · intro h
    -- the full container: N live (moved-from) elements, size N
    have ha : Abs N ⟨List.replicate N (.obj none), N⟩ (List.replicate N none) :=
      abs_of_zones (by simp) (by simp) (by simp) (fun p hp => by simp at hp; simp [hp])
        (fun p h1 h2 => by simp at h1; omega)
    exact stored_eq_iff.mp (h _ _ ha)
  · intro h v es ha
    exact stored_small (by have := ha.size; have := ha.le; omega)

/-- ONE operation: with `N < 2^w` the `w`-bit machine IS the machine of the
    theorems above, from every state that represents reference sequences -/
theorem width_step_exact {w : Nat} {c : Cfg} {m : Mach} {sp : SpecRegs} (h : MInv c m sp) (hN : c.N < 2 ^ w) (op : Op) :
    stepW w c m op = step c m op := stepW_eq h hN op

/-- EVERY history: for `N < 2^w` the run with the `w`-bit counter is the run of
    the natural-number model, hence no fault and the reference sequences —
    `sv_history_refines`, `sv_no_fault`, `sv_size_le_N_and_contents`,
    `sv_lifetime_*` hold verbatim for `runW w` (w = 64: every N < 2^64) -/
theorem width_history_transfers (w : Nat) (c : Cfg) (hN : c.N < 2 ^ w) (ops : List Op) :
    runW w c ops Mach.init = run c ops Mach.init ∧
    ∃ m, runW w c ops Mach.init = .ok m ∧ MInv c m (specRun c ops (fun _ => none)) := by
  have e := runW_eq hN ops _ _ (minv_init c)
  obtain ⟨m, h1, h2⟩ := sv_history_refines c ops
  exact ⟨e, m, by rw [e]; exact h1, h2⟩

/-- and for `N = 2^w` it is not (w = 2, N = 4): the fourth push wraps the counter
    to 0 and the fifth constructs over the live element in slot 0; `resize(4)` of a
    one-element container wraps inside its own loop and constructs over slot 0;
    the natural-number model ends both histories with 4 elements -/
theorem width_machine_witness :
    isFault .ctorOverLive (runW 2 ⟨4, 1, false, true⟩ [.new 0, .push 0 1, .push 0 2, .push 0 3, .push 0 4, .push 0 5] Mach.init) = true ∧
    isFault .ctorOverLive (runW 2 ⟨4, 1, false, true⟩ [.new 0, .push 0 1, .resize 0 4] Mach.init) = true ∧
    (match run ⟨4, 1, false, true⟩ [.new 0, .push 0 1, .push 0 2, .push 0 3, .push 0 4, .push 0 5] Mach.init with
      | .ok m => (m.regs 0).map (·.size) | _ => none) = some 4 ∧
    (match runW 3 ⟨4, 1, false, true⟩ [.new 0, .push 0 1, .push 0 2, .push 0 3, .push 0 4, .push 0 5] Mach.init with
      | .ok m => (m.regs 0).map (·.size) | _ => none) = some 4 := by decide

/-- static_string: `push_back` / `(ptr,len)` need `N < 2^w`; the C-string
    constructor stores `strlen(dat)` before it clamps, so it needs the LENGTH OF
    THE ARGUMENT to fit the counter as well -/
theorem ss_width_exact {w N : Nat} (hN : N < 2 ^ w) (junk arg : List Byte) :
    (∀ s c, s.size ≤ N → sPushW w N s c = sPush N s c) ∧
    (∀ sz, sCtorPtrLenW w N junk arg sz = sCtorPtrLen N junk arg sz) ∧
    ((0 : Byte) ∈ arg → arg.length ≤ 2 ^ w → sCtorPtrW w N junk arg = sCtorPtr N junk arg) :=
  ⟨fun s c _ => sPushW_eq hN s c, fun sz => sCtorPtrLenW_eq hN junk arg sz, fun h0 hl => sCtorPtrW_eq hN h0 hl⟩

/-- EVERY history of string operations whose C-string arguments fit the counter:
    the `w`-bit string machine is the machine of `ss_history_refines` -/
theorem ss_width_history_transfers {w : Nat} (c : SCfg) (hj : c.junk.length = c.N + 1) (hN : c.N < 2 ^ w)
    (ops : List SOp) (hwf : ∀ op, op ∈ ops → op.wf ∧ op.fitsW w) :
    srunW w c ops (fun _ => none) = srun c ops (fun _ => none) :=
  srunW_eq hN ops (fun _ => none) hwf

example : (SOp.ptr 0 [0x61, 0]).wf ∧ (SOp.ptr 0 [0x61, 0]).fitsW 64 := by simp [SOp.wf, SOp.fitsW]

/-- `static_string<3>("abcde")` with a 2-bit counter: strlen 5 is stored as 1, which
    is not `> 3`: one character is kept instead of three -/
theorem ss_width_witness :
    (match sCtorPtrW 2 3 [0xAA, 0xAA, 0xAA, 0xAA] [0x61, 0x62, 0x63, 0x64, 0x65, 0] with
      | .ok s => decide (s.size = 1) | _ => false) = true ∧
    (match sCtorPtr 3 [0xAA, 0xAA, 0xAA, 0xAA] [0x61, 0x62, 0x63, 0x64, 0x65, 0] with
      | .ok s => decide (s.size = 3) | _ => false) = true := by decide

/-! ## writes through `operator[]`, `data()`, iterators, `front()`, `back()`, range-for -/

/-- ONE operation of the machine that has the writes (`v[i] = x`, `v.front() = x`,
    `v.back() = x`, `for (auto &e : v) e = x`, `T y = std::move(v[i])`) next to the
    14 operations: no fault, the reference result, the ledger balance -/
theorem sv_write_step_refines {c : Cfg} {m : Mach} {sp : SpecRegs} (h : MInv c m sp) (op : Op3) :
    ∃ mr : Mach × Res, step3 c m op = .ok mr ∧ MInv c mr.1 (specStep3 c sp op) :=
  step3_refines h op

/-- EVERY history of the 14 operations and the writes, from no object -/
theorem sv_write_history_refines (c : Cfg) (ops : List Op3) :
    ∃ m, run3 c ops Mach.init = .ok m ∧ MInv c m (specRun3 c ops (fun _ => none)) :=
  run3_refines ops _ _ (minv_init c)

/-- per write: one assignment / move-from event on exactly that slot, no
    constructor or destructor call, the size unchanged, and the sequence is the
    reference's with that one element replaced (all of them for range-for) -/
theorem sv_writes_exact (trk : Bool) {N : Nat} {v : SVec} {es : List Elem} (h : Abs N v es) (x : Nat) :
    (∀ i, i < es.length → ∃ w, v.setAt i x = .ok (w, [⟨false, .asg, i⟩]) ∧ w.contents = es.set i (some x) ∧ w.size = v.size) ∧
    (0 < es.length → (∃ w, v.setFront x = .ok (w, [⟨false, .asg, 0⟩]) ∧ w.contents = es.set 0 (some x)) ∧
      (∃ w, v.setBack x = .ok (w, [⟨false, .asg, es.length - 1⟩]) ∧ w.contents = es.set (es.length - 1) (some x))) ∧
    (∃ w tr, v.fillAll x = .ok (w, tr) ∧ w.contents = List.replicate es.length (some x) ∧ nC tr = 0 ∧ nD tr = 0) ∧
    (∀ i, i < es.length → ∃ w, v.takeAt trk i = .ok (es.getD i none, w, [⟨false, .mv, i⟩]) ∧
      w.contents = (if trk then es.set i none else es)) := by
  refine ⟨?_, ?_, ?_, ?_⟩
  · intro i hi
    obtain ⟨w, p1, p2⟩ := setAt_spec h hi x
    refine ⟨w, p1, p2.contents, ?_⟩
    rw [p2.size, h.size]; simp
  · intro hpos
    obtain ⟨w, p1, p2⟩ := setAt_spec h hpos x
    obtain ⟨w', q1, q2⟩ := setAt_spec h (show es.length - 1 < es.length by omega) x
    exact ⟨⟨w, p1, p2.contents⟩, ⟨w', by simpa [SVec.setBack, h.size] using q1, q2.contents⟩⟩
  · obtain ⟨w, tr, p1, p2, p3, p4⟩ := fillAll_spec h x
    refine ⟨w, tr, p1, ?_, p3, p4⟩
    rw [p2.contents, List.map_const']
  · intro i hi
    obtain ⟨w, p1, p2⟩ := takeAt_spec trk h hi
    exact ⟨w, p1, by rw [p2.contents]; rfl⟩

example : (match SVec.setAt ⟨[.obj (some 7), .raw], 1⟩ 1 9 with | .error .useRaw => true | _ => false) = true := by decide

/-! ## `erase` when an element move-assignment throws -/

/-- `erase(begin()+i, begin()+j)` whose `(a+1)`-th element assignment throws (`a` =
    the number that still succeed; a throwing assignment has changed neither
    side): when `a` covers all `|es| − j` assignments it IS `erase`; otherwise no
    fault, no constructor or destructor call, the size is unchanged and every
    slot below it still holds a live object — the sequence is `specEraseFail`
    (positions `[i,i+a)` hold what was at `[j,j+a)`, the sources not overwritten
    are moved-from, the rest is untouched) — so the container is a valid
    container (basic guarantee) and its destructor destroys exactly `|es|`
    elements: nothing constructed is lost or destroyed twice -/
theorem erase_assignment_throw (trk : Bool) {N : Nat} {v : SVec} {es : List Elem} (h : Abs N v es) {i j : Nat}
    (hij : i < j) (hj : j ≤ es.length) (a : Nat) :
    (es.length - j ≤ a → eraseX trk v i j a = (erase trk v i j).map (fun q => (q.1, q.2, false))) ∧
    (a < es.length - j → ∃ w tr, eraseX trk v i j a = .ok (w, tr, true) ∧
      Abs N w (specEraseFail trk es i j a) ∧ w.size = es.length ∧ w.contents.length = es.length ∧
      w.contents.take i = es.take i ∧ nC tr = 0 ∧ nD tr = 0 ∧
      ∃ w' tr', destructor w = .ok (w', tr') ∧ w'.slots = rawStore N ∧ nD tr' = es.length) := by
  refine ⟨fun ha => eraseX_nothrow trk v i j a (.inr (by rw [h.size]; exact ha)), ?_⟩
  intro ha
  obtain ⟨w, tr, p1, p2, p3, p4, p5⟩ := eraseX_fail trk h hij hj ha
  obtain ⟨w', tr', q1, q2, _, _, q5⟩ := destructor_destroys_all p2
  refine ⟨w, tr, p1, p2, p3, by rw [p2.contents, specEraseFail_length], ?_, p4, p5, w', tr', q1, q2,
    by rw [q5, specEraseFail_length]⟩
  rw [p2.contents]
  apply List.ext_getElem?
  intro p
  simp only [List.getElem?_take, specEraseFail, List.getElem?_map]
  by_cases hp : p < i
  · have hpl : p < es.length := by omega
    simp only [hp, if_true, List.getElem?_range hpl, Option.map]
    rw [if_neg (by omega), if_neg (by omega)]
    simp [List.getD, List.getElem?_eq_getElem hpl]
  · simp [hp]

example : (match eraseX true ⟨[.obj (some 1), .obj (some 2), .obj (some 3)], 3⟩ 0 1 1 with
    | .ok (w, _, true) => decide (w.contents = [some 2, none, some 3]) | _ => false) = true := by decide

/-! ## the event-trace ledger over histories with throws -/

/-- For EVERY history in which ANY operations throw at ANY of their element
    constructions, the complete sequence of lifetime events (`runEvX`: what the
    driver prints op by op, the events of failed calls and of the unwinding
    destructor included) passes the ledger replay — no constructor event at a
    live location, no destructor / assignment / move event at a dead one — and
    ends with exactly the occupied slots of the final state. -/
theorem sx_trace_passes_ledger (c : Cfg) (ops : List (Op × Nat)) :
    ∃ m evs, runEvX c ops Mach.init = .ok (m, evs) ∧ runX c ops Mach.init = .ok m ∧
      replayG evs (fun _ _ => false) = some (occR m.regs) := by
  obtain ⟨m, evs, h1, h0, _, h3⟩ := runEvX_replays ops _ _ (minv_init c)
  rw [occR_init] at h3
  exact ⟨m, evs, h1, h0, h3⟩

/-- EVERY ELEMENT CONSTRUCTED IS DESTROYED EXACTLY ONCE, also when constructors
    throw: any history with failures followed by the destruction of all objects
    replays from "nothing live" to "nothing live" -/
theorem sx_every_element_destroyed_exactly_once (c : Cfg) (ops : List (Op × Nat)) :
    ∃ m evs, runEvX c (ops ++ [(.finish, 0)]) Mach.init = .ok (m, evs) ∧
      replayG evs (fun _ _ => false) = some (fun _ _ => false) := by
  obtain ⟨m, evs, h1, _, h2, h3⟩ := runEvX_replays (c := c) (ops ++ [(.finish, 0)]) _ _ (minv_init c)
  rw [specRunX_append] at h2
  rw [occR_init, occR_empty (minv_empty h2).2] at h3
  exact ⟨m, evs, h1, h3⟩

/-- a copy constructor whose second copy throws: construct 1.0, destroy 1.0 — the replay passes and nothing is live -/
example : (match runEvX ⟨2, 2, false, true⟩ [(.new 0, 9), (.push 0 1, 9), (.push 0 2, 9), (.copy 1 0, 1)] Mach.init with
    | .ok (_, evs) => decide (evs = [⟨0, .ctor, 0⟩, ⟨0, .ctor, 1⟩, ⟨1, .ctor, 0⟩, ⟨1, .dtor, 0⟩]) | _ => false) = true := by decide

/-! ## unbounded_array: never outside its block -/

/-- ONE operation of `unbounded_array` on the storage level (one heap block of
    exactly `size` slots; an access at an index outside the block, a constructor
    over a live element, a destructor / assignment on raw storage are faults):
    no fault, in the contract exactly when the list-level meaning `ustep` is,
    and the blocks then hold exactly the objects of the reference lists -/
theorem ua_step_refines {K : Nat} {m : URegsS} {sp : URegs} (h : UInv m sp) (op : UOp) :
    ∃ res, ustepS K m op = .ok res ∧ UOut res (ustep K sp op) :=
  ustepS_refines h op

/-- EVERY history of constructors (size, (ptr,len) / initializer list, copy, move),
    `operator=`, `resize`, `fill`, `operator[]` writes, `clear`, destruction on K arrays:
    never a write outside a block, and the reference lists -/
theorem ua_history_refines (K : Nat) (ops : List UOp) :
    ∃ m, urunS K ops (fun _ => none) = .ok m ∧ UInv m (urun K ops (fun _ => none)) :=
  urunS_refines ops _ _ (fun _ => trivial)

/-- `resize(n)` / `operator=`: the old block's elements are destroyed (each once),
    the new block has exactly `n` / `|other|` slots, each constructed once, and
    holds zeros / the other's elements -/
theorem ua_resize_assign_exact {a o : UArr} {xs ys : List Nat} (ha : UAbs a xs) (ho : UAbs o ys) (n : Nat) :
    (∃ a' tr, uResize a n = .ok (a', tr) ∧ a'.slots.length = n ∧ a'.size = n ∧
      a'.contents = List.replicate n (some 0) ∧ nC tr = n ∧ nD tr = xs.length) ∧
    (∃ a' tr, uAssign a o = .ok (a', tr) ∧ a'.slots.length = ys.length ∧ a'.size = ys.length ∧
      a'.contents = ys.map some ∧ nC tr = ys.length ∧ nD tr = xs.length) := by
  have cont : ∀ (b : UArr) (zs : List Nat), UAbs b zs → b.contents = zs.map some :=
    fun b zs hb => (uabs_iff.mp hb).contents
  obtain ⟨a1, t1, p1, p2, p3, p4⟩ := uResize_spec ha n
  obtain ⟨a2, t2, q1, q2, q3, q4⟩ := uAssign_spec ha ho
  refine ⟨⟨a1, t1, p1, by simpa using p2.len, by simpa using p2.size, ?_, p3, p4⟩,
    ⟨a2, t2, q1, q2.len, q2.size, cont _ _ q2, q3, q4⟩⟩
  rw [cont _ _ p2]; simp

example : UAbs ⟨some [.obj (some 4)], 1⟩ [4] :=
  ⟨rfl, rfl, by intro p; match p with | 0 => rfl | (p + 1) => simp [UArr.slots]⟩

/-! ## ONE history machine with both kinds of exception

`stepT c m op b a`: `b` = element constructions of the call that still succeed
(every member function that constructs, `Exc.lean`), `a` = element
move-assignments that still succeed (`erase`'s `std::move` inside the array).
A throwing assignment is an OPERATION of the histories: whatever was thrown
before, by whichever kind, the theorems below speak about everything after. -/

/-- ONE operation with a throw point of either kind, from any represented state:
    no fault, it throws exactly when the reference says, the state left
    represents the reference result (a failed `erase`: `specEraseFail`; the rest:
    `specStepX`) and the ledger balance is kept -/
theorem st_step_refines {c : Cfg} {m : Mach} {sp : SpecRegs} (h : MInv c m sp) (op : Op) (b a : Nat) :
    ∃ m' res, stepT c m op b a = .ok (m', res, (specStepT c sp op b a).2) ∧ MInv c m' (specStepT c sp op b a).1 := by
  obtain ⟨m', res, h1, h2, _⟩ := stepT_sim h op b a
  exact ⟨m', res, h1, h2⟩

/-- EVERY history in which ANY operations throw at ANY of their element
    constructions or element assignments: no fault, and the final state
    represents the reference machine with the same failures -/
theorem st_history_refines (c : Cfg) (ops : List (Op × Nat × Nat)) :
    ∃ m, runT c ops Mach.init = .ok m ∧ MInv c m (specRunT c ops (fun _ => none)) :=
  runT_refines ops _ _ (minv_init c)

theorem st_no_fault (c : Cfg) (ops : List (Op × Nat × Nat)) (f : Fault) : runT c ops Mach.init ≠ .error f := by
  obtain ⟨m, h, _⟩ := st_history_refines c ops
  rw [h]; intro e; cases e

/-- ONE operation other than `erase`: `stepT` IS `stepX` with the same
    construction budget, whatever the assignment budget (only `erase` assigns
    elements) — the two machines agree where they overlap -/
theorem st_extends_sx (c : Cfg) (m : Mach) (op : Op) (b : Nat) (hop : ∀ r i j, op ≠ .erase r i j) (a : Nat) :
    stepT c m op b a = stepX c m op b :=
  stepT_eq_stepX hop c m b a

/-- THE BASIC EXCEPTION GUARANTEE with both kinds of throw: after every history
    each object that exists has `size ≤ N`, a live object in every slot below
    `size`, raw storage at and above it, and constructor calls − destructor calls
    = the sum of the sizes -/
theorem st_basic_guarantee (c : Cfg) (ops : List (Op × Nat × Nat)) :
    ∃ m, runT c ops Mach.init = .ok m ∧
      (∀ r v, m.regs r = some v → v.size ≤ c.N ∧ v.slots.length = c.N ∧
        (∀ p, p < v.size → ∃ e, v.slots[p]? = some (.obj e)) ∧
        (∀ p, v.size ≤ p → p < c.N → v.slots[p]? = some .raw)) ∧
      m.nctor = m.ndtor + total (heldBy m) c.K := by
  obtain ⟨m, h, hi⟩ := st_history_refines c ops
  exact ⟨m, h, minv_guarantee hi⟩

/-- any history with throws of both kinds followed by the destruction of all
    objects: constructor calls = destructor calls, no object left -/
theorem st_lifetime_once (c : Cfg) (ops : List (Op × Nat × Nat)) :
    ∃ m, runT c (ops ++ [(.finish, 0, 0)]) Mach.init = .ok m ∧ m.nctor = m.ndtor ∧ ∀ r, m.regs r = none := by
  obtain ⟨m, h, hi⟩ := st_history_refines c (ops ++ [(.finish, 0, 0)])
  rw [specRunT_append] at hi
  exact ⟨m, h, minv_empty hi⟩

/-- the complete event sequence of EVERY history with throws of both kinds (the
    events of a failed `erase` included: the moves and assignments it made before
    the exception) passes the ledger replay and ends with exactly the occupied
    slots of the final state -/
theorem st_trace_passes_ledger (c : Cfg) (ops : List (Op × Nat × Nat)) :
    ∃ m evs, runEvT c ops Mach.init = .ok (m, evs) ∧ runT c ops Mach.init = .ok m ∧
      replayG evs (fun _ _ => false) = some (occR m.regs) := by
  obtain ⟨m, evs, h1, h0, _, h3⟩ := runEvT_replays ops _ _ (minv_init c)
  rw [occR_init] at h3
  exact ⟨m, evs, h1, h0, h3⟩

/-- EVERY ELEMENT CONSTRUCTED IS DESTROYED EXACTLY ONCE, whatever throws
    (constructors or assignments): any such history + `finish` replays from
    "nothing live" to "nothing live" -/
theorem st_every_element_destroyed_exactly_once (c : Cfg) (ops : List (Op × Nat × Nat)) :
    ∃ m evs, runEvT c (ops ++ [(.finish, 0, 0)]) Mach.init = .ok (m, evs) ∧
      replayG evs (fun _ _ => false) = some (fun _ _ => false) := by
  obtain ⟨m, evs, h1, _, h2, h3⟩ := runEvT_replays (c := c) (ops ++ [(.finish, 0, 0)]) _ _ (minv_init c)
  rw [specRunT_append] at h2
  rw [occR_init, occR_empty (minv_empty h2).2] at h3
  exact ⟨m, evs, h1, h3⟩

/-- a copy constructor that throws, then an `erase` whose second assignment throws, then a plain erase:
    1 2 3 → (throw) 1 2 3 → erase [0,1) with a = 1: [2, ~, 3] → erase [1,2): [2, 3] -/
example : (match runT ⟨3, 2, false, true⟩ [(.new 0, 9, 9), (.push 0 1, 9, 9), (.push 0 2, 9, 9), (.push 0 3, 9, 9),
      (.copy 1 0, 1, 9), (.erase 0 0 1, 9, 1), (.erase 0 1 2, 9, 9)] Mach.init with
    | .ok m => decide ((m.regs 0).map (·.contents) = some [some 2, some 3]) && (m.regs 1).isNone
    | _ => false) = true := by decide

/-! ### the `w`-bit machine with throws -/

theorem stw_step_exact {w : Nat} {c : Cfg} {m : Mach} {sp : SpecRegs} (h : MInv c m sp) (hN : c.N < 2 ^ w)
    (op : Op) (b a : Nat) : stepTW w c m op b a = stepT c m op b a := stepTW_eq h hN op b a

/-- EVERY history with throws of both kinds: for `N < 2^w` the run with the `w`-bit
    counter is the run of the natural-number machine, hence no fault, the basic
    guarantee, the reference sequences with failures: `st_*` hold verbatim for
    `runTW w` (this is the machine the driver runs for `thr` / `thra`) -/
theorem stw_history_transfers (w : Nat) (c : Cfg) (hN : c.N < 2 ^ w) (ops : List (Op × Nat × Nat)) :
    runTW w c ops Mach.init = runT c ops Mach.init ∧
    ∃ m, runTW w c ops Mach.init = .ok m ∧ MInv c m (specRunT c ops (fun _ => none)) := by
  have e := runTW_eq hN ops _ _ (minv_init c)
  obtain ⟨m, h1, h2⟩ := st_history_refines c ops
  exact ⟨e, m, by rw [e]; exact h1, h2⟩

/-- and for `N = 2^w` it is not (w = 2, N = 4): the fourth element wraps the counter to 0; a `push_back` that
    throws leaves that state alone and the next one constructs over slot 0 — the natural-number machine keeps
    4 elements and drops both; a `resize(4)` whose fourth construction throws is still fine (the counter reads 3) -/
theorem stw_witness :
    isFault .ctorOverLive (runTW 2 ⟨4, 1, false, true⟩ [(.new 0, 9, 9), (.resize 0 3, 9, 9), (.push 0 7, 9, 9),
      (.push 0 5, 0, 9), (.push 0 5, 9, 9)] Mach.init) = true ∧
    (match runTW 2 ⟨4, 1, false, true⟩ [(.new 0, 9, 9), (.resize 0 4, 3, 9)] Mach.init with
      | .ok m => (m.regs 0).map (·.size) | _ => none) = some 3 ∧
    (match runT ⟨4, 1, false, true⟩ [(.new 0, 9, 9), (.resize 0 3, 9, 9), (.push 0 7, 9, 9),
      (.push 0 5, 0, 9), (.push 0 5, 9, 9)] Mach.init with
      | .ok m => (m.regs 0).map (·.size) | _ => none) = some 4 := by decide

/-! ### element destructors that throw: the contract

The containers call `~T()` in `clear`, `resize`, `erase`, both assignments and
their own destructor, never inside a handler.  An element type whose destructor
throws is outside the contract: -/

/-- when no destructor throws, the loop with a throw point is the loop of the model -/
theorem dtor_nothrow_is_plain (v : SVec) (d : Nat) (h : v.size ≤ d) :
    clearD v d = (clear v).map (fun q => (q.1, q.2, false)) := by
  simp only [clearD, clear, destroyLoopD_eq, Nat.min_eq_left (Nat.le_succ_of_le h), decide_eq_false (Nat.not_lt.mpr h)]
  cases destroyLoop v.size 0 v.slots with
  | error e => rfl
  | ok q => simp [Except.map, bind, Except.bind, pure, Except.pure]

/-- ANY throwing element destructor inside `clear()` — any represented state, any
    position `d` — leaves `d + 1` dead elements below an unchanged `size()`: no
    reference sequence describes the container any more and its own destructor
    then destroys raw storage.  (Hence the requirement; the real program does
    not get there: `~T()` is `noexcept` unless declared otherwise, the harness
    checks `is_nothrow_destructible` of every instantiation, and the exception
    ends in `std::terminate`.) -/
theorem dtor_throw_breaks_invariant {N : Nat} {v : SVec} {es : List Elem} (h : Abs N v es) {d : Nat}
    (hd : d < es.length) :
    ∃ v' tr, clearD v d = .ok (v', tr, true) ∧ v'.size = es.length ∧ nD tr = d + 1 ∧
      (∀ p, p ≤ d → v'.slots[p]? = some .raw) ∧ (∀ es', ¬ Abs N v' es') ∧
      destructor v' = .error .dtorRaw := by
  have hs := h.size
  obtain ⟨s', tr, h1, _, h3, h4, h5⟩ := destroyLoop_spec (d + 1) 0 v.slots (fun p _ hp =>
    ⟨_, abs_obj h (show p < es.length by omega)⟩)
  have hraw : ∀ p, p ≤ d → s'[p]? = some .raw := by
    intro p hp; rw [h5 p]; simp; omega
  refine ⟨⟨s', v.size⟩, tr, ?_, hs, h3, hraw, ?_, ?_⟩
  · simp [clearD, destroyLoopD_eq, show min v.size (d + 1) = d + 1 by omega, show d < v.size by omega, h1, Except.map, bind,
      Except.bind, pure, Except.pure]
  · intro es' ha
    have hlen : 0 < es'.length := by have := ha.size; simp only [] at this; omega
    have := abs_obj ha hlen
    simp only [] at this
    rw [hraw 0 (by omega)] at this
    cases this
  · obtain ⟨k, hk⟩ : ∃ k, v.size = k + 1 := ⟨v.size - 1, by omega⟩
    simp [destructor, hk, destroyLoop, destroy, hraw 0 (by omega), bind, Except.bind]

example : Abs 2 ⟨[.obj (some 1), .obj (some 2)], 2⟩ [some 1, some 2] :=
  ⟨rfl, rfl, by decide, by intro p; match p with | 0 => rfl | 1 => rfl | (p + 2) => simp [slotAt]⟩

/-! ### unbounded_array: element constructors / the allocator throw -/

/-- `create_buffer(n)` (hence `resize(n)` and `unbounded_array(n)`) with the throw at
    ANY construction or a failing allocation: no fault; it throws exactly when the
    allocation fails or `b < n`; then the array is EMPTY (`nullptr`, size 0) and
    every element it had constructed is destroyed again (constructor calls =
    destructor calls); otherwise the block holds `n` value-initialised elements -/
theorem ua_create_throw (n b : Nat) (al : Bool) :
    ∃ a tr, uCreateX n b al = .ok (a, tr, !(al && decide (n ≤ b))) ∧
      UAbs a (if al = true ∧ n ≤ b then List.replicate n 0 else []) ∧
      nC tr = nD tr + (if al = true ∧ n ≤ b then n else 0) ∧ nC tr = (if al then min n b else 0) := by
  cases al with
  | false => exact ⟨⟨none, 0⟩, [], by simp [uCreateX], by simpa using uabs_nil, by simp [nC, nD], by simp [nC]⟩
  | true =>
    -- the first `min n b` slots of the fresh block are constructed
    obtain ⟨s', tr, h1, h2, h3, h4⟩ := abs_grow (abs_fresh n) (k := min n b) (by simp; omega)
    simp only [List.length_nil, Nat.zero_add, List.nil_append] at h1 h2
    by_cases hb : n ≤ b
    · have hmin : min n b = n := by omega
      rw [hmin] at h1 h2 h3
      have hdec : decide (b < n) = false := by simp; omega
      refine ⟨⟨some s', n⟩, tr, ?_, ?_, by simp [hb, h3, h4], by simp [h3, hmin]⟩
      · simp [uCreateX, valueInitLoopX_eq, hmin, h1, hdec, hb, Except.map, bind, Except.bind, pure, Except.pure]
      · simp only [hb, and_self, if_true]
        exact uabs_iff.mpr (by simpa using h2)
    · have hdec : decide (b < n) = true := by simp; omega
      obtain ⟨s2, tr2, g1, _, g3, g4⟩ := abs_truncate h2 (Nat.zero_le _)
      rw [Nat.sub_zero, List.length_replicate] at g1 g4
      refine ⟨⟨none, 0⟩, tr ++ tr2, ?_, by simpa [hb] using uabs_nil, by simp [hb, h3, h4, g3, g4], by simp [h3, g3]⟩
      simp [uCreateX, valueInitLoopX_eq, h1, hdec, hb, g1, Except.map, bind, Except.bind, pure, Except.pure]

/-- the code as it was: `m_size = size` before the loop and no clean-up — `size() == 2` over a block whose
    second slot is raw storage, destroyed by the destructor -/
theorem ua_create_throw_orig_witness :
    (match uCreateXOrig 2 1 with
      | .ok (a, _, t) => decide (a = ⟨some [.obj (some 0), .raw], 2⟩) && t
      | _ => false) = true ∧
    (match uInvalidate ⟨some [.obj (some 0), .raw], 2⟩ with
      | .error .dtorRaw => true
      | _ => false) = true := by decide

/-- `unbounded_array(n)` with the throw at any construction / a failing allocation: no fault; either the object
    exists and holds `n` value-initialised elements, or there is NO object and every element the call had
    constructed is destroyed again (nothing leaks) -/
theorem ua_ctor_throw (n b : Nat) (al : Bool) :
    ∃ x tr, uCtorX n b al = .ok (x, tr, !(al && decide (n ≤ b))) ∧
      (if al = true ∧ n ≤ b then ∃ a, x = some a ∧ UAbs a (List.replicate n 0) ∧ nC tr = nD tr + n
       else x = none ∧ nC tr = nD tr) := by
  obtain ⟨a, tr, h1, h2, h3, _⟩ := ua_create_throw n b al
  by_cases hc : al = true ∧ n ≤ b
  · have ht : (!(al && decide (n ≤ b))) = false := by simp [hc.1, hc.2]
    rw [ht] at h1
    rw [if_pos hc] at h2 h3
    refine ⟨some a, tr, by simp [uCtorX, h1, ht, bind, Except.bind, pure, Except.pure], ?_⟩
    rw [if_pos hc]
    exact ⟨a, rfl, h2, h3⟩
  · have ht : (!(al && decide (n ≤ b))) = true := by
      cases al <;> simp_all
    rw [ht] at h1
    rw [if_neg hc] at h3
    refine ⟨none, tr, by simp [uCtorX, h1, ht, bind, Except.bind, pure, Except.pure], ?_⟩
    rw [if_neg hc]
    exact ⟨rfl, by omega⟩

end Igris.C14
