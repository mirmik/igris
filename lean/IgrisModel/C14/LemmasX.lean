/-
  C14 — lemmas for `Exc.lean` (element constructors that throw).

  A loop with a throw point is the plain loop of `Model.lean` run for
  `min k b` iterations (`…X_eq`; a list loop is the plain loop over the first
  `b` values, `ilLoopX_eq`), so the closed forms of `Lemmas.lean` apply to what a
  failed call leaves behind.  Each member function is then shown to map the
  abstraction `Abs N v es` to the abstraction of the reference result *with the
  failure* (`spec…X`: a failed push changes nothing, a failed assignment keeps
  the prefix it had constructed, a failed resize the elements added so far).
  The constructors, which leave no object and nothing constructed when they
  fail, have their closed forms in `LedgerX.lean`.
-/
import IgrisModel.C14.Exc
import IgrisModel.C14.Lemmas

namespace Igris.C14

theorem valueInitLoopX_eq : ∀ (k pos : Nat) (s : Slots) (b : Nat),
    valueInitLoopX k pos s b =
      (valueInitLoop (min k b) pos s).map fun p => (p.1, p.2, min k b, decide (b < k))
  | 0, pos, s, b => by simp [valueInitLoopX, valueInitLoop, Except.map]
  | k + 1, pos, s, 0 => by simp [valueInitLoopX, valueInitLoop, Except.map]
  | k + 1, pos, s, b + 1 => by
      have ih := valueInitLoopX_eq k (pos + 1)
      rw [Nat.add_min_add_right]
      simp only [valueInitLoopX, valueInitLoop, bind, Except.bind]
      cases construct s pos (some 0) with
      | error e => rfl
      | ok s1 =>
        simp only [ih s1 b]
        cases valueInitLoop (min k b) (pos + 1) s1 with
        | error e => rfl
        | ok p => simp [Except.map, pure, Except.pure]

theorem copyLoopX_eq (src : Slots) : ∀ (k pos : Nat) (d : Slots) (b : Nat),
    copyLoopX src k pos d b =
      (copyLoop src (min k b) pos d).map fun p => (p.1, p.2, min k b, decide (b < k))
  | 0, pos, d, b => by simp [copyLoopX, copyLoop, Except.map]
  | k + 1, pos, d, 0 => by simp [copyLoopX, copyLoop, Except.map]
  | k + 1, pos, d, b + 1 => by
      have ih := copyLoopX_eq src k (pos + 1)
      rw [Nat.add_min_add_right]
      simp only [copyLoopX, copyLoop, bind, Except.bind]
      cases readObj src pos with
      | error e => rfl
      | ok e =>
        simp only []
        cases construct d pos e with
        | error e => rfl
        | ok d1 =>
          simp only [ih d1 b]
          cases copyLoop src (min k b) (pos + 1) d1 with
          | error e => rfl
          | ok p => simp [Except.map, pure, Except.pure]

theorem moveLoopX_eq (trk : Bool) : ∀ (k pos : Nat) (d s : Slots) (b : Nat),
    moveLoopX trk k pos d s b =
      (moveLoop trk (min k b) pos d s).map fun p => (p.1, p.2.1, p.2.2, min k b, decide (b < k))
  | 0, pos, d, s, b => by simp [moveLoopX, moveLoop, Except.map]
  | k + 1, pos, d, s, 0 => by simp [moveLoopX, moveLoop, Except.map]
  | k + 1, pos, d, s, b + 1 => by
      have ih := moveLoopX_eq trk k (pos + 1)
      rw [Nat.add_min_add_right]
      simp only [moveLoopX, moveLoop, bind, Except.bind]
      cases moveOut trk s pos with
      | error e => rfl
      | ok es =>
        obtain ⟨e, s1⟩ := es
        simp only []
        cases construct d pos e with
        | error e => rfl
        | ok d1 =>
          simp only [ih d1 s1 b]
          cases moveLoop trk (min k b) (pos + 1) d1 s1 with
          | error e => rfl
          | ok p => simp [Except.map, pure, Except.pure]

/-! ### reference semantics with a failure -/

def specPushX (N : Nat) (es : List Elem) (x : Nat) (b : Nat) : List Elem × Bool :=
  if es.length < N ∧ b = 0 then (es, true) else (specPush N es x, false)

def specResizeX (N : Nat) (es : List Elem) (n : Nat) (b : Nat) : List Elem × Bool :=
  if es.length < min n N ∧ b < min n N - es.length then (es ++ List.replicate b (some 0), true)
  else (specResize N es n, false)

theorem pushBackX_succ (N : Nat) (v : SVec) (x b : Nat) :
    pushBackX N v x (b + 1) = (pushBack N v x).map fun p => (p.1, p.2, false) := by
  simp only [pushBackX, pushBack]
  split
  · rfl
  · cases construct v.slots v.size (some x) <;> rfl

theorem pushBackX_spec {N : Nat} {v : SVec} {es : List Elem} (h : Abs N v es) (x b : Nat) :
    ∃ v' tr, pushBackX N v x b = .ok (v', tr, (specPushX N es x b).2) ∧ Abs N v' (specPushX N es x b).1 ∧
      nC tr + es.length = (specPushX N es x b).1.length ∧ nD tr = 0 := by
  have hs := h.size
  cases b with
  | zero =>
    by_cases hf : v.size ≥ N
    · have e : specPushX N es x 0 = (es, false) := by
        have : ¬ es.length < N := by omega
        simp [specPushX, specPush, this]
      exact ⟨v, [], by simp [pushBackX, hf, e], by rw [e]; exact h, by rw [e]; simp, rfl⟩
    · have e : specPushX N es x 0 = (es, true) := by
        have : es.length < N := by omega
        simp [specPushX, this]
      exact ⟨v, [], by simp [pushBackX, hf, e], by rw [e]; exact h, by rw [e]; simp, rfl⟩
  | succ b =>
    have e : specPushX N es x (b + 1) = (specPush N es x, false) := by simp [specPushX]
    obtain ⟨v', tr, p1, p2, p3, p4⟩ := pushBack_spec h x
    exact ⟨v', tr, by rw [e, pushBackX_succ, p1]; rfl, by rw [e]; exact p2, by rw [e]; exact p3, p4⟩

theorem resizeX_fail {N : Nat} {v : SVec} {es : List Elem} (h : Abs N v es) {n b : Nat}
    (hb : es.length < min n N ∧ b < min n N - es.length) :
    ∃ v' tr, resizeX N v n b = .ok (v', tr, true) ∧ Abs N v' (es ++ List.replicate b (some 0)) ∧
      nC tr = b ∧ nD tr = 0 := by
  have hs := h.size; have hl := h.le
  have hn : (if n ≥ N then N else n) = min n N := by split <;> omega
  obtain ⟨s1, tr1, a1, a2, a3, a4⟩ := abs_grow h (k := b) (by omega)
  refine ⟨⟨s1, v.size + b⟩, tr1, ?_, by rw [hs]; exact a2, a3, a4⟩
  simp only [resizeX, hn, valueInitLoopX_eq, show min (min n N - v.size) b = b by omega, a1, Except.map, bind,
    Except.bind, show decide (b < min n N - v.size) = true by simp; omega]
  rfl

theorem resizeX_nothrow {N : Nat} {v : SVec} {n b : Nat} (hb : (if n ≥ N then N else n) - v.size ≤ b) :
    resizeX N v n b = (resize N v n).map fun p => (p.1, p.2, false) := by
  simp only [resizeX, resize]
  generalize (if n ≥ N then N else n) = ns at hb ⊢
  simp only [valueInitLoopX_eq, Nat.min_eq_left hb, bind, Except.bind]
  cases valueInitLoop (ns - v.size) v.size v.slots with
  | error e => rfl
  | ok q =>
    simp only [Except.map, decide_eq_false (Nat.not_lt.mpr hb), Bool.false_eq_true, if_false]
    cases destroyLoop (v.size - ns) ns q.1 <;> rfl

theorem resizeX_spec {N : Nat} {v : SVec} {es : List Elem} (h : Abs N v es) (n b : Nat) :
    ∃ v' tr, resizeX N v n b = .ok (v', tr, (specResizeX N es n b).2) ∧ Abs N v' (specResizeX N es n b).1 ∧
      nC tr + es.length = nD tr + (specResizeX N es n b).1.length := by
  by_cases hb : es.length < min n N ∧ b < min n N - es.length
  · obtain ⟨v', tr, p1, p2, p3, p4⟩ := resizeX_fail h hb
    rw [show specResizeX N es n b = (es ++ List.replicate b (some 0), true) from if_pos hb]
    exact ⟨v', tr, p1, p2, by rw [p3, p4, List.length_append, List.length_replicate]; omega⟩
  · obtain ⟨v', tr, p1, p2, p3, p4⟩ := resize_spec h n
    rw [show specResizeX N es n b = (specResize N es n, false) from if_neg hb]
    have hs := h.size
    exact ⟨v', tr, by rw [resizeX_nothrow (by split <;> omega), p1]; rfl, p2,
      by rw [specResize_length]; omega⟩

theorem unwindCtor_spec {N : Nat} {v : SVec} {es : List Elem} (h : Abs N v es) (tr : Tr) :
    ∃ tr2, unwindCtor v tr = .ok (none, tr ++ tr2, true) ∧ nC tr2 = 0 ∧ nD tr2 = es.length := by
  obtain ⟨v', tr2, p1, _, p3, p4⟩ := destructor_spec h
  exact ⟨tr2, by simp [unwindCtor, p1, bind, Except.bind, pure, Except.pure], p3, p4⟩

theorem assignCopyX_spec {N : Nat} {v o : SVec} {es eo : List Elem} (hv : Abs N v es) (ho : Abs N o eo) (b : Nat) :
    ∃ v' tr, assignCopyX v o b = .ok (v', tr, decide (b < eo.length)) ∧ Abs N v' (eo.take b) ∧
      nC tr = min eo.length b ∧ nD tr = es.length := by
  have hs := ho.size
  obtain ⟨v1, tr1, a1, a2, a3, a4⟩ := clear_spec hv
  obtain ⟨d', tr, h1, h2, h3, h4⟩ := copyInto_prefix a2 ho (min eo.length b) (by omega)
  have ht : eo.take (min eo.length b) = eo.take b := by rw [Nat.min_comm, ← List.take_eq_take_min]
  rw [ht] at h2
  refine ⟨⟨d', min eo.length b⟩, tr1 ++ tr, ?_, h2, by simp [a3, h3], by simp [a4, h4]⟩
  simp only [assignCopyX, a1, copyLoopX_eq, hs, h1, Except.map, bind, Except.bind, pure, Except.pure]

theorem assignMoveX_spec (trk : Bool) {N : Nat} {v o : SVec} {es eo : List Elem} (hv : Abs N v es) (ho : Abs N o eo)
    (b : Nat) :
    ∃ v' o' tr, assignMoveX trk v o b = .ok (v', o', tr, decide (b < eo.length)) ∧ Abs N v' (eo.take b) ∧
      Abs N o' (if b < eo.length then movedPrefix trk b eo else []) ∧
      nC tr = min eo.length b ∧ nD tr = es.length + (if b < eo.length then 0 else eo.length) := by
  have hs := ho.size
  obtain ⟨v1, tr1, a1, a2, a3, a4⟩ := clear_spec hv
  obtain ⟨d', s', tr, h1, h2, h3, h4, h5⟩ := moveInto_prefix trk a2 ho (min eo.length b) (by omega)
  by_cases hb : b < eo.length
  · have hm : min eo.length b = b := by omega
    rw [hm] at h1 h2 h3 h4
    refine ⟨⟨d', b⟩, ⟨s', o.size⟩, tr1 ++ tr, ?_, h2, by simpa [hb] using h3, by simp [a3, h4, hm],
      by simp [a4, h5, hb]⟩
    have : decide (b < eo.length) = true := by simp; omega
    simp only [assignMoveX, a1, moveLoopX_eq, hs, hm, h1, Except.map, bind, Except.bind]
    simp [this, pure, Except.pure]
  · have hm : min eo.length b = eo.length := by omega
    rw [hm] at h1 h2 h3 h4
    rw [List.take_of_length_le (Nat.le_refl _)] at h2
    rw [movedPrefix_full trk (Nat.le_refl _)] at h3
    have ht : eo.take b = eo := List.take_of_length_le (by omega)
    obtain ⟨o', tr2, c1, c2, c3, c4⟩ := clear_spec h3
    rw [hs] at c1
    refine ⟨⟨d', eo.length⟩, o', tr1 ++ tr ++ tr2.map Ev.flip, ?_, by rw [ht]; exact h2, by simpa [hb] using c2,
      by simp [a3, h4, c3, hm], by simp [a4, h5, c4, hb]⟩
    have : decide (b < eo.length) = false := by simp; omega
    simp only [assignMoveX, a1, moveLoopX_eq, hs, hm, h1, Except.map, bind, Except.bind]
    simp [this, c1, pure, Except.pure]

theorem ilLoopX_eq (N : Nat) : ∀ (xs : List Nat) (v : SVec) (b : Nat),
    ilLoopX N xs v b =
      (rangeLoop N (xs.take b) v).map fun p => (p.1, p.2, decide (b < min xs.length (N - v.size))) := by
  intro xs
  induction xs with
  | nil => intro v b; simp [ilLoopX, rangeLoop, Except.map]
  | cons x xs ih =>
    intro v b
    by_cases hf : v.size ≥ N
    · rw [rangeLoop_full N _ hf, show N - v.size = 0 by omega]
      simp [ilLoopX, hf, Except.map]
    · cases b with
      | zero => simp [ilLoopX, hf, rangeLoop, Except.map]; omega
      | succ b =>
        simp only [ilLoopX, if_neg hf, List.take_succ_cons, rangeLoop, pushBack, bind, Except.bind, pure, Except.pure]
        cases construct v.slots v.size (some x) with
        | error e => rfl
        | ok s =>
          simp only [ih]
          have : decide (b < min xs.length (N - (v.size + 1))) = decide (b + 1 < min (xs.length + 1) (N - v.size)) :=
            decide_eq_decide.mpr (by omega)
          cases rangeLoop N (xs.take b) ⟨s, v.size + 1⟩ with
          | error e => rfl
          | ok q => simp [Except.map, this]

theorem rangeLoopX_eq_ilLoopX (N : Nat) : ∀ (xs : List Nat) (v : SVec) (b : Nat),
    rangeLoopX N xs v b = ilLoopX N xs v b := by
  have full : ∀ (xs : List Nat) (v : SVec) (b : Nat), v.size ≥ N → rangeLoopX N xs v b = .ok (v, [], false) := by
    intro xs
    induction xs with
    | nil => intro v b _; rfl
    | cons x xs ih => intro v b hf; simp only [rangeLoopX, if_pos hf, ih v b hf]
  intro xs
  induction xs with
  | nil => intro v b; rfl
  | cons x xs ih =>
    intro v b
    by_cases hf : v.size ≥ N
    · simp only [rangeLoopX, ilLoopX, if_pos hf, full xs v b hf]
    · simp only [rangeLoopX, ilLoopX, if_neg hf, ih]

theorem ilLoopX_spec (N : Nat) (xs : List Nat) (b : Nat) :
    ∃ v' tr, ilLoopX N xs ⟨rawStore N, 0⟩ b = .ok (v', tr, decide (b < min xs.length N)) ∧
      Abs N v' ((xs.take (min N b)).map some) ∧ nC tr = min (min xs.length N) b ∧ nD tr = 0 := by
  obtain ⟨v', tr, h1, h2, h3, h4⟩ := rangeLoop_spec N (xs.take b) _ [] (abs_fresh N)
  rw [foldl_specPush, List.take_take] at h2 h3
  refine ⟨v', tr, by rw [ilLoopX_eq, h1]; rfl, h2, ?_, h4⟩
  simp only [List.length_append, List.length_map, List.length_take, List.length_nil] at h3 ⊢
  omega

theorem rangeCtorX_eq_ilCtorX (N : Nat) (xs : List Nat) (b : Nat) : rangeCtorX N xs b = ilCtorX N xs b := by
  simp only [rangeCtorX, ilCtorX, rangeLoopX_eq_ilLoopX]

/-- `…X_eq` read backwards: a loop with a throw point that reports no throw is the plain loop (and so, below, a call
    that did not throw is the call of `Model.lean`) -/
theorem loopX_done {f : Nat → Except Fault (Slots × Tr)} {k b n : Nat} {s' : Slots} {tr : Tr}
    (h : (f (min k b)).map (fun p => (p.1, p.2, min k b, decide (b < k))) = .ok (s', tr, n, false)) :
    f k = .ok (s', tr) ∧ n = k := by
  obtain ⟨p, hv, e⟩ := map_ok h
  simp only [Prod.mk.injEq, decide_eq_false_iff_not] at e
  obtain ⟨h1, h2, h3, _⟩ := e
  have hk : min k b = k := by omega
  rw [hk] at hv
  exact ⟨by rw [hv, ← h1, ← h2], by omega⟩

theorem valueInitLoopX_done {k pos : Nat} {s s' : Slots} {b n : Nat} {tr : Tr}
    (h : valueInitLoopX k pos s b = .ok (s', tr, n, false)) : valueInitLoop k pos s = .ok (s', tr) ∧ n = k :=
  loopX_done (f := fun k => valueInitLoop k pos s) (valueInitLoopX_eq k pos s b ▸ h)

theorem copyLoopX_done {src : Slots} {k pos : Nat} {d d' : Slots} {b n : Nat} {tr : Tr}
    (h : copyLoopX src k pos d b = .ok (d', tr, n, false)) : copyLoop src k pos d = .ok (d', tr) ∧ n = k :=
  loopX_done (f := fun k => copyLoop src k pos d) (copyLoopX_eq src k pos d b ▸ h)

theorem copyCtorX_done {N : Nat} {o : SVec} {b : Nat} {w : Option SVec} {tr : Tr}
    (h : copyCtorX N o b = .ok (w, tr, false)) : ∃ v, w = some v ∧ copyCtor N o = .ok (v, tr) := by
  simp only [copyCtorX] at h
  obtain ⟨⟨d, tr1, n, t⟩, hl, h⟩ := bind_ok h
  cases t with
  | true =>
    simp only [if_true, unwindCtor] at h
    obtain ⟨q, _, h⟩ := bind_ok h
    cases h
  | false =>
    simp only [Bool.false_eq_true, if_false] at h
    cases h
    obtain ⟨e1, rfl⟩ := copyLoopX_done hl
    exact ⟨_, rfl, by simp [copyCtor, e1, bind, Except.bind, pure, Except.pure]⟩

theorem assignCopyX_done {v o v' : SVec} {b : Nat} {tr : Tr}
    (h : assignCopyX v o b = .ok (v', tr, false)) : assignCopy v o = .ok (v', tr) := by
  simp only [assignCopyX] at h
  obtain ⟨⟨v1, tr1⟩, hc, h⟩ := bind_ok h
  obtain ⟨⟨d, tr2, n, t⟩, hl, h⟩ := bind_ok h
  cases h
  obtain ⟨e1, rfl⟩ := copyLoopX_done hl
  simp [assignCopy, hc, e1, bind, Except.bind, pure, Except.pure]

theorem resizeX_done {N : Nat} {v v' : SVec} {n b : Nat} {tr : Tr}
    (h : resizeX N v n b = .ok (v', tr, false)) : resize N v n = .ok (v', tr) := by
  simp only [resizeX] at h
  obtain ⟨⟨s1, tr1, k, t⟩, hl, h⟩ := bind_ok h
  cases t with
  | true => simp only [if_true] at h; cases h
  | false =>
    simp only [Bool.false_eq_true, if_false] at h
    obtain ⟨⟨s2, tr2⟩, hd, h⟩ := bind_ok h
    cases h
    obtain ⟨e1, _⟩ := valueInitLoopX_done hl
    simp [resize, e1, hd, bind, Except.bind, pure, Except.pure]

end Igris.C14
