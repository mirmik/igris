/-
  C14 — the machine of K containers with throwing element constructors
  (`stepX`, `runX` of Exc.lean) against the reference machine with failures:
  refinement and ledger of one operation in one statement (`stepX_sim`).
-/
import IgrisModel.C14.LedgerX

namespace Igris.C14

set_option linter.unusedSimpArgs false
set_option linter.unusedVariables false

/-- reference semantics of one operation whose (b+1)-th element construction
    throws (second component: did it throw).  A constructor that throws leaves no
    object; an assignment / resize keeps the elements it had constructed; a
    push / emplace changes nothing; a throwing move has moved from the first `b`
    elements of its source, which keeps all of them. -/
def specStepX (c : Cfg) (sp : SpecRegs) (op : Op) (b : Nat) : SpecRegs × Bool :=
  match op with
  | .copy r s =>
      match decide (r < c.K ∧ s < c.K), sp r, sp s with
      | true, none, some eo => (setSpec sp r (if b < eo.length then none else some eo), decide (b < eo.length))
      | _, _, _ => (sp, false)
  | .move r s =>
      match decide (r < c.K ∧ s < c.K), sp r, sp s with
      | true, none, some eo =>
          (setSpec (setSpec sp s (some (if b < eo.length then movedPrefix c.trk b eo
                                        else if c.port then movedFrom c.trk eo else [])))
             r (if b < eo.length then none else some eo), decide (b < eo.length))
      | _, _, _ => (sp, false)
  | .range r xs =>
      match decide (r < c.K ∧ c.port = false), sp r with
      | true, none => (setSpec sp r (if b < min xs.length c.N then none else some (specCtor c.N xs)),
                       decide (b < min xs.length c.N))
      | _, _ => (sp, false)
  | .il r xs =>
      match decide (r < c.K ∧ c.port = false), sp r with
      | true, none => (setSpec sp r (if b < min xs.length c.N then none else some (specCtor c.N xs)),
                       decide (b < min xs.length c.N))
      | _, _ => (sp, false)
  | .acopy r s =>
      match decide (r < c.K ∧ s < c.K), sp r, sp s with
      | true, some _, some eo =>
          if r = s then (sp, false) else (setSpec sp r (some (eo.take b)), decide (b < eo.length))
      | _, _, _ => (sp, false)
  | .amove r s =>
      match decide (r < c.K ∧ s < c.K), sp r, sp s with
      | true, some _, some eo =>
          if r = s then (sp, false)
          else (setSpec (setSpec sp s (some (if b < eo.length then movedPrefix c.trk b eo else []))) r
                  (some (eo.take b)), decide (b < eo.length))
      | _, _, _ => (sp, false)
  | .push r x =>
      match decide (r < c.K), sp r with
      | true, some es => (setSpec sp r (some (specPushX c.N es x b).1), (specPushX c.N es x b).2)
      | _, _ => (sp, false)
  | .emplace r x =>
      match decide (r < c.K), sp r with
      | true, some es => (setSpec sp r (some (specPushX c.N es x b).1), (specPushX c.N es x b).2)
      | _, _ => (sp, false)
  | .resize r n =>
      match decide (r < c.K), sp r with
      | true, some es => (setSpec sp r (some (specResizeX c.N es n b).1), (specResizeX c.N es n b).2)
      | _, _ => (sp, false)
  | op => (specStep c sp op, false)

def specRunX (c : Cfg) : List (Op × Nat) → SpecRegs → SpecRegs
  | [], sp => sp
  | (op, b) :: ops, sp => specRunX c ops (specStepX c sp op b).1

/-- the lookup eliminators (`lookG`, `look0`) want the result of a step as one tuple `x`; this leads back from that
    form to the statement of `stepX_sim` / `stepT_sim` -/
theorem sim_of_triple {c : Cfg} {m : Mach} {y : Except Fault (Mach × Res × Bool)} {t : Bool} {sp' : SpecRegs}
    (H : ∃ x : Mach × Res × Bool, y = .ok x ∧ x.2.2 = t ∧ MInv c x.1 sp' ∧ StepReplay m x.1 x.2.1) :
    ∃ m' res, y = .ok (m', res, t) ∧ MInv c m' sp' ∧ StepReplay m m' res := by
  obtain ⟨x, hx, hf, hi, hr⟩ := H
  exact ⟨x.1, x.2.1, by rw [hx, ← hf], hi, hr⟩

theorem stepX_sim {c : Cfg} {m : Mach} {sp : SpecRegs} (h : MInv c m sp) (op : Op) (b : Nat) :
    ∃ m' res, stepX c m op b = .ok (m', res, (specStepX c sp op b).2) ∧ MInv c m' (specStepX c sp op b).1 ∧
      StepReplay m m' res := by
  refine sim_of_triple ?_
  have hR := regRel_V c.N
  have skip : ∃ x : Mach × Res × Bool, Except.ok (ε := Fault) (m, none, false) = .ok x ∧ x.2.2 = false ∧
      MInv c x.1 sp ∧ StepReplay m x.1 x.2.1 := ⟨_, rfl, rfl, h, rfl⟩
  -- the operations that construct nothing
  have plain : ∀ op, stepX c m op b = (do let (m', res) ← step c m op; pure (m', res, false)) →
      specStepX c sp op b = (specStep c sp op, false) → ∃ x : Mach × Res × Bool, stepX c m op b = .ok x ∧
        x.2.2 = (specStepX c sp op b).2 ∧ MInv c x.1 (specStepX c sp op b).1 ∧ StepReplay m x.1 x.2.1 := by
    intro op h1 h2
    obtain ⟨mr, p1, p2, p3⟩ := step_sim h op
    exact ⟨(mr.1, mr.2, false), by rw [h1, p1]; rfl, by rw [h2], by rw [h2]; exact p2, p3⟩
  cases op with
  | new r => exact plain _ rfl rfl
  | erase r i j => exact plain _ rfl rfl
  | clear r => exact plain _ rfl rfl
  | del r => exact plain _ rfl rfl
  | finish => exact plain _ rfl rfl
  | push r x | emplace r x =>
    simp only [stepX, specStepX]
    refine lookG hR (m.regs r) (sp r) (h.rel r) (fun hk v es hm hs ha => ?_) (fun _ _ _ => skip) (fun _ => skip)
    obtain ⟨v', tr, p1, p2, p3, p4⟩ := pushBackX_spec ha x b
    exact ⟨_, by simp only [p1]; rfl, rfl, minv_set1 h hk r tr (v' := some v') (es' := some _) p2
      (by rw [szOf_set_self, szOf_some hs]; omega), replay_set1 r hm (w := some v') (pushBackX_replay p1)⟩
  | resize r n =>
    simp only [stepX, specStepX]
    refine lookG hR (m.regs r) (sp r) (h.rel r) (fun hk v es hm hs ha => ?_) (fun _ _ _ => skip) (fun _ => skip)
    obtain ⟨v', tr, p1, p2, p3⟩ := resizeX_spec ha n b
    exact ⟨_, by simp only [p1]; rfl, rfl, minv_set1 h hk r tr (v' := some v') (es' := some _) p2
      (by rw [szOf_set_self, szOf_some hs]; exact p3), replay_set1 r hm (w := some v') (resizeX_replay p1)⟩
  | range r xs | il r xs =>
    simp only [stepX, specStepX, rangeCtorX_eq_ilCtorX]
    refine lookG hR (m.regs r) (sp r) (h.rel r) (fun _ _ _ _ _ _ => skip) (fun hk hm hs => ?_) (fun _ => skip)
    obtain ⟨w, tr, p1, p2, p3, p4, p5⟩ := ilCtorX_spec c.N xs b
    exact ⟨_, by simp only [p1]; rfl, rfl, minv_set1 h hk.1 r tr (v' := w) (es' := _) p2
      (by rw [szOf_set, szOf_none hs, p3, p4]
          by_cases hb : b < min xs.length c.N
          · simp only [hb, if_true]; omega
          · simp only [hb, if_false, specCtor, List.length_map, List.length_take]; omega), replay_set1 r hm p5⟩
  | copy r s =>
    simp only [stepX, specStepX]
    refine lookG hR (m.regs r) (sp r) (h.rel r) (fun _ _ _ _ _ _ => skip) (fun hk hm hs => ?_) (fun _ => skip)
    refine look0 hR (m.regs s) (sp s) (h.rel s) (fun o eo _ _ ho => ?_) (fun _ _ => skip)
    obtain ⟨w, tr, p1, p2, p3, p4, p5⟩ := copyCtorX_spec ho b
    exact ⟨_, by simp only [p1]; rfl, rfl, minv_set1 h hk.1 s tr (v' := w) (es' := _) p2
      (by rw [szOf_set, szOf_none hs, p3, p4]
          by_cases hb : b < eo.length
          · simp only [hb, if_true]; omega
          · simp only [hb, if_false]; omega), replay_set1 s hm p5⟩
  | move r s =>
    simp only [stepX, specStepX]
    refine lookG hR (m.regs r) (sp r) (h.rel r) (fun _ _ _ _ _ _ => skip) (fun hk hm hs => ?_) (fun _ => skip)
    refine look0 hR (m.regs s) (sp s) (h.rel s) (fun o eo hm2 hs2 ho => ?_) (fun _ _ => skip)
    have hne : r ≠ s := by intro e; subst e; rw [hm] at hm2; cases hm2
    obtain ⟨w, o', tr, p1, p2, p3, p4, p5, p6⟩ := moveCtorX_spec c.port c.trk ho b
    exact ⟨_, by simp only [p1]; rfl, rfl,
      minv_set2 h hk.1 hk.2 hne (er' := _) (es' := some _) tr (v' := w) (o' := some o') p2 p3
      (by rw [szOf_set, szOf_set, szOf_none hs, szOf_some hs2, p4, p5]
          by_cases hb : b < eo.length
          · simp only [hb, if_true, movedPrefix_length]; omega
          · cases c.port <;> simp [hb] <;> omega), replay_set2 hne hm hm2 p6⟩
  | acopy r s =>
    simp only [stepX, specStepX]
    refine lookG hR (m.regs r) (sp r) (h.rel r) (fun hk v es hm hs hv => ?_) (fun _ _ _ => skip) (fun _ => skip)
    refine look0 hR (m.regs s) (sp s) (h.rel s) (fun o eo _ hs2 ho => ?_) (fun _ _ => skip)
    simp only []
    by_cases hrs : r = s
    · rw [if_pos hrs, if_pos hrs]; exact ⟨_, rfl, rfl, minv_same h, rfl⟩
    · obtain ⟨v', tr, p1, p2, p3, p4⟩ := assignCopyX_spec hv ho b
      rw [if_neg hrs, if_neg hrs]
      exact ⟨_, by rw [p1]; rfl, rfl, minv_set1 h hk.1 s tr (v' := some v') (es' := some _) p2
        (by rw [szOf_set, szOf_some hs, p3, p4]; simp only [List.length_take]; omega),
        replay_set1 s hm (w := some v') (assignCopyX_replay p1)⟩
  | amove r s =>
    simp only [stepX, specStepX]
    refine lookG hR (m.regs r) (sp r) (h.rel r) (fun hk v es hm hs hv => ?_) (fun _ _ _ => skip) (fun _ => skip)
    refine look0 hR (m.regs s) (sp s) (h.rel s) (fun o eo hm2 hs2 ho => ?_) (fun _ _ => skip)
    simp only []
    by_cases hrs : r = s
    · rw [if_pos hrs, if_pos hrs]; exact ⟨_, rfl, rfl, minv_same h, rfl⟩
    · obtain ⟨v', o', tr, p1, p2, p3, p4, p5⟩ := assignMoveX_spec c.trk hv ho b
      rw [if_neg hrs, if_neg hrs]
      exact ⟨_, by rw [p1]; rfl, rfl, minv_set2 h hk.1 hk.2 hrs (er' := some _) (es' := some _) tr
        (v' := some v') (o' := some o') p2 p3
        (by rw [szOf_set, szOf_set, szOf_some hs, szOf_some hs2, p4, p5]
            by_cases hb : b < eo.length
            · simp only [hb, if_true, movedPrefix_length, List.length_take]; omega
            · simp only [hb, if_false, List.length_take, List.length_nil]; omega),
        replay_set2 hrs hm hm2 (w := some v') (assignMoveX_replay p1)⟩

theorem stepX_replay {c : Cfg} {m : Mach} {sp : SpecRegs} (hinv : MInv c m sp) {op : Op} {b : Nat} {m' : Mach} {res : Res}
    {t : Bool} (h : stepX c m op b = .ok (m', res, t)) : StepReplay m m' res := by
  obtain ⟨m1, res1, h1, _, h3⟩ := stepX_sim hinv op b
  rw [h1] at h; cases h; exact h3

theorem specRunX_append (c : Cfg) : ∀ (a b : List (Op × Nat)) (sp : SpecRegs),
    specRunX c (a ++ b) sp = specRunX c b (specRunX c a sp) := by
  intro a
  induction a with
  | nil => intro b sp; rfl
  | cons ob a ih => intro b sp; obtain ⟨op, k⟩ := ob; simp [specRunX, ih]

def runEvX (c : Cfg) : List (Op × Nat) → Mach → Except Fault (Mach × List GEv)
  | [], m => .ok (m, [])
  | (op, b) :: ops, m => do
      let (m', res, _) ← stepX c m op b
      let (m'', evs) ← runEvX c ops m'
      pure (m'', res.getD [] ++ evs)

theorem runEvX_replays {c : Cfg} : ∀ (ops : List (Op × Nat)) (m : Mach) (sp : SpecRegs), MInv c m sp →
    ∃ m' evs, runEvX c ops m = .ok (m', evs) ∧ runX c ops m = .ok m' ∧ MInv c m' (specRunX c ops sp) ∧
      replayG evs (occR m.regs) = some (occR m'.regs) := by
  intro ops
  induction ops with
  | nil => intro m sp h; exact ⟨m, [], rfl, rfl, h, rfl⟩
  | cons opb ops ih =>
    obtain ⟨op, b⟩ := opb
    intro m sp h
    obtain ⟨m1, res, h1, h2, hr⟩ := stepX_sim h op b
    obtain ⟨m', evs, g1, g0, g2, g3⟩ := ih m1 _ h2
    exact ⟨m', res.getD [] ++ evs, by simp [runEvX, h1, g1, bind, Except.bind, pure, Except.pure],
      by simp [runX, h1, g0, bind, Except.bind], g2, stepReplay_append hr g3⟩

theorem runX_refines {c : Cfg} : ∀ (ops : List (Op × Nat)) (m : Mach) (sp : SpecRegs), MInv c m sp →
    ∃ m', runX c ops m = .ok m' ∧ MInv c m' (specRunX c ops sp) := by
  intro ops m sp h
  obtain ⟨m', _, _, h1, h2, _⟩ := runEvX_replays ops m sp h
  exact ⟨m', h1, h2⟩

end Igris.C14
