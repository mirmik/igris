/-
  C14: static_vector and static_string against their reference semantics.  The loops that touch one
  slot per iteration share one pointwise closed form (`slotLoop_spec`); the member functions are
  composed from three facts about the abstraction `Abs N v es`: destroying a suffix (`abs_truncate`),
  constructing a suffix (`abs_extend`) and the in-place shift of `erase` (`shift_abs`).  The string functions are
  proved on the buffer written as a concatenation (`sabs_split`, `sabs_append`); every machine step and its reference
  share one case analysis of the register lookup (`lookG`).
-/
import IgrisModel.C14.Model
import IgrisModel.Common.ListScan

namespace Igris.C14

def nC (tr : Tr) : Nat := (tr.filter fun e => e.k = .ctor).length
def nD (tr : Tr) : Nat := (tr.filter fun e => e.k = .dtor).length

@[simp] theorem nC_nil : nC [] = 0 := rfl
@[simp] theorem nD_nil : nD [] = 0 := rfl
@[simp] theorem nC_append (a b : Tr) : nC (a ++ b) = nC a + nC b := by simp [nC]
@[simp] theorem nD_append (a b : Tr) : nD (a ++ b) = nD a + nD b := by simp [nD]
@[simp] theorem nC_cons (e : Ev) (t : Tr) : nC (e :: t) = (if e.k = .ctor then 1 else 0) + nC t := by
  simp [nC, List.filter_cons]; split <;> simp <;> omega
@[simp] theorem nD_cons (e : Ev) (t : Tr) : nD (e :: t) = (if e.k = .dtor then 1 else 0) + nD t := by
  simp [nD, List.filter_cons]; split <;> simp <;> omega
@[simp] theorem nC_flip (t : Tr) : nC (t.map Ev.flip) = nC t := by
  induction t with
  | nil => rfl
  | cons e t ih => simp [Ev.flip, ih]
@[simp] theorem nD_flip (t : Tr) : nD (t.map Ev.flip) = nD t := by
  induction t with
  | nil => rfl
  | cons e t ih => simp [Ev.flip, ih]

theorem construct_ok {s : Slots} {i : Nat} (e : Elem) (h : s[i]? = some .raw) :
    construct s i e = .ok (s.set i (.obj e)) := by simp [construct, h]

theorem destroy_ok {s : Slots} {i : Nat} {e : Elem} (h : s[i]? = some (.obj e)) :
    destroy s i = .ok (s.set i .raw) := by simp [destroy, h]

theorem readObj_ok {s : Slots} {i : Nat} {e : Elem} (h : s[i]? = some (.obj e)) :
    readObj s i = .ok e := by simp [readObj, h]

theorem assign_ok {s : Slots} {i : Nat} {e0 : Elem} (e : Elem) (h : s[i]? = some (.obj e0)) :
    assign s i e = .ok (s.set i (.obj e)) := by simp [assign, h]

theorem moveOut_ok (trk : Bool) {s : Slots} {i : Nat} {e : Elem} (h : s[i]? = some (.obj e)) :
    moveOut trk s i = .ok (e, if trk then s.set i (.obj none) else s) := by simp [moveOut, h]

theorem bind_ok {α β : Type} {x : Except Fault α} {f : α → Except Fault β} {b : β}
    (h : (x >>= f) = .ok b) : ∃ a, x = .ok a ∧ f a = .ok b := by
  cases x with
  | error e => cases h
  | ok a => exact ⟨a, rfl, h⟩

theorem map_ok {α β : Type} {x : Except Fault α} {f : α → β} {b : β}
    (h : x.map f = .ok b) : ∃ a, x = .ok a ∧ f a = b := by
  cases x with
  | error e => cases h
  | ok a => exact ⟨a, rfl, Except.ok.inj h⟩

/-- what `moveOut` leaves in the source -/
theorem movedSlot_get (trk : Bool) (s : Slots) (i p : Nat) (hi : i < s.length) :
    (if trk then s.set i (.obj none) else s)[p]? = if p = i ∧ trk = true then some (.obj none) else s[p]? := by
  cases trk
  · simp
  · by_cases hp : p = i
    · subst hp; simp [hi]
    · simp [hp, List.getElem?_set_ne (Ne.symm hp)]

/-- the induction step of every loop that writes `g pos`, `g (pos+1)`, … : one more slot in front -/
theorem getElem?_range_step {α} {s s' : List α} {pos k : Nat} {x : α} {g : Nat → Option α}
    (hlt : pos < s.length) (hx : g pos = some x)
    (h : ∀ p, s'[p]? = if pos + 1 ≤ p ∧ p < pos + 1 + k then g p else (s.set pos x)[p]?) (p : Nat) :
    s'[p]? = if pos ≤ p ∧ p < pos + (k + 1) then g p else s[p]? := by
  rw [h p]
  by_cases hp : p = pos
  · subst hp; rw [if_neg (by omega), if_pos (by omega), List.getElem?_set_self hlt, hx]
  · rw [List.getElem?_set_ne (Ne.symm hp)]
    by_cases h6 : pos + 1 ≤ p ∧ p < pos + 1 + k
    · rw [if_pos h6, if_pos (by omega)]
    · rw [if_neg h6, if_neg (by omega)]

theorem slotLoop_spec {loop : Nat → Nat → Slots → Except Fault (Slots × Tr)}
    {prim : Slots → Nat → Except Fault Slots} {kind : EvK}
    (h0 : ∀ pos s, loop 0 pos s = .ok (s, []))
    (hs : ∀ k pos s, loop (k + 1) pos s = (do
      let s ← prim s pos
      let (s, tr) ← loop k (pos + 1) s
      pure (s, ⟨false, kind, pos⟩ :: tr)))
    {ok : Nat → Option Slot → Prop} {g : Nat → Option Slot}
    (hp : ∀ s p, ok p s[p]? → p < s.length ∧ ∃ x, g p = some x ∧ prim s p = .ok (s.set p x)) :
    ∀ (k pos : Nat) (s : Slots), (∀ p, pos ≤ p → p < pos + k → ok p s[p]?) →
    ∃ s' tr, loop k pos s = .ok (s', tr) ∧ nC tr = (if kind = .ctor then k else 0) ∧
      nD tr = (if kind = .dtor then k else 0) ∧ s'.length = s.length ∧
      ∀ p, s'[p]? = if pos ≤ p ∧ p < pos + k then g p else s[p]? := by
  intro k
  induction k with
  | zero => intro pos s _; exact ⟨s, [], h0 pos s, by simp, by simp, rfl, by intro p; rw [if_neg (by omega)]⟩
  | succ k ih =>
    intro pos s h
    obtain ⟨hlt, x, hx, hprim⟩ := hp s pos (h pos (Nat.le_refl _) (by omega))
    obtain ⟨s', tr, h1, h2, h3, h4, h5⟩ := ih (pos + 1) (s.set pos x) (by
      intro p hp1 hp2
      rw [List.getElem?_set_ne (by omega)]; exact h p (by omega) (by omega))
    refine ⟨s', ⟨false, kind, pos⟩ :: tr, by rw [hs, hprim]; simp only [bind, Except.bind, h1]; rfl, ?_, ?_,
      by rw [h4, List.length_set], getElem?_range_step hlt hx h5⟩
    · rw [nC_cons, h2]; show (if kind = .ctor then 1 else 0) + _ = _
      by_cases hk : kind = .ctor
      · rw [if_pos hk, if_pos hk, if_pos hk, Nat.add_comm]
      · rw [if_neg hk, if_neg hk, if_neg hk]
    · rw [nD_cons, h3]; show (if kind = .dtor then 1 else 0) + _ = _
      by_cases hk : kind = .dtor
      · rw [if_pos hk, if_pos hk, if_pos hk, Nat.add_comm]
      · rw [if_neg hk, if_neg hk, if_neg hk]

theorem destroyLoop_spec : ∀ (k pos : Nat) (s : Slots),
    (∀ p, pos ≤ p → p < pos + k → ∃ e, s[p]? = some (.obj e)) →
    ∃ s' tr, destroyLoop k pos s = .ok (s', tr) ∧ nC tr = 0 ∧ nD tr = k ∧ s'.length = s.length ∧
      ∀ p, s'[p]? = if pos ≤ p ∧ p < pos + k then some .raw else s[p]? :=
  slotLoop_spec (kind := .dtor) (prim := destroy) (ok := fun _ o => ∃ e, o = some (.obj e)) (g := fun _ => some .raw)
    (fun _ _ => rfl) (fun _ _ _ => rfl) (fun _ _ ⟨_, he⟩ => ⟨lt_of_getElem?_some he, _, rfl, destroy_ok he⟩)

theorem valueInitLoop_spec : ∀ (k pos : Nat) (s : Slots),
    (∀ p, pos ≤ p → p < pos + k → s[p]? = some .raw) →
    ∃ s' tr, valueInitLoop k pos s = .ok (s', tr) ∧ nC tr = k ∧ nD tr = 0 ∧ s'.length = s.length ∧
      ∀ p, s'[p]? = if pos ≤ p ∧ p < pos + k then some (.obj (some 0)) else s[p]? :=
  slotLoop_spec (kind := .ctor) (prim := fun s p => construct s p (some 0)) (ok := fun _ o => o = some .raw)
    (g := fun _ => some (.obj (some 0)))
    (fun _ _ => rfl) (fun _ _ _ => rfl) (fun _ _ hr => ⟨lt_of_getElem?_some hr, _, rfl, construct_ok _ hr⟩)

theorem copyLoop_spec (src : Slots) (k pos : Nat) (d : Slots)
    (h : ∀ p, pos ≤ p → p < pos + k → d[p]? = some .raw ∧ ∃ e, src[p]? = some (.obj e)) :
    ∃ d' tr, copyLoop src k pos d = .ok (d', tr) ∧ nC tr = k ∧ nD tr = 0 ∧ d'.length = d.length ∧
      ∀ p, d'[p]? = if pos ≤ p ∧ p < pos + k then src[p]? else d[p]? :=
  slotLoop_spec (loop := copyLoop src) (kind := .ctor)
    (prim := fun d p => readObj src p >>= construct d p)
    (ok := fun p o => o = some .raw ∧ ∃ e, src[p]? = some (.obj e)) (g := fun p => src[p]?)
    (fun _ _ => rfl) (fun k pos d => by simp only [copyLoop]; cases readObj src pos <;> rfl)
    (fun d p ⟨hr, e, he⟩ =>
      ⟨lt_of_getElem?_some hr, _, he, by simp [readObj_ok he, construct_ok _ hr, bind, Except.bind]⟩) k pos d h

theorem moveLoop_spec (trk : Bool) : ∀ (k pos : Nat) (d s : Slots),
    (∀ p, pos ≤ p → p < pos + k → d[p]? = some .raw ∧ ∃ e, s[p]? = some (.obj e)) →
    ∃ d' s' tr, moveLoop trk k pos d s = .ok (d', s', tr) ∧ nC tr = k ∧ nD tr = 0 ∧
      d'.length = d.length ∧ s'.length = s.length ∧
      (∀ p, d'[p]? = if pos ≤ p ∧ p < pos + k then s[p]? else d[p]?) ∧
      (∀ p, s'[p]? = if pos ≤ p ∧ p < pos + k ∧ trk = true then some (.obj none) else s[p]?) := by
  intro k
  induction k with
  | zero =>
    intro pos d s _
    exact ⟨d, s, [], rfl, rfl, rfl, rfl, rfl, fun p => by rw [if_neg (by omega)], fun p => by rw [if_neg (by omega)]⟩
  | succ k ih =>
    intro pos d s h
    obtain ⟨hr, e, he⟩ := h pos (Nat.le_refl _) (by omega)
    have hlt := lt_of_getElem?_some hr
    have hlts := lt_of_getElem?_some he
    have hs1 := movedSlot_get trk s pos
    have hl1 : (if trk then s.set pos (.obj none) else s).length = s.length := by cases trk <;> simp
    generalize hg : (if trk then s.set pos (.obj none) else s) = s1 at hs1 hl1
    obtain ⟨d', s', tr, h1, h2, h3, h4, h4', h5, h6⟩ := ih (pos + 1) (d.set pos (.obj e)) s1 (by
      intro p hp1 hp2
      rw [List.getElem?_set_ne (by omega), hs1 p hlts, if_neg (by omega)]
      exact h p (by omega) (by omega))
    refine ⟨d', s', ⟨true, .mv, pos⟩ :: ⟨false, .ctor, pos⟩ :: tr,
      by simp only [moveLoop, moveOut_ok trk he, construct_ok _ hr, hg, h1, bind, Except.bind]; rfl,
      by simp [h2]; omega, by simp [h3], by rw [h4, List.length_set], by rw [h4', hl1], ?_, ?_⟩
    · refine getElem?_range_step hlt he fun p => ?_
      rw [h5 p]; split
      · rw [hs1 p hlts, if_neg (by omega)]
      · rfl
    · intro p
      rw [h6 p, hs1 p hlts]
      by_cases ht : trk = true
      · by_cases hp : p = pos
        · rw [if_neg (fun c => by omega), if_pos ⟨hp, ht⟩, if_pos ⟨by omega, by omega, ht⟩]
        · by_cases hq : pos + 1 ≤ p ∧ p < pos + 1 + k
          · rw [if_pos ⟨hq.1, hq.2, ht⟩, if_pos ⟨by omega, by omega, ht⟩]
          · rw [if_neg (fun c => hq ⟨c.1, c.2.1⟩), if_neg (fun c => hp c.1), if_neg (fun c => by omega)]
      · rw [if_neg (fun c => ht c.2.2), if_neg (fun c => ht c.2), if_neg (fun c => ht c.2.2)]

/-- `std::move(first, last, d_first)` towards the front (`dst < src`), as `erase` calls it -/
theorem shiftLoop_spec (trk : Bool) : ∀ (k src dst : Nat) (s : Slots), dst < src →
    (∀ p, dst ≤ p → p < src + k → ∃ e, s[p]? = some (.obj e)) →
    ∃ s' tr, shiftLoop trk k src dst s = .ok (s', tr) ∧ nC tr = 0 ∧ nD tr = 0 ∧ s'.length = s.length ∧
      (∀ p, dst ≤ p → p < dst + k → s'[p]? = s[p + (src - dst)]?) ∧
      (∀ p, dst + k ≤ p → src ≤ p → p < src + k → s'[p]? = if trk then some (.obj none) else s[p]?) ∧
      (∀ p, p < dst ∨ (dst + k ≤ p ∧ p < src) ∨ src + k ≤ p → s'[p]? = s[p]?) := by
  intro k
  induction k with
  | zero =>
    intro src dst s _ _
    exact ⟨s, [], rfl, rfl, rfl, rfl, fun p _ _ => by omega, fun p _ _ _ => by omega, fun _ _ => rfl⟩
  | succ k ih =>
    intro src dst s hlt h
    obtain ⟨e, he⟩ := h src (by omega) (by omega)
    obtain ⟨e0, he0⟩ := h dst (Nat.le_refl _) (by omega)
    have hl1 := lt_of_getElem?_some he
    have hl0 := lt_of_getElem?_some he0
    have hs1 := movedSlot_get trk s src
    have hlen1 : (if trk then s.set src (.obj none) else s).length = s.length := by cases trk <;> simp
    generalize hg : (if trk then s.set src (.obj none) else s) = s1 at hs1 hlen1
    have hd : s1[dst]? = some (.obj e0) := by rw [hs1 dst hl1, if_neg (fun c => by omega), he0]
    -- the storage after one `*d = std::move(*s)`, compared with `s`
    have hs2 : ∀ q, q ≠ dst → q ≠ src → (s1.set dst (.obj e))[q]? = s[q]? := fun q h1 h2 => by
      rw [List.getElem?_set_ne (Ne.symm h1), hs1 q hl1, if_neg (fun c => h2 c.1)]
    have hs2s : (s1.set dst (.obj e))[src]? = if trk then some (.obj none) else s[src]? := by
      rw [List.getElem?_set_ne (by omega), hs1 src hl1]; cases trk <;> simp
    obtain ⟨s', tr, h1, h2, h3, h4, z1, z2, z3⟩ := ih (src + 1) (dst + 1) (s1.set dst (.obj e)) (by omega) (by
      intro p hp1 hp2
      by_cases hps : p = src
      · rw [hps, hs2s]; cases trk
        · exact ⟨e, he⟩
        · exact ⟨none, rfl⟩
      · rw [hs2 p (by omega) hps]; exact h p (by omega) (by omega))
    refine ⟨s', ⟨false, .mv, src⟩ :: ⟨false, .asg, dst⟩ :: tr,
      by simp only [shiftLoop, moveOut_ok trk he, hg, assign_ok _ hd, h1, bind, Except.bind]; rfl,
      by simp [h2], by simp [h3], by rw [h4, List.length_set, hlen1], fun p hp1 hp2 => ?_, fun p hp1 hp2 hp3 => ?_,
      fun p hp => ?_⟩
    · by_cases hpd : p = dst
      · rw [hpd, z3 dst (by omega), List.getElem?_set_self (by omega), show dst + (src - dst) = src by omega, he]
      · rw [z1 p (by omega) (by omega), show p + (src + 1 - (dst + 1)) = p + (src - dst) by omega,
          hs2 _ (by omega) (by omega)]
    · by_cases hps : p = src
      · rw [hps, z3 src (by omega), hs2s]
      · rw [z2 p (by omega) (by omega) (by omega), hs2 p (by omega) hps]
    · rw [z3 p (by omega), hs2 p (by omega) (by omega)]

/-! ## abstraction: the storage holds the objects of `es`, then raw slots up to N -/

def slotAt (N : Nat) (es : List Elem) (p : Nat) : Option Slot :=
  if p < es.length then (es[p]?).map .obj else if p < N then some .raw else none

structure Abs (N : Nat) (v : SVec) (es : List Elem) : Prop where
  len : v.slots.length = N
  size : v.size = es.length
  le : es.length ≤ N
  pt : ∀ p, v.slots[p]? = slotAt N es p

theorem slotAt_lt {N : Nat} {es : List Elem} {p : Nat} (h : p < es.length) :
    slotAt N es p = some (.obj es[p]) := by
  simp [slotAt, h]

theorem slotAt_raw {N : Nat} {es : List Elem} {p : Nat} (h1 : es.length ≤ p) (h2 : p < N) :
    slotAt N es p = some .raw := by
  simp [slotAt, h2]; omega

theorem abs_obj {N : Nat} {v : SVec} {es : List Elem} (h : Abs N v es) {p : Nat} (hp : p < es.length) :
    v.slots[p]? = some (.obj es[p]) := by rw [h.pt p, slotAt_lt hp]

theorem abs_raw {N : Nat} {v : SVec} {es : List Elem} (h : Abs N v es) {p : Nat} (h1 : es.length ≤ p) (h2 : p < N) :
    v.slots[p]? = some .raw := by rw [h.pt p, slotAt_raw h1 h2]

theorem abs_of_zones {N : Nat} {s : Slots} {n : Nat} {es : List Elem} (hlen : s.length = N) (hn : n = es.length)
    (hle : es.length ≤ N) (hobj : ∀ p (hp : p < es.length), s[p]? = some (.obj es[p]))
    (hraw : ∀ p, es.length ≤ p → p < N → s[p]? = some .raw) : Abs N ⟨s, n⟩ es := by
  refine ⟨hlen, hn, hle, fun p => ?_⟩
  by_cases h1 : p < es.length
  · rw [slotAt_lt h1]; exact hobj p h1
  · by_cases h2 : p < N
    · rw [slotAt_raw (by omega) h2]; exact hraw p (by omega) h2
    · simp only [slotAt, if_neg h1, if_neg h2]
      exact List.getElem?_eq_none_iff.mpr (by show s.length ≤ p; omega)

theorem rawStore_getElem? (N p : Nat) : (rawStore N)[p]? = if p < N then some .raw else none := by
  simp [rawStore, List.getElem?_replicate]

theorem abs_fresh (N : Nat) : Abs N ⟨rawStore N, 0⟩ [] :=
  ⟨by simp [rawStore], rfl, by simp, by intro p; simp [rawStore_getElem?, slotAt]⟩

theorem Abs.contents {N : Nat} {v : SVec} {es : List Elem} (h : Abs N v es) : v.contents = es := by
  apply List.ext_getElem?
  intro p
  simp only [SVec.contents, List.getElem?_map, List.getElem?_take]
  have hsz := h.size
  by_cases hp : p < es.length
  · rw [if_pos (by omega), abs_obj h hp, List.getElem?_eq_getElem hp]; rfl
  · rw [if_neg (by omega), List.getElem?_eq_none_iff.mpr (by omega)]; rfl

theorem abs_truncate {N : Nat} {v : SVec} {es : List Elem} (h : Abs N v es) {n : Nat} (hn : n ≤ es.length) :
    ∃ s' tr, destroyLoop (es.length - n) n v.slots = .ok (s', tr) ∧ Abs N ⟨s', n⟩ (es.take n) ∧
      nC tr = 0 ∧ nD tr = es.length - n := by
  have hl := h.le
  have hlen : (es.take n).length = n := by rw [List.length_take]; omega
  obtain ⟨s', tr, h1, h2, h3, h4, h5⟩ := destroyLoop_spec (es.length - n) n v.slots (fun p _ hp =>
    ⟨_, abs_obj h (show p < es.length by omega)⟩)
  refine ⟨s', tr, h1, abs_of_zones (by rw [h4, h.len]) hlen.symm (by omega) (fun p hp => ?_) (fun p hp1 hp2 => ?_), h2, h3⟩
  · rw [h5 p, if_neg (by omega), abs_obj h (by omega), List.getElem_take]
  · rw [h5 p]
    by_cases hq : p < es.length
    · rw [if_pos (by omega)]
    · rw [if_neg (by omega), abs_raw h (by omega) hp2]

theorem abs_extend {N : Nat} {v : SVec} {es ys : List Elem} (h : Abs N v es) {s' : Slots}
    (hle : es.length + ys.length ≤ N) (hlen : s'.length = v.slots.length)
    (hnew : ∀ p (hp : p < ys.length), s'[es.length + p]? = some (.obj ys[p]))
    (hold : ∀ p, p < es.length ∨ es.length + ys.length ≤ p → s'[p]? = v.slots[p]?) :
    Abs N ⟨s', es.length + ys.length⟩ (es ++ ys) := by
  refine abs_of_zones (by rw [hlen, h.len]) (List.length_append).symm (by rw [List.length_append]; exact hle)
    (fun p hp => ?_) (fun p hp1 hp2 => ?_)
  · by_cases hq : p < es.length
    · rw [hold p (.inl hq), abs_obj h hq, List.getElem_append_left hq]
    · rw [List.length_append] at hp
      have := hnew (p - es.length) (by omega)
      rw [show es.length + (p - es.length) = p by omega] at this
      rw [this, List.getElem_append_right (by omega)]
  · rw [List.length_append] at hp1
    rw [hold p (.inr hp1), abs_raw h (by omega) hp2]

theorem abs_overwrite {N : Nat} {v : SVec} {es ys : List Elem} (h : Abs N v es) {s' : Slots} (hl : ys.length = es.length)
    (hlen : s'.length = v.slots.length) (hnew : ∀ p (hp : p < ys.length), s'[p]? = some (.obj ys[p]))
    (hold : ∀ p, es.length ≤ p → s'[p]? = v.slots[p]?) : Abs N ⟨s', v.size⟩ ys :=
  abs_of_zones (by rw [hlen, h.len]) (by rw [h.size, hl]) (by rw [hl]; exact h.le) hnew
    (fun p h1 h2 => by rw [hold p (by omega), abs_raw h (by omega) h2])

theorem clear_spec {N : Nat} {v : SVec} {es : List Elem} (h : Abs N v es) :
    ∃ v' tr, clear v = .ok (v', tr) ∧ Abs N v' [] ∧ nC tr = 0 ∧ nD tr = es.length := by
  obtain ⟨s', tr, h1, h2, h3, h4⟩ := abs_truncate h (Nat.zero_le _)
  rw [Nat.sub_zero, ← h.size] at h1
  exact ⟨⟨s', 0⟩, tr, by simp only [clear, h1, bind, Except.bind]; rfl, h2, h3, h4⟩

theorem destructor_spec {N : Nat} {v : SVec} {es : List Elem} (h : Abs N v es) :
    ∃ v' tr, destructor v = .ok (v', tr) ∧ Abs N v' [] ∧ nC tr = 0 ∧ nD tr = es.length := clear_spec h

theorem abs_nil_rawStore {N : Nat} {v : SVec} (h : Abs N v []) : v.slots = rawStore N ∧ v.size = 0 := by
  refine ⟨?_, h.size⟩
  apply List.ext_getElem?
  intro p
  rw [h.pt p, rawStore_getElem?]; simp [slotAt]

def movedFrom (trk : Bool) (es : List Elem) : List Elem := if trk then es.map fun _ => none else es

@[simp] theorem movedFrom_length (trk : Bool) (es : List Elem) : (movedFrom trk es).length = es.length := by
  simp [movedFrom]; split <;> simp

def movedPrefix (trk : Bool) (m : Nat) (es : List Elem) : List Elem :=
  if trk then (es.take m).map (fun _ => none) ++ es.drop m else es

@[simp] theorem movedPrefix_length (trk : Bool) (m : Nat) (es : List Elem) :
    (movedPrefix trk m es).length = es.length := by
  simp only [movedPrefix]; split
  · simp; omega
  · rfl

theorem movedPrefix_getElem (trk : Bool) (m : Nat) (es : List Elem) (p : Nat) (hp : p < es.length) :
    (movedPrefix trk m es)[p]'(by rw [movedPrefix_length]; exact hp) = if p < m ∧ trk = true then none else es[p] := by
  cases trk
  · simp [movedPrefix]
  · simp only [movedPrefix, if_true, and_true]
    by_cases h1 : p < m
    · rw [List.getElem_append_left (by simp; omega), if_pos h1]; simp
    · rw [List.getElem_append_right (by simp; omega), if_neg h1]; simp; congr 1; omega

theorem movedPrefix_full (trk : Bool) {m : Nat} {es : List Elem} (h : es.length ≤ m) :
    movedPrefix trk m es = movedFrom trk es := by
  simp [movedPrefix, movedFrom, List.take_of_length_le h, List.drop_of_length_le h]

theorem copyInto_prefix {N : Nat} {d o : SVec} {eo : List Elem} (hd : Abs N d []) (ho : Abs N o eo)
    (m : Nat) (hm : m ≤ eo.length) :
    ∃ d' tr, copyLoop o.slots m 0 d.slots = .ok (d', tr) ∧ Abs N ⟨d', m⟩ (eo.take m) ∧ nC tr = m ∧ nD tr = 0 := by
  have hle := ho.le
  have hlen : (eo.take m).length = m := by rw [List.length_take]; omega
  obtain ⟨d', tr, h1, h2, h3, h4, h5⟩ := copyLoop_spec o.slots m 0 d.slots (fun p _ hp =>
    ⟨abs_raw hd (Nat.zero_le _) (by omega), _, abs_obj ho (show p < eo.length by omega)⟩)
  refine ⟨d', tr, h1, abs_of_zones (by rw [h4, hd.len]) hlen.symm (by omega) (fun p hp => ?_) (fun p hp1 hp2 => ?_), h2, h3⟩
  · rw [h5 p, if_pos (by omega), abs_obj ho (by omega), List.getElem_take]
  · rw [h5 p, if_neg (by omega), abs_raw hd (Nat.zero_le _) hp2]

theorem moveInto_prefix (trk : Bool) {N : Nat} {d o : SVec} {eo : List Elem} (hd : Abs N d []) (ho : Abs N o eo)
    (m : Nat) (hm : m ≤ eo.length) :
    ∃ d' s' tr, moveLoop trk m 0 d.slots o.slots = .ok (d', s', tr) ∧ Abs N ⟨d', m⟩ (eo.take m) ∧
      Abs N ⟨s', o.size⟩ (movedPrefix trk m eo) ∧ nC tr = m ∧ nD tr = 0 := by
  have hle := ho.le
  have hlen : (eo.take m).length = m := by rw [List.length_take]; omega
  obtain ⟨d', s', tr, h1, h2, h3, h4, h4', h5, h6⟩ := moveLoop_spec trk m 0 d.slots o.slots (fun p _ hp =>
    ⟨abs_raw hd (Nat.zero_le _) (by omega), _, abs_obj ho (show p < eo.length by omega)⟩)
  refine ⟨d', s', tr, h1,
    abs_of_zones (by rw [h4, hd.len]) hlen.symm (by omega) (fun p hp => ?_) (fun p hp1 hp2 => ?_),
    abs_of_zones (by rw [h4', ho.len]) (by rw [movedPrefix_length, ho.size]) (by rw [movedPrefix_length]; exact hle)
      (fun p hp => ?_) (fun p hp1 hp2 => ?_), h2, h3⟩
  · rw [h5 p, if_pos (by omega), abs_obj ho (by omega), List.getElem_take]
  · rw [h5 p, if_neg (by omega), abs_raw hd (Nat.zero_le _) hp2]
  · rw [movedPrefix_length] at hp
    rw [h6 p, movedPrefix_getElem trk m eo p hp]
    by_cases hc : p < m ∧ trk = true
    · rw [if_pos ⟨Nat.zero_le _, by omega, hc.2⟩, if_pos hc]
    · rw [if_neg (fun c => hc ⟨by omega, c.2.2⟩), if_neg hc, abs_obj ho hp]
  · rw [movedPrefix_length] at hp1
    rw [h6 p, if_neg (fun c => by omega), abs_raw ho hp1 hp2]

theorem copyCtor_spec {N : Nat} {o : SVec} {eo : List Elem} (ho : Abs N o eo) :
    ∃ v tr, copyCtor N o = .ok (v, tr) ∧ Abs N v eo ∧ nC tr = eo.length ∧ nD tr = 0 := by
  obtain ⟨d', tr, h1, h2, h3, h4⟩ := copyInto_prefix (abs_fresh N) ho eo.length (Nat.le_refl _)
  rw [List.take_length] at h2
  exact ⟨⟨d', eo.length⟩, tr, by simp only [copyCtor, ho.size, h1, bind, Except.bind]; rfl, h2, h3, h4⟩

theorem assignCopy_spec {N : Nat} {v o : SVec} {es eo : List Elem} (hv : Abs N v es) (ho : Abs N o eo) :
    ∃ v' tr, assignCopy v o = .ok (v', tr) ∧ Abs N v' eo ∧ nC tr = eo.length ∧ nD tr = es.length := by
  obtain ⟨v1, tr1, a1, a2, a3, a4⟩ := clear_spec hv
  obtain ⟨d', tr, h1, h2, h3, h4⟩ := copyInto_prefix a2 ho eo.length (Nat.le_refl _)
  rw [List.take_length] at h2
  exact ⟨⟨d', eo.length⟩, tr1 ++ tr, by simp only [assignCopy, a1, ho.size, h1, bind, Except.bind]; rfl, h2,
    by simp [a3, h3], by simp [a4, h4]⟩

theorem moveCtor_spec (port trk : Bool) {N : Nat} {o : SVec} {eo : List Elem} (ho : Abs N o eo) :
    ∃ v o' tr, moveCtor port trk N o = .ok (v, o', tr) ∧ Abs N v eo ∧
      Abs N o' (if port then movedFrom trk eo else []) ∧ nC tr = eo.length ∧
      nD tr = (if port then 0 else eo.length) := by
  obtain ⟨d', s', tr, h1, h2, h3, h4, h5⟩ := moveInto_prefix trk (abs_fresh N) ho eo.length (Nat.le_refl _)
  rw [List.take_length] at h2
  rw [movedPrefix_full trk (Nat.le_refl _)] at h3
  cases port
  · obtain ⟨o', tr2, c1, c2, c3, c4⟩ := clear_spec h3
    exact ⟨⟨d', eo.length⟩, o', tr ++ tr2.map Ev.flip,
      by simp only [moveCtor, ho.size, h1, bind, Except.bind]; rw [← ho.size, c1]; rfl, h2, c2,
      by simp [h4, c3], by simp [h5, c4]⟩
  · exact ⟨⟨d', eo.length⟩, ⟨s', o.size⟩, tr, by simp only [moveCtor, ho.size, h1, bind, Except.bind]; rfl,
      h2, h3, h4, h5⟩

theorem assignMove_spec (trk : Bool) {N : Nat} {v o : SVec} {es eo : List Elem} (hv : Abs N v es) (ho : Abs N o eo) :
    ∃ v' o' tr, assignMove trk v o = .ok (v', o', tr) ∧ Abs N v' eo ∧ Abs N o' [] ∧
      nC tr = eo.length ∧ nD tr = es.length + eo.length := by
  obtain ⟨v1, tr1, a1, a2, a3, a4⟩ := clear_spec hv
  obtain ⟨d', s', tr, h1, h2, h3, h4, h5⟩ := moveInto_prefix trk a2 ho eo.length (Nat.le_refl _)
  rw [List.take_length] at h2
  obtain ⟨o', tr2, c1, c2, c3, c4⟩ := clear_spec h3
  exact ⟨⟨d', eo.length⟩, o', tr1 ++ tr ++ tr2.map Ev.flip,
    by simp only [assignMove, a1, ho.size, h1, bind, Except.bind]; rw [← ho.size, c1]; rfl, h2, c2,
    by simp [a3, h4, c3], by simp [a4, h5, c4]⟩

/-! ## reference semantics on `List Elem` with capacity N -/

def specPush (N : Nat) (es : List Elem) (x : Nat) : List Elem :=
  if es.length < N then es ++ [some x] else es

def specCtor (N : Nat) (xs : List Nat) : List Elem := (xs.take N).map some

def specResize (N : Nat) (es : List Elem) (n : Nat) : List Elem :=
  if min n N ≤ es.length then es.take (min n N) else es ++ List.replicate (min n N - es.length) (some 0)

def specErase (es : List Elem) (i j : Nat) : List Elem := es.take i ++ es.drop j

theorem pushBack_spec {N : Nat} {v : SVec} {es : List Elem} (h : Abs N v es) (x : Nat) :
    ∃ v' tr, pushBack N v x = .ok (v', tr) ∧ Abs N v' (specPush N es x) ∧
      nC tr + es.length = (specPush N es x).length ∧ nD tr = 0 := by
  have hs := h.size
  by_cases hf : v.size ≥ N
  · have hsp : specPush N es x = es := if_neg (by omega)
    rw [hsp]
    exact ⟨v, [], by simp [pushBack, hf], h, Nat.zero_add _, rfl⟩
  · have hsp : specPush N es x = es ++ [some x] := if_pos (by omega)
    have hr : v.slots[v.size]? = some .raw := abs_raw h (by omega) (by omega)
    rw [hsp]
    refine ⟨⟨v.slots.set v.size (.obj (some x)), v.size + 1⟩, [⟨false, .ctor, v.size⟩],
      by simp only [pushBack, if_neg hf, construct_ok _ hr, bind, Except.bind]; rfl, ?_, by simp; omega, by simp⟩
    rw [hs]
    refine abs_extend h (ys := [some x]) (by simp; omega) (List.length_set ..) (fun p hp => ?_) (fun p hp => ?_)
    · have : p = 0 := by simpa using hp
      subst this
      rw [Nat.add_zero, List.getElem?_set_self (by rw [h.len]; omega)]; rfl
    · rw [List.getElem?_set_ne (by simp at hp; omega)]

theorem emplaceBack_eq (N : Nat) (v : SVec) (x : Nat) : emplaceBack N v x = pushBack N v x := rfl

theorem foldl_specPush (N : Nat) : ∀ (xs : List Nat) (es : List Elem),
    xs.foldl (specPush N) es = es ++ (xs.take (N - es.length)).map some := by
  intro xs
  induction xs with
  | nil => intro es; simp
  | cons x xs ih =>
    intro es
    rw [List.foldl_cons, ih]
    by_cases hf : es.length < N
    · rw [show specPush N es x = es ++ [some x] from if_pos hf,
        show N - es.length = (N - (es ++ [some x]).length) + 1 by simp; omega, List.take_succ_cons]
      simp
    · rw [show specPush N es x = es from if_neg hf, show N - es.length = 0 by omega]; rfl

theorem rangeLoop_spec (N : Nat) : ∀ (xs : List Nat) (v : SVec) (es : List Elem), Abs N v es →
    ∃ v' tr, rangeLoop N xs v = .ok (v', tr) ∧ Abs N v' (xs.foldl (specPush N) es) ∧
      nC tr + es.length = (xs.foldl (specPush N) es).length ∧ nD tr = 0 := by
  intro xs
  induction xs with
  | nil => intro v es h; exact ⟨v, [], rfl, h, Nat.zero_add _, rfl⟩
  | cons x xs ih =>
    intro v es h
    obtain ⟨v1, tr1, p1, p2, p3, p4⟩ := pushBack_spec h x
    obtain ⟨v', tr, q1, q2, q3, q4⟩ := ih v1 _ p2
    exact ⟨v', tr1 ++ tr, by simp only [rangeLoop, p1, q1, bind, Except.bind]; rfl, q2,
      by rw [nC_append, List.foldl_cons, ← q3]; omega, by rw [nD_append, p4, q4]⟩

theorem rangeLoop_full (N : Nat) : ∀ (xs : List Nat) {v : SVec}, v.size ≥ N → rangeLoop N xs v = .ok (v, []) := by
  intro xs
  induction xs with
  | nil => intro v _; rfl
  | cons x xs ih => intro v hf; simp only [rangeLoop, pushBack, if_pos hf, bind, Except.bind, ih hf]; rfl

/-- the initializer-list loop leaves at the first full test, the iterator-range loop goes on calling
    `push_back`, which does nothing: the two are the same function -/
theorem ilLoop_eq_rangeLoop (N : Nat) : ∀ (xs : List Nat) (v : SVec), ilLoop N xs v = rangeLoop N xs v := by
  intro xs
  induction xs with
  | nil => intro v; rfl
  | cons x xs ih =>
    intro v
    by_cases hf : v.size ≥ N
    · rw [rangeLoop_full N _ hf]; simp only [ilLoop, if_pos hf]
    · simp only [ilLoop, rangeLoop, pushBack, if_neg hf, bind, Except.bind, pure, Except.pure]
      cases construct v.slots v.size (some x) with
      | error e => rfl
      | ok s => simp only [ih]; cases rangeLoop N xs ⟨s, v.size + 1⟩ <;> rfl

theorem rangeCtor_spec (N : Nat) (xs : List Nat) :
    ∃ v tr, rangeCtor N xs = .ok (v, tr) ∧ Abs N v (specCtor N xs) ∧ nC tr = (specCtor N xs).length ∧ nD tr = 0 := by
  obtain ⟨v, tr, h1, h2, h3, h4⟩ := rangeLoop_spec N xs _ [] (abs_fresh N)
  rw [foldl_specPush] at h2 h3
  exact ⟨v, tr, h1, h2, h3, h4⟩

theorem ilCtor_eq_rangeCtor (N : Nat) (xs : List Nat) : ilCtor N xs = rangeCtor N xs := ilLoop_eq_rangeLoop N xs _

theorem ilCtor_spec (N : Nat) (xs : List Nat) :
    ∃ v tr, ilCtor N xs = .ok (v, tr) ∧ Abs N v (specCtor N xs) ∧ nC tr = (specCtor N xs).length ∧ nD tr = 0 :=
  ilCtor_eq_rangeCtor N xs ▸ rangeCtor_spec N xs

theorem abs_grow {N : Nat} {v : SVec} {es : List Elem} (h : Abs N v es) {k : Nat} (hk : es.length + k ≤ N) :
    ∃ s' tr, valueInitLoop k v.size v.slots = .ok (s', tr) ∧
      Abs N ⟨s', es.length + k⟩ (es ++ List.replicate k (some 0)) ∧ nC tr = k ∧ nD tr = 0 := by
  have hs := h.size
  obtain ⟨s', tr, h1, h2, h3, h4, h5⟩ := valueInitLoop_spec k v.size v.slots (fun p hp1 hp2 =>
    abs_raw h (by omega) (by omega))
  refine ⟨s', tr, h1, ?_, h2, h3⟩
  have := abs_extend h (ys := List.replicate k (some 0)) (s' := s') (by simpa using hk) h4
    (fun p hp => by
      rw [List.length_replicate] at hp
      rw [h5, if_pos (by omega), List.getElem_replicate])
    (fun p hp => by rw [List.length_replicate] at hp; rw [h5, if_neg (by omega)])
  rwa [List.length_replicate] at this

theorem specResize_length (N : Nat) (es : List Elem) (n : Nat) :
    (specResize N es n).length = min n N := by
  unfold specResize; split
  · rw [List.length_take]; omega
  · rw [List.length_append, List.length_replicate]; omega

theorem resize_spec {N : Nat} {v : SVec} {es : List Elem} (h : Abs N v es) (n : Nat) :
    ∃ v' tr, resize N v n = .ok (v', tr) ∧ Abs N v' (specResize N es n) ∧
      nC tr = min n N - es.length ∧ nD tr = es.length - min n N := by
  have hs := h.size; have hl := h.le
  have hn : (if n ≥ N then N else n) = min n N := by split <;> omega
  simp only [resize, hn, specResize, hs]
  by_cases hc : min n N ≤ es.length
  · -- shrinking: nothing to construct
    obtain ⟨s', tr, h1, h2, h3, h4⟩ := abs_truncate h hc
    rw [if_pos hc, Nat.sub_eq_zero_of_le hc]
    exact ⟨⟨s', min n N⟩, tr, by simp only [valueInitLoop, h1, bind, Except.bind]; rfl, h2, h3, h4⟩
  · -- growing: nothing to destroy
    obtain ⟨s', tr, h1, h2, h3, h4⟩ := abs_grow h (k := min n N - es.length) (by omega)
    rw [hs] at h1
    rw [show es.length + (min n N - es.length) = min n N by omega] at h2
    rw [if_neg hc, Nat.sub_eq_zero_of_le (Nat.le_of_not_ge hc)]
    exact ⟨⟨s', min n N⟩, tr ++ [], by simp only [h1, destroyLoop, bind, Except.bind]; rfl, h2,
      by simp [h3], by simp [h4]⟩

/-- what `erase(begin()+i, begin()+j)` has in its storage after `a` of its element assignments; a failed
    `erase` whose `(a+1)`-th assignment throws leaves it behind -/
def specEraseFail (trk : Bool) (es : List Elem) (i j a : Nat) : List Elem :=
  (List.range es.length).map fun p =>
    if i ≤ p ∧ p < i + a then es.getD (p + (j - i)) none
    else if j ≤ p ∧ p < j + a ∧ trk = true then none
    else es.getD p none

@[simp] theorem specEraseFail_length (trk : Bool) (es : List Elem) (i j a : Nat) :
    (specEraseFail trk es i j a).length = es.length := by simp [specEraseFail]

theorem getD_of_lt {es : List Elem} {p : Nat} (hp : p < es.length) : es.getD p none = es[p] := by
  simp [List.getD, List.getElem?_eq_getElem hp]

theorem shift_abs (trk : Bool) {N : Nat} {v : SVec} {es : List Elem} (h : Abs N v es) {i j a : Nat}
    (hij : i < j) (hj : j ≤ es.length) (ha : a ≤ es.length - j) :
    ∃ s' tr, shiftLoop trk a j i v.slots = .ok (s', tr) ∧ Abs N ⟨s', v.size⟩ (specEraseFail trk es i j a) ∧
      nC tr = 0 ∧ nD tr = 0 := by
  obtain ⟨s', tr, h1, h2, h3, h4, z1, z2, z3⟩ := shiftLoop_spec trk a j i v.slots hij (fun p _ hp =>
    ⟨_, abs_obj h (show p < es.length by omega)⟩)
  refine ⟨s', tr, h1, abs_of_zones (by rw [h4, h.len]) (by rw [specEraseFail_length, h.size])
    (by rw [specEraseFail_length]; exact h.le) (fun p hp => ?_) (fun p hp1 hp2 => ?_), h2, h3⟩
  · rw [specEraseFail_length] at hp
    simp only [specEraseFail, List.getElem_map, List.getElem_range]
    by_cases c1 : i ≤ p ∧ p < i + a
    · rw [if_pos c1, z1 p c1.1 c1.2, abs_obj h (by omega), getD_of_lt]
    · rw [if_neg c1]
      by_cases c2 : j ≤ p ∧ p < j + a
      · rw [z2 p (by omega) c2.1 c2.2]
        by_cases ht : trk = true
        · rw [if_pos ht, if_pos ⟨c2.1, c2.2, ht⟩]
        · rw [if_neg ht, if_neg (fun c => ht c.2.2), abs_obj h hp, getD_of_lt hp]
      · rw [if_neg (fun c => c2 ⟨c.1, c.2.1⟩), z3 p (by omega), abs_obj h hp, getD_of_lt hp]
  · rw [specEraseFail_length] at hp1
    rw [z3 p (by omega), abs_raw h hp1 hp2]

theorem take_specEraseFail (trk : Bool) (es : List Elem) {i j : Nat} (hij : i ≤ j) (hj : j ≤ es.length) :
    (specEraseFail trk es i j (es.length - j)).take (es.length - (j - i)) = specErase es i j := by
  apply List.ext_getElem
  · simp [specErase]; omega
  · intro p hp _
    rw [List.length_take, specEraseFail_length] at hp
    simp only [specErase, specEraseFail, List.getElem_take, List.getElem_map, List.getElem_range]
    by_cases c1 : p < i
    · rw [if_neg (by omega), if_neg (fun c => by omega), List.getElem_append_left (by simp; omega),
        List.getElem_take, getD_of_lt]
    · rw [if_pos (by omega), List.getElem_append_right (by simp; omega), List.getElem_drop,
        getD_of_lt (by omega)]
      congr 1; simp; omega

theorem erase_spec (trk : Bool) {N : Nat} {v : SVec} {es : List Elem} (h : Abs N v es) {i j : Nat}
    (hij : i ≤ j) (hj : j ≤ es.length) :
    ∃ v' tr, erase trk v i j = .ok (v', tr) ∧ Abs N v' (specErase es i j) ∧
      nC tr = 0 ∧ nD tr + (specErase es i j).length = es.length := by
  have hs := h.size
  by_cases hijeq : i = j
  · subst hijeq
    have : specErase es i i = es := List.take_append_drop i es
    rw [this]
    exact ⟨v, [], by simp [erase], h, rfl, Nat.zero_add _⟩
  · obtain ⟨s1, tr1, a1, a2, a3, a4⟩ := shift_abs trk h (a := es.length - j) (Nat.lt_of_le_of_ne hij hijeq) hj (Nat.le_refl _)
    obtain ⟨s2, tr2, b1, b2, b3, b4⟩ := abs_truncate a2 (n := es.length - (j - i)) (by rw [specEraseFail_length]; omega)
    rw [specEraseFail_length, show es.length - (es.length - (j - i)) = j - i by omega] at b1 b4
    rw [take_specEraseFail trk es hij hj] at b2
    refine ⟨⟨s2, es.length - (j - i)⟩, tr1 ++ tr2,
      by simp only [erase, if_neg hijeq, hs, a1, b1, bind, Except.bind]; rfl, b2, by simp [a3, b3], ?_⟩
    simp [a4, b4, specErase]; omega

set_option linter.unusedSimpArgs false

/-! ## the machine of K objects against the reference machine -/

abbrev SpecRegs := Nat → Option (List Elem)

def setSpec (f : SpecRegs) (r : Nat) (x : Option (List Elem)) : SpecRegs := fun q => if q = r then x else f q

/-- an operation outside the contract changes nothing -/
def specStep (c : Cfg) (sp : SpecRegs) : Op → SpecRegs
  | .new r =>
      match decide (r < c.K), sp r with
      | true, none => setSpec sp r (some [])
      | _, _ => sp
  | .copy r s =>
      match decide (r < c.K ∧ s < c.K), sp r, sp s with
      | true, none, some eo => setSpec sp r (some eo)
      | _, _, _ => sp
  | .move r s =>
      match decide (r < c.K ∧ s < c.K), sp r, sp s with
      | true, none, some eo => setSpec (setSpec sp s (some (if c.port then movedFrom c.trk eo else []))) r (some eo)
      | _, _, _ => sp
  | .range r xs =>
      match decide (r < c.K ∧ c.port = false), sp r with
      | true, none => setSpec sp r (some (specCtor c.N xs))
      | _, _ => sp
  | .il r xs =>
      match decide (r < c.K ∧ c.port = false), sp r with
      | true, none => setSpec sp r (some (specCtor c.N xs))
      | _, _ => sp
  | .acopy r s =>
      match decide (r < c.K ∧ s < c.K), sp r, sp s with
      | true, some _, some eo => setSpec sp r (some eo)
      | _, _, _ => sp
  | .amove r s =>
      match decide (r < c.K ∧ s < c.K), sp r, sp s with
      | true, some _, some eo => if r = s then sp else setSpec (setSpec sp s (some [])) r (some eo)
      | _, _, _ => sp
  | .push r x =>
      match decide (r < c.K), sp r with
      | true, some es => setSpec sp r (some (specPush c.N es x))
      | _, _ => sp
  | .emplace r x =>
      match decide (r < c.K), sp r with
      | true, some es => setSpec sp r (some (specPush c.N es x))
      | _, _ => sp
  | .resize r n =>
      match decide (r < c.K), sp r with
      | true, some es => setSpec sp r (some (specResize c.N es n))
      | _, _ => sp
  | .erase r i j =>
      match decide (r < c.K ∧ c.port = false), sp r with
      | true, some es => if i ≤ j ∧ j ≤ es.length then setSpec sp r (some (specErase es i j)) else sp
      | _, _ => sp
  | .clear r =>
      match decide (r < c.K), sp r with
      | true, some _ => setSpec sp r (some [])
      | _, _ => sp
  | .del r =>
      match decide (r < c.K), sp r with
      | true, some _ => setSpec sp r none
      | _, _ => sp
  | .finish => fun _ => none

def specRun (c : Cfg) : List Op → SpecRegs → SpecRegs
  | [], sp => sp
  | op :: ops, sp => specRun c ops (specStep c sp op)

def Rel (N : Nat) : Option SVec → Option (List Elem) → Prop
  | none, none => True
  | some v, some es => Abs N v es
  | _, _ => False

def szOf (sp : SpecRegs) (r : Nat) : Nat :=
  match sp r with
  | some es => es.length
  | none => 0

def total (f : Nat → Nat) : Nat → Nat
  | 0 => 0
  | k + 1 => total f k + f k

structure MInv (c : Cfg) (m : Mach) (sp : SpecRegs) : Prop where
  rel : ∀ r, Rel c.N (m.regs r) (sp r)
  out : ∀ r, c.K ≤ r → sp r = none
  bal : m.nctor = m.ndtor + total (szOf sp) c.K

theorem total_congr {f g : Nat → Nat} : ∀ (k : Nat), (∀ q, q < k → f q = g q) → total f k = total g k := by
  intro k
  induction k with
  | zero => intro _; rfl
  | succ k ih => intro h; simp [total, ih (fun q hq => h q (by omega)), h k (by omega)]

theorem total_set (sp : SpecRegs) (r : Nat) (x : Option (List Elem)) : ∀ (k : Nat), r < k →
    total (szOf (setSpec sp r x)) k + szOf sp r = total (szOf sp) k + szOf (setSpec sp r x) r := by
  intro k
  induction k with
  | zero => intro h; omega
  | succ k ih =>
    intro h
    by_cases hk : r = k
    · subst hk
      have : total (szOf (setSpec sp r x)) r = total (szOf sp) r :=
        total_congr r (fun q hq => by simp [szOf, setSpec]; rw [if_neg (by omega)])
      simp [total, this]; omega
    · have := ih (by omega)
      have e : szOf (setSpec sp r x) k = szOf sp k := by simp [szOf, setSpec]; rw [if_neg (by omega)]
      simp [total, e]; omega

theorem szOf_set (sp : SpecRegs) (r : Nat) (x : Option (List Elem)) :
    szOf (setSpec sp r x) r = (match x with | some es => es.length | none => 0) := by
  cases x <;> simp [szOf, setSpec]
@[simp] theorem szOf_set_self (sp : SpecRegs) (r : Nat) (es : List Elem) : szOf (setSpec sp r (some es)) r = es.length :=
  szOf_set sp r (some es)
@[simp] theorem szOf_set_none (sp : SpecRegs) (r : Nat) : szOf (setSpec sp r none) r = 0 :=
  szOf_set sp r none
theorem szOf_set_ne (sp : SpecRegs) {r q : Nat} (x : Option (List Elem)) (h : q ≠ r) : szOf (setSpec sp r x) q = szOf sp q := by
  simp [szOf, setSpec, h]

theorem szOf_of {sp : SpecRegs} {r : Nat} {x : Option (List Elem)} (h : sp r = x) :
    szOf sp r = (match x with | some es => es.length | none => 0) := by cases x <;> simp [szOf, h]
theorem szOf_some {sp : SpecRegs} {r : Nat} {es : List Elem} (h : sp r = some es) : szOf sp r = es.length :=
  szOf_of h
theorem szOf_none {sp : SpecRegs} {r : Nat} (h : sp r = none) : szOf sp r = 0 :=
  szOf_of h

theorem countK_glob_ctor (r s : Nat) (tr : Tr) : countK .ctor (glob r s tr) = nC tr := by
  simp [countK, glob, nC, List.filter_map, Function.comp_def]
theorem countK_glob_dtor (r s : Nat) (tr : Tr) : countK .dtor (glob r s tr) = nD tr := by
  simp [countK, glob, nD, List.filter_map, Function.comp_def]

theorem rel_none {N : Nat} {o : Option SVec} {x : Option (List Elem)} (h : Rel N o x) : o = none ↔ x = none := by
  cases o <;> cases x <;> simp_all [Rel]

theorem rel_some {N : Nat} {v : SVec} {x : Option (List Elem)} (h : Rel N (some v) x) : ∃ es, x = some es ∧ Abs N v es := by
  cases x with
  | none => exact h.elim
  | some es => exact ⟨es, rfl, h⟩

/-! ## the register lookup of a machine step

Every case of a step function is `match decide G, m.regs r [, m.regs s] with | true, pat… => body | _, _ => skip`, and the
reference machine has the same `match` on `sp`.  The case split is an eliminator (`@[elab_as_elim]` abstracts the motive
from the goal), not a lemma about the `match`: such a lemma names the auxiliary matcher constant of one model function and
fits no other `match`, one on `Option α` for a variable `α` included, since the unifier does not unfold two stuck matchers
against each other.  The goal must show `decide G`, `m.regs r`, `sp r` literally: unfold the step functions first. -/

/-- a machine register against a reference register: both empty, or both hold something and `P` relates the two -/
structure RegRel {α β : Type} (R : Option α → Option β → Prop) (P : α → β → Prop) : Prop where
  ns : ∀ y, ¬ R none (some y)
  sn : ∀ x, ¬ R (some x) none
  ss : ∀ x y, R (some x) (some y) → P x y

theorem regRel_V (N : Nat) : RegRel (Rel N) (Abs N) := ⟨fun _ h => h, fun _ h => h, fun _ _ h => h⟩

/-- the second register of a two-register lookup (no guard of its own) -/
@[elab_as_elim] theorem look0 {α β : Type} {R : Option α → Option β → Prop} {P : α → β → Prop} (hR : RegRel R P)
    (a : Option α) (b : Option β) {C : Option α → Option β → Prop} (hab : R a b)
    (some : ∀ v es, a = some v → b = some es → P v es → C (some v) (some es))
    (none : a = none → b = none → C none none) : C a b := by
  cases a <;> cases b
  · exact none rfl rfl
  · exact (hR.ns _ hab).elim
  · exact (hR.sn _ hab).elim
  · exact some _ _ rfl rfl (hR.ss _ _ hab)

@[elab_as_elim] theorem lookG {α β : Type} {R : Option α → Option β → Prop} {P : α → β → Prop} (hR : RegRel R P)
    {G : Prop} {dG : Decidable G} (a : Option α) (b : Option β) {C : Bool → Option α → Option β → Prop}
    (hab : R a b) (some : G → ∀ v es, a = some v → b = some es → P v es → C true (some v) (some es))
    (none : G → a = none → b = none → C true none none) (no : ¬ G → C false a b) : C (decide G) a b := by
  by_cases hk : G
  · rw [decide_eq_true hk]; exact look0 hR a b hab (some hk) (none hk)
  · rw [decide_eq_false hk]; exact no hk

@[elab_as_elim] theorem lookG1 {α : Type} {G : Prop} {dG : Decidable G} (a : Option α) {C : Bool → Option α → Prop}
    (some : G → ∀ v, a = some v → C true (some v)) (none : G → a = none → C true none) (no : ¬ G → C false a) :
    C (decide G) a := by
  by_cases hk : G
  · rw [decide_eq_true hk]
    cases a
    · exact none hk rfl
    · exact some hk _ rfl
  · rw [decide_eq_false hk]; exact no hk

theorem minv_same {c : Cfg} {m : Mach} {sp : SpecRegs} (h : MInv c m sp) : MInv c (m.log m.regs []).1 sp :=
  ⟨h.rel, h.out, by simpa [Mach.log, countK] using h.bal⟩

theorem minv_set1 {c : Cfg} {m : Mach} {sp : SpecRegs} (h : MInv c m sp) {r : Nat} (hr : r < c.K)
    {v' : Option SVec} {es' : Option (List Elem)} (s : Nat) (tr : Tr) (habs : Rel c.N v' es')
    (hbal : nC tr + szOf sp r = nD tr + szOf (setSpec sp r es') r) :
    MInv c (m.log (setReg m.regs r v') (glob r s tr)).1 (setSpec sp r es') := by
  refine ⟨?_, ?_, ?_⟩
  · intro q
    by_cases hq : q = r
    · subst hq; simpa [Mach.log, setReg, setSpec] using habs
    · simpa [Mach.log, setReg, setSpec, hq] using h.rel q
  · intro q hq
    have : q ≠ r := by omega
    simpa [setSpec, this] using h.out q hq
  · have := total_set sp r es' c.K hr
    have := h.bal
    simp only [Mach.log, countK_glob_ctor, countK_glob_dtor]
    omega

theorem minv_set2 {c : Cfg} {m : Mach} {sp : SpecRegs} (h : MInv c m sp) {r s : Nat} (hr : r < c.K) (hs : s < c.K)
    (hne : r ≠ s) {v' o' : Option SVec} {er' es' : Option (List Elem)} (tr : Tr)
    (habs : Rel c.N v' er') (habs2 : Rel c.N o' es')
    (hbal : nC tr + szOf sp r + szOf sp s =
      nD tr + szOf (setSpec sp r er') r + szOf (setSpec sp s es') s) :
    MInv c (m.log (setReg (setReg m.regs s o') r v') (glob r s tr)).1 (setSpec (setSpec sp s es') r er') := by
  refine ⟨?_, ?_, ?_⟩
  · intro q
    by_cases hq : q = r
    · subst hq; simpa [Mach.log, setReg, setSpec] using habs
    · by_cases hq2 : q = s
      · subst hq2; simpa [Mach.log, setReg, setSpec, hq] using habs2
      · simpa [Mach.log, setReg, setSpec, hq, hq2] using h.rel q
  · intro q hq
    have : q ≠ r := by omega
    have : q ≠ s := by omega
    simpa [setSpec, *] using h.out q hq
  · have t1 := total_set sp s es' c.K hs
    have t2 := total_set (setSpec sp s es') r er' c.K hr
    have e1 : szOf (setSpec sp s es') r = szOf sp r := szOf_set_ne sp es' hne
    have e2 : szOf (setSpec (setSpec sp s es') r er') r = szOf (setSpec sp r er') r := by simp [szOf, setSpec]
    have := h.bal
    simp only [Mach.log, countK_glob_ctor, countK_glob_dtor]
    omega

/-- the reference registers once `finish` has destroyed the objects of the registers below `k` -/
def specFinish (k : Nat) (sp : SpecRegs) : SpecRegs := fun q => if q < k then none else sp q

theorem specFinish_succ (sp : SpecRegs) (k : Nat) : specFinish (k + 1) sp = specFinish k (setSpec sp k none) := by
  funext q
  simp only [specFinish, setSpec]
  by_cases hq : q = k
  · rw [if_pos (by omega), if_neg (by omega), if_pos hq]
  · by_cases hq2 : q < k
    · rw [if_pos hq2, if_pos (by omega)]
    · rw [if_neg hq2, if_neg (by omega), if_neg hq]

theorem total_zero (k : Nat) : total (szOf (fun _ => none)) k = 0 := by
  induction k with
  | zero => rfl
  | succ k ih => simp [total, ih, szOf]

theorem minv_init (c : Cfg) : MInv c Mach.init (fun _ => none) :=
  ⟨fun _ => trivial, fun _ _ => rfl, by simp [Mach.init, total_zero]⟩

theorem minv_empty {c : Cfg} {m : Mach} (h : MInv c m (fun _ => none)) : m.nctor = m.ndtor ∧ ∀ r, m.regs r = none :=
  ⟨by simpa [total_zero] using h.bal, fun r => (rel_none (h.rel r)).mpr rfl⟩

theorem abs_layout {N : Nat} {v : SVec} {es : List Elem} (h : Abs N v es) :
    v.size ≤ N ∧ v.slots.length = N ∧ (∀ p, p < v.size → ∃ e, v.slots[p]? = some (.obj e)) ∧
      (∀ p, v.size ≤ p → p < N → v.slots[p]? = some .raw) :=
  ⟨by rw [h.size]; exact h.le, h.len, fun p hp => ⟨_, abs_obj h (by rw [← h.size]; exact hp)⟩,
    fun p hp1 hp2 => abs_raw h (by rw [← h.size]; exact hp1) hp2⟩

def heldBy (m : Mach) (r : Nat) : Nat :=
  match m.regs r with
  | some v => v.size
  | none => 0

theorem minv_guarantee {c : Cfg} {m : Mach} {sp : SpecRegs} (h : MInv c m sp) :
    (∀ r v, m.regs r = some v → v.size ≤ c.N ∧ v.slots.length = c.N ∧
      (∀ p, p < v.size → ∃ e, v.slots[p]? = some (.obj e)) ∧
      (∀ p, v.size ≤ p → p < c.N → v.slots[p]? = some .raw)) ∧
    m.nctor = m.ndtor + total (heldBy m) c.K := by
  refine ⟨fun r v hv => ?_, ?_⟩
  · obtain ⟨es, _, ha⟩ := rel_some (hv ▸ h.rel r)
    exact abs_layout ha
  · rw [h.bal]
    congr 1
    apply total_congr
    intro r _
    cases hm : m.regs r with
    | none => simp [szOf, heldBy, hm, (rel_none (h.rel r)).mp hm]
    | some v =>
      obtain ⟨es, hs, ha⟩ := rel_some (hm ▸ h.rel r)
      simp [szOf, heldBy, hm, hs, ha.size]

theorem reg_size_le {c : Cfg} {m : Mach} {sp : SpecRegs} (h : MInv c m sp) {r : Nat} {v : SVec}
    (hv : m.regs r = some v) : v.size ≤ c.N :=
  (minv_guarantee h).1 r v hv |>.1

theorem specRun_append (c : Cfg) : ∀ (a b : List Op) (sp : SpecRegs), specRun c (a ++ b) sp = specRun c b (specRun c a sp) := by
  intro a
  induction a with
  | nil => intro b sp; rfl
  | cons op a ih => intro b sp; simp [specRun, ih]

/-! ## static_string -/
open Igris.Proto

/-- "not the terminator", the predicate of `c_str`'s reader and of `strlen` -/
abbrev nz : Byte → Bool := fun x => decide (x ≠ 0)

theorem strlenLoop_spec (arg : List Byte) : ∀ (rest pre : List Byte) (fuel : Nat), arg = pre ++ rest → (0 : Byte) ∈ rest →
    rest.length < fuel → strlenLoop arg fuel pre.length = .ok (pre.length + (rest.takeWhile nz).length) := by
  intro rest
  induction rest with
  | nil => intro pre fuel _ h; cases h
  | cons b rest ih =>
    intro pre fuel harg hmem hfuel
    cases fuel with
    | zero => cases hfuel
    | succ fuel =>
      have hb : arg[pre.length]? = some b := by rw [harg]; simp
      by_cases hz : b = 0
      · subst hz
        simp [strlenLoop, rd, hb, bind, Except.bind, pure, Except.pure, List.takeWhile_cons]
      · have hmem' : (0 : Byte) ∈ rest := by
          cases hmem with
          | head => exact absurd rfl hz
          | tail _ h => exact h
        have hf : rest.length < fuel := by simp only [List.length_cons] at hfuel; omega
        have := ih (pre ++ [b]) fuel (by rw [harg]; simp) hmem' hf
        simp only [List.length_append, List.length_singleton] at this
        simp only [strlenLoop, rd, hb, bind, Except.bind, pure, Except.pure, hz, if_false, this, List.takeWhile_cons]
        have : nz b = true := by simp only [nz, ne_eq, decide_not, Bool.not_eq_eq_eq_not, Bool.not_true, decide_eq_false_iff_not]; exact hz
        rw [this]; simp; omega

theorem strlen_spec {arg : List Byte} (h : (0 : Byte) ∈ arg) :
    strlen arg = .ok (arg.takeWhile nz).length := by
  have := strlenLoop_spec arg arg [] (arg.length + 1) rfl h (by omega)
  simpa [strlen] using this

theorem takeWhile_length_lt {arg : List Byte} (h : (0 : Byte) ∈ arg) : (arg.takeWhile nz).length < arg.length :=
  length_takeWhile_lt ⟨0, h, by simp [nz]⟩

theorem memcpyLoop_eq (src : List Byte) : ∀ (k : Nat) (pre rest : List Byte), pre.length + k ≤ src.length → k ≤ rest.length →
    memcpyLoop src k pre.length (pre ++ rest) = .ok (pre ++ (src.drop pre.length).take k ++ rest.drop k) := by
  intro k
  induction k with
  | zero => intro pre rest _ _; simp [memcpyLoop]
  | succ k ih =>
    intro pre rest h1 h2
    obtain ⟨b, rest, rfl⟩ : ∃ b r, rest = b :: r := by cases rest with | nil => simp at h2 | cons b r => exact ⟨b, r, rfl⟩
    have hs : src[pre.length]? = some src[pre.length] := List.getElem?_eq_getElem (by omega)
    have := ih (pre ++ [src[pre.length]]) rest (by simp; omega) (by simpa using h2)
    simp only [List.length_append, List.length_singleton, List.append_assoc, List.singleton_append] at this
    simp only [memcpyLoop, rd, hs, wr, List.length_append, List.length_cons, bind, Except.bind,
      if_pos (show pre.length < pre.length + (rest.length + 1) by omega), List.set_append_right _ _ (Nat.le_refl _),
      Nat.sub_self, List.set_cons_zero, this]
    rw [List.drop_eq_getElem_cons (show pre.length < src.length by omega), List.take_succ_cons, List.drop_succ_cons,
      List.append_assoc, List.cons_append]

structure SAbs (N : Nat) (s : SStr) (es : List Byte) : Prop where
  len : s.data.length = N + 1
  size : s.size = es.length
  le : es.length ≤ N
  eq : s.data.take s.size = es

theorem SAbs.contents {N : Nat} {s : SStr} {es : List Byte} (h : SAbs N s es) : s.contents = es := h.eq

/-- `t` is the terminator's place: the buffer has `N + 1` bytes -/
theorem sabs_split {N : Nat} {s : SStr} {es : List Byte} (h : SAbs N s es) :
    ∃ t tail, s = ⟨es ++ t :: tail, es.length⟩ ∧ es.length + tail.length = N := by
  obtain ⟨d, n⟩ := s
  obtain ⟨hlen, rfl, hl, heq⟩ := h
  simp only at hlen heq
  have hlt : es.length < d.length := by omega
  refine ⟨d[es.length], d.drop (es.length + 1), ?_, by simp; omega⟩
  rw [← List.drop_eq_getElem_cons hlt]
  conv => lhs; rw [← List.take_append_drop es.length d, heq]

theorem sabs_append {N n : Nat} (es : List Byte) {tail : List Byte} (hn : n = es.length)
    (hl : es.length + tail.length = N + 1) (hle : es.length ≤ N) : SAbs N ⟨es ++ tail, n⟩ es :=
  ⟨by simp [hl], hn, hle, by simp [hn]⟩

theorem sCtorPtrLen_spec {N : Nat} {junk arg : List Byte} {sz : Nat} (hj : junk.length = N + 1) (hsz : sz ≤ arg.length) :
    ∃ s, sCtorPtrLen N junk arg sz = .ok s ∧ SAbs N s ((arg.take sz).take N) := by
  have e : (arg.take sz).take N = arg.take (if sz > N then N else sz) := by
    rw [List.take_take]; congr 1; split <;> omega
  have hn : (if sz > N then N else sz) ≤ N ∧ (if sz > N then N else sz) ≤ sz := by split <;> omega
  rw [e, sCtorPtrLen]
  generalize (if sz > N then N else sz) = n at hn
  have := memcpyLoop_eq arg n [] junk (by simp; omega) (by omega)
  simp only [List.length_nil, List.nil_append, List.drop_zero] at this
  exact ⟨⟨arg.take n ++ junk.drop n, n⟩, by simp only [this, bind, Except.bind, pure, Except.pure],
    sabs_append _ (by simp; omega) (by simp; omega) (by simp; omega)⟩

/-- the C-string constructor is the (pointer, length) constructor called with `strlen(dat)` -/
theorem sCtorPtr_spec {N : Nat} {junk arg : List Byte} (hj : junk.length = N + 1) (h0 : (0 : Byte) ∈ arg) :
    ∃ s, sCtorPtr N junk arg = .ok s ∧ SAbs N s ((arg.takeWhile nz).take N) := by
  have e : sCtorPtr N junk arg = strlen arg >>= sCtorPtrLen N junk arg := rfl
  have := sCtorPtrLen_spec (N := N) (arg := arg) hj (Nat.le_of_lt (takeWhile_length_lt h0))
  rw [take_takeWhile_length nz arg] at this
  rw [e, strlen_spec h0]; exact this

def specSPush (N : Nat) (es : List Byte) (c : Byte) : List Byte := if es.length < N then es ++ [c] else es

theorem sPush_spec {N : Nat} {s : SStr} {es : List Byte} (h : SAbs N s es) (c : Byte) :
    ∃ s', sPush N s c = .ok s' ∧ SAbs N s' (specSPush N es c) := by
  obtain ⟨t, tail, rfl, hl⟩ := sabs_split h
  by_cases hf : es.length < N
  · refine ⟨⟨(es ++ [c]) ++ tail, (es ++ [c]).length⟩, ?_, ?_⟩
    · simp [sPush, hf, wr, bind, Except.bind, pure, Except.pure]
    · rw [specSPush, if_pos hf]; exact sabs_append _ rfl (by simp; omega) (by simp; omega)
  · exact ⟨⟨es ++ t :: tail, es.length⟩, by simp [sPush, Nat.not_lt.mp hf], by rw [specSPush, if_neg hf]; exact h⟩

theorem sCStr_spec {N : Nat} {s : SStr} {es : List Byte} (h : SAbs N s es) :
    ∃ s' out, sCStr s = .ok (s', out) ∧ SAbs N s' es ∧ out = es.takeWhile nz := by
  obtain ⟨t, tail, rfl, hl⟩ := sabs_split h
  refine ⟨⟨es ++ 0 :: tail, es.length⟩, (es ++ 0 :: tail).takeWhile nz, ?_, sabs_append es rfl (by simp; omega) h.le,
    takeWhile_append_neg es tail (by simp [nz])⟩
  have e : (es ++ t :: tail).set es.length 0 = es ++ 0 :: tail := by simp
  simp only [sCStr, wr, List.length_append, List.length_cons, if_pos (show es.length < es.length + (tail.length + 1) by omega), e,
    bind, Except.bind, pure, Except.pure]

theorem sGet_spec {N : Nat} {s : SStr} {es : List Byte} (h : SAbs N s es) {i : Nat} (hi : i < es.length) :
    sGet s i = .ok es[i] := by
  obtain ⟨t, tail, rfl, hl⟩ := sabs_split h
  simp [sGet, rd, List.getElem?_append_left hi, List.getElem?_eq_getElem hi]

theorem sSet_spec {N : Nat} {s : SStr} {es : List Byte} (h : SAbs N s es) {i : Nat} (hi : i < es.length) (c : Byte) :
    ∃ s', sSet s i c = .ok s' ∧ SAbs N s' (es.set i c) := by
  obtain ⟨t, tail, rfl, hl⟩ := sabs_split h
  refine ⟨⟨es.set i c ++ t :: tail, (es.set i c).length⟩, ?_, sabs_append _ rfl (by simp; omega) (by simp; exact h.le)⟩
  simp [sSet, wr, bind, Except.bind, pure, Except.pure, List.set_append_left _ _ hi, show i < es.length + (tail.length + 1) by omega]

theorem sabs_default {N : Nat} {junk : List Byte} (hj : junk.length = N + 1) : SAbs N (sDefault junk) [] :=
  ⟨hj, rfl, by simp, by simp [sDefault]⟩

theorem sabs_clear {N : Nat} {s : SStr} {es : List Byte} (h : SAbs N s es) : SAbs N (sClear s) [] :=
  ⟨h.len, rfl, by simp, by simp [sClear]⟩

/-! ### split<VSize,SSize> (std_portable.h) -/

/-- the predicate of the two inner loops of `split`: `*ptr == delim` (`b = true`) / `*ptr != delim` -/
abbrev isDelim (delim : Byte) (b : Bool) : Byte → Bool := fun c => decide (decide (c = delim) = b)

/-- one inner loop of `split`; the two pointers are given as a decomposition `pre ++ rest ++ post` of the buffer, so
    that the induction is on `rest` -/
theorem skipLoop_spec {d : List Byte} {endp : Nat} (delim : Byte) (b : Bool) {post : List Byte} :
    ∀ (rest pre : List Byte) (ptr : Nat), d = pre ++ (rest ++ post) → ptr = pre.length → endp = ptr + rest.length →
    skipLoop d delim b (endp - ptr) ptr endp = .ok (ptr + (rest.takeWhile (isDelim delim b)).length) := by
  intro rest
  induction rest with
  | nil => intro pre ptr _ _ he; simp [he, skipLoop]
  | cons c rest ih =>
    intro pre ptr hd hp he
    have hc : d[ptr]? = some c := by simp [hd, hp]
    rw [show endp - ptr = (endp - (ptr + 1)) + 1 by simp at he; omega]
    simp only [skipLoop, if_neg (show ¬ ptr = endp by simp at he; omega), rd, hc, bind, Except.bind, List.takeWhile_cons]
    by_cases hq : decide (c = delim) = b
    · rw [if_pos hq, show isDelim delim b c = true by simp [isDelim, hq],
        ih (pre ++ [c]) (ptr + 1) (by simp [hd]) (by simp [hp]) (by simp at he; omega)]
      simp; omega
    · rw [if_neg hq, show isDelim delim b c = false by simp [isDelim, hq]]; rfl

/-- reference tokenizer, one character at a time: a delimiter ends the current
    token (empty tokens are not reported), the end of the string ends the last -/
def tokAux (delim : Byte) : List Byte → List Byte → List (List Byte)
  | [], cur => if cur.isEmpty then [] else [cur]
  | b :: rest, cur =>
      if b = delim then (if cur.isEmpty then tokAux delim rest [] else cur :: tokAux delim rest [])
      else tokAux delim rest (cur ++ [b])

def tokens (delim : Byte) (es : List Byte) : List (List Byte) := tokAux delim es []

theorem isDelim_true_iff (delim c : Byte) : isDelim delim true c = true ↔ c = delim := by simp [isDelim]
theorem isDelim_false_iff (delim c : Byte) : isDelim delim false c = true ↔ c ≠ delim := by simp [isDelim]

theorem tokAux_cur (delim : Byte) : ∀ (rem cur : List Byte), cur ≠ [] →
    tokAux delim rem cur = (cur ++ rem.takeWhile (isDelim delim false)) :: tokAux delim (rem.dropWhile (isDelim delim false)) [] := by
  intro rem
  induction rem with
  | nil => intro cur h; cases cur <;> simp_all [tokAux]
  | cons b rest ih =>
    intro cur h
    by_cases hb : b = delim
    · have h1 : isDelim delim false b = false :=
        Bool.eq_false_iff.mpr fun hq => (isDelim_false_iff delim b).mp hq hb
      have hc : cur.isEmpty = false := by cases cur <;> simp_all
      subst hb
      simp only [tokAux, if_true, hc, List.takeWhile_cons, List.dropWhile_cons, h1]
      simp [tokAux]
    · have h1 : isDelim delim false b = true := (isDelim_false_iff delim b).mpr hb
      simp only [tokAux, hb, if_false, List.takeWhile_cons, List.dropWhile_cons, h1, if_true]
      rw [ih (cur ++ [b]) (by simp)]
      simp

theorem tokAux_skip (delim : Byte) : ∀ (rem : List Byte),
    tokAux delim rem [] = tokAux delim (rem.dropWhile (isDelim delim true)) [] := by
  intro rem
  induction rem with
  | nil => rfl
  | cons b rest ih =>
    by_cases hb : b = delim
    · have h1 : isDelim delim true b = true := (isDelim_true_iff delim b).mpr hb
      simp only [List.dropWhile_cons, h1, if_true]
      rw [← ih]; simp [tokAux, hb]
    · have h1 : isDelim delim true b = false :=
        Bool.eq_false_iff.mpr fun hq => hb ((isDelim_true_iff delim b).mp hq)
      simp only [List.dropWhile_cons, h1]; rfl

-- `tokens` in the steps of `split`'s walk: skip the delimiters, then take a token up to the next delimiter
theorem tokens_nil {delim : Byte} {rem : List Byte} (h : rem.dropWhile (isDelim delim true) = []) : tokens delim rem = [] := by
  rw [tokens, tokAux_skip, h]; rfl

theorem tokens_cons {delim c : Byte} {rem r : List Byte} (h : rem.dropWhile (isDelim delim true) = c :: r) :
    isDelim delim false c = true ∧
    tokens delim rem = (c :: r.takeWhile (isDelim delim false)) :: tokens delim (r.dropWhile (isDelim delim false)) := by
  have hc : c ≠ delim := fun e => by
    have := (isDelim_true_iff delim c).mpr e
    rw [dropWhile_head h] at this; cases this
  refine ⟨(isDelim_false_iff delim c).mpr hc, ?_⟩
  rw [tokens, tokAux_skip, h]
  simp only [tokAux, hc, if_false, List.nil_append]
  rw [tokAux_cur delim r [c] (by simp)]; rfl

theorem splitLoop_spec {d : List Byte} {endp : Nat} (delim : Byte) (VS SS : Nat) {junk : List Byte} (hj : junk.length = SS + 1)
    {post : List Byte} :
    ∀ (fuel : Nat) (rest pre : List Byte) (ptr : Nat) (acc : List SStr), d = pre ++ (rest ++ post) → ptr = pre.length →
      endp = ptr + rest.length → rest.length < fuel → acc.length ≤ VS → (∀ t, t ∈ acc → t.size ≤ SS ∧ t.data.length = SS + 1) →
    ∃ toks, splitLoop d delim VS SS junk fuel ptr endp acc = .ok toks ∧
      (∀ t, t ∈ toks → t.size ≤ SS ∧ t.data.length = SS + 1) ∧ toks.length ≤ VS ∧
      toks.map SStr.contents = (acc.map SStr.contents ++ (tokens delim rest).map (List.take SS)).take VS := by
  intro fuel
  induction fuel with
  | zero => intro rest pre ptr acc _ _ _ h; cases h
  | succ fuel ih =>
    intro rest pre ptr acc hd hp he hf hacc hall
    have hs1 := skipLoop_spec delim true rest pre ptr hd hp he
    have hsp := List.takeWhile_append_dropWhile (p := isDelim delim true) (l := rest)
    cases hr : rest.dropWhile (isDelim delim true) with
    | nil =>
      rw [hr, List.append_nil] at hsp
      rw [hsp, ← he] at hs1
      refine ⟨acc, ?_, hall, hacc, ?_⟩
      · simp [splitLoop, hs1, bind, Except.bind, pure, Except.pure]
      · rw [tokens_nil hr, List.map_nil, List.append_nil, List.take_of_length_le (by simp; exact hacc)]
    | cons c r =>
      obtain ⟨hc, htok⟩ := tokens_cons hr
      rw [hr] at hsp
      generalize rest.takeWhile (isDelim delim true) = t1 at hs1 hsp
      subst hsp
      have hsp2 := List.takeWhile_append_dropWhile (p := isDelim delim false) (l := r)
      have hs2 := skipLoop_spec (d := d) (endp := endp) (post := post) delim false (c :: r) (pre ++ t1) (ptr + t1.length) (by simp [hd]) (by simp [hp])
        (by simp at he ⊢; omega)
      rw [List.takeWhile_cons, hc, if_pos rfl, List.length_cons] at hs2
      generalize r.takeWhile (isDelim delim false) = t2 at hs2 hsp2 htok
      generalize r.dropWhile (isDelim delim false) = r2 at hsp2 htok
      subst hsp2
      obtain ⟨t, ht1, ht2⟩ := sCtorPtrLen_spec (N := SS) (junk := junk) (arg := d.drop (ptr + t1.length)) (sz := t2.length + 1) hj
        (by simp [hd, hp])
      rw [show (d.drop (ptr + t1.length)).take (t2.length + 1) = c :: t2 by simp [hd, hp]] at ht2
      have hne : ¬ ptr + t1.length = endp := by simp at he; omega
      -- the round has consumed `t1`, `c` and `t2`: the rest stays below the fuel
      have hih := fun acc' => ih r2 (pre ++ (t1 ++ c :: t2)) (ptr + t1.length + (t2.length + 1)) acc' (by simp [hd])
        (by simp [hp]; omega) (by simp at he ⊢; omega) (by simp at hf; omega)
      rw [htok]
      -- `emplace_back` on a full vector constructs nothing: the token is dropped
      by_cases hfull : acc.length ≥ VS
      · obtain ⟨toks, g1, g2, g3, g4⟩ := hih acc hacc hall
        refine ⟨toks, ?_, g2, g3, ?_⟩
        · simp only [splitLoop, hs1, hne, hs2, hfull, bind, Except.bind, pure, Except.pure, if_true, if_false, g1]
        · have hl : (acc.map SStr.contents).length = VS := by simp; omega
          rw [g4, List.take_append_of_le_length (by omega), List.take_append_of_le_length (by omega)]
      · obtain ⟨toks, g1, g2, g3, g4⟩ := hih (acc ++ [t]) (by simp; omega) (fun x hx => by
          rcases List.mem_append.mp hx with h | h
          · exact hall x h
          · obtain rfl : x = t := by simpa using h
            exact ⟨ht2.size ▸ ht2.le, ht2.len⟩)
        refine ⟨toks, ?_, g2, g3, ?_⟩
        · simp only [splitLoop, hs1, hne, hs2, hfull, bind, Except.bind, pure, Except.pure, if_false,
            Nat.add_sub_cancel_left, ht1, g1]
        · rw [g4]; simp [ht2.contents]

/-! ### the string machine against K reference strings -/

abbrev SpecS := Nat → Option (List Byte)

def setSpecS (f : SpecS) (r : Nat) (x : Option (List Byte)) : SpecS := fun q => if q = r then x else f q

def specSStep (c : SCfg) (sp : SpecS) : SOp → SpecS × SOut
  | .new r =>
      match decide (r < c.K), sp r with
      | true, none => (setSpecS sp r (some []), .unit)
      | _, _ => (sp, .bad)
  | .ptr r arg =>
      match decide (r < c.K), sp r with
      | true, none => (setSpecS sp r (some ((arg.takeWhile nz).take c.N)), .unit)
      | _, _ => (sp, .bad)
  | .ptrlen r arg n =>
      match decide (r < c.K ∧ c.port = true ∧ n ≤ arg.length), sp r with
      | true, none => (setSpecS sp r (some ((arg.take n).take c.N)), .unit)
      | _, _ => (sp, .bad)
  | .copy r s =>
      match decide (r < c.K ∧ s < c.K), sp r, sp s with
      | true, none, some eo => (setSpecS sp r (some eo), .unit)
      | _, _, _ => (sp, .bad)
  | .push r ch =>
      match decide (r < c.K), sp r with
      | true, some es => (setSpecS sp r (some (specSPush c.N es ch)), .unit)
      | _, _ => (sp, .bad)
  | .add r ch =>
      match decide (r < c.K ∧ c.port = true), sp r with
      | true, some es => (setSpecS sp r (some (specSPush c.N es ch)), .unit)
      | _, _ => (sp, .bad)
  | .clear r =>
      match decide (r < c.K ∧ c.port = true), sp r with
      | true, some _ => (setSpecS sp r (some []), .unit)
      | _, _ => (sp, .bad)
  | .cstr r =>
      match decide (r < c.K), sp r with
      | true, some es => (sp, .bytes (es.takeWhile nz))
      | _, _ => (sp, .bad)
  | .get r i =>
      match decide (r < c.K), sp r with
      | true, some es => if i < es.length then (sp, .byte (es.getD i 0)) else (sp, .bad)
      | _, _ => (sp, .bad)
  | .set r i ch =>
      match decide (r < c.K), sp r with
      | true, some es => if i < es.length then (setSpecS sp r (some (es.set i ch)), .unit) else (sp, .bad)
      | _, _ => (sp, .bad)
  | .del r =>
      match decide (r < c.K), sp r with
      | true, some _ => (setSpecS sp r none, .unit)
      | _, _ => (sp, .bad)

def specSRun (c : SCfg) : List SOp → SpecS → SpecS × List SOut
  | [], sp => (sp, [])
  | op :: ops, sp =>
      let (sp', o) := specSStep c sp op
      let (sp'', os) := specSRun c ops sp'
      (sp'', o :: os)

def SRel (N : Nat) : Option SStr → Option (List Byte) → Prop
  | none, none => True
  | some s, some es => SAbs N s es
  | _, _ => False

def SInv (c : SCfg) (m : SRegs) (sp : SpecS) : Prop := ∀ r, SRel c.N (m r) (sp r)

/-- the caller's side of the contract: a `const char*` argument is NUL-terminated -/
def SOp.wf : SOp → Prop
  | .ptr _ arg => (0 : Byte) ∈ arg
  | _ => True

theorem srel_none {N : Nat} {o : Option SStr} {x : Option (List Byte)} (h : SRel N o x) : o = none ↔ x = none := by
  cases o <;> cases x <;> simp_all [SRel]

theorem sinv_set {c : SCfg} {m : SRegs} {sp : SpecS} (h : SInv c m sp) (r : Nat) {s' : Option SStr}
    {es' : Option (List Byte)} (hr : SRel c.N s' es') : SInv c (setSReg m r s') (setSpecS sp r es') := by
  intro q
  by_cases hq : q = r
  · subst hq; simpa [setSReg, setSpecS] using hr
  · simpa [setSReg, setSpecS, hq] using h q

theorem regRel_S (N : Nat) : RegRel (SRel N) (SAbs N) := ⟨fun _ h => h, fun _ h => h, fun _ _ h => h⟩

theorem sstep_refines {c : SCfg} (hj : c.junk.length = c.N + 1) {m : SRegs} {sp : SpecS} (h : SInv c m sp)
    (op : SOp) (hwf : op.wf) :
    ∃ m', sstep c m op = .ok (m', (specSStep c sp op).2) ∧ SInv c m' (specSStep c sp op).1 := by
  let Q : SRegs × SOut → SpecS × SOut → Prop := fun x y => x.2 = y.2 ∧ SInv c x.1 y.1
  suffices H : ∃ x, sstep c m op = .ok x ∧ Q x (specSStep c sp op) by
    obtain ⟨x, hx, ho, hi⟩ := H
    exact ⟨x.1, by rw [hx, ← ho], hi⟩
  have hR := regRel_S c.N
  have bad : ∃ x, Except.ok (ε := Fault) (m, SOut.bad) = .ok x ∧ Q x (sp, .bad) := ⟨_, rfl, rfl, h⟩
  have commit : ∀ (r : Nat) {x : Except Fault SStr} {s' : SStr} {es' : List Byte}, x = .ok s' → SAbs c.N s' es' →
      ∃ y, (do let s ← x; pure (setSReg m r (some s), SOut.unit)) = .ok y ∧ Q y (setSpecS sp r (some es'), .unit) :=
    fun r _ s' _ h1 h2 =>
      ⟨(setSReg m r (some s'), .unit), by rw [h1]; rfl, rfl, sinv_set h r (s' := some s') (es' := some _) h2⟩
  cases op <;> simp only [sstep, specSStep]
  case new r =>
    refine lookG hR (m r) (sp r) (h r) (fun _ _ _ _ _ _ => bad) (fun _ _ _ => ?_) (fun _ => bad)
    exact commit r rfl (sabs_default hj)
  case ptr r arg =>
    refine lookG hR (m r) (sp r) (h r) (fun _ _ _ _ _ _ => bad) (fun _ _ _ => ?_) (fun _ => bad)
    obtain ⟨s', p1, p2⟩ := sCtorPtr_spec (N := c.N) hj (show (0 : Byte) ∈ arg from hwf)
    exact commit r p1 p2
  case ptrlen r arg n =>
    refine lookG hR (m r) (sp r) (h r) (fun _ _ _ _ _ _ => bad) (fun hk _ _ => ?_) (fun _ => bad)
    obtain ⟨s', p1, p2⟩ := sCtorPtrLen_spec (N := c.N) (arg := arg) hj hk.2.2
    exact commit r p1 p2
  case copy r s =>
    refine lookG hR (m r) (sp r) (h r) (fun _ _ _ _ _ _ => bad) (fun _ _ _ => ?_) (fun _ => bad)
    refine look0 hR (m s) (sp s) (h s) (fun o eo _ _ ho => ?_) (fun _ _ => bad)
    exact commit r rfl ho
  case push r ch | add r ch =>
    refine lookG hR (m r) (sp r) (h r) (fun _ s es _ _ ha => ?_) (fun _ _ _ => bad) (fun _ => bad)
    obtain ⟨s', p1, p2⟩ := sPush_spec ha ch
    exact commit r p1 p2
  case clear r =>
    refine lookG hR (m r) (sp r) (h r) (fun _ s es _ _ ha => ?_) (fun _ _ _ => bad) (fun _ => bad)
    exact commit r rfl (sabs_clear ha)
  case cstr r =>
    refine lookG hR (m r) (sp r) (h r) (fun _ s es _ hs ha => ?_) (fun _ _ _ => bad) (fun _ => bad)
    obtain ⟨s', out, p1, p2, p3⟩ := sCStr_spec ha
    have e : setSpecS sp r (some es) = sp := by funext q; by_cases hq : q = r <;> simp [setSpecS, hq, hs]
    exact ⟨_, by simp only [p1]; rfl, by rw [p3], e ▸ sinv_set h r (s' := some s') (es' := some es) p2⟩
  case get r i =>
    refine lookG hR (m r) (sp r) (h r) (fun _ s es _ _ ha => ?_) (fun _ _ _ => bad) (fun _ => bad)
    simp only [ha.size]
    by_cases hi : i < es.length
    · rw [if_pos hi, if_pos hi, sGet_spec ha hi]
      exact ⟨_, rfl, by simp [List.getD, List.getElem?_eq_getElem hi], h⟩
    · rw [if_neg hi, if_neg hi]; exact bad
  case set r i ch =>
    refine lookG hR (m r) (sp r) (h r) (fun _ s es _ _ ha => ?_) (fun _ _ _ => bad) (fun _ => bad)
    simp only [ha.size]
    by_cases hi : i < es.length
    · obtain ⟨s', p1, p2⟩ := sSet_spec ha hi ch
      rw [if_pos hi, if_pos hi]
      exact commit r p1 p2
    · rw [if_neg hi, if_neg hi]; exact bad
  case del r =>
    refine lookG hR (m r) (sp r) (h r) (fun _ s es _ _ _ => ?_) (fun _ _ _ => bad) (fun _ => bad)
    exact ⟨_, rfl, rfl, sinv_set h r (s' := none) (es' := none) trivial⟩

theorem srun_refines {c : SCfg} (hj : c.junk.length = c.N + 1) : ∀ (ops : List SOp) (m : SRegs) (sp : SpecS),
    SInv c m sp → (∀ op, op ∈ ops → op.wf) →
    ∃ m', srun c ops m = .ok (m', (specSRun c ops sp).2) ∧ SInv c m' (specSRun c ops sp).1 := by
  intro ops
  induction ops with
  | nil => intro m sp h _; exact ⟨m, rfl, h⟩
  | cons op ops ih =>
    intro m sp h hwf
    obtain ⟨m1, h1, h2⟩ := sstep_refines hj h op (hwf op (List.mem_cons_self ..))
    obtain ⟨m', h3, h4⟩ := ih m1 _ h2 (fun o ho => hwf o (List.mem_cons_of_mem _ ho))
    exact ⟨m', by simp [srun, specSRun, h1, h3, bind, Except.bind, pure, Except.pure], h4⟩

end Igris.C14
