/-
  C14 — lemmas for `Model3b.lean`.  `stepT` is `stepX` on every operation but `erase` (`stepT_eq_stepX`), so
  `stepT_sim` adds the one case of an `erase` whose assignment throws (`eraseX_fail`, `eraseX_replay`) to
  `stepX_sim`.  With `N < 2^w` the `w`-bit machine `stepTW` is `stepT`: through `…X_eq` a loop with a throw point
  bumps the narrow counter `min k b ≤ N` times.  A destroy loop whose destructor throws is again the plain loop
  stopped early (`destroyLoopD_eq`).
-/
import IgrisModel.C14.Model3b
import IgrisModel.C14.Lemmas3
import IgrisModel.C14.MachX

namespace Igris.C14
open Igris.Proto

set_option linter.unusedSimpArgs false
set_option linter.unusedVariables false

/-! ## `stepT`: reference semantics and refinement -/

def specStepT (c : Cfg) (sp : SpecRegs) (op : Op) (b a : Nat) : SpecRegs × Bool :=
  match op with
  | .erase r i j =>
      match decide (r < c.K ∧ c.port = false), sp r with
      | true, some es =>
          if i ≤ j ∧ j ≤ es.length then
            if i < j ∧ a < es.length - j then (setSpec sp r (some (specEraseFail c.trk es i j a)), true)
            else (setSpec sp r (some (specErase es i j)), false)
          else (sp, false)
      | _, _ => (sp, false)
  | op => specStepX c sp op b

def specRunT (c : Cfg) : List (Op × Nat × Nat) → SpecRegs → SpecRegs
  | [], sp => sp
  | (op, b, a) :: ops, sp => specRunT c ops (specStepT c sp op b a).1

theorem op_erase_or (op : Op) : (∃ r i j, op = .erase r i j) ∨ ∀ r i j, op ≠ .erase r i j := by
  cases op <;> first | exact .inl ⟨_, _, _, rfl⟩ | exact .inr (fun _ _ _ h => nomatch h)

/-- only `erase` assigns elements: on every other operation `stepT` is `stepX` -/
theorem stepT_eq_stepX {op : Op} (hop : ∀ r i j, op ≠ .erase r i j) (c : Cfg) (m : Mach) (b a : Nat) :
    stepT c m op b a = stepX c m op b := by
  cases op <;> first | rfl | exact absurd rfl (hop _ _ _)

theorem specStepT_eq_specStepX {op : Op} (hop : ∀ r i j, op ≠ .erase r i j) (c : Cfg) (sp : SpecRegs) (b a : Nat) :
    specStepT c sp op b a = specStepX c sp op b := by
  cases op <;> first | rfl | exact absurd rfl (hop _ _ _)

theorem eraseX_replay {trk : Bool} {v v' : SVec} {i j a : Nat} {tr : Tr} {t : Bool}
    (h : eraseX trk v i j a = .ok (v', tr, t)) : UReplay v v' tr := by
  unfold eraseX at h
  split at h
  · cases h; exact ureplay_nil v
  · obtain ⟨⟨s1, t1, tt⟩, h1, h⟩ := bind_ok h
    rw [shiftLoopX_eq] at h1
    obtain ⟨⟨q1, q2⟩, hq, e⟩ := map_ok h1
    simp only [Prod.mk.injEq] at e
    obtain ⟨rfl, rfl, _⟩ := e
    have a1 : UReplay v ⟨q1, v.size⟩ q2 := shiftLoop_replay trk _ _ _ _ _ _ hq
    cases tt with
    | true =>
      simp only [if_true] at h
      cases h
      exact a1
    | false =>
      simp only [Bool.false_eq_true, if_false] at h
      obtain ⟨⟨s2, t2⟩, h2, h⟩ := bind_ok h
      cases h
      exact ureplay_trans a1 (destroyLoop_replay _ _ _ _ _ h2)

theorem stepT_sim {c : Cfg} {m : Mach} {sp : SpecRegs} (h : MInv c m sp) (op : Op) (b a : Nat) :
    ∃ m' res, stepT c m op b a = .ok (m', res, (specStepT c sp op b a).2) ∧ MInv c m' (specStepT c sp op b a).1 ∧
      StepReplay m m' res := by
  rcases op_erase_or op with ⟨r, i, j, rfl⟩ | hop
  · refine sim_of_triple ?_
    have skip : ∃ x : Mach × Res × Bool, Except.ok (ε := Fault) (m, none, false) = .ok x ∧ x.2.2 = false ∧
        MInv c x.1 sp ∧ StepReplay m x.1 x.2.1 := ⟨_, rfl, rfl, h, rfl⟩
    simp only [stepT, specStepT]
    refine lookG (regRel_V c.N) (m.regs r) (sp r) (h.rel r) (fun hk v es hm hs ha => ?_) (fun _ _ _ => skip)
      (fun _ => skip)
    simp only [ha.size]
    by_cases hc : i ≤ j ∧ j ≤ es.length
    · rw [if_pos hc, if_pos hc]
      by_cases hf : i < j ∧ a < es.length - j
      · obtain ⟨w, tr, p1, p2, p3, p4, p5⟩ := eraseX_fail c.trk ha hf.1 hc.2 hf.2
        rw [if_pos hf]
        exact ⟨_, by rw [p1]; rfl, rfl, minv_set1 h hk.1 r tr (v' := some w) (es' := some _) p2
          (by rw [szOf_set_self, szOf_some hs, p4, p5, specEraseFail_length]),
          replay_set1 r hm (w := some w) (eraseX_replay p1)⟩
      · obtain ⟨v', tr, q1, q2, q3, q4⟩ := erase_spec c.trk ha hc.1 hc.2
        have e := eraseX_nothrow c.trk v i j a (by rw [ha.size]; omega)
        rw [if_neg hf, e, q1]
        exact ⟨_, rfl, rfl, minv_set1 h hk.1 r tr (v' := some v') (es' := some _) q2
          (by rw [szOf_set_self, szOf_some hs, q3]; omega),
          replay_set1 r hm (w := some v') (eraseX_replay (t := false) (by rw [e, q1]; rfl))⟩
    · rw [if_neg hc, if_neg hc]; exact skip
  · rw [stepT_eq_stepX hop, specStepT_eq_specStepX hop]; exact stepX_sim h op b

theorem specRunT_append (c : Cfg) : ∀ (x y : List (Op × Nat × Nat)) (sp : SpecRegs),
    specRunT c (x ++ y) sp = specRunT c y (specRunT c x sp) := by
  intro x
  induction x with
  | nil => intro y sp; rfl
  | cons ob x ih => intro y sp; obtain ⟨op, b, a⟩ := ob; simp [specRunT, ih]

/-! ## `stepTW w = stepT` when the counter can hold the capacity -/

theorem pushBackXW_eq {w N : Nat} (hN : N < 2 ^ w) (v : SVec) (x : Nat) (b : Nat) :
    pushBackXW w N v x b = pushBackX N v x b := by
  cases b with
  | zero => rfl
  | succ b =>
    simp only [pushBackXW, pushBackX]
    by_cases hf : v.size ≥ N
    · simp [hf]
    · have : stored w (v.size + 1) = v.size + 1 := stored_small (by omega)
      simp [hf, this]

theorem rangeLoopXW_eq {w N : Nat} (hN : N < 2 ^ w) : ∀ (xs : List Nat) (v : SVec) (b : Nat),
    rangeLoopXW w N xs v b = rangeLoopX N xs v b := by
  intro xs
  induction xs with
  | nil => intro v b; rfl
  | cons x xs ih =>
    intro v b
    simp only [rangeLoopXW, rangeLoopX]
    by_cases hf : v.size ≥ N
    · simp only [hf, if_true]; exact ih v b
    · simp only [hf, if_false]
      cases b with
      | zero => rfl
      | succ b =>
        simp only []
        rw [stored_small (show v.size + 1 < 2 ^ w by omega)]
        cases hc : construct v.slots v.size (some x) with
        | error e => rfl
        | ok s =>
          simp only [bind, Except.bind]
          rw [ih ⟨s, v.size + 1⟩ b]

theorem ilLoopXW_eq {w N : Nat} (hN : N < 2 ^ w) : ∀ (xs : List Nat) (v : SVec) (b : Nat),
    ilLoopXW w N xs v b = ilLoopX N xs v b := by
  intro xs
  induction xs with
  | nil => intro v b; rfl
  | cons x xs ih =>
    intro v b
    simp only [ilLoopXW, ilLoopX]
    by_cases hf : v.size ≥ N
    · simp [hf]
    · simp only [hf, if_false]
      cases b with
      | zero => rfl
      | succ b =>
        simp only []
        rw [stored_small (show v.size + 1 < 2 ^ w by omega)]
        cases hc : construct v.slots v.size (some x) with
        | error e => rfl
        | ok s =>
          simp only [bind, Except.bind]
          rw [ih ⟨s, v.size + 1⟩ b]

theorem copyCtorXW_eq {w N : Nat} {o : SVec} (h : o.size < 2 ^ w) (b : Nat) :
    copyCtorXW w N o b = copyCtorX N o b := by
  simp only [copyCtorXW, copyCtorX, copyLoopX_eq]
  cases copyLoop o.slots (min o.size b) 0 (rawStore N) with
  | error e => rfl
  | ok p =>
    simp only [Except.map, bind, Except.bind]
    rw [bumpW_eq w (min o.size b) 0 (by omega), Nat.zero_add]

theorem moveCtorXW_eq {w : Nat} {port trk : Bool} {N : Nat} {o : SVec} (h : o.size < 2 ^ w) (b : Nat) :
    moveCtorXW w port trk N o b = moveCtorX port trk N o b := by
  simp only [moveCtorXW, moveCtorX, moveLoopX_eq]
  cases moveLoop trk (min o.size b) 0 (rawStore N) o.slots with
  | error e => rfl
  | ok p =>
    simp only [Except.map, bind, Except.bind]
    rw [bumpW_eq w (min o.size b) 0 (by omega), Nat.zero_add]

theorem assignCopyXW_eq {w : Nat} {v o : SVec} (h : o.size < 2 ^ w) (b : Nat) :
    assignCopyXW w v o b = assignCopyX v o b := by
  simp only [assignCopyXW, assignCopyX]
  refine clear_bind_congr v fun v1 t1 hz => ?_
  simp only [bind, Except.bind, copyLoopX_eq]
  cases copyLoop o.slots (min o.size b) 0 v1.slots with
  | error e => rfl
  | ok p =>
    simp only [Except.map, hz]
    rw [bumpW_eq w (min o.size b) 0 (by omega), Nat.zero_add]

theorem assignMoveXW_eq {w : Nat} {trk : Bool} {v o : SVec} (h : o.size < 2 ^ w) (b : Nat) :
    assignMoveXW w trk v o b = assignMoveX trk v o b := by
  simp only [assignMoveXW, assignMoveX]
  refine clear_bind_congr v fun v1 t1 hz => ?_
  simp only [bind, Except.bind, moveLoopX_eq]
  cases moveLoop trk (min o.size b) 0 v1.slots o.slots with
  | error e => rfl
  | ok p =>
    simp only [Except.map, hz]
    rw [bumpW_eq w (min o.size b) 0 (by omega), Nat.zero_add]

theorem resizeLoopXW_eq (w : Nat) : ∀ (f ns : Nat) (s : Slots) (sz b : Nat), ns < 2 ^ w → ns - sz ≤ f →
    resizeLoopXW w f ns s sz b =
      (valueInitLoopX (ns - sz) sz s b).map (fun q => (q.1, q.2.1, sz + q.2.2.1, q.2.2.2)) := by
  intro f
  induction f with
  | zero =>
    intro ns s sz b _ hf
    have : ns - sz = 0 := by omega
    rw [this]
    simp [resizeLoopXW, valueInitLoopX, Except.map]
  | succ f ih =>
    intro ns s sz b hns hf
    simp only [resizeLoopXW]
    by_cases hlt : sz < ns
    · obtain ⟨d, hd⟩ : ∃ d, ns - sz = d + 1 := ⟨ns - sz - 1, by omega⟩
      rw [hd]
      simp only [hlt, if_true]
      cases b with
      | zero => simp [valueInitLoopX, Except.map]
      | succ b =>
        simp only [valueInitLoopX]
        rw [stored_small (by omega)]
        cases hc : construct s sz (some 0) with
        | error e => rfl
        | ok s1 =>
          simp only [bind, Except.bind]
          rw [ih ns s1 (sz + 1) b hns (by omega)]
          have e : ns - (sz + 1) = d := by omega
          rw [e]
          cases hv : valueInitLoopX d (sz + 1) s1 b with
          | error e => rfl
          | ok q =>
            obtain ⟨s2, t2, n2, tt2⟩ := q
            simp only [Except.map, pure, Except.pure, Except.ok.injEq, Prod.mk.injEq, true_and, and_true]
            omega
    · have : ns - sz = 0 := by omega
      rw [this]
      simp [hlt, valueInitLoopX, Except.map]

theorem resizeXW_eq {w N : Nat} (hN : N < 2 ^ w) (v : SVec) (n b : Nat) : resizeXW w N v n b = resizeX N v n b := by
  simp only [resizeXW, resizeX]
  have hns : (if n ≥ N then N else n) < 2 ^ w := by split <;> omega
  generalize (if n ≥ N then N else n) = ns at hns
  rw [resizeLoopXW_eq w (ns + 1) ns v.slots v.size b hns (by omega)]
  cases hv : valueInitLoopX (ns - v.size) v.size v.slots b with
  | error e => rfl
  | ok q =>
    obtain ⟨s1, t1, k, t⟩ := q
    simp only [Except.map, bind, Except.bind]
    cases t with
    | true => rfl
    | false =>
      obtain ⟨_, hk⟩ := valueInitLoopX_done hv
      have e : v.size + k - ns = v.size - ns := by omega
      simp only [Bool.false_eq_true, if_false, e, stored_small hns]

theorem eraseXW_eq {w N : Nat} (hN : N < 2 ^ w) (trk : Bool) (v : SVec) (i j a : Nat) (hs : v.size ≤ N) :
    eraseXW w trk v i j a = eraseX trk v i j a := by
  simp only [eraseXW, eraseX]
  rw [stored_small (show v.size - (j - i) < 2 ^ w by omega)]

theorem stepTW_eq {w : Nat} {c : Cfg} {m : Mach} {sp : SpecRegs} (h : MInv c m sp) (hN : c.N < 2 ^ w)
    (op : Op) (b a : Nat) : stepTW w c m op b a = stepT c m op b a := by
  have sz : ∀ {r v}, m.regs r = some v → v.size < 2 ^ w := fun hv => Nat.lt_of_le_of_lt (reg_size_le h hv) hN
  cases op <;> simp only [stepTW, stepT, stepX]
  case copy r s =>
    refine lookG1 (m.regs r) (fun _ _ _ => rfl) (fun _ _ => ?_) (fun _ => rfl)
    cases hs : m.regs s with
    | none => rfl
    | some o => simp only [copyCtorXW_eq (sz hs)]
  case move r s =>
    refine lookG1 (m.regs r) (fun _ _ _ => rfl) (fun _ _ => ?_) (fun _ => rfl)
    cases hs : m.regs s with
    | none => rfl
    | some o => simp only [moveCtorXW_eq (sz hs)]
  case range r xs =>
    refine lookG1 (m.regs r) (fun _ _ _ => rfl) (fun _ _ => ?_) (fun _ => rfl)
    simp only [rangeCtorXW, rangeCtorX, rangeLoopXW_eq hN xs]
  case il r xs =>
    refine lookG1 (m.regs r) (fun _ _ _ => rfl) (fun _ _ => ?_) (fun _ => rfl)
    simp only [ilCtorXW, ilCtorX, ilLoopXW_eq hN xs]
  case acopy r s =>
    refine lookG1 (m.regs r) (fun _ v _ => ?_) (fun _ _ => rfl) (fun _ => rfl)
    cases hs : m.regs s with
    | none => rfl
    | some o => simp only [assignCopyXW_eq (sz hs)]
  case amove r s =>
    refine lookG1 (m.regs r) (fun _ v _ => ?_) (fun _ _ => rfl) (fun _ => rfl)
    cases hs : m.regs s with
    | none => rfl
    | some o => simp only [assignMoveXW_eq (sz hs)]
  case push r x | emplace r x =>
    refine lookG1 (m.regs r) (fun _ v _ => ?_) (fun _ _ => rfl) (fun _ => rfl)
    simp only [pushBackXW_eq hN v x]
  case resize r n =>
    refine lookG1 (m.regs r) (fun _ v _ => ?_) (fun _ _ => rfl) (fun _ => rfl)
    simp only [resizeXW_eq hN v n]
  case erase r i j =>
    refine lookG1 (m.regs r) (fun _ v hv => ?_) (fun _ _ => rfl) (fun _ => rfl)
    simp only [eraseXW_eq hN c.trk v i j a (reg_size_le h hv)]

theorem runTW_eq {w : Nat} {c : Cfg} (hN : c.N < 2 ^ w) : ∀ (ops : List (Op × Nat × Nat)) (m : Mach) (sp : SpecRegs),
    MInv c m sp → runTW w c ops m = runT c ops m := by
  intro ops
  induction ops with
  | nil => intro m sp _; rfl
  | cons ob ops ih =>
    intro m sp h
    obtain ⟨op, b, a⟩ := ob
    simp only [runTW, runT, stepTW_eq h hN op b a]
    obtain ⟨m1, res, h1, h2, _⟩ := stepT_sim h op b a
    rw [h1]
    simp only [bind, Except.bind]
    exact ih m1 _ h2

/-! ## the event-trace ledger over histories with both kinds of throw -/

theorem stepT_replay {c : Cfg} {m : Mach} {sp : SpecRegs} (hinv : MInv c m sp) {op : Op} {b a : Nat} {m' : Mach}
    {res : Res} {t : Bool} (h : stepT c m op b a = .ok (m', res, t)) : StepReplay m m' res := by
  obtain ⟨m1, res1, h1, _, h3⟩ := stepT_sim hinv op b a
  rw [h1] at h; cases h; exact h3

def runEvT (c : Cfg) : List (Op × Nat × Nat) → Mach → Except Fault (Mach × List GEv)
  | [], m => .ok (m, [])
  | (op, b, a) :: ops, m => do
      let (m', res, _) ← stepT c m op b a
      let (m'', evs) ← runEvT c ops m'
      pure (m'', res.getD [] ++ evs)

theorem runEvT_replays {c : Cfg} : ∀ (ops : List (Op × Nat × Nat)) (m : Mach) (sp : SpecRegs), MInv c m sp →
    ∃ m' evs, runEvT c ops m = .ok (m', evs) ∧ runT c ops m = .ok m' ∧ MInv c m' (specRunT c ops sp) ∧
      replayG evs (occR m.regs) = some (occR m'.regs) := by
  intro ops
  induction ops with
  | nil => intro m sp h; exact ⟨m, [], rfl, rfl, h, rfl⟩
  | cons opb ops ih =>
    obtain ⟨op, b, a⟩ := opb
    intro m sp h
    obtain ⟨m1, res, h1, h2, hr⟩ := stepT_sim h op b a
    obtain ⟨m', evs, g1, g0, g2, g3⟩ := ih m1 _ h2
    exact ⟨m', res.getD [] ++ evs, by simp [runEvT, h1, g1, bind, Except.bind, pure, Except.pure],
      by simp [runT, h1, g0, bind, Except.bind], g2, stepReplay_append hr g3⟩

theorem runT_refines {c : Cfg} : ∀ (ops : List (Op × Nat × Nat)) (m : Mach) (sp : SpecRegs), MInv c m sp →
    ∃ m', runT c ops m = .ok m' ∧ MInv c m' (specRunT c ops sp) := by
  intro ops m sp h
  obtain ⟨m', _, _, h1, h2, _⟩ := runEvT_replays ops m sp h
  exact ⟨m', h1, h2⟩

/-! ## element destructors that throw -/

/-- `d + 1`, not `d`: the destructor that throws has ended its element's lifetime -/
theorem destroyLoopD_eq : ∀ (k pos : Nat) (s : Slots) (d : Nat),
    destroyLoopD k pos s d = (destroyLoop (min k (d + 1)) pos s).map fun q => (q.1, q.2, decide (d < k))
  | 0, pos, s, d => by simp [destroyLoopD, destroyLoop, Except.map]
  | k + 1, pos, s, 0 => by
      simp only [destroyLoopD, Nat.zero_add, show min (k + 1) 1 = 1 by omega, destroyLoop, bind, Except.bind]
      cases destroy s pos with
      | error e => rfl
      | ok s1 => simp [Except.map, pure, Except.pure]
  | k + 1, pos, s, d + 1 => by
      rw [Nat.add_min_add_right]
      simp only [destroyLoopD, destroyLoop, bind, Except.bind]
      cases destroy s pos with
      | error e => rfl
      | ok s1 =>
        simp only [destroyLoopD_eq k (pos + 1) s1 d]
        cases destroyLoop (min k (d + 1)) (pos + 1) s1 with
        | error e => rfl
        | ok q => simp [Except.map, pure, Except.pure]

end Igris.C14
