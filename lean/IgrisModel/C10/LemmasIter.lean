/-
  C10 — `igris::pool::unlinked_iterator` (igris/container/pool.h).

  `next()` is the do/while `do ++_num; while (_num < size() && !cell_is_allocated(_num))`,
  `begin()` = `{this, -1}.next()`, `end()` = `{this, -1}`.  The model gives the
  loop `cells + 1` units of fuel, which is never exhausted.
-/
import IgrisModel.C10.LemmasPool
namespace Igris.C10

theorem iterNextLoop_spec (p : IPool) : ∀ (fuel : Nat) (num : Int),
    1 ≤ fuel → (p.cells : Int) ≤ num + fuel →
    num < p.iterNextLoop fuel num ∧
    (∀ k, num < k → k < p.iterNextLoop fuel num → p.cellIsAllocated k = false) ∧
    (p.iterNextLoop fuel num < (p.cells : Int) →
      p.cellIsAllocated (p.iterNextLoop fuel num) = true) := by
  intro fuel
  induction fuel with
  | zero => intro num h; omega
  | succ fuel ih =>
    intro num _ hf
    simp only [IPool.iterNextLoop]
    by_cases hc : num + 1 < (p.cells : Int) ∧ (!(p.cellIsAllocated (num + 1))) = true
    · rw [if_pos hc]
      obtain ⟨h1, h2, h3⟩ := ih (num + 1) (by omega) (by omega)
      refine ⟨by omega, ?_, h3⟩
      intro k hk1 hk2
      by_cases hk : k = num + 1
      · subst hk; simpa using hc.2
      · exact h2 k (by omega) hk2
    · rw [if_neg hc]
      refine ⟨by omega, fun k _ _ => by omega, ?_⟩
      intro hlt
      cases hA : p.cellIsAllocated (num + 1) with
      | true => rfl
      | false => exact absurd ⟨hlt, by simp [hA]⟩ hc

theorem iterNext_raw (p : IPool) (num : Int) (h : -1 ≤ num) :
    (p.iterNext num = -1 ∧ ∀ j, num < j → j < (p.cells : Int) → p.cellIsAllocated j = false) ∨
    (∃ j, p.iterNext num = j ∧ num < j ∧ j < (p.cells : Int) ∧ p.cellIsAllocated j = true ∧
      ∀ k, num < k → k < j → p.cellIsAllocated k = false) := by
  obtain ⟨h1, h2, h3⟩ := iterNextLoop_spec p (p.cells + 1) num (by omega) (by omega)
  simp only [IPool.iterNext]
  by_cases hlt : p.iterNextLoop (p.cells + 1) num < (p.cells : Int)
  · rw [if_pos hlt]; right; exact ⟨_, rfl, h1, hlt, h3 hlt, h2⟩
  · rw [if_neg hlt]; left; exact ⟨rfl, fun j hj1 hj2 => h2 j hj1 (by omega)⟩

theorem filter_range'_first (P : Nat → Bool) (L : Nat) : ∀ (d m j : Nat), j = m + d → j < L →
    (∀ k, m ≤ k → k < j → P k = false) → P j = true →
    (List.range' m (L - m)).filter P = j :: (List.range' (j + 1) (L - (j + 1))).filter P := by
  intro d
  induction d with
  | zero =>
    intro m j hj hL _ hP
    have : j = m := by omega
    subst this
    have h3 : L - j = (L - (j + 1)) + 1 := by omega
    rw [h3, List.range'_succ, List.filter_cons_of_pos hP]
  | succ d ih =>
    intro m j hj hL hall hP
    have h3 : L - m = (L - (m + 1)) + 1 := by omega
    have hm : ¬ P m = true := by rw [hall m (by omega) (by omega)]; decide
    rw [h3, List.range'_succ, List.filter_cons_of_neg hm]
    exact ih (m + 1) j (by omega) hL (fun k hk1 hk2 => hall k (by omega) hk2) hP

/-- what the iteration has left to visit once it has passed cell `m - 1` -/
def allocFrom (p : IPool) (m : Nat) : List Int :=
  ((List.range' m (p.cells - m)).filter (fun i : Nat => p.cellIsAllocated (i : Int))).map
    (fun i : Nat => (i : Int))

theorem allocFrom_eq_nil (p : IPool) (m : Nat)
    (h : ∀ k : Nat, m ≤ k → k < p.cells → p.cellIsAllocated (k : Int) = false) : allocFrom p m = [] := by
  unfold allocFrom
  rw [List.filter_eq_nil_iff.2 fun a ha => by
    rw [List.mem_range'_1] at ha
    rw [h a ha.1 (by omega)]; decide]
  rfl

theorem iterAllLoop_nil (p : IPool) (fuel : Nat) : p.iterAllLoop fuel (-1) = [] := by
  cases fuel <;> simp [IPool.iterAllLoop]

theorem iterAllLoop_spec (p : IPool) : ∀ (fuel : Nat) (num : Int), -1 ≤ num →
    (p.cells : Int) ≤ num + 1 + fuel →
    p.iterAllLoop fuel (p.iterNext num) = allocFrom p (num + 1).toNat := by
  intro fuel
  induction fuel with
  | zero =>
    intro num hn hf
    rcases iterNext_raw p num hn with ⟨hj, hnone⟩ | ⟨j, hj, h1, h2, h3, h4⟩
    · rw [hj, iterAllLoop_nil, allocFrom_eq_nil]
      exact fun k hk1 hk2 => hnone k (by omega) (by omega)
    · omega
  | succ fuel ih =>
    intro num hn hf
    rcases iterNext_raw p num hn with ⟨hj, hnone⟩ | ⟨j, hj, h1, h2, h3, h4⟩
    · rw [hj, iterAllLoop_nil, allocFrom_eq_nil]
      exact fun k hk1 hk2 => hnone k (by omega) (by omega)
    · rw [hj]
      simp only [IPool.iterAllLoop]
      rw [if_neg (by omega), ih j (by omega) (by omega)]
      unfold allocFrom
      have hjj : ((j.toNat : Nat) : Int) = j := Int.toNat_of_nonneg (by omega)
      rw [filter_range'_first (fun i : Nat => p.cellIsAllocated (i : Int)) p.cells
        (j.toNat - (num + 1).toNat) (num + 1).toNat j.toNat (by omega) (by omega)
        (fun k hk1 hk2 => h4 k (by omega) (by omega)) (by simpa only [hjj] using h3)]
      have hj1 : (j + 1).toNat = j.toNat + 1 := by omega
      rw [List.map_cons, hjj, hj1]

theorem iterAll_raw (p : IPool) :
    p.iterAll = ((List.range p.cells).filter (fun i : Nat => p.cellIsAllocated (i : Int))).map
      (fun i : Nat => (i : Int)) := by
  unfold IPool.iterAll
  rw [iterAllLoop_spec p (p.cells + 1) (-1) (by omega) (by omega)]
  simp [allocFrom, List.range_eq_range']

theorem IInv.cells_eq {e n : Nat} {s : IState} (he : 0 < e) (hi : IInv e n s) : s.pool.cells = n := by
  obtain ⟨_, _, hsz, hel⟩ := hi
  simp [IPool.cells, hsz, hel, Nat.mul_div_cancel n he]

theorem IInv.cellIsAllocated_iff {e n : Nat} {s : IState} (he : 0 < e) (hi : IInv e n s) (i : Int) :
    s.pool.cellIsAllocated i = true ↔ 0 ≤ i ∧ i < n ∧ i.toNat * e ∈ s.live := by
  have hcells := hi.cells_eq he
  obtain ⟨hp, _, hsz, hel⟩ := hi
  have hf := PInv.facts he hp
  simp only [IPool.cellIsAllocated, hcells, hel]
  split
  · rename_i h; constructor
    · intro h'; cases h'
    · intro ⟨h1, h2, _⟩; omega
  · rename_i h
    have hi0 : 0 ≤ i := by omega
    have hin : i.toNat < n := by omega
    have hmem : i.toNat * e ∈ s.pool.head.free ++ s.live := hp.mem_iff.2 (mem_cells.2 ⟨_, hin, rfl⟩)
    simp only [Pool.inFreelist, Bool.not_eq_true', List.contains_eq_mem, decide_eq_false_iff_not]
    constructor
    · intro hnf
      refine ⟨hi0, by omega, ?_⟩
      rcases List.mem_append.1 hmem with h' | h'
      · exact absurd h' hnf
      · exact h'
    · intro ⟨_, _, hl⟩; exact hf.2.2.1 _ hl

/-- `unlinked_iterator{pool, num}.next()`: the smallest allocated cell above
`num`, `-1` (= `end()`) when there is none -/
theorem IInv.iterNext_spec {e n : Nat} {s : IState} (he : 0 < e) (hi : IInv e n s) (num : Int) (hnum : -1 ≤ num) :
    (s.pool.iterNext num = -1 ∧ ∀ j : Int, num < j → j < n → j.toNat * e ∉ s.live) ∨
    (∃ j : Int, s.pool.iterNext num = j ∧ num < j ∧ j < n ∧ j.toNat * e ∈ s.live ∧
      ∀ k : Int, num < k → k < j → k.toNat * e ∉ s.live) := by
  have hcells := hi.cells_eq he
  have hfree : ∀ j : Int, 0 ≤ j → j < n → s.pool.cellIsAllocated j = false → j.toNat * e ∉ s.live :=
    fun j h0 hn hf hl => by rw [(hi.cellIsAllocated_iff he j).2 ⟨h0, hn, hl⟩] at hf; cases hf
  rcases iterNext_raw s.pool num hnum with ⟨hj, hnone⟩ | ⟨j, hj, h1, h2, h3, h4⟩
  · exact .inl ⟨hj, fun j hj1 hj2 => hfree j (by omega) hj2 (hnone j hj1 (by omega))⟩
  · rw [hcells] at h2
    exact .inr ⟨j, hj, h1, h2, ((hi.cellIsAllocated_iff he j).1 h3).2.2,
      fun k hk1 hk2 => hfree k (by omega) (by omega) (h4 k hk1 hk2)⟩

/-- `for (it = begin(); it != end(); ++it)` visits exactly the allocated cells,
each once, in ascending cell order -/
theorem IInv.iterAll_eq {e n : Nat} {s : IState} (he : 0 < e) (hi : IInv e n s) :
    s.pool.iterAll =
      ((List.range n).filter (fun i : Nat => decide (i * e ∈ s.live))).map (fun i : Nat => (i : Int)) := by
  have hcells := hi.cells_eq he
  rw [iterAll_raw, hcells]
  congr 1
  apply List.filter_congr
  intro i hi'
  rw [List.mem_range] at hi'
  have := hi.cellIsAllocated_iff he (i : Int)
  simp only [Int.toNat_natCast] at this
  rw [Bool.eq_iff_iff, this, decide_eq_true_iff]
  exact ⟨fun h => h.2.2, fun h => ⟨by omega, by omega, h⟩⟩

theorem IInv.iterAll_length {e n : Nat} {s : IState} (he : 0 < e) (hi : IInv e n s) :
    s.pool.iterAll.length = s.live.length := by
  rw [IInv.iterAll_eq he hi, List.length_map]
  have hf := PInv.facts he hi.1
  have hp : (((List.range n).filter (fun i : Nat => decide (i * e ∈ s.live))).map (· * e)).Perm s.live := by
    apply (List.perm_ext_iff_of_nodup ?_ hf.1).2
    · intro c
      simp only [List.mem_map, List.mem_filter, List.mem_range, decide_eq_true_eq]
      constructor
      · rintro ⟨i, ⟨_, hl⟩, rfl⟩; exact hl
      · intro hc
        obtain ⟨i, hin, rfl⟩ := hf.2.2.2 c (Or.inl hc)
        exact ⟨i, ⟨hin, hc⟩, rfl⟩
    · exact (cells_nodup e n he).sublist (List.filter_sublist.map _)
  simpa using hp.length_eq

/-- `*it` = `cell(i)` of a visited index is a live cell of the zone, and every live cell is visited -/
theorem IInv.mem_iterAll {e n : Nat} {s : IState} (he : 0 < e) (hi : IInv e n s) (i : Int) :
    i ∈ s.pool.iterAll ↔ 0 ≤ i ∧ i < n ∧ i.toNat * e ∈ s.live := by
  rw [IInv.iterAll_eq he hi]
  simp only [List.mem_map, List.mem_filter, List.mem_range, decide_eq_true_eq]
  constructor
  · rintro ⟨k, ⟨hk, hl⟩, rfl⟩; exact ⟨by omega, by omega, by simpa using hl⟩
  · rintro ⟨h0, hn, hl⟩; exact ⟨i.toNat, ⟨by omega, hl⟩, by omega⟩

theorem ipool_iterAll_sorted (e n : Nat) (he : 0 < e) (ops : List IOp) (s : IState)
    (hr : irun ⟨IPool.init (n * e) e, []⟩ ops = some s) :
    s.pool.iterAll.Pairwise (· < ·) := by
  rw [(irun_inv (IInv.init e n he) hr).iterAll_eq he, List.pairwise_map]
  have : ((List.range n).filter (fun i : Nat => decide (i * e ∈ s.live))).Pairwise (· < ·) :=
    (List.pairwise_lt_range (n := n)).sublist List.filter_sublist
  exact this.imp (fun {a b} hab => by omega)

/-! ### the statements are not vacuous -/

example : ∃ s, irun ⟨IPool.init 48 16, []⟩ [.get, .get, .get, .put (some 16)] = some s ∧
    s.pool.iterAll = [0, 2] ∧ s.pool.iterNext (-1) = 0 ∧ s.pool.iterNext 0 = 2 ∧
    s.pool.iterNext 2 = -1 := ⟨_, rfl, by decide⟩
example : (IPool.init 48 16).iterAll = [] := by decide
example : ∃ s, irun ⟨IPool.init 48 16, []⟩ [.get, .get, .get] = some s ∧
    s.pool.iterAll = [0, 1, 2] := ⟨_, rfl, by decide⟩
example : ∃ s s2, irun ⟨IPool.init 48 16, []⟩ [.get, .get, .put (some 32)] = some s ∧
    istep s .get = some (s2, some 32) := ⟨_, _, rfl, rfl⟩

end Igris.C10
