/-
  C10 — pools fed from several zones.  `pool_engage` onto ANY list puts the new cells in front and keeps the
  old list (`engageAt_eq`), so the invariant `MInv` is: free list ++ handed-out cells is a permutation of
  all cells of all zones engaged so far, the zones are pairwise disjoint and well-formed.  `SXInv` is the
  same for static_object_pool with extra zones, together with its constructor / destructor ledger.
-/
import IgrisModel.C10.LemmasPool
namespace Igris.C10

/-- the cells `pool_engage` carves out of a zone, lowest address first -/
def zcells (z : Zone) : List Nat := (List.range z.ncells).map (fun i => z.base + i * z.elemsz)

def allCells : List Zone → List Nat
  | [] => []
  | z :: zs => zcells z ++ allCells zs

def InZone (z : Zone) (c : Nat) : Prop := ∃ i, i < z.ncells ∧ c = z.base + i * z.elemsz

/-- a well-formed zone = the precondition of `pool_engage` (asserted by `igris::pool::init` and `pool_engage`):
a cell can hold the 8-byte link (`elemsz >= sizeof(struct slist_head)`) and the zone is whole cells
(`size % elemsz == 0`) -/
def Zone.WF (z : Zone) : Prop := 8 ≤ z.elemsz ∧ z.size % z.elemsz = 0

theorem Zone.WF.pos {z : Zone} (h : z.WF) : 0 < z.elemsz := by have := h.1; omega

theorem not_refused_wf {b sz e : Nat} (h : ¬ engageRefused sz e = true) : (⟨b, sz, e⟩ : Zone).WF := by
  simp only [engageRefused, Bool.or_eq_true, decide_eq_true_eq, bne_iff_ne, ne_eq, not_or, Nat.not_lt,
    Decidable.not_not] at h
  exact h

theorem mem_zcells {z : Zone} {c : Nat} : c ∈ zcells z ↔ InZone z c := by
  simp only [zcells, List.mem_map, List.mem_range, InZone]
  exact exists_congr fun i => and_congr_right fun _ => eq_comm

theorem mem_allCells {zs : List Zone} {c : Nat} : c ∈ allCells zs ↔ ∃ z ∈ zs, InZone z c := by
  induction zs with
  | nil => simp [allCells]
  | cons z zs ih =>
    simp only [allCells, List.mem_append, mem_zcells, ih, List.mem_cons]
    constructor
    · rintro (h | ⟨w, hw, h⟩)
      · exact ⟨z, Or.inl rfl, h⟩
      · exact ⟨w, Or.inr hw, h⟩
    · rintro ⟨w, rfl | hw, h⟩
      · exact Or.inl h
      · exact Or.inr ⟨w, hw, h⟩

theorem zcells_length (z : Zone) : (zcells z).length = z.ncells := by simp [zcells]

theorem allCells_length (zs : List Zone) : (allCells zs).length = capacity zs := by
  induction zs with
  | nil => rfl
  | cons z zs ih => simp [allCells, capacity, zcells_length, ih]

theorem InZone.range {z : Zone} {c : Nat} (h : InZone z c) :
    z.base ≤ c ∧ c + z.elemsz ≤ z.base + z.size ∧ (c - z.base) % z.elemsz = 0 := by
  obtain ⟨i, hi, rfl⟩ := h
  have h1 := cell_in_zone (e := z.elemsz) hi
  have h2 : z.ncells * z.elemsz ≤ z.size := Nat.div_mul_le_self _ _
  refine ⟨by omega, by omega, ?_⟩
  rw [Nat.add_sub_cancel_left]; exact Nat.mul_mod_left _ _

theorem zcells_nodup (z : Zone) (he : 0 < z.elemsz) : (zcells z).Nodup := by
  unfold zcells
  rw [List.Nodup, List.pairwise_map]
  refine (List.nodup_range (n := z.ncells)).imp (fun {a b} hab h => hab ?_)
  have : a * z.elemsz = b * z.elemsz := by omega
  exact Nat.eq_of_mul_eq_mul_right he this

theorem disjoint_iff {z w : Zone} :
    z.disjoint w = true ↔ z.base + z.size ≤ w.base ∨ w.base + w.size ≤ z.base := by
  simp [Zone.disjoint]

theorem cells_of_disjoint_zones {z w : Zone} {c d : Nat} (hd : z.disjoint w = true) (hc : InZone z c)
    (hd' : InZone w d) :
    c + z.elemsz ≤ d ∨ d + w.elemsz ≤ c := by
  have h1 := hc.range
  have h2 := hd'.range
  rcases disjoint_iff.1 hd with h | h
  · left; omega
  · right; omega

theorem cells_of_one_zone {z : Zone} {c d : Nat} (hc : InZone z c) (hd : InZone z d) (hne : c ≠ d) :
    c + z.elemsz ≤ d ∨ d + z.elemsz ≤ c := by
  obtain ⟨i, _, rfl⟩ := hc
  obtain ⟨j, _, rfl⟩ := hd
  have hij : i * z.elemsz ≠ j * z.elemsz := fun h => hne (by omega)
  have := cells_disjoint hij
  omega

theorem allCells_nodup {zs : List Zone} (hd : zs.Pairwise (fun z w => z.disjoint w = true))
    (hw : ∀ z ∈ zs, z.WF) : (allCells zs).Nodup := by
  induction zs with
  | nil => simp [allCells]
  | cons z zs ih =>
    rw [List.pairwise_cons] at hd
    simp only [allCells]
    rw [List.nodup_append]
    refine ⟨zcells_nodup z (hw z (by simp)).pos, ih hd.2 (fun w hw' => hw w (by simp [hw'])), ?_⟩
    intro a ha b hb hab
    subst hab
    obtain ⟨w, hwz, hin⟩ := mem_allCells.1 hb
    have hzw := hw z (by simp)
    have := cells_of_disjoint_zones (hd.1 w hwz) (mem_zcells.1 ha) hin
    have := hzw.1
    have := (hw w (by simp [hwz])).1
    omega

theorem engageAt_eq (p : Pool) (z : Zone) (hw : z.WF) :
    (p.engageAt z.base z.size z.elemsz).free = (zcells z).reverse ++ p.free := by
  have he : 0 < z.elemsz := hw.pos
  have hd := hw.2
  have hsz : z.size = z.ncells * z.elemsz := (Nat.div_mul_cancel (Nat.dvd_of_mod_eq_zero hd)).symm
  have hle : z.ncells ≤ z.size := by
    rw [hsz]; exact Nat.le_mul_of_pos_right _ he
  have := engageLoop_at z.elemsz z.base z.ncells he (z.size + 1) p.free (by omega)
  rw [← hsz] at this
  exact this

theorem engageAt_zero (p : Pool) (size e : Nat) : p.engageAt 0 size e = p.engage size e := by
  simp [Pool.engageAt, Pool.engage]

structure MInv (s : MState) : Prop where
  perm : (s.pool.free ++ s.live).Perm (allCells s.zones)
  disj : s.zones.Pairwise (fun z w => z.disjoint w = true)
  wf : ∀ z ∈ s.zones, z.WF

theorem MInv.init : MInv MState.init := ⟨by simp [MState.init, Pool.init, allCells], by simp [MState.init], by simp [MState.init]⟩

theorem mstep_engage {s s' : MState} {b sz e : Nat} {r : Option Nat}
    (h : mstep s (.engage b sz e) = some (s', r)) :
    (⟨b, sz, e⟩ : Zone).WF ∧ (∀ w ∈ s.zones, Zone.disjoint ⟨b, sz, e⟩ w = true) ∧
      s' = ⟨s.pool.engageAt b sz e, s.live, ⟨b, sz, e⟩ :: s.zones⟩ ∧ r = none := by
  simp only [mstep] at h
  split at h
  · cases h
  · rename_i hc
    split at h
    · rename_i hall
      cases h
      exact ⟨not_refused_wf hc, List.all_eq_true.1 hall, rfl, rfl⟩
    · cases h

theorem mstep_alloc {s s' : MState} {r : Option Nat} (h : mstep s .alloc = some (s', r)) :
    AllocStep s.pool.free s.live r s'.pool.free s'.live ∧ s'.zones = s.zones := by
  simp only [mstep] at h
  split at h
  · rename_i p hp; cases h; exact ⟨Pool.alloc_step _ _ hp, rfl⟩
  · rename_i c p hp; cases h; exact ⟨Pool.alloc_step _ _ hp, rfl⟩

theorem mstep_free {s s' : MState} {c : Nat} {r : Option Nat} (h : mstep s (.free c) = some (s', r)) :
    c ∈ s.live ∧ s'.pool.free = c :: s.pool.free ∧ s'.live = s.live.erase c ∧ s'.zones = s.zones ∧ r = none := by
  simp only [mstep] at h
  split at h
  · rename_i hc; cases h; exact ⟨by simpa using hc, rfl, rfl, rfl, rfl⟩
  · cases h

theorem mstep_inv {s s' : MState} {op : MOp} {ret : Option Nat} (hi : MInv s)
    (hs : mstep s op = some (s', ret)) : MInv s' := by
  cases op with
  | engage b sz e =>
    obtain ⟨hwz, hall, rfl, _⟩ := mstep_engage hs
    refine ⟨?_, List.pairwise_cons.2 ⟨hall, hi.disj⟩, List.forall_mem_cons.2 ⟨hwz, hi.wf⟩⟩
    simp only
    rw [show s.pool.engageAt b sz e = s.pool.engageAt (⟨b, sz, e⟩ : Zone).base (⟨b, sz, e⟩ : Zone).size
      (⟨b, sz, e⟩ : Zone).elemsz from rfl, engageAt_eq _ _ hwz]
    simp only [allCells, List.append_assoc]
    exact List.Perm.append (List.reverse_perm _) hi.perm
  | alloc =>
    obtain ⟨ha, hz⟩ := mstep_alloc hs
    exact ⟨hz ▸ ha.perm hi.perm, hz ▸ hi.disj, hz ▸ hi.wf⟩
  | free c =>
    obtain ⟨hc, hf, hl, hz, _⟩ := mstep_free hs
    exact ⟨by rw [hf, hl, hz]; exact perm_free hc hi.perm, hz ▸ hi.disj, hz ▸ hi.wf⟩

theorem mrun_inv {ops : List MOp} {s s' : MState} (hi : MInv s) (hr : mrun s ops = some s') : MInv s' := by
  induction ops generalizing s with
  | nil => simp only [mrun] at hr; cases hr; exact hi
  | cons op ops ih =>
    simp only [mrun] at hr
    split at hr
    · cases hr
    · rename_i s1 ret hs
      exact ih (mstep_inv hi hs) hr

theorem MInv.facts {s : MState} (hi : MInv s) :
    s.live.Nodup ∧ s.pool.free.Nodup ∧ (∀ c, c ∈ s.live → c ∉ s.pool.free) ∧
    (∀ c, c ∈ s.live ∨ c ∈ s.pool.free → ∃ z ∈ s.zones, InZone z c) := by
  obtain ⟨h1, h2, h3, h4⟩ := perm_facts hi.perm (allCells_nodup hi.disj hi.wf)
  exact ⟨h1, h2, h3, fun c hc => mem_allCells.1 (h4 c hc)⟩

theorem MInv.card {s : MState} (hi : MInv s) : s.pool.free.length + s.live.length = capacity s.zones := by
  have := hi.perm.length_eq
  rwa [List.length_append, allCells_length] at this

theorem zones_eq_or_disjoint {zs : List Zone} (hd : zs.Pairwise (fun z w => z.disjoint w = true))
    {z w : Zone} (hz : z ∈ zs) (hw : w ∈ zs) : z = w ∨ z.disjoint w = true :=
  List.Pairwise.forall_of_forall_of_flip (R := fun z w => z = w ∨ z.disjoint w = true) (fun _ _ => .inl rfl)
    (hd.imp .inr) (hd.imp fun h => .inr (by rw [disjoint_iff] at h ⊢; omega)) hz hw

theorem mrun_allocs : ∀ (k : Nat) (s s' : MState), MInv s →
    mrun s (List.replicate k .alloc) = some s' →
    s'.live.length = min (s.live.length + k) (capacity s.zones) ∧ s'.zones = s.zones := by
  intro k
  induction k with
  | zero => intro s s' hi hr; cases hr; have := hi.card; exact ⟨by omega, rfl⟩
  | succ k ih =>
    intro s s' hi hr
    simp only [List.replicate, mrun] at hr
    split at hr
    · cases hr
    · rename_i s1 ret hs
      obtain ⟨ha, hz⟩ := mstep_alloc hs
      obtain ⟨h1, h2⟩ := ih s1 s' (mstep_inv hi hs) hr
      have := hi.card
      rw [hz] at h1 h2
      refine ⟨?_, h2⟩
      obtain ⟨h3, h4 | h4⟩ := ha.length <;> omega

theorem mstep_zones {s s' : MState} {op : MOp} {r : Option Nat} (hs : mstep s op = some (s', r)) :
    ∀ z ∈ s.zones, z ∈ s'.zones := by
  intro z hz
  cases op with
  | engage b sz e => obtain ⟨_, _, rfl, _⟩ := mstep_engage hs; exact List.mem_cons_of_mem _ hz
  | alloc => rw [(mstep_alloc hs).2]; exact hz
  | free c => rw [(mstep_free hs).2.2.2.1]; exact hz

theorem mrun_zones {ops : List MOp} {s s' : MState} (hr : mrun s ops = some s') :
    ∀ z ∈ s.zones, z ∈ s'.zones := by
  induction ops generalizing s with
  | nil => simp only [mrun] at hr; cases hr; exact fun _ h => h
  | cons op ops ih =>
    simp only [mrun] at hr
    split at hr
    · cases hr
    · rename_i s1 ret hs
      exact fun z hz => ih hr z (mstep_zones hs z hz)

theorem mstepP_rep {s s' : MState} {op : MOp} {r : Option Nat} {m : Links} {head : Nat}
    (hi : MInv s) (hr : Rep m head s.pool.free) (hs : mstep s op = some (s', r))
    (hh : ∀ z ∈ s'.zones, head < z.base ∨ z.base + z.size ≤ head) :
    (mstepP m head op).2 = r ∧ Rep (mstepP m head op).1 head s'.pool.free := by
  cases op with
  | engage b sz e =>
    obtain ⟨hwz, hall, rfl, rfl⟩ := mstep_engage hs
    refine ⟨rfl, ?_⟩
    simp only [mstepP, engageAtP, Pool.engageAt]
    refine engageLoopP_rep_onto e (b + sz) head (sz + 1) b m _ hr (fun c hc => ?_) ?_ hwz.pos
    · obtain ⟨w, hw, hin⟩ := hi.facts.2.2.2 c (Or.inr hc)
      have hrg := hin.range
      have hd := hall w hw
      have := (hi.wf w hw).1
      rw [disjoint_iff] at hd; simp only at hd
      omega
    · have := hh ⟨b, sz, e⟩ (by simp); simpa using this
  | alloc =>
    have hp := poolAllocP_rep hr
    rw [(mstep_alloc hs).1.alloc] at hp
    exact hp
  | free c =>
    obtain ⟨hc', hf, _, hz, rfl⟩ := mstep_free hs
    refine ⟨rfl, ?_⟩
    rw [hf]
    refine rep_add hr (hi.facts.2.2.1 c hc') ?_
    obtain ⟨w, hw, hin⟩ := hi.facts.2.2.2 c (Or.inl hc')
    have hrg := hin.range
    have := (hi.wf w hw).1
    have := hh w (hz ▸ hw)
    omega

theorem mrunP_rep {ops : List MOp} {s s' : MState} {m : Links} {head : Nat}
    (hi : MInv s) (hr : Rep m head s.pool.free) (hs : mrun s ops = some s')
    (hh : ∀ z ∈ s'.zones, head < z.base ∨ z.base + z.size ≤ head) :
    Rep (mrunP head m ops) head s'.pool.free := by
  induction ops generalizing s m with
  | nil => simp only [mrun] at hs; cases hs; exact hr
  | cons op ops ih =>
    simp only [mrun] at hs
    split at hs
    · cases hs
    · rename_i s1 ret hs1
      simp only [mrunP]
      have h1 := mstepP_rep hi hr hs1 (fun z hz => hh z (mrun_zones hs z hz))
      exact ih (mstep_inv hi hs1) h1.2 hs

theorem mstep_evs_avoid {s s' : MState} {op : MOp} {r : Option Nat} (hi : MInv s)
    (hs : mstep s op = some (s', r)) :
    ∀ ev ∈ mstepEvs s op, ∀ c ∈ s.live, c ∈ s'.live → ∀ z ∈ s'.zones, InZone z c →
      ev.Avoids c (c + z.elemsz) := by
  intro ev hev c hc hc' z hz hzc
  cases op with
  | engage b sz e =>
    obtain ⟨hwz, hall, rfl, _⟩ := mstep_engage hs
    have he8 : 8 ≤ e := hwz.1
    have hsz : sz = sz / e * e := (Nat.div_mul_cancel (Nat.dvd_of_mod_eq_zero hwz.2)).symm
    have hin : ev.Inside b (b + sz) := by
      simp only [mstepEvs] at hev
      have := engageEvs_inside e b (sz / e) he8 (sz + 1)
      rw [← hsz] at this
      exact this ev hev
    obtain ⟨w, hw, hwc⟩ := hi.facts.2.2.2 c (Or.inl hc)
    have hrw := hwc.range
    have hdw := hall w hw
    rw [disjoint_iff] at hdw; simp only at hdw
    have hew := (hi.wf w hw).1
    rcases List.mem_cons.1 hz with rfl | hz'
    · -- a cell handed out before cannot be a cell of the new zone
      have hrz := hzc.range
      simp only at hrz
      omega
    · have hrz := hzc.range
      have hdz := hall z hz'
      rw [disjoint_iff] at hdz; simp only at hdz
      exact hin.avoids (by omega)
  | alloc => simp [mstepEvs] at hev
  | free c0 =>
    obtain ⟨hc0', _, hl, hzs, _⟩ := mstep_free hs
    rw [hl] at hc'
    rw [hzs] at hz
    simp only [mstepEvs, Pool.release, List.mem_singleton] at hev
    subst hev
    have hne : c ≠ c0 := ((List.Nodup.mem_erase_iff hi.facts.1).1 hc').1
    obtain ⟨w, hw, hwc⟩ := hi.facts.2.2.2 c0 (Or.inl hc0')
    have hew := (hi.wf w hw).1
    have hdis : c + z.elemsz ≤ c0 ∨ c0 + w.elemsz ≤ c := by
      rcases zones_eq_or_disjoint hi.disj hz hw with rfl | hd
      · exact cells_of_one_zone hzc hwc hne
      · exact cells_of_disjoint_zones hd hzc hwc
    simp only [Ev.Avoids, Ev.lo, Ev.hi]
    omega

theorem mstep_keeps_live {s s' : MState} {op : MOp} {r : Option Nat} (hs : mstep s op = some (s', r))
    {c : Nat} (hc : c ∈ s.live) (hne : op ≠ .free c) : c ∈ s'.live := by
  cases op with
  | engage b sz e => obtain ⟨_, _, rfl, _⟩ := mstep_engage hs; exact hc
  | alloc => exact (mstep_alloc hs).1.mono hc
  | free c0 =>
    rw [(mstep_free hs).2.2.1]
    exact (List.mem_erase_of_ne fun h => hne (by rw [h])).2 hc

theorem mrunE_zones {ops : List MOp} {s s' : MState} {evs : List Ev} (hr : mrunE s ops = some (s', evs)) :
    ∀ z ∈ s.zones, z ∈ s'.zones := by
  induction ops generalizing s evs with
  | nil => simp only [mrunE, Option.some.injEq, Prod.mk.injEq] at hr; obtain ⟨rfl, _⟩ := hr; exact fun _ h => h
  | cons op ops ih =>
    simp only [mrunE] at hr
    split at hr
    · cases hr
    · rename_i s1 ret hs
      split at hr
      · cases hr
      · rename_i x hx
        simp only [Option.some.injEq, Prod.mk.injEq] at hr
        obtain ⟨rfl, _⟩ := hr
        exact fun z hz => ih (by rw [hx]) z (mstep_zones hs z hz)

theorem mrunE_frame {ops : List MOp} {s s' : MState} {evs : List Ev} (hi : MInv s)
    (hr : mrunE s ops = some (s', evs))
    {c : Nat} (hc : c ∈ s.live) (hne : ∀ op ∈ ops, op ≠ .free c) {z : Zone} (hz : z ∈ s.zones)
    (hzc : InZone z c) {m m' : Mem} (hx : Exec m evs m') :
    c ∈ s'.live ∧ ∀ x, c ≤ x → x < c + z.elemsz → m' x = m x := by
  induction ops generalizing s evs m with
  | nil =>
    simp only [mrunE, Option.some.injEq, Prod.mk.injEq] at hr
    obtain ⟨rfl, rfl⟩ := hr
    simp only [Exec] at hx; subst hx
    exact ⟨hc, fun _ _ _ => rfl⟩
  | cons op ops ih =>
    simp only [mrunE] at hr
    split at hr
    · cases hr
    · rename_i s1 ret hs
      split at hr
      · cases hr
      · rename_i x hx2
        simp only [Option.some.injEq, Prod.mk.injEq] at hr
        obtain ⟨rfl, rfl⟩ := hr
        obtain ⟨m1, ha, hb⟩ := Exec.append hx
        have hc1 := mstep_keeps_live hs hc (hne op (by simp))
        have hz1 := mstep_zones hs z hz
        have hav := mstep_evs_avoid hi hs
        have h1 := Exec.frame ha (fun e he => hav e he c hc hc1 z hz1 hzc)
        have h2 := ih (mstep_inv hi hs) (by rw [hx2]) hc1 (fun o ho => hne o (by simp [ho])) hz1 hb
        exact ⟨h2.1, fun y hy1 hy2 => by rw [h2.2 y hy1 hy2, h1 y hy1 hy2]⟩

structure SXInv (st : Nat) (p : SOPx) : Prop where
  m : MInv ⟨p.sop.head, p.sop.objs, p.zones⟩
  fault : p.sop.fault = false
  /-- per cell: constructor runs = destructor runs + (1 if an object lives there) -/
  ledger : ∀ c, p.ctor.count c = p.dtor.count c + (if c ∈ p.sop.objs then 1 else 0)
  esz : ∀ z ∈ p.zones, z.elemsz = st

theorem SXInv.init (szT alT cap : Nat) : SXInv (storageSize szT alT) (SOPx.init szT alT cap) := by
  have hwz : (⟨0, cap * storageSize szT alT, storageSize szT alT⟩ : Zone).WF :=
    ⟨eight_le_storageSize szT alT, Nat.mul_mod_left _ _⟩
  refine ⟨⟨?_, by simp [SOPx.init], ?_⟩, rfl, by simp [SOPx.init, SOP.init], by simp [SOPx.init]⟩
  · simp only [SOPx.init, SOP.init, allCells, List.append_nil]
    have := engageAt_eq Pool.init ⟨0, cap * storageSize szT alT, storageSize szT alT⟩ hwz
    simp only [engageAt_zero, Pool.init, List.append_nil] at this
    simp only [Pool.init]
    rw [this]
    exact List.reverse_perm _
  · intro z hz
    simp only [SOPx.init, List.mem_singleton] at hz
    subst hz
    exact hwz

theorem ledger_iff_perm {ctor dtor objs : List Nat} (hnd : objs.Nodup) :
    (∀ c, ctor.count c = dtor.count c + (if c ∈ objs then 1 else 0)) ↔ ctor.Perm (dtor ++ objs) := by
  simp only [List.perm_iff_count, List.count_append, hnd.count]

theorem sxstep_inv {st : Nat} {p p' : SOPx} {op : SXOp} {ret : Option Nat} (hi : SXInv st p)
    (hs : sxstep st p op = some (p', ret)) : SXInv st p' := by
  obtain ⟨hm, hflt, hled, hesz⟩ := hi
  have hnd : p.sop.objs.Nodup := hm.facts.1
  have hP := (ledger_iff_perm hnd).1 hled
  cases op with
  | create =>
    simp only [sxstep, SOP.create, Pool.alloc] at hs
    cases hfr : p.sop.head.free with
    | nil =>
      rw [hfr] at hs; simp only [Option.some.injEq, Prod.mk.injEq] at hs
      obtain ⟨rfl, _⟩ := hs
      refine ⟨⟨by simpa [hfr] using hm.perm, hm.disj, hm.wf⟩, hflt, hled, hesz⟩
    | cons c rest =>
      rw [hfr] at hs; simp only [Option.some.injEq, Prod.mk.injEq] at hs
      obtain ⟨rfl, _⟩ := hs
      have hc : c ∉ p.sop.objs := fun hc => hm.facts.2.2.1 c hc (by simp [hfr])
      refine ⟨⟨?_, hm.disj, hm.wf⟩, ?_, ?_, hesz⟩
      · have := hm.perm; simp only at this; rw [hfr] at this
        exact perm_alloc this
      · simp only [hflt, Bool.false_or]; simpa using hc
      · exact (ledger_iff_perm (List.nodup_cons.2 ⟨hc, hnd⟩)).2 ((hP.cons c).trans List.perm_middle.symm)
  | destroy c =>
    simp only [sxstep] at hs
    split at hs
    · rename_i hcl
      have hc' : c ∈ p.sop.objs := by simpa using hcl
      simp only [Option.some.injEq, Prod.mk.injEq] at hs
      obtain ⟨rfl, _⟩ := hs
      refine ⟨⟨?_, hm.disj, hm.wf⟩, ?_, ?_, hesz⟩
      · simpa [SOP.destroy, Pool.release] using perm_free hc' hm.perm
      · simp only [SOP.destroy, hflt, Bool.false_or]; simpa using hc'
      · exact (ledger_iff_perm (hnd.erase c)).2 (perm_free hc' hP.symm).symm
    · cases hs
  | engage b n =>
    simp only [sxstep] at hs
    split at hs
    · cases hs
    · rename_i hst
      split at hs
      · rename_i hall
        simp only [Option.some.injEq, Prod.mk.injEq] at hs
        obtain ⟨rfl, _⟩ := hs
        have hms : mstep ⟨p.sop.head, p.sop.objs, p.zones⟩ (.engage b (n * st) st) =
            some (⟨p.sop.head.engageAt b (n * st) st, p.sop.objs, ⟨b, n * st, st⟩ :: p.zones⟩, none) := by
          simp only [mstep]
          rw [if_neg hst, if_pos hall]
        refine ⟨mstep_inv hm hms, hflt, hled, ?_⟩
        intro z hz
        rcases List.mem_cons.1 hz with rfl | hz
        · rfl
        · exact hesz z hz
      · cases hs

theorem sxrun_inv {st : Nat} {ops : List SXOp} {p p' : SOPx} (hi : SXInv st p)
    (hr : sxrun st p ops = some p') : SXInv st p' := by
  induction ops generalizing p with
  | nil => simp only [sxrun] at hr; cases hr; exact hi
  | cons op ops ih =>
    simp only [sxrun] at hr
    split at hr
    · cases hr
    · rename_i p1 ret hs
      exact ih (sxstep_inv hi hs) hr

end Igris.C10
