/-
  C10 — the heap (malloc / free / realloc) at list level: invariant, paths, stores.

  The tiling part of the invariant `HInv` counts, for every byte `x`, the chunks that contain it:
  `cnt x flp + cnt x live = [x < brk]`.  `MallocPath`, `ReallocPath` and `free_some` give the outcome of a call,
  one case per path of the C routine, so that a proof about a call is a case analysis on its path instead of an
  unfolding of the routine.
-/
import IgrisModel.C10.LemmasMem
namespace Igris.C10

/-- 1 if byte `x` lies in the chunk (header or payload), else 0 -/
def hasN (x : Nat) (c : Chunk) : Nat := if c.1 ≤ x ∧ x < c.1 + 8 + c.2 then 1 else 0

def cnt (x : Nat) : List Chunk → Nat
  | [] => 0
  | c :: l => hasN x c + cnt x l

@[simp] theorem cnt_nil (x) : cnt x [] = 0 := rfl
@[simp] theorem cnt_cons (x c l) : cnt x (c :: l) = hasN x c + cnt x l := rfl
theorem cnt_append (x l₁ l₂) : cnt x (l₁ ++ l₂) = cnt x l₁ + cnt x l₂ := by
  induction l₁ with
  | nil => simp
  | cons c l ih => simp [ih]; omega

theorem hasN_le_one (x c) : hasN x c ≤ 1 := by unfold hasN; split <;> omega

theorem hasN_eq_one_iff {x : Nat} {c : Chunk} : hasN x c = 1 ↔ c.1 ≤ x ∧ x < c.1 + 8 + c.2 := by
  unfold hasN; split <;> simp [*]

theorem hasN_le_cnt {x c l} (hm : c ∈ l) : hasN x c ≤ cnt x l := by
  induction l with
  | nil => cases hm
  | cons d l ih =>
    rcases List.mem_cons.1 hm with rfl | h
    · simp
    · have := ih h; simp; omega

def Disj (c d : Chunk) : Prop := c.1 + 8 + c.2 ≤ d.1 ∨ d.1 + 8 + d.2 ≤ c.1

theorem disj_of_hasN (c d : Chunk) (h : ∀ x, hasN x c + hasN x d ≤ 1) : Disj c d := by
  have := h (max c.1 d.1)
  unfold Disj
  unfold hasN at this
  split at this <;> split at this <;> omega

theorem lookup_mem {a s} {l : List Chunk} (h : lookup a l = some s) : (a, s) ∈ l := by
  induction l with
  | nil => simp [lookup] at h
  | cons c l ih =>
    simp only [lookup] at h
    split at h
    · rename_i hc; cases h; cases c; simp at hc; subst hc; simp
    · exact List.mem_cons_of_mem _ (ih h)

theorem cnt_remove {a s x} {l : List Chunk} (h : lookup a l = some s) :
    cnt x l = cnt x (remove a l) + hasN x (a, s) := by
  induction l with
  | nil => simp [lookup] at h
  | cons c l ih =>
    simp only [lookup] at h
    simp only [remove]
    split at h
    · rename_i hc; cases h; cases c; simp at hc; subst hc; simp; omega
    · rename_i hc; simp [hc, ih h]; omega

theorem cnt_setChunk {a s x new} {l : List Chunk} (h : lookup a l = some s) :
    cnt x (setChunk a new l) + hasN x (a, s) = cnt x l + hasN x new := by
  induction l with
  | nil => simp [lookup] at h
  | cons c l ih =>
    simp only [lookup] at h
    simp only [setChunk]
    split at h
    · rename_i hc; cases h; cases c; simp at hc; subst hc; simp; omega
    · rename_i hc; simp [hc]; have := ih h; omega

theorem remove_sublist (a) (l : List Chunk) : (remove a l).Sublist l := by
  induction l with
  | nil => simp [remove]
  | cons d l ih =>
    simp only [remove]
    split
    · exact List.sublist_cons_self _ _
    · exact ih.cons_cons _

theorem mem_remove {a c} {l : List Chunk} (h : c ∈ remove a l) : c ∈ l := (remove_sublist a l).subset h

theorem map_remove (a : Nat) : ∀ (l : List Chunk),
    (remove a l).map (fun c => c.1 + 8) = (l.map (fun c => c.1 + 8)).erase (a + 8) := by
  intro l
  induction l with
  | nil => rfl
  | cons c r ih =>
    simp only [remove, List.map_cons, List.erase_cons]
    by_cases h : c.1 = a
    · simp [h]
    · have : ¬ (c.1 + 8 == a + 8) = true := by simp; omega
      rw [if_neg h, if_neg this, List.map_cons, ih]

theorem lookup_of_mem_addr {a : Nat} : ∀ {l : List Chunk}, a + 8 ∈ l.map (fun c => c.1 + 8) →
    ∃ s, lookup a l = some s := by
  intro l
  induction l with
  | nil => intro h; simp at h
  | cons c r ih =>
    intro h
    simp only [lookup]
    by_cases hc : c.1 = a
    · exact ⟨c.2, by rw [if_pos hc]⟩
    · rw [if_neg hc]
      simp only [List.map_cons, List.mem_cons] at h
      rcases h with h | h
      · omega
      · exact ih h

theorem mem_setChunk {a c new} {l : List Chunk} (h : c ∈ setChunk a new l) : c ∈ l ∨ c = new := by
  induction l with
  | nil => simp [setChunk] at h
  | cons d l ih =>
    simp only [setChunk] at h
    split at h
    · rcases List.mem_cons.1 h with rfl | h
      · exact Or.inr rfl
      · exact Or.inl (List.mem_cons_of_mem _ h)
    · rcases List.mem_cons.1 h with rfl | h
      · simp
      · rcases ih h with h | h
        · exact Or.inl (List.mem_cons_of_mem _ h)
        · exact Or.inr h

theorem mem_setChunk_of_lookup {a s : Nat} {c new : Chunk} {l : List Chunk} (hl : lookup a l = some s)
    (h : c ∈ setChunk a new l) : c = new ∨ c ∈ remove a l := by
  induction l with
  | nil => simp [lookup] at hl
  | cons d l ih =>
    simp only [lookup] at hl
    simp only [setChunk] at h
    simp only [remove]
    split at hl
    · rename_i hd
      rw [if_pos hd] at h ⊢
      rcases List.mem_cons.1 h with rfl | h
      · exact Or.inl rfl
      · exact Or.inr h
    · rename_i hd
      rw [if_neg hd] at h ⊢
      rcases List.mem_cons.1 h with rfl | h
      · exact Or.inr (by simp)
      · rcases ih hl h with h | h
        · exact Or.inl h
        · exact Or.inr (List.mem_cons_of_mem _ h)

theorem length_setChunk (a : Nat) (new : Chunk) (l : List Chunk) : (setChunk a new l).length = l.length := by
  induction l with
  | nil => simp [setChunk]
  | cons c r ih => simp only [setChunk]; split <;> simp [ih]

/-- strictly address ordered and not adjacent -/
def Below (c d : Chunk) : Prop := c.1 + 8 + c.2 < d.1

theorem sorted_setChunk {a s new} {l : List Chunk} (hs : l.Pairwise Below) (h : lookup a l = some s)
    (h1 : a ≤ new.1) (h2 : new.1 + 8 + new.2 ≤ a + 8 + s) : (setChunk a new l).Pairwise Below := by
  induction l with
  | nil => simp [setChunk]
  | cons d l ih =>
    simp only [lookup] at h
    simp only [setChunk]
    rw [List.pairwise_cons] at hs
    split at h
    · rename_i hd; cases h
      simp only [hd, ↓reduceIte]
      rw [List.pairwise_cons]
      refine ⟨fun y hy => ?_, hs.2⟩
      have := hs.1 y hy
      unfold Below at *; omega
    · rename_i hd; simp only [hd, ↓reduceIte]
      rw [List.pairwise_cons]
      refine ⟨fun y hy => ?_, ih hs.2 h⟩
      rcases mem_setChunk hy with hy | rfl
      · exact hs.1 y hy
      · have := hs.1 _ (lookup_mem h)
        unfold Below at *; simp at this; omega

theorem lookup_of_mem_sorted {c : Chunk} {l : List Chunk} (hs : l.Pairwise Below) (hm : c ∈ l) :
    lookup c.1 l = some c.2 := by
  induction l with
  | nil => cases hm
  | cons d l ih =>
    rw [List.pairwise_cons] at hs
    simp only [lookup]
    rcases List.mem_cons.1 hm with rfl | h
    · simp
    · have := hs.1 c h
      have hne : ¬ d.1 = c.1 := by unfold Below at this; omega
      simp only [hne, ↓reduceIte]
      exact ih hs.2 h

theorem scan_inl {len a} {l : List Chunk} {s sfp} (h : scan len l s sfp = .inl a) :
    (a, len) ∈ l := by
  induction l generalizing s sfp with
  | nil => simp [scan] at h
  | cons c l ih =>
    simp only [scan] at h
    split at h
    · exact List.mem_cons_of_mem _ (ih h)
    · split at h
      · rename_i h2; cases h; cases c; simp at h2; subst h2; simp
      · split at h
        · exact List.mem_cons_of_mem _ (ih h)
        · exact List.mem_cons_of_mem _ (ih h)

theorem scan_inr {len s' sfp'} {L l : List Chunk} {s sfp} (h : scan len l s sfp = .inr (s', sfp'))
    (hsub : ∀ c ∈ l, c ∈ L) (h0 : s = 0 ∨ ((sfp, s) ∈ L ∧ len < s)) :
    s' = 0 ∨ ((sfp', s') ∈ L ∧ len < s') := by
  induction l generalizing s sfp with
  | nil => simp [scan] at h; rcases h with ⟨rfl, rfl⟩; exact h0
  | cons c l ih =>
    simp only [scan] at h
    have hsub' : ∀ c ∈ l, c ∈ L := fun c hc => hsub c (List.mem_cons_of_mem _ hc)
    split at h
    · exact ih h hsub' h0
    · split at h
      · cases h
      · split at h
        · refine ih h hsub' (Or.inr ⟨hsub c (by simp), ?_⟩)
          omega
        · exact ih h hsub' h0

theorem le_roundLen (W len : Nat) : len ≤ roundLen W len := by
  unfold roundLen; split <;> omega

theorem reqLen_ge (W x : Nat) : x ≤ minLen (roundLen W x) := by
  have := le_roundLen W x
  unfold minLen; split <;> omega

theorem roundLen_dvd (W len : Nat) (hW : 0 < W) : W ∣ roundLen W len := by
  unfold roundLen
  split
  · have h1 := Nat.div_add_mod len W
    have h2 := Nat.mod_lt len hW
    refine ⟨len / W + 1, ?_⟩
    rw [Nat.mul_add, Nat.mul_one]; omega
  · rename_i h; simp at h; exact Nat.dvd_of_mod_eq_zero h

structure CfgOK (cfg : Cfg) : Prop where
  pos : 0 < cfg.W
  w8 : cfg.W % 8 = 0

theorem reqLen_props (cfg : Cfg) (ok : CfgOK cfg) (n : Nat) :
    8 ≤ minLen (roundLen cfg.W n) ∧ minLen (roundLen cfg.W n) % 8 = 0 := by
  have h2 := roundLen_dvd cfg.W n ok.pos
  have h3 : 8 ∣ roundLen cfg.W n := Nat.dvd_trans (Nat.dvd_of_mod_eq_zero ok.w8) h2
  unfold minLen
  split <;> omega

/-- only above the minimum chunk size: `realloc(p, 0)` asks for 8, which malloc would round up to `W` -/
theorem reqLen_idem (cfg : Cfg) (ok : CfgOK cfg) (n : Nat) (h8 : 8 < minLen (roundLen cfg.W n)) :
    minLen (roundLen cfg.W (minLen (roundLen cfg.W n))) = minLen (roundLen cfg.W n) := by
  have h2 := roundLen_dvd cfg.W n ok.pos
  have hR : minLen (roundLen cfg.W n) = roundLen cfg.W n := by
    unfold minLen at h8 ⊢; split <;> simp_all
  rw [hR]
  have hm : roundLen cfg.W n % cfg.W = 0 := Nat.mod_eq_zero_of_dvd h2
  have : roundLen cfg.W (roundLen cfg.W n) = roundLen cfg.W n := by
    generalize roundLen cfg.W n = R at *
    unfold roundLen; simp [hm]
  rw [this, hR]

structure HInv (cfg : Cfg) (h : Heap) : Prop where
  tile : ∀ x, cnt x h.flp + cnt x h.live = if x < h.brk then 1 else 0
  sorted : h.flp.Pairwise Below
  notTop : ∀ f ∈ h.flp, f.1 + 8 + f.2 ≠ h.brk
  wfF : ∀ c ∈ h.flp, 8 ≤ c.2 ∧ c.2 % 8 = 0 ∧ c.1 % 8 = 0
  wfL : ∀ c ∈ h.live, 8 ≤ c.2 ∧ c.2 % 8 = 0 ∧ c.1 % 8 = 0
  brk8 : h.brk % 8 = 0
  lim : cfg.lim ≠ 0 → h.brk ≤ cfg.lim

theorem fin_le_of_tile {brk : Nat} {l live : List Chunk}
    (tile : ∀ x, cnt x l + cnt x live = if x < brk then 1 else 0) {c : Chunk} (hc : c ∈ l ∨ c ∈ live) :
    c.1 + 8 + c.2 ≤ brk := by
  have ht := tile (c.1 + 8 + c.2 - 1)
  have hx : hasN (c.1 + 8 + c.2 - 1) c = 1 := hasN_eq_one_iff.2 (by omega)
  have : 1 ≤ cnt (c.1 + 8 + c.2 - 1) l + cnt (c.1 + 8 + c.2 - 1) live := by
    rcases hc with hc | hc <;> have := hasN_le_cnt (x := c.1 + 8 + c.2 - 1) hc <;> omega
  split at ht <;> omega

theorem HInv.fin_le_brk {cfg h} (hi : HInv cfg h) {c : Chunk} (hc : c ∈ h.flp ∨ c ∈ h.live) :
    c.1 + 8 + c.2 ≤ h.brk := fin_le_of_tile hi.tile hc

theorem HInv.wf_lookup {cfg h} (hi : HInv cfg h) {a sz : Nat} (hl : lookup a h.live = some sz) :
    8 ≤ sz ∧ sz % 8 = 0 ∧ a % 8 = 0 := hi.wfL _ (lookup_mem hl)

theorem hasN_glue (x : Nat) {a s b t u : Nat} (hb : a + 8 + s = b) (hu : s + 8 + t = u) :
    hasN x (a, s) + hasN x (b, t) = hasN x (a, u) := by
  subst hb hu; unfold hasN; simp only; split <;> split <;> split <;> omega

theorem hasN_top (x : Nat) {a s b : Nat} (hb : a + 8 + s = b) :
    hasN x (a, s) + (if x < a then 1 else 0) = if x < b then 1 else 0 := by
  subst hb; unfold hasN; simp only; split <;> split <;> split <;> omega

theorem forall_remove {P : Chunk → Prop} {a : Nat} {l : List Chunk} (h : ∀ c ∈ l, P c) :
    ∀ c ∈ remove a l, P c := fun c hc => h c (mem_remove hc)

theorem forall_setChunk {P : Chunk → Prop} {a : Nat} {new : Chunk} {l : List Chunk} (h : ∀ c ∈ l, P c)
    (hn : P new) : ∀ c ∈ setChunk a new l, P c :=
  fun c hc => (mem_setChunk hc).elim (h c) (fun e => e ▸ hn)

theorem scan_none_iff {len : Nat} : ∀ (l : List Chunk) (s sfp : Nat),
    (∃ x, scan len l s sfp = .inr (0, x)) ↔ (s = 0 ∧ ∀ c ∈ l, c.2 < len) := by
  intro l
  induction l with
  | nil =>
    intro s sfp
    simp only [scan, Sum.inr.injEq, Prod.mk.injEq, List.not_mem_nil, false_imp_iff, implies_true, and_true]
    constructor
    · rintro ⟨x, h, _⟩; exact h
    · intro h; exact ⟨sfp, h, rfl⟩
  | cons c l ih =>
    intro s sfp
    simp only [scan, List.mem_cons, forall_eq_or_imp]
    split
    · rename_i h1
      rw [ih]
      constructor
      · rintro ⟨a, b⟩; exact ⟨a, h1, b⟩
      · rintro ⟨a, _, b⟩; exact ⟨a, b⟩
    · rename_i h1
      split
      · rename_i h2
        constructor
        · rintro ⟨x, hx⟩; cases hx
        · rintro ⟨_, hc, _⟩; omega
      · rename_i h2
        split
        · rename_i h3
          rw [ih]
          constructor
          · rintro ⟨a, _⟩; omega
          · rintro ⟨_, hc, _⟩; omega
        · rename_i h3
          rw [ih]
          constructor
          · rintro ⟨a, _⟩; omega
          · rintro ⟨_, hc, _⟩; omega

/-- the outcome of `malloc` for the rounded request `len`, one constructor per path of the routine -/
inductive MallocPath (cfg : Cfg) (h : Heap) (len : Nat) : Res → Prop
  /-- exact fit, or the smallest larger chunk when the remainder could not hold a free-list entry -/
  | take (a s : Nat) (hm : (a, s) ∈ h.flp) (hle : len ≤ s) (hlt : s < len + 16) :
      MallocPath cfg h len ⟨{ h with flp := remove a h.flp, live := (a, s) :: h.live }, some (a + 8),
        nxWrite (predOf a none h.flp)⟩
  /-- the upper `len + 8` bytes of the smallest larger chunk -/
  | carve (a s : Nat) (hm : (a, s) ∈ h.flp) (hle : len + 16 ≤ s) :
      MallocPath cfg h len ⟨{ h with flp := setChunk a (a, s - len - 8) h.flp, live := (a + (s - len), len) :: h.live },
        some (a + (s - len) + 8), [.w (a + (s - len)) 8, .w a 8]⟩
  | refuse (hno : ∀ f ∈ h.flp, f.2 < len) (hl : cfg.lim ≠ 0) (hlim : cfg.lim < h.brk + len + 8) :
      MallocPath cfg h len ⟨h, none, []⟩
  | extend (hno : ∀ f ∈ h.flp, f.2 < len) (hlim : cfg.lim ≠ 0 → h.brk + len + 8 ≤ cfg.lim) :
      MallocPath cfg h len ⟨{ h with brk := h.brk + (len + 8), live := (h.brk, len) :: h.live }, some (h.brk + 8),
        [.w h.brk 8]⟩

theorem malloc_path (cfg : Cfg) (h : Heap) (n : Nat) :
    MallocPath cfg h (minLen (roundLen cfg.W n)) (malloc cfg h n) := by
  unfold malloc
  generalize minLen (roundLen cfg.W n) = len
  simp only
  split
  · rename_i a hsc
    exact .take a len (scan_inl hsc) (Nat.le_refl _) (by omega)
  · rename_i s sfp1 hsc
    split
    · rename_i hs0
      obtain ⟨hm, hlt⟩ := (scan_inr (L := h.flp) hsc (fun c hc => hc) (Or.inl rfl)).resolve_left hs0
      split
      · exact .take sfp1 s hm (by omega) (by omega)
      · exact .carve sfp1 s hm (by omega)
    · rename_i hs0
      have hs : s = 0 := by omega
      subst hs
      have hno := ((scan_none_iff h.flp 0 0).1 ⟨sfp1, hsc⟩).2
      split
      · rename_i hc
        refine .refuse hno hc.1 ?_
        have := hc.2; unfold availOf at this; split at this <;> omega
      · rename_i hc
        refine .extend hno fun hl => ?_
        have : ¬¬ (availOf cfg.lim h.brk ≥ len ∧ availOf cfg.lim h.brk ≥ len + 8) := fun hq => hc ⟨hl, hq⟩
        unfold availOf at this; split at this <;> omega

theorem malloc_ret_none {cfg h n} (hr : (malloc cfg h n).ret = none) :
    cfg.lim ≠ 0 ∧ (malloc cfg h n).h = h ∧ (malloc cfg h n).evs = [] := by
  have hp := malloc_path cfg h n
  generalize malloc cfg h n = r at hp hr ⊢
  cases hp with
  | refuse _ hl => exact ⟨hl, rfl, rfl⟩
  | take | carve | extend => cases hr

theorem reachesStep3_iff (cfg : Cfg) (h : Heap) (n : Nat) :
    reachesStep3 cfg h n = true ↔ ∀ f ∈ h.flp, f.2 < minLen (roundLen cfg.W n) := by
  have key := scan_none_iff (len := minLen (roundLen cfg.W n)) h.flp 0 0
  unfold reachesStep3
  split
  · rename_i a hsc
    have : ¬ ∃ x, scan (minLen (roundLen cfg.W n)) h.flp 0 0 = .inr (0, x) := by
      rintro ⟨x, hx⟩; rw [hsc] at hx; cases hx
    rw [key] at this
    constructor
    · intro hc; cases hc
    · intro hall; exact absurd ⟨rfl, hall⟩ this
  · rename_i s sfp hsc
    constructor
    · intro hs
      have hs0 : s = 0 := by simpa using hs
      subst hs0
      exact (key.1 ⟨sfp, hsc⟩).2
    · intro hall
      obtain ⟨x, hx⟩ := key.2 ⟨rfl, hall⟩
      rw [hsc] at hx
      simp only [Sum.inr.injEq, Prod.mk.injEq] at hx
      simp [hx.1]

theorem HInv.take {cfg h} (hi : HInv cfg h) {a s : Nat} (hm : (a, s) ∈ h.flp) :
    HInv cfg { h with flp := remove a h.flp, live := (a, s) :: h.live } := by
  refine ⟨fun x => ?_, hi.sorted.sublist (remove_sublist _ _), forall_remove hi.notTop, forall_remove hi.wfF,
    List.forall_mem_cons.2 ⟨hi.wfF _ hm, hi.wfL⟩, hi.brk8, hi.lim⟩
  have := hi.tile x; have := cnt_remove (x := x) (lookup_of_mem_sorted hi.sorted hm)
  simp only [cnt_cons] at *; omega

theorem HInv.carve {cfg h} (hi : HInv cfg h) {a s k t b : Nat} (hm : (a, s) ∈ h.flp)
    (hk : 8 ≤ k ∧ k % 8 = 0) (ht : 8 ≤ t) (hb : a + 8 + t = b) (hs : t + 8 + k = s) :
    HInv cfg { h with flp := setChunk a (a, t) h.flp, live := (b, k) :: h.live } := by
  have hl : lookup a h.flp = some s := lookup_of_mem_sorted hi.sorted hm
  have htile : ∀ x, cnt x (setChunk a (a, t) h.flp) + (hasN x (b, k) + cnt x h.live) =
      if x < h.brk then 1 else 0 := fun x => by
    have h1 := hi.tile x
    have h2 := cnt_setChunk (x := x) (new := (a, t)) hl
    have h3 := hasN_glue x hb hs
    omega
  have hw : 8 ≤ s ∧ s % 8 = 0 ∧ a % 8 = 0 := hi.wfF _ hm
  have hfin : a + 8 + s ≤ h.brk := hi.fin_le_brk (Or.inl hm)
  have ar : t % 8 = 0 ∧ b % 8 = 0 ∧ a + 8 + t ≤ a + 8 + s ∧ a + 8 + t ≠ h.brk := by omega
  exact ⟨htile, sorted_setChunk hi.sorted hl (Nat.le_refl _) ar.2.2.1, forall_setChunk hi.notTop ar.2.2.2,
    forall_setChunk hi.wfF ⟨ht, ar.1, hw.2.2⟩, List.forall_mem_cons.2 ⟨⟨hk.1, hk.2, ar.2.1⟩, hi.wfL⟩, hi.brk8, hi.lim⟩

theorem HInv.extend {cfg h} (hi : HInv cfg h) {k : Nat} (hk : 8 ≤ k ∧ k % 8 = 0)
    (hlim : cfg.lim ≠ 0 → h.brk + k + 8 ≤ cfg.lim) :
    HInv cfg { h with brk := h.brk + (k + 8), live := (h.brk, k) :: h.live } := by
  have hb := hi.brk8
  refine ⟨fun x => ?_, hi.sorted, fun f hf => ?_, hi.wfF,
    List.forall_mem_cons.2 ⟨by simp only; omega, hi.wfL⟩, by simp only; omega, fun hl => by have := hlim hl; simp only; omega⟩
  · have := hi.tile x; have := hasN_top x (a := h.brk) (s := k) (b := h.brk + (k + 8)) (by omega)
    simp only [cnt_cons] at *; omega
  · have := hi.fin_le_brk (Or.inl hf); simp only; omega

theorem malloc_inv (cfg : Cfg) (ok : CfgOK cfg) (h : Heap) (n : Nat) (hi : HInv cfg h) :
    HInv cfg (malloc cfg h n).h := by
  have hk := reqLen_props cfg ok n
  have hp := malloc_path cfg h n
  generalize malloc cfg h n = r at hp ⊢
  cases hp with
  | take a s hm => exact hi.take hm
  | carve a s hm hle => exact hi.carve hm hk (by omega) (by omega) (by omega)
  | refuse => exact hi
  | extend _ hlim => exact hi.extend hk (by omega)

theorem malloc_flp_length_le (cfg : Cfg) (h : Heap) (n : Nat) : (malloc cfg h n).h.flp.length ≤ h.flp.length := by
  have hp := malloc_path cfg h n
  generalize malloc cfg h n = r at hp ⊢
  cases hp with
  | take => exact (remove_sublist _ _).length_le
  | carve => exact Nat.le_of_eq (length_setChunk _ _ _)
  | refuse | extend => exact Nat.le_refl _

theorem cnt_insUp (x : Nat) (N : Chunk) (l : List Chunk) : cnt x (insUp N l) = cnt x l + hasN x N := by
  cases l with
  | nil => simp [insUp]
  | cons fp1 rest =>
    simp only [insUp]
    split
    · rename_i h
      have : hasN x N + hasN x fp1 = hasN x (N.1, N.2 + (fp1.2 + 8)) := hasN_glue x h (by omega)
      simp only [cnt_cons]; omega
    · simp only [cnt_cons]; omega

/-- the lower merge is the upper merge one position further down the list: both glue a chunk to the
one that follows it when the two are adjacent -/
theorem mergeDown_eq (a : Chunk) (l : List Chunk) : mergeDown a l = insUp a l := by cases l <;> rfl

theorem cnt_freeWalk (x : Nat) (N : Chunk) (fp2 : Chunk) (rest : List Chunk) :
    cnt x (freeWalk N fp2 rest) = hasN x fp2 + cnt x rest + hasN x N := by
  induction rest generalizing fp2 with
  | nil => simp [freeWalk, mergeDown_eq, cnt_insUp]; omega
  | cons fp1 r ih =>
    simp only [freeWalk]
    split
    · simp only [cnt_cons, ih]; omega
    · simp only [mergeDown_eq, cnt_insUp, cnt_cons]; omega

theorem length_insUp_le (N : Chunk) (l : List Chunk) : (insUp N l).length ≤ l.length + 1 := by
  cases l with
  | nil => simp [insUp]
  | cons c r => simp only [insUp]; split <;> simp

theorem length_freeWalk_le (N : Chunk) : ∀ (rest : List Chunk) (b : Chunk),
    (freeWalk N b rest).length ≤ rest.length + 2 := by
  intro rest
  induction rest with
  | nil => intro b; simp only [freeWalk, mergeDown_eq]; have := length_insUp_le b [N]; simp at this ⊢; omega
  | cons c r ih =>
    intro b
    simp only [freeWalk]
    split
    · have := ih c; simp; omega
    · rw [mergeDown_eq]
      have h1 := length_insUp_le b (insUp N (c :: r))
      have h2 := length_insUp_le N (c :: r)
      simp at h2 ⊢; omega

theorem lowerBrk_spec (brk : Nat) (l : List Chunk) :
    (lowerBrk brk l = (l, brk) ∧ ∀ f, l.getLast? = some f → f.1 + 8 + f.2 ≠ brk) ∨
    ∃ l' f, l = l' ++ [f] ∧ f.1 + 8 + f.2 = brk ∧ lowerBrk brk l = (l', f.1) := by
  induction l with
  | nil => left; simp [lowerBrk]
  | cons f r ih =>
    cases r with
    | nil =>
      simp only [lowerBrk]
      split
      · right; exact ⟨[], f, by simp, by assumption, rfl⟩
      · left; simp; assumption
    | cons g r =>
      simp only [lowerBrk]
      rcases ih with ⟨h1, h2⟩ | ⟨l', f', h1, h2, h3⟩
      · left; rw [h1]; simp; simpa using h2
      · right; refine ⟨f :: l', f', by simp [h1], h2, by rw [h3]⟩

/-- a chunk made of (merged) chunks of `S` -/
def Made (S : List Chunk) (y : Chunk) : Prop :=
  (∃ g ∈ S, y.1 = g.1) ∧ (∃ g ∈ S, y.1 + 8 + y.2 = g.1 + 8 + g.2) ∧ 8 ≤ y.2 ∧ y.2 % 8 = 0

theorem Made.base {S : List Chunk} {c : Chunk} (hc : c ∈ S) (h8 : 8 ≤ c.2) (hm : c.2 % 8 = 0) : Made S c :=
  ⟨⟨c, hc, rfl⟩, ⟨c, hc, rfl⟩, h8, hm⟩

theorem Made.merge {S : List Chunk} {a b : Chunk} (ha : Made S a) (hb : Made S b) (h : a.1 + 8 + a.2 = b.1) :
    Made S (a.1, a.2 + (b.2 + 8)) := by
  obtain ⟨a1, _, a3, a4⟩ := ha
  obtain ⟨_, ⟨g, hg, hg'⟩, b3, b4⟩ := hb
  refine ⟨a1, ⟨g, hg, ?_⟩, ?_, ?_⟩ <;> simp only <;> omega

theorem Made.of_mem {N : Chunk} {l : List Chunk} (hN : 8 ≤ N.2 ∧ N.2 % 8 = 0)
    (hw : ∀ f ∈ l, 8 ≤ f.2 ∧ f.2 % 8 = 0) : ∀ g ∈ N :: l, Made (N :: l) g := fun g hg => by
  rcases List.mem_cons.1 hg with rfl | hg'
  · exact Made.base hg hN.1 hN.2
  · exact Made.base hg (hw g hg').1 (hw g hg').2

theorem insUp_made {S : List Chunk} {N : Chunk} {l : List Chunk} (hN : Made S N)
    (hl : ∀ g ∈ l, Made S g) : ∀ y ∈ insUp N l, Made S y := by
  cases l with
  | nil => simp [insUp]; exact hN
  | cons fp1 rest =>
    intro y hy
    simp only [insUp] at hy
    split at hy
    · rename_i h
      rcases List.mem_cons.1 hy with rfl | hy
      · exact hN.merge (hl fp1 (by simp)) h
      · exact hl y (by simp [hy])
    · rcases List.mem_cons.1 hy with rfl | hy
      · exact hN
      · exact hl y hy

theorem freeWalk_made {S : List Chunk} {N fp2 : Chunk} {rest : List Chunk} (hN : Made S N)
    (h2 : Made S fp2) (hl : ∀ g ∈ rest, Made S g) : ∀ y ∈ freeWalk N fp2 rest, Made S y := by
  induction rest generalizing fp2 with
  | nil =>
    simp only [freeWalk]
    exact mergeDown_eq fp2 _ ▸ insUp_made h2 (by simpa using hN)
  | cons fp1 r ih =>
    simp only [freeWalk]
    split
    · intro y hy
      rcases List.mem_cons.1 hy with rfl | hy
      · exact h2
      · exact ih (hl fp1 (by simp)) (fun g hg => hl g (by simp [hg])) y hy
    · exact mergeDown_eq fp2 _ ▸ insUp_made h2 (insUp_made hN hl)

theorem insUp_sorted {N fp1 : Chunk} {r : List Chunk} (hs : (fp1 :: r).Pairwise Below)
    (h : N.1 + 8 + N.2 ≤ fp1.1) : (insUp N (fp1 :: r)).Pairwise Below := by
  rw [List.pairwise_cons] at hs
  simp only [insUp]
  split
  · rw [List.pairwise_cons]
    refine ⟨fun y hy => ?_, hs.2⟩
    have := hs.1 y hy; unfold Below at *; simp only; omega
  · rw [List.pairwise_cons, List.pairwise_cons]
    refine ⟨fun y hy => ?_, hs⟩
    rcases List.mem_cons.1 hy with rfl | hy
    · unfold Below; omega
    · have := hs.1 y hy; unfold Below at *; omega

theorem insUp_shape (N fp1 : Chunk) (r : List Chunk) :
    ∃ c tl, insUp N (fp1 :: r) = c :: tl ∧ c.1 = N.1 ∧ (∀ y ∈ tl, y ∈ fp1 :: r) := by
  simp only [insUp]
  split
  · exact ⟨_, _, rfl, rfl, fun y hy => List.mem_cons_of_mem _ hy⟩
  · exact ⟨_, _, rfl, rfl, fun y hy => hy⟩

theorem freeWalk_sorted {N fp2 : Chunk} {rest : List Chunk} (hs : (fp2 :: rest).Pairwise Below)
    (h2 : fp2.1 < N.1) (hd : ∀ f ∈ fp2 :: rest, f.1 + 8 + f.2 ≤ N.1 ∨ N.1 + 8 + N.2 ≤ f.1)
    (hN : 8 ≤ N.2 ∧ N.2 % 8 = 0) (hw : ∀ f ∈ fp2 :: rest, 8 ≤ f.2 ∧ f.2 % 8 = 0) :
    (freeWalk N fp2 rest).Pairwise Below := by
  induction rest generalizing fp2 with
  | nil =>
    simp only [freeWalk]
    rw [mergeDown_eq]
    refine insUp_sorted (by simp) ?_
    have := hd fp2 (by simp); omega
  | cons fp1 r ih =>
    simp only [freeWalk]
    have hs' := hs
    rw [List.pairwise_cons] at hs
    split
    · rename_i hlt
      rw [List.pairwise_cons]
      refine ⟨fun y hy => ?_, ih hs.2 hlt (fun f hf => hd f (List.mem_cons_of_mem _ hf))
        (fun f hf => hw f (List.mem_cons_of_mem _ hf))⟩
      have hb := Made.of_mem hN (l := fp1 :: r) fun f hf => hw f (List.mem_cons_of_mem _ hf)
      obtain ⟨⟨g, hg, hga⟩, _⟩ :=
        freeWalk_made (hb N (by simp)) (hb fp1 (by simp)) (fun g hg => hb g (by simp [hg])) y hy
      unfold Below
      rcases List.mem_cons.1 hg with rfl | hg
      · have := hs.1 fp1 (by simp); unfold Below at this; omega
      · have := hs.1 g hg; unfold Below at this; omega
    · rename_i hge
      have hf1 := hd fp1 (by simp)
      have hw1 := (hw fp1 (by simp)).1
      have h3 : N.1 + 8 + N.2 ≤ fp1.1 := by omega
      obtain ⟨c, tl, he, hc1, htl⟩ := insUp_shape N fp1 r
      have hsU := insUp_sorted hs.2 h3
      rw [he] at hsU ⊢
      rw [mergeDown_eq]
      refine insUp_sorted hsU ?_
      have := hd fp2 (by simp); omega

theorem HInv.disj_free_live {cfg h} (hi : HInv cfg h) {f c : Chunk} (hf : f ∈ h.flp) (hc : c ∈ h.live) :
    f.1 + 8 + f.2 ≤ c.1 ∨ c.1 + 8 + c.2 ≤ f.1 := by
  apply disj_of_hasN
  intro x
  have := hi.tile x
  have := hasN_le_cnt (x := x) hf
  have := hasN_le_cnt (x := x) hc
  split at * <;> omega

theorem HInv.free_ne_live {cfg h} (hi : HInv cfg h) {a sz : Nat} (hl : lookup a h.live = some sz) :
    ∀ f ∈ h.flp, f.1 ≠ a := fun f hf => by
  have := hi.disj_free_live hf (lookup_mem hl); simp only at this; omega

/-- the free list after the ordered, coalescing insertion of the released chunk `N` (`free` before it
looks at the break) -/
def insFree (N : Chunk) : List Chunk → List Chunk
  | [] => [N]
  | f :: rest => if f.1 < N.1 then freeWalk N f rest else insUp N (f :: rest)

theorem cnt_insFree (x : Nat) (N : Chunk) (l : List Chunk) : cnt x (insFree N l) = cnt x l + hasN x N := by
  cases l with
  | nil => simp [insFree]
  | cons f rest =>
    simp only [insFree]
    split
    · rw [cnt_freeWalk, cnt_cons]
    · exact cnt_insUp x N _

theorem insFree_made {N : Chunk} {l : List Chunk} (hN : 8 ≤ N.2 ∧ N.2 % 8 = 0)
    (hw : ∀ f ∈ l, 8 ≤ f.2 ∧ f.2 % 8 = 0) : ∀ y ∈ insFree N l, Made (N :: l) y := by
  have hb := Made.of_mem hN hw
  cases l with
  | nil => intro y hy; rw [List.mem_singleton.1 hy]; exact hb N (by simp)
  | cons f rest =>
    simp only [insFree]
    split
    · exact freeWalk_made (hb N (by simp)) (hb f (by simp)) fun g hg => hb g (by simp [hg])
    · exact insUp_made (hb N (by simp)) fun g hg => hb g (List.mem_cons_of_mem _ hg)

theorem insFree_sorted {N : Chunk} {l : List Chunk} (hs : l.Pairwise Below)
    (hd : ∀ f ∈ l, f.1 + 8 + f.2 ≤ N.1 ∨ N.1 + 8 + N.2 ≤ f.1) (hN : 8 ≤ N.2 ∧ N.2 % 8 = 0)
    (hw : ∀ f ∈ l, 8 ≤ f.2 ∧ f.2 % 8 = 0) : (insFree N l).Pairwise Below := by
  cases l with
  | nil => simp [insFree]
  | cons f rest =>
    simp only [insFree]
    split
    · rename_i hlt; exact freeWalk_sorted hs hlt hd hN hw
    · have := hd f (by simp); have := (hw f (by simp)).1
      exact insUp_sorted hs (by omega)

/-- "If there's a new topmost chunk, lower __brkval instead" establishes the `notTop` clause of the
invariant: no free chunk ends at the break -/
theorem HInv.lower {cfg : Cfg} {brk : Nat} {l live : List Chunk}
    (tile : ∀ x, cnt x l + cnt x live = if x < brk then 1 else 0) (sorted : l.Pairwise Below)
    (wfF : ∀ c ∈ l, 8 ≤ c.2 ∧ c.2 % 8 = 0 ∧ c.1 % 8 = 0) (wfL : ∀ c ∈ live, 8 ≤ c.2 ∧ c.2 % 8 = 0 ∧ c.1 % 8 = 0)
    (brk8 : brk % 8 = 0) (lim : cfg.lim ≠ 0 → brk ≤ cfg.lim) :
    HInv cfg ⟨(lowerBrk brk l).2, (lowerBrk brk l).1, live⟩ := by
  rcases lowerBrk_spec brk l with ⟨he, hlast⟩ | ⟨l', f, rfl, he2, he3⟩
  · rw [he]
    refine ⟨tile, sorted, fun y hy hyb => ?_, wfF, wfL, brk8, lim⟩
    replace hyb : y.1 + 8 + y.2 = brk := hyb
    -- a chunk ending at the break is the last one: a later one would end beyond the break
    obtain ⟨l1, l2, rfl⟩ := List.append_of_mem hy
    cases l2 with
    | nil => exact hlast y (by simp) hyb
    | cons z l2 =>
      have hb := (List.pairwise_cons.1 (List.pairwise_append.1 sorted).2.1).1 z (by simp)
      have := fin_le_of_tile tile (c := z) (.inl (by simp))
      unfold Below at hb; omega
  · rw [he3]
    have hs := List.pairwise_append.1 sorted
    refine ⟨fun x => ?_, hs.1, fun y hy => ?_, fun c hc => wfF c (by simp [hc]), wfL, (wfF f (by simp)).2.2,
      fun hl => by have := lim hl; show f.1 ≤ cfg.lim; omega⟩
    · have h1 := tile x
      have h2 : hasN x (f.1, f.2) + _ = _ := hasN_top x he2
      rw [cnt_append, cnt_cons, cnt_nil] at h1
      show cnt x l' + cnt x live = if x < f.1 then 1 else 0
      have e : hasN x (f.1, f.2) = hasN x f := rfl
      omega
    · have := hs.2.2 y hy f (by simp); unfold Below at this; show y.1 + 8 + y.2 ≠ f.1; omega

/-- second disjunct: the released chunk goes in front of the list, and `free` returns without looking at the break -/
theorem free_some {h : Heap} {p : Nat} {r : Res} (hr : free h p = some r) :
    8 ≤ p ∧ ∃ sz, lookup (p - 8) h.live = some sz ∧ r.h.live = remove (p - 8) h.live ∧
      ((r.h.flp, r.h.brk) = lowerBrk h.brk (insFree (p - 8, sz) h.flp) ∨
       (∃ f ∈ h.flp, p - 8 ≤ f.1) ∧ (r.h.flp, r.h.brk) = (insFree (p - 8, sz) h.flp, h.brk)) := by
  unfold free at hr
  split at hr
  · cases hr
  rename_i h8
  simp only at hr
  split at hr
  · cases hr
  rename_i sz hl
  refine ⟨by omega, sz, hl, ?_⟩
  split at hr
  · rename_i hflp
    have e : p - 8 + 8 + sz = p + sz := by omega
    split at hr
    · rename_i htop; cases hr
      exact ⟨rfl, .inl (by rw [hflp]; simp only [insFree, lowerBrk, e, htop, ↓reduceIte])⟩
    · rename_i htop; cases hr
      exact ⟨rfl, .inl (by rw [hflp]; simp only [insFree, lowerBrk, e, htop, ↓reduceIte])⟩
  · rename_i f rest hflp
    split at hr
    · rename_i hlt; cases hr; exact ⟨rfl, .inl (by simp only [hflp, insFree, hlt, ↓reduceIte])⟩
    · rename_i hge; cases hr
      exact ⟨rfl, .inr ⟨⟨f, by simp [hflp], by omega⟩, by simp only [hflp, insFree, hge, ↓reduceIte]⟩⟩

theorem free_live {h : Heap} {p : Nat} {r : Res} (hr : free h p = some r) :
    r.h.live = remove (p - 8) h.live ∧ 8 ≤ p ∧ ∃ sz, lookup (p - 8) h.live = some sz := by
  obtain ⟨h8, sz, hl, hlive, _⟩ := free_some hr
  exact ⟨hlive, h8, sz, hl⟩

theorem free_inv (cfg : Cfg) (h : Heap) (p : Nat) (r : Res) (hi : HInv cfg h) (hr : free h p = some r) :
    HInv cfg r.h := by
  obtain ⟨h8, sz, hl, hlive, hfl⟩ := free_some hr
  have hN := lookup_mem hl
  have hwN := hi.wf_lookup hl
  have hw : ∀ f ∈ h.flp, 8 ≤ f.2 ∧ f.2 % 8 = 0 := fun f hf => ⟨(hi.wfF f hf).1, (hi.wfF f hf).2.1⟩
  have tile : ∀ x, cnt x (insFree (p - 8, sz) h.flp) + cnt x (remove (p - 8) h.live) = if x < h.brk then 1 else 0 :=
    fun x => by have := hi.tile x; have := cnt_remove (x := x) hl; rw [cnt_insFree]; omega
  have sorted := insFree_sorted (N := (p - 8, sz)) hi.sorted (fun f hf => hi.disj_free_live hf hN) ⟨hwN.1, hwN.2.1⟩ hw
  have made := insFree_made (N := (p - 8, sz)) ⟨hwN.1, hwN.2.1⟩ hw
  have hS : ∀ g ∈ (p - 8, sz) :: h.flp, g.1 % 8 = 0 := fun g hg =>
    (List.mem_cons.1 hg).elim (fun e => e ▸ hwN.2.2) fun hg' => (hi.wfF g hg').2.2
  have wfF : ∀ c ∈ insFree (p - 8, sz) h.flp, 8 ≤ c.2 ∧ c.2 % 8 = 0 ∧ c.1 % 8 = 0 := fun c hc => by
    obtain ⟨⟨g, hg, hga⟩, _, h8, hm⟩ := made c hc
    exact ⟨h8, hm, hga ▸ hS g hg⟩
  have wfL : ∀ c ∈ remove (p - 8) h.live, 8 ≤ c.2 ∧ c.2 % 8 = 0 ∧ c.1 % 8 = 0 := forall_remove hi.wfL
  obtain ⟨⟨bk, fl, lv⟩, ret, evs⟩ := r
  simp only at hlive hfl ⊢
  subst hlive
  rcases hfl with hfl | ⟨⟨f, hf, hfN⟩, hfl⟩
  · rw [Prod.ext_iff] at hfl; simp only at hfl
    rw [hfl.1, hfl.2]
    exact HInv.lower tile sorted wfF wfL hi.brk8 hi.lim
  · cases hfl
    refine ⟨tile, sorted, fun y hy hyb => ?_, wfF, wfL, hi.brk8, hi.lim⟩
    -- `N` lies below the old list head, and the old free chunks did not end at the break
    obtain ⟨_, ⟨g, hg, hgf⟩, _⟩ := made y hy
    rcases List.mem_cons.1 hg with rfl | hg
    · have := hi.disj_free_live hf hN; have := hi.fin_le_brk (.inl hf); have := (hw f hf).1
      simp only at *; omega
    · exact hi.notTop g hg (hgf ▸ hyb)

theorem growScan_inl {fp2 incr : Nat} {l : List Chunk} {s : Nat} {c : Chunk}
    (h : growScan fp2 incr l s = .inl c) : c ∈ l ∧ c.1 = fp2 ∧ c.2 + 8 ≥ incr := by
  induction l generalizing s with
  | nil => simp [growScan] at h
  | cons d l ih =>
    simp only [growScan] at h
    split at h
    · rename_i hc; cases h; exact ⟨by simp, hc.1, hc.2⟩
    · have := ih h; exact ⟨List.mem_cons_of_mem _ this.1, this.2⟩

theorem growScan_inr {fp2 incr : Nat} : ∀ {l : List Chunk} {s s' : Nat}, growScan fp2 incr l s = .inr s' →
    (∀ c ∈ l, ¬ (c.1 = fp2 ∧ c.2 + 8 ≥ incr)) ∧ s ≤ s' ∧ (∀ c ∈ l, c.2 ≤ s') ∧ (s' = s ∨ ∃ c ∈ l, c.2 = s') := by
  intro l
  induction l with
  | nil => intro s s' h; simp only [growScan, Sum.inr.injEq] at h; subst h; simp
  | cons c l ih =>
    intro s s' h
    simp only [growScan] at h
    split at h
    · cases h
    · rename_i hc
      obtain ⟨h1, h2, h3, h4⟩ := ih h
      refine ⟨?_, ?_, ?_, ?_⟩
      · intro d hd
        rcases List.mem_cons.1 hd with rfl | hd
        · exact hc
        · exact h1 d hd
      · split at h2 <;> omega
      · intro d hd
        rcases List.mem_cons.1 hd with rfl | hd
        · split at h2 <;> omega
        · exact h3 d hd
      · rcases h4 with h4 | ⟨d, hd, h4⟩
        · split at h4
          · right; exact ⟨c, by simp, h4.symm⟩
          · left; exact h4
        · right; exact ⟨d, by simp [hd], h4⟩

theorem growScan_eq_inl {fp2 incr s : Nat} {l : List Chunk} {f : Chunk} (hs : l.Pairwise Below) (hf : f ∈ l)
    (h1 : f.1 = fp2) (h2 : f.2 + 8 ≥ incr) : growScan fp2 incr l s = .inl f := by
  cases hg : growScan fp2 incr l s with
  | inl c =>
    obtain ⟨hc, hc1, _⟩ := growScan_inl hg
    have e := (lookup_of_mem_sorted hs hc).symm.trans (hc1.trans h1.symm ▸ lookup_of_mem_sorted hs hf)
    rw [show c = (c.1, c.2) from rfl, show f = (f.1, f.2) from rfl, hc1, h1, Option.some.inj e]
  | inr s' => exact absurd ⟨h1, h2⟩ ((growScan_inr hg).1 f hf)

theorem growScan_inr_max {fp2 incr len s : Nat} {l : List Chunk} (hlen : 0 < len)
    (hg : growScan fp2 incr l 0 = .inr s) : len > s ↔ ∀ f ∈ l, f.2 < len := by
  obtain ⟨_, _, hmax, hwit⟩ := growScan_inr hg
  refine ⟨fun hc f hf => by have := hmax f hf; omega, fun hall => ?_⟩
  rcases hwit with hw | ⟨c, hc, hw⟩
  · omega
  · have := hall c hc; omega

theorem growScan_eq_inr {fp2 incr len : Nat} {l : List Chunk} (hlen : 0 < len)
    (hnone : ∀ f ∈ l, ¬ (f.1 = fp2 ∧ incr ≤ f.2 + 8)) :
    ∃ s', growScan fp2 incr l 0 = .inr s' ∧ (len > s' ↔ ∀ f ∈ l, f.2 < len) := by
  cases hg : growScan fp2 incr l 0 with
  | inl c => obtain ⟨hc, hc1, hc2⟩ := growScan_inl hg; exact absurd ⟨hc1, hc2⟩ (hnone c hc)
  | inr s' => exact ⟨s', rfl, growScan_inr_max hlen hg⟩

/-- realloc's shrink, before `free` is called on the tail -/
theorem HInv.splitLive {cfg h} (hi : HInv cfg h) {a sz k t b : Nat} (hl : lookup a h.live = some sz)
    (hk : 8 ≤ k ∧ k % 8 = 0) (ht : 8 ≤ t) (hb : a + 8 + k = b) (hs : k + 8 + t = sz) :
    HInv cfg { h with live := (b, t) :: setChunk a (a, k) h.live } := by
  have htile : ∀ x, cnt x h.flp + (hasN x (b, t) + cnt x (setChunk a (a, k) h.live)) =
      if x < h.brk then 1 else 0 := fun x => by
    have h1 := hi.tile x
    have h2 := cnt_setChunk (x := x) (new := (a, k)) hl
    have h3 := hasN_glue x hb hs
    omega
  have hw := hi.wf_lookup hl
  have ar : t % 8 = 0 ∧ b % 8 = 0 := by omega
  exact ⟨htile, hi.sorted, hi.notTop, hi.wfF,
    List.forall_mem_cons.2 ⟨⟨ht, ar⟩, forall_setChunk hi.wfL ⟨hk.1, hk.2, hw.2.2⟩⟩, hi.brk8, hi.lim⟩

/-- realloc's growth into the upper neighbour when a free-list entry remains -/
theorem HInv.growSplit {cfg h} (hi : HInv cfg h) {a sz k b t : Nat} {f : Chunk}
    (hl : lookup a h.live = some sz) (hf : f ∈ h.flp) (hadj : a + 8 + sz = f.1) (hk : 8 ≤ k ∧ k % 8 = 0)
    (hgt : sz ≤ k) (ht : 8 ≤ t) (hb : a + 8 + k = b) (hs : k + 8 + t = sz + 8 + f.2) :
    HInv cfg { h with flp := setChunk f.1 (b, t) h.flp, live := setChunk a (a, k) h.live } := by
  have hlf : lookup f.1 h.flp = some f.2 := lookup_of_mem_sorted hi.sorted hf
  have htile : ∀ x, cnt x (setChunk f.1 (b, t) h.flp) + cnt x (setChunk a (a, k) h.live) =
      if x < h.brk then 1 else 0 := fun x => by
    have h1 := hi.tile x
    have h2 := cnt_setChunk (x := x) (new := (a, k)) hl
    have h3 := cnt_setChunk (x := x) (new := (b, t)) hlf
    have h4 : hasN x (a, sz) + hasN x (f.1, f.2) = _ := hasN_glue x hadj rfl
    have h5 := hasN_glue x hb hs
    omega
  have hw := hi.wf_lookup hl
  have hwf : 8 ≤ f.2 ∧ f.2 % 8 = 0 ∧ f.1 % 8 = 0 := hi.wfF _ hf
  have hnt := hi.notTop _ hf
  have ar : t % 8 = 0 ∧ b % 8 = 0 ∧ f.1 ≤ b ∧ b + 8 + t = f.1 + 8 + f.2 := by omega
  exact ⟨htile, sorted_setChunk hi.sorted hlf ar.2.2.1 (Nat.le_of_eq ar.2.2.2),
    forall_setChunk hi.notTop (by show b + 8 + t ≠ h.brk; rw [ar.2.2.2]; exact hnt),
    forall_setChunk hi.wfF ⟨ht, ar.1, ar.2.1⟩, forall_setChunk hi.wfL ⟨hk.1, hk.2, hw.2.2⟩, hi.brk8, hi.lim⟩

theorem HInv.absorb {cfg h} (hi : HInv cfg h) {a sz u : Nat} {f : Chunk}
    (hl : lookup a h.live = some sz) (hf : f ∈ h.flp) (hadj : a + 8 + sz = f.1) (hu : sz + 8 + f.2 = u) :
    HInv cfg { h with flp := remove f.1 h.flp, live := setChunk a (a, u) h.live } := by
  have htile : ∀ x, cnt x (remove f.1 h.flp) + cnt x (setChunk a (a, u) h.live) =
      if x < h.brk then 1 else 0 := fun x => by
    have h1 := hi.tile x
    have h2 := cnt_setChunk (x := x) (new := (a, u)) hl
    have h3 := cnt_remove (x := x) (lookup_of_mem_sorted hi.sorted hf)
    have h4 : hasN x (a, sz) + hasN x (f.1, f.2) = _ := hasN_glue x hadj hu
    omega
  have hw := hi.wf_lookup hl
  have hwf : 8 ≤ f.2 ∧ f.2 % 8 = 0 ∧ f.1 % 8 = 0 := hi.wfF _ hf
  exact ⟨htile, hi.sorted.sublist (remove_sublist _ _), forall_remove hi.notTop, forall_remove hi.wfF,
    forall_setChunk hi.wfL (by show 8 ≤ u ∧ u % 8 = 0 ∧ a % 8 = 0; omega), hi.brk8, hi.lim⟩

theorem HInv.growTop {cfg h} (hi : HInv cfg h) {a sz k : Nat} (hl : lookup a h.live = some sz)
    (htop : h.brk = a + 8 + sz) (hk : 8 ≤ k ∧ k % 8 = 0) (hgt : sz < k)
    (hlim : cfg.lim ≠ 0 → a + 8 + k ≤ cfg.lim) :
    HInv cfg { h with brk := a + 8 + k, live := setChunk a (a, k) h.live } := by
  have hw := hi.wf_lookup hl
  refine ⟨fun x => ?_, hi.sorted, fun f hf => ?_, hi.wfF, forall_setChunk hi.wfL ⟨hk.1, hk.2, hw.2.2⟩,
    by show (a + 8 + k) % 8 = 0; omega, hlim⟩
  · have h1 := hi.tile x
    have h2 := cnt_setChunk (x := x) (new := (a, k)) hl
    have h3 := hasN_top x (a := a) (s := sz) htop.symm
    have h4 := hasN_top x (a := a) (s := k) (b := a + 8 + k) rfl
    show cnt x h.flp + cnt x (setChunk a (a, k) h.live) = if x < a + 8 + k then 1 else 0
    omega
  · have := hi.fin_le_brk (Or.inl hf); show f.1 + 8 + f.2 ≠ a + 8 + k; omega

/-- the outcome of `realloc` of the live block with header at `a` (payload pointer `a + 8`, usable size `sz`)
for the rounded request `len`, one constructor per path of the routine.  `hnone`: no free chunk directly
above offers the missing bytes; `hno`: no free chunk anywhere can hold `len` (then the topmost block grows
with the break). -/
inductive ReallocPath (cfg : Cfg) (h : Heap) (a sz len : Nat) : Res → Prop
  | keep (hle : len ≤ sz) (hk : sz ≤ 16 ∨ len > sz - 16) : ReallocPath cfg h a sz len ⟨h, some (a + 8), []⟩
  /-- the tail becomes a chunk of its own and is handed to `free` -/
  | shrink (hle : len + 16 ≤ sz) (h16 : 16 < sz) {r1 : Res}
      (hf : free { h with live := (a + 8 + len, sz - len - 8) :: setChunk a (a, len) h.live } (a + 8 + len + 8)
        = some r1) :
      ReallocPath cfg h a sz len ⟨r1.h, some (a + 8), .w (a + 8 + len) 8 :: .w a 8 :: r1.evs⟩
  | growSplit (hgt : sz < len) (f : Chunk) (hf : f ∈ h.flp) (hadj : f.1 = a + 8 + sz) (hfit : len - sz ≤ f.2 + 8)
      (hbig : f.2 + 8 - (len - sz) > 16) :
      ReallocPath cfg h a sz len
        ⟨{ h with flp := setChunk f.1 (a + 8 + len, f.2 - (len - sz)) h.flp, live := setChunk a (a, len) h.live },
          some (a + 8), .w (a + 8 + len + 8) 8 :: .w (a + 8 + len) 8 :: .w a 8 :: nxWrite (predOf f.1 none h.flp)⟩
  | absorb (hgt : sz < len) (f : Chunk) (hf : f ∈ h.flp) (hadj : f.1 = a + 8 + sz) (hfit : len - sz ≤ f.2 + 8)
      (hsmall : ¬ f.2 + 8 - (len - sz) > 16) :
      ReallocPath cfg h a sz len
        ⟨{ h with flp := remove f.1 h.flp, live := setChunk a (a, sz + (f.2 + 8)) h.live }, some (a + 8),
          .w a 8 :: nxWrite (predOf f.1 none h.flp)⟩
  | topRefuse (hgt : sz < len) (hnone : ∀ f ∈ h.flp, ¬ (f.1 = a + 8 + sz ∧ len - sz ≤ f.2 + 8)) (htop : h.brk = a + 8 + sz)
      (hno : ∀ f ∈ h.flp, f.2 < len) (hl : cfg.lim ≠ 0) (hlim : cfg.lim < a + 8 + len) :
      ReallocPath cfg h a sz len ⟨h, none, []⟩
  | topExtend (hgt : sz < len) (hnone : ∀ f ∈ h.flp, ¬ (f.1 = a + 8 + sz ∧ len - sz ≤ f.2 + 8)) (htop : h.brk = a + 8 + sz)
      (hno : ∀ f ∈ h.flp, f.2 < len) (hlim : cfg.lim ≠ 0 → a + 8 + len ≤ cfg.lim) :
      ReallocPath cfg h a sz len ⟨{ h with brk := a + 8 + len, live := setChunk a (a, len) h.live }, some (a + 8),
        [.w a 8]⟩
  | moveFail (hgt : sz < len) (hnone : ∀ f ∈ h.flp, ¬ (f.1 = a + 8 + sz ∧ len - sz ≤ f.2 + 8))
      (hnt : ¬ (h.brk = a + 8 + sz ∧ ∀ f ∈ h.flp, f.2 < len)) (hm : (malloc cfg h len).ret = none) :
      ReallocPath cfg h a sz len ⟨h, none, []⟩
  /-- `malloc`, `memcpy`, `free` -/
  | move (hgt : sz < len) (hnone : ∀ f ∈ h.flp, ¬ (f.1 = a + 8 + sz ∧ len - sz ≤ f.2 + 8))
      (hnt : ¬ (h.brk = a + 8 + sz ∧ ∀ f ∈ h.flp, f.2 < len)) {q : Nat} (hm : (malloc cfg h len).ret = some q)
      {r2 : Res} (hf : free (malloc cfg h len).h (a + 8) = some r2) :
      ReallocPath cfg h a sz len ⟨r2.h, some q, (malloc cfg h len).evs ++ .cp q (a + 8) sz :: r2.evs⟩

theorem realloc_path {cfg : Cfg} {h : Heap} {p n : Nat} {r : Res} (hr : realloc cfg h (some p) n = some r) :
    ∃ a sz, p = a + 8 ∧ lookup a h.live = some sz ∧ ReallocPath cfg h a sz (minLen (roundLen cfg.W n)) r := by
  unfold realloc reallocCore at hr
  generalize minLen (roundLen cfg.W n) = len at *
  simp only at hr
  split at hr
  · cases hr
  rename_i hp8
  obtain ⟨a, rfl⟩ : ∃ a, p = a + 8 := ⟨p - 8, by omega⟩
  simp only [Nat.add_sub_cancel] at hr
  split at hr
  · cases hr
  rename_i sz hl
  refine ⟨a, sz, rfl, hl, ?_⟩
  split at hr
  · rename_i hle
    split at hr
    · rename_i hk; cases hr; exact .keep hle hk
    · rename_i hk
      split at hr
      · cases hr
      · rename_i r1 hf; cases hr; exact .shrink (by omega) (by omega) hf
  · rename_i hgt
    split at hr
    · rename_i f hg
      obtain ⟨hm, ha, hs⟩ := growScan_inl hg
      split at hr
      · rename_i hbig; cases hr; exact .growSplit (by omega) f hm ha (by omega) hbig
      · rename_i hsmall; cases hr; exact .absorb (by omega) f hm ha (by omega) hsmall
    · rename_i s hg
      have hnone : ∀ f ∈ h.flp, ¬ (f.1 = a + 8 + sz ∧ len - sz ≤ f.2 + 8) := (growScan_inr hg).1
      have hs : len > s ↔ ∀ f ∈ h.flp, f.2 < len := growScan_inr_max (by omega) hg
      split at hr
      · rename_i htop
        split at hr
        · rename_i hlim; cases hr; exact .topRefuse (by omega) hnone htop.1 (hs.1 htop.2) hlim.1 hlim.2
        · rename_i hlim; cases hr
          exact .topExtend (by omega) hnone htop.1 (hs.1 htop.2) fun hl => Nat.le_of_not_lt fun hc => hlim ⟨hl, hc⟩
      · rename_i hnt
        replace hnt : ¬ (h.brk = a + 8 + sz ∧ ∀ f ∈ h.flp, f.2 < len) := fun hc => hnt ⟨hc.1, hs.2 hc.2⟩
        split at hr
        · rename_i hm; cases hr
          rw [(malloc_ret_none hm).2.1, (malloc_ret_none hm).2.2]
          exact .moveFail (by omega) hnone hnt hm
        · rename_i q hq
          split at hr
          · cases hr
          · rename_i r2 hf; cases hr; exact .move (by omega) hnone hnt hq hf

theorem realloc_path' {cfg : Cfg} {h : Heap} {p n sz : Nat} {r : Res} (hl : lookup (p - 8) h.live = some sz)
    (hr : realloc cfg h (some p) n = some r) :
    ∃ a, p = a + 8 ∧ lookup a h.live = some sz ∧ ReallocPath cfg h a sz (minLen (roundLen cfg.W n)) r := by
  obtain ⟨a, sz', rfl, hl', hp⟩ := realloc_path hr
  rw [Nat.add_sub_cancel, hl'] at hl; cases hl; exact ⟨a, rfl, hl', hp⟩

theorem reachesMove_iff (cfg : Cfg) (h : Heap) (p len sz : Nat) (hl : lookup (p - 8) h.live = some sz) :
    reachesMove cfg h p len = true ↔
      sz < len ∧ (∀ f ∈ h.flp, ¬ (f.1 = p + sz ∧ len - sz ≤ f.2 + 8)) ∧
        ¬ (h.brk = p + sz ∧ ∀ f ∈ h.flp, f.2 < len) := by
  unfold reachesMove
  rw [hl]
  simp only
  split
  · exact ⟨nofun, fun hc => absurd hc.1 (by omega)⟩
  · rename_i hgt
    split
    · rename_i f hg
      obtain ⟨hf, ha, hs⟩ := growScan_inl hg
      exact ⟨nofun, fun hc => absurd ⟨ha, by omega⟩ (hc.2.1 f hf)⟩
    · rename_i s hg
      have hmax := growScan_inr_max (len := len) (by omega) hg
      simp only [Bool.not_eq_true', Bool.and_eq_false_iff, beq_eq_false_iff_ne, decide_eq_false_iff_not, ← hmax]
      exact ⟨fun hc => ⟨by omega, (growScan_inr hg).1, fun hd => hc.elim (absurd hd.1) (absurd hd.2)⟩,
        fun hc => by by_cases hb : h.brk = p + sz
                     · exact .inr fun hd => hc.2.2 ⟨hb, hd⟩
                     · exact .inl hb⟩

theorem realloc_inv (cfg : Cfg) (ok : CfgOK cfg) (h : Heap) (ptr : Option Nat) (n : Nat) (r : Res)
    (hi : HInv cfg h) (hr : realloc cfg h ptr n = some r) : HInv cfg r.h := by
  have hk := reqLen_props cfg ok n
  cases ptr with
  | none => cases hr; exact malloc_inv cfg ok h _ hi
  | some p =>
    obtain ⟨a, sz, rfl, hl, hp⟩ := realloc_path hr
    have hsz := (hi.wf_lookup hl).1
    have hmi := malloc_inv cfg ok h (minLen (roundLen cfg.W n)) hi
    generalize minLen (roundLen cfg.W n) = len at hp hk hmi
    cases hp with
    | keep | topRefuse | moveFail => exact hi
    | shrink hle _ hf =>
      exact (free_inv cfg _ _ _ (hi.splitLive (t := sz - len - 8) hl hk (by omega) rfl (by omega)) hf :)
    | growSplit hgt f hf hadj hfit hbig =>
      exact hi.growSplit hl hf hadj.symm hk (by omega) (by omega) rfl (by omega)
    | absorb hgt f hf hadj => exact hi.absorb hl hf hadj.symm (by omega)
    | topExtend hgt _ htop _ hlim => exact hi.growTop hl htop hk hgt hlim
    | move _ _ _ _ hf => exact (free_inv cfg _ _ _ hmi hf :)

theorem HInv.init (cfg : Cfg) : HInv cfg Heap.init :=
  ⟨fun x => by simp [Heap.init], by simp [Heap.init], by simp [Heap.init], by simp [Heap.init],
    by simp [Heap.init], by simp [Heap.init], fun _ => by simp [Heap.init]⟩

theorem step_inv (cfg : Cfg) (ok : CfgOK cfg) (h : Heap) (op : Op) (r : Res) (hi : HInv cfg h)
    (hs : step cfg h op = some r) : HInv cfg r.h := by
  cases op with
  | malloc n => simp only [step] at hs; cases hs; exact malloc_inv cfg ok h n hi
  | free p =>
    cases p with
    | none => simp only [step] at hs; cases hs; exact hi
    | some p => exact free_inv cfg h p r hi hs
  | realloc p n => exact realloc_inv cfg ok h p n r hi hs

theorem run_inv (cfg : Cfg) (ok : CfgOK cfg) (ops : List Op) (h h' : Heap) (hi : HInv cfg h)
    (hr : run cfg h ops = some h') : HInv cfg h' := by
  induction ops generalizing h with
  | nil => simp only [run] at hr; cases hr; exact hi
  | cons op ops ih =>
    simp only [run] at hr
    split at hr
    · cases hr
    · rename_i r hs
      exact ih r.h (step_inv cfg ok h op r hi hs) hr

theorem exists_of_cnt_pos {x : Nat} {l : List Chunk} (h : 1 ≤ cnt x l) :
    ∃ c ∈ l, c.1 ≤ x ∧ x < c.1 + 8 + c.2 := by
  induction l with
  | nil => simp at h
  | cons d l ih =>
    by_cases hd : hasN x d = 1
    · exact ⟨d, by simp, hasN_eq_one_iff.1 hd⟩
    · have := hasN_le_one x d
      simp only [cnt_cons] at h
      obtain ⟨c, hc, hx⟩ := ih (by omega)
      exact ⟨c, List.mem_cons_of_mem _ hc, hx⟩

theorem pairwise_disj_of_cnt {l : List Chunk} (h : ∀ x, cnt x l ≤ 1) : l.Pairwise Disj := by
  induction l with
  | nil => simp
  | cons c t ih =>
    rw [List.pairwise_cons]
    refine ⟨fun d hd => ?_, ih fun x => ?_⟩
    · apply disj_of_hasN
      intro x
      have := h x; have := hasN_le_cnt (x := x) hd
      simp only [cnt_cons] at *; omega
    · have := h x; simp only [cnt_cons] at this; omega

theorem HInv.no_free_of_no_live {cfg h} (hi : HInv cfg h) (hl : h.live = []) : h.flp = [] ∧ h.brk = 0 := by
  have hflp : h.flp = [] := by
    cases hf : h.flp with
    | nil => rfl
    | cons f rest =>
      exfalso
      have hfm : f ∈ h.flp := by rw [hf]; simp
      have h1 := hi.fin_le_brk (Or.inl hfm)
      have h2 := hi.notTop f hfm
      -- the byte right behind `f` is below the break, so some chunk holds it
      have ht := hi.tile (f.1 + 8 + f.2)
      rw [hl] at ht
      simp only [cnt_nil, Nat.add_zero] at ht
      rw [if_pos (by omega)] at ht
      obtain ⟨g, hg, hgx⟩ := exists_of_cnt_pos (by omega : 1 ≤ cnt (f.1 + 8 + f.2) h.flp)
      -- `g` is a free chunk that starts at or before the end of `f` and ends behind it
      have hs := hi.sorted
      obtain ⟨l1, l2, hsplit⟩ := List.append_of_mem hfm
      rw [hsplit, List.pairwise_append, List.pairwise_cons] at hs
      rw [hsplit] at hg
      rcases List.mem_append.1 hg with hg | hg
      · have := hs.2.2 g hg f (by simp); unfold Below at this; omega
      · rcases List.mem_cons.1 hg with rfl | hg
        · omega
        · have := hs.2.1.1 g hg; unfold Below at this; omega
  refine ⟨hflp, ?_⟩
  have := hi.tile 0
  rw [hl, hflp] at this
  simp at this
  omega

theorem predOf_mem {a b : Nat} {prev : Option Nat} {l : List Chunk} (h : predOf a prev l = some b) :
    prev = some b ∨ ∃ c ∈ l, c.1 = b := by
  induction l generalizing prev with
  | nil => simp [predOf] at h
  | cons c l ih =>
    simp only [predOf] at h
    split at h
    · exact Or.inl h
    · rcases ih h with h | ⟨d, hd, hb⟩
      · right; cases h; exact ⟨c, by simp, rfl⟩
      · right; exact ⟨d, List.mem_cons_of_mem _ hd, hb⟩

/-- `pred->nx = …` goes into a free chunk -/
theorem nxWrite_inside {a : Nat} {l : List Chunk} (hw : ∀ c ∈ l, 8 ≤ c.2) :
    ∀ e ∈ nxWrite (predOf a none l), ∃ f ∈ l, e.Inside f.1 (f.1 + 8 + f.2) := by
  intro e he
  cases hp : predOf a none l with
  | none => rw [hp] at he; simp [nxWrite] at he
  | some b =>
    rw [hp] at he; simp only [nxWrite, List.mem_singleton] at he; subst he
    rcases predOf_mem hp with h | ⟨c, hc, hb⟩
    · cases h
    · have := hw c hc
      exact ⟨c, hc, by simp only [Ev.Inside, Ev.lo, Ev.hi]; omega⟩

theorem malloc_evs_where (cfg : Cfg) (h : Heap) (n : Nat) (hi : HInv cfg h) :
    ∀ e ∈ (malloc cfg h n).evs, (∃ f ∈ h.flp, e.Inside f.1 (f.1 + 8 + f.2)) ∨ h.brk ≤ e.lo := by
  have hw8 : ∀ c ∈ h.flp, 8 ≤ c.2 := fun c hc => (hi.wfF c hc).1
  have hp := malloc_path cfg h n
  generalize malloc cfg h n = r at hp ⊢
  cases hp with
  | take => exact fun e he => .inl (nxWrite_inside hw8 e he)
  | carve a s hm hle =>
    intro e he
    refine .inl ⟨(a, s), hm, ?_⟩
    simp only [List.mem_cons, List.mem_nil_iff, or_false] at he
    rcases he with rfl | rfl <;> simp only [Ev.Inside, Ev.lo, Ev.hi] <;> omega
  | refuse => exact nofun
  | extend => exact fun e he => .inr (by rw [List.mem_singleton.1 he]; exact Nat.le_refl _)

theorem mergeDownEvs_inside (fp2 : Chunk) (a : Nat) (h8 : 8 ≤ fp2.2) :
    ∀ e ∈ mergeDownEvs fp2 a, e.Inside fp2.1 (fp2.1 + 8 + fp2.2) := by
  intro e he
  simp only [mergeDownEvs] at he
  split at he
  · simp only [List.mem_cons, List.mem_nil_iff, or_false] at he
    rcases he with rfl | rfl | rfl <;> simp only [Ev.Inside, Ev.lo, Ev.hi] <;> omega
  · simp only [List.mem_cons, List.mem_nil_iff, or_false] at he
    subst he; simp only [Ev.Inside, Ev.lo, Ev.hi]; omega

theorem insUpEvs_inside (N : Chunk) (l : List Chunk) (h8 : 8 ≤ N.2) :
    ∀ e ∈ insUpEvs N l, e.Inside N.1 (N.1 + 8 + N.2) := by
  cases l with
  | nil => exact nofun
  | cons fp1 r => exact mergeDownEvs_inside N fp1.1 h8

theorem freeWalkEvs_inside (N fp2 : Chunk) (rest : List Chunk) (hN : 8 ≤ N.2)
    (hw : ∀ c ∈ fp2 :: rest, 8 ≤ c.2) :
    ∀ e ∈ freeWalkEvs N fp2 rest, ∃ f ∈ N :: fp2 :: rest, e.Inside f.1 (f.1 + 8 + f.2) := by
  induction rest generalizing fp2 with
  | nil =>
    intro e he
    simp only [freeWalkEvs] at he
    exact ⟨fp2, by simp, mergeDownEvs_inside fp2 N.1 (hw fp2 (by simp)) e he⟩
  | cons fp1 r ih =>
    intro e he
    simp only [freeWalkEvs] at he
    split at he
    · obtain ⟨f, hf, hin⟩ := ih fp1 (fun c hc => hw c (List.mem_cons_of_mem _ hc)) e he
      refine ⟨f, ?_, hin⟩
      rcases List.mem_cons.1 hf with rfl | hf
      · simp
      · simp [List.mem_cons.1 hf]
    · rcases List.mem_append.1 he with he | he
      · exact ⟨N, by simp, insUpEvs_inside N _ hN e he⟩
      · exact ⟨fp2, by simp, mergeDownEvs_inside fp2 N.1 (hw fp2 (by simp)) e he⟩

theorem lowerBrkEvs_shape (brk : Nat) (l : List Chunk) :
    ∀ e ∈ lowerBrkEvs brk l, ∃ f ∈ l, e = .w (f.1 + 8) 8 := by
  induction l with
  | nil => simp [lowerBrkEvs]
  | cons f r ih =>
    cases r with
    | nil => simp [lowerBrkEvs]
    | cons g r =>
      cases r with
      | nil =>
        intro e he
        simp only [lowerBrkEvs] at he
        split at he
        · simp only [List.mem_singleton] at he; exact ⟨f, by simp, he⟩
        · simp at he
      | cons k r =>
        intro e he
        simp only [lowerBrkEvs] at he
        obtain ⟨f', hf', h'⟩ := ih e he
        exact ⟨f', List.mem_cons_of_mem _ hf', h'⟩

theorem free_evs_where (cfg : Cfg) (h : Heap) (p : Nat) (r : Res) (hi : HInv cfg h)
    (hr : free h p = some r) :
    ∃ sz, lookup (p - 8) h.live = some sz ∧
      ∀ e ∈ r.evs, ∃ f ∈ (p - 8, sz) :: h.flp, e.Inside f.1 (f.1 + 8 + f.2) := by
  unfold free at hr
  split at hr
  · cases hr
  simp only at hr
  split at hr
  · cases hr
  rename_i sz hl
  refine ⟨sz, hl, ?_⟩
  obtain ⟨hN8, hNm, hNa⟩ := hi.wf_lookup hl
  have he0 : (Ev.w (p - 8 + 8) 8).Inside (p - 8) (p - 8 + 8 + sz) := by
    simp only [Ev.Inside, Ev.lo, Ev.hi]; omega
  split at hr
  · split at hr <;> (cases hr; intro e he; simp only [List.mem_singleton] at he; subst he; exact ⟨(p - 8, sz), by simp, he0⟩)
  · rename_i fp1 rest hflp
    have hw8 : ∀ c ∈ fp1 :: rest, 8 ≤ c.2 := fun c hc => (hi.wfF c (by rw [hflp]; exact hc)).1
    rw [hflp]
    split at hr
    · cases hr
      intro e he
      simp only [List.mem_cons, List.mem_append] at he
      rcases he with rfl | he | he
      · exact ⟨(p - 8, sz), by simp, he0⟩
      · exact freeWalkEvs_inside (p - 8, sz) fp1 rest hN8 hw8 e he
      · rename_i hlt
        obtain ⟨f, hf, rfl⟩ := lowerBrkEvs_shape _ _ e he
        -- a chunk of the new list starts where the released chunk or an old free chunk did
        have hmade := insFree_made (N := (p - 8, sz)) (l := fp1 :: rest) ⟨hN8, hNm⟩
          (fun g hg => ⟨hw8 g hg, (hi.wfF g (by rw [hflp]; exact hg)).2.1⟩) f (by simp only [insFree, if_pos hlt]; exact hf)
        obtain ⟨⟨g, hg, hga⟩, _⟩ := hmade
        have hg8 : 8 ≤ g.2 := by
          rcases List.mem_cons.1 hg with rfl | hg
          · exact hN8
          · exact hw8 g hg
        exact ⟨g, hg, by simp only [Ev.Inside, Ev.lo, Ev.hi]; omega⟩
    · cases hr
      intro e he
      simp only [List.mem_cons] at he
      rcases he with rfl | he
      · exact ⟨(p - 8, sz), by simp, he0⟩
      · exact ⟨(p - 8, sz), by simp, insUpEvs_inside (p - 8, sz) _ hN8 e he⟩

theorem mem_remove_of_ne {a : Nat} {c : Chunk} {l : List Chunk} (hc : c ∈ l) (hne : c.1 ≠ a) : c ∈ remove a l := by
  induction l with
  | nil => cases hc
  | cons d l ih =>
    simp only [remove]
    rcases List.mem_cons.1 hc with rfl | hc
    · simp [hne]
    · split
      · exact hc
      · exact List.mem_cons_of_mem _ (ih hc)

theorem mem_setChunk_of_ne {a : Nat} {c new : Chunk} {l : List Chunk} (hc : c ∈ l) (hne : c.1 ≠ a) :
    c ∈ setChunk a new l := by
  induction l with
  | nil => cases hc
  | cons d l ih =>
    simp only [setChunk]
    rcases List.mem_cons.1 hc with rfl | hc
    · simp [hne]
    · split
      · exact List.mem_cons_of_mem _ hc
      · exact List.mem_cons_of_mem _ (ih hc)

theorem HInv.disj_live_live {cfg h} (hi : HInv cfg h) {c : Chunk} {a sz : Nat} (hc : c ∈ h.live)
    (hl : lookup a h.live = some sz) (hne : c.1 ≠ a) : c.1 + 8 + c.2 ≤ a ∨ a + 8 + sz ≤ c.1 := by
  apply disj_of_hasN c (a, sz)
  intro x
  have := hi.tile x
  have := cnt_remove (x := x) hl
  have := hasN_le_cnt (x := x) (mem_remove_of_ne hc hne)
  split at * <;> omega

theorem ne_of_mem_remove {cfg h} (hi : HInv cfg h) {a sz : Nat} (hl : lookup a h.live = some sz) {c : Chunk}
    (hc : c ∈ remove a h.live) : c.1 ≠ a := by
  intro he
  have h1 := hi.tile a
  have h2 := cnt_remove (x := a) hl
  have h3 := hasN_le_cnt (x := a) hc
  have h4 : hasN a c = 1 := hasN_eq_one_iff.2 (by omega)
  have h5 : hasN a (a, sz) = 1 := hasN_eq_one_iff.2 (by simp only; omega)
  split at h1 <;> omega

theorem lookup_remove_none {cfg : Cfg} {h : Heap} {a sz : Nat} (hi : HInv cfg h)
    (hl : lookup a h.live = some sz) : lookup a (remove a h.live) = none := by
  cases hl2 : lookup a (remove a h.live) with
  | none => rfl
  | some s2 => exact absurd rfl (ne_of_mem_remove hi hl (lookup_mem hl2))

theorem malloc_ret_some {cfg h n q} (hr : (malloc cfg h n).ret = some q) :
    ∃ s, (malloc cfg h n).h.live = (q - 8, s) :: h.live ∧ 8 ≤ q ∧ minLen (roundLen cfg.W n) ≤ s := by
  have hp := malloc_path cfg h n
  generalize malloc cfg h n = r at hp hr ⊢
  cases hp with
  | take a s _ hle => cases hr; exact ⟨s, rfl, Nat.le_add_left _ _, hle⟩
  | carve => cases hr; exact ⟨_, rfl, Nat.le_add_left _ _, Nat.le_refl _⟩
  | refuse => cases hr
  | extend => cases hr; exact ⟨_, rfl, Nat.le_add_left _ _, Nat.le_refl _⟩

theorem malloc_evs_avoid (cfg : Cfg) (h : Heap) (n : Nat) (hi : HInv cfg h) :
    ∀ e ∈ (malloc cfg h n).evs, ∀ c ∈ h.live, e.Avoids c.1 (c.1 + 8 + c.2) := by
  intro e he c hc
  rcases malloc_evs_where cfg h n hi e he with ⟨f, hf, hin⟩ | hb
  · exact hin.avoids (by have := hi.disj_free_live hf hc; omega)
  · have := hi.fin_le_brk (Or.inr hc); unfold Ev.Avoids; omega

theorem HInv.disj_head {cfg h} (hi : HInv cfg h) {c : Chunk} {l : List Chunk} (hl : h.live = c :: l) :
    ∀ d ∈ l, Disj d c := by
  intro d hd
  apply disj_of_hasN; intro x
  have ht := hi.tile x
  rw [hl, cnt_cons] at ht
  have := hasN_le_cnt (x := x) hd
  split at ht <;> omega

theorem malloc_fresh {cfg : Cfg} (ok : CfgOK cfg) {h : Heap} {n q : Nat} (hi : HInv cfg h)
    (hr : (malloc cfg h n).ret = some q) :
    ∃ s, (malloc cfg h n).h.live = (q - 8, s) :: h.live ∧ 8 ≤ q ∧ minLen (roundLen cfg.W n) ≤ s ∧
      ∀ c ∈ h.live, Disj c (q - 8, s) := by
  obtain ⟨s, hlive, hq8, hs⟩ := malloc_ret_some hr
  exact ⟨s, hlive, hq8, hs, (malloc_inv cfg ok h n hi).disj_head hlive⟩

theorem free_evs_avoid (cfg : Cfg) (h : Heap) (p : Nat) (r : Res) (hi : HInv cfg h)
    (hr : free h p = some r) :
    ∀ e ∈ r.evs, ∀ c ∈ h.live, c.1 ≠ p - 8 → e.Avoids c.1 (c.1 + 8 + c.2) := by
  obtain ⟨sz, hl, hw⟩ := free_evs_where cfg h p r hi hr
  intro e he c hc hne
  obtain ⟨f, hf, hin⟩ := hw e he
  rcases List.mem_cons.1 hf with rfl | hf
  · have := hi.disj_live_live hc hl hne
    simp only at hin
    exact hin.avoids (by omega)
  · exact hin.avoids (by have := hi.disj_free_live hf hc; omega)

theorem realloc_where {cfg : Cfg} (ok : CfgOK cfg) {h : Heap} {a sz len : Nat} {r : Res} (hi : HInv cfg h)
    (hl : lookup a h.live = some sz) (hk : 8 ≤ len ∧ len % 8 = 0) (hp : ReallocPath cfg h a sz len r) :
    (r.ret = some (a + 8) ∧ ∀ e ∈ r.evs, e.Inside a (a + 8) ∨ e.Inside (a + 8 + min sz len) (a + 8 + sz) ∨
        ∃ f ∈ h.flp, e.Inside f.1 (f.1 + 8 + f.2)) ∨
    (r.ret = none ∧ r.h = h ∧ r.evs = []) ∨
    -- moved: `E1` the stores of `malloc`, then the copy into the fresh chunk `(q - 8, s)`, `E2` the stores of `free`
    (∃ q s E1 E2, r.ret = some q ∧ r.evs = E1 ++ .cp q (a + 8) sz :: E2 ∧ sz < len ∧ 8 ≤ q ∧ len ≤ s ∧
        (∀ c ∈ h.live, Disj c (q - 8, s)) ∧ (∀ e ∈ E1, ∀ c ∈ h.live, e.Avoids c.1 (c.1 + 8 + c.2)) ∧
        ∀ e ∈ E2, ∀ c ∈ (q - 8, s) :: h.live, c.1 ≠ a → e.Avoids c.1 (c.1 + 8 + c.2)) := by
  have hw8 : ∀ c ∈ h.flp, 8 ≤ c.2 := fun c hc => (hi.wfF c hc).1
  have hhdr : (Ev.w a 8).Inside a (a + 8) := by simp only [Ev.Inside, Ev.lo, Ev.hi]; omega
  cases hp with
  | keep => exact .inl ⟨rfl, nofun⟩
  | shrink hle h16 hf =>
    obtain ⟨t, hl', hw⟩ := free_evs_where cfg _ _ _ (hi.splitLive (t := sz - len - 8) hl hk (by omega) rfl (by omega)) hf
    simp only [Nat.add_sub_cancel, lookup, ↓reduceIte, Option.some.injEq] at hl'
    subst hl'
    refine .inl ⟨rfl, fun e he => ?_⟩
    rcases List.mem_cons.1 he with rfl | he
    · right; left; simp only [Ev.Inside, Ev.lo, Ev.hi]; omega
    rcases List.mem_cons.1 he with rfl | he
    · exact .inl hhdr
    obtain ⟨f, hf', hin⟩ := hw e he
    rw [Nat.add_sub_cancel] at hf'
    rcases List.mem_cons.1 hf' with rfl | hf'
    · right; left; simp only [Ev.Inside] at hin ⊢; omega
    · exact .inr (.inr ⟨f, hf', hin⟩)
  | growSplit hgt f hf hadj hfit hbig =>
    refine .inl ⟨rfl, fun e he => ?_⟩
    simp only [List.mem_cons] at he
    rcases he with rfl | rfl | rfl | he
    · exact .inr (.inr ⟨f, hf, by simp only [Ev.Inside, Ev.lo, Ev.hi]; omega⟩)
    · exact .inr (.inr ⟨f, hf, by simp only [Ev.Inside, Ev.lo, Ev.hi]; omega⟩)
    · exact .inl hhdr
    · exact .inr (.inr (nxWrite_inside hw8 e he))
  | absorb hgt f hf =>
    refine .inl ⟨rfl, fun e he => ?_⟩
    rcases List.mem_cons.1 he with rfl | he
    · exact .inl hhdr
    · exact .inr (.inr (nxWrite_inside hw8 e he))
  | topRefuse | moveFail => exact .inr (.inl ⟨rfl, rfl, rfl⟩)
  | topExtend => exact .inl ⟨rfl, fun e he => by rw [List.mem_singleton.1 he]; exact .inl hhdr⟩
  | move hgt _ _ hm hf =>
    obtain ⟨s, hlive, hq8, hs, hd⟩ := malloc_fresh ok hi hm
    refine .inr (.inr ⟨_, s, _, _, rfl, rfl, hgt, hq8, Nat.le_trans (reqLen_ge cfg.W len) hs, hd,
      malloc_evs_avoid cfg h len hi, fun e he c hc hca => ?_⟩)
    exact free_evs_avoid cfg _ _ _ (malloc_inv cfg ok h len hi) hf e he c (hlive ▸ hc) (by omega)

def Op.target : Op → Option Nat
  | .malloc _ => none
  | .free p => p
  | .realloc p _ => p

theorem step_evs_avoid (cfg : Cfg) (ok : CfgOK cfg) (h : Heap) (op : Op) (r : Res) (hi : HInv cfg h)
    (hs : step cfg h op = some r) :
    ∀ e ∈ r.evs, ∀ c ∈ h.live, op.target ≠ some (c.1 + 8) → e.Avoids c.1 (c.1 + 8 + c.2) := by
  intro e he c hc hne
  cases op with
  | malloc n => cases hs; exact malloc_evs_avoid cfg h n hi e he c hc
  | free p =>
    cases p with
    | none => cases hs; cases he
    | some p =>
      have h8 := (free_live hs).2.1
      exact free_evs_avoid cfg h p r hi hs e he c hc fun hcp => hne (by simp only [Op.target]; congr 1; omega)
  | realloc p n =>
    cases p with
    | none => cases hs; exact malloc_evs_avoid cfg h _ hi e he c hc
    | some p =>
      have hk := reqLen_props cfg ok n
      obtain ⟨a, sz, rfl, hl, hp⟩ := realloc_path hs
      have hca : c.1 ≠ a := fun hcp => hne (by rw [hcp]; rfl)
      have hdis := hi.disj_live_live hc hl hca
      rcases realloc_where ok hi hl hk hp with ⟨_, hw⟩ | ⟨_, _, hev⟩ | ⟨q, s, E1, E2, _, hev, _, _, hs, hd, h1, h2⟩
      · rcases hw e he with hin | hin | ⟨f, hf, hin⟩
        · exact hin.avoids (by omega)
        · exact hin.avoids (by omega)
        · exact hin.avoids (by have := hi.disj_free_live hf hc; omega)
      · rw [hev] at he; cases he
      · rw [hev] at he
        rcases List.mem_append.1 he with he | he
        · exact h1 e he c hc
        · rcases List.mem_cons.1 he with rfl | he
          · -- memcpy into the fresh chunk, which does not overlap `c`
            have hdc := hd c hc
            unfold Disj at hdc; simp only at hdc
            simp only [Ev.Avoids, Ev.lo, Ev.hi]; omega
          · exact h2 e he c (List.mem_cons_of_mem _ hc) hca

theorem realloc_prefix (cfg : Cfg) (ok : CfgOK cfg) (h : Heap) (p n sz q : Nat) (r : Res) (hi : HInv cfg h)
    (hl : lookup (p - 8) h.live = some sz) (hr : realloc cfg h (some p) n = some r)
    (hq : r.ret = some q) (m m' : Mem) (hx : Exec m r.evs m') :
    ∀ i, i < min sz n → m' (q + i) = m (p + i) := by
  have hk := reqLen_props cfg ok n
  obtain ⟨a, rfl, hl, hp⟩ := realloc_path' hl hr
  have hN := lookup_mem hl
  have hN8 := (hi.wf_lookup hl).1
  have hnl := reqLen_ge cfg.W n
  rcases realloc_where ok hi hl hk hp with ⟨hret, hw⟩ | ⟨hret, _, _⟩ | ⟨q', s, E1, E2, hret, hev, hlt, hq8, hs, hd, h1, h2⟩
  · -- in place: no store touches the kept prefix
    rw [hret] at hq; cases hq
    intro i hi'
    refine Exec.frame hx (lo := a + 8) (hi := a + 8 + min sz (minLen (roundLen cfg.W n))) (fun e he => ?_) (a + 8 + i)
      (by omega) (by omega)
    rcases hw e he with hin | hin | ⟨f, hf, hin⟩
    · exact hin.avoids (by omega)
    · exact hin.avoids (by omega)
    · have := hi.disj_free_live hf hN; simp only at this
      exact hin.avoids (by omega)
  · rw [hret] at hq; cases hq
  · rw [hret] at hq; cases hq
    rw [hev] at hx
    obtain ⟨m1, hA, m2, hcp, hB⟩ := Exec.append hx
    have hd := hd _ hN
    unfold Disj at hd; simp only at hd
    intro i hi'
    -- malloc does not touch the old block, free(old) does not touch the fresh chunk
    have e1 : m1 (a + 8 + i) = m (a + 8 + i) :=
      Exec.frame hA (lo := a) (hi := a + 8 + sz) (fun e he => h1 e he _ hN) (a + 8 + i) (by omega) (by omega)
    have e2 : m2 (q + i) = m1 (a + 8 + i) := hcp.1 i (by omega)
    have e3 : m' (q + i) = m2 (q + i) :=
      Exec.frame hB (lo := q - 8) (hi := q - 8 + 8 + s)
        (fun e he => h2 e he (q - 8, s) (by simp) (by simp only; omega)) (q + i) (by omega) (by omega)
    rw [e3, e2, e1]

theorem free_total {h : Heap} {p sz : Nat} (h8 : 8 ≤ p) (hl : lookup (p - 8) h.live = some sz) :
    ∃ r, free h p = some r := by
  unfold free
  rw [if_neg (by omega)]
  simp only [hl]
  split
  · split <;> exact ⟨_, rfl⟩
  · split <;> exact ⟨_, rfl⟩

theorem realloc_total {cfg : Cfg} {h : Heap} {p sz n : Nat} (h8 : 8 ≤ p) (hl : lookup (p - 8) h.live = some sz) :
    ∃ r, realloc cfg h (some p) n = some r := by
  unfold realloc reallocCore
  simp only
  rw [if_neg (by omega)]
  simp only [hl]
  generalize minLen (roundLen cfg.W n) = len
  split
  · split
    · exact ⟨_, rfl⟩
    · have hp : p + len + 8 - 8 = p + len := by omega
      have hf := free_total (h := ⟨h.brk, h.flp, (p + len, sz - len - 8) :: setChunk (p - 8) (p - 8, len) h.live⟩)
        (p := p + len + 8) (sz := sz - len - 8) (by omega) (by simp [lookup, hp])
      obtain ⟨r, hr⟩ := hf
      rw [hr]; exact ⟨_, rfl⟩
  · split
    · split <;> exact ⟨_, rfl⟩
    · split
      · split <;> exact ⟨_, rfl⟩
      · split
        · exact ⟨_, rfl⟩
        · rename_i q hq
          obtain ⟨s, hlive, _, _⟩ := malloc_ret_some hq
          have : ∃ sz', lookup (p - 8) (malloc cfg h len).h.live = some sz' := by
            rw [hlive]; simp only [lookup]; split
            · exact ⟨_, rfl⟩
            · exact ⟨_, hl⟩
          obtain ⟨sz', hl'⟩ := this
          obtain ⟨r2, hr2⟩ := free_total h8 hl'
          rw [hr2]; exact ⟨_, rfl⟩

theorem setChunk_self {a s : Nat} {l : List Chunk} (h : lookup a l = some s) : setChunk a (a, s) l = l := by
  induction l with
  | nil => rfl
  | cons c l ih =>
    simp only [lookup] at h
    simp only [setChunk]
    split at h
    · rename_i hc; cases h; rw [if_pos hc, ← hc]
    · rename_i hc; rw [if_neg hc, ih h]

theorem lookup_setChunk_self {a s s' : Nat} {l : List Chunk} (h : lookup a l = some s) :
    lookup a (setChunk a (a, s') l) = some s' := by
  induction l with
  | nil => simp [lookup] at h
  | cons c l ih =>
    simp only [lookup] at h
    simp only [setChunk]
    split at h
    · rename_i hc; simp [hc, lookup]
    · rename_i hc; simp only [hc, ↓reduceIte, lookup]; exact ih h

theorem realloc_live {cfg : Cfg} (ok : CfgOK cfg) {h : Heap} {a len sz : Nat} {r : Res} (hi : HInv cfg h)
    (hl : lookup a h.live = some sz) (hp : ReallocPath cfg h a sz len r) :
    (r.ret = some (a + 8) ∧ ∃ s, len ≤ s ∧ r.h.live = setChunk a (a, s) h.live) ∨
    (r.ret = none ∧ r.h = h) ∨
    (∃ q s, r.ret = some q ∧ 8 ≤ q ∧ len ≤ s ∧ r.h.live = (q - 8, s) :: remove a h.live) := by
  cases hp with
  | keep hle => exact .inl ⟨rfl, sz, hle, (setChunk_self hl).symm⟩
  | shrink hle h16 hf =>
    refine .inl ⟨rfl, len, Nat.le_refl _, ?_⟩
    rw [(free_live hf).1, Nat.add_sub_cancel]
    simp only [remove, ↓reduceIte]
  | growSplit | topExtend => exact .inl ⟨rfl, len, Nat.le_refl _, rfl⟩
  | absorb hgt f hf hadj hfit => exact .inl ⟨rfl, _, by omega, rfl⟩
  | topRefuse | moveFail => exact .inr (.inl ⟨rfl, rfl⟩)
  | move hgt _ _ hm hf =>
    obtain ⟨s, hlive, hq8, hs, hd⟩ := malloc_fresh ok hi hm
    have hd := hd _ (lookup_mem hl)
    unfold Disj at hd; simp only at hd
    refine .inr (.inr ⟨_, s, rfl, hq8, Nat.le_trans (reqLen_ge cfg.W len) hs, ?_⟩)
    rw [(free_live hf).1, hlive, Nat.add_sub_cancel]
    simp only [remove]
    rw [if_neg (by omega)]

theorem realloc_result (cfg : Cfg) (ok : CfgOK cfg) (h : Heap) (p n sz q : Nat) (r : Res) (hi : HInv cfg h)
    (hl : lookup (p - 8) h.live = some sz) (hr : realloc cfg h (some p) n = some r) (hq : r.ret = some q) :
    ∃ s, lookup (q - 8) r.h.live = some s ∧ n ≤ s ∧ 8 ≤ q := by
  have hnl := reqLen_ge cfg.W n
  obtain ⟨a, rfl, hl, hp⟩ := realloc_path' hl hr
  rcases realloc_live ok hi hl hp with ⟨hret, s, hs, hlive⟩ | ⟨hret, _⟩ | ⟨q', s, hret, hq8, hs, hlive⟩
  · rw [hret] at hq; cases hq
    exact ⟨s, by rw [hlive, Nat.add_sub_cancel]; exact lookup_setChunk_self hl, by omega, Nat.le_add_left _ _⟩
  · rw [hret] at hq; cases hq
  · rw [hret] at hq; cases hq
    exact ⟨s, by rw [hlive]; simp only [lookup, ↓reduceIte], by omega, hq8⟩

theorem step_keeps_others (cfg : Cfg) (ok : CfgOK cfg) (h : Heap) (op : Op) (r : Res) (hi : HInv cfg h)
    (hs : step cfg h op = some r) :
    ∀ c ∈ h.live, op.target ≠ some (c.1 + 8) → c ∈ r.h.live := by
  intro c hc hne
  have hmalloc : ∀ n, c ∈ (malloc cfg h n).h.live := fun n => by
    cases hq : (malloc cfg h n).ret with
    | none => rw [(malloc_ret_none hq).2.1]; exact hc
    | some q => obtain ⟨s, hlive, _⟩ := malloc_ret_some hq; rw [hlive]; exact List.mem_cons_of_mem _ hc
  cases op with
  | malloc n => cases hs; exact hmalloc n
  | free p =>
    cases p with
    | none => cases hs; exact hc
    | some p =>
      obtain ⟨hlive, h8, _⟩ := free_live hs
      rw [hlive]
      exact mem_remove_of_ne hc fun hcp => hne (by simp only [Op.target]; congr 1; omega)
  | realloc p n =>
    cases p with
    | none => cases hs; exact hmalloc _
    | some p =>
      obtain ⟨a, sz, rfl, hl, hp⟩ := realloc_path hs
      have hca : c.1 ≠ a := fun hcp => hne (by rw [hcp]; rfl)
      rcases realloc_live ok hi hl hp with ⟨_, s, _, hlive⟩ | ⟨_, hh⟩ | ⟨q, s, _, _, _, hlive⟩
      · rw [hlive]; exact mem_setChunk_of_ne hc hca
      · rw [hh]; exact hc
      · rw [hlive]; exact List.mem_cons_of_mem _ (mem_remove_of_ne hc hca)

theorem runE_frame {cfg : Cfg} (ok : CfgOK cfg) {ops : List Op} {h h' : Heap} {evs : List Ev} (hi : HInv cfg h)
    (hs : runE cfg h ops = some (h', evs)) {c : Chunk} (hc : c ∈ h.live)
    (hne : ∀ op ∈ ops, op.target ≠ some (c.1 + 8)) {m m' : Mem} (hx : Exec m evs m') :
    c ∈ h'.live ∧ ∀ x, c.1 ≤ x → x < c.1 + 8 + c.2 → m' x = m x := by
  induction ops generalizing h m evs with
  | nil =>
    simp only [runE, Option.some.injEq, Prod.mk.injEq] at hs
    obtain ⟨rfl, rfl⟩ := hs
    simp only [Exec] at hx; subst hx
    exact ⟨hc, fun _ _ _ => rfl⟩
  | cons op ops ih =>
    simp only [runE] at hs
    split at hs
    · cases hs
    · rename_i r hst
      split at hs
      · cases hs
      · rename_i x hx2
        simp only [Option.some.injEq, Prod.mk.injEq] at hs
        obtain ⟨rfl, rfl⟩ := hs
        obtain ⟨m1, ha, hb⟩ := Exec.append hx
        have hn := hne op (by simp)
        have h1 := Exec.frame ha fun e he => step_evs_avoid cfg ok h op r hi hst e he c hc hn
        have h2 := ih (step_inv cfg ok h op r hi hst) (by rw [hx2]) (step_keeps_others cfg ok h op r hi hst c hc hn)
          (fun o ho => hne o (by simp [ho])) hb
        exact ⟨h2.1, fun y hy1 hy2 => by rw [h2.2 y hy1 hy2, h1 y hy1 hy2]⟩

def Reach (cfg : Cfg) (h : Heap) : Prop := ∃ ops, run cfg Heap.init ops = some h

theorem Reach.inv {cfg : Cfg} {h : Heap} (ok : CfgOK cfg) (hr : Reach cfg h) : HInv cfg h := by
  obtain ⟨ops, hr⟩ := hr
  exact run_inv cfg ok ops _ _ (HInv.init cfg) hr

theorem run_append {cfg : Cfg} {a b : List Op} {h h1 : Heap} (ha : run cfg h a = some h1) :
    run cfg h (a ++ b) = run cfg h1 b := by
  induction a generalizing h with
  | nil => cases ha; rfl
  | cons op a ih =>
    simp only [run, List.cons_append] at ha ⊢
    split at ha
    · cases ha
    · exact ih ha

theorem Reach.step {cfg : Cfg} {h : Heap} {op : Op} {r : Res} (hr : Reach cfg h)
    (hs : step cfg h op = some r) : Reach cfg r.h := by
  obtain ⟨ops, hr⟩ := hr
  exact ⟨ops ++ [op], by rw [run_append hr]; simp only [run, hs]⟩

end Igris.C10
