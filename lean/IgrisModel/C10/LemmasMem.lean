/-
  C10 — where the stores of a request go and what they do to memory (shared by the heap and the pools):
  the byte range of a store, the memories that can result from a list of stores, and the fact that the
  concrete byte memory `execJ` of the driver is one of them.
-/
import IgrisModel.C10.Model
namespace Igris.C10

/-- the bytes `[lo, hi)` an event stores to -/
def Ev.lo : Ev → Nat
  | .w a _ => a
  | .cp d _ _ => d
def Ev.hi : Ev → Nat
  | .w a n => a + n
  | .cp d _ n => d + n

def Ev.Avoids (e : Ev) (lo hi : Nat) : Prop := e.hi ≤ lo ∨ hi ≤ e.lo

def Ev.Inside (e : Ev) (lo hi : Nat) : Prop := lo ≤ e.lo ∧ e.hi ≤ hi

theorem Ev.Inside.avoids {e : Ev} {lo hi lo' hi' : Nat} (h : e.Inside lo hi) (hd : hi ≤ lo' ∨ hi' ≤ lo) :
    e.Avoids lo' hi' := by
  unfold Ev.Inside at h; unfold Ev.Avoids; omega

/-- `m'` is a possible memory after the event: a store changes nothing outside
its range (the values stored by the allocator are left unspecified), `memcpy`
copies. -/
def Ev.Step (m m' : Mem) : Ev → Prop
  | .w a n => ∀ x, ¬ (a ≤ x ∧ x < a + n) → m' x = m x
  | .cp d s n => (∀ i, i < n → m' (d + i) = m (s + i)) ∧ ∀ x, ¬ (d ≤ x ∧ x < d + n) → m' x = m x

def Exec : Mem → List Ev → Mem → Prop
  | m, [], m' => m' = m
  | m, e :: es, m' => ∃ m1, e.Step m m1 ∧ Exec m1 es m'

theorem Ev.Step.frame {m m' : Mem} {e : Ev} {lo hi : Nat} (hs : e.Step m m') (ha : e.Avoids lo hi) :
    ∀ x, lo ≤ x → x < hi → m' x = m x := by
  intro x h1 h2
  cases e with
  | w a n => exact hs x (by simp only [Ev.Avoids, Ev.lo, Ev.hi] at ha; omega)
  | cp d s n => exact hs.2 x (by simp only [Ev.Avoids, Ev.lo, Ev.hi] at ha; omega)

theorem Exec.frame {es : List Ev} {m m' : Mem} {lo hi : Nat} (hx : Exec m es m')
    (ha : ∀ e ∈ es, e.Avoids lo hi) : ∀ x, lo ≤ x → x < hi → m' x = m x := by
  induction es generalizing m with
  | nil => intro x _ _; simp only [Exec] at hx; rw [hx]
  | cons e es ih =>
    obtain ⟨m1, h1, h2⟩ := hx
    intro x hlo hhi
    rw [ih h2 (fun e he => ha e (List.mem_cons_of_mem _ he)) x hlo hhi]
    exact h1.frame (ha e (by simp)) x hlo hhi

theorem Exec.append {a b : List Ev} {m m' : Mem} (hx : Exec m (a ++ b) m') :
    ∃ m1, Exec m a m1 ∧ Exec m1 b m' := by
  induction a generalizing m with
  | nil => exact ⟨m, rfl, hx⟩
  | cons e a ih =>
    obtain ⟨m0, h0, h1⟩ := hx
    obtain ⟨m1, h2, h3⟩ := ih h1
    exact ⟨m1, ⟨m0, h0, h2⟩, h3⟩

theorem exec_execJ (junk : Nat → Nat) : ∀ (evs : List Ev) (m : Mem), Exec m evs (execJ junk m evs) := by
  intro evs
  induction evs with
  | nil => intro m; rfl
  | cons e es ih =>
    intro m
    cases e with
    | w a n =>
      refine ⟨_, ?_, ih _⟩
      intro x hx
      show (if a ≤ x ∧ x < a + n then junk x else m x) = m x
      rw [if_neg hx]
    | cp d s n =>
      refine ⟨_, ⟨?_, ?_⟩, ih _⟩
      · intro i hi
        show (if d ≤ d + i ∧ d + i < d + n then m (s + (d + i - d)) else m (d + i)) = m (s + i)
        rw [if_pos (by omega)]
        congr 1; omega
      · intro x hx
        show (if d ≤ x ∧ x < d + n then m (s + (x - d)) else m x) = m x
        rw [if_neg hx]

theorem digestFrom_congr (m1 m2 : Mem) (a b : Nat) : ∀ (k i acc : Nat),
    (∀ j, i ≤ j → j < i + k → m1 (a + j) = m2 (b + j)) →
    digestFrom m1 a k i acc = digestFrom m2 b k i acc := by
  intro k
  induction k with
  | zero => intro i acc _; rfl
  | succ k ih =>
    intro i acc hj
    simp only [digestFrom]
    rw [hj i (Nat.le_refl _) (by omega)]
    exact ih (i + 1) _ (fun j h1 h2 => hj j (by omega) (by omega))

end Igris.C10
