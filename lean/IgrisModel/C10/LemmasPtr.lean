/-
  C10 — the `nx` pointer representation of the heap's free list.  `FChain szf nxf p l`: following the `nx`
  words from pointer `p` reads exactly the chunks of `l` (address and `sz` word), then NULL; `FRep ph h`: the
  pointer heap `ph` represents the abstract heap `h`.  The pointer stores of each heap primitive of `Lemmas.lean`
  keep `FRep`, and along the paths of the routines this gives the refinement of `malloc`, `free` and `realloc`.
-/
import IgrisModel.C10.Lemmas
import IgrisModel.C10.ModelPtr
namespace Igris.C10

@[simp] theorem updS_same (m : Nat → Nat) (a v : Nat) : updS m a v a = v := by simp [updS]
@[simp] theorem updS_other (m : Nat → Nat) {a x : Nat} (v : Nat) (h : x ≠ a) : updS m a v x = m x := by
  simp [updS, h]
@[simp] theorem updN_same (m : Nat → Option Nat) (a : Nat) (v : Option Nat) : updN m a v a = v := by
  simp [updN]
@[simp] theorem updN_other (m : Nat → Option Nat) {a x : Nat} (v : Option Nat) (h : x ≠ a) :
    updN m a v x = m x := by
  simp [updN, h]

/-- list segment: from pointer `p` the `nx` words lead through the chunks of `l` to pointer `q` -/
def FSeg (szf : Nat → Nat) (nxf : Nat → Option Nat) : Option Nat → List Chunk → Option Nat → Prop
  | p, [], q => p = q
  | p, c :: r, q => p = some c.1 ∧ szf c.1 = c.2 ∧ FSeg szf nxf (nxf c.1) r q

def FChain (szf : Nat → Nat) (nxf : Nat → Option Nat) : Option Nat → List Chunk → Prop
  | p, [] => p = none
  | p, c :: r => p = some c.1 ∧ szf c.1 = c.2 ∧ FChain szf nxf (nxf c.1) r

theorem fchain_iff {szf nxf} {l : List Chunk} {p : Option Nat} :
    FChain szf nxf p l ↔ FSeg szf nxf p l none := by
  induction l generalizing p with
  | nil => simp [FChain, FSeg]
  | cons c r ih => simp only [FChain, FSeg, ih]

def FRep (ph : PHeap) (h : Heap) : Prop :=
  ph.brk = h.brk ∧ FChain ph.szf ph.nxf ph.flp h.flp ∧ ∀ c ∈ h.live, ph.szf c.1 = c.2

theorem fseg_congr {szf szf' : Nat → Nat} {nxf nxf' : Nat → Option Nat} {l : List Chunk} {p q : Option Nat}
    (hc : ∀ c ∈ l, szf' c.1 = szf c.1 ∧ nxf' c.1 = nxf c.1) (h : FSeg szf nxf p l q) :
    FSeg szf' nxf' p l q := by
  induction l generalizing p with
  | nil => exact h
  | cons c r ih =>
    obtain ⟨h1, h2, h3⟩ := h
    have hcc := hc c (by simp)
    refine ⟨h1, by rw [hcc.1]; exact h2, ?_⟩
    rw [hcc.2]
    exact ih (fun d hd => hc d (List.mem_cons_of_mem _ hd)) h3

theorem fseg_frame {szf szf' : Nat → Nat} {nxf nxf' : Nat → Option Nat} {l : List Chunk} {p q : Option Nat}
    {a : Nat} (ha : ∀ d ∈ l, d.1 ≠ a) (hfr : ∀ x, x ≠ a → szf' x = szf x ∧ nxf' x = nxf x)
    (h : FSeg szf nxf p l q) : FSeg szf' nxf' p l q :=
  fseg_congr (fun d hd => hfr d.1 (ha d hd)) h

theorem fseg_updS {szf nxf} {a v : Nat} {l : List Chunk} {p q : Option Nat}
    (ha : ∀ c ∈ l, c.1 ≠ a) (h : FSeg szf nxf p l q) : FSeg (updS szf a v) nxf p l q :=
  fseg_congr (fun c hc => ⟨updS_other _ _ (ha c hc), rfl⟩) h

theorem fseg_updN {szf nxf} {a : Nat} {v : Option Nat} {l : List Chunk} {p q : Option Nat}
    (ha : ∀ c ∈ l, c.1 ≠ a) (h : FSeg szf nxf p l q) : FSeg szf (updN nxf a v) p l q :=
  fseg_congr (fun c hc => ⟨rfl, updN_other _ _ (ha c hc)⟩) h

theorem fchain_updS {szf nxf} {a v : Nat} {l : List Chunk} {p : Option Nat}
    (ha : ∀ c ∈ l, c.1 ≠ a) (h : FChain szf nxf p l) : FChain (updS szf a v) nxf p l :=
  fchain_iff.2 (fseg_updS ha (fchain_iff.1 h))

theorem fchain_updN {szf nxf} {a : Nat} {v : Option Nat} {l : List Chunk} {p : Option Nat}
    (ha : ∀ c ∈ l, c.1 ≠ a) (h : FChain szf nxf p l) : FChain szf (updN nxf a v) p l :=
  fchain_iff.2 (fseg_updN ha (fchain_iff.1 h))

theorem fseg_append {szf nxf} {l1 l2 : List Chunk} {p q : Option Nat} :
    FSeg szf nxf p (l1 ++ l2) q ↔ ∃ m, FSeg szf nxf p l1 m ∧ FSeg szf nxf m l2 q := by
  induction l1 generalizing p with
  | nil =>
    simp only [List.nil_append, FSeg]
    constructor
    · intro h; exact ⟨p, rfl, h⟩
    · rintro ⟨m, rfl, h⟩; exact h
  | cons c r ih =>
    simp only [List.cons_append, FSeg, ih]
    constructor
    · rintro ⟨h1, h2, m, h3, h4⟩; exact ⟨m, ⟨h1, h2, h3⟩, h4⟩
    · rintro ⟨m, ⟨h1, h2, h3⟩, h4⟩; exact ⟨h1, h2, m, h3, h4⟩

/-- the last node address of a prefix (`prev` when the prefix is empty): the value of
`fp2` / `sfp2` / `ofp3` when the walk stands behind the prefix -/
def lastA : Option Nat → List Chunk → Option Nat
  | prev, [] => prev
  | _, c :: r => lastA (some c.1) r

theorem lastA_snoc (prev : Option Nat) (l : List Chunk) (c : Chunk) : lastA prev (l ++ [c]) = some c.1 := by
  induction l generalizing prev with
  | nil => rfl
  | cons d r ih => simp only [List.cons_append, lastA, ih]

theorem predOf_append {c : Chunk} {prev : Option Nat} {l1 l2 : List Chunk} (h : ∀ d ∈ l1, d.1 ≠ c.1) :
    predOf c.1 prev (l1 ++ c :: l2) = lastA prev l1 := by
  induction l1 generalizing prev with
  | nil => simp [predOf, lastA]
  | cons d r ih =>
    have hd := h d (by simp)
    simp only [List.cons_append, predOf, hd, ↓reduceIte, lastA]
    exact ih (fun e he => h e (List.mem_cons_of_mem _ he))

theorem remove_append {c : Chunk} {l1 l2 : List Chunk} (h : ∀ d ∈ l1, d.1 ≠ c.1) :
    remove c.1 (l1 ++ c :: l2) = l1 ++ l2 := by
  induction l1 with
  | nil => simp [remove]
  | cons d r ih =>
    have hd := h d (by simp)
    simp only [List.cons_append, remove, hd, ↓reduceIte]
    rw [ih (fun e he => h e (List.mem_cons_of_mem _ he))]

theorem setChunk_append {c new : Chunk} {l1 l2 : List Chunk} (h : ∀ d ∈ l1, d.1 ≠ c.1) :
    setChunk c.1 new (l1 ++ c :: l2) = l1 ++ new :: l2 := by
  induction l1 with
  | nil => simp [setChunk]
  | cons d r ih =>
    have hd := h d (by simp)
    simp only [List.cons_append, setChunk, hd, ↓reduceIte]
    rw [ih (fun e he => h e (List.mem_cons_of_mem _ he))]

theorem sorted_split {l1 l2 : List Chunk} {c : Chunk} (hs : (l1 ++ c :: l2).Pairwise Below) :
    (∀ d ∈ l1, d.1 + 8 + d.2 < c.1) ∧ (∀ d ∈ l2, c.1 + 8 + c.2 < d.1) ∧
    (∀ d ∈ l1, ∀ e ∈ l2, d.1 + 8 + d.2 < e.1) ∧ (l1 ++ l2).Pairwise Below := by
  have hs' := hs
  rw [List.pairwise_append, List.pairwise_cons] at hs
  refine ⟨fun d hd => hs.2.2 d hd c (by simp), fun d hd => hs.2.1.1 d hd,
    fun d hd e he => hs.2.2 d hd e (by simp [he]), ?_⟩
  exact hs'.sublist (List.Sublist.append (List.Sublist.refl _) (List.sublist_cons_self _ _))

/-- `if (prev) prev->nx = q; else __flp = q;` where `prev` is the predecessor pointer behind
the prefix `l1`: the prefix now leads to `q` -/
theorem fseg_relink_last {szf nxf} {q : Option Nat} {l1 : List Chunk} (hs : l1.Pairwise Below) :
    ∀ {p m prev : Option Nat}, l1 ≠ [] → FSeg szf nxf p l1 m →
    ∃ c ∈ l1, lastA prev l1 = some c.1 ∧ FSeg szf (updN nxf c.1 q) p l1 q := by
  induction l1 with
  | nil => intro p m prev h; exact absurd rfl h
  | cons c r ih =>
    intro p m prev _ h
    obtain ⟨h1, h2, h3⟩ := h
    rw [List.pairwise_cons] at hs
    cases r with
    | nil =>
      refine ⟨c, by simp, rfl, h1, h2, ?_⟩
      simp only [updN_same, FSeg]
    | cons d r' =>
      obtain ⟨e, he, hl, hf⟩ := ih hs.2 (prev := some c.1) (by simp) h3
      have hne : c.1 ≠ e.1 := by have := hs.1 e he; unfold Below at this; omega
      refine ⟨e, List.mem_cons_of_mem _ he, hl, h1, h2, ?_⟩
      rw [updN_other _ _ hne]
      exact hf

theorem relink {ph : PHeap} {l1 l2 : List Chunk} {m q : Option Nat} (hs : (l1 ++ l2).Pairwise Below)
    (h1 : FSeg ph.szf ph.nxf ph.flp l1 m) (h2 : FSeg ph.szf ph.nxf q l2 none) :
    FSeg (ph.setLink (lastA none l1) q).szf (ph.setLink (lastA none l1) q).nxf
      (ph.setLink (lastA none l1) q).flp (l1 ++ l2) none ∧
    (ph.setLink (lastA none l1) q).szf = ph.szf ∧ (ph.setLink (lastA none l1) q).brk = ph.brk := by
  cases l1 with
  | nil =>
    exact ⟨h2, rfl, rfl⟩
  | cons c r =>
    rw [List.pairwise_append] at hs
    obtain ⟨e, he, hl, hf⟩ := fseg_relink_last (q := q) hs.1 (prev := none) (by simp) h1
    rw [hl]
    refine ⟨fseg_append.2 ⟨q, hf, fseg_updN (fun d hd => ?_) h2⟩, rfl, rfl⟩
    have := hs.2.2 e he d hd
    unfold Below at this; omega

theorem walkLoop_eq {ph : PHeap} {l : List Chunk} : ∀ {fuel : Nat} {p : Option Nat},
    FSeg ph.szf ph.nxf p l none → l.length < fuel → walkLoop ph fuel p = l := by
  induction l with
  | nil =>
    intro fuel p h hf
    cases fuel with
    | zero => simp at hf
    | succ k => simp only [FSeg] at h; subst h; rfl
  | cons c r ih =>
    intro fuel p h hf
    obtain ⟨h1, h2, h3⟩ := h
    cases fuel with
    | zero => simp at hf
    | succ k =>
      subst h1
      simp only [walkLoop, h2]
      rw [ih h3 (by simp at hf; omega)]

theorem walkFl_eq {ph : PHeap} {h : Heap} {fuel : Nat} (hr : FRep ph h) (hf : h.flp.length < fuel) :
    walkFl ph fuel = h.flp :=
  walkLoop_eq (fchain_iff.1 hr.2.1) hf

theorem below_ne {l : List Chunk} {c : Chunk} (h : ∀ d ∈ l, d.1 + 8 + d.2 < c.1) : ∀ d ∈ l, d.1 ≠ c.1 := by
  intro d hd; have := h d hd; omega

/-- one step of a loop that walks `L`, standing on `c` with the prefix `l0` behind it: the predecessor of `c`
is the last node of `l0`, and the next step has the prefix `l0 ++ [c]` behind it, whose last node is `c` -/
theorem walk_step {L l0 r : List Chunk} {c : Chunk} (hs : L.Pairwise Below) (hL : L = l0 ++ c :: r) :
    L = (l0 ++ [c]) ++ r ∧ predOf c.1 none L = lastA none l0 ∧ lastA none (l0 ++ [c]) = some c.1 := by
  subst hL
  exact ⟨by simp, predOf_append (below_ne (sorted_split hs).1), lastA_snoc _ _ _⟩

/-- the first loop of malloc computes `scan`, and its `fp2` / `sfp2` are `predOf` -/
theorem mallocLoopP_spec (ph : PHeap) (len : Nat) (L : List Chunk) (hs : L.Pairwise Below) :
    ∀ (l l0 : List Chunk) (fuel : Nat) (cur : Option Nat) (s sfp1 : Nat) (sfp2 : Option Nat),
    L = l0 ++ l → FSeg ph.szf ph.nxf cur l none → l.length < fuel →
    (s = 0 ∨ sfp2 = predOf sfp1 none L) →
    (∀ a, scan len l s sfp1 = .inl a →
      mallocLoopP ph len fuel cur (lastA none l0) s sfp1 sfp2 = .inl (a, predOf a none L)) ∧
    (∀ s' f', scan len l s sfp1 = .inr (s', f') →
      ∃ f2, mallocLoopP ph len fuel cur (lastA none l0) s sfp1 sfp2 = .inr (s', f', f2) ∧
        (s' = 0 ∨ f2 = predOf f' none L)) := by
  intro l
  induction l with
  | nil =>
    intro l0 fuel cur s sfp1 sfp2 _ h hf h0
    simp only [FSeg] at h; subst h
    cases fuel with
    | zero => simp at hf
    | succ k =>
      simp only [scan, mallocLoopP]
      refine ⟨fun a ha => (by cases ha), fun s' f' he => ?_⟩
      simp only [Sum.inr.injEq, Prod.mk.injEq] at he
      obtain ⟨rfl, rfl⟩ := he
      exact ⟨sfp2, rfl, h0⟩
  | cons c r ih =>
    intro l0 fuel cur s sfp1 sfp2 hL h hf h0
    obtain ⟨h1, h2, h3⟩ := h
    subst h1
    cases fuel with
    | zero => simp at hf
    | succ k =>
      have hk : r.length < k := by simp at hf; omega
      obtain ⟨hL', hpred, hlast⟩ := walk_step hs hL
      have hskip := ih (l0 ++ [c]) k (ph.nxf c.1) s sfp1 sfp2 hL' h3 hk h0
      rw [hlast] at hskip
      simp only [scan, mallocLoopP, h2]
      by_cases h1 : c.2 < len
      · simp only [if_pos h1]; exact hskip
      · simp only [if_neg h1]
        by_cases h4 : c.2 = len
        · simp only [if_pos h4]
          refine ⟨fun a ha => ?_, fun s' f' he => by cases he⟩
          simp only [Sum.inl.injEq] at ha; subst ha
          rw [hpred]
        · simp only [if_neg h4]
          by_cases h5 : s = 0 ∨ c.2 < s
          · simp only [if_pos h5]
            have := ih (l0 ++ [c]) k (ph.nxf c.1) c.2 c.1 (lastA none l0) hL' h3 hk (Or.inr hpred.symm)
            rw [hlast] at this; exact this
          · simp only [if_neg h5]; exact hskip

/-- unlinking the node `c` of the represented list: `if (pred) pred->nx = c->nx; else __flp = c->nx;` -/
theorem unlink_rep {ph : PHeap} {L : List Chunk} {c : Chunk} (hs : L.Pairwise Below)
    (hc : FSeg ph.szf ph.nxf ph.flp L none) (hm : c ∈ L) :
    FSeg (ph.setLink (predOf c.1 none L) (ph.nxf c.1)).szf (ph.setLink (predOf c.1 none L) (ph.nxf c.1)).nxf
      (ph.setLink (predOf c.1 none L) (ph.nxf c.1)).flp (remove c.1 L) none ∧
    (ph.setLink (predOf c.1 none L) (ph.nxf c.1)).szf = ph.szf ∧
    (ph.setLink (predOf c.1 none L) (ph.nxf c.1)).brk = ph.brk ∧ ph.szf c.1 = c.2 := by
  obtain ⟨l1, l2, rfl⟩ := List.append_of_mem hm
  have hsp := sorted_split hs
  rw [predOf_append (below_ne hsp.1), remove_append (below_ne hsp.1)]
  obtain ⟨m, hm1, hm2, hm3, hm4⟩ := fseg_append.1 hc
  have := relink hsp.2.2.2 hm1 hm4
  exact ⟨this.1, this.2.1, this.2.2, hm3⟩

theorem inside_not_node {L : List Chunk} {c : Chunk} {x : Nat} (hs : L.Pairwise Below) (hm : c ∈ L)
    (h1 : c.1 < x) (h2 : x < c.1 + 8 + c.2) : ∀ d ∈ L, d.1 ≠ x := by
  obtain ⟨l1, l2, rfl⟩ := List.append_of_mem hm
  have hsp := sorted_split hs
  intro d hd
  rcases List.mem_append.1 hd with hd | hd
  · have := hsp.1 d hd; omega
  · rcases List.mem_cons.1 hd with rfl | hd
    · omega
    · have := hsp.2.1 d hd; omega

theorem setsz_rep {szf nxf} {p : Option Nat} {L : List Chunk} {c : Chunk} {v : Nat} (hs : L.Pairwise Below)
    (hc : FSeg szf nxf p L none) (hm : c ∈ L) :
    FSeg (updS szf c.1 v) nxf p (setChunk c.1 (c.1, v) L) none := by
  obtain ⟨l1, l2, rfl⟩ := List.append_of_mem hm
  have hsp := sorted_split hs
  rw [setChunk_append (below_ne hsp.1)]
  obtain ⟨m, hm1, hm2, hm3, hm4⟩ := fseg_append.1 hc
  refine fseg_append.2 ⟨m, fseg_updS (below_ne hsp.1) hm1, hm2, by simp, ?_⟩
  exact fseg_updS (fun d hd => by have := hsp.2.1 d hd; omega) hm4

theorem fseg_mem_sz {szf nxf} {L : List Chunk} {p q : Option Nat} {c : Chunk}
    (h : FSeg szf nxf p L q) (hm : c ∈ L) : szf c.1 = c.2 := by
  induction L generalizing p with
  | nil => cases hm
  | cons d r ih =>
    obtain ⟨_, h2, h3⟩ := h
    rcases List.mem_cons.1 hm with rfl | hm
    · exact h2
    · exact ih h3 hm

theorem live_setChunk_rep {h : Heap} {a sz v : Nat} {szf' : Nat → Nat} {ph : PHeap}
    (hl : lookup a h.live = some sz) (hlv : ∀ c ∈ h.live, ph.szf c.1 = c.2)
    (ha : szf' a = v) (hfr : ∀ c ∈ remove a h.live, szf' c.1 = ph.szf c.1) :
    ∀ c ∈ setChunk a (a, v) h.live, szf' c.1 = c.2 := by
  intro c hc
  rcases mem_setChunk_of_lookup hl hc with rfl | hc
  · exact ha
  · rw [hfr c hc]; exact hlv c (mem_remove hc)

/-! One lemma per primitive of `Lemmas.lean` (`HInv.take`, `HInv.carve`, …): the stores the C code performs
for it keep `FRep`.  The separation facts come from `HInv`: an address strictly inside a chunk is no
node and no live header. -/

theorem FRep.take {cfg : Cfg} {ph : PHeap} {h : Heap} (hi : HInv cfg h) (hr : FRep ph h) {a s : Nat}
    (hm : (a, s) ∈ h.flp) :
    FRep (ph.setLink (predOf a none h.flp) (ph.nxf a))
      { h with flp := remove a h.flp, live := (a, s) :: h.live } := by
  obtain ⟨u1, u2, u3, u4⟩ := unlink_rep hi.sorted (fchain_iff.1 hr.2.1) hm
  exact ⟨u3.trans hr.1, fchain_iff.2 u1, List.forall_mem_cons.2 ⟨u2 ▸ u4, fun c hc => u2 ▸ hr.2.2 c hc⟩⟩

theorem FRep.carve {cfg : Cfg} {ph : PHeap} {h : Heap} (hi : HInv cfg h) (hr : FRep ph h) {a s k t b : Nat}
    (hm : (a, s) ∈ h.flp) (hb : a + 8 + t = b) (hs : t + 8 + k = s) :
    FRep ((ph.setSz b k).setSz a t) { h with flp := setChunk a (a, t) h.flp, live := (b, k) :: h.live } := by
  have hins := inside_not_node (x := b) hi.sorted hm (by simp only; omega) (by simp only; omega)
  refine ⟨hr.1, fchain_iff.2 (setsz_rep (v := t) hi.sorted (fseg_updS (a := b) (v := k) hins (fchain_iff.1 hr.2.1)) hm),
    List.forall_mem_cons.2 ⟨?_, fun c hc => ?_⟩⟩
  · show updS (updS ph.szf b k) a t b = k
    rw [updS_other _ _ (by omega), updS_same]
  · have hd := hi.disj_free_live hm hc
    simp only at hd
    show updS (updS ph.szf b k) a t c.1 = c.2
    rw [updS_other _ _ (by omega), updS_other _ _ (by omega)]
    exact hr.2.2 c hc

theorem FRep.extend {cfg : Cfg} {ph : PHeap} {h : Heap} (hi : HInv cfg h) (hr : FRep ph h) {k : Nat} :
    FRep (({ ph with brk := ph.brk + (k + 8) } : PHeap).setSz ph.brk k)
      { h with brk := h.brk + (k + 8), live := (h.brk, k) :: h.live } := by
  obtain ⟨hb, hc, hl⟩ := hr
  refine ⟨by show ph.brk + (k + 8) = h.brk + (k + 8); rw [hb],
    fchain_updS (fun d hd => by have := hi.fin_le_brk (.inl hd); omega) hc, List.forall_mem_cons.2 ⟨?_, fun c hc => ?_⟩⟩
  · show updS ph.szf ph.brk k h.brk = k
    rw [hb]; exact updS_same _ _ _
  · have := hi.fin_le_brk (.inr hc)
    show updS ph.szf ph.brk k c.1 = c.2
    rw [updS_other _ _ (by omega)]; exact hl c hc

theorem FRep.resize {cfg : Cfg} {ph : PHeap} {h : Heap} (hi : HInv cfg h) (hr : FRep ph h) {a sz v : Nat}
    (hl : lookup a h.live = some sz) :
    FRep (ph.setSz a v) { h with live := setChunk a (a, v) h.live } :=
  ⟨hr.1, fchain_updS (hi.free_ne_live hl) hr.2.1,
    live_setChunk_rep hl hr.2.2 (updS_same _ _ _) fun _ hd => updS_other _ _ (ne_of_mem_remove hi hl hd)⟩

theorem FRep.splitLive {cfg : Cfg} {ph : PHeap} {h : Heap} (hi : HInv cfg h) (hr : FRep ph h) {a sz k t b : Nat}
    (hl : lookup a h.live = some sz) (hb : a + 8 + k = b) (hs : k + 8 + t = sz) :
    FRep ((ph.setSz b t).setSz a k) { h with live := (b, t) :: setChunk a (a, k) h.live } := by
  have hN := lookup_mem hl
  refine ⟨hr.1, fchain_updS (hi.free_ne_live hl) (fchain_updS (fun f hf => ?_) hr.2.1),
    List.forall_mem_cons.2 ⟨?_, live_setChunk_rep hl hr.2.2 (updS_same _ _ _) fun d hd => ?_⟩⟩
  · have := hi.disj_free_live hf hN; simp only at this; omega
  · show updS (updS ph.szf b t) a k b = t
    rw [updS_other _ _ (by omega), updS_same]
  · have h1 := ne_of_mem_remove hi hl hd
    have h2 := hi.disj_live_live (mem_remove hd) hl h1
    show updS (updS ph.szf b t) a k d.1 = ph.szf d.1
    rw [updS_other _ _ h1, updS_other _ _ (by omega)]

theorem FRep.absorb {cfg : Cfg} {ph : PHeap} {h : Heap} (hi : HInv cfg h) (hr : FRep ph h) {a sz u : Nat}
    {f : Chunk} (hl : lookup a h.live = some sz) (hf : f ∈ h.flp) :
    FRep ((ph.setSz a u).setLink (predOf f.1 none h.flp) (ph.nxf f.1))
      { h with flp := remove f.1 h.flp, live := setChunk a (a, u) h.live } := by
  have hr1 := hr.resize (v := u) hi hl
  obtain ⟨u1, u2, u3, _⟩ := unlink_rep hi.sorted (fchain_iff.1 hr1.2.1) hf
  exact ⟨u3.trans hr1.1, fchain_iff.2 u1, fun c hc => u2 ▸ hr1.2.2 c hc⟩

/-- the free chunk `f` right above the live chunk at `a` is replaced by the node `b` inside it, which
inherits `f->nx`; the predecessor (or `__flp`) is relinked to `b` -/
theorem FRep.growSplit {cfg : Cfg} {ph : PHeap} {h : Heap} (hi : HInv cfg h) (hr : FRep ph h)
    {a sz k b t : Nat} {f : Chunk} (hl : lookup a h.live = some sz) (hf : f ∈ h.flp) (hadj : a + 8 + sz = f.1)
    (hgt : sz < k) (hb : a + 8 + k = b) (hs : k + 8 + t = sz + 8 + f.2) :
    FRep ((((ph.setNx b (ph.nxf f.1)).setSz b t).setSz a k).setLink (predOf f.1 none h.flp) (some b))
      { h with flp := setChunk f.1 (b, t) h.flp, live := setChunk a (a, k) h.live } := by
  obtain ⟨hbk, hc, hlv⟩ := hr
  have hc' := fchain_iff.1 hc
  have hna := hi.free_ne_live hl
  obtain ⟨l1, l2, hL⟩ := List.append_of_mem hf
  have hsorted := hi.sorted
  have hsnew := sorted_setChunk (new := (b, t)) hi.sorted (lookup_of_mem_sorted hi.sorted hf)
    (by simp only; omega) (by simp only; omega)
  have hin : ∀ d ∈ h.flp, d.1 ≠ b := inside_not_node hi.sorted hf (by omega) (by omega)
  rw [hL] at hsorted hsnew hc' hin hna
  have hsp := sorted_split hsorted
  rw [setChunk_append (below_ne hsp.1)] at hsnew
  obtain ⟨m, hm1, hm2, _, hm4⟩ := fseg_append.1 hc'
  -- the three stores change the words at `b` and `a` only, and neither is a node of the old list
  have hfr : ∀ d, d ≠ b → d ≠ a →
      updS (updS ph.szf b t) a k d = ph.szf d ∧ updN ph.nxf b (ph.nxf f.1) d = ph.nxf d := by
    intro d h1 h2; simp [updS, updN, h1, h2]
  have R := relink (ph := ⟨ph.brk, ph.flp, updS (updS ph.szf b t) a k, updN ph.nxf b (ph.nxf f.1)⟩)
    (l1 := l1) (l2 := (b, t) :: l2) (m := m) (q := some b) hsnew
    (fseg_congr (fun d hd => hfr d.1 (hin d (by simp [hd])) (hna d (by simp [hd]))) hm1)
    ⟨rfl, by simp [updS]; omega, by
      simp only [updN_same]
      exact fseg_congr (fun d hd => hfr d.1 (hin d (by simp [hd])) (hna d (by simp [hd]))) hm4⟩
  rw [hL, setChunk_append (below_ne hsp.1), predOf_append (below_ne hsp.1)]
  refine ⟨R.2.2.trans hbk, fchain_iff.2 R.1, live_setChunk_rep (ph := ph) hl hlv ?_ fun d hd => ?_⟩
  · rw [R.2.1]; exact updS_same _ _ _
  · rw [R.2.1]
    have h1 := ne_of_mem_remove hi hl hd
    have h2 := hi.disj_free_live hf (mem_remove hd)
    exact (hfr d.1 (by omega) h1).1

theorem mallocP_refines (cfg : Cfg) (ph : PHeap) (h : Heap) (n fuel : Nat) (hi : HInv cfg h)
    (hr : FRep ph h) (hf : h.flp.length < fuel) :
    (mallocP cfg ph n fuel).ret = (malloc cfg h n).ret ∧
    FRep (mallocP cfg ph n fuel).h (malloc cfg h n).h := by
  have hspec := mallocLoopP_spec ph (minLen (roundLen cfg.W n)) h.flp hi.sorted h.flp [] fuel ph.flp 0 0 none
    (by simp) (fchain_iff.1 hr.2.1) hf (Or.inl rfl)
  unfold malloc mallocP
  generalize minLen (roundLen cfg.W n) = len at *
  simp only [lastA] at hspec
  simp only
  cases hsc : scan len h.flp 0 0 with
  | inl a =>
    rw [hspec.1 a hsc]
    exact ⟨rfl, hr.take hi (scan_inl hsc)⟩
  | inr x =>
    obtain ⟨s, sfp1⟩ := x
    obtain ⟨f2, h1, h2⟩ := hspec.2 s sfp1 hsc
    rw [h1]
    simp only
    by_cases hs0 : s ≠ 0
    · simp only [if_pos hs0]
      have ⟨hm, hlt⟩ := (scan_inr (L := h.flp) hsc (fun c hc => hc) (Or.inl rfl)).resolve_left hs0
      rw [h2.resolve_left hs0]
      by_cases hsm : s - len < 16
      · simp only [if_pos hsm]
        exact ⟨trivial, hr.take hi hm⟩
      · simp only [if_neg hsm]
        exact ⟨trivial, hr.carve hi hm (by omega) (by omega)⟩
    · simp only [if_neg hs0]
      rw [hr.1]
      by_cases hlim : cfg.lim ≠ 0 ∧ ¬ (availOf cfg.lim h.brk ≥ len ∧ availOf cfg.lim h.brk ≥ len + 8)
      · simp only [if_pos hlim]
        exact ⟨trivial, hr⟩
      · simp only [if_neg hlim]
        have := hr.extend (k := len) hi
        rw [hr.1] at this
        exact ⟨trivial, this⟩

example : walkFl (runP ⟨64, 0⟩ PHeap.init [.malloc 1, .malloc 64, .malloc 9, .free (some 80)]) 2 = [(72, 64)] := by
  decide

theorem insUpP_pos {ph : PHeap} {a c : Nat} (h : a + 8 + ph.szf a = c) :
    insUpP ph a c = ⟨ph.brk, ph.flp, updS ph.szf a (ph.szf a + (ph.szf c + 8)),
      updN (updN ph.nxf a (some c)) a (updN ph.nxf a (some c) c)⟩ := by
  unfold insUpP
  exact if_pos h

theorem insUpP_neg {ph : PHeap} {a c : Nat} (h : ¬ a + 8 + ph.szf a = c) :
    insUpP ph a c = ⟨ph.brk, ph.flp, ph.szf, updN ph.nxf a (some c)⟩ := by
  unfold insUpP
  exact if_neg h

theorem insUpP_spec {ph : PHeap} {a sz : Nat} {c : Chunk} {r : List Chunk}
    (hc : FSeg ph.szf ph.nxf (some c.1) (c :: r) none) (ha : ∀ d ∈ c :: r, d.1 ≠ a) (hsz : ph.szf a = sz) :
    ∃ N tl, insUp (a, sz) (c :: r) = N :: tl ∧ N.1 = a ∧ (∀ y ∈ tl, y ∈ c :: r) ∧
      FSeg (insUpP ph a c.1).szf (insUpP ph a c.1).nxf (some a) (N :: tl) none ∧
      (insUpP ph a c.1).flp = ph.flp ∧ (insUpP ph a c.1).brk = ph.brk ∧
      (∀ x, x ≠ a → (insUpP ph a c.1).szf x = ph.szf x ∧ (insUpP ph a c.1).nxf x = ph.nxf x) := by
  obtain ⟨_, h2, h3⟩ := hc
  have hca : c.1 ≠ a := ha c (by simp)
  have har : ∀ d ∈ r, d.1 ≠ a := fun d hd => ha d (List.mem_cons_of_mem _ hd)
  subst hsz
  by_cases hadj : a + 8 + ph.szf a = c.1
  · have hI : insUp (a, ph.szf a) (c :: r) = (a, ph.szf a + (c.2 + 8)) :: r := by
      simp only [insUp]; exact if_pos hadj
    rw [insUpP_pos hadj, hI]
    refine ⟨_, _, rfl, rfl, fun y hy => List.mem_cons_of_mem _ hy, ⟨rfl, ?_, ?_⟩, rfl, rfl,
      fun x hx => by simp [updS, updN, hx]⟩
    · simp [h2]
    · have hp : updN (updN ph.nxf a (some c.1)) a (updN ph.nxf a (some c.1) c.1) a = ph.nxf c.1 := by
        simp [updN, hca]
      show FSeg _ _ (updN (updN ph.nxf a (some c.1)) a (updN ph.nxf a (some c.1) c.1) a) r none
      rw [hp]
      exact fseg_frame har (fun x hx => by simp [updS, updN, hx]) h3
  · have hI : insUp (a, ph.szf a) (c :: r) = (a, ph.szf a) :: c :: r := by
      simp only [insUp]; exact if_neg hadj
    rw [insUpP_neg hadj, hI]
    refine ⟨_, _, rfl, rfl, fun y hy => hy, ⟨rfl, rfl, ?_⟩, rfl, rfl, fun x hx => by simp [updN, hx]⟩
    simp only [updN_same]
    exact fseg_updN ha ⟨rfl, h2, h3⟩

/-- the lower merge on pointers is the same sequence of stores one node further down -/
theorem mergeDownP_spec {ph : PHeap} {b : Nat} {N : Chunk} {tl : List Chunk}
    (hc : FSeg ph.szf ph.nxf (some N.1) (N :: tl) none) (hb : ∀ d ∈ N :: tl, d.1 ≠ b) :
    FSeg (mergeDownP ph b N.1).szf (mergeDownP ph b N.1).nxf (some b)
      (mergeDown (b, ph.szf b) (N :: tl)) none ∧
    (mergeDownP ph b N.1).flp = ph.flp ∧ (mergeDownP ph b N.1).brk = ph.brk ∧
    (∀ x, x ≠ b → (mergeDownP ph b N.1).szf x = ph.szf x ∧ (mergeDownP ph b N.1).nxf x = ph.nxf x) := by
  obtain ⟨M, tl', hI, rfl, _, hF, h1, h2, h3⟩ := insUpP_spec hc hb rfl
  rw [mergeDown_eq, hI]
  exact ⟨hF, h1, h2, h3⟩

/-- the first loop of free, entered behind a node `b` that lies below `fpnew`, followed by the
lower merge, is `freeWalk` -/
theorem freeLoopP_walk (a sz : Nat) : ∀ (rest : List Chunk) (b : Chunk) (ph : PHeap) (fuel : Nat),
    (b :: rest).Pairwise Below → b.1 < a → (∀ c ∈ b :: rest, c.1 ≠ a) →
    ph.szf a = sz → ph.nxf a = none →
    FSeg ph.szf ph.nxf (some b.1) (b :: rest) none → rest.length < fuel →
    ∃ ph1 b', freeLoopP ph a fuel (ph.nxf b.1) (some b.1) = (ph1, some b', false) ∧
      FSeg (mergeDownP ph1 b' a).szf (mergeDownP ph1 b' a).nxf (some b.1) (freeWalk (a, sz) b rest) none ∧
      (mergeDownP ph1 b' a).flp = ph.flp ∧ (mergeDownP ph1 b' a).brk = ph.brk ∧
      (∀ x, x ≠ a → (∀ c ∈ b :: rest, c.1 ≠ x) →
        (mergeDownP ph1 b' a).szf x = ph.szf x ∧ (mergeDownP ph1 b' a).nxf x = ph.nxf x) := by
  intro rest
  induction rest with
  | nil =>
    intro b ph fuel hs hba hna hsz hnx hc hf
    obtain ⟨_, h2, h3⟩ := hc
    simp only [FSeg] at h3
    cases fuel with
    | zero => simp at hf
    | succ k =>
      rw [h3]
      refine ⟨ph, b.1, rfl, ?_⟩
      have hm := mergeDownP_spec (ph := ph) (b := b.1) (N := (a, sz)) (tl := []) ⟨rfl, hsz, hnx⟩
        (by intro d hd; simp at hd; subst hd; simp only; omega)
      rw [h2] at hm
      exact ⟨hm.1, hm.2.1, hm.2.2.1, fun x _ hxl => hm.2.2.2 x (hxl b (by simp)).symm⟩
  | cons c r ih =>
    intro b ph fuel hs hba hna hsz hnx hc hf
    obtain ⟨_, h2, h3⟩ := hc
    have h3' := h3
    obtain ⟨h31, h32, h33⟩ := h3
    cases fuel with
    | zero => simp at hf
    | succ k =>
      have hk : r.length < k := by simp at hf; omega
      rw [List.pairwise_cons] at hs
      have hbc : ∀ d ∈ c :: r, d.1 ≠ b.1 := fun d hd => by
        have := hs.1 d hd; unfold Below at this; omega
      have hna' : ∀ d ∈ c :: r, d.1 ≠ a := fun d hd => hna d (List.mem_cons_of_mem _ hd)
      rw [h31] at h3'
      rw [h31]
      simp only [freeLoopP, freeWalk]
      by_cases hlt : c.1 < a
      · simp only [if_pos hlt]
        obtain ⟨ph1, b', e1, e2, e3, e4, e5⟩ := ih c ph k hs.2 hlt hna' hsz hnx h3' hk
        refine ⟨ph1, b', e1, ?_, e3, e4, fun x hx hxl => e5 x hx (fun d hd => hxl d (List.mem_cons_of_mem _ hd))⟩
        have hb := e5 b.1 (by omega) hbc
        exact ⟨rfl, by rw [hb.1]; exact h2, by rw [hb.2, h31]; exact e2⟩
      · simp only [if_neg hlt]
        obtain ⟨N, tl, hI, hN1, htl, hF, _, _, hfr⟩ := insUpP_spec h3' hna' hsz
        refine ⟨insUpP ph a c.1, b.1, rfl, ?_⟩
        rw [hI]
        subst hN1
        have hNb : ∀ d ∈ N :: tl, d.1 ≠ b.1 := by
          intro d hd
          rcases List.mem_cons.1 hd with rfl | hd
          · omega
          · exact hbc d (htl d hd)
        have hm := mergeDownP_spec (b := b.1) hF hNb
        have hb1 := hfr b.1 (by omega)
        rw [hb1.1, h2] at hm
        refine ⟨hm.1, by rw [hm.2.1]; assumption, by rw [hm.2.2.1]; assumption, fun x hx hxl => ?_⟩
        have h5 := hm.2.2.2 x (hxl b (by simp)).symm
        have h6 := hfr x hx
        exact ⟨h5.1.trans h6.1, h5.2.trans h6.2⟩

theorem lastLoopP_spec {ph : PHeap} : ∀ (l' : List Chunk) (f : Chunk) (p : Nat) (prev : Option Nat) (fuel : Nat),
    FSeg ph.szf ph.nxf (some p) (l' ++ [f]) none → l'.length < fuel →
    lastLoopP ph fuel p prev = (f.1, lastA prev l') := by
  intro l'
  induction l' with
  | nil =>
    intro f p prev fuel h hf
    obtain ⟨h1, _, h3⟩ := h
    simp only [FSeg] at h3
    cases fuel with
    | zero => simp at hf
    | succ k =>
      simp only [Option.some.injEq] at h1; subst h1
      simp only [lastLoopP, h3, lastA]
  | cons c r ih =>
    intro f p prev fuel h hf
    obtain ⟨h1, _, h3⟩ := h
    cases fuel with
    | zero => simp at hf
    | succ k =>
      simp only [Option.some.injEq] at h1; subst h1
      have hk : r.length < k := by simp at hf; omega
      have : ∃ x, ph.nxf c.1 = some x := by
        cases r with
        | nil | cons d r' => exact ⟨_, h3.1⟩
      obtain ⟨x, hx⟩ := this
      simp only [lastLoopP, hx, lastA]
      rw [hx] at h3
      exact ih f x (some c.1) k h3 hk

/-- "If there's a new topmost chunk, lower __brkval instead": the second loop of free and the
stores behind it are `lowerBrk` -/
theorem lower_spec {ph : PHeap} {l : List Chunk} {f fuel : Nat} (hs : l.Pairwise Below)
    (hc : FSeg ph.szf ph.nxf ph.flp l none) (hflp : ph.flp = some f) (hf : l.length ≤ fuel) :
    ∃ g prev, lastLoopP ph fuel f none = (g, prev) ∧
      (g + 8 + ph.szf g = ph.brk →
        FSeg (ph.setLink prev none).szf (ph.setLink prev none).nxf (ph.setLink prev none).flp
          (lowerBrk ph.brk l).1 none ∧
        (lowerBrk ph.brk l).2 = g ∧ (ph.setLink prev none).szf = ph.szf) ∧
      (¬ g + 8 + ph.szf g = ph.brk → lowerBrk ph.brk l = (l, ph.brk)) := by
  rcases List.eq_nil_or_concat l with rfl | ⟨l', g, hlg⟩
  · simp only [FSeg] at hc; rw [hflp] at hc; cases hc
  · rw [List.concat_eq_append] at hlg
    subst hlg
    have hc0 := hc
    rw [hflp] at hc0
    have hlast := lastLoopP_spec (ph := ph) l' g f none fuel hc0 (by simp at hf; omega)
    obtain ⟨m, hm1, hm2, hm3, _⟩ := fseg_append.1 hc
    refine ⟨g.1, lastA none l', hlast, ?_⟩
    rw [hm3]
    rcases lowerBrk_spec ph.brk (l' ++ [g]) with ⟨h1, h2⟩ | ⟨l'', f', e1, e2, e3⟩
    · exact ⟨fun hadj => absurd hadj (h2 g (by simp)), fun _ => h1⟩
    · obtain ⟨rfl, rfl⟩ := List.append_singleton_inj.1 e1
      refine ⟨fun _ => ?_, fun hadj => absurd e2 hadj⟩
      rw [e3]
      have hs' : (l' ++ []).Pairwise Below := by
        rw [List.pairwise_append] at hs; simpa using hs.1
      have := relink (q := none) (l2 := []) hs' hm1 rfl
      rw [List.append_nil] at this
      exact ⟨this.1, rfl, this.2.1⟩

/-- `free` behind its first store `fpnew->nx = 0` -/
def freeBodyP (ph0 : PHeap) (p fuel : Nat) : PRes :=
  let fpnew := p - 8
  match ph0.flp with
  | none =>
    if p + ph0.szf fpnew = ph0.brk then ⟨{ ph0 with brk := fpnew }, none⟩
    else ⟨{ ph0 with flp := some fpnew }, none⟩
  | some _ =>
    match freeLoopP ph0 fpnew fuel ph0.flp none with
    | (ph1, _, true) => ⟨ph1, none⟩
    | (ph1, none, false) => ⟨ph1, none⟩
    | (ph1, some fp2, false) =>
      let ph2 := mergeDownP ph1 fp2 fpnew
      match ph2.flp with
      | none => ⟨ph2, none⟩
      | some f =>
        let x := lastLoopP ph2 fuel f none
        if x.1 + 8 + ph2.szf x.1 = ph2.brk then
          ⟨{ ph2.setLink x.2 none with brk := x.1 }, none⟩
        else ⟨ph2, none⟩

theorem freeP_eq (ph : PHeap) (p fuel : Nat) :
    freeP ph p fuel = freeBodyP (ph.setNx (p - 8) none) p fuel := rfl

theorem freeBodyP_refines (cfg : Cfg) (ph0 : PHeap) (h : Heap) (p sz fuel : Nat) (r : Res) (hi : HInv cfg h)
    (hb : ph0.brk = h.brk) (hc0 : FSeg ph0.szf ph0.nxf ph0.flp h.flp none)
    (hlv : ∀ c ∈ h.live, ph0.szf c.1 = c.2) (hnx : ph0.nxf (p - 8) = none)
    (hf : h.flp.length < fuel) (h8 : 8 ≤ p) (hl : lookup (p - 8) h.live = some sz)
    (hfree : free h p = some r) : FRep (freeBodyP ph0 p fuel).h r.h := by
  have hN := lookup_mem hl
  have hsz : ph0.szf (p - 8) = sz := hlv _ hN
  have hdis := hi.free_ne_live hl
  have hlive' : ∀ c ∈ remove (p - 8) h.live, c.1 ≠ p - 8 ∧ (∀ f ∈ h.flp, f.1 ≠ c.1) ∧ ph0.szf c.1 = c.2 := by
    intro c hc
    have hcl := mem_remove hc
    refine ⟨ne_of_mem_remove hi hl hc, fun f hf' => ?_, hlv c hcl⟩
    have := hi.disj_free_live hf' hcl; omega
  have hsorted := hi.sorted
  unfold free at hfree
  rw [if_neg (by omega)] at hfree
  simp only [hl] at hfree
  unfold freeBodyP
  simp only
  cases hflp : h.flp with
  | nil =>
    rw [hflp] at hc0 hfree
    simp only [FSeg] at hc0
    simp only at hfree
    rw [hc0]
    simp only
    rw [hsz, hb]
    by_cases htop : p + sz = h.brk
    · rw [if_pos htop] at hfree ⊢
      cases hfree
      exact ⟨rfl, rfl, fun c hc => (hlive' c hc).2.2⟩
    · rw [if_neg htop] at hfree ⊢
      cases hfree
      exact ⟨rfl, ⟨rfl, hsz, by rw [hnx]; rfl⟩, fun c hc => (hlive' c hc).2.2⟩
  | cons fp1 rest =>
    rw [hflp] at hc0 hfree hdis hsorted hf
    simp only at hfree
    have hc1 := hc0
    obtain ⟨hpf, h2, h3⟩ := hc0
    rw [hpf] at hc1
    cases fuel with
    | zero => simp at hf
    | succ k =>
    have hk : rest.length < k := by simp at hf; omega
    rw [hpf]
    simp only [freeLoopP]
    by_cases hlt : fp1.1 < p - 8
    · rw [if_pos hlt] at hfree
      cases hfree
      simp only [if_pos hlt]
      obtain ⟨ph1, b', e1, e2, e3, e4, e5⟩ := freeLoopP_walk (p - 8) sz rest fp1 ph0 k hsorted hlt hdis hsz hnx hc1 hk
      rw [e1]
      simp only
      rw [e3, hpf]
      simp only
      have hwN := hi.wf_lookup hl
      have hsl : (freeWalk (p - 8, sz) fp1 rest).Pairwise Below :=
        freeWalk_sorted (N := (p - 8, sz)) hsorted hlt
          (fun f hf' => hi.disj_free_live (by rw [hflp]; exact hf') hN) ⟨hwN.1, hwN.2.1⟩
          (fun f hf' => ⟨(hi.wfF f (by rw [hflp]; exact hf')).1, (hi.wfF f (by rw [hflp]; exact hf')).2.1⟩)
      have hlen := length_freeWalk_le (p - 8, sz) rest fp1
      rw [← hpf, ← e3] at e2
      have hflp2 : (mergeDownP ph1 b' (p - 8)).flp = some fp1.1 := by rw [e3, hpf]
      generalize mergeDownP ph1 b' (p - 8) = ph2 at *
      obtain ⟨g, prev, hlast, hA, hB⟩ := lower_spec (fuel := k + 1) hsl e2 hflp2 (by omega)
      rw [hlast]
      simp only
      have hlive2 : ∀ c ∈ remove (p - 8) h.live, ph2.szf c.1 = c.2 := by
        intro c hc
        obtain ⟨q1, q2, q3⟩ := hlive' c hc
        rw [(e5 c.1 q1 (fun f hf' => q2 f (by rw [hflp]; exact hf'))).1]
        exact q3
      by_cases hadj : g + 8 + ph2.szf g = ph2.brk
      · rw [if_pos hadj]
        obtain ⟨a1, a2, a3⟩ := hA hadj
        rw [e4, hb] at a1 a2
        refine ⟨a2.symm, fchain_iff.2 a1, fun c hc => ?_⟩
        show (ph2.setLink prev none).szf c.1 = c.2
        rw [a3]; exact hlive2 c hc
      · rw [if_neg hadj]
        have hB' := hB hadj
        rw [e4, hb] at hB'
        rw [hB']
        exact ⟨by rw [e4, hb], fchain_iff.2 e2, hlive2⟩
    · rw [if_neg hlt] at hfree
      cases hfree
      simp only [if_neg hlt]
      obtain ⟨N, tl, hI, hN1, htl, hF, hflp', hbrk', hfr⟩ := insUpP_spec hc1 hdis hsz
      rw [hI]
      refine ⟨by rw [← hb, ← hbrk'], fchain_iff.2 hF, fun c hc => ?_⟩
      obtain ⟨q1, q2, q3⟩ := hlive' c hc
      show (insUpP ph0 (p - 8) fp1.1).szf c.1 = c.2
      rw [(hfr c.1 q1).1]; exact q3

theorem freeP_refines (cfg : Cfg) (ph : PHeap) (h : Heap) (p sz fuel : Nat) (r : Res) (hi : HInv cfg h)
    (hr : FRep ph h) (hf : h.flp.length < fuel) (h8 : 8 ≤ p) (hl : lookup (p - 8) h.live = some sz)
    (hfree : free h p = some r) : FRep (freeP ph p fuel).h r.h := by
  obtain ⟨hb, hc, hlv⟩ := hr
  have hdis := hi.free_ne_live hl
  rw [freeP_eq]
  exact freeBodyP_refines cfg _ h p sz fuel r hi hb (fseg_updN hdis (fchain_iff.1 hc)) hlv
    (updN_same _ _ _) hf h8 hl hfree

example : (freeP (runP ⟨64, 0⟩ PHeap.init [.malloc 1, .malloc 64, .malloc 9]) 80 3).h.flp = some 72 := by
  decide

/-- the loop of realloc computes `growScan`, its `ofp3` is `predOf` -/
theorem growLoopP_spec (ph : PHeap) (fp2 incr : Nat) (L : List Chunk) (hs : L.Pairwise Below) :
    ∀ (l l0 : List Chunk) (fuel : Nat) (cur : Option Nat) (s : Nat),
    L = l0 ++ l → FSeg ph.szf ph.nxf cur l none → l.length < fuel →
    (∀ c, growScan fp2 incr l s = .inl c →
      growLoopP ph fp2 incr fuel cur (lastA none l0) s = .inl (c.1, predOf c.1 none L)) ∧
    (∀ s', growScan fp2 incr l s = .inr s' →
      growLoopP ph fp2 incr fuel cur (lastA none l0) s = .inr s') := by
  intro l
  induction l with
  | nil =>
    intro l0 fuel cur s _ h hf
    simp only [FSeg] at h; subst h
    cases fuel with
    | zero => simp at hf
    | succ k =>
      simp only [growScan, growLoopP]
      exact ⟨fun c hc => (by cases hc), fun s' he => (by cases he; rfl)⟩
  | cons c r ih =>
    intro l0 fuel cur s hL h hf
    obtain ⟨h1, h2, h3⟩ := h
    subst h1
    cases fuel with
    | zero => simp at hf
    | succ k =>
      have hk : r.length < k := by simp at hf; omega
      obtain ⟨hL', hpred, hlast⟩ := walk_step hs hL
      simp only [growScan, growLoopP, h2]
      split
      · refine ⟨fun d hd => ?_, fun s' he => (by cases he)⟩
        simp only [Sum.inl.injEq] at hd; subst hd
        rw [hpred]
      · have := ih (l0 ++ [c]) k (ph.nxf c.1) (if c.2 > s then c.2 else s) hL' h3 hk
        rw [hlast] at this; exact this

/-- the hypothesis `realloc … = some r` says that `ptr` is NULL or live -/
theorem reallocP_refines (cfg : Cfg) (ok : CfgOK cfg) (ph : PHeap) (h : Heap) (ptr : Option Nat)
    (n fuel : Nat) (r : Res) (hi : HInv cfg h) (hr : FRep ph h) (hf : h.flp.length < fuel)
    (hre : realloc cfg h ptr n = some r) :
    (reallocP cfg ph ptr n fuel).ret = r.ret ∧ FRep (reallocP cfg ph ptr n fuel).h r.h := by
  have hk := reqLen_props cfg ok n
  cases ptr with
  | none => cases hre; exact mallocP_refines cfg ph h _ fuel hi hr hf
  | some p =>
    obtain ⟨a, sz, rfl, hl, hp⟩ := realloc_path hre
    have hsz : ph.szf a = sz := hr.2.2 _ (lookup_mem hl)
    have hc' := fchain_iff.1 hr.2.1
    have hspec := growLoopP_spec ph (a + 8 + sz) (minLen (roundLen cfg.W n) - sz) h.flp hi.sorted h.flp [] fuel ph.flp 0
      rfl hc' hf
    simp only [lastA] at hspec
    unfold reallocP
    generalize minLen (roundLen cfg.W n) = len at *
    simp only [Nat.add_sub_cancel]
    rw [if_neg (by omega), hsz]
    cases hp with
    | keep hle hkeep => rw [if_pos hle, if_pos hkeep]; exact ⟨rfl, hr⟩
    | shrink hle h16 hfree =>
      rename_i r1
      rw [if_pos (by omega), if_neg (by omega)]
      exact ⟨rfl, freeP_refines cfg _ _ (a + 8 + len + 8) (sz - len - 8) fuel r1
        (hi.splitLive hl hk (by omega) rfl (by omega))
        (hr.splitLive hi hl rfl (by omega)) hf (by omega) (by simp only [Nat.add_sub_cancel, lookup, ↓reduceIte]) hfree⟩
    | growSplit hgt f hm3 ha3 hfit hbig =>
      rw [if_neg (by omega), hspec.1 f (growScan_eq_inl hi.sorted hm3 ha3 hfit)]
      simp only
      rw [fseg_mem_sz hc' hm3, if_pos hbig]
      exact ⟨rfl, hr.growSplit hi hl hm3 ha3.symm hgt rfl (by omega)⟩
    | absorb hgt f hm3 ha3 hfit hsmall =>
      rw [if_neg (by omega), hspec.1 f (growScan_eq_inl hi.sorted hm3 ha3 hfit)]
      simp only
      rw [fseg_mem_sz hc' hm3, if_neg hsmall]
      exact ⟨rfl, hr.absorb hi hl hm3⟩
    | topRefuse hgt hnone htop hno hl0 hlim =>
      obtain ⟨s, hg, hmax⟩ := growScan_eq_inr (len := len) (by omega) hnone
      rw [if_neg (by omega), hspec.2 s hg]
      simp only
      rw [hr.1, if_pos ⟨htop, hmax.2 hno⟩, if_pos ⟨hl0, hlim⟩]
      exact ⟨rfl, hr⟩
    | topExtend hgt hnone htop hno hlim =>
      obtain ⟨s, hg, hmax⟩ := growScan_eq_inr (len := len) (by omega) hnone
      rw [if_neg (by omega), hspec.2 s hg]
      simp only
      rw [hr.1, if_pos ⟨htop, hmax.2 hno⟩,
        if_neg (fun hc => by have := hlim hc.1; omega)]
      exact ⟨rfl, rfl, (hr.resize hi hl).2⟩
    | moveFail hgt hnone hnt hm =>
      obtain ⟨s, hg, hmax⟩ := growScan_eq_inr (len := len) (by omega) hnone
      rw [if_neg (by omega), hspec.2 s hg]
      simp only
      rw [hr.1, if_neg (fun hc => hnt ⟨hc.1, hmax.1 hc.2⟩)]
      obtain ⟨m1, m2⟩ := mallocP_refines cfg ph h len fuel hi hr hf
      rw [m1, hm]
      rw [(malloc_ret_none hm).2.1] at m2
      exact ⟨rfl, m2⟩
    | move hgt hnone hnt hm hfree =>
      rename_i q r2
      obtain ⟨s, hg, hmax⟩ := growScan_eq_inr (len := len) (by omega) hnone
      rw [if_neg (by omega), hspec.2 s hg]
      simp only
      rw [hr.1, if_neg (fun hc => hnt ⟨hc.1, hmax.1 hc.2⟩)]
      obtain ⟨m1, m2⟩ := mallocP_refines cfg ph h len fuel hi hr hf
      rw [m1, hm]
      obtain ⟨_, h8, sz', hl'⟩ := free_live hfree
      have hlen := malloc_flp_length_le cfg h len
      exact ⟨rfl, freeP_refines cfg _ _ (a + 8) sz' fuel r2 (malloc_inv cfg ok h len hi) m2 (by omega) h8 hl' hfree⟩

example : (reallocP ⟨64, 0⟩ (runP ⟨64, 0⟩ PHeap.init [.malloc 1, .malloc 64, .malloc 9, .free (some 80)])
    (some 8) 100 3).ret = some 8 ∧
    walkFl (reallocP ⟨64, 0⟩ (runP ⟨64, 0⟩ PHeap.init [.malloc 1, .malloc 64, .malloc 9, .free (some 80)])
      (some 8) 100 3).h 3 = [] := by
  decide

theorem sorted_length_le : ∀ (l : List Chunk) (lo B : Nat), l.Pairwise Below →
    (∀ c ∈ l, lo ≤ c.1 ∧ c.1 + 8 + c.2 ≤ B) → l.length ≤ B - lo := by
  intro l
  induction l with
  | nil => intro lo B _ _; simp
  | cons c r ih =>
    intro lo B hs hb
    rw [List.pairwise_cons] at hs
    have hc := hb c (by simp)
    have := ih (c.1 + 8 + c.2 + 1) B hs.2 (fun d hd => by
      have h1 := hs.1 d hd
      have h2 := hb d (List.mem_cons_of_mem _ hd)
      unfold Below at h1; omega)
    simp only [List.length_cons]
    omega

/-- the free list has at most `brk` nodes: the fuel `brk + 1` of `stepP` suffices -/
theorem flp_length_le_brk {cfg : Cfg} {h : Heap} (hi : HInv cfg h) : h.flp.length ≤ h.brk := by
  have := sorted_length_le h.flp 0 h.brk hi.sorted
    (fun c hc => ⟨Nat.zero_le _, hi.fin_le_brk (Or.inl hc)⟩)
  omega

theorem FRep.init : FRep PHeap.init Heap.init := ⟨rfl, rfl, fun c hc => by cases hc⟩

theorem stepP_refines (cfg : Cfg) (ok : CfgOK cfg) (ph : PHeap) (h : Heap) (op : Op) (r : Res)
    (hi : HInv cfg h) (hr : FRep ph h) (hs : step cfg h op = some r) :
    FRep (stepP cfg ph op).h r.h ∧ ((∀ q, op ≠ .free q) → (stepP cfg ph op).ret = r.ret) := by
  have hfuel : h.flp.length < ph.brk + 1 := by
    have := flp_length_le_brk hi; rw [hr.1]; omega
  cases op with
  | malloc n =>
    simp only [step, Option.some.injEq] at hs
    subst hs
    have := mallocP_refines cfg ph h n (ph.brk + 1) hi hr hfuel
    exact ⟨this.2, fun _ => this.1⟩
  | free p =>
    cases p with
    | none =>
      simp only [step, Option.some.injEq] at hs
      subst hs
      exact ⟨hr, fun hq => absurd rfl (hq _)⟩
    | some p =>
      simp only [step] at hs
      obtain ⟨_, h8, sz, hl⟩ := free_live hs
      exact ⟨freeP_refines cfg ph h p sz (ph.brk + 1) r hi hr hfuel h8 hl hs, fun hq => absurd rfl (hq _)⟩
  | realloc p n =>
    simp only [step] at hs
    have := reallocP_refines cfg ok ph h p n (ph.brk + 1) r hi hr hfuel hs
    exact ⟨this.2, fun _ => this.1⟩

theorem runP_refines_from (cfg : Cfg) (ok : CfgOK cfg) (ops : List Op) : ∀ (ph : PHeap) (h h' : Heap),
    HInv cfg h → FRep ph h → run cfg h ops = some h' → FRep (runP cfg ph ops) h' := by
  induction ops with
  | nil => intro ph h h' _ hr hrun; simp only [run, Option.some.injEq] at hrun; subst hrun; exact hr
  | cons op ops ih =>
    intro ph h h' hi hr hrun
    simp only [run] at hrun
    split at hrun
    · cases hrun
    · rename_i r hs
      exact ih _ r.h h' (step_inv cfg ok h op r hi hs) (stepP_refines cfg ok ph h op r hi hr hs).1 hrun

theorem runP_refines (cfg : Cfg) (ok : CfgOK cfg) (ops : List Op) (h : Heap)
    (hrun : run cfg Heap.init ops = some h) : FRep (runP cfg PHeap.init ops) h :=
  runP_refines_from cfg ok ops PHeap.init Heap.init h (HInv.init cfg) FRep.init hrun

theorem runP_walkFl (cfg : Cfg) (ok : CfgOK cfg) (ops : List Op) (h : Heap)
    (hrun : run cfg Heap.init ops = some h) :
    walkFl (runP cfg PHeap.init ops) ((runP cfg PHeap.init ops).brk + 1) = h.flp := by
  have hr := runP_refines cfg ok ops h hrun
  have hi := run_inv cfg ok ops Heap.init h (HInv.init cfg) hrun
  refine walkFl_eq hr ?_
  have := flp_length_le_brk hi; rw [hr.1]; omega

/-! non-vacuity: the hypotheses of `runP_refines` hold for the host configuration and a
history with a split, a coalescing free and a realloc; the conclusion computes -/
example : run ⟨64, 0⟩ Heap.init [.malloc 1, .malloc 64, .malloc 9, .free (some 80), .realloc (some 8) 100]
    = some ⟨216, [], [(144, 64), (0, 136)]⟩ := by decide

example : CfgOK ⟨64, 0⟩ := ⟨by decide, by decide⟩

example : (mallocP ⟨64, 0⟩ (runP ⟨64, 0⟩ PHeap.init [.malloc 1, .malloc 200, .malloc 9, .free (some 80)]) 64 4).ret
    = (malloc ⟨64, 0⟩ ⟨408, [(72, 256)], [(336, 64), (0, 64)]⟩ 64).ret := by decide

example : walkFl (runP ⟨64, 0⟩ PHeap.init
    [.malloc 1, .malloc 200, .malloc 9, .free (some 80), .malloc 64, .realloc (some 8) 100]) 5 = [(136, 120)] := by
  decide

end Igris.C10
