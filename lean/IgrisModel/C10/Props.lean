/-
  C10 — the property theorems.

  Property: "For every sequence of allocate, free and reallocate requests,
  each block returned by the fixed-block pools and by the bare-metal heap
  (malloc/free/realloc) lies inside the arena, is aligned for its use, and
  overlaps no other live block; its contents stay untouched until it is freed,
  and realloc preserves the common prefix.  A pool hands out exactly its
  capacity before answering null, freed blocks become allocatable again, and
  its free count always equals capacity minus live blocks.  Freeing every
  block returns the heap to its initial break, so memory is not lost."

  Vocabulary (defined in Lemmas.lean, LemmasPool.lean, LemmasMem.lean, all elementary):
    cells e n        the offsets 0, e, …, (n-1)e of a zone of n cells of e bytes
    Disj c d         the chunks (header + payload) c and d share no byte
    Ev.Avoids lo hi  the store does not touch [lo, hi);   Ev.Inside lo hi: it stays in [lo, hi)
    Exec m evs m'    m' is a memory that can result from m by the stores evs
                     (allocator stores leave values unspecified, memcpy copies)
    CfgOK cfg        0 < __WORDSIZE and 8 ∣ __WORDSIZE
  All heap offsets are relative to the heap start; a chunk (a, sz) occupies
  [a, a + 8 + sz) and its payload starts at a + 8.
-/
import IgrisModel.C10.Lemmas
import IgrisModel.C10.LemmasPool
import IgrisModel.C10.LemmasZones
import IgrisModel.C10.LemmasIter
import IgrisModel.C10.LemmasPtr
import IgrisModel.C10.LemmasAddr
namespace Igris.C10

/-! ## Fixed-block pools (pool_head / igris::pool / static_object_pool)

`e` = element size, `n` = capacity, the zone has exactly `n * e` bytes.
Histories are arbitrary lists of `alloc` / `free c`; a history is rejected
(`none`) only when it frees a cell that is not currently allocated. -/

def freshPool (e n : Nat) : PState := ⟨Pool.init.engage (n * e) e, []⟩

/-- `pool_engage` threads exactly the `n` cells of the zone onto the free list -/
theorem pool_engage_all_cells (e n : Nat) (he : 0 < e) :
    (freshPool e n).pool.free = (cells e n).reverse ∧ (freshPool e n).pool.avail = n := by
  have := engage_eq e n he
  exact ⟨this, by simp [freshPool, Pool.avail, this, cells_length]⟩

/-- every history: the cells handed out are pairwise distinct, multiples of the
element size (elemsz-aligned), inside the zone, and do not overlap as byte ranges -/
theorem pool_blocks_distinct_aligned_in_zone (e n : Nat) (he : 0 < e) (ops : List POp) (s : PState)
    (hr : prun (freshPool e n) ops = some s) :
    s.live.Nodup ∧ (∀ c ∈ s.live, c % e = 0 ∧ c + e ≤ n * e) ∧
    (∀ c ∈ s.live, ∀ d ∈ s.live, c ≠ d → c + e ≤ d ∨ d + e ≤ c) := by
  have hf := PInv.facts he (prun_inv (PInv.init e n he) hr)
  refine ⟨hf.1, fun c hc => ?_, fun c hc d hd hne => ?_⟩
  · obtain ⟨i, hi, rfl⟩ := hf.2.2.2 c (Or.inl hc)
    exact ⟨Nat.mul_mod_left i e, cell_in_zone hi⟩
  · obtain ⟨i, _, rfl⟩ := hf.2.2.2 c (Or.inl hc)
    obtain ⟨j, _, rfl⟩ := hf.2.2.2 d (Or.inl hd)
    exact cells_disjoint hne

/-- a successful `pool_alloc` returns a cell that was not handed out before -/
theorem pool_alloc_fresh (e n : Nat) (he : 0 < e) (ops : List POp) (s s' : PState) (c : Nat)
    (hr : prun (freshPool e n) ops = some s) (ha : pstep s .alloc = some (s', some c)) :
    c ∉ s.live ∧ s'.live = c :: s.live := by
  have hi : (s.pool.free ++ s.live).Perm (cells e n) := prun_inv (PInv.init e n he) hr
  exact (pstep_alloc ha).fresh (hi.nodup_iff.2 (cells_nodup e n he))

/-- `pool_alloc` answers null exactly when all `n` cells are handed out … -/
theorem pool_null_iff_exhausted (e n : Nat) (he : 0 < e) (ops : List POp) (s : PState)
    (hr : prun (freshPool e n) ops = some s) : s.pool.alloc.1 = none ↔ s.live.length = n := by
  exact Pool.alloc_null_iff (prun_inv (PInv.init e n he) hr).card

/-- … in particular `k` allocations on a fresh pool give `min k n` cells:
exactly the capacity is handed out before null -/
theorem pool_exactly_capacity (e n k : Nat) (he : 0 < e) (s : PState)
    (hr : prun (freshPool e n) (List.replicate k .alloc) = some s) : s.live.length = min k n := by
  have := prun_allocs k (freshPool e n) s (PInv.init e n he).card hr
  simpa [freshPool] using this

/-- `pool_avail` = capacity − live cells, after every history -/
theorem pool_avail_eq (e n : Nat) (he : 0 < e) (ops : List POp) (s : PState)
    (hr : prun (freshPool e n) ops = some s) : s.pool.avail = n - s.live.length ∧ s.live.length ≤ n := by
  have hf := (prun_inv (PInv.init e n he) hr).card
  simp only [Pool.avail]; omega

/-- a freed cell is allocatable again: the very next `pool_alloc` returns it -/
theorem pool_freed_cell_allocatable (s s1 : PState) (c : Nat) (r : Option Nat)
    (hf : pstep s (.free c) = some (s1, r)) : ∃ s2, pstep s1 .alloc = some (s2, some c) := by
  obtain ⟨_, hfree, _⟩ := pstep_free hf
  exact ⟨⟨⟨s.pool.free⟩, c :: s1.live⟩, by simp [pstep, Pool.alloc, hfree]⟩

/-- the only store of `pool_free` is the link in the first 8 bytes of the freed
cell: with `e ≥ 8` it stays inside that cell, so no other cell's contents change;
`pool_alloc` stores nothing into the zone -/
theorem pool_free_store_inside_cell (p : Pool) (c e : Nat) (he : 8 ≤ e) :
    ∀ ev ∈ (p.release c).2, ev.Inside c (c + e) := by
  intro ev hev
  simp only [Pool.release, List.mem_singleton] at hev
  subst hev; simp only [Ev.Inside, Ev.lo, Ev.hi]; omega

/-! ### slist.h on `next` pointers implements the list operations

`Rep m head l`: following the `next` fields `m` from `head` visits exactly the
addresses `l` (pairwise distinct, none is the head) and returns to `head`. -/

/-- `pool_init` + `pool_engage` on pointers build the list of the model
(`head` = any address outside the zone) -/
theorem slist_engage_refines (e n head : Nat) (he : 0 < e) (hh : n * e ≤ head) (m : Links) :
    Rep (engageLoopP e (n * e) head (n * e + 1) 0 (slistInit m head)) head
      (Pool.init.engage (n * e) e).free :=
  engageLoopP_rep e (n * e) head (n * e + 1) 0 _ [] (rep_init m head) (by simp) hh he

/-- `pool_alloc` on pointers returns the same cell as the list model and
leaves a representation of its free list -/
theorem slist_alloc_refines (m : Links) (head : Nat) (p : Pool) (hr : Rep m head p.free) :
    (poolAllocP m head).1 = p.alloc.1 ∧ Rep (poolAllocP m head).2 head p.alloc.2.free :=
  poolAllocP_rep hr

/-- `pool_free` on pointers conses the cell, provided it is not already on the
list (no double free) and is not the head -/
theorem slist_free_refines (m : Links) (head c : Nat) (p : Pool) (hr : Rep m head p.free)
    (hc : c ∉ p.free) (hne : c ≠ head) : Rep (slistAdd m c head) head (p.release c).1.free :=
  rep_add hr hc hne

/-- `slist_size` / `slist_in` walk exactly the list (they terminate within
`length + 1` steps) -/
theorem slist_size_in_refine (m : Links) (head x fuel : Nat) (p : Pool) (hr : Rep m head p.free)
    (hf : p.free.length < fuel) :
    slistSize m head fuel = p.avail ∧ slistIn m head x fuel = p.inFreelist x := by
  obtain ⟨hc, _, hh⟩ := hr
  refine ⟨?_, ?_⟩
  · simp only [slistSize, Pool.avail]; rw [sizeLoop_chain hc hh hf]; omega
  · simp only [slistIn, Pool.inFreelist]; exact inLoop_chain hc hh hf

/-! ### igris::pool (after `fix: igris::pool::get() …`) -/

/-- `room()` = `avail()` = capacity − live after every history of get/put,
including `get()` on an empty pool and `put(NULL)` -/
theorem ipool_room_eq_avail (e n : Nat) (he : 0 < e) (hn : n < 2 ^ 31) (ops : List IOp) (s : IState)
    (hr : irun ⟨IPool.init (n * e) e, []⟩ ops = some s) :
    s.pool.room = s.pool.avail ∧ s.pool.avail = n - s.live.length ∧ s.live.length ≤ n := by
  obtain ⟨hp, hc, _, _⟩ := irun_inv (IInv.init e n he) hr
  have hf := hp.card
  simp only at hf
  refine ⟨?_, by simp only [IPool.avail, Pool.avail]; omega, by omega⟩
  simp only [IPool.room, IPool.avail, Pool.avail, hc]
  omega

/-- FULL STATEMENT violated by the routine as it was (`getOrig`): one `get()`
on an exhausted pool and `room()` is `SIZE_MAX`. -/
theorem ipool_getOrig_room_witness :
    ((IPool.init 8 8).getOrig.2.getOrig.2).room = 2 ^ 64 - 1 ∧
    ((IPool.init 8 8).get.2.get.2).room = 0 := by decide

/-- the cells handed out by `get()` are pairwise distinct, elemsz-aligned and inside the
zone, and `put` of a live cell never trips the range asserts -/
theorem ipool_blocks (e n : Nat) (he : 0 < e) (ops : List IOp) (s : IState)
    (hr : irun ⟨IPool.init (n * e) e, []⟩ ops = some s) :
    s.live.Nodup ∧ (∀ c ∈ s.live, c % e = 0 ∧ c + e ≤ n * e ∧ s.pool.put (some c) ≠ none) := by
  obtain ⟨hp, _, hsz, _⟩ := irun_inv (IInv.init e n he) hr
  have hf := PInv.facts he hp
  refine ⟨hf.1, fun c hc => ?_⟩
  obtain ⟨i, hi, rfl⟩ := hf.2.2.2 c (Or.inl hc)
  have := cell_in_zone (e := e) hi
  refine ⟨Nat.mul_mod_left i e, this, ?_⟩
  simp only [IPool.put, hsz]
  rw [if_pos (by omega)]; simp

/-- `cell_is_allocated(i)` is true exactly for the indices of live cells -/
theorem ipool_cell_is_allocated_iff (e n : Nat) (he : 0 < e) (ops : List IOp) (s : IState) (i : Int)
    (hr : irun ⟨IPool.init (n * e) e, []⟩ ops = some s) :
    s.pool.cellIsAllocated i = true ↔ 0 ≤ i ∧ i < n ∧ i.toNat * e ∈ s.live :=
  (irun_inv (IInv.init e n he) hr).cellIsAllocated_iff he i

/-! ### static_object_pool<T, Capacity> -/

/-- every history of create/destroy: no object is ever constructed over a live
object, live objects are distinct, cell-aligned (a multiple of
`sizeof(storage_type) ≥ sizeof(T)`), inside the storage; `avail()` = Capacity − live -/
theorem sop_lifetimes (szT alT cap : Nat) (ops : List SOp) (s : SOP)
    (hr : srun (SOP.init szT alT cap) ops = some s) :
    s.fault = false ∧ s.objs.Nodup ∧ s.avail = cap - s.objs.length ∧ s.objs.length ≤ cap ∧
    szT ≤ storageSize szT alT ∧
    ∀ c ∈ s.objs, c % storageSize szT alT = 0 ∧ c + storageSize szT alT ≤ cap * storageSize szT alT := by
  have he := storageSize_pos szT alT
  obtain ⟨hp, hflt⟩ := srun_inv he (SInv.init szT alT cap) hr
  have hf := PInv.facts he hp
  have hcard := hp.card
  simp only at hf hcard
  refine ⟨hflt, hf.1, by simp only [SOP.avail, Pool.avail]; omega, by omega, ?_, fun c hc => ?_⟩
  · have := storageSize_ge szT alT; have := Nat.le_max_left szT 8; omega
  · obtain ⟨i, hi, rfl⟩ := hf.2.2.2 c (Or.inl hc)
    exact ⟨Nat.mul_mod_left i _, cell_in_zone hi⟩

/-! ## The bare-metal heap (malloc / free / realloc)

A state is *reachable* when some history of requests leads to it from the
initial heap; a history is rejected only when it passes a pointer that is not
the payload of a live block to free/realloc (`heap_valid_requests_never_fault`). -/

/-- the heap invariant, in readable form -/
structure HeapOK (cfg : Cfg) (h : Heap) : Prop where
  /-- no two chunks (free or live, headers included) share a byte -/
  disjoint : (h.flp ++ h.live).Pairwise Disj
  /-- every byte of `[start, brk)` belongs to a chunk: the chunks tile it -/
  covered : ∀ x, x < h.brk → ∃ c ∈ h.flp ++ h.live, c.1 ≤ x ∧ x < c.1 + 8 + c.2
  /-- no chunk reaches beyond the break … -/
  inside : ∀ c ∈ h.flp ++ h.live, c.1 + 8 + c.2 ≤ h.brk
  /-- … and the break never passes the heap end, when one is configured -/
  limit : cfg.lim ≠ 0 → h.brk ≤ cfg.lim
  /-- the free list is strictly address-ordered and no two free chunks are adjacent -/
  ordered : h.flp.Pairwise fun c d => c.1 + 8 + c.2 < d.1
  /-- no free chunk ends at the break -/
  notTop : ∀ f ∈ h.flp, f.1 + 8 + f.2 ≠ h.brk
  /-- payloads are 8-aligned; sizes are multiples of 8, at least 8 (room for the link) -/
  aligned : ∀ c ∈ h.flp ++ h.live, (c.1 + 8) % 8 = 0 ∧ c.2 % 8 = 0 ∧ 8 ≤ c.2

/-- `heap_inv`: after every history of malloc/free/realloc with any request
sizes, the chunks tile `[start, brk)` without overlap, the free list is ordered
and fully coalesced, and all payloads are aligned. -/
theorem heap_inv (cfg : Cfg) (ok : CfgOK cfg) (ops : List Op) (h : Heap)
    (hr : run cfg Heap.init ops = some h) : HeapOK cfg h := by
  have hi := run_inv cfg ok ops _ _ (HInv.init cfg) hr
  refine ⟨?_, fun x hx => ?_, fun c hc => ?_, hi.lim, hi.sorted, hi.notTop, fun c hc => ?_⟩
  · apply pairwise_disj_of_cnt
    intro x; have := hi.tile x; rw [cnt_append]; split at this <;> omega
  · have := hi.tile x; rw [if_pos hx] at this
    exact exists_of_cnt_pos (by rw [cnt_append]; omega)
  · exact hi.fin_le_brk (List.mem_append.1 hc)
  · rcases List.mem_append.1 hc with hc | hc
    · have := hi.wfF c hc; omega
    · have := hi.wfL c hc; omega

/-- the block returned by malloc: live afterwards with a usable size ≥ the
request, 8-aligned, inside `[start, brk)` (and below the heap end), disjoint
from every block that was live before -/
theorem malloc_returns_valid_block (cfg : Cfg) (ok : CfgOK cfg) (h : Heap) (n p : Nat) (hr : Reach cfg h)
    (hp : (malloc cfg h n).ret = some p) :
    ∃ s, (malloc cfg h n).h.live = (p - 8, s) :: h.live ∧ 8 ≤ p ∧ n ≤ s ∧ p % 8 = 0 ∧
      p + s ≤ (malloc cfg h n).h.brk ∧ (cfg.lim ≠ 0 → p + s ≤ cfg.lim) ∧
      ∀ c ∈ h.live, Disj c (p - 8, s) := by
  have hi := hr.inv ok
  have hi' := malloc_inv cfg ok h n hi
  obtain ⟨s, hlive, hp8, hs, hd⟩ := malloc_fresh ok hi hp
  have hmem : ((p - 8, s) : Chunk) ∈ (malloc cfg h n).h.live := by rw [hlive]; simp
  have hw := hi'.wfL _ hmem
  have hfin := hi'.fin_le_brk (Or.inr hmem)
  simp only at hw hfin
  have := reqLen_ge cfg.W n
  exact ⟨s, hlive, hp8, by omega, by omega, by omega, fun hl => by have := hi'.lim hl; omega, hd⟩

/-- malloc fails only when a heap end is configured, and then changes nothing -/
theorem malloc_fail_changes_nothing (cfg : Cfg) (h : Heap) (n : Nat) (hp : (malloc cfg h n).ret = none) :
    cfg.lim ≠ 0 ∧ (malloc cfg h n).h = h ∧ (malloc cfg h n).evs = [] :=
  malloc_ret_none hp

/-- the block returned by realloc: live afterwards, usable size ≥ the request,
8-aligned, inside `[start, brk)` -/
theorem realloc_returns_valid_block (cfg : Cfg) (ok : CfgOK cfg) (h : Heap) (p n sz q : Nat) (r : Res)
    (hr : Reach cfg h) (hl : lookup (p - 8) h.live = some sz)
    (hs : realloc cfg h (some p) n = some r) (hq : r.ret = some q) :
    ∃ s, lookup (q - 8) r.h.live = some s ∧ n ≤ s ∧ q % 8 = 0 ∧ q + s ≤ r.h.brk ∧
      (cfg.lim ≠ 0 → q + s ≤ cfg.lim) := by
  have hi := hr.inv ok
  have hi' := realloc_inv cfg ok h (some p) n r hi hs
  obtain ⟨s, hl', hn, hq8⟩ := realloc_result cfg ok h p n sz q r hi hl hs hq
  have hmem := lookup_mem hl'
  have hw := hi'.wfL _ hmem
  have hfin := hi'.fin_le_brk (Or.inr hmem)
  simp only at hw hfin
  exact ⟨s, hl', hn, by omega, by omega, fun hl0 => by have := hi'.lim hl0; omega⟩

/-- a failing realloc leaves the heap, and with it the old block, untouched -/
theorem realloc_fail_changes_nothing (cfg : Cfg) (ok : CfgOK cfg) (h : Heap) (p n sz : Nat) (r : Res)
    (hr : Reach cfg h) (hl : lookup (p - 8) h.live = some sz)
    (hs : realloc cfg h (some p) n = some r) (hq : r.ret = none) : r.h = h ∧ r.evs = [] := by
  obtain ⟨a, rfl, hl, hp⟩ := realloc_path' hl hs
  rcases realloc_where ok (hr.inv ok) hl (reqLen_props cfg ok n) hp with ⟨hret, _⟩ | ⟨_, h1, h2⟩ | ⟨q, _, _, _, hret, _⟩
  · rw [hret] at hq; cases hq
  · exact ⟨h1, h2⟩
  · rw [hret] at hq; cases hq

/-- `heap_no_clobber`: no store of a request touches the header or the payload
of a live block other than the one the request operates on … -/
theorem heap_no_clobber (cfg : Cfg) (ok : CfgOK cfg) (h : Heap) (op : Op) (r : Res) (hr : Reach cfg h)
    (hs : step cfg h op = some r) :
    ∀ e ∈ r.evs, ∀ c ∈ h.live, op.target ≠ some (c.1 + 8) → e.Avoids c.1 (c.1 + 8 + c.2) :=
  step_evs_avoid cfg ok h op r (hr.inv ok) hs

/-- … so its contents (and its size header) are the same in every memory that
can result from the request, and the block is still live with the same size:
contents stay untouched until the block itself is freed or reallocated. -/
theorem heap_contents_untouched (cfg : Cfg) (ok : CfgOK cfg) (h : Heap) (op : Op) (r : Res) (hr : Reach cfg h)
    (hs : step cfg h op = some r) (c : Chunk) (hc : c ∈ h.live) (hne : op.target ≠ some (c.1 + 8))
    (m m' : Mem) (hx : Exec m r.evs m') :
    c ∈ r.h.live ∧ ∀ x, c.1 ≤ x → x < c.1 + 8 + c.2 → m' x = m x :=
  ⟨step_keeps_others cfg ok h op r (hr.inv ok) hs c hc hne,
    Exec.frame hx fun e he => step_evs_avoid cfg ok h op r (hr.inv ok) hs e he c hc hne⟩

/-- … and over a whole history: as long as no request frees or reallocates the
block, it stays live with the same size and every byte of it (header and
payload) keeps its value, whatever the other requests are. -/
theorem heap_contents_untouched_until_freed (cfg : Cfg) (ok : CfgOK cfg) (ops : List Op) (h h' : Heap)
    (evs : List Ev) (hr : Reach cfg h) (hs : runE cfg h ops = some (h', evs)) (c : Chunk) (hc : c ∈ h.live)
    (hne : ∀ op ∈ ops, op.target ≠ some (c.1 + 8)) (m m' : Mem) (hx : Exec m evs m') :
    c ∈ h'.live ∧ ∀ x, c.1 ≤ x → x < c.1 + 8 + c.2 → m' x = m x :=
  runE_frame ok (hr.inv ok) hs hc hne hx

/-- realloc preserves the common prefix: in every resulting memory the first
`min(old size, request)` bytes of the returned block equal the old payload -/
theorem realloc_preserves_prefix (cfg : Cfg) (ok : CfgOK cfg) (h : Heap) (p n sz q : Nat) (r : Res)
    (hr : Reach cfg h) (hl : lookup (p - 8) h.live = some sz)
    (hs : realloc cfg h (some p) n = some r) (hq : r.ret = some q) (m m' : Mem) (hx : Exec m r.evs m') :
    ∀ i, i < min sz n → m' (q + i) = m (p + i) :=
  realloc_prefix cfg ok h p n sz q r (hr.inv ok) hl hs hq m m' hx

/-- `heap_returns_to_start`: when no block is live the break is back at the
heap start and the free list is empty — no memory is lost -/
theorem heap_returns_to_start (cfg : Cfg) (ok : CfgOK cfg) (ops : List Op) (h : Heap)
    (hr : run cfg Heap.init ops = some h) (hl : h.live = []) : h.brk = 0 ∧ h.flp = [] := by
  have := (run_inv cfg ok ops _ _ (HInv.init cfg) hr).no_free_of_no_live hl
  exact ⟨this.2, this.1⟩

/-- free / realloc of a live block never fault in the model: histories are
rejected only for pointers that are not live -/
theorem heap_valid_requests_never_fault (cfg : Cfg) (h : Heap) (p sz n : Nat) (h8 : 8 ≤ p)
    (hl : lookup (p - 8) h.live = some sz) :
    (∃ r, free h p = some r) ∧ (∃ r, realloc cfg h (some p) n = some r) :=
  ⟨free_total h8 hl, realloc_total h8 hl⟩

/-- HISTORICAL (before `fix: realloc() enforces malloc()'s minimum chunk size`):
`malloc(64); malloc(64); realloc(p, 0)` left a live chunk with `sz = 0`, and
`free(p)` then stored its `nx` link into `[8, 16)` — the `sz` header of the
free chunk at offset 8.  The repaired routine keeps 8 bytes. -/
theorem reallocOrig_zero_chunk_witness :
    let cfg : Cfg := ⟨64, 0⟩
    let h2 := (malloc cfg (malloc cfg Heap.init 64).h 64).h
    (∃ r, reallocOrig cfg h2 (some 8) 0 = some r ∧ (0, 0) ∈ r.h.live ∧ (8, 56) ∈ r.h.flp ∧
        ∃ r', free r.h 8 = some r' ∧ Ev.w 8 8 ∈ r'.evs) ∧
    (∃ r, realloc cfg h2 (some 8) 0 = some r ∧ (0, 8) ∈ r.h.live) := by
  decide

/-! non-vacuity of the hypotheses used above -/

example : CfgOK ⟨64, 0⟩ := ⟨by decide, by decide⟩
example : Reach ⟨64, 0⟩ ⟨216, [(72, 64)], [(144, 64), (0, 64)]⟩ :=
  ⟨[.malloc 1, .malloc 64, .malloc 9, .free (some 80)], by decide⟩
example : ∃ h, run ⟨64, 100⟩ Heap.init [.malloc 1, .malloc 64] = some h ∧ h.live.length = 1 :=
  ⟨_, rfl, by decide⟩
example : ∃ s, prun (freshPool 16 3) [.alloc, .alloc, .free 32, .alloc, .alloc, .alloc] = some s ∧
    s.live.length = 3 := ⟨_, rfl, by decide⟩
example : ∃ s, irun ⟨IPool.init 48 16, []⟩ [.get, .get, .get, .get, .put none, .put (some 16)] = some s ∧
    s.pool.room = 1 := ⟨_, rfl, by decide⟩
example : ∃ s, srun (SOP.init 12 4 3) [.create, .create, .destroy 32, .create] = some s ∧ s.objs.length = 2 :=
  ⟨_, rfl, by decide⟩

/-! ## One pool fed from several zones (`pool_engage` onto an existing list)

`pool_init` and `pool_engage` are separate calls: a pool may be given further
zones at any point of its life (`static_object_pool::freelist()` exists for
that).  A history is any list of `engage base size elemsz` / `alloc` / `free c`;
it is rejected (`none`) only when the zone is refused (`engageRefused`: `elemsz <
sizeof(struct slist_head) = 8` or `size % elemsz ≠ 0`), for a zone overlapping
an earlier one, or for `free` of a cell that is not allocated.  Zones may have different sizes AND different element sizes.
`capacity zones` = the sum of `size / elemsz` over the zones engaged so far;
`InZone z c` = `c = z.base + i * z.elemsz` for some `i < size / elemsz`. -/

/-- `pool_engage` onto ANY free list: the cells of the new zone come in front,
the list that was there stays behind them — nothing is dropped — and `avail`
grows by exactly the number of cells of the zone -/
theorem mpool_engage_keeps_old_list (p : Pool) (z : Zone) (hw : z.WF) :
    (p.engageAt z.base z.size z.elemsz).free = (zcells z).reverse ++ p.free ∧
    (p.engageAt z.base z.size z.elemsz).avail = p.avail + z.ncells := by
  have := engageAt_eq p z hw
  exact ⟨this, by simp only [Pool.avail, this, List.length_append, List.length_reverse, zcells_length]; omega⟩

/-- every multi-zone history: the cells handed out are pairwise distinct, each is a
cell of one of the engaged zones (inside that zone, on a cell boundary of it), and
any two of them are disjoint byte ranges (each with the element size of its zone) -/
theorem mpool_blocks_distinct_aligned_in_zone (ops : List MOp) (s : MState)
    (hr : mrun MState.init ops = some s) :
    s.live.Nodup ∧
    (∀ c ∈ s.live, ∃ z ∈ s.zones, InZone z c ∧ z.base ≤ c ∧ c + z.elemsz ≤ z.base + z.size ∧
      (c - z.base) % z.elemsz = 0) ∧
    (∀ c ∈ s.live, ∀ d ∈ s.live, c ≠ d → ∀ z ∈ s.zones, ∀ w ∈ s.zones, InZone z c → InZone w d →
      c + z.elemsz ≤ d ∨ d + w.elemsz ≤ c) := by
  have hi := mrun_inv MInv.init hr
  have hf := hi.facts
  refine ⟨hf.1, fun c hc => ?_, fun c _ d _ hne z hz w hw hzc hwd => ?_⟩
  · obtain ⟨z, hz, hin⟩ := hf.2.2.2 c (Or.inl hc)
    exact ⟨z, hz, hin, hin.range⟩
  · rcases zones_eq_or_disjoint hi.disj hz hw with rfl | hd
    · exact cells_of_one_zone hzc hwd hne
    · exact cells_of_disjoint_zones hd hzc hwd

/-- a successful `pool_alloc` returns a cell that was not handed out before -/
theorem mpool_alloc_fresh (ops : List MOp) (s s' : MState) (c : Nat)
    (hr : mrun MState.init ops = some s) (ha : mstep s .alloc = some (s', some c)) :
    c ∉ s.live ∧ s'.live = c :: s.live := by
  have hi := mrun_inv MInv.init hr
  exact (mstep_alloc ha).1.fresh (hi.perm.nodup_iff.2 (allCells_nodup hi.disj hi.wf))

/-- `pool_alloc` answers null exactly when as many cells are handed out as ALL
zones engaged so far contain -/
theorem mpool_null_iff_exhausted (ops : List MOp) (s : MState) (hr : mrun MState.init ops = some s) :
    s.pool.alloc.1 = none ↔ s.live.length = capacity s.zones := by
  exact Pool.alloc_null_iff (mrun_inv MInv.init hr).card

/-- … so after any history, `k` further allocations give `min (live + k) capacity`
cells: exactly the capacity (the sum over the zones) is handed out before null -/
theorem mpool_exactly_capacity (ops : List MOp) (s s' : MState) (k : Nat)
    (hr : mrun MState.init ops = some s) (hk : mrun s (List.replicate k .alloc) = some s') :
    s'.live.length = min (s.live.length + k) (capacity s.zones) :=
  (mrun_allocs k s s' (mrun_inv MInv.init hr) hk).1

/-- `pool_avail` = capacity − live cells after every multi-zone history -/
theorem mpool_avail_eq (ops : List MOp) (s : MState) (hr : mrun MState.init ops = some s) :
    s.pool.avail = capacity s.zones - s.live.length ∧ s.live.length ≤ capacity s.zones := by
  have hf := (mrun_inv MInv.init hr).card
  simp only [Pool.avail]; omega

/-- a freed cell is allocatable again, also when a further zone is engaged first:
`pool_engage` leaves it on the free list -/
theorem mpool_freed_cell_allocatable (s s1 : MState) (c : Nat) (r : Option Nat)
    (hf : mstep s (.free c) = some (s1, r)) :
    (∃ s2, mstep s1 .alloc = some (s2, some c)) ∧
    ∀ b sz e s2 r2, mstep s1 (.engage b sz e) = some (s2, r2) → c ∈ s2.pool.free := by
  obtain ⟨_, hfree, _⟩ := mstep_free hf
  refine ⟨⟨⟨⟨s.pool.free⟩, c :: s1.live, s1.zones⟩, by simp [mstep, Pool.alloc, hfree]⟩, ?_⟩
  intro b sz e s2 r2 he
  obtain ⟨hwz, _, rfl, _⟩ := mstep_engage he
  have := engageAt_eq s1.pool ⟨b, sz, e⟩ hwz
  simp only at this ⊢
  rw [this, hfree]; simp

/-- the stores of `pool_engage` (one link per cell) stay inside the zone being
engaged: cells handed out from other zones keep their contents -/
theorem mpool_engage_stores_inside_zone (b n e fuel : Nat) (he : 8 ≤ e) :
    ∀ ev ∈ engageEvs e (b + n * e) fuel b, ev.Inside b (b + n * e) :=
  engageEvs_inside e b n he fuel

/-- no store of a pool request (the links written by `pool_engage` into a new
zone, the link written by `pool_free`) touches a cell that is handed out before
and after the request (element sizes ≥ 8 = size of the link: the precondition of `pool_engage`) … -/
theorem mpool_no_clobber (ops : List MOp) (s s' : MState) (op : MOp) (r : Option Nat)
    (hr : mrun MState.init ops = some s) (hs : mstep s op = some (s', r)) :
    ∀ ev ∈ mstepEvs s op, ∀ c ∈ s.live, c ∈ s'.live → ∀ z ∈ s'.zones, InZone z c →
      ev.Avoids c (c + z.elemsz) :=
  mstep_evs_avoid (mrun_inv MInv.init hr) hs

/-- … so over a whole multi-zone history the contents of a handed-out cell stay
untouched until it is freed: as long as no request frees it, it stays handed
out and every byte keeps its value in every memory that can result -/
theorem mpool_contents_untouched_until_freed (ops0 ops : List MOp) (s s' : MState) (evs : List Ev)
    (hr : mrun MState.init ops0 = some s) (hs : mrunE s ops = some (s', evs))
    (c : Nat) (hc : c ∈ s.live)
    (hne : ∀ op ∈ ops, op ≠ .free c) (z : Zone) (hz : z ∈ s.zones) (hzc : InZone z c)
    (m m' : Mem) (hx : Exec m evs m') :
    c ∈ s'.live ∧ ∀ x, c ≤ x → x < c + z.elemsz → m' x = m x :=
  mrunE_frame (mrun_inv MInv.init hr) hs hc hne hz hzc hx

/-- the `next`-pointer routines implement every multi-zone history: the same
pointers are returned and the links always represent the model's list (`head` =
address of `pool->free_blocks`, outside every zone) -/
theorem mpool_ptr_refines (s s' : MState) (op : MOp) (r : Option Nat) (m : Links) (head : Nat)
    (ops : List MOp) (hr0 : mrun MState.init ops = some s) (hr : Rep m head s.pool.free)
    (hs : mstep s op = some (s', r))
    (hh : ∀ z ∈ s'.zones, head < z.base ∨ z.base + z.size ≤ head) :
    (mstepP m head op).2 = r ∧ Rep (mstepP m head op).1 head s'.pool.free :=
  mstepP_rep (mrun_inv MInv.init hr0) hr hs hh

theorem mpool_ptr_run_refines (ops : List MOp) (s : MState) (m : Links) (head : Nat)
    (hs : mrun MState.init ops = some s)
    (hh : ∀ z ∈ s.zones, head < z.base ∨ z.base + z.size ≤ head) :
    Rep (mrunP head (slistInit m head) ops) head s.pool.free :=
  mrunP_rep MInv.init (by simpa [MState.init, Pool.init] using rep_init m head) hs hh

/-! ### what the pools need from the element size

The list-level theorems above hold for the list model with any `elemsz > 0`.  The
CODE keeps the list in the cells: `pool_engage` / `pool_free` store an 8-byte link
at the start of every free cell.  That is sound exactly when a cell can hold the
link; after `fix: igris::pool::init() asserts that a cell can hold the free-list link`
the class refuses smaller element sizes (`engageRefused`), for the C function
`pool_engage` it is the documented precondition, and the multi-zone histories
(`mstep`) reject them. -/

/-- with `elemsz ≥ 8` every link store of `pool_engage` is the first 8 bytes of a
cell of the zone and stays inside that cell: no two link fields overlap, none
leaves the zone — the `next`-field memory `Links` (one slot per cell) is sound -/
theorem pool_links_inside_cells (e b n fuel : Nat) (he : 8 ≤ e) :
    ∀ ev ∈ engageEvs e (b + n * e) fuel b,
      ∃ k, k < n ∧ ev = .w (b + k * e) 8 ∧ ev.Inside (b + k * e) (b + k * e + e) ∧ ev.Inside b (b + n * e) := by
  intro ev hev
  obtain ⟨k, hk, rfl⟩ := engageEvs_cells e b n (by omega) fuel ev hev
  have h1 := cell_in_zone (e := e) hk
  refine ⟨k, hk, rfl, ?_, ?_⟩ <;> simp only [Ev.Inside, Ev.lo, Ev.hi] <;> omega

/-- FULL STATEMENT ("for all pool element sizes") is violated for element sizes
below the size of the link.  Witness: `elemsz = 4`, a zone of 16 bytes — the link
stores are 8 bytes at 0, 4, 8, 12: neighbouring links overlap and the last one
leaves the zone (real code: ASan heap-buffer-overflow, `pool_avail` segfaults).
The repaired `igris::pool::init` refuses the request (assert), the histories reject it. -/
theorem pool_elemsz_below_link_witness :
    engageEvs 4 16 17 0 = [.w 0 8, .w 4 8, .w 8 8, .w 12 8] ∧ ¬ (Ev.w 12 8).Inside 0 16 ∧
    engageRefused 16 4 = true ∧ mstep MState.init (.engage 0 16 4) = none :=
  ⟨by decide, by simp [Ev.Inside, Ev.lo, Ev.hi], by decide, by decide⟩

/-- "aligned for its use": when the zone is 8-aligned and the element size a
multiple of 8, every cell is 8-aligned (the link store and any `T` with
`alignof(T) ≤ 8` are aligned) -/
theorem pool_cells_pointer_aligned (z : Zone) (c : Nat) (hb : z.base % 8 = 0) (he : z.elemsz % 8 = 0)
    (hc : InZone z c) : c % 8 = 0 := by
  obtain ⟨i, _, rfl⟩ := hc
  obtain ⟨q, hq⟩ := Nat.dvd_of_mod_eq_zero he
  rw [hq, Nat.mul_left_comm]
  generalize i * q = t
  omega

/-- FULL STATEMENT (aligned for EVERY element size) fails: `elemsz = 12` passes the
asserts, cell 12 of an 8-aligned zone is not pointer-aligned (the link store is
a misaligned access: tolerated on x86-64, a fault on Cortex-M0).  The
correspondence stream exercises such sizes with UBSan's alignment check off. -/
theorem pool_elemsz_unaligned_witness :
    InZone ⟨0, 24, 12⟩ 12 ∧ 12 % 8 ≠ 0 ∧ engageRefused 24 12 = false :=
  ⟨⟨1, by decide, by decide⟩, by decide, by decide⟩

/-! ### static_object_pool: object lifetimes, with zones added through `freelist()` -/

/-- every history of create / destroy / engage-through-`freelist()`: per cell the
constructor ran exactly once more than the destructor when an object lives there
and exactly as often otherwise (constructed once, destroyed once, never
constructed over a live object); objects are distinct cells of the storage or of
an engaged zone, large enough for `T`; `avail()` = total cells − live objects -/
theorem sopx_lifetimes (szT alT cap : Nat) (ops : List SXOp) (p : SOPx)
    (hr : sxrun (storageSize szT alT) (SOPx.init szT alT cap) ops = some p) :
    p.sop.fault = false ∧ p.sop.objs.Nodup ∧
    (∀ c, p.ctor.count c = p.dtor.count c + (if c ∈ p.sop.objs then 1 else 0)) ∧
    p.sop.avail = capacity p.zones - p.sop.objs.length ∧ p.sop.objs.length ≤ capacity p.zones ∧
    szT ≤ storageSize szT alT ∧
    ∀ c ∈ p.sop.objs, ∃ z ∈ p.zones, z.elemsz = storageSize szT alT ∧ z.base ≤ c ∧
      c + storageSize szT alT ≤ z.base + z.size ∧ (c - z.base) % storageSize szT alT = 0 := by
  have hi := sxrun_inv (SXInv.init szT alT cap) hr
  have hf := hi.m.facts
  have hcard := hi.m.card
  simp only at hf hcard
  refine ⟨hi.fault, hf.1, hi.ledger, by simp only [SOP.avail, Pool.avail]; omega, by omega, ?_, fun c hc => ?_⟩
  · have := storageSize_ge szT alT; have := Nat.le_max_left szT 8; omega
  · obtain ⟨z, hz, hin⟩ := hf.2.2.2 c (Or.inl hc)
    have := hin.range
    rw [hi.esz z hz] at this
    exact ⟨z, hz, hi.esz z hz, this⟩

/-- slot reuse: after `destroy(obj)` the next `create()` constructs in the cell
`obj` occupied -/
theorem sopx_slot_reuse (st : Nat) (p p1 : SOPx) (c : Nat) (r : Option Nat)
    (hd : sxstep st p (.destroy c) = some (p1, r)) :
    ∃ p2, sxstep st p1 .create = some (p2, some c) ∧ p2.ctor = c :: p1.ctor := by
  simp only [sxstep] at hd
  split at hd
  · simp only [Option.some.injEq, Prod.mk.injEq] at hd
    obtain ⟨rfl, _⟩ := hd
    simp [sxstep, SOP.create, SOP.destroy, Pool.alloc, Pool.release]
  · cases hd

/-! non-vacuity of the multi-zone hypotheses -/

example : (⟨16, 64, 16⟩ : Zone).WF := ⟨by decide, by decide⟩
example : ∃ s, mrun MState.init [.engage 16 64 16, .alloc, .alloc, .free 64, .engage 104 48 8, .alloc, .alloc] = some s ∧
    s.live = [136, 144, 48] ∧ s.pool.avail = 7 ∧ capacity s.zones = 10 := ⟨_, rfl, by decide⟩
example : ∃ s, mrun MState.init [.engage 16 64 16, .alloc, .alloc, .free 64, .engage 104 48 8, .alloc, .alloc,
      .free 144, .free 136] = some s ∧ (∀ z ∈ s.zones, 0 < z.base ∨ z.base + z.size ≤ 0) ∧
    s.pool.free = [136, 144, 128, 120, 112, 104, 64, 32, 16] ∧
    (mrunP 0 (slistInit (fun _ => 0) 0) [.engage 16 64 16, .alloc, .alloc, .free 64, .engage 104 48 8, .alloc, .alloc,
      .free 144, .free 136]) 136 = 144 := ⟨_, rfl, by decide, by decide, by decide⟩
example : ∃ x, mrunE ⟨⟨[32, 16]⟩, [64, 48], [⟨16, 64, 16⟩]⟩ [.engage 104 48 8, .free 64, .alloc] = some x ∧
    48 ∈ x.1.live ∧ x.2.length = 7 ∧ (∀ z ∈ x.1.zones, 8 ≤ z.elemsz) := ⟨_, rfl, by decide, by decide, by decide⟩
example : ∃ p, sxrun 16 (SOPx.init 12 4 2) [.create, .create, .engage 64 2, .create, .destroy 16, .create] = some p ∧
    p.sop.objs = [16, 80, 0] ∧ p.ctor = [16, 80, 0, 16] ∧ p.dtor = [16] := ⟨_, rfl, by decide⟩

/-! ### igris::pool: the iterator over allocated cells -/

/-- `unlinked_iterator::next()` from `num`: the smallest allocated cell index
above `num`, or −1 (= `end()`) when there is none; the do/while terminates -/
theorem ipool_iterator_next (e n : Nat) (he : 0 < e) (ops : List IOp) (s : IState)
    (hr : irun ⟨IPool.init (n * e) e, []⟩ ops = some s) (num : Int) (hnum : -1 ≤ num) :
    (s.pool.iterNext num = -1 ∧ ∀ j : Int, num < j → j < n → j.toNat * e ∉ s.live) ∨
    (∃ j : Int, s.pool.iterNext num = j ∧ num < j ∧ j < n ∧ j.toNat * e ∈ s.live ∧
      ∀ k : Int, num < k → k < j → k.toNat * e ∉ s.live) :=
  (irun_inv (IInv.init e n he) hr).iterNext_spec he num hnum

/-- `for (it = begin(); it != end(); ++it)` visits exactly the allocated cells,
each once, in ascending order — as many as there are live cells -/
theorem ipool_iteration_visits_live_cells (e n : Nat) (he : 0 < e) (ops : List IOp) (s : IState)
    (hr : irun ⟨IPool.init (n * e) e, []⟩ ops = some s) :
    s.pool.iterAll = ((List.range n).filter (fun i : Nat => decide (i * e ∈ s.live))).map (fun i : Nat => (i : Int)) ∧
    s.pool.iterAll.length = s.live.length ∧
    (∀ i ∈ s.pool.iterAll, 0 ≤ i ∧ i < n ∧ i.toNat * e ∈ s.live) ∧
    (∀ c ∈ s.live, ∃ i ∈ s.pool.iterAll, c = i.toNat * e) := by
  have hi := irun_inv (IInv.init e n he) hr
  refine ⟨hi.iterAll_eq he, hi.iterAll_length he, fun i h => (hi.mem_iterAll he i).1 h, fun c hc => ?_⟩
  obtain ⟨k, hk, rfl⟩ := (PInv.facts he hi.1).2.2.2 c (Or.inl hc)
  exact ⟨k, (hi.mem_iterAll he k).2 ⟨by omega, by omega, by simpa using hc⟩, by simp⟩

/-- igris::pool: a cell given back with `put` is returned by the next `get` -/
theorem ipool_put_then_get (s s1 : IState) (c : Nat) (r : Option Nat)
    (hp : istep s (.put (some c)) = some (s1, r)) : ∃ s2, istep s1 .get = some (s2, some c) := by
  obtain ⟨_, hf, _⟩ := istep_put hp
  simp only [istep, IPool.get, Pool.alloc, hf]
  exact ⟨_, rfl⟩

/-- a default-constructed `igris::pool` (no zone) is an empty pool of capacity 0
for every query, after every history of `get` / `put(NULL)`: `size()`, `room()`,
`avail()` are 0, `get()` answers null, no cell is allocated, the iteration is empty -/
theorem ipool_default_constructed (ops : List IOp) (s : IState)
    (hr : irun ⟨IPool.default, []⟩ ops = some s) (i : Int) :
    s.pool.cells = 0 ∧ s.pool.room = 0 ∧ s.pool.avail = 0 ∧ s.pool.get.1 = none ∧
    s.pool.cellIsAllocated i = false ∧ s.pool.iterAll = [] ∧ s.live = [] := by
  have hk : ∀ ops s, irun ⟨IPool.default, []⟩ ops = some s → s = ⟨IPool.default, []⟩ := by
    intro ops
    induction ops with
    | nil => intro s h; simp only [irun] at h; cases h; rfl
    | cons op ops ih =>
      intro s h
      cases op with
      | get => exact ih s (by simpa [irun, istep, IPool.get, Pool.alloc, IPool.default, Pool.init] using h)
      | put c =>
        cases c with
        | none => exact ih s (by simpa [irun, istep, IPool.put] using h)
        | some c => simp [irun, istep] at h
  rw [hk ops s hr]
  refine ⟨rfl, rfl, rfl, rfl, ?_, rfl, rfl⟩
  simp only [IPool.cellIsAllocated, IPool.cells, IPool.default, Nat.zero_div]
  rw [if_pos (by omega)]

/-- FULL STATEMENT violated by `size()` as it was (`cellsOrig`): on a
default-constructed pool it divides by `_elemsz = 0` (trap) -/
theorem ipool_sizeOrig_default_witness :
    IPool.default.cellsOrig = none ∧ IPool.default.cells = 0 ∧ (IPool.init 48 16).cellsOrig = some 3 := by decide

/-! ## "Inside the arena" is relative to the configured heap end

FULL STATEMENT: every block lies inside the arena.  The allocator learns the end
of its arena only through `__malloc_heap_end`, and the shipped default is 0 = "no
limit" (`fix 0084f04` made the limit opt-in to keep the old behaviour).  So the
clause holds as `_partial` (heap end configured) and fails as `_witness` (default). -/

/-- with a heap end configured, every chunk (free or live, header included) of
every history ends at or below it -/
theorem heap_blocks_inside_arena_partial (cfg : Cfg) (ok : CfgOK cfg) (hl : cfg.lim ≠ 0) (ops : List Op) (h : Heap)
    (hr : run cfg Heap.init ops = some h) : ∀ c ∈ h.flp ++ h.live, c.1 + 8 + c.2 ≤ cfg.lim := by
  have hok := heap_inv cfg ok ops h hr
  intro c hc
  exact Nat.le_trans (hok.inside c hc) (hok.limit hl)

/-- with the default `__malloc_heap_end = 0` there is no arena bound the allocator
respects: for every bound `B` one request moves the break past it (malloc never fails) -/
theorem heap_blocks_inside_arena_witness (W B : Nat) :
    (malloc ⟨W, 0⟩ Heap.init B).ret = some 8 ∧ B < (malloc ⟨W, 0⟩ Heap.init B).h.brk := by
  have := reqLen_ge W B
  have hp := malloc_path ⟨W, 0⟩ Heap.init B
  generalize malloc ⟨W, 0⟩ Heap.init B = r at hp ⊢
  cases hp with
  | take a s hm | carve a s hm => cases hm
  | refuse _ hl => exact absurd rfl hl
  | extend => exact ⟨rfl, by simp only [Heap.init] at this ⊢; omega⟩

/-! ## Requests close to `SIZE_MAX` (64-bit `size_t`)

`malloc64` / `realloc64` = the routines with the overflow test of
`fix: malloc()/realloc() fail when rounding the request up to __WORDSIZE wraps around`;
for every request they either refuse (NULL, nothing changed) or behave as the
unbounded routines above, so all heap theorems hold for ALL request sizes. -/

/-- for EVERY request size: a block returned by malloc has a usable size ≥ the
request, is 8-aligned, inside `[start, brk)` and disjoint from every block live before
(as in `malloc_returns_valid_block`), and the new state is reachable by the unbounded
routines; a request whose rounding does not fit a `size_t` is refused and nothing changes -/
theorem malloc64_all_sizes (cfg : Cfg) (ok : CfgOK cfg) (h : Heap) (n : Nat) (hr : Reach cfg h) :
    (∀ p, (malloc64 cfg h n).ret = some p →
      ∃ s, (malloc64 cfg h n).h.live = (p - 8, s) :: h.live ∧ n ≤ s ∧ p % 8 = 0 ∧
        p + s ≤ (malloc64 cfg h n).h.brk ∧ ∀ c ∈ h.live, Disj c (p - 8, s)) ∧
    ((malloc64 cfg h n).ret = none → (malloc64 cfg h n).h = h ∧ (malloc64 cfg h n).evs = []) ∧
    (n ≤ SIZE_MAX → roundLen cfg.W n > SIZE_MAX → (malloc64 cfg h n).ret = none) ∧
    Reach cfg (malloc64 cfg h n).h := by
  unfold malloc64
  split
  · rename_i hc
    exact ⟨fun p hp => (by cases hp), fun _ => ⟨rfl, rfl⟩, fun _ _ => rfl, hr⟩
  · rename_i hc
    refine ⟨fun p hp => ?_, fun hn => (malloc_fail_changes_nothing cfg h n hn).2, fun hle hbig => ?_,
      hr.step (op := .malloc n) rfl⟩
    · obtain ⟨s, h1, _, h3, h4, h5, _, h7⟩ := malloc_returns_valid_block cfg ok h n p hr hp
      exact ⟨s, h1, h3, h4, h5, h7⟩
    · exfalso; apply hc
      unfold roundLen at hbig
      split at hbig
      · rename_i hm
        have : 0 < n := by
          rcases Nat.eq_zero_or_pos n with h0 | h0
          · subst h0; simp at hm
          · exact h0
        exact ⟨hm, by omega⟩
      · omega

/-- the same for realloc: either the unbounded routine, or NULL with the heap
(and the old block) unchanged -/
theorem realloc64_all_sizes (cfg : Cfg) (ok : CfgOK cfg) (h : Heap) (p n sz : Nat) (r : Res)
    (hr : Reach cfg h) (hl : lookup (p - 8) h.live = some sz) (hs : realloc64 cfg h (some p) n = some r) :
    (∀ q, r.ret = some q → ∃ s, lookup (q - 8) r.h.live = some s ∧ n ≤ s ∧ q % 8 = 0 ∧ q + s ≤ r.h.brk) ∧
    (r.ret = none → r.h = h ∧ r.evs = []) := by
  unfold realloc64 at hs
  split at hs
  · cases hs
    exact ⟨fun q hq => (by cases hq), fun _ => ⟨rfl, rfl⟩⟩
  · refine ⟨fun q hq => ?_, fun hn => realloc_fail_changes_nothing cfg ok h p n sz r hr hl hs hn⟩
    obtain ⟨s, h1, h2, h3, h4, _⟩ := realloc_returns_valid_block cfg ok h p n sz q r hr hl hs hq
    exact ⟨s, h1, h2, h3, h4⟩

/-- FULL STATEMENT violated by the routines as they were (`mallocOrig64`,
`reallocOrig64`): `malloc(SIZE_MAX − 9)` returned a block of 64 usable bytes;
`realloc(p, SIZE_MAX − 9)` of a 256-byte block "succeeded" by shrinking it to 64
bytes and freeing the rest.  The repaired routines answer NULL and change nothing. -/
theorem size_wrap_witness :
    let cfg : Cfg := ⟨64, 0⟩
    let big := 2 ^ 64 - 10
    (mallocOrig64 cfg Heap.init big).ret = some 8 ∧ (mallocOrig64 cfg Heap.init big).h.live = [(0, 8)] ∧
    (malloc64 cfg Heap.init big).ret = none ∧
    (let h1 := (malloc cfg Heap.init 256).h
     (∃ r, reallocOrig64 cfg h1 (some 8) big = some r ∧ r.ret = some 8 ∧ (0, 8) ∈ r.h.live) ∧
     (∃ r, realloc64 cfg h1 (some 8) big = some r ∧ r.ret = none ∧ r.h = h1)) := by
  decide

/-! ## The heap at the level of the `nx` pointers (ModelPtr.lean)

`PHeap` = `__brkval`, `__flp` and the two words `sz` / `nx` of every header in
memory; `mallocP` / `freeP` / `reallocP` are the literal pointer stores of the C
code, their loops walking `fp1 = fp1->nx` with fuel.  `FRep ph h`: same break,
following `__flp` / `nx` visits exactly the nodes of the list `h.flp` in order with
the recorded `sz` words and ends in NULL, and the `sz` word of every live header
is the recorded size. -/

/-- every pointer store of malloc keeps the linked structure equal to the
address-ordered list of the model, and the same pointer is returned (for any
fuel above the length of the list: the loop never runs out) -/
theorem heap_ptr_malloc_refines (cfg : Cfg) (ok : CfgOK cfg) (ph : PHeap) (h : Heap) (n fuel : Nat)
    (hr : Reach cfg h) (hp : FRep ph h) (hf : h.flp.length < fuel) :
    (mallocP cfg ph n fuel).ret = (malloc cfg h n).ret ∧ FRep (mallocP cfg ph n fuel).h (malloc cfg h n).h :=
  mallocP_refines cfg ph h n fuel (hr.inv ok) hp hf

/-- the same for free of a live block: the ordered walk, both merges and the
lowering of the break, as pointer stores, produce the list of the model -/
theorem heap_ptr_free_refines (cfg : Cfg) (ok : CfgOK cfg) (ph : PHeap) (h : Heap) (p sz fuel : Nat) (r : Res)
    (hr : Reach cfg h) (hp : FRep ph h) (hf : h.flp.length < fuel) (h8 : 8 ≤ p)
    (hl : lookup (p - 8) h.live = some sz) (hfree : free h p = some r) : FRep (freeP ph p fuel).h r.h :=
  freeP_refines cfg ph h p sz fuel r (hr.inv ok) hp hf h8 hl hfree

/-- the same for realloc on all its paths (NULL, shrink-split + free of the tail,
growth into the neighbour with / without split, in-place growth at the top, move) -/
theorem heap_ptr_realloc_refines (cfg : Cfg) (ok : CfgOK cfg) (ph : PHeap) (h : Heap) (ptr : Option Nat)
    (n fuel : Nat) (r : Res) (hr : Reach cfg h) (hp : FRep ph h) (hf : h.flp.length < fuel)
    (hre : realloc cfg h ptr n = some r) :
    (reallocP cfg ph ptr n fuel).ret = r.ret ∧ FRep (reallocP cfg ph ptr n fuel).h r.h :=
  reallocP_refines cfg ok ph h ptr n fuel r (hr.inv ok) hp hf hre

/-- whole histories: running the pointer-level routines from the initial heap
(fuel `brk + 1` per call) always represents the state of the list model -/
theorem heap_ptr_run_refines (cfg : Cfg) (ok : CfgOK cfg) (ops : List Op) (h : Heap)
    (hrun : run cfg Heap.init ops = some h) : FRep (runP cfg PHeap.init ops) h :=
  runP_refines cfg ok ops h hrun

/-- hence the heap theorems carry over to the pointer-level heap: after every
history the free list READ FROM MEMORY (`__flp`, `nx`, `sz` words) is strictly
address ordered and fully coalesced, never reaches the break, its chunks and the
live chunks (sizes read from their `sz` words) tile `[start, brk)` without overlap,
and with no live block the pointer-level break is 0 and `__flp` is NULL -/
theorem heap_ptr_inv (cfg : Cfg) (ok : CfgOK cfg) (ops : List Op) (h : Heap)
    (hrun : run cfg Heap.init ops = some h) :
    let ph := runP cfg PHeap.init ops
    let fl := walkFl ph (ph.brk + 1)
    let lv := h.live.map (fun c => (c.1, ph.szf c.1))
    fl.Pairwise (fun c d => c.1 + 8 + c.2 < d.1) ∧ (∀ f ∈ fl, f.1 + 8 + f.2 ≠ ph.brk) ∧
    (fl ++ lv).Pairwise Disj ∧
    (∀ x, x < ph.brk → ∃ c ∈ fl ++ lv, c.1 ≤ x ∧ x < c.1 + 8 + c.2) ∧
    (∀ c ∈ fl ++ lv, c.1 + 8 + c.2 ≤ ph.brk) ∧ (cfg.lim ≠ 0 → ph.brk ≤ cfg.lim) ∧
    (h.live = [] → ph.brk = 0 ∧ ph.flp = none) := by
  intro ph fl lv
  have hrep := runP_refines cfg ok ops h hrun
  have hfl : fl = h.flp := runP_walkFl cfg ok ops h hrun
  have hlv : lv = h.live := by
    show h.live.map (fun c => (c.1, ph.szf c.1)) = h.live
    have : ∀ c ∈ h.live, (fun c : Chunk => (c.1, ph.szf c.1)) c = c := fun c hc => by
      have h2 : ph.szf c.1 = c.2 := hrep.2.2 c hc
      show (c.1, ph.szf c.1) = c
      rw [h2]
    rw [List.map_congr_left this, List.map_id']
  have hb : ph.brk = h.brk := hrep.1
  have hok := heap_inv cfg ok ops h hrun
  rw [hfl, hlv, hb]
  refine ⟨hok.ordered, hok.notTop, hok.disjoint, hok.covered, hok.inside, hok.limit, fun hl => ?_⟩
  have := heap_returns_to_start cfg ok ops h hrun hl
  refine ⟨this.1, ?_⟩
  have hc := hrep.2.1
  rw [this.2] at hc
  exact hc

example : ∃ h, run ⟨64, 0⟩ Heap.init [.malloc 1, .malloc 64, .malloc 9, .free (some 80)] = some h ∧
    walkFl (runP ⟨64, 0⟩ PHeap.init [.malloc 1, .malloc 64, .malloc 9, .free (some 80)]) 217 = [(72, 64)] :=
  ⟨_, rfl, by decide⟩

/-! ## 64-bit ADDRESSES (pointer wrap-around)

All heap theorems above speak about offsets from `__malloc_heap_start` in `Nat`.  The
code computes with 64-bit pointers.  `base` = the address of the heap start; `mallocA` /
`reallocA` (what the driver runs) = the routines with the pointer comparisons of the C
code evaluated modulo 2⁶⁴, after `fix: malloc() refuses a request that would move the
break across the top of the address space`; `mallocOrigA` = step 3 as it was. -/

/-- realloc's `cp = (char *)ptr + len; if (cp < cp1) return 0;` on 64-bit pointers
(`cp1 = ptr − 8`) fires EXACTLY when `ptr + len` does not fit 64 bits — for every payload
pointer (≥ 8) and every rounded request (below `2⁶⁴ − 8`) -/
theorem heap_addr_wrap_test_exact (ptr len : BitVec 64) (hp : 8 ≤ ptr.toNat) (hl : len.toNat < 2 ^ 64 - 8) :
    (ptr + len < ptr - 8#64) ↔ 2 ^ 64 ≤ ptr.toNat + len.toNat := by
  have h1 := ptr.isLt
  have h2 := len.isLt
  simp only [BitVec.lt_def, BitVec.toNat_add, BitVec.toNat_sub, BitVec.toNat_ofNat]
  have := two_pow_64
  rw [this] at *
  omega

/-- the model's test is that comparison -/
theorem heap_addr_wrap_test_model (base p len : Nat) (hb : base + p < 2 ^ 64) (h8 : 8 ≤ p) (hl : len < 2 ^ 64) :
    reallocWrapTest base p len =
      decide (BitVec.ofNat 64 (base + p) + BitVec.ofNat 64 len < BitVec.ofNat 64 (base + p) - 8#64) := by
  simp only [reallocWrapTest, BitVec.lt_def, BitVec.toNat_add, BitVec.toNat_sub, BitVec.toNat_ofNat]
  have := two_pow_64
  rw [this] at *
  congr 1
  apply propext
  constructor <;> intro h <;> omega

/-- EXACT precondition under which the offset model is the code (malloc): the repaired
routine refuses precisely the requests that reach step 3 without a heap end and whose new
chunk would cross the top of the address space; every other request is served exactly as
by the unbounded model (so every theorem above transfers), a refused one changes nothing -/
theorem heap_addr_malloc_transfer (base : Nat) (cfg : Cfg) (h : Heap) (n : Nat) (hb : base + h.brk ≤ SIZE_MAX) :
    (mallocRefusesA base cfg h n = true ↔
      cfg.lim = 0 ∧ reachesStep3 cfg h n = true ∧ SIZE_MAX < base + h.brk + (minLen (roundLen cfg.W n) + 8)) ∧
    (mallocRefusesA base cfg h n = false → mallocA base cfg h n = malloc64 cfg h n) ∧
    (mallocRefusesA base cfg h n = true → mallocA base cfg h n = ⟨h, none, []⟩) := by
  refine ⟨?_, fun hf => ?_, fun ht => ?_⟩
  · simp only [mallocRefusesA, Bool.and_eq_true, beq_iff_eq, brkWraps_iff base h _ hb]
    constructor
    · rintro ⟨⟨a, b⟩, c⟩; exact ⟨a, b, c⟩
    · rintro ⟨a, b, c⟩; exact ⟨⟨a, b⟩, c⟩
  · unfold mallocA malloc64; simp [hf]
  · unfold mallocA; simp [ht]

/-- EXACT precondition (iff) under which the offset model IS the code: the C code compares
64-bit POINTERS (`fp1 < fpnew` in free, `cp <= __brkval` and `cp > __malloc_heap_end` at the
heap end, `cp < cp1` in realloc), the model compares offsets.  The address of offset `x` is
`(base + x) mod 2⁶⁴`.  Address order coincides with offset order on everything up to the
break IF AND ONLY IF `base + brk < 2⁶⁴` — which `heap_addr_history` proves for every state
the repaired code can reach (and `heap_addr_wrap_witness` refutes for the code as it was). -/
theorem heap_addr_order_iff (base brk : Nat) (hbrk : 0 < brk) :
    (∀ x y, x ≤ brk → y ≤ brk → (x < y ↔ (base + x) % 2 ^ 64 < (base + y) % 2 ^ 64)) ↔
      base % 2 ^ 64 + brk < 2 ^ 64 := by
  have h64 := two_pow_64
  rw [h64]
  constructor
  · intro hall
    by_cases hbig : 18446744073709551616 ≤ brk
    · have := (hall 0 18446744073709551616 (by omega) hbig).1 (by omega)
      omega
    · have := (hall 0 brk (by omega) (Nat.le_refl _)).1 hbrk
      omega
  · intro hno x y hx hy
    omega

/-- FULL STATEMENT ("overlaps no other live block", all request sizes) violated by the
routine as it was.  Arena at address 2⁴⁶, no heap end: `malloc(64)`; `malloc(2⁶⁴ − 64)`
moves the break from offset 72 BACK to offset 16 and returns a "block" of 2⁶⁴ − 64 bytes;
the next `malloc(8)` is carved out at offset 16 — inside the payload of the first block,
which is still live.  The repaired routine answers NULL and changes nothing. -/
theorem heap_addr_wrap_witness :
    let cfg : Cfg := ⟨64, 0⟩
    let base := 2 ^ 46
    let h1 := (malloc cfg Heap.init 64).h
    let r2 := mallocOrigA base cfg h1 (2 ^ 64 - 64)
    r2.ret = some 80 ∧ r2.h.brk = 16 ∧
    (malloc cfg r2.h 8).ret = some 24 ∧ (0, 64) ∈ (malloc cfg r2.h 8).h.live ∧
    (16, 64) ∈ (malloc cfg r2.h 8).h.live ∧ ¬ Disj (0, 64) (16, 64) ∧
    mallocA base cfg h1 (2 ^ 64 - 64) = ⟨h1, none, []⟩ := by
  refine ⟨by decide, by decide, by decide, by decide, by decide, ?_, by decide⟩
  simp [Disj]

/-- WHOLE HISTORIES on 64-bit addresses: for every arena address `base` (with the
configured heap end, if any, below `2⁶⁴`), every history of malloc / free / realloc with
`size_t` request sizes leads to a state the unbounded model reaches too (so `heap_inv`,
`heap_no_clobber`, … hold for it), and no address of any chunk — header, payload, the
break itself — wraps: the offsets ARE the addresses.  (`W` a power of two ≥ 16: the wrap
test of realloc needs `len < 2⁶⁴ − 8`.) -/
theorem heap_addr_history (base : Nat) (cfg : Cfg) (ok : CfgOK cfg) (hWd : cfg.W ∣ 2 ^ 64) (hW16 : 16 ≤ cfg.W)
    (hbase : base ≤ SIZE_MAX) (hlim : cfg.lim ≠ 0 → base + cfg.lim ≤ SIZE_MAX)
    (ops : List Op) (h : Heap) (hsz : ∀ op ∈ ops, op.sizeOK) (hr : runA base cfg Heap.init ops = some h) :
    Reach cfg h ∧ base + h.brk ≤ SIZE_MAX ∧ ∀ c ∈ h.flp ++ h.live, base + (c.1 + 8 + c.2) ≤ SIZE_MAX := by
  obtain ⟨hreach, htop⟩ := runA_inv base cfg ok hWd hW16 ops Heap.init h hsz ⟨[], rfl⟩
    (by simpa [Heap.init] using hbase) hlim hr
  refine ⟨hreach, htop, fun c hc => ?_⟩
  have := (hreach.inv ok).fin_le_brk (List.mem_append.1 hc)
  omega

example : ∃ h, runA (2 ^ 46) ⟨64, 0⟩ Heap.init [.malloc 64, .malloc (2 ^ 64 - 64), .realloc (some 8) (2 ^ 64 - 64),
    .malloc 8] = some h ∧ h.brk = 144 := ⟨_, rfl, by decide⟩
example : (64 : Nat) ∣ 2 ^ 64 := ⟨2 ^ 58, by decide⟩

/-! ### Alignment: 8 bytes is what holds; `alignof(max_align_t) = 16` (LP64 host) does not -/

/-- FULL STATEMENT ("aligned for its use" = suitably aligned for any object, i.e. for
`max_align_t`) fails on a host where `alignof(max_align_t) = 16`: the very first block of a
fresh heap has its payload at offset 8 of the (64-aligned) arena.  What holds is 8-byte
alignment (`malloc_returns_valid_block`, `heap_inv.aligned`): the alignment of `max_align_t` on
the 32-bit targets of the port.  Finding `C10-heap-align-max-align-t`. -/
theorem heap_max_align_witness :
    (malloc ⟨64, 0⟩ Heap.init 1).ret = some 8 ∧ 8 % 16 ≠ 0 ∧ 8 % 8 = 0 ∧
    (malloc ⟨64, 0⟩ (malloc ⟨64, 0⟩ Heap.init 1).h 1).ret = some 80 ∧ 80 % 16 = 0 := by decide

/-- EXACT characterisation of the admissible element sizes: the link stores of `pool_engage`
into a zone of `n ≥ 1` cells of `e` bytes all stay inside the zone IF AND ONLY IF `e ≥ 8`
(= `sizeof(struct slist_head)`).  For every element size 1..7 — "smaller than a pointer" — the
link of the last cell leaves the zone (`pool_elemsz_below_link_witness` is the instance `e = 4`). -/
theorem pool_links_inside_zone_iff (e b n : Nat) (he : 0 < e) (hn : 0 < n) :
    (∀ ev ∈ engageEvs e (b + n * e) (n * e + 1) b, ev.Inside b (b + n * e)) ↔ 8 ≤ e := by
  constructor
  · intro hall
    have hle : n ≤ n * e := Nat.le_mul_of_pos_right n he
    have := hall _ (engageEvs_mem e b n he (n * e + 1) (n - 1) (by omega) (by omega))
    simp only [Ev.Inside, Ev.lo, Ev.hi] at this
    have h1 : (n - 1 + 1) * e = (n - 1) * e + e := by rw [Nat.add_mul, Nat.one_mul]
    have h2 : n - 1 + 1 = n := by omega
    rw [h2] at h1
    omega
  · exact mpool_engage_stores_inside_zone b n e (n * e + 1)

/-- FULL STATEMENT ("inside the arena") fails for a zone that is not whole cells when the
`assert(size % elemsz == 0)` of `pool_engage` is compiled out (`NDEBUG`): the loop
`while (it < stop)` carves `size / elemsz + 1` cells, and the one handed out first starts
inside the zone and ends behind it.  (With assertions the request aborts: `engageRefused`.) -/
theorem pool_ragged_zone_last_cell_outside (size e : Nat) (he : 0 < e) (hr : size % e ≠ 0) :
    (Pool.init.engage size e).free = (cells e (size / e + 1)).reverse ∧
    (Pool.init.engage size e).alloc.1 = some (size / e * e) ∧
    size / e * e < size ∧ size < size / e * e + e := by
  have hdm := Nat.div_add_mod size e
  have hlt := Nat.mod_lt size he
  have hsz : size / e * e + size % e = size := by rw [Nat.mul_comm]; exact hdm
  have hq : size / e ≤ size / e * e := Nat.le_mul_of_pos_right _ he
  -- the guard `it < size` lets one more cell through than there are whole cells
  have hn : ∀ j, 0 + j * e < size ↔ j < size / e + 1 := fun j => by
    rw [Nat.zero_add]
    constructor
    · intro h
      apply Nat.lt_of_not_le; intro hc
      have := Nat.mul_le_mul_right e hc
      rw [Nat.add_mul, Nat.one_mul] at this; omega
    · intro h
      have := Nat.mul_le_mul_right e (Nat.le_of_lt_succ h); omega
  have hfree : (Pool.init.engage size e).free = (cells e (size / e + 1)).reverse := by
    have := engageEvs_eq e 0 size _ hn (size + 1) 0 (Nat.zero_le _)
    rw [Nat.zero_mul, Nat.sub_zero, Nat.min_eq_right (by omega)] at this
    simp only [Pool.engage, Pool.init, engageLoop_evs, this, cells, List.range_eq_range', List.map_map, List.append_nil]
    congr 2; funext j; simp [Ev.lo]
  refine ⟨hfree, ?_, by omega, by omega⟩
  simp only [Pool.alloc, hfree, cells, List.range_succ, List.map_append, List.map_cons, List.map_nil,
    List.reverse_append, List.reverse_cons, List.reverse_nil, List.nil_append, List.cons_append]

/-- the same on numbers: a 20-byte zone with 8-byte cells -/
theorem pool_ragged_zone_witness :
    (Pool.init.engage 20 8).free = [16, 8, 0] ∧ ¬ (16 + 8 ≤ 20) ∧ engageRefused 20 8 = true := by decide

/-- INADMISSIBLE: `pool_engage` of a zone that overlaps cells the pool already owns (here: the
same 16-byte zone twice).  Nothing in the code notices.  List level: every cell is on the
free list twice — `avail` reports 4 for 2 cells and the 3rd `pool_alloc` hands out the cell of
the 1st again.  Pointer level (what the code really does): the second `slist_add` of a node
that is already linked closes a cycle `8 → 0 → 8 → …` that no longer contains the head:
`pool_avail` never terminates (it runs out of any fuel).  The histories reject the request. -/
theorem pool_overlapping_zone_witness :
    (engageTwice 16 8).free = [8, 0, 8, 0] ∧ (engageTwice 16 8).avail = 4 ∧
    (engageTwice 16 8).alloc.2.alloc.2.alloc.1 = (engageTwice 16 8).alloc.1 ∧
    mstep ⟨Pool.init.engage 16 8, [], [⟨0, 16, 8⟩]⟩ (.engage 0 16 8) = none ∧
    (let m := engageAtP (engageAtP (slistInit (fun _ => 0) 100) 100 0 16 8) 100 0 16 8
     m 8 = 0 ∧ m 0 = 8 ∧ slistSize m 100 50 = 50) := by decide

/-! ### igris::pool and static_object_pool hand out exactly their capacity before null
(what `pool_null_iff_exhausted` / `pool_exactly_capacity` say of `pool_head`) -/

/-- igris::pool: `get()` answers null exactly when all `n` cells are handed out -/
theorem ipool_null_iff_exhausted (e n : Nat) (he : 0 < e) (ops : List IOp) (s : IState)
    (hr : irun ⟨IPool.init (n * e) e, []⟩ ops = some s) : s.pool.get.1 = none ↔ s.live.length = n := by
  obtain ⟨hp, _, _, _⟩ := irun_inv (IInv.init e n he) hr
  rw [IPool.get_fst]
  exact Pool.alloc_null_iff hp.card

/-- igris::pool: `k` calls of `get()` on a fresh pool give `min k n` cells -/
theorem ipool_exactly_capacity (e n k : Nat) (he : 0 < e) (s : IState)
    (hr : irun ⟨IPool.init (n * e) e, []⟩ (List.replicate k .get) = some s) : s.live.length = min k n := by
  have h1 := irun_gets k _ s hr
  have := prun_allocs k _ _ (IInv.init e n he).1.card h1
  simpa using this

/-- static_object_pool: `create()` answers null exactly when `Capacity` objects are alive -/
theorem sop_null_iff_exhausted (szT alT cap : Nat) (ops : List SOp) (s : SOP)
    (hr : srun (SOP.init szT alT cap) ops = some s) : s.create.1 = none ↔ s.objs.length = cap := by
  have he := storageSize_pos szT alT
  obtain ⟨hp, _⟩ := srun_inv he (SInv.init szT alT cap) hr
  rw [SOP.create_fst]
  exact Pool.alloc_null_iff hp.card

/-- static_object_pool: `k` calls of `create()` on a fresh pool construct `min k Capacity` objects -/
theorem sop_exactly_capacity (szT alT cap k : Nat) (s : SOP)
    (hr : srun (SOP.init szT alT cap) (List.replicate k .create) = some s) : s.objs.length = min k cap := by
  have he := storageSize_pos szT alT
  have h1 := srun_creates k _ s hr
  have := prun_allocs k _ _ (PInv.init _ cap he).card h1
  simpa [SOP.init] using this

/-! ### Refinement to a SET-OF-BLOCKS specification

The specification knows nothing about lists, links or LIFO order: there is a fixed set of
blocks; `alloc` may hand out ANY block that is not handed out and answers null only when all
are; `free c` of a handed-out block makes exactly that block available again. -/

/-- `pool_head` refines the set-of-blocks specification (blocks = the cells `0, e, …, (n−1)e`) -/
theorem pool_refines_block_set (e n : Nat) (he : 0 < e) (ops : List POp) (s : PState)
    (hr : prun (freshPool e n) ops = some s) :
    (∀ s' r, pstep s .alloc = some (s', r) → SpecAlloc (cells e n) s.live r s'.live) ∧
    (∀ s' r c, pstep s (.free c) = some (s', r) → SpecFree s.live c s'.live) := by
  have hi : (s.pool.free ++ s.live).Perm (cells e n) := prun_inv (PInv.init e n he) hr
  exact ⟨fun s' r ha => (pstep_alloc ha).spec hi (cells_nodup e n he),
    fun s' r c hf => ⟨(pstep_free hf).1, (pstep_free hf).2.2⟩⟩

/-- igris::pool refines the same specification (`get` = alloc, `put` = free) -/
theorem ipool_refines_block_set (e n : Nat) (he : 0 < e) (ops : List IOp) (s : IState)
    (hr : irun ⟨IPool.init (n * e) e, []⟩ ops = some s) :
    (∀ s' r, istep s .get = some (s', r) → SpecAlloc (cells e n) s.live r s'.live) ∧
    (∀ s' r c, istep s (.put (some c)) = some (s', r) → SpecFree s.live c s'.live) := by
  obtain ⟨hp, _, _, _⟩ := irun_inv (IInv.init e n he) hr
  exact ⟨fun s' r ha => (istep_get ha).1.spec hp (cells_nodup e n he),
    fun s' r c hf => ⟨(istep_put hf).1, (istep_put hf).2.2.1⟩⟩

/-- static_object_pool refines the same specification (`create` = alloc, `destroy` = free;
blocks = the `Capacity` cells of `sizeof(storage_type)` bytes) -/
theorem sop_refines_block_set (szT alT cap : Nat) (ops : List SOp) (s : SOP)
    (hr : srun (SOP.init szT alT cap) ops = some s) :
    (∀ s' r, sstep s .create = some (s', r) → SpecAlloc (cells (storageSize szT alT) cap) s.objs r s'.objs) ∧
    (∀ s' r c, sstep s (.destroy c) = some (s', r) → SpecFree s.objs c s'.objs) := by
  have he := storageSize_pos szT alT
  obtain ⟨hp, _⟩ := srun_inv he (SInv.init szT alT cap) hr
  exact ⟨fun s' r ha => (sstep_create ha).1.spec hp (cells_nodup _ cap he),
    fun s' r c hf => ⟨(sstep_destroy hf).1, (sstep_destroy hf).2.2.1⟩⟩

/-- one pool fed from several zones refines it too (blocks = all cells of all zones engaged so
far; `pool_engage` of a further zone only ADDS blocks, the live set is untouched) -/
theorem mpool_refines_block_set (ops : List MOp) (s : MState) (hr : mrun MState.init ops = some s) :
    (∀ s' r, mstep s .alloc = some (s', r) → SpecAlloc (allCells s.zones) s.live r s'.live) ∧
    (∀ s' r c, mstep s (.free c) = some (s', r) → SpecFree s.live c s'.live) ∧
    (∀ s' r b sz e, mstep s (.engage b sz e) = some (s', r) →
      s'.live = s.live ∧ ∀ c, c ∈ allCells s'.zones ↔ (c ∈ zcells ⟨b, sz, e⟩ ∨ c ∈ allCells s.zones)) := by
  have hi := mrun_inv MInv.init hr
  refine ⟨fun s' r ha => (mstep_alloc ha).1.spec hi.perm (allCells_nodup hi.disj hi.wf),
    fun s' r c hf => ⟨(mstep_free hf).1, (mstep_free hf).2.2.1⟩, ?_⟩
  · intro s' r b sz e hf
    obtain ⟨_, _, rfl, _⟩ := mstep_engage hf
    exact ⟨rfl, fun c => by simp [allCells]⟩

example : ∃ s, irun ⟨IPool.init 48 16, []⟩ (List.replicate 5 .get) = some s ∧ s.live.length = 3 := ⟨_, rfl, by decide⟩
example : ∃ s, srun (SOP.init 12 4 3) (List.replicate 5 .create) = some s ∧ s.objs.length = 3 := ⟨_, rfl, by decide⟩
example : SpecAlloc [0, 8, 16] [8] (some 0) [0, 8] := ⟨by decide, by decide, rfl⟩
example : SpecAlloc [0, 8] [8, 0] none [8, 0] := ⟨by decide, rfl⟩

/-- "memory is not lost", as a statement about the whole state: after ANY history (any
sizes, any interleaving, blocks freed in ANY order) that leaves no block live, the heap is
literally the initial heap again … -/
theorem heap_back_to_initial_state (cfg : Cfg) (ok : CfgOK cfg) (ops : List Op) (h : Heap)
    (hr : run cfg Heap.init ops = some h) (hl : h.live = []) : h = Heap.init := by
  obtain ⟨hb, hf⟩ := heap_returns_to_start cfg ok ops h hr hl
  cases h; simp only [Heap.init] at *; subst hb hf hl; rfl

/-- … so a maximal allocation succeeds again: on such a heap `malloc(n)` succeeds (at the
heap start) EXACTLY when the rounded request plus its header fits the configured arena
(always, without a heap end): no fragmentation survives the release of all blocks -/
theorem heap_max_alloc_after_release (cfg : Cfg) (ok : CfgOK cfg) (ops : List Op) (h : Heap)
    (hr : run cfg Heap.init ops = some h) (hl : h.live = []) (n : Nat) :
    ((malloc cfg h n).ret = some 8 ↔ (cfg.lim = 0 ∨ minLen (roundLen cfg.W n) + 8 ≤ cfg.lim)) ∧
    ((malloc cfg h n).ret = none ↔ ¬ (cfg.lim = 0 ∨ minLen (roundLen cfg.W n) + 8 ≤ cfg.lim)) := by
  rw [heap_back_to_initial_state cfg ok ops h hr hl]
  have hp := malloc_path cfg Heap.init n
  generalize malloc cfg Heap.init n = r at hp ⊢
  generalize minLen (roundLen cfg.W n) = len at hp ⊢
  cases hp with
  | take a s hm | carve a s hm => cases hm
  | refuse _ hl0 hlim =>
    simp only [Heap.init] at hlim
    exact ⟨⟨nofun, fun hc => by omega⟩, fun _ => by omega, fun _ => rfl⟩
  | extend _ hlim =>
    have : cfg.lim = 0 ∨ len + 8 ≤ cfg.lim := by
      by_cases h0 : cfg.lim = 0
      · exact .inl h0
      · have := hlim h0; simp only [Heap.init] at this; omega
    exact ⟨⟨fun _ => this, fun _ => rfl⟩, nofun, fun hc => absurd this hc⟩

/-- the corner requests of the C standard: `free(NULL)` does nothing; `realloc(NULL, n)` is
`malloc` of the rounded size (a valid block of at least `n` bytes when it succeeds); a model
history rejects a double free -/
theorem heap_corner_requests (cfg : Cfg) (ok : CfgOK cfg) (h : Heap) (n : Nat) (hr : Reach cfg h) :
    step cfg h (.free none) = some ⟨h, none, []⟩ ∧
    realloc cfg h none n = some (malloc cfg h (minLen (roundLen cfg.W n))) ∧
    (∀ r q, realloc cfg h none n = some r → r.ret = some q →
      ∃ s, r.h.live = (q - 8, s) :: h.live ∧ n ≤ s ∧ q % 8 = 0 ∧ ∀ c ∈ h.live, Disj c (q - 8, s)) ∧
    (∀ p r, free h p = some r → free r.h p = none) := by
  refine ⟨rfl, rfl, fun r q hre hq => ?_, fun p r hf => ?_⟩
  · cases hre
    obtain ⟨s, h1, _, h3, h4, _, _, h7⟩ := malloc_returns_valid_block cfg ok h _ q hr hq
    exact ⟨s, h1, by have := reqLen_ge cfg.W n; omega, h4, h7⟩
  · -- the chunk is gone from `live`: addresses of live chunks are pairwise distinct
    obtain ⟨hlive, _, sz, hl⟩ := free_live hf
    cases h2 : free r.h p with
    | none => rfl
    | some r2 =>
      obtain ⟨_, _, sz2, hl2⟩ := free_live h2
      rw [hlive, lookup_remove_none (hr.inv ok) hl] at hl2
      cases hl2

/-- INADMISSIBLE: a double free.  At the pointer level (what the code does) `free(p)` of a
chunk that already is the only free-list entry links it to itself (`fpnew->nx = fp1` with
`fp1 == fpnew`): the free list becomes cyclic and the next walk (malloc step 1) never ends. -/
theorem heap_double_free_witness :
    let cfg : Cfg := ⟨64, 0⟩
    let ph2 := (mallocP cfg (mallocP cfg PHeap.init 64 1).h 64 73).h
    let ph3 := (freeP ph2 8 145).h
    let ph4 := (freeP ph3 8 145).h
    walkFl ph3 50 = [(0, 64)] ∧ ph4.nxf 0 = some 0 ∧ (walkFl ph4 50).length = 50 := by decide

/-- realloc preserves the common prefix ON A CONCRETE BYTE MEMORY: run the stores of the
request (`execJ`: `memcpy` copies byte by byte, header stores write arbitrary bytes `junk`) —
the first `min(old size, request)` bytes of the returned block are the old payload bytes,
on all paths (in place: untouched; moved: copied before the old chunk is released) -/
theorem realloc_bytes_preserved (cfg : Cfg) (ok : CfgOK cfg) (h : Heap) (p n sz q : Nat) (r : Res)
    (hr : Reach cfg h) (hl : lookup (p - 8) h.live = some sz)
    (hs : realloc cfg h (some p) n = some r) (hq : r.ret = some q) (junk : Nat → Nat) (m : Mem) :
    ∀ i, i < min sz n → execJ junk m r.evs (q + i) = m (p + i) :=
  realloc_preserves_prefix cfg ok h p n sz q r hr hl hs hq m _ (exec_execJ junk r.evs m)

/-- … and the bytes of every OTHER live block (header and payload) are the same bytes after
any request, on the concrete memory -/
theorem heap_bytes_untouched (cfg : Cfg) (ok : CfgOK cfg) (h : Heap) (op : Op) (r : Res) (hr : Reach cfg h)
    (hs : step cfg h op = some r) (c : Chunk) (hc : c ∈ h.live) (hne : op.target ≠ some (c.1 + 8))
    (junk : Nat → Nat) (m : Mem) :
    ∀ x, c.1 ≤ x → x < c.1 + 8 + c.2 → execJ junk m r.evs x = m x :=
  (heap_contents_untouched cfg ok h op r hr hs c hc hne m _ (exec_execJ junk r.evs m)).2

example : execJ (fun _ => 0) (fun x => x + 1) [.w 0 8, .cp 80 8 3] 81 = 10 := by decide

/-! ### realloc: when does the block stay in place? (every neighbour configuration) -/

/-- EXACT characterisation of in-place reallocation, in terms of the heap layout only: the
block at `p` (usable size `sz`) keeps its address IF AND ONLY IF the rounded request `len`
(1) does not exceed `sz` (no-op or shrink-split, whatever the neighbours are), or (2) the
chunk directly ABOVE it is free and offers the missing bytes (`len − sz ≤ its sz + 8`), or
(3) the block is the topmost chunk, no free chunk anywhere could hold the request, and the
configured heap end (if any) is not passed.  In every other configuration — free chunk only
BELOW, guard above, free chunk above too small, a large enough hole elsewhere, heap end
reached — realloc answers NULL or MOVES the block (malloc + memcpy + free; `realloc_preserves_prefix`,
`realloc_bytes_preserved`). -/
theorem realloc_in_place_iff (cfg : Cfg) (ok : CfgOK cfg) (h : Heap) (p n sz : Nat) (r : Res)
    (hr : Reach cfg h) (hl : lookup (p - 8) h.live = some sz) (hs : realloc cfg h (some p) n = some r) :
    r.ret = some p ↔
      minLen (roundLen cfg.W n) ≤ sz ∨
      (∃ f ∈ h.flp, f.1 = p + sz ∧ minLen (roundLen cfg.W n) - sz ≤ f.2 + 8) ∨
      (h.brk = p + sz ∧ (∀ f ∈ h.flp, f.2 < minLen (roundLen cfg.W n)) ∧
        (cfg.lim = 0 ∨ p + minLen (roundLen cfg.W n) ≤ cfg.lim)) := by
  obtain ⟨a, rfl, hl, hp⟩ := realloc_path' hl hs
  generalize minLen (roundLen cfg.W n) = len at hp ⊢
  cases hp with
  | keep hle => exact ⟨fun _ => .inl hle, fun _ => rfl⟩
  | shrink hle => exact ⟨fun _ => .inl (by omega), fun _ => rfl⟩
  | growSplit hgt f hf hadj hfit | absorb hgt f hf hadj hfit =>
    exact ⟨fun _ => .inr (.inl ⟨f, hf, hadj, hfit⟩), fun _ => rfl⟩
  | topRefuse hgt hnone htop hno hl0 hlim =>
    refine ⟨nofun, ?_⟩
    rintro (h1 | ⟨f, hf, h1, h2⟩ | ⟨_, _, h3⟩)
    · omega
    · exact absurd ⟨h1, h2⟩ (hnone f hf)
    · omega
  | topExtend hgt hnone htop hno hlim =>
    refine ⟨fun _ => .inr (.inr ⟨htop, hno, ?_⟩), fun _ => rfl⟩
    by_cases h0 : cfg.lim = 0
    · exact .inl h0
    · exact .inr (hlim h0)
  | moveFail hgt hnone hnt =>
    refine ⟨nofun, ?_⟩
    rintro (h1 | ⟨f, hf, h1, h2⟩ | ⟨h1, h2, _⟩)
    · omega
    · exact absurd ⟨h1, h2⟩ (hnone f hf)
    · exact absurd ⟨h1, h2⟩ hnt
  | move hgt hnone hnt hm =>
    -- the fresh block is disjoint from the old one, so its address differs
    obtain ⟨s, _, _, _, hd⟩ := malloc_fresh ok (hr.inv ok) hm
    have := hd _ (lookup_mem hl)
    unfold Disj at this; simp only at this
    refine ⟨fun hc => ?_, ?_⟩
    · cases hc; omega
    · rintro (h1 | ⟨f, hf, h1, h2⟩ | ⟨h1, h2, _⟩)
      · omega
      · exact absurd ⟨h1, h2⟩ (hnone f hf)
      · exact absurd ⟨h1, h2⟩ hnt

example : ∃ r, realloc ⟨64, 0⟩ ⟨216, [(72, 64)], [(144, 64), (0, 64)]⟩ (some 8) 100 = some r ∧ r.ret = some 8 :=
  ⟨_, rfl, by decide⟩
example : ∃ r, realloc ⟨64, 0⟩ ⟨216, [(0, 64)], [(144, 64), (72, 64)]⟩ (some 80) 100 = some r ∧ r.ret = some 224 :=
  ⟨_, rfl, by decide⟩

/-- freeing EVERYTHING in ANY order: from every reachable heap, releasing the live blocks in
an arbitrary order (any permutation of the live payload pointers) is a valid history — no
request is rejected — and ends in the initial heap: break at the start, empty free list.
All coalescing (up, down, both, lowering of the break) happens on the way, whatever the order. -/
theorem heap_free_all_any_order (cfg : Cfg) (ok : CfgOK cfg) (h : Heap) (hr : Reach cfg h) (l : List Nat)
    (hp : l.Perm (h.live.map (fun c => c.1 + 8))) :
    run cfg h (l.map (fun p => Op.free (some p))) = some Heap.init := by
  induction l generalizing h with
  | nil =>
    have hl : h.live = [] := by
      have := hp.length_eq; simp only [List.length_nil, List.length_map] at this
      exact List.eq_nil_of_length_eq_zero this.symm
    obtain ⟨ops, hops⟩ := hr
    simp only [List.map_nil, run]
    rw [heap_back_to_initial_state cfg ok ops h hops hl]
  | cons p l ih =>
    have hmem : p ∈ h.live.map (fun c => c.1 + 8) := hp.mem_iff.1 (by simp)
    have h8 : 8 ≤ p := by
      obtain ⟨c, _, hc⟩ := List.mem_map.1 hmem
      omega
    have hmem' : (p - 8) + 8 ∈ h.live.map (fun c => c.1 + 8) := by
      have : p - 8 + 8 = p := by omega
      rw [this]; exact hmem
    obtain ⟨sz, hl⟩ := lookup_of_mem_addr hmem'
    obtain ⟨r, hf⟩ := free_total h8 hl
    have hlive := (free_live hf).1
    have hstep : step cfg h (.free (some p)) = some r := hf
    simp only [List.map_cons, run, hstep]
    apply ih r.h (hr.step hstep)
    rw [hlive, map_remove]
    have : p - 8 + 8 = p := by omega
    rw [this]
    have := hp.erase p
    simpa using this

example : run ⟨64, 0⟩ ⟨216, [(72, 64)], [(144, 64), (0, 64)]⟩ [.free (some 8), .free (some 152)] = some Heap.init := by decide

/-- `realloc(p, 0)` (after `fix: realloc() enforces malloc()'s minimum chunk size`): never
NULL, never moves, and the block stays live with at least the minimum chunk of 8 bytes — it
is NOT a `free` -/
theorem realloc_zero_keeps_block (cfg : Cfg) (ok : CfgOK cfg) (h : Heap) (p sz : Nat) (hr : Reach cfg h)
    (h8 : 8 ≤ p) (hl : lookup (p - 8) h.live = some sz) :
    ∃ r, realloc cfg h (some p) 0 = some r ∧ r.ret = some p ∧
      ∃ s, lookup (p - 8) r.h.live = some s ∧ 8 ≤ s := by
  obtain ⟨r, hs⟩ := realloc_total (cfg := cfg) (n := 0) h8 hl
  have hsz := ((hr.inv ok).wf_lookup hl).1
  have hlen : minLen (roundLen cfg.W 0) = 8 := by simp [roundLen, minLen]
  have hret : r.ret = some p := (realloc_in_place_iff cfg ok h p 0 sz r hr hl hs).2 (Or.inl (by rw [hlen]; exact hsz))
  obtain ⟨s, h1, _, _, _, _⟩ := realloc_returns_valid_block cfg ok h p 0 sz p r hr hl hs hret
  have hw := ((realloc_inv cfg ok h (some p) 0 r (hr.inv ok) hs).wf_lookup h1).1
  exact ⟨r, hs, hret, s, h1, hw⟩

/-- a request from a critical context (interrupt handler) aborts before it touches the heap —
except `free(NULL)`, which returns first; at level 0 it is the ordinary request. -/
theorem heap_critical_context_aborts (lvl base : Nat) (cfg : Cfg) (h : Heap) (op : Op) :
    (op ≠ .free none → 0 < lvl → stepCtx lvl base cfg h op = none) ∧
    (stepCtx 0 base cfg h op = some (stepA base cfg h op)) ∧
    (stepCtx lvl base cfg h (.free none) = some (some ⟨h, none, []⟩)) := by
  refine ⟨fun hne hl => ?_, ?_, rfl⟩
  · cases op with
    | malloc n => simp [stepCtx, hl]
    | free p => cases p with
      | none => exact absurd rfl hne
      | some p => simp [stepCtx, hl]
    | realloc p n => simp [stepCtx, hl]
  · cases op with
    | malloc n => simp [stepCtx]
    | free p => cases p <;> simp [stepCtx, stepA]
    | realloc p n => simp [stepCtx]

/-- the cells an iteration of igris::pool dereferences (`operator*` = `cell(_num)`) are live
cells, inside the zone -/
theorem ipool_iterator_deref (e n : Nat) (he : 0 < e) (ops : List IOp) (s : IState)
    (hr : irun ⟨IPool.init (n * e) e, []⟩ ops = some s) :
    ∀ i ∈ s.pool.iterAll, s.pool.cell i.toNat ∈ s.live ∧ s.pool.cell i.toNat + e ≤ n * e := by
  intro i hi
  obtain ⟨_, _, _, hel⟩ := irun_inv (IInv.init e n he) hr
  obtain ⟨h0, hn, hmem⟩ := (ipool_iteration_visits_live_cells e n he ops s hr).2.2.1 i hi
  have hcell : s.pool.cell i.toNat = i.toNat * e := by simp [IPool.cell, hel, Nat.mul_comm]
  rw [hcell]
  refine ⟨hmem, ?_⟩
  have hlt : i.toNat < n := by omega
  exact cell_in_zone hlt

/-! ## NULL answers of malloc and realloc, exactly -/

/-- EXACT characterisation of malloc's NULL answers, for EVERY heap state and request: NULL ⇔ a heap
end is configured ∧ no chunk of the free list can hold the (rounded) request ∧ the break cannot be
moved by the chunk (`rounded + 8` bytes) without passing the heap end.  (Totality: `malloc` is a
total function of the model; `malloc_fail_changes_nothing` says what NULL leaves behind.) -/
theorem malloc_null_iff (cfg : Cfg) (h : Heap) (n : Nat) :
    (malloc cfg h n).ret = none ↔
      cfg.lim ≠ 0 ∧ (∀ f ∈ h.flp, f.2 < minLen (roundLen cfg.W n)) ∧
        cfg.lim < h.brk + minLen (roundLen cfg.W n) + 8 := by
  have hp := malloc_path cfg h n
  generalize malloc cfg h n = r at hp ⊢
  generalize minLen (roundLen cfg.W n) = len at hp ⊢
  cases hp with
  | take a s hm hle => exact ⟨nofun, fun hc => absurd (hc.2.1 _ hm) (Nat.not_lt.2 hle)⟩
  | carve a s hm hle => exact ⟨nofun, fun hc => absurd (hc.2.1 _ hm) (by simp only; omega)⟩
  | refuse hno hl hlim => exact ⟨fun _ => ⟨hl, hno, hlim⟩, fun _ => rfl⟩
  | extend hno hlim => exact ⟨nofun, fun hc => absurd (hlim hc.1) (by omega)⟩

example : (malloc ⟨64, 136⟩ ⟨72, [], [(0, 64)]⟩ 64).ret = none ∧ (malloc ⟨64, 136⟩ ⟨72, [], [(0, 64)]⟩ 63).ret = none ∧
    (malloc ⟨64, 144⟩ ⟨72, [], [(0, 64)]⟩ 64).ret = some 80 := by decide

/-- EXACT characterisation of realloc's NULL answers, for every reachable heap and every live
block: NULL ⇔ the request is larger than the block ∧ a heap end is configured ∧ no free chunk can
hold the request ∧ the chunk directly above is not a free chunk large enough for in-place growth ∧ the break cannot be moved far enough — by `len − sz` for
the topmost chunk (in-place extension), by `len + 8` otherwise (the move path's `malloc`).
Together with `realloc_in_place_iff`: every call is exactly one of in place / NULL / moved, and
each region is described without the model's helper functions.  Totality:
`heap_valid_requests_never_fault`. -/
theorem realloc_null_iff (cfg : Cfg) (ok : CfgOK cfg) (h : Heap) (p n sz : Nat) (r : Res)
    (hr : Reach cfg h) (hl : lookup (p - 8) h.live = some sz) (hs : realloc cfg h (some p) n = some r) :
    r.ret = none ↔
      sz < minLen (roundLen cfg.W n) ∧ cfg.lim ≠ 0 ∧
      (∀ f ∈ h.flp, f.2 < minLen (roundLen cfg.W n)) ∧
      (¬ ∃ f ∈ h.flp, f.1 = p + sz ∧ minLen (roundLen cfg.W n) - sz ≤ f.2 + 8) ∧
      (if h.brk = p + sz then cfg.lim < p + minLen (roundLen cfg.W n)
       else cfg.lim < h.brk + minLen (roundLen cfg.W n) + 8) := by
  have hsz8 := ((hr.inv ok).wf_lookup hl).1
  have hmn := malloc_null_iff cfg h (minLen (roundLen cfg.W n))
  have hid := reqLen_idem cfg ok n
  obtain ⟨a, rfl, hl, hp⟩ := realloc_path' hl hs
  generalize minLen (roundLen cfg.W n) = len at *
  cases hp with
  | keep hle | shrink hle => exact ⟨nofun, fun hc => absurd hc.1 (by omega)⟩
  | growSplit hgt f hf hadj hfit | absorb hgt f hf hadj hfit =>
    exact ⟨nofun, fun hc => absurd ⟨f, hf, hadj, hfit⟩ hc.2.2.2.1⟩
  | topRefuse hgt hnone htop hno hl0 hlim =>
    exact ⟨fun _ => ⟨hgt, hl0, hno, fun ⟨f, hf, hc⟩ => hnone f hf hc, by rw [if_pos htop]; exact hlim⟩, fun _ => rfl⟩
  | topExtend hgt hnone htop hno hlim =>
    refine ⟨nofun, fun hc => ?_⟩
    have := hc.2.2.2.2
    rw [if_pos htop] at this
    exact absurd (hlim hc.2.1) (by omega)
  | moveFail hgt hnone hnt hm =>
    rw [hid (by omega)] at hmn
    obtain ⟨h0, hno, hlt⟩ := hmn.1 hm
    refine ⟨fun _ => ⟨hgt, h0, hno, fun ⟨f, hf, hc⟩ => hnone f hf hc, ?_⟩, fun _ => rfl⟩
    rw [if_neg (fun hb => hnt ⟨hb, hno⟩)]; exact hlt
  | move hgt hnone hnt hm =>
    rw [hid (by omega)] at hmn
    refine ⟨nofun, fun ⟨_, h0, hno, _, hif⟩ => ?_⟩
    rw [if_neg (fun hb => hnt ⟨hb, hno⟩)] at hif
    have := hmn.2 ⟨h0, hno, hif⟩
    rw [hm] at this; cases this

example : ∃ r, realloc ⟨64, 200⟩ ⟨144, [], [(72, 64), (0, 64)]⟩ (some 80) 100 = some r ∧ r.ret = none := ⟨_, rfl, rfl⟩
example : ∃ r, realloc ⟨64, 200⟩ ⟨144, [], [(72, 64), (0, 64)]⟩ (some 8) 100 = some r ∧ r.ret = none := ⟨_, rfl, rfl⟩

/-- EXACT characterisation of the NULL answers of malloc WITH 64-bit sizes and addresses (what the
driver runs, `mallocA`): NULL ⇔ the rounding of the request wraps, or no free chunk can hold the
rounded request and the break cannot move: without a heap end because the new chunk would cross
the top of the address space (`len > SIZE_MAX − 8 ∨ len + 8 > SIZE_MAX − (base + brk)`), with a
heap end because `lim < brk + len + 8`. -/
theorem mallocA_null_iff (base : Nat) (cfg : Cfg) (h : Heap) (n : Nat) :
    (mallocA base cfg h n).ret = none ↔
      (n % cfg.W ≠ 0 ∧ n > SIZE_MAX - (cfg.W - n % cfg.W)) ∨
      ((∀ f ∈ h.flp, f.2 < minLen (roundLen cfg.W n)) ∧
        (if cfg.lim = 0 then
          minLen (roundLen cfg.W n) > SIZE_MAX - 8 ∨ minLen (roundLen cfg.W n) + 8 > SIZE_MAX - (base + h.brk)
         else cfg.lim < h.brk + minLen (roundLen cfg.W n) + 8)) := by
  have hR := mallocRefusesA_iff base cfg h n
  rcases mallocA_cases base cfg h n with ⟨hc, he⟩ | ⟨hw, hnr, he⟩ <;> rw [he]
  · refine ⟨fun _ => hc.imp_right fun h2 => ?_, fun _ => rfl⟩
    obtain ⟨hl0, hall, hbw⟩ := hR.1 h2
    exact ⟨hall, by rw [if_pos hl0]; exact hbw⟩
  · rw [malloc_null_iff]
    constructor
    · rintro ⟨hl0, hall, hlt⟩; exact .inr ⟨hall, by rw [if_neg hl0]; exact hlt⟩
    · rintro (hc | ⟨hall, hif⟩)
      · exact absurd hc hw
      · by_cases hl0 : cfg.lim = 0
        · rw [if_pos hl0] at hif; rw [hR.2 ⟨hl0, hall, hif⟩] at hnr; cases hnr
        · rw [if_neg hl0] at hif; exact ⟨hl0, hall, hif⟩

example : (mallocA (2 ^ 46) ⟨64, 0⟩ ⟨72, [], [(0, 64)]⟩ (2 ^ 64 - 64)).ret = none := by decide

/-- EXACT characterisation of the NULL answers of realloc WITH 64-bit sizes and addresses
(`reallocA`, what the driver runs), for every reachable heap, every live block, any `base`:
NULL ⇔ the rounding of the request wraps, or `ptr + len` wraps (`cp < cp1`), or the request
exceeds the block ∧ no free chunk can hold it ∧ the chunk directly above is not a sufficient
free chunk ∧ the break cannot move: without a heap end only for a block that is NOT the topmost
chunk, when the chunk `malloc` would append crosses the top of the address space; with a heap
end when `lim < p + len` (topmost) resp. `lim < brk + len + 8`. -/
theorem reallocA_null_iff (base : Nat) (cfg : Cfg) (ok : CfgOK cfg) (h : Heap) (p n sz : Nat) (r : Res)
    (hr : Reach cfg h) (hl : lookup (p - 8) h.live = some sz) (hs : reallocA base cfg h (some p) n = some r) :
    r.ret = none ↔
      (n % cfg.W ≠ 0 ∧ n > SIZE_MAX - (cfg.W - n % cfg.W)) ∨
      (base + p + minLen (roundLen cfg.W n)) % 2 ^ 64 < base + p - 8 ∨
      (sz < minLen (roundLen cfg.W n) ∧ (∀ f ∈ h.flp, f.2 < minLen (roundLen cfg.W n)) ∧
        (¬ ∃ f ∈ h.flp, f.1 = p + sz ∧ minLen (roundLen cfg.W n) - sz ≤ f.2 + 8) ∧
        (if cfg.lim = 0 then
          h.brk ≠ p + sz ∧ (minLen (roundLen cfg.W n) > SIZE_MAX - 8 ∨
            minLen (roundLen cfg.W n) + 8 > SIZE_MAX - (base + h.brk))
         else if h.brk = p + sz then cfg.lim < p + minLen (roundLen cfg.W n)
         else cfg.lim < h.brk + minLen (roundLen cfg.W n) + 8)) := by
  have hsz8 := ((hr.inv ok).wf_lookup hl).1
  have hid := reqLen_idem cfg ok n
  have hR := mallocRefusesA_iff base cfg h (minLen (roundLen cfg.W n))
  have hmv := reachesMove_iff cfg h p (minLen (roundLen cfg.W n)) sz hl
  have hrn := realloc_null_iff cfg ok h p n sz r hr hl
  unfold reallocA reallocWrapTest at hs
  generalize minLen (roundLen cfg.W n) = len at *
  -- the move path asks `malloc` for `len` again, and `len > sz ≥ 8` is its own rounding
  have hR' : sz < len → (mallocRefusesA base cfg h len = true ↔
      cfg.lim = 0 ∧ (∀ f ∈ h.flp, f.2 < len) ∧ (len > SIZE_MAX - 8 ∨ len + 8 > SIZE_MAX - (base + h.brk))) :=
    fun hlt => by rw [hR, hid (by omega)]
  simp only [decide_eq_true_eq, Bool.and_eq_true] at hs
  split at hs
  · rename_i hw; cases hs; exact ⟨fun _ => .inl hw, fun _ => rfl⟩
  rename_i hw
  split at hs
  · rename_i hwt; cases hs; exact ⟨fun _ => .inr (.inl hwt), fun _ => rfl⟩
  rename_i hwt
  split at hs
  · rename_i href; cases hs
    obtain ⟨h1, h2, h3⟩ := hmv.1 href.1
    obtain ⟨hl0, hall, hbw⟩ := (hR' h1).1 href.2
    refine ⟨fun _ => .inr (.inr ⟨h1, hall, fun ⟨f, hf, hc⟩ => h2 f hf hc, ?_⟩), fun _ => rfl⟩
    rw [if_pos hl0]; exact ⟨fun hb => h3 ⟨hb, hall⟩, hbw⟩
  · rename_i href
    rw [hrn hs]
    constructor
    · rintro ⟨h1, hl0, hall, hno, hif⟩
      exact .inr (.inr ⟨h1, hall, hno, by rw [if_neg hl0]; exact hif⟩)
    · rintro (hc | hc | ⟨h1, hall, hno, hif⟩)
      · exact absurd hc hw
      · exact absurd hc hwt
      · by_cases hl0 : cfg.lim = 0
        · rw [if_pos hl0] at hif
          exact absurd ⟨hmv.2 ⟨h1, fun f hf hc => hno ⟨f, hf, hc⟩, fun hc => hif.1 hc.1⟩, (hR' h1).2 ⟨hl0, hall, hif.2⟩⟩ href
        · rw [if_neg hl0] at hif; exact ⟨h1, hl0, hall, hno, hif⟩

example : ∃ r, reallocA (2 ^ 46) ⟨64, 0⟩ ⟨144, [], [(72, 64), (0, 64)]⟩ (some 8) (2 ^ 64 - 2 ^ 46 - 64) = some r ∧ r.ret = none :=
  ⟨_, rfl, by decide⟩

/-- WHAT THE DRIVER PRINTS after a successful `realloc` of a block that the harness had filled
with the pattern `seed` over its `oldn ≤ sz` requested bytes: the digest of the first
`min(oldn, n)` bytes of the RETURNED block, computed by executing the model's stores (`execJ`:
the `memcpy` of the move path, the header writes with arbitrary bytes) on the old block's
bytes, IS the digest of the pattern itself — for every junk, every memory content outside the
block, all six paths.  The harness prints the digest of the real bytes: a difference is a lost
prefix, shown with the model's own bytes. -/
theorem realloc_digest_is_pattern (cfg : Cfg) (ok : CfgOK cfg) (h : Heap) (p n sz q : Nat) (r : Res)
    (hr : Reach cfg h) (hl : lookup (p - 8) h.live = some sz)
    (hs : realloc cfg h (some p) n = some r) (hq : r.ret = some q) (junk : Nat → Nat)
    (oldn seed other : Nat) (hold : oldn ≤ sz) :
    prefixDigest (execJ junk (patMem p oldn seed other) r.evs) q (min oldn n) =
      prefixDigest (fun i => pat seed i) 0 (min oldn n) := by
  unfold prefixDigest
  apply digestFrom_congr
  intro j _ hj
  have := realloc_bytes_preserved cfg ok h p n sz q r hr hl hs hq junk (patMem p oldn seed other) j (by omega)
  rw [this]
  unfold patMem
  have h1 : p ≤ p + j ∧ p + j < p + oldn := by omega
  rw [if_pos h1]
  simp

example : prefixDigest (fun i => pat 1 i) 0 3 = ((pat 1 0 * 31 + pat 1 1) * 31 + pat 1 2) % 2 ^ 32 := by decide

/-- `heap_addr_history` is EXACT in `W`: for `__WORDSIZE = 8` (a power of two and a multiple
of 8, but below 16 — not a configuration the port ships: `<bits/wordsize.h>` gives 32 or 64)
the statement fails.  `malloc(8); realloc(p, 2⁶⁴ − 8)`: the request needs no rounding, realloc's
wrap test computes `cp = ptr + len = ptr − 8 = cp1` (mod 2⁶⁴), `cp < cp1` is false, the chunk
is the topmost one, and the break is set to `cp`: in the offset model `brk = 2⁶⁴`, i.e. the
break ADDRESS wraps (in the code it lands on the chunk's own header).  With `16 ≤ W` a rounded
request is at most `2⁶⁴ − 16` and the test is exact (`heap_addr_wrap_test_exact`). -/
theorem heap_addr_history_w8_witness :
    (8 : Nat) ∣ 2 ^ 64 ∧ (∀ op ∈ [Op.malloc 8, Op.realloc (some 8) (2 ^ 64 - 8)], op.sizeOK) ∧
    ∃ h, runA (2 ^ 46) ⟨8, 0⟩ Heap.init [.malloc 8, .realloc (some 8) (2 ^ 64 - 8)] = some h ∧
      ¬ (2 ^ 46 + h.brk ≤ SIZE_MAX) ∧ reallocWrapTest (2 ^ 46) 8 (2 ^ 64 - 8) = false := by
  refine ⟨⟨2 ^ 61, by decide⟩, ?_, _, rfl, by decide, by decide⟩
  intro op hop
  simp only [List.mem_cons, List.not_mem_nil, or_false] at hop
  rcases hop with rfl | rfl <;> simp [Op.sizeOK, SIZE_MAX]

/-! ### static_object_pool: a `T` constructor that throws -/

/-- `create(args…)` whose constructor throws leaves the pool EXACTLY as it was — same free list
(the cell is pushed back where it was popped), same objects, no fault — for every state; the
exception reaches the caller iff a cell was free (otherwise `nullptr` before any constructor
runs).  Hence every theorem about create/destroy histories (`sop_lifetimes`, `sopx_lifetimes`,
`sop_null_iff_exhausted`, …: `avail = Capacity − live`) holds unchanged for histories with throwing
constructors interleaved at arbitrary points. -/
theorem sop_create_throw_keeps_pool (p : SOP) :
    p.createThrow.2 = p ∧ (p.createThrow.1 = true ↔ p.head.free ≠ []) := by
  obtain ⟨⟨fr⟩, objs, flt⟩ := p
  cases fr with
  | nil => simp [SOP.createThrow, Pool.alloc]
  | cons c rest => simp [SOP.createThrow, Pool.alloc, Pool.release]

/-- FULL STATEMENT ("free count = capacity − live") violated by the routine as it was (before
`fix: static_object_pool::create returns the cell when the constructor throws`): one throwing
constructor on a fresh pool of 2 cells: no object lives, `avail() = 1 ≠ 2 − 0`; the cell is
never handed out again (after two more creates the pool answers null with ONE object short of
its capacity). -/
theorem sop_create_throw_orig_witness :
    let p0 := SOP.init 8 8 2
    let p1 := p0.createThrowOrig.2
    p0.createThrowOrig.1 = true ∧ p1.objs = [] ∧ p1.avail = 1 ∧
    ((p1.create.2).create.2).create.1 = none ∧ ((p1.create.2).create.2).objs.length = 1 ∧
    (p0.createThrow.2).avail = 2 := by decide

example : (SOP.init 8 8 2).createThrow.1 = true := by decide

end Igris.C10
