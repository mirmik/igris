/-
  C10 — lemmas for the 64-bit ADDRESS level of the heap (`mallocA`, `reallocA`, `stepA`, `runA` and the
  wrap tests `brkWraps`, `reallocWrapTest`; Model.lean, section "64-bit ADDRESSES"): every address-level
  request is a request of the list-level model or changes nothing, and the break stays below the top of the
  address space (`stepA_sim`).
-/
import IgrisModel.C10.Lemmas
namespace Igris.C10

theorem SIZE_MAX_eq : SIZE_MAX = 18446744073709551615 := by decide

theorem two_pow_64 : (2 : Nat) ^ 64 = 18446744073709551616 := by decide

/-- the C test `len > SIZE_MAX - 8 || len + 8 > SIZE_MAX - brkaddr` says: the new
chunk (header + payload) does not fit below the top of the address space -/
theorem brkWraps_iff (base : Nat) (h : Heap) (len : Nat) (hb : base + h.brk ≤ SIZE_MAX) :
    brkWraps base h len = true ↔ SIZE_MAX < base + h.brk + (len + 8) := by
  simp only [brkWraps, Bool.or_eq_true, decide_eq_true_eq]
  rw [SIZE_MAX_eq] at *
  omega

theorem malloc_brk (cfg : Cfg) (h : Heap) (n : Nat) :
    (malloc cfg h n).h.brk = h.brk ∨
    (reachesStep3 cfg h n = true ∧ (malloc cfg h n).h.brk = h.brk + (minLen (roundLen cfg.W n) + 8)) := by
  have h3 := reachesStep3_iff cfg h n
  have hp := malloc_path cfg h n
  generalize malloc cfg h n = r at hp ⊢
  cases hp with
  | take | carve | refuse => exact .inl rfl
  | extend hno => exact .inr ⟨h3.2 hno, rfl⟩

theorem lowerBrk_le (brk : Nat) (l : List Chunk) : (lowerBrk brk l).2 ≤ brk := by
  induction l with
  | nil => simp [lowerBrk]
  | cons f r ih =>
    cases r with
    | nil => simp only [lowerBrk]; split <;> simp <;> omega
    | cons g r => simpa [lowerBrk] using ih

theorem free_brk_le {h : Heap} {p : Nat} {r : Res} (hr : free h p = some r) : r.h.brk ≤ h.brk := by
  obtain ⟨_, sz, _, _, hfl | ⟨_, hfl⟩⟩ := free_some hr
  · have e : r.h.brk = (lowerBrk h.brk (insFree (p - 8, sz) h.flp)).2 := (Prod.ext_iff.1 hfl).2
    rw [e]; exact lowerBrk_le _ _
  · have e : r.h.brk = h.brk := (Prod.ext_iff.1 hfl).2
    rw [e]; exact Nat.le_refl _

/-- realloc's pointer comparison `cp < cp1` is exactly "ptr + len does not fit 64 bits"
(for a rounded request below `2⁶⁴ − 8`) -/
theorem reallocWrapTest_iff (base p len : Nat) (hb : base + p ≤ SIZE_MAX) (hl : len < 2 ^ 64 - 8) :
    reallocWrapTest base p len = true ↔ SIZE_MAX < base + p + len := by
  simp only [reallocWrapTest, decide_eq_true_eq]
  rw [SIZE_MAX_eq] at *
  have := two_pow_64
  rw [this] at *
  omega

theorem realloc_brk (cfg : Cfg) (h : Heap) (p n : Nat) (r : Res) (hr : realloc cfg h (some p) n = some r) :
    r.h.brk ≤ h.brk ∨ r.h.brk = p + minLen (roundLen cfg.W n) ∨
    (reachesMove cfg h p (minLen (roundLen cfg.W n)) = true ∧
      r.h.brk ≤ (malloc cfg h (minLen (roundLen cfg.W n))).h.brk) := by
  obtain ⟨a, sz, rfl, hl, hp⟩ := realloc_path hr
  have hmv := reachesMove_iff cfg h (a + 8) (minLen (roundLen cfg.W n)) sz (by rw [Nat.add_sub_cancel]; exact hl)
  cases hp with
  | keep | growSplit | absorb | topRefuse | moveFail => exact .inl (Nat.le_refl _)
  | shrink _ _ hf => exact .inl (free_brk_le hf :)
  | topExtend => exact .inr (.inl rfl)
  | move hgt hnone hnt _ hf => exact .inr (.inr ⟨hmv.2 ⟨hgt, hnone, hnt⟩, (free_brk_le hf :)⟩)

theorem malloc_top (base : Nat) (cfg : Cfg) (ok : CfgOK cfg) (h : Heap) (n : Nat)
    (hi : HInv cfg h) (htop : base + h.brk ≤ SIZE_MAX) (hlim : cfg.lim ≠ 0 → base + cfg.lim ≤ SIZE_MAX)
    (hnr : mallocRefusesA base cfg h n = false) : base + (malloc cfg h n).h.brk ≤ SIZE_MAX := by
  by_cases hl : cfg.lim = 0
  · rcases malloc_brk cfg h n with hb | ⟨h3, hb⟩
    · rw [hb]; exact htop
    · rw [hb]
      simp only [mallocRefusesA, hl, h3, beq_self_eq_true, Bool.true_and] at hnr
      have hw := brkWraps_iff base h (minLen (roundLen cfg.W n)) htop
      rw [hnr] at hw
      simp only [Bool.false_eq_true, false_iff, Nat.not_lt] at hw
      omega
  · have := (malloc_inv cfg ok h n hi).lim hl
    have := hlim hl
    omega

theorem mallocA_cases (base : Nat) (cfg : Cfg) (h : Heap) (n : Nat) :
    (((n % cfg.W ≠ 0 ∧ n > SIZE_MAX - (cfg.W - n % cfg.W)) ∨ mallocRefusesA base cfg h n = true) ∧
      mallocA base cfg h n = ⟨h, none, []⟩) ∨
    (¬ (n % cfg.W ≠ 0 ∧ n > SIZE_MAX - (cfg.W - n % cfg.W)) ∧ mallocRefusesA base cfg h n = false ∧
      mallocA base cfg h n = malloc cfg h n) := by
  unfold mallocA
  split
  · rename_i h1; exact .inl ⟨.inl h1, rfl⟩
  · rename_i h1
    split
    · rename_i h2; exact .inl ⟨.inr h2, rfl⟩
    · rename_i hnr; exact .inr ⟨h1, by simpa using hnr, rfl⟩

theorem mallocRefusesA_iff (base : Nat) (cfg : Cfg) (h : Heap) (n : Nat) :
    mallocRefusesA base cfg h n = true ↔
      cfg.lim = 0 ∧ (∀ f ∈ h.flp, f.2 < minLen (roundLen cfg.W n)) ∧
        (minLen (roundLen cfg.W n) > SIZE_MAX - 8 ∨ minLen (roundLen cfg.W n) + 8 > SIZE_MAX - (base + h.brk)) := by
  simp only [mallocRefusesA, brkWraps, Bool.and_eq_true, beq_iff_eq, Bool.or_eq_true, decide_eq_true_eq,
    reachesStep3_iff, and_assoc]

/-- a representable request, rounded: a multiple of `W` below `2⁶⁴`, hence at most `2⁶⁴ − W` -/
theorem reqLen_lt (cfg : Cfg) (ok : CfgOK cfg) (hWd : cfg.W ∣ 2 ^ 64) (hW16 : 16 ≤ cfg.W) (n : Nat)
    (hn : n ≤ SIZE_MAX) (hrep : ¬ (n % cfg.W ≠ 0 ∧ n > SIZE_MAX - (cfg.W - n % cfg.W))) :
    minLen (roundLen cfg.W n) < 2 ^ 64 - 8 := by
  have hd := roundLen_dvd cfg.W n ok.pos
  have hle : roundLen cfg.W n ≤ SIZE_MAX := by
    unfold roundLen
    have := Nat.mod_lt n ok.pos
    split
    · rename_i hm
      have hc : ¬ n > SIZE_MAX - (cfg.W - n % cfg.W) := fun hc => hrep ⟨hm, hc⟩
      have h1 : cfg.W - n % cfg.W + n % cfg.W = cfg.W := Nat.sub_add_cancel (Nat.le_of_lt this)
      have h2 : cfg.W ≤ 2 ^ 64 := Nat.le_of_dvd (by decide) hWd
      have h3 : n % cfg.W ≤ n := Nat.mod_le _ _
      have h4 := two_pow_64
      rw [SIZE_MAX_eq] at *; omega
    · exact hn
  obtain ⟨k, hk⟩ := hd
  obtain ⟨m, hm⟩ := hWd
  have hkm : k < m := by
    apply Nat.lt_of_mul_lt_mul_left (a := cfg.W)
    rw [← hk, ← hm]; rw [SIZE_MAX_eq] at hle
    have := two_pow_64
    omega
  have h1 : cfg.W * (k + 1) ≤ cfg.W * m := Nat.mul_le_mul_left _ hkm
  rw [Nat.mul_add, Nat.mul_one, ← hk, ← hm] at h1
  unfold minLen
  have := two_pow_64
  split <;> omega

theorem reallocA_cases (base : Nat) (cfg : Cfg) (h : Heap) (ptr : Option Nat) (n : Nat) (r : Res)
    (hr : reallocA base cfg h ptr n = some r) :
    r = ⟨h, none, []⟩ ∨
    (ptr = none ∧ r = mallocA base cfg h (minLen (roundLen cfg.W n))) ∨
    (∃ p, ptr = some p ∧ ¬ (n % cfg.W ≠ 0 ∧ n > SIZE_MAX - (cfg.W - n % cfg.W)) ∧
      reallocWrapTest base p (minLen (roundLen cfg.W n)) = false ∧
      (reachesMove cfg h p (minLen (roundLen cfg.W n)) && mallocRefusesA base cfg h (minLen (roundLen cfg.W n))) = false ∧
      realloc cfg h (some p) n = some r) := by
  unfold reallocA at hr
  split at hr
  · simp only [Option.some.injEq] at hr; left; exact hr.symm
  · rename_i hrep
    simp only at hr
    split at hr
    · simp only [Option.some.injEq] at hr; right; left; exact ⟨rfl, hr.symm⟩
    · rename_i p
      split at hr
      · simp only [Option.some.injEq] at hr; left; exact hr.symm
      · rename_i hw
        split at hr
        · simp only [Option.some.injEq] at hr; left; exact hr.symm
        · rename_i hm
          right; right
          exact ⟨p, rfl, hrep, by simpa using hw, by simpa using hm, hr⟩

theorem realloc_top (base : Nat) (cfg : Cfg) (ok : CfgOK cfg) (hWd : cfg.W ∣ 2 ^ 64) (hW16 : 16 ≤ cfg.W)
    (h : Heap) (p n : Nat) (r : Res) (hn : n ≤ SIZE_MAX) (hi : HInv cfg h) (htop : base + h.brk ≤ SIZE_MAX)
    (hlim : cfg.lim ≠ 0 → base + cfg.lim ≤ SIZE_MAX)
    (hrep : ¬ (n % cfg.W ≠ 0 ∧ n > SIZE_MAX - (cfg.W - n % cfg.W)))
    (hw : reallocWrapTest base p (minLen (roundLen cfg.W n)) = false)
    (hm : (reachesMove cfg h p (minLen (roundLen cfg.W n)) && mallocRefusesA base cfg h (minLen (roundLen cfg.W n))) = false)
    (hre : realloc cfg h (some p) n = some r) : base + r.h.brk ≤ SIZE_MAX := by
  obtain ⟨a, sz, rfl, hl, _⟩ := realloc_path hre
  have hfin := hi.fin_le_brk (Or.inr (lookup_mem hl))
  simp only at hfin
  rcases realloc_brk cfg h _ n r hre with hb | hb | ⟨hmv, hb⟩
  · omega
  · rw [hb]
    have hlen := reqLen_lt cfg ok hWd hW16 n hn hrep
    have := reallocWrapTest_iff base (a + 8) (minLen (roundLen cfg.W n)) (by omega) hlen
    rw [hw] at this
    simp only [Bool.false_eq_true, false_iff, Nat.not_lt] at this
    omega
  · rw [hmv, Bool.true_and] at hm
    have := malloc_top base cfg ok h (minLen (roundLen cfg.W n)) hi htop hlim hm
    omega

def Op.sizeOK : Op → Prop
  | .malloc n => n ≤ SIZE_MAX
  | .free _ => True
  | .realloc _ n => n ≤ SIZE_MAX

theorem stepA_sim (base : Nat) (cfg : Cfg) (ok : CfgOK cfg) (hWd : cfg.W ∣ 2 ^ 64) (hW16 : 16 ≤ cfg.W)
    (h : Heap) (op : Op) (r : Res) (hsz : op.sizeOK) (hreach : Reach cfg h) (htop : base + h.brk ≤ SIZE_MAX)
    (hlim : cfg.lim ≠ 0 → base + cfg.lim ≤ SIZE_MAX) (hs : stepA base cfg h op = some r) :
    Reach cfg r.h ∧ base + r.h.brk ≤ SIZE_MAX := by
  have hi := hreach.inv ok
  have hmal : ∀ n, Reach cfg (mallocA base cfg h n).h ∧ base + (mallocA base cfg h n).h.brk ≤ SIZE_MAX := fun n => by
    rcases mallocA_cases base cfg h n with ⟨_, he⟩ | ⟨_, hnr, he⟩
    · rw [he]; exact ⟨hreach, htop⟩
    · rw [he]; exact ⟨hreach.step (op := .malloc n) rfl, malloc_top base cfg ok h n hi htop hlim hnr⟩
  cases op with
  | malloc n => cases hs; exact hmal n
  | free p =>
    cases p with
    | none => cases hs; exact ⟨hreach, htop⟩
    | some p => exact ⟨hreach.step (op := .free (some p)) hs, by have := free_brk_le (show free h p = some r from hs); omega⟩
  | realloc ptr n =>
    rcases reallocA_cases base cfg h ptr n r hs with rfl | ⟨_, rfl⟩ | ⟨p, rfl, hrep, hw, hm, hre⟩
    · exact ⟨hreach, htop⟩
    · exact hmal _
    · exact ⟨hreach.step (op := .realloc (some p) n) hre,
        realloc_top base cfg ok hWd hW16 h p n r hsz hi htop hlim hrep hw hm hre⟩

theorem runA_inv (base : Nat) (cfg : Cfg) (ok : CfgOK cfg) (hWd : cfg.W ∣ 2 ^ 64) (hW16 : 16 ≤ cfg.W)
    (ops : List Op) (h h' : Heap) (hsz : ∀ op ∈ ops, op.sizeOK)
    (hreach : Reach cfg h) (htop : base + h.brk ≤ SIZE_MAX) (hlim : cfg.lim ≠ 0 → base + cfg.lim ≤ SIZE_MAX)
    (hr : runA base cfg h ops = some h') : Reach cfg h' ∧ base + h'.brk ≤ SIZE_MAX := by
  induction ops generalizing h with
  | nil => simp only [runA, Option.some.injEq] at hr; subst hr; exact ⟨hreach, htop⟩
  | cons op ops ih =>
    simp only [runA] at hr
    split at hr
    · cases hr
    · rename_i r hs
      obtain ⟨h1, h2⟩ := stepA_sim base cfg ok hWd hW16 h op r (hsz op (by simp)) hreach htop hlim hs
      exact ih r.h (fun o ho => hsz o (by simp [ho])) h1 h2 hr

end Igris.C10
