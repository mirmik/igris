/-
  C10 — fixed-block pools.  `pool_engage` threads the cells of the zone onto the free list; the invariant
  `PInv` of every pool model says that free list ++ handed-out cells is a permutation of those cells
  (`IInv` adds `_count` = length of the free list for igris::pool, `SInv` that the object pool has
  not faulted).  `Chain` / `Rep`: the `next` fields in memory represent a list hanging off the head.
-/
import IgrisModel.C10.LemmasMem
namespace Igris.C10

def cells (e n : Nat) : List Nat := (List.range n).map (· * e)

theorem engageLoop_evs (e stop : Nat) : ∀ fuel it fl,
    engageLoop e stop fuel it fl = ((engageEvs e stop fuel it).map Ev.lo).reverse ++ fl := by
  intro fuel
  induction fuel with
  | zero => intro it fl; rfl
  | succ fuel ih =>
    intro it fl
    simp only [engageLoop, engageEvs]
    split
    · simp [ih, Ev.lo]
    · rfl

/-- `hn` is what the guard `it < stop` of `pool_engage`'s loop says on cell addresses, so a `stop` that is not whole
cells is no separate case -/
theorem engageEvs_eq (e b stop n : Nat) (hn : ∀ j, b + j * e < stop ↔ j < n) : ∀ fuel k, k ≤ n →
    engageEvs e stop fuel (b + k * e) = (List.range' k (min fuel (n - k))).map (fun j => Ev.w (b + j * e) 8) := by
  intro fuel
  induction fuel with
  | zero => intro k _; simp [engageEvs]
  | succ fuel ih =>
    intro k hk
    simp only [engageEvs, hn]
    split
    · have h2 : b + k * e + e = b + (k + 1) * e := by rw [Nat.add_mul, Nat.one_mul]; omega
      have h3 : min (fuel + 1) (n - k) = min fuel (n - (k + 1)) + 1 := by omega
      rw [h2, ih (k + 1) (by omega), h3, List.range'_succ]
      rfl
    · have : n - k = 0 := by omega
      simp [this]

theorem guard_whole {e b n : Nat} (he : 0 < e) (j : Nat) : b + j * e < b + n * e ↔ j < n := by
  rw [Nat.add_lt_add_iff_left]; exact Nat.mul_lt_mul_right he

theorem engageEvs_base (e b n : Nat) (he : 0 < e) (fuel : Nat) :
    engageEvs e (b + n * e) fuel b = (List.range' 0 (min fuel n)).map (fun j => Ev.w (b + j * e) 8) := by
  have h := engageEvs_eq e b _ n (guard_whole he) fuel 0 (Nat.zero_le _)
  rwa [Nat.zero_mul, Nat.add_zero, Nat.sub_zero] at h

theorem engageEvs_mem (e b n : Nat) (he : 0 < e) (fuel j : Nat) (hjn : j < n) (hf : n < fuel) :
    Ev.w (b + j * e) 8 ∈ engageEvs e (b + n * e) fuel b := by
  rw [engageEvs_base e b n he, Nat.min_eq_right (by omega)]
  exact List.mem_map.2 ⟨j, List.mem_range'_1.2 (by omega), rfl⟩

theorem engageEvs_cells (e b n : Nat) (he : 0 < e) (fuel : Nat) :
    ∀ ev ∈ engageEvs e (b + n * e) fuel b, ∃ k, k < n ∧ ev = .w (b + k * e) 8 := by
  intro ev hev
  rw [engageEvs_base e b n he] at hev
  obtain ⟨j, hj, rfl⟩ := List.mem_map.1 hev
  have := List.mem_range'_1.1 hj
  exact ⟨j, by omega, rfl⟩

theorem cell_in_zone {e n i : Nat} (hi : i < n) : i * e + e ≤ n * e := by
  have : (i + 1) * e ≤ n * e := Nat.mul_le_mul_right e hi
  rw [Nat.add_mul, Nat.one_mul] at this; exact this

theorem engageEvs_inside (e b n : Nat) (he : 8 ≤ e) (fuel : Nat) :
    ∀ ev ∈ engageEvs e (b + n * e) fuel b, ev.Inside b (b + n * e) := by
  intro ev hev
  obtain ⟨j, hj, rfl⟩ := engageEvs_cells e b n (by omega) fuel ev hev
  have h1 := cell_in_zone (e := e) hj
  simp only [Ev.Inside, Ev.lo, Ev.hi]; omega

theorem engageLoop_at (e b n : Nat) (he : 0 < e) (fuel : Nat) (fl : List Nat) (hf : n < fuel) :
    engageLoop e (b + n * e) fuel b fl = ((List.range n).map (fun i => b + i * e)).reverse ++ fl := by
  rw [engageLoop_evs, engageEvs_base e b n he, Nat.min_eq_right (by omega), List.map_map, List.range_eq_range']
  rfl

theorem engage_eq (e n : Nat) (he : 0 < e) :
    (Pool.init.engage (n * e) e).free = (cells e n).reverse := by
  have := engageLoop_at e 0 n he (n * e + 1) [] (by
    have : n ≤ n * e := Nat.le_mul_of_pos_right n he
    omega)
  simp only [Nat.zero_add, List.append_nil] at this
  exact this

theorem mem_cells {e n c : Nat} : c ∈ cells e n ↔ ∃ i, i < n ∧ c = i * e := by
  simp only [cells, List.mem_map, List.mem_range]
  exact exists_congr fun i => and_congr_right fun _ => eq_comm

theorem cells_nodup (e n : Nat) (he : 0 < e) : (cells e n).Nodup := by
  unfold cells
  rw [List.Nodup, List.pairwise_map]
  exact (List.nodup_range (n := n)).imp (fun {a b} hab h => hab (Nat.eq_of_mul_eq_mul_right he h))

theorem cells_length (e n : Nat) : (cells e n).length = n := by simp [cells]

def PInv (e n : Nat) (s : PState) : Prop := (s.pool.free ++ s.live).Perm (cells e n)

theorem PInv.init (e n : Nat) (he : 0 < e) : PInv e n ⟨Pool.init.engage (n * e) e, []⟩ := by
  unfold PInv
  simp only [List.append_nil, engage_eq e n he]
  exact List.reverse_perm _

theorem perm_alloc {c : Nat} {rest live C : List Nat} (h : (c :: rest ++ live).Perm C) :
    (rest ++ c :: live).Perm C := (List.perm_middle).trans h

theorem perm_free {c : Nat} {free live C : List Nat} (hc : c ∈ live) (h : (free ++ live).Perm C) :
    (c :: free ++ live.erase c).Perm C := by
  have h1 : (c :: live.erase c).Perm live := (List.perm_cons_erase hc).symm
  have h2 : (c :: free ++ live.erase c).Perm (free ++ c :: live.erase c) := by
    simpa using (List.perm_middle (l₁ := free) (a := c) (l₂ := live.erase c)).symm
  exact h2.trans ((List.Perm.append_left _ h1).trans h)

/-- one `alloc` of the specification: result `r`, live set `live → live'` -/
def SpecAlloc (blocks live : List Nat) (r : Option Nat) (live' : List Nat) : Prop :=
  match r with
  | none => (∀ c ∈ blocks, c ∈ live) ∧ live' = live
  | some c => c ∈ blocks ∧ c ∉ live ∧ live' = c :: live

def SpecFree (live : List Nat) (c : Nat) (live' : List Nat) : Prop := c ∈ live ∧ live' = live.erase c

/-- one `pool_alloc`, seen on the free list `f` and the cells handed out `l`: null on an empty
list, otherwise the head of the list moves over.  All pool models step like this. -/
inductive AllocStep : List Nat → List Nat → Option Nat → List Nat → List Nat → Prop
  | null (l : List Nat) : AllocStep [] l none [] l
  | cell (c : Nat) (rest l : List Nat) : AllocStep (c :: rest) l (some c) rest (c :: l)

namespace AllocStep
variable {f l f' l' C : List Nat} {r : Option Nat}

theorem perm (h : AllocStep f l r f' l') (hp : (f ++ l).Perm C) : (f' ++ l').Perm C := by
  cases h with
  | null => exact hp
  | cell => exact perm_alloc hp

theorem mono (h : AllocStep f l r f' l') {c : Nat} (hc : c ∈ l) : c ∈ l' := by
  cases h with
  | null => exact hc
  | cell => exact List.mem_cons_of_mem _ hc

theorem length (h : AllocStep f l r f' l') :
    f'.length + l'.length = f.length + l.length ∧ (l'.length = l.length ∧ f.length = 0 ∨ l'.length = l.length + 1) := by
  cases h with
  | null => simp
  | cell => simp; omega

theorem count (h : AllocStep f l r f' l') : f'.length + (if r = none then 0 else 1) = f.length := by
  cases h <;> simp

theorem fresh {c : Nat} (h : AllocStep f l (some c) f' l') (hnd : (f ++ l).Nodup) : c ∉ l ∧ l' = c :: l := by
  cases h
  simp only [List.cons_append, List.nodup_cons, List.mem_append, not_or] at hnd
  exact ⟨hnd.1.2, rfl⟩

theorem spec (h : AllocStep f l r f' l') (hp : (f ++ l).Perm C) (hnd : C.Nodup) : SpecAlloc C l r l' := by
  cases r with
  | none => cases h; exact ⟨fun c hc => hp.mem_iff.2 hc, rfl⟩
  | some c =>
    have hc := (h.fresh (hp.nodup_iff.2 hnd)).1
    cases h
    exact ⟨hp.mem_iff.1 (by simp), hc, rfl⟩

end AllocStep

theorem Pool.alloc_null_iff {p : Pool} {l : List Nat} {n : Nat} (hn : p.free.length + l.length = n) :
    p.alloc.1 = none ↔ l.length = n := by
  obtain ⟨f⟩ := p
  cases f with
  | nil => simpa [Pool.alloc] using hn
  | cons c rest => simp only [List.length_cons] at hn; simp [Pool.alloc]; omega

theorem Pool.alloc_step (p : Pool) (l : List Nat) :
    ∀ {r q}, p.alloc = (r, q) → AllocStep p.free l r q.free (match r with | none => l | some c => c :: l) := by
  intro r q h
  unfold Pool.alloc at h
  cases hf : p.free with
  | nil => rw [hf] at h; cases h; rw [hf]; exact .null l
  | cons c rest => rw [hf] at h; cases h; exact .cell c rest l

theorem AllocStep.alloc {p : Pool} {l f' l' : List Nat} {r : Option Nat} (h : AllocStep p.free l r f' l') :
    p.alloc = (r, ⟨f'⟩) := by
  obtain ⟨f⟩ := p
  cases h <;> rfl

theorem pstep_alloc {s s' : PState} {r : Option Nat} (h : pstep s .alloc = some (s', r)) :
    AllocStep s.pool.free s.live r s'.pool.free s'.live := by
  simp only [pstep] at h
  split at h
  · rename_i p hp; cases h; exact Pool.alloc_step _ _ hp
  · rename_i c p hp; cases h; exact Pool.alloc_step _ _ hp

theorem AllocStep.pstep {f l f' l' : List Nat} {r : Option Nat} (h : AllocStep f l r f' l') :
    pstep ⟨⟨f⟩, l⟩ .alloc = some (⟨⟨f'⟩, l'⟩, r) := by
  cases h <;> rfl

theorem istep_get {s s' : IState} {r : Option Nat} (h : istep s .get = some (s', r)) :
    AllocStep s.pool.head.free s.live r s'.pool.head.free s'.live ∧ s'.pool.size = s.pool.size ∧
      s'.pool.elemsz = s.pool.elemsz ∧ s'.pool.count = s.pool.count - (if r = none then 0 else 1) := by
  simp only [istep, IPool.get] at h
  cases ha : s.pool.head.alloc with
  | mk ret q =>
    have hs := Pool.alloc_step s.pool.head s.live ha
    rw [ha] at h
    cases ret <;> cases h <;> exact ⟨hs, rfl, rfl, by simp⟩

theorem sstep_create {s s' : SOP} {r : Option Nat} (h : sstep s .create = some (s', r)) :
    AllocStep s.head.free s.objs r s'.head.free s'.objs ∧
      s'.fault = (s.fault || match r with | none => false | some c => s.objs.contains c) := by
  simp only [sstep, SOP.create, Option.some.injEq, Prod.mk.injEq] at h
  cases ha : s.head.alloc with
  | mk ret q =>
    have hs := Pool.alloc_step s.head s.objs ha
    rw [ha] at h
    cases ret <;> obtain ⟨rfl, rfl⟩ := h <;> exact ⟨hs, by simp⟩

theorem IPool.get_fst (p : IPool) : p.get.1 = p.head.alloc.1 := by
  unfold IPool.get; cases p.head.alloc with | mk r q => cases r <;> rfl

theorem SOP.create_fst (p : SOP) : p.create.1 = p.head.alloc.1 := by
  unfold SOP.create; cases p.head.alloc with | mk r q => cases r <;> rfl

theorem pstep_free {s s' : PState} {c : Nat} {r : Option Nat} (h : pstep s (.free c) = some (s', r)) :
    c ∈ s.live ∧ s'.pool.free = c :: s.pool.free ∧ s'.live = s.live.erase c := by
  simp only [pstep] at h
  split at h
  · rename_i hc; cases h; exact ⟨by simpa using hc, rfl, rfl⟩
  · cases h

theorem istep_put {s s' : IState} {c : Nat} {r : Option Nat} (h : istep s (.put (some c)) = some (s', r)) :
    c ∈ s.live ∧ s'.pool.head.free = c :: s.pool.head.free ∧ s'.live = s.live.erase c ∧
      s'.pool.size = s.pool.size ∧ s'.pool.elemsz = s.pool.elemsz ∧ s'.pool.count = s.pool.count + 1 := by
  simp only [istep, IPool.put, Pool.release] at h
  split at h
  · rename_i hc
    split at h
    · rename_i heq
      split at heq
      · cases heq; cases h; exact ⟨by simpa using hc, rfl, rfl, rfl, rfl, rfl⟩
      · cases heq
    · cases h
  · cases h

theorem sstep_destroy {s s' : SOP} {c : Nat} {r : Option Nat} (h : sstep s (.destroy c) = some (s', r)) :
    c ∈ s.objs ∧ s'.head.free = c :: s.head.free ∧ s'.objs = s.objs.erase c ∧ s'.fault = s.fault := by
  simp only [sstep] at h
  split at h
  · rename_i hc; cases h
    exact ⟨by simpa using hc, rfl, rfl, by simp only [SOP.destroy, hc, Bool.not_true, Bool.or_false]⟩
  · cases h

theorem pstep_inv {e n : Nat} {s s' : PState} {op : POp} {ret : Option Nat} (hi : PInv e n s)
    (hs : pstep s op = some (s', ret)) : PInv e n s' := by
  unfold PInv at *
  cases op with
  | alloc => exact (pstep_alloc hs).perm hi
  | free c => obtain ⟨hc, hf, hl⟩ := pstep_free hs; rw [hf, hl]; exact perm_free hc hi

theorem prun_inv {e n : Nat} {ops : List POp} {s s' : PState} (hi : PInv e n s)
    (hr : prun s ops = some s') : PInv e n s' := by
  induction ops generalizing s with
  | nil => simp only [prun] at hr; cases hr; exact hi
  | cons op ops ih =>
    simp only [prun] at hr
    split at hr
    · cases hr
    · rename_i s1 ret hs
      exact ih (pstep_inv hi hs) hr

theorem perm_facts {f l C : List Nat} (hp : (f ++ l).Perm C) (hC : C.Nodup) :
    l.Nodup ∧ f.Nodup ∧ (∀ c, c ∈ l → c ∉ f) ∧ (∀ c, c ∈ l ∨ c ∈ f → c ∈ C) := by
  have hnd : (f ++ l).Nodup := hp.nodup_iff.2 hC
  rw [List.nodup_append] at hnd
  refine ⟨hnd.2.1, hnd.1, fun c hc hf => hnd.2.2 c hf c hc rfl, fun c hc => ?_⟩
  apply hp.mem_iff.1
  rcases hc with hc | hc <;> simp [hc]

theorem PInv.facts {e n : Nat} {s : PState} (he : 0 < e) (hi : PInv e n s) :
    s.live.Nodup ∧ s.pool.free.Nodup ∧ (∀ c, c ∈ s.live → c ∉ s.pool.free) ∧
    (∀ c, c ∈ s.live ∨ c ∈ s.pool.free → ∃ i, i < n ∧ c = i * e) := by
  obtain ⟨h1, h2, h3, h4⟩ := perm_facts (show (s.pool.free ++ s.live).Perm (cells e n) from hi) (cells_nodup e n he)
  exact ⟨h1, h2, h3, fun c hc => mem_cells.1 (h4 c hc)⟩

theorem PInv.card {e n : Nat} {s : PState} (hi : PInv e n s) : s.pool.free.length + s.live.length = n := by
  have := (show (s.pool.free ++ s.live).Perm (cells e n) from hi).length_eq
  rwa [List.length_append, cells_length] at this

theorem cells_disjoint {e i j : Nat} (h : i * e ≠ j * e) : i * e + e ≤ j * e ∨ j * e + e ≤ i * e := by
  rcases Nat.lt_trichotomy i j with hlt | heq | hgt
  · exact .inl (cell_in_zone hlt)
  · subst heq; exact absurd rfl h
  · exact .inr (cell_in_zone hgt)

def IInv (e n : Nat) (s : IState) : Prop :=
  PInv e n ⟨s.pool.head, s.live⟩ ∧ s.pool.count = (s.pool.head.free.length : Int) ∧
  s.pool.size = n * e ∧ s.pool.elemsz = e

theorem IInv.init (e n : Nat) (he : 0 < e) : IInv e n ⟨IPool.init (n * e) e, []⟩ := by
  refine ⟨PInv.init e n he, ?_, rfl, rfl⟩
  simp only [IPool.init]
  rw [engage_eq e n he, List.length_reverse, cells_length, Nat.mul_div_cancel n he]

theorem istep_inv {e n : Nat} {s s' : IState} {op : IOp} {ret : Option Nat} (hi : IInv e n s)
    (hs : istep s op = some (s', ret)) : IInv e n s' := by
  obtain ⟨hp, hc, hsz, hel⟩ := hi
  unfold IInv PInv at *
  cases op with
  | get =>
    obtain ⟨ha, h1, h2, h3⟩ := istep_get hs
    have := ha.count
    exact ⟨ha.perm hp, by rw [h3, hc]; cases ret <;> simp at this ⊢ <;> omega, h1.trans hsz, h2.trans hel⟩
  | put c =>
    cases c with
    | none => simp only [istep, IPool.put] at hs; cases hs; exact ⟨hp, hc, hsz, hel⟩
    | some c =>
      obtain ⟨hcl, hf, hl, h1, h2, h3⟩ := istep_put hs
      exact ⟨by simp only; rw [hf, hl]; exact perm_free hcl hp, by rw [h3, hc, hf]; simp, h1.trans hsz, h2.trans hel⟩

theorem irun_inv {e n : Nat} {ops : List IOp} {s s' : IState} (hi : IInv e n s)
    (hr : irun s ops = some s') : IInv e n s' := by
  induction ops generalizing s with
  | nil => simp only [irun] at hr; cases hr; exact hi
  | cons op ops ih =>
    simp only [irun] at hr
    split at hr
    · cases hr
    · rename_i s1 ret hs
      exact ih (istep_inv hi hs) hr

def SInv (e n : Nat) (s : SOP) : Prop := PInv e n ⟨s.head, s.objs⟩ ∧ s.fault = false

theorem sstep_inv {e n : Nat} (he : 0 < e) {s s' : SOP} {op : SOp} {ret : Option Nat} (hi : SInv e n s)
    (hs : sstep s op = some (s', ret)) : SInv e n s' := by
  obtain ⟨hp, hf⟩ := hi
  have hnd : (s.head.free ++ s.objs).Nodup := hp.nodup_iff.2 (cells_nodup e n he)
  unfold SInv PInv at *
  cases op with
  | create =>
    obtain ⟨ha, hflt⟩ := sstep_create hs
    refine ⟨ha.perm hp, ?_⟩
    -- a cell that comes off the free list holds no object
    cases ret with
    | none => simpa [hf] using hflt
    | some c => simpa [hf, (ha.fresh hnd).1] using hflt
  | destroy c =>
    obtain ⟨hc, h1, h2, h3⟩ := sstep_destroy hs
    exact ⟨by simp only; rw [h1, h2]; exact perm_free hc hp, h3.trans hf⟩

theorem srun_inv {e n : Nat} (he : 0 < e) {ops : List SOp} {s s' : SOP} (hi : SInv e n s)
    (hr : srun s ops = some s') : SInv e n s' := by
  induction ops generalizing s with
  | nil => simp only [srun] at hr; cases hr; exact hi
  | cons op ops ih =>
    simp only [srun] at hr
    split at hr
    · cases hr
    · rename_i s1 ret hs
      exact ih (sstep_inv he hi hs) hr

theorem storageSize_ge (a b : Nat) : max a 8 ≤ storageSize a b := by
  unfold storageSize
  simp only
  have h1 : 8 ≤ max b 8 := Nat.le_max_right _ _
  generalize max a 8 = x at *
  generalize max b 8 = y at *
  have h2 := Nat.div_add_mod (x + y - 1) y
  have h3 := Nat.mod_lt (x + y - 1) (by omega : y > 0)
  rw [Nat.mul_comm]
  omega

theorem eight_le_storageSize (a b : Nat) : 8 ≤ storageSize a b :=
  Nat.le_trans (Nat.le_max_right a 8) (storageSize_ge a b)

theorem storageSize_pos (a b : Nat) : 0 < storageSize a b :=
  Nat.lt_of_lt_of_le (by decide) (eight_le_storageSize a b)

theorem SInv.init (szT alT cap : Nat) : SInv (storageSize szT alT) cap (SOP.init szT alT cap) :=
  ⟨PInv.init _ cap (storageSize_pos szT alT), rfl⟩

theorem prun_allocs {n : Nat} : ∀ (k : Nat) (s s' : PState), s.pool.free.length + s.live.length = n →
    prun s (List.replicate k .alloc) = some s' → s'.live.length = min (s.live.length + k) n := by
  intro k
  induction k with
  | zero => intro s s' hn hr; cases hr; omega
  | succ k ih =>
    intro s s' hn hr
    simp only [List.replicate, prun] at hr
    split at hr
    · cases hr
    · rename_i s1 ret hs
      obtain ⟨h1, h2 | h2⟩ := (pstep_alloc hs).length <;> have := ih s1 s' (by omega) hr <;> omega

theorem irun_gets : ∀ (k : Nat) (s s' : IState), irun s (List.replicate k .get) = some s' →
    prun ⟨s.pool.head, s.live⟩ (List.replicate k .alloc) = some ⟨s'.pool.head, s'.live⟩ := by
  intro k
  induction k with
  | zero => intro s s' h; cases h; rfl
  | succ k ih =>
    intro s s' h
    simp only [List.replicate, irun] at h
    split at h
    · cases h
    · rename_i s1 ret hs
      have e : pstep ⟨s.pool.head, s.live⟩ .alloc = some (⟨s1.pool.head, s1.live⟩, ret) := (istep_get hs).1.pstep
      simp only [List.replicate, prun, e]
      exact ih s1 s' h

theorem srun_creates : ∀ (k : Nat) (s s' : SOP), srun s (List.replicate k .create) = some s' →
    prun ⟨s.head, s.objs⟩ (List.replicate k .alloc) = some ⟨s'.head, s'.objs⟩ := by
  intro k
  induction k with
  | zero => intro s s' h; cases h; rfl
  | succ k ih =>
    intro s s' h
    simp only [List.replicate, srun] at h
    split at h
    · cases h
    · rename_i s1 ret hs
      have e : pstep ⟨s.head, s.objs⟩ .alloc = some (⟨s1.head, s1.objs⟩, ret) := (sstep_create hs).1.pstep
      simp only [List.replicate, prun, e]
      exact ih s1 s' h

/-- following `next` from `cur` visits exactly the addresses of `l` and then the head -/
def Chain (m : Links) (head : Nat) : Nat → List Nat → Prop
  | cur, [] => cur = head
  | cur, c :: r => cur = c ∧ Chain m head (m c) r

def Rep (m : Links) (head : Nat) (l : List Nat) : Prop :=
  Chain m head (m head) l ∧ l.Nodup ∧ head ∉ l

theorem chain_upd {m : Links} {head a v cur : Nat} {l : List Nat} (ha : a ∉ l) :
    Chain (upd m a v) head cur l ↔ Chain m head cur l := by
  induction l generalizing cur with
  | nil => simp [Chain]
  | cons c r ih =>
    simp only [List.mem_cons, not_or] at ha
    simp only [Chain]
    have hc : upd m a v c = m c := by simp only [upd]; rw [if_neg (fun h => ha.1 h.symm)]
    rw [hc, ih ha.2]

theorem rep_init (m : Links) (head : Nat) : Rep (slistInit m head) head [] := by
  simp [Rep, Chain, slistInit, upd]

theorem rep_add {m : Links} {head link : Nat} {l : List Nat} (hr : Rep m head l) (hl : link ∉ l)
    (hh : link ≠ head) : Rep (slistAdd m link head) head (link :: l) := by
  obtain ⟨hc, hnd, hhd⟩ := hr
  refine ⟨?_, List.nodup_cons.2 ⟨hl, hnd⟩, by simp only [List.mem_cons, not_or]; exact ⟨fun h => hh h.symm, hhd⟩⟩
  have h1 : slistAdd m link head head = link := by simp [slistAdd, upd]
  have h2 : slistAdd m link head link = m head := by simp [slistAdd, upd, hh]
  simp only [Chain, h1, h2, true_and]
  unfold slistAdd
  rw [chain_upd hhd, chain_upd hl]
  exact hc

theorem rep_pop_cons {m : Links} {head c : Nat} {r : List Nat} (hr : Rep m head (c :: r)) :
    slistPopFirst m head = (some c, upd m head (m c)) ∧ Rep (upd m head (m c)) head r := by
  obtain ⟨hc, hnd, hhd⟩ := hr
  simp only [Chain] at hc
  simp only [List.mem_cons, not_or] at hhd
  have hne : m head ≠ head := by rw [hc.1]; exact fun h => hhd.1 h.symm
  refine ⟨by simp only [slistPopFirst]; rw [if_neg hne, hc.1], ?_, (List.nodup_cons.1 hnd).2, hhd.2⟩
  have h1 : upd m head (m c) head = m c := by simp [upd]
  rw [h1, chain_upd hhd.2]
  exact hc.2

theorem rep_pop_nil {m : Links} {head : Nat} (hr : Rep m head []) :
    slistPopFirst m head = (none, m) ∧ slistEmpty m head = true := by
  obtain ⟨hc, _, _⟩ := hr
  simp only [Chain] at hc
  simp [slistPopFirst, slistEmpty, hc]

theorem rep_empty_iff {m : Links} {head : Nat} {l : List Nat} (hr : Rep m head l) :
    slistEmpty m head = true ↔ l = [] := by
  cases l with
  | nil => simp [(rep_pop_nil hr).2]
  | cons c r =>
    obtain ⟨hc, _, hhd⟩ := hr
    simp only [Chain] at hc
    simp only [List.mem_cons, not_or] at hhd
    simp only [slistEmpty, beq_iff_eq, hc.1]
    constructor
    · intro h; exact absurd h.symm hhd.1
    · intro h; cases h

theorem poolAllocP_rep {m : Links} {head : Nat} {p : Pool} (hr : Rep m head p.free) :
    (poolAllocP m head).1 = p.alloc.1 ∧ Rep (poolAllocP m head).2 head p.alloc.2.free := by
  unfold poolAllocP Pool.alloc
  cases hf : p.free with
  | nil =>
    rw [hf] at hr
    simp only [(rep_pop_nil hr).2, ↓reduceIte]
    exact ⟨trivial, by rw [hf]; exact hr⟩
  | cons c r =>
    rw [hf] at hr
    have hne : slistEmpty m head = false := by
      cases h : slistEmpty m head with
      | false => rfl
      | true => exact absurd ((rep_empty_iff hr).1 h) (by simp)
    simp only [hne, Bool.false_eq_true, ↓reduceIte]
    obtain ⟨h1, h2⟩ := rep_pop_cons hr
    rw [h1]; exact ⟨rfl, h2⟩

theorem sizeLoop_chain {m : Links} {head : Nat} {l : List Nat} : ∀ {fuel cur i : Nat},
    Chain m head cur l → head ∉ l → l.length < fuel → slistSizeLoop m head fuel cur i = i + l.length := by
  induction l with
  | nil =>
    intro fuel cur i hc _ hf
    simp only [Chain] at hc
    cases fuel with
    | zero => simp at hf
    | succ f => simp [slistSizeLoop, hc]
  | cons c r ih =>
    intro fuel cur i hc hh hf
    simp only [Chain] at hc
    simp only [List.mem_cons, not_or] at hh
    cases fuel with
    | zero => simp at hf
    | succ f =>
      simp only [slistSizeLoop, hc.1]
      rw [if_neg (fun h => hh.1 h.symm)]
      rw [ih hc.2 hh.2 (by simp only [List.length_cons] at hf; omega)]
      simp only [List.length_cons]; omega

theorem inLoop_chain {m : Links} {head x : Nat} {l : List Nat} : ∀ {fuel cur : Nat},
    Chain m head cur l → head ∉ l → l.length < fuel → slistInLoop m head x fuel cur = l.contains x := by
  induction l with
  | nil =>
    intro fuel cur hc _ hf
    simp only [Chain] at hc
    cases fuel with
    | zero => simp at hf
    | succ f => simp [slistInLoop, hc]
  | cons c r ih =>
    intro fuel cur hc hh hf
    simp only [Chain] at hc
    simp only [List.mem_cons, not_or] at hh
    cases fuel with
    | zero => simp at hf
    | succ f =>
      simp only [slistInLoop, hc.1]
      rw [if_neg (fun h => hh.1 h.symm)]
      by_cases hx : c = x
      · simp [hx]
      · rw [if_neg hx, ih hc.2 hh.2 (by simp only [List.length_cons] at hf; omega)]
        simp only [List.contains_cons]
        have : (x == c) = false := by simp; exact fun h => hx h.symm
        rw [this, Bool.false_or]

theorem engageLoopP_rep_onto (e stop head : Nat) : ∀ (fuel it : Nat) (m : Links) (fl : List Nat),
    Rep m head fl → (∀ c ∈ fl, c < it ∨ stop ≤ c) → (head < it ∨ stop ≤ head) → 0 < e →
    Rep (engageLoopP e stop head fuel it m) head (engageLoop e stop fuel it fl) := by
  intro fuel
  induction fuel with
  | zero => intro it m fl hr _ _ _; exact hr
  | succ f ih =>
    intro it m fl hr hlt hhead he
    simp only [engageLoopP, engageLoop]
    split
    · rename_i hit
      refine ih (it + e) _ _ (rep_add hr (fun h => ?_) (by omega)) ?_ (by omega) he
      · have := hlt it h; omega
      · intro c hc
        rcases List.mem_cons.1 hc with rfl | hc
        · omega
        · have := hlt c hc; omega
    · exact hr

theorem engageLoopP_rep (e stop head : Nat) (fuel it : Nat) (m : Links) (fl : List Nat)
    (hr : Rep m head fl) (hlt : ∀ c ∈ fl, c < it) (hh : stop ≤ head) (he : 0 < e) :
    Rep (engageLoopP e stop head fuel it m) head (engageLoop e stop fuel it fl) :=
  engageLoopP_rep_onto e stop head fuel it m fl hr (fun c hc => .inl (hlt c hc)) (.inr hh) he

end Igris.C10
