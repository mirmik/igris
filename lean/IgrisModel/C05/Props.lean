/-
  C05 — PROPERTY THEOREMS: the gstuff receiver on arbitrary byte streams.

  "For every byte stream and every receive buffer size, the receiver never
  stores more than capacity-1 bytes nor touches memory outside the buffer it
  was given, and a frame that does not fit is reported as overflow rather than
  delivered.  Whenever it reports a completed packet, the delivered bytes are
  exactly the unescaped bytes since the last start marker minus a trailing
  CRC-8 that matches them.  After any garbage prefix the well-formed frames
  that follow are delivered intact - from the first one when start and stop
  markers differ, from the second at the latest when they coincide."
-/
import IgrisModel.C05.LemmasBuf
import IgrisModel.C05.Traces
namespace Igris.Gstuff
open Igris.Proto Igris.C17

/-! ### memory safety -/

/-- never more than capacity-1 bytes in the line, in every reachable state,
for every alphabet (well-formed or not), stream and capacity.  (List-level model,
`cap : Nat`.  For capacity 0 the statement says "nothing is ever stored"; since
`fix: sline_putchar refuses when the line has no buffer` that is what the code
does too — before it the unsigned `cap - 1` wrapped and the code stored without
bound, see `sline_putchar_cap0_witness`.  The statement about the C object itself,
32-bit counters and buffer indices included, is `recv_never_faults`.) -/
theorem recv_bounds (ctx : Ctx) (cap : Nat) (bs : List Byte) :
    (feed ctx (Recv.init cap) bs).1.line.length ≤ cap - 1 ∧ (feed ctx (Recv.init cap) bs).1.cap = cap := by
  have h := feed_lineOK ctx (Recv.init cap) bs (by simp [LineOK, Recv.init])
  have hc := feed_cap ctx (Recv.init cap) bs
  simp only [LineOK, hc] at h
  exact ⟨h, hc⟩

/-- the only buffer writes are `buf[len] = c` by `sline_putchar` (performed iff
the line grows) and `buf[len] = 0` by `cstr()`; both indices are `< cap` in
every reachable state (capacity ≥ 1) -/
theorem recv_write_indices (ctx : Ctx) (cap : Nat) (hcap : 1 ≤ cap) (bs : List Byte) (c : Byte) :
    -- terminator written by cstr()
    (feed ctx (Recv.init cap) bs).1.line.length < cap ∧
    -- a byte stored by newchar lands at index `old length`, which is `< cap - 1`
    ((newchar ctx (feed ctx (Recv.init cap) bs).1 c).1.line.length =
        (feed ctx (Recv.init cap) bs).1.line.length + 1 →
      (feed ctx (Recv.init cap) bs).1.line.length < cap - 1) := by
  have hb := recv_bounds ctx cap bs
  have hn := newchar_lineOK ctx (feed ctx (Recv.init cap) bs).1 c (by simp only [LineOK, hb.2]; exact hb.1)
  have hcap' := newchar_cap ctx (feed ctx (Recv.init cap) bs).1 c
  refine ⟨by have := hb.1; omega, ?_⟩
  intro hgrow
  simp only [LineOK, hcap', hb.2] at hn
  omega

/-! ### memory safety at the level of the C line object (C04/Buf.lean) -/

/-- MEMORY SAFETY, buffer level.  The receiver is given a memory block `buf` and
told it has `cap` bytes (`init(buf, cap)`; the block may be larger — the bytes
from index `cap` on then stand for the memory BEHIND the buffer).  For every
alphabet, every declared capacity (0 included, 32-bit unsigned) and every
stream: no call ever faults (no `buf[i]`, no `memmove` outside the block);
statuses, state, CRC and line bytes are those of the list-level receiver (so
every other theorem of this file speaks about this object); afterwards
`cursor = len ≤ cap - 1` (the `memmove` branches of `sline_putchar` /
`sline_backspace` are never taken); and no byte at an index ≥ `cap` was modified. -/
theorem recv_never_faults (ctx : Ctx) (buf : List Byte) (cap : BitVec 32)
    (hblk : cap.toNat ≤ buf.length) (bs : List Byte) :
    ∃ r', bfeed ctx (BRecv.init buf cap) bs = some (r', (feed ctx (Recv.init cap.toNat) bs).2) ∧
      r'.abs = (feed ctx (Recv.init cap.toNat) bs).1 ∧
      r'.line.cursor = r'.line.len ∧ r'.line.len.toNat ≤ cap.toNat - 1 ∧ r'.line.cap = cap ∧
      r'.line.buf.length = buf.length ∧ r'.line.buf.drop cap.toNat = buf.drop cap.toNat := by
  obtain ⟨r', e1, e2, e3, e4, e5, e6⟩ := bfeed_refines ctx (BRecv.init buf cap) (BRecv.init_ok buf cap hblk) bs
  rw [BRecv.init_abs] at e1 e2
  have hc : r'.line.cap = cap := e4
  exact ⟨r', e1, e2, e3.cur, by have := e3.bound; rw [hc] at this; exact this, hc, e5, e6⟩

/-- the same for `gstuff_autorecv(ctx)` used WITHOUT `setbuf` (buf = NULL, cap = 0):
no call faults and nothing is ever stored -/
theorem recv_nobuf_never_faults (ctx : Ctx) (bs : List Byte) :
    ∃ r', bfeed ctx BRecv.noBuf bs = some (r', (feed ctx ⟨.s0, 0#8, [], 0⟩ bs).2) ∧
      r'.line.len = 0 ∧ r'.line.buf = [] := by
  obtain ⟨r', e1, _, e3, e4, e5, _⟩ := bfeed_refines ctx BRecv.noBuf BRecv.noBuf_ok bs
  refine ⟨r', e1, ?_, ?_⟩
  · have := e3.bound
    rw [e4] at this
    exact BitVec.eq_of_toNat_eq (by simpa [BRecv.noBuf] using this)
  · exact List.eq_nil_of_length_eq_zero (by simpa [BRecv.noBuf] using e5)

/-- for EVERY declared capacity, 0 included: the trace the driver computes on the buffer-level model, with
`cstr()` at every NEWPACKAGE, never faults and is the list-level trace.  (`sline_getline` guards its store
with `if (sl->cap)`.) -/
theorem recv_trace_never_faults_any_cap (ctx : Ctx) (buf : List Byte) (cap : BitVec 32)
    (hblk : cap.toNat ≤ buf.length) (bs : List Byte) :
    bfeedTrace ctx (BRecv.init buf cap) bs = some (feedTrace ctx (Recv.init cap.toNat) bs) := by
  rw [← BRecv.init_abs buf cap]
  exact bfeedTrace_eq_any ctx _ (BRecv.init_ok buf cap hblk) bs

/-- reading the packet (`cstr()`: terminator `buf[len] = 0`, then `size()` bytes)
never faults after any stream when the capacity is at least 1, and returns the line;
with it, the trace the DRIVER computes on the buffer-level model is the list-level trace -/
theorem recv_trace_never_faults (ctx : Ctx) (buf : List Byte) (cap : BitVec 32)
    (hcap : 1 ≤ cap.toNat) (hblk : cap.toNat ≤ buf.length) (bs : List Byte) :
    bfeedTrace ctx (BRecv.init buf cap) bs = some (feedTrace ctx (Recv.init cap.toNat) bs) :=
  recv_trace_never_faults_any_cap ctx buf cap hblk bs

-- non-vacuity: an 8-byte block declared as 8 bytes
example : (1 : Nat) ≤ (8#32).toNat ∧ (8#32).toNat ≤ (List.replicate 8 (0xA5#8)).length := by decide

/-- witness for the repaired defect C05-capacity-zero-unsigned-wrap: with the old
guard `len >= cap - 1` a line without a buffer (cap 0) did not refuse — the store
`buf[0]` faults (NULL / zero-sized block), and with memory behind the pointer it
stored with no bound; the repaired guard `len + 1 >= cap` refuses -/
theorem sline_putchar_cap0_witness :
    (Sline.init [] 0).putcharOld 0x41#8 = none ∧
    (Sline.init [0xA5#8, 0xA5#8] 0).putcharOld 0x41#8 = some (⟨[0x41#8, 0xA5#8], 0, 1, 1⟩, true) ∧
    (Sline.init [] 0).putchar 0x41#8 = some (Sline.init [] 0, false) := by decide

/-! ### soundness of every delivered packet -/

/-- Whenever NEWPACKAGE is answered (to byte `c` after stream `bs`): `c` is the
stop marker, a start marker was received, and the unescaping of the raw bytes
since the LAST start marker is exactly the delivered line followed by its
CRC-8. -/
theorem recv_sound (ctx : Ctx) (h : ctx.WF) (cap : Nat) (bs : List Byte) (c : Byte)
    (hn : (newchar ctx (feed ctx (Recv.init cap) bs).1 c).2 = NEWPACKAGE) :
    c = ctx.stop ∧ ∃ since, sinceLastStart ctx.start bs = some since ∧
      unescape ctx since =
        some ((newchar ctx (feed ctx (Recv.init cap) bs).1 c).1.line ++
              [strmcrc8 0xFF#8 (newchar ctx (feed ctx (Recv.init cap) bs).1 c).1.line]) := by
  have hs := feed_sound ctx h (Recv.init cap) none bs (by simp [Sound, Recv.init])
  exact newpackage_sound ctx _ _ c hs hn

/-! ### over-long frames -/

/-- OVERFLOW CLAUSE IN GENERAL FORM.  From ANY receiver state when start ≠ stop
(from any ready state — between frames or primed — when the markers coincide;
there an in-frame receiver takes the opening marker for a stop and swallows
the frame as garbage, which is the "second frame at the latest" of the
resynchronisation clause), for ANY capacity (0 included) and ANY byte sequence
between a start and a stop marker — not only frames made by the encoder —
whose unescaping is valid up to a point `pre` where it has grown beyond
capacity-1 bytes (whatever follows, valid or not): OVERFLOW is answered,
NOTHING is delivered, and the receiver is ready for the next frame. -/
theorem overflow_any_state (ctx : Ctx) (h : ctx.WF) (r : Recv)
    (hr : ctx.start ≠ ctx.stop ∨ Ready r) (pre rest : List Byte)
    (hnm : ∀ b ∈ pre ++ rest, b ≠ ctx.start ∧ b ≠ ctx.stop)
    (u : List Byte) (pend : Bool) (hu : unescPartial ctx pre = some (u, pend))
    (hbig : r.cap - 1 < u.length) :
    OVERFLOW ∈ (feed ctx r (ctx.start :: ((pre ++ rest) ++ [ctx.stop]))).2 ∧
    delivered ctx r (ctx.start :: ((pre ++ rest) ++ [ctx.stop])) = [] ∧
    Ready (feed ctx r (ctx.start :: ((pre ++ rest) ++ [ctx.stop]))).1 := by
  have hstart : (newchar ctx r ctx.start).1 = ⟨.s1, 0xFF#8, [], r.cap⟩ ∧
      (newchar ctx r ctx.start).2 ≠ NEWPACKAGE := by
    have hng : ¬ Swallows ctx r ∧ (ctx.start ≠ ctx.stop ∨ Good r) := by
      rcases hr with hne | hrd
      · exact ⟨fun hs => hne hs.1, Or.inl hne⟩
      · exact ⟨(ready_not_swallows ctx r hrd).1, Or.inr (ready_not_swallows ctx r hrd).2⟩
    obtain ⟨k, s, e, hs, hk⟩ := newchar_start ctx h r hng.1
    rw [e, hk hng.2]; exact ⟨rfl, hs⟩
  obtain ⟨o1, o2, o3⟩ := feed_body_overflow ctx ⟨.s1, 0xFF#8, [], r.cap⟩ pre rest (Or.inl rfl)
    (by simp [LineOK]) hnm u pend (by simpa [unescFrom, unescPartial] using hu) hbig
  obtain ⟨p1, p2⟩ := stop_when_idle ctx _ o2
  generalize pre ++ rest = body at o1 o2 o3 p1 p2 ⊢
  simp only [feed, delivered, hstart.1, hstart.2, if_false, feed_append, delivered_append, o3,
    List.nil_append, p1]
  exact ⟨List.mem_cons_of_mem _ (List.mem_append_left _ o1), trivial, p2⟩

/-- in particular a frame made by the encoder whose unescaped content (payload + CRC) does not fit in
capacity-1 bytes is answered with OVERFLOW and is not delivered: its body is marker-free and unescapes to
payload ++ [crc] (`unescFrom_stuffed`) -/
theorem overflow_reported (ctx : Ctx) (h : ctx.WF) (r : Recv) (hr : Idle r) (p : List Byte)
    (hcap : 1 ≤ r.cap) (hbig : r.cap < p.length + 2) :
    OVERFLOW ∈ (feed ctx r (encode ctx p)).2 ∧ delivered ctx r (encode ctx p) = [] := by
  have hnm : ∀ b ∈ frameBody ctx p ++ [], b ≠ ctx.start ∧ b ≠ ctx.stop := by
    rw [List.append_nil]; exact frameBody_no_marker ctx h p
  obtain ⟨o1, o2, _⟩ := overflow_any_state ctx h r (Or.inr (Or.inl hr)) (frameBody ctx p) [] hnm
    (p ++ [strmcrc8 0xFF#8 p]) false (unescFrom_stuffed ctx h [] _) (by simp; omega)
  rw [List.append_nil] at o1 o2
  rw [encode_eq]; exact ⟨o1, o2⟩

-- non-vacuity: 41 42 43 does not fit into a 3-byte buffer
example : (Ctx.v1.start ≠ Ctx.v1.stop ∨ Ready (Recv.init 3)) ∧
    (∀ b ∈ [0x41#8, 0x42#8, 0x43#8] ++ ([] : List Byte), b ≠ Ctx.v1.start ∧ b ≠ Ctx.v1.stop) ∧
    unescPartial Ctx.v1 [0x41#8, 0x42#8, 0x43#8] = some ([0x41#8, 0x42#8, 0x43#8], false) ∧
    (Recv.init 3).cap - 1 < [0x41#8, 0x42#8, 0x43#8].length :=
  ⟨Or.inl (by decide), by simp [Ctx.v1], by decide, by decide⟩

/-- why `Ready` is required when the markers coincide: a v0 receiver that is in
the middle of a frame takes the opening marker of the over-long frame for a stop
marker and swallows the frame as garbage — no OVERFLOW at all (and nothing delivered) -/
theorem overflow_coincide_inframe_witness :
    OVERFLOW ∉ (feed Ctx.v0 ⟨.s1, 0x12#8, [0x55#8], 3⟩
      (Ctx.v0.start :: ([0x41#8, 0x42#8, 0x43#8] ++ [Ctx.v0.stop]))).2 ∧
    delivered Ctx.v0 ⟨.s1, 0x12#8, [0x55#8], 3⟩
      (Ctx.v0.start :: ([0x41#8, 0x42#8, 0x43#8] ++ [Ctx.v0.stop])) = [] := by decide +kernel

/-! ### resynchronisation -/

/-- START ≠ STOP: after ANY garbage prefix `g` (fed to any receiver `r`,
whatever state that leaves it in), the well-formed frames that follow are all
delivered, from the first one, in order, and nothing else is delivered after
the garbage. -/
theorem resync_distinct (ctx : Ctx) (h : ctx.WF) (hne : ctx.start ≠ ctx.stop) (r : Recv)
    (g : List Byte) (ps : List (List Byte)) (hcap : ∀ p ∈ ps, p.length + 2 ≤ r.cap) :
    delivered ctx r (g ++ ps.flatMap (encode ctx)) = delivered ctx r g ++ ps := by
  rw [delivered_append]
  congr 1
  have hc : (feed ctx r g).1.cap = r.cap := feed_cap ctx r g
  cases ps with
  | nil => rfl
  | cons p ps =>
    obtain ⟨d, s0, cp⟩ := frame_any_state_distinct ctx h hne (feed ctx r g).1 p (by rw [hc]; exact hcap p (by simp))
    rw [List.flatMap_cons, delivered_append, d,
      frames_from_ready ctx h _ (Or.inl (Or.inl s0)) ps (fun q hq => by rw [cp, hc]; exact hcap q (by simp [hq]))]
    rfl

/-- START = STOP (v0 alphabet, after `fix: … resynchronises when start and stop
markers coincide`): after any garbage prefix, of the frames p₁ p₂ … that follow
at most the first is lost: what is delivered after the garbage is `junk ++
[p₂, …]` where `junk` is at most one packet (p₁ itself, or a packet completed
by p₁'s opening marker, or nothing). -/
theorem resync_coincide (ctx : Ctx) (h : ctx.WF) (he : ctx.start = ctx.stop) (r : Recv)
    (g : List Byte) (p1 : List Byte) (ps : List (List Byte))
    (hcap : ∀ p ∈ p1 :: ps, p.length + 2 ≤ r.cap) :
    ∃ junk, junk.length ≤ 1 ∧
      delivered ctx r (g ++ (p1 :: ps).flatMap (encode ctx)) = delivered ctx r g ++ junk ++ ps := by
  have hc : (feed ctx r g).1.cap = r.cap := feed_cap ctx r g
  obtain ⟨j1, rd, cp⟩ := first_frame_coincide ctx h he (feed ctx r g).1 p1
    (by rw [hc]; exact hcap p1 (by simp))
  refine ⟨delivered ctx (feed ctx r g).1 (encode ctx p1), j1, ?_⟩
  rw [delivered_append, List.flatMap_cons, delivered_append]
  rw [frames_from_ready ctx h _ rd ps (by intro q hq; rw [cp, hc]; exact hcap q (by simp [hq]))]
  simp

/-- when the receiver is between frames or primed (e.g. freshly initialised),
nothing is lost even when the markers coincide -/
theorem frames_delivered_from_init (ctx : Ctx) (h : ctx.WF) (cap : Nat) (ps : List (List Byte))
    (hcap : ∀ p ∈ ps, p.length + 2 ≤ cap) :
    delivered ctx (Recv.init cap) (ps.flatMap (encode ctx)) = ps :=
  frames_from_ready ctx h (Recv.init cap) (Or.inl (Or.inl rfl)) ps hcap

-- non-vacuity: the shipped alphabets satisfy the hypotheses of the two resync theorems
example : Ctx.v1.WF ∧ Ctx.v1.start ≠ Ctx.v1.stop := by decide
example : Ctx.v0.WF ∧ Ctx.v0.start = Ctx.v0.stop := by decide

/-- historical witness: the stream of C05-v0-never-resyncs. On the repaired
model the second and third frame after the garbage `55 AC 66` are delivered. -/
theorem resync_v0_example :
    delivered Ctx.v0 (Recv.init 8)
      ([0x55#8, 0xAC#8, 0x66#8] ++ [[0x41#8], [0x42#8], [0x43#8]].flatMap (encode Ctx.v0)) =
      [[0x42#8], [0x43#8]] := by decide +kernel

/-! ### legacy receiver (gstuff_autorecv_newchar_v1) -/

/-- legacy receiver: never more than capacity-1 bytes in the line (every stream, every
capacity; capacity 0: nothing is stored — see the remark at `recv_bounds`) -/
theorem legacy_bounds (cap : Nat) (bs : List Byte) :
    (lfeed (LRecv.init cap) bs).1.line.length ≤ cap - 1 ∧ (lfeed (LRecv.init cap) bs).1.cap = cap := by
  have h := lfeed_lineOK (LRecv.init cap) bs (by simp [LLineOK, LRecv.init])
  have hc := lfeed_cap (LRecv.init cap) bs
  simp only [LLineOK, hc] at h
  exact ⟨h, hc⟩

/-- legacy receiver, buffer level (`gstuff_autorecv_setbuf_v1(buf, cap)`): as
`recv_never_faults` — no fault for any declared capacity and stream, refinement of
the list-level legacy receiver, `cursor = len ≤ cap - 1`, memory from index `cap`
on untouched -/
theorem legacy_never_faults (buf : List Byte) (cap : BitVec 32) (hblk : cap.toNat ≤ buf.length)
    (bs : List Byte) :
    ∃ r', blfeed (BLRecv.init buf cap) bs = some (r', (lfeed (LRecv.init cap.toNat) bs).2) ∧
      r'.abs = (lfeed (LRecv.init cap.toNat) bs).1 ∧
      r'.line.cursor = r'.line.len ∧ r'.line.len.toNat ≤ cap.toNat - 1 ∧ r'.line.cap = cap ∧
      r'.line.buf.length = buf.length ∧ r'.line.buf.drop cap.toNat = buf.drop cap.toNat := by
  obtain ⟨r', e1, e2, e3, e4, e5, e6⟩ := blfeed_refines (BLRecv.init buf cap) (BLRecv.init_ok buf cap hblk) bs
  rw [BLRecv.init_abs] at e1 e2
  have hc : r'.line.cap = cap := e4
  exact ⟨r', e1, e2, e3.cur, by have := e3.bound; rw [hc] at this; exact this, hc, e5, e6⟩

/-- the legacy trace the driver computes (with `sline_getline` at every NEWPACKAGE) never faults, for every
declared capacity -/
theorem legacy_trace_never_faults_any_cap (buf : List Byte) (cap : BitVec 32)
    (hblk : cap.toNat ≤ buf.length) (bs : List Byte) :
    blfeedTrace (BLRecv.init buf cap) bs = some (lfeedTrace (LRecv.init cap.toNat) bs) := by
  rw [← BLRecv.init_abs buf cap]
  exact blfeedTrace_eq_any _ (BLRecv.init_ok buf cap hblk) bs

theorem legacy_trace_never_faults (buf : List Byte) (cap : BitVec 32)
    (hcap : 1 ≤ cap.toNat) (hblk : cap.toNat ≤ buf.length) (bs : List Byte) :
    blfeedTrace (BLRecv.init buf cap) bs = some (lfeedTrace (LRecv.init cap.toNat) bs) :=
  legacy_trace_never_faults_any_cap buf cap hblk bs

/-- Legacy resynchronisation (start = stop = AC): after ANY garbage prefix `g`
and the first frame `p₁`, every following frame is delivered intact and in
order; the deliveries end with exactly `[p₂, …]` (packet = line minus its
trailing CRC byte, the legacy convention). -/
theorem legacy_resync (cap : Nat) (g : List Byte) (p1 : List Byte) (ps : List (List Byte))
    (hcap : ∀ p ∈ ps, p.length + 2 ≤ cap) :
    ∃ junk, ldelivered (LRecv.init cap) (g ++ (p1 :: ps).flatMap encodeLeg) = junk ++ ps := by
  -- everything up to and including p₁'s closing marker
  have hsplit : g ++ (p1 :: ps).flatMap encodeLeg =
      ((g ++ legStart :: frameBody Ctx.leg p1) ++ [legStart]) ++ ps.flatMap encodeLeg := by
    simp [encodeLeg_eq]
  rw [hsplit, ldelivered_append]
  refine ⟨ldelivered (LRecv.init cap) ((g ++ legStart :: frameBody Ctx.leg p1) ++ [legStart]), ?_⟩
  congr 1
  have hgood : LGood (lfeed (LRecv.init cap) (g ++ legStart :: frameBody Ctx.leg p1)).1 :=
    lfeed_good _ _ (by simp [LGood, LRecv.init])
  have hready : LReady (lfeed (LRecv.init cap) ((g ++ legStart :: frameBody Ctx.leg p1) ++ [legStart])).1 := by
    rw [lfeed_append]; simp only [lfeed]
    exact lready_after_marker _ hgood
  apply lframes_from_ready _ hready
  intro q hq
  rw [lfeed_cap]; exact hcap q hq

/-- from a freshly initialised legacy receiver every frame is delivered, from the first -/
theorem legacy_frames_from_init (cap : Nat) (ps : List (List Byte)) (hcap : ∀ p ∈ ps, p.length + 2 ≤ cap) :
    ldelivered (LRecv.init cap) (ps.flatMap encodeLeg) = ps :=
  lframes_from_ready (LRecv.init cap) (Or.inl (Or.inr rfl)) ps hcap

/-! ### legacy receiver: soundness and the overflow clause (after `fix: legacy gstuff
receiver hunts for the start marker`; before it both clauses were false, see the historical
witnesses below) -/

/-- LEGACY SOUNDNESS, same shape as `recv_sound`.  Whenever the legacy receiver
answers NEWPACKAGE (to byte `c` after ANY stream `bs`, any capacity): `c` is the
marker, a marker was received before, and the unescaping of the raw bytes since
the LAST marker is exactly the delivered packet followed by its CRC-8 — where
the packet is the line without its last byte (the legacy receiver leaves the
CRC byte in the line, which therefore is never empty here). -/
theorem legacy_sound (cap : Nat) (bs : List Byte) (c : Byte)
    (hn : (lnewchar (lfeed (LRecv.init cap) bs).1 c).2 = NEWPACKAGE) :
    c = legStart ∧ ∃ since, sinceLastStart legStart bs = some since ∧
      unescape Ctx.leg since =
        some ((lnewchar (lfeed (LRecv.init cap) bs).1 c).1.line.dropLast ++
              [strmcrc8 0xFF#8 (lnewchar (lfeed (LRecv.init cap) bs).1 c).1.line.dropLast]) ∧
      (lnewchar (lfeed (LRecv.init cap) bs).1 c).1.line ≠ [] := by
  have hs := lfeed_sound (LRecv.init cap) none bs (by simp [LSound, LRecv.init])
  exact lnewpackage_sound _ _ c hs hn

-- non-vacuity: the frame of [41] is answered with NEWPACKAGE on its closing marker
example : (lnewchar (lfeed (LRecv.init 8) [legStart, 0x41#8, strmcrc8 0xFF#8 [0x41#8]]).1 legStart).2
    = NEWPACKAGE := by decide +kernel

/-- LEGACY OVERFLOW CLAUSE, from ANY reachable state (any history `g`), any
capacity, ANY byte sequence between two markers whose unescaping is valid up
to a point where it has grown beyond capacity-1 bytes: OVERFLOW is answered;
the only thing that can be delivered is a packet completed by the OPENING
marker (begun inside `g`) — nothing of the over-long frame; and the receiver
ends primed for the next frame. -/
theorem legacy_overflow_reported (cap : Nat) (g pre rest : List Byte)
    (hnm : ∀ b ∈ pre ++ rest, b ≠ legStart)
    (u : List Byte) (pend : Bool) (hu : unescPartial Ctx.leg pre = some (u, pend))
    (hbig : cap - 1 < u.length) :
    OVERFLOW ∈ (lfeed (lfeed (LRecv.init cap) g).1 (legStart :: ((pre ++ rest) ++ [legStart]))).2 ∧
    ldelivered (lfeed (LRecv.init cap) g).1 (legStart :: ((pre ++ rest) ++ [legStart])) =
      ldelivered (lfeed (LRecv.init cap) g).1 [legStart] ∧
    (lfeed (lfeed (LRecv.init cap) g).1 (legStart :: ((pre ++ rest) ++ [legStart]))).1 =
      ⟨.l1, 0xFF#8, [], cap⟩ := by
  have hgood : LGood (lfeed (LRecv.init cap) g).1 := lfeed_good _ _ (by simp [LGood, LRecv.init])
  have hcap : (lfeed (LRecv.init cap) g).1.cap = cap := lfeed_cap _ _
  generalize (lfeed (LRecv.init cap) g).1 = r at hgood hcap
  obtain ⟨o1, o2, o3⟩ := lfeed_body_overflow ⟨.s1, 0xFF#8, [], cap⟩ pre rest (Or.inl rfl)
    (by simp [LineOK]) hnm u pend (by simpa [unescFrom, unescPartial] using hu) hbig
  simp only [toL] at o1 o2 o3
  -- the receiver after the opening marker behaves like the primed one on the (non-empty) body
  have hne : pre ++ rest ≠ [] := by
    intro he
    have : pre = [] := (List.append_eq_nil_iff.mp he).1
    subst this
    simp [unescPartial] at hu
    rw [hu.1] at hbig; simp at hbig
  have hsame := lafter_marker_feed r hgood (pre ++ rest) hne
  rw [hcap] at hsame
  have hcl := lnewchar_marker_idle _ (Or.inr o2)
  rw [lfeed_cap] at hcl
  generalize pre ++ rest = body at o1 o2 o3 hsame hcl ⊢
  simp only [lfeed, ldelivered, lfeed_append, ldelivered_append, hsame.1, hsame.2, o3,
    hcl, List.nil_append]
  refine ⟨List.mem_cons_of_mem _ (List.mem_append_left _ o1), ?_, trivial⟩
  split <;> simp [CONTINUE, NEWPACKAGE]

-- non-vacuity: 41 42 43 does not fit into a 3-byte buffer
example : (∀ b ∈ [0x41#8, 0x42#8, 0x43#8] ++ ([] : List Byte), b ≠ legStart) ∧
    unescPartial Ctx.leg [0x41#8, 0x42#8, 0x43#8] = some ([0x41#8, 0x42#8, 0x43#8], false) ∧
    3 - 1 < [0x41#8, 0x42#8, 0x43#8].length :=
  ⟨by simp [legStart], by decide, by decide⟩

/-- historical witness for the overflow clause (defect C05-legacy-no-hunt):
the WELL-FORMED frame of the payload 01 02 EB 41 does not
fit into a 3-byte buffer; before the repair the receiver answered OVERFLOW on EB
and then delivered the tail `41` as a packet (statuses C C C O C C N); the
repaired receiver skips the tail -/
theorem legacy_overflow_tail_witness :
    gstuffingLeg [0x01#8, 0x02#8, 0xEB#8, 0x41#8] = [0xAC#8, 0x01#8, 0x02#8, 0xEB#8, 0x41#8, 0xA0#8, 0xAC#8] ∧
    (lfeed (LRecv.init 3) (gstuffingLeg [0x01#8, 0x02#8, 0xEB#8, 0x41#8])).2 =
      [CONTINUE, CONTINUE, CONTINUE, OVERFLOW, CONTINUE, CONTINUE, CONTINUE] ∧
    ldelivered (LRecv.init 3) (gstuffingLeg [0x01#8, 0x02#8, 0xEB#8, 0x41#8]) = [] := by
  decide +kernel

/-- historical witness (defect C05-legacy-no-hunt, repaired by `fix: legacy
receiver hunts for the start marker`): before the repair `41 crc AC` with no
start marker at all was delivered as the packet [41]; the repaired receiver
skips everything in front of the first marker and delivers nothing -/
theorem legacy_no_hunt_witness :
    sinceLastStart legStart [0x41#8, strmcrc8 0xFF#8 [0x41#8]] = none ∧
    ldelivered (LRecv.init 16) [0x41#8, strmcrc8 0xFF#8 [0x41#8], legStart] = [] := by
  decide +kernel

/-- historical witness: before the repair the bytes after a DATA_ERROR (invalid
escape) were accumulated without waiting for a start marker, `AC AD 00 41 crc AC`
delivered [41] although the bytes since the last start marker (`AD 00 41 crc`)
do not unescape; the repaired receiver hunts for the next marker and delivers nothing -/
theorem legacy_no_hunt_after_error_witness :
    ldelivered (LRecv.init 16) [legStart, legStub, 0x00#8, 0x41#8, strmcrc8 0xFF#8 [0x41#8], legStart] = [] ∧
    unescape ⟨legStart, legStart, legStub, legStubStart, legStubStart, legStubStub⟩
      [legStub, 0x00#8, 0x41#8, strmcrc8 0xFF#8 [0x41#8]] = none := by
  decide +kernel

/-! ### soundness and overflow clauses ON THE BUFFER-LEVEL MODEL, both receivers -/

/-- LEGACY SOUNDNESS about the C object itself (`struct sline` block, 32-bit counters, every access
checked): after ANY stream `bs` fed to `gstuff_autorecv_setbuf_v1(buf, cap)` (any block, any declared
capacity ≤ |buf|), whenever `gstuff_autorecv_newchar_v1` answers NEWPACKAGE to a byte `c`: `c` is the
marker; a marker was received before; reading the packet through `sline_getline` / `sline_size` does
not fault and hands over a NON-EMPTY line of at most cap-1 bytes; and the unescaping of the raw bytes
since the last marker is exactly (line minus its last byte) followed by the matching CRC-8 — a packet
is delivered only if its CRC matches. -/
theorem legacy_sound_buf (buf : List Byte) (cap : BitVec 32) (hblk : cap.toNat ≤ buf.length)
    (bs : List Byte) (c : Byte) (r r' : BLRecv) (ss : List Int)
    (h1 : blfeed (BLRecv.init buf cap) bs = some (r, ss)) (h2 : blnewchar r c = some (r', NEWPACKAGE)) :
    c = legStart ∧ ∃ since r'' line, sinceLastStart legStart bs = some since ∧
      r'.getline = some (r'', line) ∧ line ≠ [] ∧ line.length + 1 ≤ cap.toNat ∧
      unescape Ctx.leg since = some (line.dropLast ++ [strmcrc8 0xFF#8 line.dropLast]) := by
  -- the run and the call after it are those of the list-level receiver
  obtain ⟨r0, e1, e2, e3, _⟩ := blfeed_refines (BLRecv.init buf cap) (BLRecv.init_ok buf cap hblk) bs
  obtain ⟨r1, f1, f2, f3, _⟩ := blnewchar_refines r0 e3 c
  rw [e1] at h1
  obtain rfl : r0 = r := (Prod.mk.inj (Option.some.inj h1)).1
  rw [f1] at h2
  obtain ⟨hr, hst⟩ := Prod.mk.inj (Option.some.inj h2)
  rw [hr] at f2 f3
  rw [e2, BLRecv.init_abs] at hst f2
  obtain ⟨hc, since, hs1, hs2, hs3⟩ := legacy_sound cap.toNat bs c hst
  rw [← f2] at hs2 hs3
  have hlen : r'.abs.line.length ≤ cap.toNat - 1 := by
    have := lnewchar_lineOK _ c (lfeed_lineOK (LRecv.init cap.toNat) bs (Nat.zero_le _))
    rw [LLineOK, lnewchar_cap, lfeed_cap] at this
    rw [f2]; exact this
  have hpos : 1 ≤ r'.abs.line.length := List.length_pos_iff.mpr hs3
  obtain ⟨r2, g1, _, _⟩ := lgetline_ok_any r' f3
  exact ⟨hc, since, r2, r'.abs.line, hs1, g1, hs3, by omega, hs2⟩

-- non-vacuity: the buffer-level legacy receiver does answer NEWPACKAGE (frame of [41] in an 8-byte block)
example : ((blfeed (BLRecv.init (List.replicate 8 0xA5#8) 8#32) [legStart, 0x41#8, strmcrc8 0xFF#8 [0x41#8]]).bind
    fun x => blnewchar x.1 legStart).map (·.2) = some NEWPACKAGE := by decide +kernel

/-- the same for the configurable receiver on the buffer-level model (`init(buf, cap)`, `cstr()` /
`size()`): NEWPACKAGE only on the stop marker, `cstr()` does not fault, the line it hands over has at
most cap-2 bytes and line ++ crc8(line) is the unescaping of the raw bytes since the last start marker -/
theorem recv_sound_buf (ctx : Ctx) (h : ctx.WF) (buf : List Byte) (cap : BitVec 32) (hblk : cap.toNat ≤ buf.length)
    (bs : List Byte) (c : Byte) (r r' : BRecv) (ss : List Int)
    (h1 : bfeed ctx (BRecv.init buf cap) bs = some (r, ss)) (h2 : bnewchar ctx r c = some (r', NEWPACKAGE)) :
    c = ctx.stop ∧ ∃ since r'' line, sinceLastStart ctx.start bs = some since ∧
      r'.cstr = some (r'', line) ∧ line.length + 2 ≤ cap.toNat ∧
      unescape ctx since = some (line ++ [strmcrc8 0xFF#8 line]) := by
  -- the run and the call after it are those of the list-level receiver
  obtain ⟨r0, e1, e2, e3, _⟩ := bfeed_refines ctx (BRecv.init buf cap) (BRecv.init_ok buf cap hblk) bs
  obtain ⟨r1, f1, f2, f3, _⟩ := bnewchar_refines ctx r0 e3 c
  rw [e1] at h1
  obtain rfl : r0 = r := (Prod.mk.inj (Option.some.inj h1)).1
  rw [f1] at h2
  obtain ⟨hr, hst⟩ := Prod.mk.inj (Option.some.inj h2)
  rw [hr] at f2 f3
  rw [e2, BRecv.init_abs] at hst f2
  obtain ⟨hc, since, hs1, hs2⟩ := recv_sound ctx h cap.toNat bs c hst
  rw [← f2] at hs2
  -- before the stop marker the line was  line ++ [crc]  (non-empty: CRC residue 0 ≠ FF), at most cap - 1 bytes
  obtain ⟨n1, _, n3, n4⟩ := newpackage_inv ctx (feed ctx (Recv.init cap.toNat) bs).1 c hst
  have hgood : Good (feed ctx (Recv.init cap.toNat) bs).1 := feed_good ctx _ bs (by simp [Good, Recv.init])
  have hne : (feed ctx (Recv.init cap.toNat) bs).1.line ≠ [] := by
    intro he
    have := hgood n1 he
    rw [n3] at this
    exact absurd this (by decide)
  have hb := (recv_bounds ctx cap.toNat bs).1
  have hpos : 1 ≤ (feed ctx (Recv.init cap.toNat) bs).1.line.length := List.length_pos_iff.mpr hne
  have hl1 : r'.abs.line.length + 2 ≤ cap.toNat := by
    rw [f2, n4, List.length_dropLast]; omega
  obtain ⟨r2, g1, _, _⟩ := cstr_ok_any r' f3
  exact ⟨hc, since, r2, r'.abs.line, hs1, g1, hl1, hs2⟩

/-- LEGACY OVERFLOW CLAUSE about the C object: block `buf`, declared capacity 1 ≤ cap ≤ |buf|, ANY
history `g`, ANY marker-free byte sequence between two markers whose unescaping grows beyond cap-1
bytes: the trace computed on the buffer-level model (what the driver prints, `sline_getline` at every
NEWPACKAGE) exists — NO ACCESS OUTSIDE THE BLOCK —, contains OVERFLOW among the answers to the frame,
and its deliveries are those of `g` followed by the opening marker alone: nothing of the over-long frame -/
theorem legacy_overflow_reported_buf (buf : List Byte) (cap : BitVec 32) (hcap1 : 1 ≤ cap.toNat)
    (hblk : cap.toNat ≤ buf.length) (g pre rest : List Byte)
    (hnm : ∀ b ∈ pre ++ rest, b ≠ legStart)
    (u : List Byte) (pend : Bool) (hu : unescPartial Ctx.leg pre = some (u, pend))
    (hbig : cap.toNat - 1 < u.length) :
    ∃ t t0, blfeedTrace (BLRecv.init buf cap) (g ++ legStart :: ((pre ++ rest) ++ [legStart])) = some t ∧
      blfeedTrace (BLRecv.init buf cap) (g ++ [legStart]) = some t0 ∧
      'O' ∈ t.1.drop g.length ∧ t.2 = t0.2 := by
  obtain ⟨o1, o2, _⟩ := legacy_overflow_reported cap.toNat g pre rest hnm u pend hu hbig
  refine ⟨_, _, legacy_trace_never_faults_any_cap buf cap hblk _, legacy_trace_never_faults_any_cap buf cap hblk _, ?_, ?_⟩
  · rw [lfeedTrace_drop]
    exact List.mem_map.mpr ⟨OVERFLOW, o1, by decide⟩
  · rw [lfeedTrace_eq, lfeedTrace_eq]
    simp only [ldelivered_append, o2]

/-- the configurable receiver alike: the history `g` may leave the receiver in any state when the markers differ,
in any READY state (between frames or primed) when they coincide (v0; see `overflow_any_state`).  The
buffer-level trace the driver prints exists, OVERFLOW is among the answers to the over-long frame, deliveries =
those of the history. -/
theorem overflow_reported_buf_ready (ctx : Ctx) (h : ctx.WF)
    (buf : List Byte) (cap : BitVec 32) (hcap1 : 1 ≤ cap.toNat) (hblk : cap.toNat ≤ buf.length)
    (g pre rest : List Byte)
    (hr : ctx.start ≠ ctx.stop ∨ Ready (feed ctx (Recv.init cap.toNat) g).1)
    (hnm : ∀ b ∈ pre ++ rest, b ≠ ctx.start ∧ b ≠ ctx.stop)
    (u : List Byte) (pend : Bool) (hu : unescPartial ctx pre = some (u, pend))
    (hbig : cap.toNat - 1 < u.length) :
    ∃ t t0, bfeedTrace ctx (BRecv.init buf cap) (g ++ ctx.start :: ((pre ++ rest) ++ [ctx.stop])) = some t ∧
      bfeedTrace ctx (BRecv.init buf cap) g = some t0 ∧
      'O' ∈ t.1.drop g.length ∧ t.2 = t0.2 := by
  have hc : (feed ctx (Recv.init cap.toNat) g).1.cap = cap.toNat := feed_cap ctx _ g
  obtain ⟨o1, o2, _⟩ := overflow_any_state ctx h (feed ctx (Recv.init cap.toNat) g).1 hr pre rest hnm u pend hu
    (by rw [hc]; exact hbig)
  refine ⟨_, _, recv_trace_never_faults_any_cap ctx buf cap hblk _, recv_trace_never_faults_any_cap ctx buf cap hblk _, ?_, ?_⟩
  · rw [feedTrace_drop]
    exact List.mem_map.mpr ⟨OVERFLOW, o1, by decide⟩
  · rw [feedTrace_eq, feedTrace_eq]
    simp only [delivered_append, o2, List.append_nil]

theorem overflow_reported_buf (ctx : Ctx) (h : ctx.WF) (hne : ctx.start ≠ ctx.stop)
    (buf : List Byte) (cap : BitVec 32) (hcap1 : 1 ≤ cap.toNat) (hblk : cap.toNat ≤ buf.length)
    (g pre rest : List Byte) (hnm : ∀ b ∈ pre ++ rest, b ≠ ctx.start ∧ b ≠ ctx.stop)
    (u : List Byte) (pend : Bool) (hu : unescPartial ctx pre = some (u, pend))
    (hbig : cap.toNat - 1 < u.length) :
    ∃ t t0, bfeedTrace ctx (BRecv.init buf cap) (g ++ ctx.start :: ((pre ++ rest) ++ [ctx.stop])) = some t ∧
      bfeedTrace ctx (BRecv.init buf cap) g = some t0 ∧
      'O' ∈ t.1.drop g.length ∧ t.2 = t0.2 :=
  overflow_reported_buf_ready ctx h buf cap hcap1 hblk g pre rest (Or.inl hne) hnm u pend hu hbig

/-- a legacy struct used WITHOUT `gstuff_autorecv_setbuf_v1` (zero-initialised: state 0, crc 0, no
buffer, capacity 0 — how a session starts): no call faults and nothing is ever stored -/
theorem legacy_nobuf_never_faults (bs : List Byte) :
    ∃ r', blfeed ⟨.l0, 0#8, ⟨[], 0, 0, 0⟩⟩ bs = some (r', (lfeed ⟨.l0, 0#8, [], 0⟩ bs).2) ∧
      r'.line.len = 0 ∧ r'.line.buf = [] := by
  have hok : SlineOK (⟨.l0, 0#8, ⟨[], 0, 0, 0⟩⟩ : BLRecv).line := ⟨rfl, by simp, by simp⟩
  obtain ⟨r', e1, _, e3, e4, e5, _⟩ := blfeed_refines ⟨.l0, 0#8, ⟨[], 0, 0, 0⟩⟩ hok bs
  refine ⟨r', e1, ?_, ?_⟩
  · have := e3.bound
    rw [e4] at this
    exact BitVec.eq_of_toNat_eq (by simpa using this)
  · exact List.eq_nil_of_length_eq_zero (by simpa using e5)

/-! ### resynchronisation, exactly -/

/-- SELF-RESYNCHRONISATION, EXACT FORM, every well-formed alphabet (start ≠ stop AND start = stop),
any garbage `g` fed to a fresh receiver (`g` arbitrary = every reachable state), frames p₁ p₂ … of
which p₂ … fit.  Let r' be the receiver after the garbage.
  (1) EXACTLY ONE FRAME — the first — IS LOST iff  start = stop  and r' is inside a frame with a
      non-empty line: p₁'s opening marker is then taken for the stop marker, which delivers the line
      begun inside the garbage (if its CRC happens to match) or nothing; p₁ — of ANY length, fitting
      or not — is skipped; every later frame is delivered.
  (2) in every other case NO frame is lost: all of p₁ p₂ … are delivered, in order, nothing else.
So at most one frame is lost, never a later one, and the condition under which it is lost is decidable
from the receiver state. -/
theorem resync_loss_exact (ctx : Ctx) (h : ctx.WF) (cap : Nat) (g p1 : List Byte) (ps : List (List Byte))
    (hcap : ∀ p ∈ ps, p.length + 2 ≤ cap) :
    (ctx.start = ctx.stop ∧ (feed ctx (Recv.init cap) g).1.state = .s1 ∧ (feed ctx (Recv.init cap) g).1.line ≠ [] →
      delivered ctx (Recv.init cap) (g ++ (p1 :: ps).flatMap (encode ctx)) =
        delivered ctx (Recv.init cap) g ++
          (if (feed ctx (Recv.init cap) g).1.crc = 0#8 then [(feed ctx (Recv.init cap) g).1.line.dropLast] else []) ++ ps) ∧
    (¬ (ctx.start = ctx.stop ∧ (feed ctx (Recv.init cap) g).1.state = .s1 ∧ (feed ctx (Recv.init cap) g).1.line ≠ []) →
      p1.length + 2 ≤ cap →
      delivered ctx (Recv.init cap) (g ++ (p1 :: ps).flatMap (encode ctx)) =
        delivered ctx (Recv.init cap) g ++ p1 :: ps) := by
  have hc : (feed ctx (Recv.init cap) g).1.cap = cap := feed_cap ctx _ g
  have hgood : Good (feed ctx (Recv.init cap) g).1 := feed_good ctx _ g (by simp [Good, Recv.init])
  rw [delivered_append, List.flatMap_cons, delivered_append]
  generalize (feed ctx (Recv.init cap) g).1 = r' at hc hgood
  subst hc
  constructor
  · rintro ⟨he, hs, hl⟩
    obtain ⟨st, crc, line, cap'⟩ := r'
    simp only at hs hl; subst hs
    obtain ⟨d, rd, cp⟩ := first_frame_inframe ctx h he crc line cap' hl p1
    rw [d, frames_from_ready ctx h _ rd ps (by intro q hq; rw [cp]; exact hcap q hq)]
    simp
  · intro hn hp1
    obtain ⟨_, d, s0, cp⟩ := first_frame ctx h r' hn p1 hp1
    rw [d (Or.inr hgood), frames_from_ready ctx h _ (Or.inl (Or.inl s0)) ps (by intro q hq; rw [cp]; exact hcap q hq)]
    simp

-- non-vacuity of both branches: see `resync_loss_tight_witness`

/-- the bound "one frame" is tight and so is "none": v0, capacity 8, frames [41] [42]; after the
garbage `AC 66` (in a frame, line 66) the first frame is lost, after the garbage `66` (hunting) none -/
theorem resync_loss_tight_witness :
    delivered Ctx.v0 (Recv.init 8) ([0xAC#8, 0x66#8] ++ [[0x41#8], [0x42#8]].flatMap (encode Ctx.v0)) = [[0x42#8]] ∧
    delivered Ctx.v0 (Recv.init 8) ([0x66#8] ++ [[0x41#8], [0x42#8]].flatMap (encode Ctx.v0)) = [[0x41#8], [0x42#8]] := by
  decide +kernel

/-- LEGACY RECEIVER (start = stop = AC), exact form: after ANY garbage `g` NO FRAME IS LOST — every
frame p₁ p₂ … that fits is delivered, in order; the only other delivery is at most one packet completed
by p₁'s opening marker (begun inside the garbage).  (The legacy automaton treats every marker as both
stop and start: state 0 accumulates at once, which is why it does better than "from the second at the
latest"; `legacy_resync` only says `junk ++ [p₂ …]` with unbounded junk.) -/
theorem legacy_resync_exact (cap : Nat) (g p1 : List Byte) (ps : List (List Byte))
    (hcap : ∀ p ∈ p1 :: ps, p.length + 2 ≤ cap) :
    ldelivered (LRecv.init cap) (g ++ (p1 :: ps).flatMap encodeLeg) =
      ldelivered (LRecv.init cap) (g ++ [legStart]) ++ p1 :: ps ∧
    (ldelivered (LRecv.init cap) (g ++ [legStart])).length ≤ (ldelivered (LRecv.init cap) g).length + 1 := by
  have hsplit : g ++ (p1 :: ps).flatMap encodeLeg =
      (g ++ [legStart]) ++ ((frameBody Ctx.leg p1 ++ [legStart]) ++ ps.flatMap encodeLeg) := by
    simp [encodeLeg_eq]
  have hgood : LGood (lfeed (LRecv.init cap) g).1 := lfeed_good _ _ (by simp [LGood, LRecv.init])
  have hcg : (lfeed (LRecv.init cap) g).1.cap = cap := lfeed_cap _ _
  constructor
  · rw [hsplit, ldelivered_append, ldelivered_append]
    congr 1
    rw [lfeed_append]
    simp only [lfeed]
    generalize (lfeed (LRecv.init cap) g).1 = r at hgood hcg
    obtain ⟨_, _, e, d⟩ := lframe_tail p1 cap (hcap p1 (by simp))
    -- the receiver after the opening marker behaves like the primed one on the (non-empty) rest of the frame
    have hsame := lafter_marker_feed r hgood (frameBody Ctx.leg p1 ++ [legStart]) (by simp)
    rw [hcg] at hsame
    rw [ldelivered_append, hsame.1, hsame.2, d, e]
    rw [lframes_from_ready _ (Or.inl (Or.inl rfl)) ps (fun q hq => hcap q (by simp [hq]))]
    simp
  · rw [ldelivered_append]
    simp only [ldelivered, List.length_append]
    split <;> simp

-- non-vacuity: garbage AC 66 (in a frame), then the frames of [41] and [42]: both delivered
example : ldelivered (LRecv.init 8) ([0xAC#8, 0x66#8] ++ [[0x41#8], [0x42#8]].flatMap encodeLeg) = [[0x41#8], [0x42#8]] := by
  decide +kernel

/-! ### the overflow clause on the buffer-level trace when start = stop -/

-- non-vacuity (v0, start = stop): after the history "frame of [41]" (a delivered packet) the receiver is between frames
example : Ctx.v0.start = Ctx.v0.stop ∧ Ready (feed Ctx.v0 (Recv.init 3) (encode Ctx.v0 [0x41#8])).1 :=
  ⟨by decide, Or.inl (Or.inl (by decide +kernel))⟩

/-- THE REMAINING CASE, exactly: start = stop and the history leaves the receiver INSIDE a frame with a
non-empty line (the only states that are not `Ready` besides "after the escape byte", from which the opening
marker restarts the frame).  Then the opening marker of the next frame is taken for a stop marker and the
frame - over-long or not, ANY body without a marker - is skipped as garbage: the buffer-level trace exists (no
access outside the block), what is delivered is exactly what the history followed by that one marker delivers
(NOTHING of the frame), and OVERFLOW is not among the answers.  So "not delivered" holds in every state;
"reported as overflow" fails exactly here (`overflow_coincide_inframe_witness`): this frame is the one the
resynchronisation clause allows to be lost when the markers coincide (`resync_loss_exact`). -/
theorem overflow_coincide_inframe_buf (ctx : Ctx) (he : ctx.start = ctx.stop)
    (buf : List Byte) (cap : BitVec 32) (hcap1 : 1 ≤ cap.toNat) (hblk : cap.toNat ≤ buf.length)
    (g body : List Byte) (hnm : ∀ b ∈ body, b ≠ ctx.start)
    (hs : (feed ctx (Recv.init cap.toNat) g).1.state = .s1)
    (hl : (feed ctx (Recv.init cap.toNat) g).1.line ≠ []) :
    ∃ t t0, bfeedTrace ctx (BRecv.init buf cap) (g ++ ctx.start :: (body ++ [ctx.stop])) = some t ∧
      bfeedTrace ctx (BRecv.init buf cap) (g ++ [ctx.start]) = some t0 ∧
      t.2 = t0.2 ∧ 'O' ∉ t.1.drop g.length := by
  have key : delivered ctx (feed ctx (Recv.init cap.toNat) g).1 (ctx.start :: (body ++ [ctx.stop])) =
        delivered ctx (feed ctx (Recv.init cap.toNat) g).1 [ctx.start] ∧
      OVERFLOW ∉ (feed ctx (feed ctx (Recv.init cap.toNat) g).1 (ctx.start :: (body ++ [ctx.stop]))).2 := by
    generalize (feed ctx (Recv.init cap.toNat) g).1 = r at hs hl
    obtain ⟨st, crc, line, cp⟩ := r
    simp only at hs hl
    subst hs
    exact inframe_swallow ctx he crc line cp hl body hnm
  refine ⟨_, _, recv_trace_never_faults_any_cap ctx buf cap hblk _, recv_trace_never_faults_any_cap ctx buf cap hblk _, ?_, ?_⟩
  · rw [feedTrace_eq, feedTrace_eq]
    simp only [delivered_append, key.1]
  · rw [feedTrace_drop]
    intro hmem
    obtain ⟨x, hx, hxo⟩ := List.mem_map.mp hmem
    have : x = OVERFLOW := stsChar_O x hxo
    exact key.2 (this ▸ hx)

example : Ctx.v0.start = Ctx.v0.stop ∧ (feed Ctx.v0 (Recv.init 3) [0xAC#8, 0x55#8]).1.state = .s1 ∧
    (feed Ctx.v0 (Recv.init 3) [0xAC#8, 0x55#8]).1.line ≠ [] := by decide +kernel

/-! ### `cstr()` / `sline_getline` at any time, capacity 0 included -/

/-- `cstr()` called AT ANY TIME (not only after NEWPACKAGE), after any stream, at any capacity, and on the
receiver that never got a buffer (`gstuff_autorecv(ctx)`: NULL, capacity 0): it does not fault and hands over
the bytes of the list-level line; with capacity 0 it stores nothing (the receiver object, its block included,
is unchanged) and the line is empty. -/
theorem cstr_any_time (ctx : Ctx) (buf : List Byte) (cap : BitVec 32)
    (hblk : cap.toNat ≤ buf.length) (bs : List Byte) :
    ∃ r' r'' sts, bfeed ctx (BRecv.init buf cap) bs = some (r', sts) ∧
      r'.cstr = some (r'', (feed ctx (Recv.init cap.toNat) bs).1.line) ∧
      (cap = 0 → r'' = r' ∧ (feed ctx (Recv.init cap.toNat) bs).1.line = []) := by
  obtain ⟨r', e1, e2, e3, e4, _, _⟩ := bfeed_refines ctx (BRecv.init buf cap) (BRecv.init_ok buf cap hblk) bs
  rw [BRecv.init_abs] at e1 e2
  obtain ⟨r2, g1, _, _, g4⟩ := cstr_ok_any r' e3
  refine ⟨r', r2, _, e1, by rw [g1, e2], fun h0 => ⟨g4 (by rw [e4, h0]; rfl), ?_⟩⟩
  have hb := (recv_bounds ctx cap.toNat bs).1
  have h00 : cap.toNat - 1 = 0 := by rw [h0]; rfl
  rw [h00] at hb
  exact List.eq_nil_of_length_eq_zero (by omega)

theorem cstr_nobuf_any_time (ctx : Ctx) (bs : List Byte) :
    ∃ r' sts, bfeed ctx BRecv.noBuf bs = some (r', sts) ∧ r'.cstr = some (r', []) := by
  obtain ⟨r', e1, e2, e3⟩ := recv_nobuf_never_faults ctx bs
  obtain ⟨r1, f1, _, f3, f4, _⟩ := bfeed_refines ctx BRecv.noBuf BRecv.noBuf_ok bs
  rw [e1] at f1
  obtain rfl : r' = r1 := (Prod.mk.inj (Option.some.inj f1)).1
  refine ⟨r', _, e1, ?_⟩
  have hc : r'.line.cap = 0 := by rw [f4]; rfl
  simp [BRecv.cstr, Sline.getline, hc, e2]

-- non-vacuity: capacity 0 on an empty block
example : (0#32).toNat ≤ ([] : List Byte).length := by decide

/-! ### a negative `len` given to `init` / `setbuf_v1` (caller error) -/

/-- INSIDE THE EXCLUDED REGION of `recv_never_faults` (`cap ≤ |buf|`): `init(buf, -1)` - the `int` length
arrives in `sline_init` as the unsigned capacity 0xFFFFFFFF - on a 4-byte block: the receiver accepts more
bytes than the block has and the fifth payload byte is stored outside it (fault); with the true length 4 the
same stream is answered OVERFLOW.  A negative length is a caller error the receiver cannot detect. -/
theorem recv_negative_len_witness :
    bfeed Ctx.v1 (BRecv.init [0, 0, 0, 0] (BitVec.ofInt 32 (-1))) [0xA8, 1, 2, 3, 4, 5] = none ∧
    (bfeed Ctx.v1 (BRecv.init [0, 0, 0, 0] 4#32) [0xA8, 1, 2, 3, 4, 5]).map (·.2) =
      some [CONTINUE, CONTINUE, CONTINUE, CONTINUE, OVERFLOW, GARBAGE] := by decide +kernel

/-- the legacy receiver (`gstuff_autorecv_setbuf_v1(a, buf, -1)`) alike -/
theorem legacy_negative_len_witness :
    blfeed (BLRecv.init [0, 0, 0, 0] (BitVec.ofInt 32 (-1))) [0xAC, 1, 2, 3, 4, 5] = none ∧
    (blfeed (BLRecv.init [0, 0, 0, 0] 4#32) [0xAC, 1, 2, 3, 4, 5]).map (·.2) =
      some [CONTINUE, CONTINUE, CONTINUE, CONTINUE, OVERFLOW, CONTINUE] := by decide +kernel

end Igris.Gstuff
