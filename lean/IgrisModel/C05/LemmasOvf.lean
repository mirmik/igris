/-
  C05 — the overflow clause in general form: ANY marker-free byte sequence
  whose unescaping grows beyond capacity-1 bytes, fed to an in-frame receiver,
  is answered with OVERFLOW and nothing of it is delivered.  Unescaping is followed
  step by step from the current line (`unescFrom`); unstuffing undoes stuffing.
-/
import IgrisModel.C05.LemmasLeg
namespace Igris.Gstuff
open Igris.Proto Igris.C17

theorem foldl_unescStep_none (ctx : Ctx) (bs : List Byte) :
    bs.foldl (unescStep ctx) none = none :=
  foldl_fixed (fun _ => rfl) bs

def unescFrom (ctx : Ctx) (line : List Byte) (pending : Bool) (bs : List Byte) : Option (List Byte × Bool) :=
  bs.foldl (unescStep ctx) (some (line, pending))

theorem unescPartial_eq_from (ctx : Ctx) (bs : List Byte) : unescPartial ctx bs = unescFrom ctx [] false bs := rfl

theorem unescFrom_stuffed (ctx : Ctx) (h : ctx.WF) (acc l : List Byte) :
    unescFrom ctx acc false (l.flatMap (stuffByte ctx)) = some (acc ++ l, false) := by
  induction l generalizing acc with
  | nil => simp [unescFrom]
  | cons c cs ih =>
    have hc : unescFrom ctx acc false (stuffByte ctx c) = some (acc ++ [c], false) := by
      rcases stuffByte_code ctx h c with ⟨_, h2, _, e⟩ | ⟨d, e, hd⟩
      · rw [e]; simp [unescFrom, unescStep, h2]
      · rw [e]; simp [unescFrom, unescStep, hd]
    have := ih (acc ++ [c])
    simp only [unescFrom, List.flatMap_cons, List.foldl_append] at hc this ⊢
    rw [hc, this]; simp

/-! ### configurable receiver -/

/-- the three outcomes of a byte that is no marker for a receiver inside a frame (state 1 or 2) -/
inductive BodyStep (ctx : Ctx) (r : Recv) (c : Byte) : Prop
  | cont (hs : (newchar ctx r c).2 = CONTINUE)
      (hst : (newchar ctx r c).1.state = .s1 ∨ (newchar ctx r c).1.state = .s2)
      (hok : LineOK (newchar ctx r c).1)
      (hu : unescStep ctx (some (r.line, decide (r.state = .s2))) c =
        some ((newchar ctx r c).1.line, decide ((newchar ctx r c).1.state = .s2)))
  | ovf (hs : (newchar ctx r c).2 = OVERFLOW) (hst : (newchar ctx r c).1.state = .s0)
      (hfull : r.cap - 1 ≤ r.line.length)
  | bad (hu : unescStep ctx (some (r.line, decide (r.state = .s2))) c = none)

theorem putcharL_bodyStep (ctx : Ctx) (st : St) (crc : BitVec 8) (line : List Byte) (cap : Nat) (c x : Byte)
    (hn : newchar ctx ⟨st, crc, line, cap⟩ c = putcharL ⟨st, crc, line, cap⟩ x)
    (hu : unescStep ctx (some (line, decide (st = .s2))) c = some (line ++ [x], false)) :
    BodyStep ctx ⟨st, crc, line, cap⟩ c := by
  by_cases hp : cap - 1 ≤ line.length
  · rw [putcharL_full _ _ hp] at hn
    exact .ovf (by rw [hn]) (by rw [hn]) hp
  · rw [putcharL_ok _ _ (by simp only; omega)] at hn
    refine .cont (by rw [hn]) (by rw [hn]; exact Or.inl rfl) ?_ (by rw [hn]; exact hu)
    rw [hn]; simp only [LineOK, List.length_append, List.length_cons, List.length_nil]
    omega

theorem bodyStep (ctx : Ctx) (r : Recv) (c : Byte) (hs : r.state = .s1 ∨ r.state = .s2) (hok : LineOK r)
    (h1 : c ≠ ctx.start) (h2 : c ≠ ctx.stop) : BodyStep ctx r c := by
  obtain ⟨st, crc, line, cap⟩ := r
  simp only [LineOK] at hok
  rcases hs with hs | hs <;> simp only at hs <;> subst hs
  · by_cases hstub : c = ctx.stub
    · subst hstub
      have hn := newchar_s1_stub ctx crc line cap h1 h2
      exact .cont (by rw [hn]) (by rw [hn]; exact Or.inr rfl) (by rw [hn]; exact hok) (by rw [hn]; simp [unescStep])
    · exact putcharL_bodyStep ctx .s1 crc line cap c c (newchar_s1_plain ctx crc line cap h1 hstub h2)
        (by simp [unescStep, hstub])
  · -- state 2: `__putchar__` of what the code stands for, or an invalid escape
    cases hx : codeOf ctx c with
    | none => exact .bad (by simp [unescStep, hx])
    | some x =>
      exact putcharL_bodyStep ctx .s2 crc line cap c x (newchar_s2_code ctx crc line cap hx)
        (by simp [unescStep, hx])

theorem feed_body_overflow (ctx : Ctx) (r : Recv) (pre rest : List Byte)
    (hs : r.state = .s1 ∨ r.state = .s2) (hok : LineOK r)
    (hnm : ∀ b ∈ pre ++ rest, b ≠ ctx.start ∧ b ≠ ctx.stop)
    (u : List Byte) (pend : Bool)
    (hu : unescFrom ctx r.line (decide (r.state = .s2)) pre = some (u, pend))
    (hbig : r.cap - 1 < u.length) :
    OVERFLOW ∈ (feed ctx r (pre ++ rest)).2 ∧ Idle (feed ctx r (pre ++ rest)).1 ∧
      delivered ctx r (pre ++ rest) = [] := by
  induction pre generalizing r with
  | nil =>
    simp only [unescFrom, List.foldl_nil, Option.some.injEq, Prod.mk.injEq] at hu
    simp only [LineOK] at hok
    rw [← hu.1] at hbig
    omega
  | cons c cs ih =>
    have hc := hnm c (by simp)
    have hnm' : ∀ b ∈ cs ++ rest, b ≠ ctx.start ∧ b ≠ ctx.stop := fun b hb => hnm b (List.mem_cons_of_mem _ hb)
    simp only [unescFrom, List.foldl_cons] at hu
    simp only [List.cons_append, feed, delivered]
    rcases bodyStep ctx r c hs hok hc.1 hc.2 with ⟨a, b, d, e⟩ | ⟨a, b, _⟩ | e
    · rw [e] at hu
      have hcap : (newchar ctx r c).1.cap = r.cap := newchar_cap ctx r c
      obtain ⟨i1, i2, i3⟩ := ih (newchar ctx r c).1 b d hnm' hu (by rw [hcap]; exact hbig)
      refine ⟨List.mem_cons_of_mem _ i1, i2, ?_⟩
      simp only [a, CONTINUE, NEWPACKAGE, show ¬ ((0 : Int) = 1) by decide, if_false]
      exact i3
    · obtain ⟨g1, g2, _⟩ := garbage_run ctx (newchar ctx r c).1 (cs ++ rest) (Or.inl b)
        (fun x hx => (hnm' x hx).1)
      refine ⟨by rw [a]; exact List.mem_cons_self, g1, ?_⟩
      simp only [a, OVERFLOW, NEWPACKAGE, show ¬ ((-2 : Int) = 1) by decide, if_false]
      exact g2
    · rw [e, foldl_unescStep_none] at hu
      exact absurd hu (by simp)

theorem stop_when_idle (ctx : Ctx) (r : Recv) (hr : Idle r) :
    (newchar ctx r ctx.stop).2 ≠ NEWPACKAGE ∧ Ready (newchar ctx r ctx.stop).1 := by
  refine ⟨idle_no_delivery ctx r ctx.stop hr, ?_⟩
  by_cases hc : ctx.stop = ctx.start
  · rw [hc, newchar_start_idle ctx r hr]; exact Or.inr ⟨rfl, rfl, rfl⟩
  · exact Or.inl (newchar_idle_garbage ctx r hr _ hc).1

/-! ### legacy receiver -/

theorem lfeed_body_overflow (r : Recv) (pre rest : List Byte)
    (hs : r.state = .s1 ∨ r.state = .s2) (hok : LineOK r)
    (hnm : ∀ b ∈ pre ++ rest, b ≠ legStart)
    (u : List Byte) (pend : Bool)
    (hu : unescFrom Ctx.leg r.line (decide (r.state = .s2)) pre = some (u, pend))
    (hbig : r.cap - 1 < u.length) :
    OVERFLOW ∈ (lfeed (toL r) (pre ++ rest)).2 ∧ (lfeed (toL r) (pre ++ rest)).1.state = .l3 ∧
      ldelivered (toL r) (pre ++ rest) = [] := by
  obtain ⟨o1, o2, _⟩ := feed_body_overflow Ctx.leg r pre rest hs hok (fun b hb => ⟨hnm b hb, hnm b hb⟩) u pend hu hbig
  obtain ⟨h1, h2, _, h3⟩ := lfeed_sim _ hnm r _ (Or.inl ⟨hs, rfl⟩)
  refine ⟨h2 _ o1 (by decide), ?_, h3⟩
  rcases h1 with ⟨hin, _⟩ | ⟨_, h1, _⟩
  · rcases o2 with o2 | o2 <;> rcases hin with hin | hin <;> rw [o2] at hin <;> cases hin
  · exact h1

end Igris.Gstuff
