/-
  C05 — legacy receiver (after `fix: legacy gstuff receiver hunts for the start
  marker`): the soundness invariant, and what a NEWPACKAGE answer implies.
-/
import IgrisModel.C05.Lemmas
namespace Igris.Gstuff
open Igris.Proto Igris.C17

theorem Ctx.leg_eq_v0 : Ctx.leg = Ctx.v0 := by decide

/-- `g` = raw bytes since the last marker -/
def LSound (r : LRecv) (g : Option (List Byte)) : Prop :=
  match r.state with
  | .l0 => g = some []
  | .l1 => ∃ since, g = some since ∧ unescPartial Ctx.leg since = some (r.line, false) ∧
            r.crc = strmcrc8 0xFF#8 r.line
  | .l2 => ∃ since, g = some since ∧ unescPartial Ctx.leg since = some (r.line, true) ∧
            r.crc = strmcrc8 0xFF#8 r.line
  | .l3 => True

theorem lsound_toL (r : Recv) (g : Option (List Byte)) (h : Sound Ctx.leg r g) : LSound (toL r) g := by
  obtain ⟨st, crc, line, cap⟩ := r
  cases st
  · trivial
  · trivial
  · exact h
  · exact h

theorem lsound_good (r : LRecv) (g : Option (List Byte)) (hs : LSound r g) :
    r.state = .l1 → LGood r := by
  obtain ⟨st, crc, line, cap⟩ := r
  rintro rfl rfl
  exact sound_good Ctx.leg ⟨.s1, crc, [], cap⟩ g hs rfl rfl

theorem lsound_step (r : LRecv) (g : Option (List Byte)) (c : Byte) (hs : LSound r g) :
    LSound (lnewchar r c).1 (sinceStep legStart g c) := by
  by_cases hc : c = legStart
  · -- the marker: state 0 or primed, and no byte since the last marker
    subst hc
    rw [show sinceStep legStart g legStart = some [] from if_pos rfl]
    rcases lafter_marker r (lsound_good r g hs) with h0 | h1
    · generalize (lnewchar r legStart).1 = x at h0
      obtain ⟨st, crc, line, cap⟩ := x
      simp only at h0; subst h0; rfl
    · rw [h1]; exact ⟨[], rfl, rfl, rfl⟩
  · -- any other byte: inside a frame the configurable receiver's step, while hunting nothing happens
    have inframe : ∀ q : Recv, (q.state = .s1 ∨ q.state = .s2) → Sound Ctx.leg q g →
        LSound (lnewchar (toL q) c).1 (sinceStep legStart g c) := fun q hq hsq => by
      rw [lnewchar_toL q hq c hc]
      exact lsound_toL _ _ (sound_step Ctx.leg Ctx.leg_wf q g c hsq)
    obtain ⟨st, crc, line, cap⟩ := r
    cases st
    · have hg : g = some [] := hs
      subst hg
      rw [lnewchar_l0]
      exact inframe ⟨.s1, 0xFF#8, [], cap⟩ (Or.inl rfl) (sound_fresh _ _ rfl rfl rfl)
    · exact inframe ⟨.s1, crc, line, cap⟩ (Or.inl rfl) hs
    · exact inframe ⟨.s2, crc, line, cap⟩ (Or.inr rfl) hs
    · rw [lnewchar_l3, if_neg hc]; trivial

theorem lfeed_sound (r : LRecv) (g : Option (List Byte)) (bs : List Byte) (hs : LSound r g) :
    LSound (lfeed r bs).1 (bs.foldl (sinceStep legStart) g) := by
  induction bs generalizing r g with
  | nil => simpa [lfeed]
  | cons c cs ih => simp only [lfeed, List.foldl_cons]; exact ih _ _ (lsound_step r g c hs)

theorem lnewpackage_sound (r : LRecv) (g : Option (List Byte)) (c : Byte)
    (hs : LSound r g) (hn : (lnewchar r c).2 = NEWPACKAGE) :
    c = legStart ∧ ∃ since, g = some since ∧
      unescape Ctx.leg since = some ((lnewchar r c).1.line.dropLast ++
        [strmcrc8 0xFF#8 (lnewchar r c).1.line.dropLast]) ∧
      (lnewchar r c).1.line ≠ [] := by
  obtain ⟨h1, h2, h3, h4, h5⟩ := lnewpackage_inv r c hn
  refine ⟨h2, ?_⟩
  obtain ⟨st, crc, line, cap⟩ := r
  simp only at h1 h3 h4; subst h1; subst h3
  obtain ⟨since, hg, hu⟩ := sound_crc_zero (ctx := Ctx.leg) (cap := cap) hs
  rw [h5]
  exact ⟨since, hg, hu, h4⟩

end Igris.Gstuff
