/-
  C05 — the buffer-level receivers (C04/Buf.lean: `struct sline` with 32-bit
  counters, explicit faults) never fault and refine the list-level receivers of
  C04/Model.lean, so every theorem about `newchar`/`lnewchar` is a theorem about
  the code that indexes the buffer.
-/
import IgrisModel.Common.ListScan
import IgrisModel.C04.Drv
import IgrisModel.C04.Sess
import IgrisModel.C05.LemmasOvf
namespace Igris.Gstuff
open Igris.Proto Igris.C17

/-- invariant of the `struct sline` inside the receivers; `bound` leaves the byte that `sline_getline` sets to 0 -/
structure SlineOK (sl : Sline) : Prop where
  cur : sl.cursor = sl.len
  blk : sl.cap.toNat ≤ sl.buf.length
  bound : sl.len.toNat ≤ sl.cap.toNat - 1

def Sline.bytes (sl : Sline) : List Byte := sl.buf.take sl.len.toNat

theorem one_toNat32 : (1 : BitVec 32).toNat = 1 := rfl

/-- `sline_putchar` under the invariant: never a fault, never a `memmove` -/
theorem putchar_ok (sl : Sline) (h : SlineOK sl) (c : Byte) :
    sl.putchar c =
      if sl.cap.toNat - 1 ≤ sl.len.toNat then some (sl, false)
      else some ({ sl with buf := sl.buf.set sl.len.toNat c, cursor := sl.len + 1, len := sl.len + 1 }, true) := by
  obtain ⟨buf, cap, len, cursor⟩ := sl
  obtain ⟨hc, hb, hl⟩ := h
  simp only at hc hb hl
  subst hc
  have hcl := cap.isLt
  have hge : cursor + 1 ≥ cap ↔ cap.toNat - 1 ≤ cursor.toNat := by
    simp only [ge_iff_le, BitVec.le_def, BitVec.toNat_add, one_toNat32]; omega
  unfold Sline.putchar
  by_cases hfull : cap.toNat - 1 ≤ cursor.toNat
  · rw [if_pos (hge.mpr hfull), if_pos hfull]
  · have hidx : cursor.toNat < buf.length := by omega
    rw [if_neg (fun hn => hfull (hge.mp hn)), if_neg hfull]
    simp [Sline.store, storeAt, hidx]

theorem putchar_ok_post (sl : Sline) (h : SlineOK sl) (c : Byte) (hroom : ¬ sl.cap.toNat - 1 ≤ sl.len.toNat) :
    SlineOK { sl with buf := sl.buf.set sl.len.toNat c, cursor := sl.len + 1, len := sl.len + 1 } ∧
    Sline.bytes { sl with buf := sl.buf.set sl.len.toNat c, cursor := sl.len + 1, len := sl.len + 1 } =
      sl.bytes ++ [c] ∧
    (sl.buf.set sl.len.toNat c).drop sl.cap.toNat = sl.buf.drop sl.cap.toNat := by
  obtain ⟨buf, cap, len, cursor⟩ := sl
  obtain ⟨hc, hb, hl⟩ := h
  simp only at hc hb hl hroom
  subst hc
  have hcl := cap.isLt
  have hn : (cursor + 1).toNat = cursor.toNat + 1 := by
    simp only [BitVec.toNat_add, one_toNat32]; omega
  refine ⟨⟨rfl, by simp only [List.length_set]; exact hb, by simp only [hn]; omega⟩, ?_,
    List.drop_set_of_lt (show cursor.toNat < cap.toNat by omega)⟩
  simp only [Sline.bytes, hn]
  exact take_set_succ buf cursor.toNat c (by omega)

theorem bytes_length (sl : Sline) (h : SlineOK sl) : sl.bytes.length = sl.len.toNat := by
  have := h.blk; have := h.bound
  simp only [Sline.bytes, List.length_take]; omega

theorem dropLast_take {α : Type} (l : List α) (n : Nat) (h : n ≤ l.length) :
    (l.take n).dropLast = l.take (n - 1) := by
  rw [List.dropLast_eq_take, List.length_take, Nat.min_eq_left h, List.take_take, Nat.min_eq_left (Nat.sub_le _ _)]

/-- `sline_backspace` clips its count to the cursor -/
theorem backspace_clip (cursor : BitVec 32) :
    (cursor - (if (1 : BitVec 32) > cursor then cursor else 1)).toNat = cursor.toNat - 1 := by
  by_cases hgt : (1 : BitVec 32) > cursor
  · have : cursor.toNat = 0 := by
      have : cursor.toNat < 1 := hgt
      omega
    rw [if_pos hgt, BitVec.sub_self, this]; rfl
  · have : ¬ cursor.toNat < 1 := hgt
    rw [if_neg hgt, BitVec.toNat_sub_of_le (by rw [BitVec.le_def]; exact Nat.le_of_not_lt this)]; rfl

/-- `sline_backspace(sl, 1)` under the invariant: never a fault, never a `memmove` -/
theorem backspace_ok (sl : Sline) (h : SlineOK sl) :
    ∃ sl', sl.backspace 1 = some sl' ∧ SlineOK sl' ∧ sl'.cap = sl.cap ∧ sl'.buf = sl.buf ∧
      sl'.bytes = sl.bytes.dropLast := by
  obtain ⟨buf, cap, len, cursor⟩ := sl
  obtain ⟨hc, hb, hl⟩ := h
  simp only at hc hb hl
  subst hc
  have hn := backspace_clip cursor
  obtain ⟨n, hnd⟩ : ∃ n, n = cursor - (if (1 : BitVec 32) > cursor then cursor else 1) := ⟨_, rfl⟩
  rw [← hnd] at hn
  refine ⟨⟨buf, cap, n, n⟩, ?_, ⟨rfl, hb, ?_⟩, rfl, rfl, ?_⟩
  · -- cursor = len before and after, so the `memmove` branch is not taken
    rw [hnd]; simp only [Sline.backspace, ne_eq, not_true_eq_false, if_false]
  · exact hn ▸ Nat.le_trans (Nat.sub_le _ _) hl
  · have hle : cursor.toNat ≤ buf.length := Nat.le_trans hl (Nat.le_trans (Nat.sub_le _ _) hb)
    simp only [Sline.bytes, hn, dropLast_take buf _ hle]

theorem reset_ok (sl : Sline) (hb : sl.cap.toNat ≤ sl.buf.length) :
    SlineOK sl.reset ∧ sl.reset.bytes = [] ∧ sl.reset.cap = sl.cap ∧ sl.reset.buf = sl.buf := by
  refine ⟨⟨rfl, hb, by simp [Sline.reset]⟩, by simp [Sline.reset, Sline.bytes], rfl, rfl⟩

theorem empty_ok (sl : Sline) (h : SlineOK sl) : sl.empty = sl.bytes.isEmpty := by
  obtain ⟨buf, cap, len, cursor⟩ := sl
  obtain ⟨hc, hb, hl⟩ := h
  simp only at hc hb hl
  simp only [Sline.empty, Sline.bytes]
  by_cases h0 : len = 0
  · subst h0; simp
  · have hpos : 0 < len.toNat := BitVec.toNat_pos_of_ne_zero h0
    have : buf.take len.toNat ≠ [] := by
      intro he
      have := congrArg List.length he
      simp only [List.length_take, List.length_nil] at this
      omega
    rw [show decide (len = 0) = false from decide_eq_false h0]
    cases hq : buf.take len.toNat with
    | nil => exact absurd hq this
    | cons x xs => rfl

/-- capacity 0 included: `sline_getline` guards its store with `if (sl->cap)` -/
theorem getline_ok_any (sl : Sline) (h : SlineOK sl) :
    ∃ sl', sl.getline = some (sl', sl.bytes) ∧ SlineOK sl' ∧ sl'.bytes = sl.bytes ∧ sl'.cap = sl.cap ∧
      sl'.len = sl.len ∧ (sl.cap = 0 → sl' = sl) := by
  by_cases hc0 : sl.cap = 0
  · exact ⟨sl, by simp [Sline.getline, hc0, Sline.bytes], h, rfl, rfl, rfl, fun _ => rfl⟩
  · have hcap := BitVec.toNat_pos_of_ne_zero hc0
    obtain ⟨buf, cap, len, cursor⟩ := sl
    obtain ⟨hc, hb, hl⟩ := h
    simp only at hc hb hl hcap hc0
    subst hc
    have hidx : cursor.toNat < buf.length := by omega
    have htake : (buf.set cursor.toNat 0#8).take cursor.toNat = buf.take cursor.toNat := by
      rw [List.take_set_of_le (Nat.le_refl _)]
    refine ⟨⟨buf.set cursor.toNat 0, cap, cursor, cursor⟩, ?_, ⟨rfl, by simpa using hb, hl⟩, ?_, rfl, rfl,
      fun h0 => absurd h0 hc0⟩
    · simp [Sline.getline, storeAt, hidx, Sline.bytes, htake, show ¬ cap = 0#32 from hc0]
    · simp [Sline.bytes, htake]

/-! ### configurable receiver -/

def BRecv.abs (r : BRecv) : Recv := ⟨r.state, r.crc, r.line.bytes, r.line.cap.toNat⟩

theorem BRecv.init_ok (buf : List Byte) (cap : BitVec 32) (hblk : cap.toNat ≤ buf.length) :
    SlineOK (BRecv.init buf cap).line :=
  ⟨rfl, hblk, Nat.zero_le _⟩

theorem BRecv.init_abs (buf : List Byte) (cap : BitVec 32) : (BRecv.init buf cap).abs = Recv.init cap.toNat := by
  simp [BRecv.abs, BRecv.init, Sline.init, Sline.bytes, Recv.init]

theorem BRecv.noBuf_ok : SlineOK BRecv.noBuf.line := ⟨rfl, Nat.le_refl 0, Nat.le_refl 0⟩

/-- `out`, the result of a buffer-level step taken on the line `sl`, refines the list-level result `x` -/
def RefStep (sl : Sline) (out : Option (BRecv × Int)) (x : Recv × Int) : Prop :=
  ∃ r', out = some (r', x.2) ∧ r'.abs = x.1 ∧ SlineOK r'.line ∧ r'.line.buf.length = sl.buf.length ∧
    r'.line.buf.drop sl.cap.toNat = sl.buf.drop sl.cap.toNat

def Refines (ctx : Ctx) (r : BRecv) (c : Byte) (out : Option (BRecv × Int)) : Prop :=
  RefStep r.line out (newchar ctx r.abs c)

theorem bputcharL_refines (st : St) (crc : BitVec 8) (sl : Sline) (h : SlineOK sl) (x : Byte) :
    RefStep sl (bputcharL ⟨st, crc, sl⟩ x) (putcharL ⟨st, crc, sl.bytes, sl.cap.toNat⟩ x) := by
  have hlen := bytes_length sl h
  unfold bputcharL
  rw [putchar_ok sl h x]
  by_cases hfull : sl.cap.toNat - 1 ≤ sl.len.toNat
  · rw [if_pos hfull, putcharL_full _ _ (by simp only [hlen]; exact hfull)]
    exact ⟨_, rfl, rfl, h, rfl, rfl⟩
  · obtain ⟨p1, p2, p3⟩ := putchar_ok_post sl h x hfull
    rw [if_neg hfull, putcharL_ok _ _ (by simp only [hlen]; omega)]
    exact ⟨_, rfl, by simp only [BRecv.abs, p2], p1, List.length_set .., p3⟩

theorem bstopL_refines (st : St) (crc : BitVec 8) (sl : Sline) (h : SlineOK sl) :
    RefStep sl (bstopL ⟨st, crc, sl⟩) (stopL ⟨st, crc, sl.bytes, sl.cap.toNat⟩) := by
  simp only [bstopL, stopL]
  by_cases hz : crc ≠ 0
  · rw [if_pos hz, if_pos hz]
    exact ⟨_, rfl, rfl, h, rfl, rfl⟩
  · obtain ⟨sl', e, ok, cp, bf, by'⟩ := backspace_ok sl h
    rw [if_neg hz, if_neg hz, e]
    refine ⟨_, rfl, ?_, ok, by simp [bf], by simp [bf]⟩
    simp only [BRecv.abs, by', cp]

/- `bnewchar` is `newchar` written again over the C line object: test by test the two `if` chains agree
(`ite_rel`; `sline_empty` is `isEmpty` of the bytes), and every leaf is the receiver unchanged, the line
reset, the stop handler or `__putchar__`. -/
theorem bnewchar_refines (ctx : Ctx) (r : BRecv) (h : SlineOK r.line) (c : Byte) :
    Refines ctx r c (bnewchar ctx r c) := by
  obtain ⟨st, crc, sl⟩ := r
  obtain ⟨k1, k2, k3, _⟩ := reset_ok sl h.blk
  have same : ∀ st s, RefStep sl (some (⟨st, crc, sl⟩, s)) (⟨st, crc, sl.bytes, sl.cap.toNat⟩, s) :=
    fun _ _ => ⟨_, rfl, rfl, h, rfl, rfl⟩
  have fresh : ∀ st s, RefStep sl (some (⟨st, 0xFF, sl.reset⟩, s)) (⟨st, 0xFF, [], sl.cap.toNat⟩, s) :=
    fun _ _ => ⟨_, rfl, by simp only [BRecv.abs, k2, k3], k1, rfl, rfl⟩
  have hemp : (c = ctx.start ∧ sl.empty = true) ↔ (c = ctx.start ∧ sl.bytes.isEmpty = true) := by
    rw [empty_ok sl h]
  have hp := fun st x => bputcharL_refines st crc sl h x
  show RefStep sl _ _
  cases st
  · exact ite_rel Iff.rfl (fresh _ _) (fresh _ _)
  · exact ite_rel Iff.rfl (fresh _ _) (same _ _)
  · exact ite_rel Iff.rfl (fresh _ _) <| ite_rel hemp (same _ _) <|
      ite_rel Iff.rfl (bstopL_refines _ crc sl h) <| ite_rel Iff.rfl (same _ _) (hp _ _)
  · exact ite_rel Iff.rfl (hp _ _) <| ite_rel Iff.rfl (hp _ _) <| ite_rel Iff.rfl (hp _ _) <|
      ite_rel Iff.rfl (fresh _ _) (same _ _)

theorem refines_cap (ctx : Ctx) (r : BRecv) (c : Byte) (r' : BRecv)
    (habs : r'.abs = (newchar ctx r.abs c).1) : r'.line.cap = r.line.cap := by
  have := congrArg Recv.cap habs
  rw [newchar_cap] at this
  exact BitVec.eq_of_toNat_eq this

theorem bfeed_refines (ctx : Ctx) (r : BRecv) (h : SlineOK r.line) (bs : List Byte) :
    ∃ r', bfeed ctx r bs = some (r', (feed ctx r.abs bs).2) ∧ r'.abs = (feed ctx r.abs bs).1 ∧
      SlineOK r'.line ∧ r'.line.cap = r.line.cap ∧ r'.line.buf.length = r.line.buf.length ∧
      r'.line.buf.drop r.line.cap.toNat = r.line.buf.drop r.line.cap.toNat := by
  induction bs generalizing r with
  | nil => exact ⟨r, rfl, rfl, h, rfl, rfl, rfl⟩
  | cons c cs ih =>
    obtain ⟨r1, e1, e2, e3, e4, e5⟩ := bnewchar_refines ctx r h c
    have ecap := refines_cap ctx r c r1 e2
    obtain ⟨r2, f1, f2, f3, f4, f5, f6⟩ := ih r1 e3
    refine ⟨r2, ?_, ?_, f3, by rw [f4, ecap], by rw [f5, e4], ?_⟩
    · simp only [bfeed, e1, f1, feed, e2]
    · simp only [feed]; rw [f2, e2]
    · rw [ecap] at f6; rw [f6, e5]

/-! ### legacy receiver -/

def BLRecv.abs (r : BLRecv) : LRecv := ⟨r.state, r.crc, r.line.bytes, r.line.cap.toNat⟩

theorem BLRecv.init_ok (buf : List Byte) (cap : BitVec 32) (hblk : cap.toNat ≤ buf.length) :
    SlineOK (BLRecv.init buf cap).line :=
  ⟨rfl, hblk, Nat.zero_le _⟩

theorem BLRecv.init_abs (buf : List Byte) (cap : BitVec 32) : (BLRecv.init buf cap).abs = LRecv.init cap.toNat := by
  simp [BLRecv.abs, BLRecv.init, Sline.init, Sline.bytes, LRecv.init]

def LRefStep (sl : Sline) (out : Option (BLRecv × Int)) (x : LRecv × Int) : Prop :=
  ∃ r', out = some (r', x.2) ∧ r'.abs = x.1 ∧ SlineOK r'.line ∧ r'.line.buf.length = sl.buf.length ∧
    r'.line.buf.drop sl.cap.toNat = sl.buf.drop sl.cap.toNat

def LRefines (r : BLRecv) (c : Byte) (out : Option (BLRecv × Int)) : Prop :=
  LRefStep r.line out (lnewchar r.abs c)

theorem blputchar_refines (st : LSt) (crc : BitVec 8) (sl : Sline) (h : SlineOK sl) (x : Byte) :
    LRefStep sl (blputchar ⟨st, crc, sl⟩ x) (lputchar ⟨st, crc, sl.bytes, sl.cap.toNat⟩ x) := by
  have hlen := bytes_length sl h
  simp only [blputchar, lputchar]
  rw [putchar_ok sl h x, hlen]
  by_cases hfull : sl.cap.toNat - 1 ≤ sl.len.toNat
  · rw [if_pos hfull, if_neg (fun hn => hn hfull)]
    exact ⟨_, rfl, rfl, h, rfl, rfl⟩
  · obtain ⟨p1, p2, p3⟩ := putchar_ok_post sl h x hfull
    rw [if_neg hfull, if_pos hfull]
    exact ⟨_, rfl, by simp only [BLRecv.abs, p2], p1, List.length_set .., p3⟩

theorem blnewchar_refines (r : BLRecv) (h : SlineOK r.line) (c : Byte) :
    LRefines r c (blnewchar r c) := by
  obtain ⟨st, crc, sl⟩ := r
  obtain ⟨k1, k2, k3, _⟩ := reset_ok sl h.blk
  have same : ∀ st s, LRefStep sl (some (⟨st, crc, sl⟩, s)) (⟨st, crc, sl.bytes, sl.cap.toNat⟩, s) :=
    fun _ _ => ⟨_, rfl, rfl, h, rfl, rfl⟩
  have fresh : ∀ st s, LRefStep sl (some (⟨st, 0xFF, sl.reset⟩, s)) (⟨st, 0xFF, [], sl.cap.toNat⟩, s) :=
    fun _ _ => ⟨_, rfl, by simp only [BLRecv.abs, k2, k3], k1, rfl, rfl⟩
  have hemp : sl.empty = true ↔ sl.bytes.isEmpty = true := by rw [empty_ok sl h]
  have hemp0 : sl.reset.empty = true ↔ ([] : List Byte).isEmpty = true := by rw [empty_ok _ k1, k2]
  -- `__putchar__` after the reset of state 0 / 3: on the emptied line, which is the same block
  have hp0 : LRefStep sl (blputchar ⟨.l1, 0xFF, sl.reset⟩ c) (lputchar ⟨.l1, 0xFF, [], sl.cap.toNat⟩ c) := by
    have := blputchar_refines .l1 0xFF sl.reset k1 c
    rw [k2, k3] at this; exact this
  show LRefStep sl _ _
  cases st with
  | l0 | l3 =>
    exact ite_rel Iff.rfl (same _ _) <| ite_rel Iff.rfl
      (ite_rel hemp0 (fresh _ _) <| ite_rel Iff.rfl (fresh _ _) (fresh _ _))
      (ite_rel Iff.rfl (fresh _ _) hp0)
  | l1 =>
    exact ite_rel Iff.rfl (same _ _) <| ite_rel Iff.rfl
      (ite_rel hemp (same _ _) <| ite_rel Iff.rfl (same _ _) (same _ _))
      (ite_rel Iff.rfl (same _ _) (blputchar_refines _ crc sl h c))
  | l2 =>
    exact ite_rel Iff.rfl (same _ _) <| ite_rel Iff.rfl (blputchar_refines _ crc sl h _) <|
      ite_rel Iff.rfl (blputchar_refines _ crc sl h _) <| ite_rel Iff.rfl (same _ _) (same _ _)

theorem lrefines_cap (r : BLRecv) (c : Byte) (r' : BLRecv)
    (habs : r'.abs = (lnewchar r.abs c).1) : r'.line.cap = r.line.cap := by
  have := congrArg LRecv.cap habs
  rw [lnewchar_cap] at this
  exact BitVec.eq_of_toNat_eq this

theorem blfeed_refines (r : BLRecv) (h : SlineOK r.line) (bs : List Byte) :
    ∃ r', blfeed r bs = some (r', (lfeed r.abs bs).2) ∧ r'.abs = (lfeed r.abs bs).1 ∧
      SlineOK r'.line ∧ r'.line.cap = r.line.cap ∧ r'.line.buf.length = r.line.buf.length ∧
      r'.line.buf.drop r.line.cap.toNat = r.line.buf.drop r.line.cap.toNat := by
  induction bs generalizing r with
  | nil => exact ⟨r, rfl, rfl, h, rfl, rfl, rfl⟩
  | cons c cs ih =>
    obtain ⟨r1, e1, e2, e3, e4, e5⟩ := blnewchar_refines r h c
    have ecap := lrefines_cap r c r1 e2
    obtain ⟨r2, f1, f2, f3, f4, f5, f6⟩ := ih r1 e3
    refine ⟨r2, ?_, ?_, f3, by rw [f4, ecap], by rw [f5, e4], ?_⟩
    · simp only [blfeed, e1, f1, lfeed, e2]
    · simp only [lfeed]; rw [f2, e2]
    · rw [ecap] at f6; rw [f6, e5]

/-! ### the traces the driver prints -/

theorem cstr_ok_any (r : BRecv) (h : SlineOK r.line) :
    ∃ r', r.cstr = some (r', r.abs.line) ∧ r'.abs = r.abs ∧ SlineOK r'.line ∧ (r.line.cap = 0 → r' = r) := by
  obtain ⟨sl', e1, e2, e3, e4, _, e6⟩ := getline_ok_any r.line h
  refine ⟨{ r with line := sl' }, ?_, ?_, e2, ?_⟩
  · simp only [BRecv.cstr, e1, BRecv.abs]
  · simp only [BRecv.abs, e3, e4]
  · intro h0; rw [e6 h0]

theorem bfeedTrace_eq_any (ctx : Ctx) (r : BRecv) (h : SlineOK r.line)
    (bs : List Byte) : bfeedTrace ctx r bs = some (feedTrace ctx r.abs bs) := by
  induction bs generalizing r with
  | nil => rfl
  | cons c cs ih =>
    obtain ⟨r1, e1, e2, e3, _, _⟩ := bnewchar_refines ctx r h c
    by_cases hs : (newchar ctx r.abs c).2 = NEWPACKAGE
    · obtain ⟨r2, g1, g2, g3, _⟩ := cstr_ok_any r1 e3
      have := ih r2 g3
      simp only [bfeedTrace, e1, hs, if_true, g1, Option.map_some, this, g2, e2, feedTrace]
      simp
    · have := ih r1 e3
      simp only [bfeedTrace, e1, hs, if_false, this, e2, feedTrace]
      simp

theorem lgetline_ok_any (r : BLRecv) (h : SlineOK r.line) :
    ∃ r', r.getline = some (r', r.abs.line) ∧ r'.abs = r.abs ∧ SlineOK r'.line ∧ (r.line.cap = 0 → r' = r) := by
  obtain ⟨sl', e1, e2, e3, e4, _, e6⟩ := getline_ok_any r.line h
  refine ⟨{ r with line := sl' }, ?_, ?_, e2, ?_⟩
  · simp only [BLRecv.getline, e1, BLRecv.abs]
  · simp only [BLRecv.abs, e3, e4]
  · intro h0; rw [e6 h0]

theorem blfeedTrace_eq_any (r : BLRecv) (h : SlineOK r.line)
    (bs : List Byte) : blfeedTrace r bs = some (lfeedTrace r.abs bs) := by
  induction bs generalizing r with
  | nil => rfl
  | cons c cs ih =>
    obtain ⟨r1, e1, e2, e3, _, _⟩ := blnewchar_refines r h c
    by_cases hs : (lnewchar r.abs c).2 = NEWPACKAGE
    · obtain ⟨r2, g1, g2, g3, _⟩ := lgetline_ok_any r1 e3
      have := ih r2 g3
      simp only [blfeedTrace, e1, hs, if_true, g1, Option.map_some, this, g2, e2, lfeedTrace]
      simp
    · have := ih r1 e3
      simp only [blfeedTrace, e1, hs, if_false, this, e2, lfeedTrace]
      simp

/-! ### sessions -/

theorem bfeedS_eq (ctx : Ctx) (r : BRecv) (h : SlineOK r.line) (bs : List Byte) :
    ∃ r', bfeedS ctx r bs = some (r', (feed ctx r.abs bs).2, (feedTrace ctx r.abs bs).2) := by
  induction bs generalizing r with
  | nil => exact ⟨r, rfl⟩
  | cons c cs ih =>
    obtain ⟨r1, e1, e2, e3, _, _⟩ := bnewchar_refines ctx r h c
    by_cases hs : (newchar ctx r.abs c).2 = NEWPACKAGE
    · obtain ⟨r2, g1, g2, g3, _⟩ := cstr_ok_any r1 e3
      obtain ⟨r3, f1⟩ := ih r2 g3
      refine ⟨r3, ?_⟩
      simp only [bfeedS, e1, hs, if_true, g1, Option.map_some, f1, g2, e2, feedTrace, feed]
      simp
    · obtain ⟨r3, f1⟩ := ih r1 e3
      refine ⟨r3, ?_⟩
      simp only [bfeedS, e1, hs, if_false, f1, e2, feedTrace, feed]
      simp

theorem blfeedS_eq (r : BLRecv) (h : SlineOK r.line) (bs : List Byte) :
    ∃ r', blfeedS r bs = some (r', (lfeed r.abs bs).2, (lfeedTrace r.abs bs).2) := by
  induction bs generalizing r with
  | nil => exact ⟨r, rfl⟩
  | cons c cs ih =>
    obtain ⟨r1, e1, e2, e3, _, _⟩ := blnewchar_refines r h c
    by_cases hs : (lnewchar r.abs c).2 = NEWPACKAGE
    · obtain ⟨r2, g1, g2, g3, _⟩ := lgetline_ok_any r1 e3
      obtain ⟨r3, f1⟩ := ih r2 g3
      refine ⟨r3, ?_⟩
      simp only [blfeedS, e1, hs, if_true, g1, Option.map_some, f1, g2, e2, lfeedTrace, lfeed]
      simp
    · obtain ⟨r3, f1⟩ := ih r1 e3
      refine ⟨r3, ?_⟩
      simp only [blfeedS, e1, hs, if_false, f1, e2, lfeedTrace, lfeed]
      simp

end Igris.Gstuff
