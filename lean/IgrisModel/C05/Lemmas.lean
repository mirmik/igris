/-
  C05 — the receivers on arbitrary streams: what their states keep invariant, and what a frame met in
  any state makes them deliver.
-/
import IgrisModel.C05.Spec
namespace Igris.Gstuff
open Igris.Proto Igris.C17

/-! ## stuffing and unstuffing one byte

The sender writes a special byte as the escape byte and a code; `codeOf` (the specification of
unstuffing) maps the code back; the receiver in state 2 runs `__putchar__` on what `codeOf` says. -/

theorem codeOf_ne_marker {ctx : Ctx} (h : ctx.WF) {d x : Byte} (hd : codeOf ctx d = some x) :
    d ≠ ctx.start ∧ d ≠ ctx.stop := by
  unfold codeOf at hd
  by_cases h1 : d = ctx.stubStart
  · rw [h1]; exact ⟨h.sstart_ne_start, h.sstart_ne_stop⟩
  · by_cases h2 : d = ctx.stubStop
    · rw [h2]; exact ⟨h.sstop_ne_start, h.sstop_ne_stop⟩
    · by_cases h3 : d = ctx.stubStub
      · rw [h3]; exact ⟨h.sstub_ne_start, h.sstub_ne_stop⟩
      · rw [if_neg h1, if_neg h2, if_neg h3] at hd; cases hd

theorem stuffByte_code (ctx : Ctx) (h : ctx.WF) (c : Byte) :
    (c ≠ ctx.start ∧ c ≠ ctx.stub ∧ c ≠ ctx.stop ∧ stuffByte ctx c = [c]) ∨
    ∃ d, stuffByte ctx c = [ctx.stub, d] ∧ codeOf ctx d = some c := by
  unfold stuffByte codeOf
  by_cases h1 : c = ctx.start
  · exact .inr ⟨_, if_pos h1, by rw [if_pos rfl, h1]⟩
  · by_cases h2 : c = ctx.stub
    · refine .inr ⟨_, by rw [if_neg h1, if_pos h2], ?_⟩
      rw [if_neg h.sstub_ne_sstart, if_neg h.sstub_ne_sstop, if_pos rfl, h2]
    · by_cases h3 : c = ctx.stop
      · refine .inr ⟨_, by rw [if_neg h1, if_neg h2, if_pos h3], ?_⟩
        rw [if_neg (h.sstop_ne_sstart (fun e => h1 (h3.trans e.symm))), if_pos rfl, h3]
      · exact .inl ⟨h1, h2, h3, by rw [if_neg h1, if_neg h2, if_neg h3]⟩

theorem stuffByte_no_marker (ctx : Ctx) (h : ctx.WF) (c : Byte) :
    ∀ b ∈ stuffByte ctx c, b ≠ ctx.start ∧ b ≠ ctx.stop := by
  intro b hb
  rcases stuffByte_code ctx h c with ⟨h1, _, h3, e⟩ | ⟨d, e, hd⟩ <;> rw [e] at hb
  · rw [List.mem_singleton.mp hb]; exact ⟨h1, h3⟩
  · rcases List.mem_cons.mp hb with rfl | hb
    · exact ⟨h.stub_ne_start, h.stub_ne_stop⟩
    · rw [List.mem_singleton.mp hb]; exact codeOf_ne_marker h hd

theorem flatMap_stuff_no_marker (ctx : Ctx) (h : ctx.WF) (p : List Byte) :
    ∀ b ∈ p.flatMap (stuffByte ctx), b ≠ ctx.start ∧ b ≠ ctx.stop := by
  intro b hb
  obtain ⟨c, _, hc⟩ := List.mem_flatMap.mp hb
  exact stuffByte_no_marker ctx h c b hc

theorem frameBody_no_marker (ctx : Ctx) (h : ctx.WF) (p : List Byte) :
    ∀ b ∈ frameBody ctx p, b ≠ ctx.start ∧ b ≠ ctx.stop :=
  flatMap_stuff_no_marker ctx h _

theorem newchar_s2_eq (ctx : Ctx) (crc : BitVec 8) (line : List Byte) (cap : Nat) (d : Byte) :
    newchar ctx ⟨.s2, crc, line, cap⟩ d =
      match codeOf ctx d with
      | some x => putcharL ⟨.s2, crc, line, cap⟩ x
      | none => if d = ctx.start then (⟨.s1, 0xFF#8, [], cap⟩, FORCE_RESTART)
                else (⟨.s0, crc, line, cap⟩, STUFFING_ERROR) := by
  rw [newchar_s2]; unfold codeOf
  by_cases h1 : d = ctx.stubStart
  · rw [if_pos h1, if_pos h1]
  · by_cases h2 : d = ctx.stubStop
    · rw [if_neg h1, if_pos h2, if_neg h1, if_pos h2]
    · by_cases h3 : d = ctx.stubStub
      · rw [if_neg h1, if_neg h2, if_pos h3, if_neg h1, if_neg h2, if_pos h3]
      · rw [if_neg h1, if_neg h2, if_neg h3, if_neg h1, if_neg h2, if_neg h3]

theorem newchar_s2_code (ctx : Ctx) (crc : BitVec 8) (line : List Byte) (cap : Nat) {d x : Byte}
    (hd : codeOf ctx d = some x) :
    newchar ctx ⟨.s2, crc, line, cap⟩ d = putcharL ⟨.s2, crc, line, cap⟩ x := by
  rw [newchar_s2_eq, hd]

theorem newchar_s1_plain (ctx : Ctx) (crc : BitVec 8) (line : List Byte) (cap : Nat) {c : Byte}
    (h1 : c ≠ ctx.start) (h2 : c ≠ ctx.stub) (h3 : c ≠ ctx.stop) :
    newchar ctx ⟨.s1, crc, line, cap⟩ c = putcharL ⟨.s1, crc, line, cap⟩ c := by
  rw [newchar_s1, if_neg (fun h => h1 h.1), if_neg (fun h => h1 h.1), if_neg h3, if_neg h2]

theorem newchar_s1_stub (ctx : Ctx) (crc : BitVec 8) (line : List Byte) (cap : Nat)
    (h1 : ctx.stub ≠ ctx.start) (h2 : ctx.stub ≠ ctx.stop) :
    newchar ctx ⟨.s1, crc, line, cap⟩ ctx.stub = (⟨.s2, crc, line, cap⟩, CONTINUE) := by
  rw [newchar_s1, if_neg (fun e => h1 e.1), if_neg (fun e => h1 e.1), if_neg h2, if_pos rfl]

theorem feed_stuffByte (ctx : Ctx) (h : ctx.WF) (crc : BitVec 8) (line : List Byte) (cap : Nat) (c : Byte) :
    ∃ pre, AllCont pre ∧ feed ctx ⟨.s1, crc, line, cap⟩ (stuffByte ctx c) =
      ((putcharL ⟨.s1, crc, line, cap⟩ c).1, pre ++ [(putcharL ⟨.s1, crc, line, cap⟩ c).2]) := by
  rcases stuffByte_code ctx h c with ⟨h1, h2, h3, e⟩ | ⟨d, e, hd⟩
  · exact ⟨[], allCont_nil, by rw [e, feed_cons, newchar_s1_plain ctx crc line cap h1 h2 h3]; rfl⟩
  · refine ⟨[CONTINUE], allCont_cons allCont_nil, ?_⟩
    rw [e, feed_cons, newchar_s1_stub ctx crc line cap h.stub_ne_start h.stub_ne_stop, feed_cons,
      newchar_s2_code ctx crc line cap hd]; rfl

theorem feed_stuffed (ctx : Ctx) (h : ctx.WF) (p : List Byte) (crc : BitVec 8) (line : List Byte) (cap : Nat)
    (hroom : line.length + p.length < cap) :
    (feed ctx ⟨.s1, crc, line, cap⟩ (p.flatMap (stuffByte ctx))).1 = ⟨.s1, strmcrc8 crc p, line ++ p, cap⟩ ∧
    AllCont (feed ctx ⟨.s1, crc, line, cap⟩ (p.flatMap (stuffByte ctx))).2 := by
  induction p generalizing crc line with
  | nil => exact ⟨by simp [feed, strmcrc8], allCont_nil⟩
  | cons c cs ih =>
    simp only [List.length_cons] at hroom
    obtain ⟨pre, a1, e1⟩ := feed_stuffByte ctx h crc line cap c
    rw [putcharL_ok _ _ (by simp only; omega)] at e1
    obtain ⟨e2, a2⟩ := ih (strmStep crc c) (line ++ [c])
      (by simp only [List.length_append, List.length_cons, List.length_nil]; omega)
    rw [List.flatMap_cons, feed_append, e1]
    exact ⟨by rw [e2]; simp [strmcrc8], (a1.append (allCont_cons allCont_nil)).append a2⟩

/-! ## capacity invariant -/

def LineOK (r : Recv) : Prop := r.line.length ≤ r.cap - 1

theorem putcharL_lineOK (r : Recv) (c : Byte) (h : LineOK r) : LineOK (putcharL r c).1 := by
  by_cases hp : r.cap - 1 ≤ r.line.length
  · rw [putcharL_full r c hp]; exact h
  · rw [putcharL_ok r c (by omega)]
    simp only [LineOK, List.length_append, List.length_cons, List.length_nil]; omega

theorem stopL_lineOK (r : Recv) (h : LineOK r) : LineOK (stopL r).1 := by
  unfold stopL LineOK at *
  split
  · exact h
  · simp only [List.length_dropLast]; omega

theorem newchar_lineOK (ctx : Ctx) (r : Recv) (c : Byte) (h : LineOK r) : LineOK (newchar ctx r c).1 :=
  newchar_cases ctx r c (P := fun x => LineOK x.1) (fun _ _ _ => Nat.zero_le _) (fun _ _ _ _ => h)
    (fun _ _ => stopL_lineOK r h) (fun x => putcharL_lineOK r x h)

theorem feed_lineOK (ctx : Ctx) (r : Recv) (bs : List Byte) (h : LineOK r) : LineOK (feed ctx r bs).1 :=
  feed_inv ctx LineOK (newchar_lineOK ctx) r bs h

/-! ## the start marker, from any state -/

/-- holds of every state reached from `Recv.init` (`feed_good`) -/
def Good (r : Recv) : Prop := r.state = .s1 → r.line = [] → r.crc = 0xFF#8

/-- the states in which a frame is lost: its start marker is taken for the stop marker of the packet begun before -/
def Swallows (ctx : Ctx) (r : Recv) : Prop := ctx.start = ctx.stop ∧ r.state = .s1 ∧ r.line ≠ []

/-- The last clause: a repeated start marker (start = stop) met in a frame with an empty line is skipped and leaves the
CRC as it is, which is the initial one in every reachable state. -/
theorem newchar_start (ctx : Ctx) (h : ctx.WF) (r : Recv) (hn : ¬ Swallows ctx r) :
    ∃ k s, newchar ctx r ctx.start = (⟨.s1, k, [], r.cap⟩, s) ∧ s ≠ NEWPACKAGE ∧
      (ctx.start ≠ ctx.stop ∨ Good r → k = 0xFF#8) := by
  obtain ⟨st, crc, line, cap⟩ := r
  cases st
  · exact ⟨_, _, newchar_start_idle ctx _ (Or.inl rfl), by decide, fun _ => rfl⟩
  · exact ⟨_, _, newchar_start_idle ctx _ (Or.inr rfl), by decide, fun _ => rfl⟩
  · rw [newchar_s1]
    by_cases he : ctx.start = ctx.stop
    · have hl : line = [] := Decidable.not_not.mp fun hl => hn ⟨he, rfl, hl⟩
      subst hl
      exact ⟨crc, CONTINUE, by simp [he], by decide, fun hg => hg.elim (absurd he) fun hg => hg rfl rfl⟩
    · exact ⟨_, FORCE_RESTART, by simp [he], by decide, fun _ => rfl⟩
  · exact ⟨_, FORCE_RESTART, by
      rw [newchar_s2, if_neg (Ne.symm h.sstart_ne_start), if_neg (Ne.symm h.sstop_ne_start),
        if_neg (Ne.symm h.sstub_ne_start), if_pos rfl], by decide, fun _ => rfl⟩

theorem newchar_start_swallows (ctx : Ctx) (r : Recv) (hs : Swallows ctx r) :
    newchar ctx r ctx.start = stopL r := by
  obtain ⟨st, crc, line, cap⟩ := r
  obtain ⟨he, hs1, hl⟩ := hs
  simp only at hs1 hl; subst hs1
  rw [he]; exact newchar_stop ctx crc line cap hl

/-! ## soundness invariant -/

/-- `g` = the raw bytes since the last start marker (`none`: none so far) -/
def Sound (ctx : Ctx) (r : Recv) (g : Option (List Byte)) : Prop :=
  match r.state with
  | .s1 => ∃ since, g = some since ∧ unescPartial ctx since = some (r.line, false) ∧
            r.crc = strmcrc8 0xFF#8 r.line
  | .s2 => ∃ since, g = some since ∧ unescPartial ctx since = some (r.line, true) ∧
            r.crc = strmcrc8 0xFF#8 r.line
  | _ => True

theorem unescPartial_snoc (ctx : Ctx) (bs : List Byte) (c : Byte) :
    unescPartial ctx (bs ++ [c]) = unescStep ctx (unescPartial ctx bs) c := by
  simp [unescPartial, List.foldl_append]

theorem sound_fresh (ctx : Ctx) (r : Recv) (hs : r.state = .s1) (hl : r.line = []) (hc : r.crc = 0xFF#8) :
    Sound ctx r (some []) := by
  simp [Sound, hs, hl, hc, unescPartial, strmcrc8]

theorem putcharL_fst_sound (ctx : Ctx) (st : St) (crc : BitVec 8) (line since : List Byte) (cap : Nat) (x : Byte)
    (hcrc : crc = strmcrc8 0xFF#8 line) (hu : unescPartial ctx since = some (line ++ [x], false)) :
    Sound ctx (putcharL ⟨st, crc, line, cap⟩ x).1 (some since) := by
  unfold putcharL
  split
  · refine ⟨since, rfl, hu, ?_⟩
    simp only; rw [strmcrc8_snoc, ← hcrc]
  · trivial

theorem sound_good (ctx : Ctx) (r : Recv) (g : Option (List Byte)) (hs : Sound ctx r g) : Good r := by
  obtain ⟨st, crc, line, cap⟩ := r
  rintro rfl rfl
  obtain ⟨_, _, _, hcrc⟩ : ∃ since, g = some since ∧ unescPartial ctx since = some ([], false) ∧
      crc = strmcrc8 0xFF#8 [] := hs
  exact hcrc

theorem sound_idle (ctx : Ctx) (r : Recv) (g : Option (List Byte)) (h : r.state = .s0) : Sound ctx r g := by
  obtain ⟨st, crc, line, cap⟩ := r
  simp only at h; subst h; trivial

theorem sound_step (ctx : Ctx) (h : ctx.WF) (r : Recv) (g : Option (List Byte)) (c : Byte)
    (hs : Sound ctx r g) : Sound ctx (newchar ctx r c).1 (sinceStep ctx.start g c) := by
  by_cases hc : c = ctx.start
  · -- the start marker: a fresh frame, or (swallowed) the stop handler
    subst hc
    rw [show sinceStep ctx.start g ctx.start = some [] from if_pos rfl]
    by_cases hsw : Swallows ctx r
    · rw [newchar_start_swallows ctx r hsw]; exact sound_idle _ _ _ (stopL_state r)
    · obtain ⟨k, s, e, _, hk⟩ := newchar_start ctx h r hsw
      rw [e, hk (Or.inr (sound_good ctx r g hs))]
      exact sound_fresh _ _ rfl rfl rfl
  · obtain ⟨st, crc, line, cap⟩ := r
    cases st
    · rw [newchar_s0, if_neg hc]; trivial
    · rw [newchar_s4, if_neg hc]; trivial
    · obtain ⟨since, hg, hu, hcrc⟩ : ∃ since, g = some since ∧ unescPartial ctx since = some (line, false) ∧
          crc = strmcrc8 0xFF#8 line := hs
      subst hg
      rw [newchar_s1, if_neg (fun e => hc e.1), if_neg (fun e => hc e.1)]
      by_cases hstop : c = ctx.stop
      · rw [if_pos hstop]; exact sound_idle _ _ _ (stopL_state _)
      · by_cases hstub : c = ctx.stub
        · subst hstub
          simp only [hc, hstop, sinceStep, if_false, if_true, Option.map_some]
          refine ⟨since ++ [ctx.stub], rfl, ?_, hcrc⟩
          rw [unescPartial_snoc, hu]; simp [unescStep]
        · simp only [hc, hstop, hstub, sinceStep, if_false, Option.map_some]
          apply putcharL_fst_sound _ _ _ _ _ _ _ hcrc
          rw [unescPartial_snoc, hu]; simp [unescStep, hstub]
    · obtain ⟨since, hg, hu, hcrc⟩ : ∃ since, g = some since ∧ unescPartial ctx since = some (line, true) ∧
          crc = strmcrc8 0xFF#8 line := hs
      subst hg
      rw [newchar_s2_eq]
      cases hx : codeOf ctx c with
      | some x =>
        simp only [sinceStep, if_neg hc, Option.map_some]
        apply putcharL_fst_sound _ _ _ _ _ _ _ hcrc
        rw [unescPartial_snoc, hu]; simp [unescStep, hx]
      | none => simp only [hc, if_false]; trivial

theorem feed_sound (ctx : Ctx) (h : ctx.WF) (r : Recv) (g : Option (List Byte)) (bs : List Byte)
    (hs : Sound ctx r g) : Sound ctx (feed ctx r bs).1 (bs.foldl (sinceStep ctx.start) g) := by
  induction bs generalizing r g with
  | nil => simpa [feed]
  | cons c cs ih => simp only [feed, List.foldl_cons]; exact ih _ _ (sound_step ctx h r g c hs)

theorem newpackage_inv (ctx : Ctx) (r : Recv) (c : Byte) (hn : (newchar ctx r c).2 = NEWPACKAGE) :
    r.state = .s1 ∧ c = ctx.stop ∧ r.crc = 0#8 ∧ (newchar ctx r c).1.line = r.line.dropLast := by
  have hstop : (stopL r).2 = NEWPACKAGE → r.crc = 0#8 ∧ (stopL r).1.line = r.line.dropLast := by
    unfold stopL; split
    · exact fun h => absurd h (by decide : CRC_ERROR ≠ NEWPACKAGE)
    · exact fun _ => ⟨Decidable.not_not.mp ‹_›, rfl⟩
  exact newchar_cases ctx r c
    (P := fun x => x.2 = NEWPACKAGE → r.state = .s1 ∧ c = ctx.stop ∧ r.crc = 0#8 ∧ x.1.line = r.line.dropLast)
    (fun _ _ hs h => absurd h hs) (fun _ _ hs _ h => absurd h hs) (fun h1 h2 h => ⟨h1, h2, hstop h⟩)
    (fun x h => absurd h (putcharL_snd_ne r x)) hn

theorem sound_crc_zero {ctx : Ctx} {g : Option (List Byte)} {line : List Byte} {cap : Nat}
    (hs : Sound ctx ⟨.s1, 0#8, line, cap⟩ g) :
    ∃ since, g = some since ∧ unescape ctx since = some (line.dropLast ++ [strmcrc8 0xFF#8 line.dropLast]) := by
  obtain ⟨since, hg, hu, hcrc⟩ : ∃ since, g = some since ∧ unescPartial ctx since = some (line, false) ∧
      (0#8 : BitVec 8) = strmcrc8 0xFF#8 line := hs
  refine ⟨since, hg, ?_⟩
  rw [← crc_zero_split line hcrc.symm]
  simp [unescape, hu]

theorem newpackage_sound (ctx : Ctx) (r : Recv) (g : Option (List Byte)) (c : Byte)
    (hs : Sound ctx r g) (hn : (newchar ctx r c).2 = NEWPACKAGE) :
    c = ctx.stop ∧ ∃ since, g = some since ∧
      unescape ctx since = some ((newchar ctx r c).1.line ++ [strmcrc8 0xFF#8 (newchar ctx r c).1.line]) := by
  obtain ⟨h1, h2, h3, h4⟩ := newpackage_inv ctx r c hn
  obtain ⟨st, crc, line, cap⟩ := r
  simp only at h1 h3; subst h1; subst h3
  rw [h4]
  exact ⟨h2, sound_crc_zero hs⟩

/-! ## deliveries and resynchronisation -/

theorem delivered_append (ctx : Ctx) (r : Recv) (a b : List Byte) :
    delivered ctx r (a ++ b) = delivered ctx r a ++ delivered ctx (feed ctx r a).1 b := by
  induction a generalizing r with
  | nil => simp [delivered, feed]
  | cons c cs ih =>
    simp only [List.cons_append, delivered, feed]
    split <;> simp [ih]

theorem delivered_nil_of_statuses (ctx : Ctx) (r : Recv) (a : List Byte)
    (h : ∀ s ∈ (feed ctx r a).2, s ≠ NEWPACKAGE) : delivered ctx r a = [] := by
  induction a generalizing r with
  | nil => simp [delivered]
  | cons c cs ih =>
    simp only [feed, List.mem_cons, forall_eq_or_imp] at h
    simp only [delivered, h.1, if_false]
    exact ih _ h.2

theorem allCont_no_newpackage {ss : List Int} (h : AllCont ss) : ∀ s ∈ ss, s ≠ NEWPACKAGE := by
  intro s hs; rw [h s hs]; decide

def Primed (r : Recv) : Prop := r.state = .s1 ∧ r.line = [] ∧ r.crc = 0xFF#8

theorem frame_tail (ctx : Ctx) (h : ctx.WF) (p : List Byte) (crc : BitVec 8) (cap : Nat)
    (hcap : p.length + 2 ≤ cap) :
    ∃ ss x, AllCont ss ∧
      x = stopL ⟨.s1, strmcrc8 crc (p ++ [strmcrc8 0xFF#8 p]), p ++ [strmcrc8 0xFF#8 p], cap⟩ ∧
      feed ctx ⟨.s1, crc, [], cap⟩ (frameBody ctx p ++ [ctx.stop]) = (x.1, ss ++ [x.2]) ∧
      delivered ctx ⟨.s1, crc, [], cap⟩ (frameBody ctx p ++ [ctx.stop]) =
        if x.2 = NEWPACKAGE then [x.1.line] else [] := by
  obtain ⟨e1, a1⟩ := feed_stuffed ctx h (p ++ [strmcrc8 0xFF#8 p]) crc [] cap (by simp; omega)
  rw [List.nil_append] at e1
  unfold frameBody
  refine ⟨_, _, a1, rfl, ?_, ?_⟩
  · rw [feed_append, e1, feed_cons, newchar_stop ctx _ _ cap (List.concat_ne_nil _ _)]; rfl
  · rw [delivered_append, delivered_nil_of_statuses _ _ _ (allCont_no_newpackage a1), e1]
    simp only [List.nil_append, delivered, newchar_stop ctx _ _ cap (List.concat_ne_nil _ _)]

theorem stopL_trailer (p : List Byte) (cap : Nat) :
    stopL ⟨.s1, strmcrc8 0xFF#8 (p ++ [strmcrc8 0xFF#8 p]), p ++ [strmcrc8 0xFF#8 p], cap⟩ =
      (⟨.s0, 0#8, p, cap⟩, NEWPACKAGE) := by
  simp [strmcrc8_trailer, stopL]

theorem newchar_idle_garbage (ctx : Ctx) (r : Recv) (hr : Idle r) (c : Byte) (hc : c ≠ ctx.start) :
    Idle (newchar ctx r c).1 ∧ (newchar ctx r c).2 = GARBAGE := by
  obtain ⟨st, crc, line, cap⟩ := r
  rcases hr with hr | hr <;> simp only at hr <;> subst hr
  · rw [newchar_s0, if_neg hc]; exact ⟨Or.inr rfl, rfl⟩
  · rw [newchar_s4, if_neg hc]; exact ⟨Or.inr rfl, rfl⟩

theorem idle_no_delivery (ctx : Ctx) (r : Recv) (c : Byte) (hr : Idle r) :
    (newchar ctx r c).2 ≠ NEWPACKAGE := fun hn => by
  have h1 := (newpackage_inv ctx r c hn).1
  rcases hr with h | h <;> rw [h1] at h <;> cases h

theorem garbage_run (ctx : Ctx) (r : Recv) (bs : List Byte) (hr : Idle r)
    (hb : ∀ b ∈ bs, b ≠ ctx.start) :
    Idle (feed ctx r bs).1 ∧ delivered ctx r bs = [] ∧ ∀ s ∈ (feed ctx r bs).2, s = GARBAGE := by
  induction bs generalizing r with
  | nil => exact ⟨hr, rfl, fun _ hs => nomatch hs⟩
  | cons c cs ih =>
    have hstep := newchar_idle_garbage ctx r hr c (hb c (by simp))
    obtain ⟨i1, i2, i3⟩ := ih (newchar ctx r c).1 hstep.1 (fun b hb' => hb b (by simp [hb']))
    refine ⟨i1, ?_, ?_⟩
    · simp only [delivered, hstep.2]; exact i2
    · intro s hs
      rcases List.mem_cons.mp hs with rfl | hs
      · exact hstep.2
      · exact i3 s hs

theorem garbage_statuses (ctx : Ctx) (r : Recv) (bs : List Byte) (hr : Idle r)
    (hb : ∀ b ∈ bs, b ≠ ctx.start) : ∀ s ∈ (feed ctx r bs).2, s = GARBAGE :=
  (garbage_run ctx r bs hr hb).2.2

theorem first_frame (ctx : Ctx) (h : ctx.WF) (r : Recv) (hn : ¬ Swallows ctx r) (p : List Byte)
    (hcap : p.length + 2 ≤ r.cap) :
    (delivered ctx r (encode ctx p)).length ≤ 1 ∧
      (ctx.start ≠ ctx.stop ∨ Good r → delivered ctx r (encode ctx p) = [p]) ∧
      (feed ctx r (encode ctx p)).1.state = .s0 ∧ (feed ctx r (encode ctx p)).1.cap = r.cap := by
  obtain ⟨k, s, e, hs, hk⟩ := newchar_start ctx h r hn
  obtain ⟨_, x, _, hx, t, d⟩ := frame_tail ctx h p k r.cap hcap
  rw [encode_eq]
  simp only [delivered, feed, e, hs, if_false, t, d]
  refine ⟨by split <;> simp, fun hg => ?_, hx ▸ stopL_state _, hx ▸ stopL_cap _⟩
  rw [hx, hk hg, stopL_trailer]; rfl

theorem frame_any_state_distinct (ctx : Ctx) (h : ctx.WF) (hne : ctx.start ≠ ctx.stop) (r : Recv)
    (p : List Byte) (hcap : p.length + 2 ≤ r.cap) :
    delivered ctx r (encode ctx p) = [p] ∧ (feed ctx r (encode ctx p)).1.state = .s0 ∧
      (feed ctx r (encode ctx p)).1.cap = r.cap :=
  let ⟨_, d, s0, cp⟩ := first_frame ctx h r (fun hs => hne hs.1) p hcap
  ⟨d (Or.inl hne), s0, cp⟩

def Ready (r : Recv) : Prop := Idle r ∨ Primed r

theorem ready_not_swallows (ctx : Ctx) (r : Recv) (hr : Ready r) : ¬ Swallows ctx r ∧ Good r := by
  rcases hr with hi | ⟨h1, h2, h3⟩
  · have hne : r.state ≠ .s1 := fun e => by rcases hi with hi | hi <;> rw [e] at hi <;> cases hi
    exact ⟨fun hs => hne hs.2.1, fun e => absurd e hne⟩
  · exact ⟨fun hs => hs.2.2 h2, fun _ _ => h3⟩

theorem frame_from_ready (ctx : Ctx) (h : ctx.WF) (r : Recv) (hr : Ready r)
    (p : List Byte) (hcap : p.length + 2 ≤ r.cap) :
    delivered ctx r (encode ctx p) = [p] ∧ Ready (feed ctx r (encode ctx p)).1 ∧
      (feed ctx r (encode ctx p)).1.cap = r.cap :=
  let ⟨_, d, s0, cp⟩ := first_frame ctx h r (ready_not_swallows ctx r hr).1 p hcap
  ⟨d (Or.inr (ready_not_swallows ctx r hr).2), Or.inl (Or.inl s0), cp⟩

theorem frames_from_ready (ctx : Ctx) (h : ctx.WF) (r : Recv) (hr : Ready r)
    (ps : List (List Byte)) (hcap : ∀ p ∈ ps, p.length + 2 ≤ r.cap) :
    delivered ctx r (ps.flatMap (encode ctx)) = ps := by
  induction ps generalizing r with
  | nil => simp [delivered]
  | cons p ps ih =>
    obtain ⟨d, rd, cp⟩ := frame_from_ready ctx h r hr p (hcap p (by simp))
    simp only [List.flatMap_cons, delivered_append, d]
    rw [ih _ rd (by intro q hq; rw [cp]; exact hcap q (by simp [hq]))]
    simp

/-- start = stop: the opening marker is taken for the stop marker (it completes the packet begun before, or is
a CRC error), the bytes are skipped as garbage, the closing marker primes the receiver -/
theorem frame_swallowed (ctx : Ctx) (he : ctx.start = ctx.stop) (crc : BitVec 8) (line : List Byte) (cap : Nat)
    (hl : line ≠ []) (body : List Byte) (hnm : ∀ b ∈ body, b ≠ ctx.start) :
    (feed ctx ⟨.s1, crc, line, cap⟩ (ctx.start :: (body ++ [ctx.stop]))).1 = ⟨.s1, 0xFF#8, [], cap⟩ ∧
    delivered ctx ⟨.s1, crc, line, cap⟩ (ctx.start :: (body ++ [ctx.stop])) =
      (if crc = 0#8 then [line.dropLast] else []) ∧
    delivered ctx ⟨.s1, crc, line, cap⟩ [ctx.start] = (if crc = 0#8 then [line.dropLast] else []) ∧
    ∀ s ∈ (feed ctx ⟨.s1, crc, line, cap⟩ (ctx.start :: (body ++ [ctx.stop]))).2,
      s = CRC_ERROR ∨ s = NEWPACKAGE ∨ s = GARBAGE ∨ s = CONTINUE := by
  have hstep := newchar_start_swallows ctx ⟨.s1, crc, line, cap⟩ ⟨he, rfl, hl⟩
  obtain ⟨g1, g2, g3⟩ := garbage_run ctx _ body (Or.inl (stopL_state ⟨.s1, crc, line, cap⟩)) hnm
  have hlast := newchar_start_idle ctx _ g1
  have hcap : (feed ctx (stopL ⟨.s1, crc, line, cap⟩).1 body).1.cap = cap := by rw [feed_cap, stopL_cap]
  have hd1 : delivered ctx ⟨.s1, crc, line, cap⟩ [ctx.start] = (if crc = 0#8 then [line.dropLast] else []) := by
    simp only [delivered, hstep, stopL]
    by_cases hz : crc = 0#8
    · simp [hz, NEWPACKAGE]
    · simp [hz, CRC_ERROR, NEWPACKAGE]
  have hst : (stopL ⟨.s1, crc, line, cap⟩).2 = CRC_ERROR ∨ (stopL ⟨.s1, crc, line, cap⟩).2 = NEWPACKAGE := by
    unfold stopL; split
    · exact Or.inl rfl
    · exact Or.inr rfl
  rw [← he] at *
  refine ⟨?_, ?_, hd1, ?_⟩
  · rw [feed_cons, hstep, feed_append, feed_cons, hlast, hcap]; rfl
  · have : ctx.start :: (body ++ [ctx.start]) = [ctx.start] ++ (body ++ [ctx.start]) := rfl
    have hf1 : (feed ctx ⟨.s1, crc, line, cap⟩ [ctx.start]).1 = (stopL ⟨.s1, crc, line, cap⟩).1 := by
      rw [feed_cons, hstep]; rfl
    rw [this, delivered_append, hd1, delivered_append, hf1, g2]
    simp only [delivered, hlast]
    simp [CONTINUE, NEWPACKAGE]
  · intro s hs
    rw [feed_cons, hstep, feed_append, feed_cons, hlast] at hs
    rcases List.mem_cons.mp hs with rfl | hs
    · rcases hst with h | h
      · exact Or.inl h
      · exact Or.inr (Or.inl h)
    · rcases List.mem_append.mp hs with hs | hs
      · exact Or.inr (Or.inr (Or.inl (g3 s hs)))
      · exact Or.inr (Or.inr (Or.inr (List.mem_singleton.mp hs)))

theorem inframe_swallow (ctx : Ctx) (he : ctx.start = ctx.stop) (crc : BitVec 8) (line : List Byte) (cp : Nat)
    (hl : line ≠ []) (body : List Byte) (hnm : ∀ b ∈ body, b ≠ ctx.start) :
    delivered ctx ⟨.s1, crc, line, cp⟩ (ctx.start :: (body ++ [ctx.stop])) = delivered ctx ⟨.s1, crc, line, cp⟩ [ctx.start] ∧
    OVERFLOW ∉ (feed ctx ⟨.s1, crc, line, cp⟩ (ctx.start :: (body ++ [ctx.stop]))).2 := by
  obtain ⟨_, d, d1, hs⟩ := frame_swallowed ctx he crc line cp hl body hnm
  refine ⟨d.trans d1.symm, fun ho => ?_⟩
  rcases hs _ ho with h | h | h | h <;> exact absurd h (by decide)

/-- The frame is lost: what is delivered is determined by the state before, not by the frame. -/
theorem first_frame_inframe (ctx : Ctx) (h : ctx.WF) (he : ctx.start = ctx.stop)
    (crc : BitVec 8) (line : List Byte) (cap : Nat) (hl : line ≠ []) (p : List Byte) :
    delivered ctx ⟨.s1, crc, line, cap⟩ (encode ctx p) = (if crc = 0#8 then [line.dropLast] else []) ∧
    Ready (feed ctx ⟨.s1, crc, line, cap⟩ (encode ctx p)).1 ∧
    (feed ctx ⟨.s1, crc, line, cap⟩ (encode ctx p)).1.cap = cap := by
  obtain ⟨e, d, _, _⟩ := frame_swallowed ctx he crc line cap hl (frameBody ctx p)
    (fun b hb => (frameBody_no_marker ctx h p b hb).1)
  rw [encode_eq]
  exact ⟨d, by rw [e]; exact Or.inr ⟨rfl, rfl, rfl⟩, by rw [e]⟩

theorem first_frame_s2 (ctx : Ctx) (h : ctx.WF) (crc : BitVec 8) (line : List Byte) (cap : Nat)
    (p : List Byte) (hcap : p.length + 2 ≤ cap) :
    delivered ctx ⟨.s2, crc, line, cap⟩ (encode ctx p) = [p] ∧
    Ready (feed ctx ⟨.s2, crc, line, cap⟩ (encode ctx p)).1 ∧
    (feed ctx ⟨.s2, crc, line, cap⟩ (encode ctx p)).1.cap = cap :=
  let ⟨_, d, s0, cp⟩ := first_frame ctx h ⟨.s2, crc, line, cap⟩ (fun hs => nomatch hs.2.1) p hcap
  ⟨d (Or.inr fun hs => nomatch hs), Or.inl (Or.inl s0), cp⟩

theorem first_frame_coincide (ctx : Ctx) (h : ctx.WF) (he : ctx.start = ctx.stop) (r : Recv)
    (p : List Byte) (hcap : p.length + 2 ≤ r.cap) :
    (delivered ctx r (encode ctx p)).length ≤ 1 ∧ Ready (feed ctx r (encode ctx p)).1 ∧
      (feed ctx r (encode ctx p)).1.cap = r.cap := by
  by_cases hs : Swallows ctx r
  · obtain ⟨st, crc, line, cap⟩ := r
    obtain ⟨_, hs1, hl⟩ := hs
    simp only at hs1 hl; subst hs1
    obtain ⟨d, rd, cp⟩ := first_frame_inframe ctx h he crc line cap hl p
    exact ⟨by rw [d]; split <;> simp, rd, cp⟩
  · obtain ⟨a, _, b, c⟩ := first_frame ctx h r hs p hcap
    exact ⟨a, Or.inl (Or.inl b), c⟩

/-! ## reachable-state invariant -/

theorem putcharL_good (r : Recv) (c : Byte) : Good (putcharL r c).1 := by
  unfold putcharL; split <;> simp [Good]

theorem newchar_good (ctx : Ctx) (r : Recv) (c : Byte) (h : Good r) : Good (newchar ctx r c).1 :=
  newchar_cases ctx r c (P := fun x => Good x.1) (fun _ _ _ _ _ => rfl) (fun _ _ _ hst e => h (hst e))
    (fun _ _ => by unfold stopL; split <;> exact fun e => nomatch e) (putcharL_good r)

theorem feed_good (ctx : Ctx) (r : Recv) (bs : List Byte) (h : Good r) : Good (feed ctx r bs).1 :=
  feed_inv ctx Good (newchar_good ctx) r bs h

/-! ## legacy receiver -/

def ldelivered : LRecv → List Byte → List (List Byte)
  | _, [] => []
  | r, c :: cs =>
    let x := lnewchar r c
    -- legacy convention: the line still holds the CRC byte; the packet is the line without it
    if x.2 = NEWPACKAGE then x.1.line.dropLast :: ldelivered x.1 cs else ldelivered x.1 cs

def LLineOK (r : LRecv) : Prop := r.line.length ≤ r.cap - 1

theorem lputchar_lineOK (r : LRecv) (c : Byte) (h : LLineOK r) : LLineOK (lputchar r c).1 := by
  unfold lputchar LLineOK at *
  split
  · simp only [List.length_append, List.length_cons, List.length_nil]; omega
  · exact h

theorem lnewchar_lineOK (r : LRecv) (c : Byte) (h : LLineOK r) : LLineOK (lnewchar r c).1 :=
  lnewchar_cases r c (P := fun x => LLineOK x.1) (fun _ _ _ => Nat.zero_le _) (fun _ _ _ => h)
    (fun _ _ _ _ => h) (fun x => lputchar_lineOK r x h) (fun x => lputchar_lineOK _ x (Nat.zero_le _))

theorem lfeed_lineOK (r : LRecv) (bs : List Byte) (h : LLineOK r) : LLineOK (lfeed r bs).1 :=
  lfeed_inv LLineOK lnewchar_lineOK r bs h

theorem ldelivered_append (r : LRecv) (a b : List Byte) :
    ldelivered r (a ++ b) = ldelivered r a ++ ldelivered (lfeed r a).1 b := by
  induction a generalizing r with
  | nil => simp [ldelivered, lfeed]
  | cons c cs ih =>
    simp only [List.cons_append, ldelivered, lfeed]
    split <;> simp [ih]

theorem ldelivered_nil_of_statuses (r : LRecv) (a : List Byte)
    (h : ∀ s ∈ (lfeed r a).2, s ≠ NEWPACKAGE) : ldelivered r a = [] := by
  induction a generalizing r with
  | nil => simp [ldelivered]
  | cons c cs ih =>
    simp only [lfeed, List.mem_cons, forall_eq_or_imp] at h
    simp only [ldelivered, h.1, if_false]
    exact ih _ h.2

theorem lnewpackage_inv (r : LRecv) (c : Byte) (hn : (lnewchar r c).2 = NEWPACKAGE) :
    r.state = .l1 ∧ c = legStart ∧ r.crc = 0#8 ∧ r.line ≠ [] ∧ (lnewchar r c).1.line = r.line :=
  lnewchar_cases r c
    (P := fun x => x.2 = NEWPACKAGE → r.state = .l1 ∧ c = legStart ∧ r.crc = 0#8 ∧ r.line ≠ [] ∧ x.1.line = r.line)
    (fun _ _ hs h => absurd h hs) (fun _ _ hs h => absurd h hs) (fun h1 h2 h3 h4 _ => ⟨h1, h2, h4, h3, rfl⟩)
    (fun x h => absurd h (lputchar_snd_ne r x)) (fun x h => absurd h (lputchar_snd_ne _ x)) hn

/-! ### inside a frame the legacy receiver is the configurable one on the legacy alphabet

Off the marker the two take the same steps in states 1 and 2, with the same answers (LDATA_ERROR and STUFFING_ERROR are
the same number).  While hunting, the legacy receiver answers CONTINUE where the configurable one answers GARBAGE, and its
line and CRC are arbitrary: hence the second case of `LRel` and the GARBAGE alternative of `lnewchar_sim`. -/

def toL (r : Recv) : LRecv :=
  ⟨match r.state with | .s1 => .l1 | .s2 => .l2 | _ => .l3, r.crc, r.line, r.cap⟩

def LRel (r : Recv) (l : LRecv) : Prop :=
  ((r.state = .s1 ∨ r.state = .s2) ∧ l = toL r) ∨ (Idle r ∧ l.state = .l3 ∧ l.cap = r.cap)

theorem lputchar_toL (st : St) (st' : LSt) (crc : BitVec 8) (line : List Byte) (cap : Nat) (x : Byte) :
    lputchar ⟨st', crc, line, cap⟩ x =
      (toL (putcharL ⟨st, crc, line, cap⟩ x).1, (putcharL ⟨st, crc, line, cap⟩ x).2) := by
  by_cases hp : cap - 1 ≤ line.length
  · rw [putcharL_full _ _ hp]; simp only [lputchar, hp, not_true_eq_false, if_false]; rfl
  · rw [putcharL_ok _ _ (by simp only; omega)]; simp only [lputchar, hp, not_false_eq_true, if_true]; rfl

theorem lnewchar_toL (r : Recv) (hs : r.state = .s1 ∨ r.state = .s2) (c : Byte) (hc : c ≠ legStart) :
    lnewchar (toL r) c = (toL (newchar Ctx.leg r c).1, (newchar Ctx.leg r c).2) := by
  obtain ⟨st, crc, line, cap⟩ := r
  rcases hs with hs | hs <;> simp only at hs <;> subst hs
  · show lnewchar ⟨.l1, crc, line, cap⟩ c = _
    rw [lnewchar_l1, if_neg hc]
    by_cases hstub : c = legStub
    · rw [if_pos hstub, hstub, show newchar Ctx.leg ⟨.s1, crc, line, cap⟩ legStub = _ from
        newchar_s1_stub Ctx.leg crc line cap (by decide) (by decide)]; rfl
    · rw [if_neg hstub, show newchar Ctx.leg ⟨.s1, crc, line, cap⟩ c = _ from
        newchar_s1_plain Ctx.leg crc line cap hc hstub hc]; exact lputchar_toL ..
  · show lnewchar ⟨.l2, crc, line, cap⟩ c = _
    rw [lnewchar_l2]
    by_cases h1 : c = legStubStart
    · rw [show newchar Ctx.leg ⟨.s2, crc, line, cap⟩ c = putcharL ⟨.s2, crc, line, cap⟩ legStart from if_pos h1,
        if_pos h1]
      exact lputchar_toL ..
    · by_cases h2 : c = legStubStub
      · rw [show newchar Ctx.leg ⟨.s2, crc, line, cap⟩ c = putcharL ⟨.s2, crc, line, cap⟩ legStub from
          (if_neg h1).trans ((if_neg h1).trans (if_pos h2)), if_neg h1, if_pos h2]
        exact lputchar_toL ..
      · rw [show newchar Ctx.leg ⟨.s2, crc, line, cap⟩ c = (⟨.s0, crc, line, cap⟩, STUFFING_ERROR) from
          (if_neg h1).trans ((if_neg h1).trans ((if_neg h2).trans (if_neg hc))), if_neg h1, if_neg h2, if_neg hc]
        rfl

theorem LRel_toL (r : Recv) : LRel r (toL r) := by
  obtain ⟨st, crc, line, cap⟩ := r
  cases st
  · exact Or.inr ⟨Or.inl rfl, rfl, rfl⟩
  · exact Or.inr ⟨Or.inr rfl, rfl, rfl⟩
  · exact Or.inl ⟨Or.inl rfl, rfl⟩
  · exact Or.inl ⟨Or.inr rfl, rfl⟩

theorem lnewchar_sim (r : Recv) (l : LRecv) (c : Byte) (hc : c ≠ legStart) (h : LRel r l) :
    LRel (newchar Ctx.leg r c).1 (lnewchar l c).1 ∧
      ((lnewchar l c).2 = (newchar Ctx.leg r c).2 ∨ (newchar Ctx.leg r c).2 = GARBAGE) := by
  rcases h with ⟨hs, rfl⟩ | ⟨hi, hl, hcap⟩
  · rw [lnewchar_toL r hs c hc]
    exact ⟨LRel_toL _, Or.inl rfl⟩
  · obtain ⟨g1, g2⟩ := newchar_idle_garbage Ctx.leg r hi c hc
    obtain ⟨lst, lcrc, lline, lcap⟩ := l
    simp only at hl hcap; subst hl
    rw [lnewchar_l3, if_neg hc]
    exact ⟨Or.inr ⟨g1, rfl, by rw [newchar_cap]; exact hcap⟩, Or.inr g2⟩

theorem lfeed_sim (bs : List Byte) (hb : ∀ b ∈ bs, b ≠ legStart) (r : Recv) (l : LRecv) (h : LRel r l) :
    LRel (feed Ctx.leg r bs).1 (lfeed l bs).1 ∧
      (∀ s ∈ (feed Ctx.leg r bs).2, s ≠ GARBAGE → s ∈ (lfeed l bs).2) ∧
      (AllCont (feed Ctx.leg r bs).2 → AllCont (lfeed l bs).2) ∧ ldelivered l bs = [] := by
  induction bs generalizing r l with
  | nil => exact ⟨h, fun _ hs _ => absurd hs List.not_mem_nil, fun _ => allCont_nil, rfl⟩
  | cons c cs ih =>
    have hc := hb c List.mem_cons_self
    obtain ⟨s1, s2⟩ := lnewchar_sim r l c hc h
    obtain ⟨i1, i2, i3, i4⟩ := ih (fun b hb' => hb b (List.mem_cons_of_mem _ hb')) _ _ s1
    have hnp : (lnewchar l c).2 ≠ NEWPACKAGE := fun hn => hc (lnewpackage_inv l c hn).2.1
    rw [feed_cons, lfeed_cons]
    refine ⟨i1, fun s hs hg => ?_, fun ha => ?_, by simp only [ldelivered, hnp, if_false, i4]⟩
    · rcases List.mem_cons.mp hs with rfl | hs
      · rcases s2 with e | e
        · exact e ▸ List.mem_cons_self
        · exact absurd e hg
      · exact List.mem_cons_of_mem _ (i2 s hs hg)
    · rcases s2 with e | e
      · rw [e]; intro s hs
        rcases List.mem_cons.mp hs with rfl | hs
        · exact ha _ List.mem_cons_self
        · exact i3 (fun t ht => ha t (List.mem_cons_of_mem _ ht)) s hs
      · exact absurd (e.symm.trans (ha _ List.mem_cons_self)) (by decide)

theorem lfeed_stuffed (p : List Byte) (crc : BitVec 8) (line : List Byte) (cap : Nat)
    (hroom : line.length + p.length < cap) :
    (lfeed ⟨.l1, crc, line, cap⟩ (p.flatMap (stuffByte Ctx.leg))).1 = ⟨.l1, strmcrc8 crc p, line ++ p, cap⟩ ∧
    AllCont (lfeed ⟨.l1, crc, line, cap⟩ (p.flatMap (stuffByte Ctx.leg))).2 := by
  obtain ⟨e, a⟩ := feed_stuffed Ctx.leg Ctx.leg_wf p crc line cap hroom
  obtain ⟨h1, _, h2, _⟩ := lfeed_sim _ (fun b hb => (flatMap_stuff_no_marker Ctx.leg Ctx.leg_wf p b hb).1)
    ⟨.s1, crc, line, cap⟩ ⟨.l1, crc, line, cap⟩ (Or.inl ⟨Or.inl rfl, rfl⟩)
  rw [e] at h1
  rcases h1 with ⟨_, h1⟩ | ⟨hi, _⟩
  · exact ⟨h1, h2 a⟩
  · rcases hi with hi | hi <;> cases hi

theorem encodeLeg_eq (p : List Byte) : encodeLeg p = legStart :: (frameBody Ctx.leg p ++ [legStart]) := by
  rw [encodeLeg_eq_encode, encode_eq]; rfl

theorem lframe_tail (p : List Byte) (cap : Nat) (hcap : p.length + 2 ≤ cap) :
    ∃ ss, AllCont ss ∧
      lfeed ⟨.l1, 0xFF#8, [], cap⟩ (frameBody Ctx.leg p ++ [legStart]) =
        (⟨.l0, 0#8, p ++ [strmcrc8 0xFF#8 p], cap⟩, ss ++ [NEWPACKAGE]) ∧
      ldelivered ⟨.l1, 0xFF#8, [], cap⟩ (frameBody Ctx.leg p ++ [legStart]) = [p] := by
  obtain ⟨e1, a1⟩ := lfeed_stuffed (p ++ [strmcrc8 0xFF#8 p]) 0xFF#8 [] cap (by simp; omega)
  rw [List.nil_append, strmcrc8_trailer] at e1
  have hlast : lnewchar ⟨.l1, 0#8, p ++ [strmcrc8 0xFF#8 p], cap⟩ legStart =
      (⟨.l0, 0#8, p ++ [strmcrc8 0xFF#8 p], cap⟩, NEWPACKAGE) := by
    simp [lnewchar_l1]
  unfold frameBody
  refine ⟨_, a1, ?_, ?_⟩
  · rw [lfeed_append, e1, lfeed_cons, hlast]; rfl
  · rw [ldelivered_append, ldelivered_nil_of_statuses _ _ (allCont_no_newpackage a1), e1]
    simp [ldelivered, hlast]

/-- state 0: a marker was the last event; state 3: hunting (freshly set up, or after DATA_ERROR / OVERFLOW) -/
theorem roundtrip_leg_idle (p : List Byte) (r : LRecv) (hs : r.state = .l0 ∨ r.state = .l3)
    (hcap : p.length + 2 ≤ r.cap) :
    ∃ ss, lfeed r (gstuffingLeg p) =
        ({ r with state := .l0, crc := 0#8, line := p ++ [strmcrc8 0xFF#8 p] }, ss ++ [NEWPACKAGE]) ∧
      AllCont ss := by
  obtain ⟨ss, a, e, _⟩ := lframe_tail p r.cap hcap
  refine ⟨CONTINUE :: ss, ?_, allCont_cons a⟩
  rw [gstuffingLeg_eq, encodeLeg_eq, lfeed_cons, lnewchar_marker_idle r hs, e]; rfl

def LReady (r : LRecv) : Prop :=
  (r.state = .l0 ∨ r.state = .l3) ∨ (r.state = .l1 ∧ r.line = [] ∧ r.crc = 0xFF#8)

theorem lframe_from_ready (r : LRecv) (hr : LReady r) (p : List Byte) (hcap : p.length + 2 ≤ r.cap) :
    ldelivered r (encodeLeg p) = [p] ∧ LReady (lfeed r (encodeLeg p)).1 ∧
      (lfeed r (encodeLeg p)).1.cap = r.cap := by
  obtain ⟨st, crc, line, cap⟩ := r
  obtain ⟨_, _, e, d⟩ := lframe_tail p cap hcap
  have hstep : lnewchar ⟨st, crc, line, cap⟩ legStart = (⟨.l1, 0xFF#8, [], cap⟩, CONTINUE) := by
    rcases hr with hr | ⟨h1, h2, h3⟩
    · exact lnewchar_marker_idle _ hr
    · simp only at h1 h2 h3; subst h1; subst h2; subst h3; rw [lnewchar_l1]; simp
  rw [encodeLeg_eq]
  simp only [ldelivered, lfeed, hstep, e, d]
  exact ⟨by simp [CONTINUE, NEWPACKAGE], Or.inl (Or.inl rfl), trivial⟩

theorem lframes_from_ready (r : LRecv) (hr : LReady r) (ps : List (List Byte))
    (hcap : ∀ p ∈ ps, p.length + 2 ≤ r.cap) :
    ldelivered r (ps.flatMap encodeLeg) = ps := by
  induction ps generalizing r with
  | nil => simp [ldelivered]
  | cons p ps ih =>
    obtain ⟨d, rd, cp⟩ := lframe_from_ready r hr p (hcap p (by simp))
    simp only [List.flatMap_cons, ldelivered_append, d]
    rw [ih _ rd (by intro q hq; rw [cp]; exact hcap q (by simp [hq]))]
    simp

def LGood (r : LRecv) : Prop := r.line = [] → r.crc = 0xFF#8

theorem lputchar_good (r : LRecv) (c : Byte) (h : LGood r) : LGood (lputchar r c).1 := by
  unfold lputchar; split
  · exact fun e => absurd e (by simp)
  · exact h

theorem lnewchar_good (r : LRecv) (c : Byte) (h : LGood r) : LGood (lnewchar r c).1 :=
  lnewchar_cases r c (P := fun x => LGood x.1) (fun _ _ _ _ => rfl) (fun _ _ _ => h)
    (fun _ _ _ _ => h) (fun x => lputchar_good r x h) (fun x => lputchar_good _ x (fun _ => rfl))

theorem lfeed_good (r : LRecv) (bs : List Byte) (h : LGood r) : LGood (lfeed r bs).1 :=
  lfeed_inv LGood lnewchar_good r bs h

theorem lafter_marker (r : LRecv) (h : r.state = .l1 → r.line = [] → r.crc = 0xFF#8) :
    (lnewchar r legStart).1.state = .l0 ∨ (lnewchar r legStart).1 = ⟨.l1, 0xFF#8, [], r.cap⟩ := by
  obtain ⟨st, crc, line, cap⟩ := r
  have e1 : legStart ≠ legStubStart := by decide
  have e2 : legStart ≠ legStubStub := by decide
  cases st
  · rw [lnewchar_l0, lnewchar_l1]; simp
  · rw [lnewchar_l1]
    by_cases hl : line = []
    · subst hl; simp [show crc = 0xFF#8 from h rfl rfl]
    · have : line.isEmpty = false := by simpa using hl
      simp only [this, if_true, Bool.false_eq_true, if_false]
      split <;> exact Or.inl rfl
  · rw [lnewchar_l2]; simp [e1, e2]
  · rw [lnewchar_l3]; simp

theorem lready_after_marker (r : LRecv) (h : LGood r) : LReady (lnewchar r legStart).1 := by
  rcases lafter_marker r (fun _ => h) with h0 | h1
  · exact Or.inl (Or.inl h0)
  · rw [h1]; exact Or.inr ⟨rfl, rfl, rfl⟩

theorem lafter_marker_feed (r : LRecv) (h : LGood r) (body : List Byte) (hne : body ≠ []) :
    lfeed (lnewchar r legStart).1 body = lfeed ⟨.l1, 0xFF#8, [], r.cap⟩ body ∧
    ldelivered (lnewchar r legStart).1 body = ldelivered ⟨.l1, 0xFF#8, [], r.cap⟩ body := by
  have hmc := lnewchar_cap r legStart
  rcases lafter_marker r (fun _ => h) with h0 | h1
  · obtain ⟨c, cs, hcs⟩ := List.exists_cons_of_ne_nil hne
    generalize (lnewchar r legStart).1 = r1 at h0 hmc
    obtain ⟨st, crc, line, cap1⟩ := r1
    simp only at h0 hmc; subst h0; subst hmc
    -- state 0 resets on the next byte, then goes on as in a frame
    rw [hcs]; exact ⟨rfl, rfl⟩
  · rw [h1]; exact ⟨rfl, rfl⟩

end Igris.Gstuff
