/-
  C05 — the traces the driver prints (`feedTrace`, `lfeedTrace`) are the statuses of `feed` / `lfeed`
  as characters, paired with the deliveries.
-/
import IgrisModel.C05.Lemmas
import IgrisModel.C04.Drv
namespace Igris.Gstuff
open Igris.Proto Igris.C17

theorem lfeedTrace_eq (r : LRecv) (s : List Byte) :
    lfeedTrace r s = ((lfeed r s).2.map stsChar, ldelivered r s) := by
  induction s generalizing r with
  | nil => rfl
  | cons c cs ih =>
    simp only [lfeedTrace, lfeed, ldelivered, ih, List.map_cons]

theorem feedTrace_eq (ctx : Ctx) (r : Recv) (s : List Byte) :
    feedTrace ctx r s = ((feed ctx r s).2.map stsChar, delivered ctx r s) := by
  induction s generalizing r with
  | nil => rfl
  | cons c cs ih =>
    simp only [feedTrace, feed, delivered, ih, List.map_cons]

theorem feedTrace_drop (ctx : Ctx) (r : Recv) (g s : List Byte) :
    (feedTrace ctx r (g ++ s)).1.drop g.length = (feed ctx (feed ctx r g).1 s).2.map stsChar := by
  rw [feedTrace_eq, feed_append]
  simp only [List.map_append]
  rw [List.drop_left' (by rw [List.length_map, feed_length])]

theorem lfeedTrace_drop (r : LRecv) (g s : List Byte) :
    (lfeedTrace r (g ++ s)).1.drop g.length = (lfeed (lfeed r g).1 s).2.map stsChar := by
  rw [lfeedTrace_eq, lfeed_append]
  simp only [List.map_append]
  rw [List.drop_left' (by rw [List.length_map, lfeed_length])]

theorem stsChar_continue : stsChar CONTINUE = 'C' := by decide
theorem stsChar_newpackage : stsChar NEWPACKAGE = 'N' := by decide

theorem stsChar_O (x : Int) (h : stsChar x = 'O') : x = OVERFLOW := by
  have no : ∀ {ch : Char}, ch ≠ 'O' → ch = 'O' → x = OVERFLOW := fun hne e => absurd e hne
  exact ite_elim (P := fun ch => ch = 'O' → x = OVERFLOW) (fun _ => no (by decide)) (fun _ =>
    ite_elim (P := fun ch => ch = 'O' → x = OVERFLOW) (fun _ => no (by decide)) fun _ =>
    ite_elim (P := fun ch => ch = 'O' → x = OVERFLOW) (fun _ => no (by decide)) fun _ =>
    ite_elim (P := fun ch => ch = 'O' → x = OVERFLOW) (fun _ => no (by decide)) fun _ =>
    ite_elim (P := fun ch => ch = 'O' → x = OVERFLOW) (fun _ => no (by decide)) fun _ =>
    ite_elim (P := fun ch => ch = 'O' → x = OVERFLOW) (fun h6 _ => h6) fun _ =>
    ite_elim (P := fun ch => ch = 'O' → x = OVERFLOW) (fun _ => no (by decide)) fun _ => no (by decide)) h

end Igris.Gstuff
