/- print_i against the ISO integer conversion: it is the counted formulation `isoInt2` (one comparison of counts), hence
   `isoInt`; and the `%p` call against `Iso.igrisPtr`. -/
import IgrisModel.C06.LemAlt
namespace Igris.C06
open Iso

theorem field_congr {S S' Z Z' : Nat} (left : Bool) (X D : List Char) (hS : S = S') (hZ : Z = Z') :
    field left S Z X D = field left S' Z' X D := by subst hS hZ; rfl

theorem field_prefix_zeros (left : Bool) (S Z k : Nat) (X D : List Char) :
    field left S Z (X ++ List.replicate k '0') D = field left S (Z + k) X D := by
  simp [field, Nat.add_comm Z k, ← List.replicate_append_replicate]

/-- print_i's prefix as `convert` calls it (signed only in base 10, no OPS_SPEC_POINTER): ISO's sign, ISO's `0x`, and
for `#` with `o` a `0` that ISO counts among the digits -/
theorem prefixOf_iso (neg sg : Bool) (ops : Ops) (base : Nat) (nz : Bool) (m : Int)
    (hbase : base = 8 ∨ base = 10 ∨ base = 16) (hsig : sg = true → base = 10) (hptr : ops.ptr = false) :
    prefixOf (sg && neg) sg ops base nz m =
      specSign sg (sg && neg) ops.sign ops.space
      ++ (if ops.spec = true ∧ base = 16 ∧ nz = true then (if ops.upper = true then ['0', 'X'] else ['0', 'x']) else [])
      ++ (if (decide (base = 8) && ops.spec && (nz || (decide (m = 0) && ops.prec))) then ['0'] else []) := by
  unfold prefixOf specSign
  rcases hbase with rfl | rfl | rfl <;> cases sg <;> simp_all

/-- `pz`: the zeros the precision asks for; `oz`: the octal zero `o`, which print_i emits as a prefix, counts as one more
unless the precision already supplies a zero (print_i subtracts prefix_len from zero_count in base 8) -/
theorem layoutM_layoutS (left zero prec oct o : Bool) (W m : Nat) (X D : List Char) (pz oz : Nat)
    (hoct : oct = true → X = []) (ho : o = true → oct = true) (hm : prec = false → m = 0 ∧ 1 ≤ D.length)
    (hpz : pz = (if prec then m else 1) - D.length) (hoz : oz = if o = true ∧ pz = 0 then 1 else 0) :
    layoutM left zero prec oct W m (X ++ if o then ['0'] else []) D
      = layoutS left zero (!prec) W X (List.replicate (pz + oz) '0' ++ D) := by
  -- the prefix `0` as a number of zeros `k ≤ 1`
  obtain ⟨k, hk, hk1, hko⟩ : ∃ k : Nat, (if o then ['0'] else []) = List.replicate k '0' ∧ k ≤ 1 ∧ (o = true ↔ k = 1) := by
    cases o
    · exact ⟨0, rfl, by omega, by simp⟩
    · exact ⟨1, rfl, by omega, by simp⟩
  have hP : (if oct = true then 0 else ((X.length + k : Nat) : Int)) = X.length := by
    cases oct
    · have : k = 0 := by
        rcases Nat.le_one_iff_eq_zero_or_eq_one.mp hk1 with h | h
        · exact h
        · have := ho (hko.mpr h); cases this
      simp [this]
    · simp [hoct rfl]
  have hzp : (!left && zero && !prec) = (zero && !(left || prec)) := by cases left <;> cases zero <;> cases prec <;> rfl
  have hz : (zero && !(left || prec)) = true → prec = false := by cases prec <;> simp
  rw [hk, layoutS_field, hzp]
  unfold layoutM zeroTarget
  simp only [field_prefix_zeros, List.length_append, List.length_replicate, hP]
  generalize (zero && !(left || prec)) = zp at hz ⊢
  by_cases hlt : D.length < m
  · -- the precision asks for more digits: no `0`-flag padding, the octal zero is one of the precision's
    have hp : prec = true := by cases prec; exact absurd (hm rfl).1 (by omega); rfl
    have hzp' : zp = false := by cases zp; rfl; exact absurd (hz rfl) (by simp [hp])
    subst hp hzp'
    have : oz = 0 := by rw [hoz, if_neg (by simp at hpz; omega)]
    simp only [if_true, Bool.false_eq_true, if_false] at hpz ⊢
    rw [if_pos (by omega)]
    clear hP hoz hko hm hz hzp hoct ho
    apply field_congr <;> omega
  · have hpz0 : pz = 0 := by
      cases prec
      · have := hm rfl; simp at hpz; omega
      · simp at hpz; omega
    have : oz = k := by
      rw [hoz]
      rcases Nat.le_one_iff_eq_zero_or_eq_one.mp hk1 with h | h
      · rw [if_neg (by intro hh; have := hko.mp hh.1; omega), h]
      · rw [if_pos ⟨hko.mpr h, hpz0⟩, h]
    rw [if_neg (by omega)]
    clear hP hoz hko hm hz hzp hoct ho hpz
    cases zp <;> simp only [if_true, Bool.false_eq_true, if_false] <;> apply field_congr <;> omega

theorem rawDigits_eq (mag m : Nat) (prec upper : Bool) (base : Nat) (hm : prec = false → m = 0) :
    rawDigits (if prec then some m else none) mag base upper = digitsOf mag m prec upper base := by
  unfold rawDigits digitsOf
  cases prec <;> cases upper <;> by_cases h0 : mag = 0 <;> by_cases hm0 : m = 0 <;>
    simp_all [caseMap_false, caseMap_true]

theorem printI_isoInt2 (u : BitVec 64) (isSigned : Bool) (W m : Nat) (ops : Ops) (base : Nat)
    (hbase : base = 8 ∨ base = 10 ∨ base = 16) (hsig : isSigned = true → base = 10)
    (hm : ops.prec = false → m = 0) (hptr : ops.ptr = false) :
    ∃ pc, printI u isSigned W m ops base
      = some (isoInt2 ops.left ops.sign ops.space ops.spec ops.zero W (if ops.prec then some m else none)
                isSigned (isSigned && u.msb) (if (isSigned && u.msb) then -u else u).toNat base ops.upper, pc) := by
  obtain ⟨pc, h⟩ := printI_form u isSigned W m ops base (by omega) (by omega)
  refine ⟨pc, ?_⟩
  rw [h, prefixOf_iso _ _ _ _ _ _ hbase hsig hptr, isoInt2_layout _ _ _ _ _ _ _ _ _ _ _ _ (by omega)]
  generalize (if (isSigned && u.msb) then -u else u).toNat = mag
  congr 2
  have hnil := digitsOf_eq_nil mag m ops.prec ops.upper base
  have hpn : decide ((if ops.prec = true then some m else none) = none) = !ops.prec := by cases ops.prec <;> simp
  have hgetD : (if ops.prec = true then some m else none).getD 1 = if ops.prec then m else 1 := by cases ops.prec <;> rfl
  rw [rawDigits_eq _ _ _ _ _ hm, hpn, hgetD]
  simp only [decide_eq_true_eq]
  refine layoutM_layoutS _ _ _ _ _ _ _ _ _ _ _ ?_ ?_ ?_ rfl ?_
  · intro h8
    have h8 : base = 8 := by simpa using h8
    have : isSigned = false := by cases isSigned <;> simp_all
    simp [h8, this, specSign]
  · intro ho; simp only [Bool.and_eq_true] at ho; exact ho.1.1
  · intro hp; refine ⟨hm hp, ?_⟩; rw [hp]; exact digitsOf_length_pos mag m ops.upper base
  · congr 1
    rw [hnil]
    simp only [Bool.and_eq_true, Bool.or_eq_true, decide_eq_true_eq, eq_iff_iff]
    by_cases h0 : mag = 0 <;> simp [h0, and_assoc, and_comm, and_left_comm]

theorem printI_iso (u : BitVec 64) (isSigned : Bool) (W m : Nat) (ops : Ops) (base : Nat)
    (hbase : base = 8 ∨ base = 10 ∨ base = 16)
    (hsig : isSigned = true → base = 10)
    (hup : ops.upper = true → base = 16)
    (hm : ops.prec = false → m = 0)
    (hptr : ops.ptr = false) :
    ∃ pc, printI u isSigned W m ops base
      = some (isoInt ops.left ops.sign ops.space ops.spec ops.zero W (if ops.prec then some m else none)
                isSigned (isSigned && u.msb) (if (isSigned && u.msb) then -u else u).toNat base ops.upper, pc) := by
  obtain ⟨pc, h⟩ := printI_isoInt2 u isSigned W m ops base hbase hsig hm hptr
  exact ⟨pc, by rw [h, isoInt2_eq _ _ _ _ _ _ _ _ _ _ _ _ (by omega) hup]⟩

theorem printI_ptr (v : BitVec 64) (W : Nat) (ops : Ops) (hu : ops.upper = false) :
    ∃ pc, printI v false W 16 { ops with spec := true, prec := true, ptr := true } 16
      = some (pad ops.left W (igrisPtr v.toNat), pc) := by
  obtain ⟨pc, h⟩ := printI_form v false W 16 { ops with spec := true, prec := true, ptr := true } 16 (by omega) (by omega)
  refine ⟨pc, ?_⟩
  rw [h]
  have hD : digitsOf (if (false && v.msb) = true then -v else v).toNat 16 true ops.upper 16 = Nat.toDigits 16 v.toNat := by
    simp [digitsOf, hu, caseMap_false]
  have hP : ∀ nz m, prefixOf (false && v.msb) false { ops with spec := true, prec := true, ptr := true } 16 nz m = ['0', 'x'] := by
    intro nz m; simp [prefixOf, hu]
  simp only [hP]
  show some (layoutM ops.left ops.zero true (decide (16 = 8)) W 16 ['0', 'x']
        (digitsOf (if (false && v.msb) = true then -v else v).toNat 16 true ops.upper 16), pc) = _
  rw [hD]
  -- the layout: no octal zero, `16 - len` zeros from the minimal length, and without a `0`-flag fill `layoutS` is `pad`
  have hl := layoutM_layoutS ops.left ops.zero true false false W 16 ['0', 'x'] (Nat.toDigits 16 v.toNat)
    (16 - (Nat.toDigits 16 v.toNat).length) 0 (by simp) (by simp) (by simp) rfl (by simp)
  simp only [Bool.false_eq_true, if_false, List.append_nil, Nat.add_zero, Bool.not_true] at hl
  rw [show decide (16 = 8) = false from by decide, show (16 : Int) = ((16 : Nat) : Int) from rfl, hl]
  unfold layoutS pad igrisPtr
  cases ops.left <;> simp <;> omega

end Igris.C06
