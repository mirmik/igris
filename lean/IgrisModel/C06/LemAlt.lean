/- The ISO integer conversion `isoInt` is one layout (`layoutS`) of sign/prefix and digit string; the second formulation
   `isoInt2` (SpecAlt.lean) is the same layout with every zero counted, which is why the two agree. -/
import IgrisModel.C06.LemPrintI
import IgrisModel.C06.SpecAlt
namespace Igris.C06
open Iso

/-- ISO's three placements of the fill around sign/prefix `X` and digit string `ds` -/
def layoutS (minus zero precNone : Bool) (width : Nat) (X ds : List Char) : List Char :=
  let n := X.length + ds.length
  if minus then X ++ ds ++ List.replicate (width - n) ' '
  else if zero ∧ precNone then X ++ List.replicate (width - n) '0' ++ ds
  else List.replicate (width - n) ' ' ++ X ++ ds

theorem layoutS_field (minus zero pn : Bool) (W : Nat) (X D : List Char) (k : Nat) :
    layoutS minus zero pn W X (List.replicate k '0' ++ D) =
      field minus (if !minus && zero && pn then 0 else W - (X.length + k + D.length))
        (if !minus && zero && pn then W - (X.length + k + D.length) + k else k) X D := by
  unfold layoutS field
  cases minus <;> cases zero <;> cases pn <;> simp [Nat.add_assoc]
  rw [← List.append_assoc, List.replicate_append_replicate]

/-- `isoInt`'s digit string with the zeros the precision demands, before the octal `#` looks at its first character -/
def specDigits (prec : Option Nat) (mag base : Nat) (upper : Bool) : List Char :=
  let ds := if mag = 0 ∧ prec = some 0 then [] else Nat.toDigits base mag
  let ds := if upper then ds.map Char.toUpper else ds
  List.replicate (prec.getD 1 - ds.length) '0' ++ ds

/-- the sign character of a signed conversion: `-`, else what the `+` and space flags ask for -/
def specSign (signedConv neg plus space : Bool) : List Char :=
  if signedConv then (if neg then ['-'] else if plus then ['+'] else if space then [' '] else []) else []

theorem isoInt_layout (minus plus space hash zero : Bool) (width : Nat) (prec : Option Nat)
    (signedConv neg : Bool) (mag base : Nat) (upper : Bool) :
    isoInt minus plus space hash zero width prec signedConv neg mag base upper
      = layoutS minus zero (prec = none) width
          (specSign signedConv neg plus space ++
            (if hash ∧ base = 16 ∧ mag ≠ 0 then (if upper then ['0', 'X'] else ['0', 'x']) else []))
          (if hash ∧ base = 8 ∧ (specDigits prec mag base upper).head? ≠ some '0'
            then '0' :: specDigits prec mag base upper else specDigits prec mag base upper) := by
  unfold isoInt layoutS specSign specDigits
  simp only [List.append_assoc, List.length_append, Nat.add_assoc, decide_eq_true_eq]

theorem layoutS_length (minus zero pn : Bool) (width : Nat) (X D : List Char) :
    (layoutS minus zero pn width X D).length = max width (X.length + D.length) := by
  unfold layoutS
  cases minus <;> cases zero <;> cases pn <;> simp <;> omega

theorem layoutS_zero (minus zero pn : Bool) (X D : List Char) : layoutS minus zero pn 0 X D = X ++ D := by
  unfold layoutS
  cases minus <;> cases zero <;> cases pn <;> simp

theorem layoutS_shape (minus zero pn : Bool) (width : Nat) (X D : List Char) :
    ∃ l z r, layoutS minus zero pn width X D
        = List.replicate l ' ' ++ X ++ List.replicate z '0' ++ D ++ List.replicate r ' ' ∧
      l + z + r = width - (X.length + D.length) ∧
      (minus = true → l = 0 ∧ z = 0) ∧ (minus = false → r = 0) ∧
      (z ≠ 0 → l = 0 ∧ zero = true ∧ pn = true) := by
  unfold layoutS
  by_cases hm : minus = true
  · refine ⟨0, 0, width - (X.length + D.length), ?_, by omega, fun _ => ⟨rfl, rfl⟩,
      fun h => by simp [hm] at h, fun h => absurd rfl h⟩
    simp [hm]
  · have hm' : minus = false := by simpa using hm
    by_cases hz : zero = true ∧ pn = true
    · refine ⟨0, width - (X.length + D.length), 0, ?_, by omega, fun h => by simp [hm'] at h, fun _ => rfl,
        fun _ => ⟨rfl, hz.1, hz.2⟩⟩
      simp [hm', hz.1, hz.2]
    · refine ⟨width - (X.length + D.length), 0, 0, ?_, by omega, fun h => by simp [hm'] at h, fun _ => rfl,
        fun h => absurd rfl h⟩
      simp [hm', hz]

theorem digitsDiv_eq (base : Nat) (hb : 2 ≤ base) (fuel n : Nat) (h : n < fuel) :
    digitsDiv base fuel n = Nat.toDigits base n := by
  induction fuel generalizing n with
  | zero => omega
  | succ f ih =>
    rw [Nat.toDigits_eq_if (by omega)]
    simp only [digitsDiv]
    split
    · rfl
    · have h1 := Nat.div_lt_self (n := n) (k := base) (by omega) (by omega)
      rw [ih _ (by omega)]

/-- the digits of the value alone, `raw` in `isoInt2`; `specDigits` is these behind the zeros of the precision -/
def rawDigits (prec : Option Nat) (mag base : Nat) (upper : Bool) : List Char :=
  let raw := if mag = 0 ∧ prec = some 0 then [] else Nat.toDigits base mag
  if upper then raw.map Char.toUpper else raw

/-- the zeros counted: those the precision demands, one more for `#` with `o` when that leaves no leading zero -/
theorem isoInt2_layout (minus plus space hash zero : Bool) (width : Nat) (prec : Option Nat)
    (signedConv neg : Bool) (mag base : Nat) (upper : Bool) (hb : 2 ≤ base) :
    isoInt2 minus plus space hash zero width prec signedConv neg mag base upper
      = layoutS minus zero (prec = none) width
          (specSign signedConv neg plus space ++
            (if hash ∧ base = 16 ∧ mag ≠ 0 then (if upper then ['0', 'X'] else ['0', 'x']) else []))
          (List.replicate ((prec.getD 1 - (rawDigits prec mag base upper).length) +
              (if hash ∧ base = 8 ∧ prec.getD 1 - (rawDigits prec mag base upper).length = 0 ∧
                  (rawDigits prec mag base upper = [] ∨ mag ≠ 0) then 1 else 0)) '0'
            ++ rawDigits prec mag base upper) := by
  have hsign : specSign signedConv neg plus space
      = (if signedConv = false then ([] : List Char) else if neg = true then ['-'] else if plus = true then ['+']
          else if space = true then [' '] else []) := by
    cases signedConv <;> simp [specSign]
  rw [hsign]
  unfold isoInt2 layoutS
  simp only [digitsDiv_eq base hb (mag + 1) mag (Nat.lt_succ_self _), ← rawDigits.eq_1, List.length_append,
    List.length_replicate, decide_eq_true_eq]
  generalize rawDigits prec mag base upper = raw
  generalize (if signedConv = false then ([] : List Char) else _) = sg
  generalize (if hash = true ∧ base = 16 ∧ mag ≠ 0 then _ else ([] : List Char)) = px
  generalize (if hash = true ∧ base = 8 ∧ prec.getD 1 - raw.length = 0 ∧ (raw = [] ∨ mag ≠ 0) then 1 else 0) = oz
  cases minus <;> cases zero <;> by_cases hp : prec = none <;> simp [hp, List.append_assoc, Nat.add_assoc] <;>
    rw [← List.append_assoc, List.replicate_append_replicate]

theorem head_specDigits_oct (prec : Option Nat) (mag : Nat) :
    ((specDigits prec mag 8 false).head? ≠ some '0') ↔
      (prec.getD 1 - (rawDigits prec mag 8 false).length = 0 ∧ (rawDigits prec mag 8 false = [] ∨ mag ≠ 0)) := by
  unfold specDigits rawDigits
  simp only [Bool.false_eq_true, if_false]
  generalize hraw : (if mag = 0 ∧ prec = some 0 then ([] : List Char) else Nat.toDigits 8 mag) = raw
  cases hk : prec.getD 1 - raw.length with
  | succ k => simp [List.replicate_succ]
  | zero =>
    simp only [List.replicate_zero, List.nil_append, true_and]
    by_cases h0 : mag = 0
    · subst h0
      by_cases hp : prec = some 0
      · simp [hp] at hraw; subst hraw; simp
      · simp [hp] at hraw; subst hraw; simp
    · have hr : raw = Nat.toDigits 8 mag := by simp [h0] at hraw; exact hraw.symm
      have := toDigits_head_ne_zero 8 (by omega) mag (by omega)
      rw [hr]
      simp [h0, this]

theorem isoInt2_eq (minus plus space hash zero : Bool) (width : Nat) (prec : Option Nat)
    (signedConv neg : Bool) (mag base : Nat) (upper : Bool) (hb : 2 ≤ base) (hup : upper = true → base = 16) :
    isoInt2 minus plus space hash zero width prec signedConv neg mag base upper
      = isoInt minus plus space hash zero width prec signedConv neg mag base upper := by
  rw [isoInt_layout, isoInt2_layout _ _ _ _ _ _ _ _ _ _ _ _ hb]
  congr 1
  -- ISO looks at the first character of the digit string, the second formulation at the value
  have hS : specDigits prec mag base upper
      = List.replicate (prec.getD 1 - (rawDigits prec mag base upper).length) '0' ++ rawDigits prec mag base upper := rfl
  by_cases hc : hash = true ∧ base = 8
  · obtain ⟨hh, hb8⟩ := hc
    subst hb8
    have hu : upper = false := by
      cases hx : upper
      · rfl
      · have := hup hx; omega
    subst hu
    have hhead := head_specDigits_oct prec mag
    by_cases hcond : prec.getD 1 - (rawDigits prec mag 8 false).length = 0 ∧ (rawDigits prec mag 8 false = [] ∨ mag ≠ 0)
    · rw [if_pos ⟨hh, rfl, hcond⟩, if_pos ⟨hh, rfl, hhead.mpr hcond⟩, hS, hcond.1]
      rfl
    · rw [if_neg (fun h => hcond h.2.2), if_neg (fun h => hcond (hhead.mp h.2.2)), hS]
      rfl
  · rw [if_neg (fun h => hc ⟨h.1, h.2.1⟩), if_neg (fun h => hc ⟨h.1, h.2.1⟩), hS]
    rfl

end Igris.C06
