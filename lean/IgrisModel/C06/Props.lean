/-
  C06 — PROPERTY THEOREMS (statements use only definitions from the model and
  specification files Model, Model2, Spec, SpecAlt, Grammar, Grammar2; helper
  lemmas live in Lem*.lean).

  Property: "printf engine: for every format built from the conversions
  d i u o x X c s p %, the flags - + space # 0, widths and precisions given
  literally or through *, and the length modifiers hh h l ll j z t, and for
  every argument value, the characters handed to the output callback are exactly
  those ISO C printf produces (for %p: 0x followed by hex digits that parse back
  to the pointer), and the return value equals the number of characters emitted.
  Formatting always terminates and reads a %s argument no further than its
  terminator or the given precision."

  `printf` is the model of `__printf` (Model.lean), `Iso.isoFormat` the
  independent transcription of ISO/IEC 9899 §7.21.6.1 (Spec.lean); `isoFormat …
  = some out` means "the standard defines the output and it is `out`".
-/
import IgrisModel.C06.LemLoop
import IgrisModel.C06.LemWrap
import IgrisModel.C06.LemGrammar2
import IgrisModel.C06.LemPrintfN
import IgrisModel.C06.LemR3b
import IgrisModel.C06.Model2
import IgrisModel.C06.LemSyntax
namespace Igris.C06
open Iso

/-! ## the return value equals the number of characters emitted -/

/-- for ALL formats and ALL argument lists (also malformed directives, also
directives outside ISO): whenever `__printf` returns, the value it returns is
the number of characters it handed to the callback -/
theorem printf_count (fmt : List Char) (args : List Arg) (out : List Char) (pc : Int)
    (h : printf fmt args = .done out pc) : pc = out.length := by
  obtain ⟨e, rfl, rfl⟩ := loop_appends _ fmt args [] 0 out pc h
  simp

/-! ## formatting always terminates -/

/-- the `for` loop of `__printf` needs at most `length + 1` passes for every
format and every argument list: the model never runs out of fuel -/
theorem printf_terminates (fmt : List Char) (args : List Arg) : printf fmt args ≠ .diverged :=
  loop_no_diverge _ fmt args [] 0 (Nat.lt_succ_self _)

theorem printf_fuel_irrelevant (fuel : Nat) (fmt : List Char) (args : List Arg)
    (h : fmt.length < fuel) : loop fuel fmt args [] 0 = printf fmt args :=
  loop_fuel _ _ fmt args [] 0 h (Nat.lt_succ_self _)

/-- print_i's 23-byte buffer is never overrun (base 8, 10, 16; any 64-bit value,
width, precision and flags) -/
theorem print_i_no_overflow (u : BitVec 64) (isSigned : Bool) (width minLen : Int) (ops : Ops)
    (base : Nat) (hb : base = 8 ∨ base = 10 ∨ base = 16) :
    (printI u isSigned width minLen ops base).isSome := by
  obtain ⟨pc, h⟩ := printI_form u isSigned width minLen ops base (by omega) (by omega)
  rw [h]; rfl

/-- historical (before `fix: __printf re-reads the character while skipping a
literal width/precision`): the skipping loop `while (isdigit(c)) ++format;`
never ends on a digit, whatever the fuel -/
theorem printf_width_diverges_orig (fuel : Nat) (s : List Char) :
    skipDigitsOrig fuel '5' s = none := by
  induction fuel generalizing s with
  | zero => rfl
  | succ n ih => simpa [skipDigitsOrig] using ih s.tail

/-! ## the characters are those ISO C printf produces -/

/-- THE FULL STATEMENT (without exclusion since the `fix:` commits 76736a3 and
b9bd2d9): for every format and argument list
on which ISO C defines the output — `isoFormat … = some out` — `__printf` hands
exactly those characters to the callback and returns their number (in
particular: no fault, no wrong-type `va_arg`, every argument consumed as ISO
says).  Which formats these are is the subject of `iso_defined_of_grammar`
below. -/
theorem printf_matches_iso (fmt : List Char) (args : List Arg) (out : List Char)
    (h : isoFormat igrisPtr fmt args = some out) :
    printf fmt args = .done out out.length := by
  obtain ⟨pc, hl⟩ := loop_iso _ fmt args out h (fmt.length + 1) [] 0 (Nat.lt_succ_self _)
  have hl' : printf fmt args = .done out pc := by simpa [printf] using hl
  rw [hl', printf_count fmt args out pc hl']

theorem isoFormatExcl_sub (pfmt : Nat → List Char) (fmt : List Char) (args : List Arg) (out : List Char)
    (h : isoFormatExcl pfmt fmt args = some out) : isoFormat pfmt fmt args = some out :=
  isoAux_strict_sub pfmt _ fmt args out h

/-- the statement outside the two input classes of the former findings
C06-alt-zero and C06-c-nul: a corollary of `printf_matches_iso` -/
theorem printf_matches_iso_partial (fmt : List Char) (args : List Arg) (out : List Char)
    (h : isoFormatExcl igrisPtr fmt args = some out) :
    printf fmt args = .done out out.length :=
  printf_matches_iso fmt args out (isoFormatExcl_sub _ _ _ _ h)

/-- former finding C06-alt-zero, `%#x` of 0: ISO `0`; print_i's prefix as it
was (`pfxOrig`, chosen without looking at the value) is `0x`; the repaired code
prints `0` -/
theorem printf_matches_iso_witness_alt_zero :
    isoFormat igrisPtr "%#x".toList [.int 0] = some "0".toList ∧
    pfxOrig { spec := true } 16 = "0x".toList ∧
    printf "%#x".toList [.int 0] = .done "0".toList 1 := by
  refine ⟨?_, ?_, ?_⟩ <;> decide +kernel

/-- former finding C06-alt-zero, `%#o` of 0: ISO `0`; the old prefix `0` in
front of the digit `0` gave `00`; the repaired code prints `0`, and `%#.0o`
(no digit at all) still gets the `0` -/
theorem printf_matches_iso_witness_alt_zero_o :
    isoFormat igrisPtr "%#o".toList [.int 0] = some "0".toList ∧
    pfxOrig { spec := true } 8 = "0".toList ∧
    printf "%#o".toList [.int 0] = .done "0".toList 1 ∧
    printf "%#.0o".toList [.int 0] = .done "0".toList 1 := by
  refine ⟨?_, ?_, ?_, ?_⟩ <;> decide +kernel

/-- former finding C06-c-nul, `%c` of NUL: ISO one character (the NUL); print_s
without OPS_SPEC_CHAR (`printCOrig`) measured it with strlen and emitted
nothing; the repaired code emits it -/
theorem printf_matches_iso_witness_c_nul :
    isoFormat igrisPtr "%c".toList [.int 0] = some [NUL] ∧
    printCOrig 0 0 0 {} = some ([], 0) ∧
    printf "%c".toList [.int 0] = .done [NUL] 1 := by
  refine ⟨?_, ?_, ?_⟩ <;> decide +kernel

/-! ## the ISO reference itself: a second formulation, and its shape -/

/-- digits by repeated division = `Nat.toDigits` (the two ways the two
formulations obtain the digits of a value) -/
theorem digits_by_division (base n : Nat) (hb : 2 ≤ base) :
    digitsDiv base (n + 1) n = Nat.toDigits base n :=
  digitsDiv_eq base hb (n + 1) n (Nat.lt_succ_self n)

/-- `isoInt` (digits by `Nat.toDigits`, the octal `#` decided by looking at the
first character, three text layouts) and `isoInt2` (SpecAlt.lean: digits by
repeated division, every padding counted from lengths, the octal `#` decided
from the value, one layout) are the same function — for every flag combination,
width, precision, sign, magnitude, base ≥ 2 (upper case only with base 16) -/
theorem iso_int_formulations_agree (minus plus space hash zero : Bool) (width : Nat) (prec : Option Nat)
    (signedConv neg : Bool) (mag base : Nat) (upper : Bool) (hb : 2 ≤ base) (hup : upper = true → base = 16) :
    isoInt2 minus plus space hash zero width prec signedConv neg mag base upper
      = isoInt minus plus space hash zero width prec signedConv neg mag base upper :=
  isoInt2_eq minus plus space hash zero width prec signedConv neg mag base upper hb hup

theorem iso_int_length (minus plus space hash zero : Bool) (width : Nat) (prec : Option Nat)
    (signedConv neg : Bool) (mag base : Nat) (upper : Bool) :
    (isoInt minus plus space hash zero width prec signedConv neg mag base upper).length
      = max width (isoInt minus plus space hash zero 0 prec signedConv neg mag base upper).length := by
  rw [isoInt_layout, isoInt_layout, layoutS_length, layoutS_zero]
  simp only [List.length_append]

/-- order of the pieces: with `body1 ++ body2` the conversion without a field
width (`body1` = sign and `0x`, `body2` = the digits), the field is
`spaces · body1 · zeros · body2 · spaces`; the three paddings add up to
`width - |body|`; `-` pads only on the right; zeros (the `0` flag) come after
the sign/prefix, only without `-` and without a precision, and then there are
no spaces -/
theorem iso_int_shape (minus plus space hash zero : Bool) (width : Nat) (prec : Option Nat)
    (signedConv neg : Bool) (mag base : Nat) (upper : Bool) :
    ∃ (l z r : Nat) (body1 body2 : List Char),
      isoInt minus plus space hash zero 0 prec signedConv neg mag base upper = body1 ++ body2 ∧
      isoInt minus plus space hash zero width prec signedConv neg mag base upper
        = List.replicate l ' ' ++ body1 ++ List.replicate z '0' ++ body2 ++ List.replicate r ' ' ∧
      l + z + r = width - (body1 ++ body2).length ∧
      (minus = true → l = 0 ∧ z = 0) ∧ (minus = false → r = 0) ∧
      (z ≠ 0 → l = 0 ∧ zero = true ∧ prec = none) := by
  rw [isoInt_layout, isoInt_layout, layoutS_zero]
  generalize specSign signedConv neg plus space ++ _ = X
  generalize (if hash = true ∧ base = 8 ∧ (specDigits prec mag base upper).head? ≠ some '0' then _ else _) = D
  obtain ⟨l, z, r, h1, h2, h3, h4, h5⟩ := layoutS_shape minus zero (prec = none) width X D
  refine ⟨l, z, r, X, D, rfl, h1, ?_, h3, h4, ?_⟩
  · rw [List.length_append]; exact h2
  · intro hz; obtain ⟨a, b, c⟩ := h5 hz; exact ⟨a, b, by simpa using c⟩

/-! ## which formats ISO defines: the domain of `printf_matches_iso` -/

/-- the generative grammar is EXACTLY the domain of `isoFormat` (the converse
of `iso_defined_of_grammar`): ISO defines the output iff the format is the
rendering of a sequence of literal pieces and well formed directive records
whose options ISO defines for the conversion and whose arguments have the right
types -/
theorem iso_defined_iff_grammar (pfmt : Nat → List Char) (fmt : List Char) (args : List Arg) :
    (isoFormat pfmt fmt args).isSome ↔ IsoDefined fmt args := by
  rw [show isoFormat pfmt fmt args = isoAux pfmt false fmt.length fmt args from rfl, isoAux_isSome_iff]
  simp only [segsAcceptS_false]
  rfl

/-- every format of the grammar `( text | % flags* width? precision? length?
conversion )*` (Grammar.lean: generative, a directive is a record rendered to
text) whose options are ones ISO defines for the conversion and whose argument
list supplies the right types is in the domain of `isoFormat` -/
theorem iso_defined_of_grammar (pfmt : Nat → List Char) (fmt : List Char) (args : List Arg)
    (h : IsoDefined fmt args) : (isoFormat pfmt fmt args).isSome :=
  (iso_defined_iff_grammar pfmt fmt args).mpr h

/-- hence, for every such format and argument list, `__printf` produces the ISO
output and returns its length: the headline statement without a hypothesis
about `isoFormat` -/
theorem printf_iso_on_grammar (fmt : List Char) (args : List Arg) (h : IsoDefined fmt args) :
    ∃ out, isoFormat igrisPtr fmt args = some out ∧ printf fmt args = .done out out.length := by
  obtain ⟨out, ho⟩ := Option.isSome_iff_exists.mp (iso_defined_of_grammar igrisPtr fmt args h)
  exact ⟨out, ho, printf_matches_iso fmt args out ho⟩

/-! ## where the model's `Int` arithmetic is the code's `int` arithmetic -/

/-- `if (width < 0) { …; width = -width; }` is computed in `int`: for every `*`
argument except INT_MIN the 32-bit negation is the mathematical one the model
(and ISO) uses -/
theorem star_width_negation_exact (v : BitVec 32) (h : v ≠ BitVec.intMin 32) : (-v).toInt = -v.toInt :=
  BitVec.toInt_neg_of_ne_intMin h

/-- … and for INT_MIN it is not: the C expression overflows (undefined; two's
complement wrap leaves the width negative), while the model continues with
2^31 — the inputs `*` = INT_MIN are outside what the model says about the code
(recorded finding C06-star-width-int-min) -/
theorem star_width_int_min_witness :
    (-(BitVec.intMin 32)).toInt = -2147483648 ∧ -(BitVec.intMin 32).toInt = 2147483648 ∧
    getWidth ['*'] [.int (BitVec.intMin 32)] {} = some (2147483648, [], [], { left := true }) := by
  refine ⟨?_, ?_, ?_⟩ <;> decide +kernel

/-- a literal width or precision of at most 9 digits is below 10^9 < 2^31:
`atoi` does not overflow and the model's value is the C value -/
theorem literal_number_fits (s : List Char) (h : (s.takeWhile Char.isDigit).length ≤ 9) :
    0 ≤ atoiDigits s 0 ∧ atoiDigits s 0 < 2 ^ 31 := by
  obtain ⟨h0, h1⟩ := atoiDigits_zero_lt s 9 h
  exact ⟨h0, by omega⟩

/-- beyond: ten digits can exceed INT_MAX (C: `atoi` overflow, undefined) -/
theorem literal_number_overflow_witness :
    atoi "2147483647".toList = 2 ^ 31 - 1 ∧ atoi "2147483648".toList = 2 ^ 31 := by
  constructor <;> decide +kernel

/-! ## %p: 0x followed by hex digits that parse back to the pointer -/

/-- igris' rendering of a pointer (the `pfmt` with which `printf_matches_iso_partial`
holds) is `0x` and exactly 16 lower-case hex digits whose value is the pointer -/
theorem printf_p_parses_back (p : BitVec 64) :
    ∃ ds, igrisPtr p.toNat = '0' :: 'x' :: ds ∧ ds.length = 16 ∧ parseHex ds = some p.toNat := by
  refine ⟨_, rfl, ?_, ?_⟩
  · have : (Nat.toDigits 16 p.toNat).length ≤ 16 :=
      (Nat.length_toDigits_le_iff (by omega) (by omega)).mpr (by have := p.isLt; omega)
    simp; omega
  · rw [parseHex_zeros, parseHex_toDigits]

theorem printf_p (p : BitVec 64) :
    printf "%p".toList [.ptr p] = .done (igrisPtr p.toNat) 18 := by
  have h : isoFormatExcl igrisPtr "%p".toList [.ptr p] = some (igrisPtr p.toNat) := by
    simp [isoFormatExcl, isoAux, parseDirective, parseWidth, parsePrec, parseLen, isoConv, resolveWidth,
      resolvePrec, isoBody, pad, isFlag, NUL]
  have := printf_matches_iso_partial _ _ _ h
  obtain ⟨ds, h1, h2, _⟩ := printf_p_parses_back p
  rw [this, h1]
  simp [h2]

/-! ## %s reads no further than its terminator or the precision -/

/-- `pre` is the part of the argument up to and including its terminator, or
its first `precision` bytes: whatever lies behind `pre` is never consulted and
the call succeeds when only `pre` is readable (a read behind the allocation is
`none` in the model) -/
theorem print_s_reads (pre rest : List Char) (width maxLen : Nat) (ops : Ops)
    (h : (ops.chr = false ∧ (NUL ∈ pre ∨ (ops.prec = true ∧ maxLen ≤ pre.length))) ∨
         (ops.chr = true ∧ pre ≠ [])) :
    (printS pre width maxLen ops).isSome ∧
      printS (pre ++ rest) width maxLen ops = printS pre width maxLen ops := by
  have hlen : (strMeasure pre maxLen ops).isSome := by
    rcases h with ⟨hc, h⟩ | ⟨hc, hne⟩
    · -- the hypothesis is `strArgOk`, the domain of `isoStr`
      rw [strMeasure_eq _ _ _ hc, Option.isSome_map, ← strArgOk_eq, Int.toNat_natCast]
      cases hp : ops.prec <;> simp_all [strArgOk]
    · cases pre with
      | nil => exact absurd rfl hne
      | cons a as => simp [strMeasure, hc]
  have hsome : (printS pre width maxLen ops).isSome := by rw [printS_eq, Option.isSome_map]; exact hlen
  obtain ⟨r, hr⟩ := Option.isSome_iff_exists.mp hsome
  exact ⟨hsome, by rw [hr]; exact printS_append pre rest width maxLen ops r hr⟩

/-- historical (before `fix: print_s does not read a %s argument beyond the
precision`): `strlen` first, clamp afterwards — `%.2s` of the two-byte array
`ab` without terminator reads behind it -/
theorem print_s_overread_orig_witness :
    lenOrig ['a', 'b'] 2 true = none ∧ strnlen ['a', 'b'] 2 = some 2 := by
  constructor <;> decide +kernel

/-- historical (before `fix: print_i negates the full-width value of a negative
argument`): `u = -((int)u)` turns -5000000000 into 705032704 -/
theorem print_i_neg_orig_witness :
    (negOrig (BitVec.ofInt 64 (-5000000000))).toNat = 705032704 ∧
    (-(BitVec.ofInt 64 (-5000000000))).toNat = 5000000000 := by
  constructor <;> decide +kernel

/-! ## the wrappers -/

/-- compat/libc/stdio/sprintf.c: the buffer receives the emitted characters and a
terminator, the returned value is their number -/
theorem vsprintf_spec (fmt : List Char) (args : List Arg) (buf : List Char) (ret : Int)
    (h : vsprintf fmt args = some (buf, ret)) :
    ∃ out, printf fmt args = .done out ret ∧ buf = out ++ [NUL] ∧ ret = out.length := by
  unfold vsprintf at h
  split at h
  · rename_i out pc hp
    simp only [Option.some.injEq, Prod.mk.injEq] at h
    obtain ⟨h1, h2⟩ := h
    subst h1 h2
    exact ⟨out, hp, rfl, printf_count _ _ _ _ hp⟩
  · cases h

/-- compat/libc/stdio/fdprintf.c: without an output error the count is returned,
otherwise the (first) error code, and exactly the characters before the error
reached the descriptor -/
theorem vfdprintf_spec (limit : Option Nat) (err : Int) (fmt : List Char) (args : List Arg)
    (written : List Char) (ret : Int) (h : vfdprintf limit err fmt args = some (written, ret)) :
    ∃ out, printf fmt args = .done out out.length ∧
      ((∀ l, limit = some l → out.length ≤ l) → written = out ∧ ret = out.length) ∧
      (∀ l, limit = some l → l < out.length → written = out.take l ∧ ret = err) := by
  unfold vfdprintf at h
  split at h
  · rename_i out pc hp
    have hc := printf_count _ _ _ _ hp
    subst hc
    refine ⟨out, hp, ?_, ?_⟩
    · intro hle
      cases limit with
      | none => simp at h; exact ⟨h.1.symm, h.2.symm⟩
      | some l =>
        have := hle l rfl
        simp only at h
        rw [if_neg (by omega)] at h
        simp at h; exact ⟨h.1.symm, h.2.symm⟩
    · intro l hl hlt
      subst hl
      simp only at h
      rw [if_pos (by omega)] at h
      simp at h; exact ⟨h.1.symm, h.2.symm⟩
  · cases h

/-- the variadic entry points only forward their argument list: `sprintf` is
`vsprintf`, `fdprintf` is `vfdprintf`, `snprintf` is `vsnprintf` (each is
`va_start; ret = v…(…, args); va_end; return ret;`), so the specifications
carry over -/
theorem sprintf_spec (fmt : List Char) (args : List Arg) (buf : List Char) (ret : Int)
    (h : sprintf fmt args = some (buf, ret)) :
    ∃ out, printf fmt args = .done out ret ∧ buf = out ++ [NUL] ∧ ret = out.length :=
  vsprintf_spec fmt args buf ret h

theorem fdprintf_spec (limit : Option Nat) (err : Int) (fmt : List Char) (args : List Arg)
    (written : List Char) (ret : Int) (h : fdprintf limit err fmt args = some (written, ret)) :
    ∃ out, printf fmt args = .done out out.length ∧
      ((∀ l, limit = some l → out.length ≤ l) → written = out ∧ ret = out.length) ∧
      (∀ l, limit = some l → l < out.length → written = out.take l ∧ ret = err) :=
  vfdprintf_spec limit err fmt args written ret h

/-- `vsprintf`/`sprintf` on a destination of known extent `mem`: the call is
safe exactly when the output and its terminator fit (`|out| < |mem|`); then the
memory is the output, a NUL, and the old bytes behind it; otherwise the callback
stores behind the allocation (`none`) -/
theorem vsprintf_mem_spec (mem fmt : List Char) (args : List Arg) (out : List Char) (pc : Int)
    (h : printf fmt args = .done out pc) :
    (out.length < mem.length →
        vsprintfMem mem fmt args = some (out ++ NUL :: mem.drop (out.length + 1), (out.length : Int))) ∧
    (mem.length ≤ out.length → vsprintfMem mem fmt args = none) := by
  have hc := printf_count _ _ _ _ h
  subst hc
  rw [vsprintfMem_done mem fmt args out _ h]
  constructor
  · intro hl; rw [if_pos hl]
  · intro hl; rw [if_neg (by omega)]

/-- ISO C 7.21.6.5/7.21.6.12 for `vsnprintf(s, n, …)` on a destination `mem`
that has at least the `n` bytes the caller announces: nothing is written when
`n = 0`; otherwise the memory becomes the first `n-1` characters of the output,
a NUL, and the OLD bytes behind that NUL (in particular everything from offset
`n` on is untouched); the value returned is the length of the WHOLE output.
The call never faults, however long the output is. -/
theorem vsnprintf_spec (mem : List Char) (n : Nat) (fmt : List Char) (args : List Arg) (out : List Char) (pc : Int)
    (h : printf fmt args = .done out pc) (hn : n ≤ mem.length) :
    vsnprintf mem n fmt args
      = some (if n = 0 then mem else out.take (n - 1) ++ NUL :: mem.drop (min (n - 1) out.length + 1),
              (out.length : Int)) := by
  have hc := printf_count _ _ _ _ h
  subst hc
  exact vsnprintf_done mem n fmt args out _ h hn

theorem snprintf_spec (mem : List Char) (n : Nat) (fmt : List Char) (args : List Arg) (out : List Char) (pc : Int)
    (h : printf fmt args = .done out pc) (hn : n ≤ mem.length) :
    snprintf mem n fmt args
      = some (if n = 0 then mem else out.take (n - 1) ++ NUL :: mem.drop (min (n - 1) out.length + 1),
              (out.length : Int)) :=
  vsnprintf_spec mem n fmt args out pc h hn

/-- consequences a caller relies on: the extent of the memory is unchanged and
no byte at offset `n` or beyond is modified -/
theorem snprintf_stays_inside (mem : List Char) (n : Nat) (fmt : List Char) (args : List Arg) (out : List Char)
    (pc : Int) (h : printf fmt args = .done out pc) (hn : n ≤ mem.length) :
    ∃ buf : List Char, snprintf mem n fmt args = some (buf, (out.length : Int)) ∧ buf.length = mem.length ∧
      buf.drop n = mem.drop n := by
  rw [snprintf_spec mem n fmt args out pc h hn]
  refine ⟨_, rfl, ?_, ?_⟩
  · split
    · rfl
    · simp only [List.length_append, List.length_cons, List.length_take, List.length_drop]; omega
  · split
    · rfl
    · rename_i hn0
      have hk : (out.take (n - 1)).length = min (n - 1) out.length := by simp [List.length_take]
      exact drop_after_term _ mem _ n hk (by omega)

/-- ISO level: on every ISO-defined format `snprintf` leaves the ISO output,
cut to `n-1` characters and terminated, and returns the untruncated length -/
theorem snprintf_matches_iso (mem : List Char) (n : Nat) (fmt : List Char) (args : List Arg) (out : List Char)
    (h : isoFormat igrisPtr fmt args = some out) (hn : n ≤ mem.length) (hpos : 0 < n) :
    snprintf mem n fmt args
      = some (out.take (n - 1) ++ NUL :: mem.drop (min (n - 1) out.length + 1), (out.length : Int)) := by
  rw [snprintf_spec mem n fmt args out _ (printf_matches_iso fmt args out h) hn, if_neg (by omega)]

/-- historical (before `fix: snprintf honours its size argument`): `snprintf`
called `vsprintf` and ignored `maxlen` — `snprintf(buf, 4, "%d", 123456)` on a
4-byte buffer stores behind it; the repaired code leaves `123\0` and returns 6.
Already `snprintf(buf, 0, "")` wrote the terminator into a buffer of size 0. -/
theorem snprintf_overflow_orig_witness :
    snprintfOrig ['x', 'x', 'x', 'x'] 4 "%d".toList [.int 123456] = none ∧
    snprintfOrig [] 0 [] [] = none ∧
    snprintf ['x', 'x', 'x', 'x'] 4 "%d".toList [.int 123456] = some (['1', '2', '3', NUL], 6) ∧
    snprintf [] 0 [] [] = some ([], 0) := by
  refine ⟨?_, ?_, ?_, ?_⟩ <;> decide +kernel

/-- the return-value clause for EVERY entry point at once: whenever
the engine finishes with `out`, each of vsprintf / sprintf / vsnprintf /
snprintf (any size `n` the destination really has, also 0) / vfdprintf /
fdprintf (no write error) returns the same number — the length of the whole
output, i.e. for a truncating snprintf the count that WOULD have been written -/
theorem entry_points_return_same_count (mem : List Char) (n : Nat) (fmt : List Char) (args : List Arg)
    (out : List Char) (pc : Int) (err : Int) (h : printf fmt args = .done out pc) (hn : n ≤ mem.length) :
    pc = out.length ∧
    (vsprintf fmt args).map (·.2) = some (out.length : Int) ∧
    (sprintf fmt args).map (·.2) = some (out.length : Int) ∧
    (vsnprintf mem n fmt args).map (·.2) = some (out.length : Int) ∧
    (snprintf mem n fmt args).map (·.2) = some (out.length : Int) ∧
    (vfdprintf none err fmt args).map (·.2) = some (out.length : Int) ∧
    (fdprintf none err fmt args).map (·.2) = some (out.length : Int) := by
  have hc := printf_count _ _ _ _ h
  subst hc
  refine ⟨rfl, ?_, ?_, ?_, ?_, ?_, ?_⟩
  · simp [vsprintf, h]
  · simp [sprintf, vsprintf, h]
  · rw [vsnprintf_spec mem n fmt args out _ h hn]; rfl
  · rw [snprintf_spec mem n fmt args out _ h hn]; rfl
  · simp [vfdprintf, h]
  · simp [fdprintf, vfdprintf, h]

/-! ## the domain of the ISO reference, exactly -/

/-- TOTALITY of `printf_matches_iso_partial`: the domain of `isoFormatExcl` is
exactly `IsoSupported` (Grammar2.lean: the grammar of `IsoDefined` minus the two
former finding classes, stated on the directive record and the argument list —
no parser involved) -/
theorem iso_supported_iff (pfmt : Nat → List Char) (fmt : List Char) (args : List Arg) :
    (isoFormatExcl pfmt fmt args).isSome ↔ IsoSupported fmt args := by
  exact isoAux_isSome_iff pfmt true fmt args

instance (fmt : List Char) (args : List Arg) : Decidable (IsoSupported fmt args) :=
  decidable_of_iff _ (iso_supported_iff igrisPtr fmt args)

instance (fmt : List Char) (args : List Arg) : Decidable (IsoDefined fmt args) :=
  decidable_of_iff _ (iso_defined_iff_grammar igrisPtr fmt args)

theorem iso_supported_sub (fmt : List Char) (args : List Arg) (h : IsoSupported fmt args) : IsoDefined fmt args := by
  obtain ⟨out, ho⟩ := Option.isSome_iff_exists.mp ((iso_supported_iff igrisPtr fmt args).mpr h)
  exact (iso_defined_iff_grammar igrisPtr fmt args).mp (by rw [isoFormatExcl_sub _ _ _ _ ho]; rfl)

/-- `printf_matches_iso_partial` without a hypothesis about `isoFormatExcl` -/
theorem printf_iso_on_supported (fmt : List Char) (args : List Arg) (h : IsoSupported fmt args) :
    ∃ out, isoFormatExcl igrisPtr fmt args = some out ∧ printf fmt args = .done out out.length := by
  obtain ⟨out, ho⟩ := Option.isSome_iff_exists.mp ((iso_supported_iff igrisPtr fmt args).mpr h)
  exact ⟨out, ho, printf_matches_iso_partial fmt args out ho⟩

/-- everything the property text lists is inside: each conversion d i u o x X
c s p %, each flag - + space # 0, literal width and precision, `*` for both
(also negative), each length modifier hh h l ll j z t -/
theorem iso_supported_covers_property_text :
    IsoSupported "%d|%i|%u|%o|%x|%X|%c|%s|%p|%%".toList
      [.int 1, .int (-1), .int 2, .int 8, .int 255, .int 255, .int 65, .str ['h', 'i', NUL], .ptr 4096] ∧
    IsoSupported "%-5d|%+d|% d|%#x|%#o|%#X|%05d|%-+8i|%- 8i".toList
      [.int 1, .int 2, .int 3, .int 4, .int 5, .int 6, .int 7, .int 8, .int 9] ∧
    IsoSupported "%8.3d|%.0u|%12s|%.2s|%-4c|%20p|%3.1x".toList
      [.int 5, .int 0, .str ['a', NUL], .str ['a', 'b', 'c'], .int 66, .ptr 0, .int 7] ∧
    IsoSupported "%*d|%.*d|%*.*u|%-*s|%.*s|%*c|%*p".toList
      [.int 6, .int 1, .int (-1), .int 2, .int (-6), .int 3, .int 4, .int (-5), .str ['x', NUL],
       .int 1, .str ['y', 'z'], .int 3, .int 67, .int 20, .ptr 1] ∧
    IsoSupported "%hhd|%hd|%ld|%lld|%jd|%zd|%td".toList
      [.int 300, .int 70000, .long 1, .long (-1), .long 2, .long 3, .long 4] ∧
    IsoSupported "%hhu|%hx|%lo|%llX|%ju|%zx|%to|%#llx|%+ld".toList
      [.int 300, .int 70000, .long 1, .long 2, .long 3, .long 4, .long 5, .long 6, .long 7] := by
  refine ⟨?_, ?_, ?_, ?_, ?_, ?_⟩ <;> decide +kernel

/-! ## `%n`, and `pc` / width / precision as C `int`s (`printfN`, Model.lean) -/

/-- the value returned by the `int`-accurate engine is the number of characters
handed to the callback AND it is a value of type `int`: no `int` computation
overflowed on the way (below the bound the unbounded `pc` of `printf` is the C
`pc`) -/
theorem printfN_count (fmt : List Char) (args : List Arg) (out : List Char) (pc : Int) (st : List NStore)
    (h : printfN fmt args = .done out pc st) : pc = out.length ∧ pc ≤ INT_MAX :=
  let r := loopN_inv _ fmt args [] 0 [] out pc st rfl (by decide) (by simp) h
  ⟨r.1, r.2.1⟩

/-- ISO 7.21.6.1p8 `n`: "the argument shall be a pointer to signed integer into
which is written the number of characters written to the output stream so far
by this call" — every store carries the number of callback calls made before it
(`emitted`, counted on the output list, not on `pc`), converted to the type the
length modifier names -/
theorem printfN_n_stores_count (fmt : List Char) (args : List Arg) (out : List Char) (pc : Int) (st : List NStore)
    (h : printfN fmt args = .done out pc st) :
    ∀ s ∈ st, s.val = s.emitted % 2 ^ (8 * s.size) ∧ s.emitted ≤ out.length := by
  intro s hs
  obtain ⟨h1, h2⟩ := (loopN_inv _ fmt args [] 0 [] out pc st rfl (by decide) (by simp) h).2.2.1 s hs
  refine ⟨?_, h2⟩
  unfold NStore.val
  rw [h1]
  have : ((s.emitted : Int) % (2 : Int) ^ (8 * s.size)) = ((s.emitted % 2 ^ (8 * s.size) : Nat) : Int) := by
    rw [Int.natCast_emod, Int.natCast_pow]; rfl
  rw [this, Int.toNat_natCast]

/-- a run of `printfN` that stored nothing (no `n` conversion) is the run of
`printf`: same characters, same value -/
theorem printfN_refines_printf (fmt : List Char) (args : List Arg) (out : List Char) (pc : Int)
    (h : printfN fmt args = .done out pc []) : printf fmt args = .done out pc :=
  (loopN_stores _ fmt args [] 0 [] out pc [] h).2 rfl

/-- conversely every finished run of `printf` is the run of `printfN` — unless
an `int` computation overflows (`atoi` of a literal beyond INT_MAX, `-INT_MIN`,
more than INT_MAX characters), which is all `printf`'s unbounded arithmetic
hides -/
theorem printf_done_printfN (fmt : List Char) (args : List Arg) (out : List Char) (pc : Int)
    (h : printf fmt args = .done out pc) :
    printfN fmt args = .done out pc [] ∨ printfN fmt args = .intovf := by
  unfold printfN
  rw [loop_loopN _ fmt args [] 0 [] out pc (by decide) h]
  split
  · exact Or.inl rfl
  · exact Or.inr rfl

/-- BELOW THE BOUND: when the whole output has at most INT_MAX characters and no
directive met on the way has a literal width/precision beyond INT_MAX or a `*`
width of INT_MIN (`guardFree`; by `literal_number_fits` every literal of at most
9 digits is fine), the `int`-accurate engine finishes with exactly what the
unbounded model computes: there the model's `Int` IS the C `int` -/
theorem printfN_below_bound (fmt : List Char) (args : List Arg) (out : List Char) (pc : Int)
    (h : printf fmt args = .done out pc) (hb : (out.length : Int) ≤ INT_MAX)
    (hg : guardFree (fmt.length + 1) fmt args = true) :
    printfN fmt args = .done out pc [] := by
  unfold printfN
  rw [loop_loopN _ fmt args [] 0 [] out pc (by decide) h, if_pos ⟨hg, by rw [printf_count _ _ _ _ h]; exact hb⟩]

/-- the `int` computations INSIDE print_i (`min_len + prefix_len`, `… - len -
prefix_len`, `width - len - prefix_len - zero_count`, `pc` after every `pc +=`;
`printIInts` lists them in the order of the C text): whenever the value print_i
returns fits an `int` — and `loopN` answers `intovf` otherwise — every one of
them fits too (width and precision are nonnegative `int`s when `__printf` calls
print_i).  So the guards of `printfN` (atoi, `-width`, the loop's `pc`) cover
every signed overflow of the integer path -/
theorem print_i_ints_in_range (u : BitVec 64) (isSigned : Bool) (width minLen : Int) (ops : Ops) (base : Nat)
    (out : List Char) (pc : Int) (h : printI u isSigned width minLen ops base = some (out, pc))
    (hw0 : 0 ≤ width) (hw : width ≤ INT_MAX) (hm0 : 0 ≤ minLen) (hpc : pc ≤ INT_MAX) :
    ∀ x ∈ printIInts u isSigned width minLen ops base, -INT_MAX - 1 ≤ x ∧ x ≤ INT_MAX := by
  rw [printI_eq] at h
  rw [printIInts_eq]
  obtain ⟨D, hD, h⟩ := Option.map_eq_some_iff.mp h
  cases h
  rw [hD]
  rw [layoutM_length] at hpc
  exact intsOf_range (Int.natCast_nonneg _) (Int.natCast_nonneg _) hw0 hw
    (zeroTarget_nonneg hw0 hm0 (Int.natCast_nonneg _)) hpc

theorem printfN_terminates (fmt : List Char) (args : List Arg) : printfN fmt args ≠ .diverged :=
  loopN_no_diverge _ fmt args [] 0 [] (Nat.lt_succ_self _)

/-- AT the bound: with INT_MAX characters out one more `++pc` is a signed
overflow, one below it is not; a literal width of 2^31 and a `*` width of
INT_MIN are outside `int` (INT_MAX / −INT_MAX are inside); `%n` through `hh`
stores the count modulo 256 -/
theorem printfN_int_range_witness :
    loopN 2 ['a'] [] [] INT_MAX [] = .intovf ∧
    loopN 2 ['a'] [] [] (INT_MAX - 1) [] = .done ['a'] INT_MAX [] ∧
    printfN "%2147483648d".toList [.int 1] = .intovf ∧
    printfN "%.2147483648d".toList [.int 1] = .intovf ∧
    printfN "%*d".toList [.int (BitVec.intMin 32), .int 1] = .intovf ∧
    intGuard "%2147483647d".toList [.int 1] = false ∧
    intGuard "%*d".toList [.int (BitVec.ofInt 32 (-2147483647)), .int 1] = false ∧
    printfN "ab%hhn%nc".toList [.ptr 16, .ptr 32]
      = .done ['a', 'b', 'c'] 3 [⟨16, 1, 2, 2⟩, ⟨32, 4, 2, 2⟩] := by
  refine ⟨?_, ?_, ?_, ?_, ?_, ?_, ?_, ?_⟩ <;> decide +kernel

/-- `%lc` / `%ls`: the code ignores the `l` (TODO in the source): the bytes of
the wide string L"ab" (little-endian `wchar_t`) are read as a `char` string —
ISO prints `ab`, igris prints `a` (recorded finding C06-wide-ls); a `%lc` of an
ASCII character prints it, as ISO's `wcrtomb` does in the C locale -/
theorem printf_ls_wide_witness :
    printf "%ls".toList [.str ['a', NUL, NUL, NUL, 'b', NUL, NUL, NUL, NUL, NUL, NUL, NUL]] = .done ['a'] 1 ∧
    printf "%lc".toList [.int 65] = .done ['A'] 1 := by
  constructor <;> decide +kernel

/-! ## `%p` as the property states it; print_i's `int`s linked to the loop -/

/-- igris' rendering satisfies the property's clause for `%p`: `0x` followed by hex
digits that parse back to the pointer (`PtrText` fixes no digit count) -/
theorem igris_ptr_text (p : BitVec 64) : PtrText p.toNat (igrisPtr p.toNat) := by
  obtain ⟨ds, h1, h2, h3⟩ := printf_p_parses_back p
  exact ⟨ds, by intro h; simp [h] at h2, h1, h3⟩

/-- the `%p` FIELD for every `*` width (any `int`, negative = `-` flag) and with or
without the `-` flag: blanks up to the width on the proper side of a text that is
`0x` + hex digits whose value is the pointer; the value returned is the length of
the field = max(width, length of that text) -/
theorem printf_p_field (minus : Bool) (w : BitVec 32) (p : BitVec 64) :
    ∃ txt, PtrText p.toNat txt ∧
      printf (if minus then "%-*p".toList else "%*p".toList) [.int w, .ptr p]
        = .done (pad (minus || decide (w.toInt < 0)) w.toInt.natAbs txt)
            ((max w.toInt.natAbs txt.length : Nat) : Int) := by
  refine ⟨igrisPtr p.toNat, igris_ptr_text p, ?_⟩
  have h : isoFormat igrisPtr (if minus then "%-*p".toList else "%*p".toList) [.int w, .ptr p]
      = some (pad (minus || decide (w.toInt < 0)) w.toInt.natAbs (igrisPtr p.toNat)) := by
    cases minus <;>
    simp [isoFormat, isoAux, parseDirective, parseWidth, parsePrec, parseLen, isoConv, resolveWidth,
      resolvePrec, isoBody, isFlag, NUL]
  rw [printf_matches_iso _ _ _ h, pad_length]

/-- every admissible rendering of a pointer (any digit count) has the SAME canonical
form, the model's rendering: comparing `%p` fields in canonical form (what the
harness does) identifies exactly the texts the property allows -/
theorem canon_ptr_text (p : Nat) (txt : List Char) (h : PtrText p txt) :
    canonPtrText txt = some (igrisPtr p) := by
  obtain ⟨ds, h1, h2, h3⟩ := h
  subst h2
  simp [canonPtrText, h1, h3]

/-- the model's own rendering is a fixed point: the driver prints canonical fields -/
theorem canon_ptr_igris (p : BitVec 64) : canonPtrText (igrisPtr p.toNat) = some (igrisPtr p.toNat) :=
  canon_ptr_text _ _ (igris_ptr_text p)

/-- the link between `print_i_ints_in_range` and the loop: whenever `loopN`, standing at a `%` with a
nonnegative count (the invariant `pc = number of characters so far`), does NOT answer `intovf` (none of its three
guards fired), the call of print_i that this directive makes (`printICall`) is made with a width and a precision
that are nonnegative `int`s; and when the pass succeeds, what print_i returned is what the pass emits, the count
stays inside `int`, and every `int` print_i computed on the way (`printIInts`) is in range -/
theorem loopN_print_i_ints (fuel : Nat) (cs : List Char) (args : List Arg) (out : List Char) (pc : Int)
    (st : List NStore) (res : OutcomeN) (hres : res ≠ .intovf) (hpc0 : 0 ≤ pc)
    (h : loopN (fuel + 1) ('%' :: cs) args out pc st = res)
    {u : BitVec 64} {sg : Bool} {w m : Int} {ops : Ops} {base : Nat}
    (hc : printICall ('%' :: cs) args = some (u, sg, w, m, ops, base)) :
    0 ≤ w ∧ w ≤ INT_MAX ∧ 0 ≤ m ∧ m ≤ INT_MAX ∧
    ∀ emit dpc rest args', directive ('%' :: cs) args = .ok emit dpc rest args' →
      printI u sg w m ops base = some (emit, dpc) ∧ pc + dpc ≤ INT_MAX ∧
      ∀ x ∈ printIInts u sg w m ops base, -INT_MAX - 1 ≤ x ∧ x ≤ INT_MAX := by
  obtain ⟨p, s, a, o, hpo, hm, _⟩ := printICall_spec hc
  have hg : intGuard ('%' :: cs) args = false := by
    cases hgv : intGuard ('%' :: cs) args with
    | false => rfl
    | true =>
      exfalso
      apply hres
      rw [← h]
      simp [loopN, NUL, directiveN, hgv]
  obtain ⟨hw0, hw1, hp0, hp1⟩ := parseOpts_int_range hg hpo
  have hm0 : 0 ≤ m ∧ m ≤ INT_MAX := by
    rcases hm with rfl | rfl
    · exact ⟨hp0, hp1⟩
    · unfold INT_MAX; omega
  refine ⟨hw0, hw1, hm0.1, hm0.2, ?_⟩
  intro emit dpc rest args' hdir
  obtain ⟨h1, _⟩ := directive_printICall hc hdir
  have hN : directiveN ('%' :: cs) args = .ok emit dpc rest args' none := by
    rw [directiveN_of_directive hdir, hg]
    rfl
  have hb : pc + dpc ≤ INT_MAX := by
    by_cases hb : pc + dpc > INT_MAX
    · exfalso
      apply hres
      rw [← h]
      simp [loopN, NUL, hN, hb]
    · omega
  refine ⟨h1, hb, ?_⟩
  exact print_i_ints_in_range u sg w m ops base emit dpc h1 hw0 hw1 hm0.1 (by omega)

/-- the closed form the driver runs (`vsnprintfFast`, linear in the output) IS `vsnprintf` — the fold of the
callback `snprint_printchar` over the characters — for every destination, size, format and argument list -/
theorem vsnprintf_fast_eq (mem : List Char) (n : Nat) (fmt : List Char) (args : List Arg) :
    vsnprintfFast mem n fmt args = vsnprintf mem n fmt args := by
  unfold vsnprintfFast
  split
  · rename_i hn
    cases h : printf fmt args with
    | done out pc =>
      rw [vsnprintf_spec mem n fmt args out pc h hn, printf_count _ _ _ _ h]
    | fault | badarg | unsupported | diverged => simp [vsnprintf, h]
  · rfl

theorem snprintf_fast_eq (mem : List Char) (n : Nat) (fmt : List Char) (args : List Arg) :
    snprintfFast mem n fmt args = snprintf mem n fmt args :=
  vsnprintf_fast_eq mem n fmt args

/-- print_s's `int`s (`(int)strlen` of a %s argument of 2^31 or more bytes): whenever the count
print_s returns fits an `int` — and `loopN` answers `intovf` when it does not — the length it measured
(`(int)strnlen(...)` / `(int)strlen(...)`, first element of `printSInts`) fits an `int`, so the cast preserved the
value, and so do `space_count` and `pc` after every `pc +=`.  A string of 2^31 or more bytes that is printed
in full therefore always ends in `intovf`: the model never claims a result for it -/
theorem print_s_ints_in_range (mem : List Char) (width maxLen : Int) (ops : Ops) (out : List Char) (pc : Int)
    (h : printS mem width maxLen ops = some (out, pc)) (hw0 : 0 ≤ width) (hpc : pc ≤ INT_MAX) :
    printSInts mem width maxLen ops ≠ [] ∧
    ∀ x ∈ printSInts mem width maxLen ops, 0 ≤ x ∧ x ≤ INT_MAX := by
  -- the value returned is space_count + len, both nonnegative; every entry is one of the two or a partial sum
  rw [printS_eq] at h
  obtain ⟨n, hm, h⟩ := Option.map_eq_some_iff.mp h
  cases h
  have hI : printSInts mem width maxLen ops =
      [(n : Int), (if width > (n : Int) then width - n else 0),
       (if !ops.left then 0 + (if width > (n : Int) then width - n else 0) else 0),
       (if !ops.left then 0 + (if width > (n : Int) then width - n else 0) else 0) + n,
       (if !ops.left then 0 + (if width > (n : Int) then width - n else 0) else 0) + n +
         (if !ops.left then 0 else (if width > (n : Int) then width - n else 0))] := by
    unfold strMeasure at hm
    unfold printSInts
    rw [hm]
  rw [hI]
  refine ⟨List.cons_ne_nil _ _, ?_⟩
  have hS : 0 ≤ (if width > (n : Int) then width - n else 0) := by split <;> omega
  generalize (if width > (n : Int) then width - n else 0) = S at hpc hS ⊢
  cases ops.left
  · simp only [Bool.not_false, if_true, List.forall_mem_cons, List.not_mem_nil, false_imp_iff, implies_true, and_true]
    omega
  · simp only [Bool.not_true, Bool.false_eq_true, if_false, List.forall_mem_cons, List.not_mem_nil, false_imp_iff,
      implies_true, and_true]
    omega

/-- a PURELY SYNTACTIC sufficient condition for `guardFree`: when every run of decimal
digits in the format has at most 9 digits (`digitRunsOk`, a property of the text alone) and no `int` argument is
INT_MIN (`noIntMinArg`), no directive met on the way — whatever the parser makes of the text, also of malformed
directives — computes outside `int` in `atoi` or in `width = -width` -/
theorem guardFree_of_syntax (fmt : List Char) (args : List Arg)
    (h1 : digitRunsOk fmt = true) (h2 : noIntMinArg args = true) :
    guardFree (fmt.length + 1) fmt args = true :=
  guardFree_of_digitRunsOk _ fmt args h1 h2

/-- `printfN_below_bound` with hypotheses one can read off the call: digit runs of at most 9 digits, no INT_MIN
among the arguments, and an output of at most INT_MAX characters — there the unbounded model IS the C `int` code -/
theorem printfN_below_bound_syntactic (fmt : List Char) (args : List Arg) (out : List Char) (pc : Int)
    (h : printf fmt args = .done out pc) (hb : (out.length : Int) ≤ INT_MAX)
    (h1 : digitRunsOk fmt = true) (h2 : noIntMinArg args = true) :
    printfN fmt args = .done out pc [] :=
  printfN_below_bound fmt args out pc h hb (guardFree_of_syntax fmt args h1 h2)

/-! ## non-vacuity: the hypotheses above are satisfiable on non-trivial inputs -/

-- a format with literal text, flags, `*` width, precision, length modifier, string with precision
example :
    isoFormatExcl igrisPtr "a=%-*.3lld|%+05d|%.2s|%#x".toList
        [.int 8, .long (BitVec.ofInt 64 (-42)), .int 7, .str ['x', 'y', 'z'], .int 255]
      = some "a=-042    |+0007|xy|0xff".toList := by decide +kernel

example : printf "a=%-*.3lld|%+05d|%.2s|%#x".toList
        [.int 8, .long (BitVec.ofInt 64 (-42)), .int 7, .str ['x', 'y', 'z'], .int 255]
      = .done "a=-042    |+0007|xy|0xff".toList 24 := by decide +kernel

-- print_s_reads: an unterminated two-byte array with precision 2; the two-byte array of %c
example : ((({ prec := true } : Ops).chr = false ∧
    (NUL ∈ ['a', 'b'] ∨ (({ prec := true } : Ops).prec = true ∧ 2 ≤ ['a', 'b'].length))) ∨
    (({ prec := true } : Ops).chr = true ∧ ['a', 'b'] ≠ [])) := by decide +kernel
example : ((({ chr := true } : Ops).chr = false ∧
    (NUL ∈ [NUL, NUL] ∨ (({ chr := true } : Ops).prec = true ∧ 2 ≤ [NUL, NUL].length))) ∨
    (({ chr := true } : Ops).chr = true ∧ [NUL, NUL] ≠ [])) := by decide +kernel

-- iso_int_formulations_agree / iso_int_length / iso_int_shape on `%#08x` of 255 and `%-+6.3d` of 7
example : isoInt2 false false false true true 8 none false false 255 16 false = "0x0000ff".toList := by decide +kernel
example : isoInt true true false false false 6 (some 3) true false 7 10 false = "+007  ".toList := by decide +kernel

-- IsoDefined: `a=%-*.3lld|%+05d|%.2s|%#x` as pieces, with its arguments
example : IsoDefined "a=%-*.3lld|%+05d|%.2s|%#x".toList
    [.int 8, .long (BitVec.ofInt 64 (-42)), .int 7, .str ['x', 'y', 'z'], .int 255] :=
  ⟨[.text ['a', '='],
    .dir { flags := ['-'], width := .star, prec := .lit ['3'], len := .ll, conv := 'd' }, .text ['|'],
    .dir { flags := ['+', '0'], width := .lit ['5'], prec := .none, len := .none, conv := 'd' }, .text ['|'],
    .dir { flags := [], width := .none, prec := .lit ['2'], len := .none, conv := 's' }, .text ['|'],
    .dir { flags := ['#'], width := .none, prec := .none, len := .none, conv := 'x' }], by decide +kernel, by decide +kernel⟩

-- star_width_negation_exact / literal_number_fits
example : (BitVec.ofInt 32 (-5)) ≠ BitVec.intMin 32 := by decide +kernel
example : (("123456789|".toList).takeWhile Char.isDigit).length ≤ 9 := by decide +kernel

-- vsnprintf_spec / snprintf_matches_iso: a truncating call
example : printf "%s=%d".toList [.str ['a', 'b', NUL], .int 7] = .done "ab=7".toList 4 := by decide +kernel
example : snprintf ['x', 'x', 'x', 'y', 'z'] 3 "%s=%d".toList [.str ['a', 'b', NUL], .int 7]
      = some (['a', 'b', NUL, 'y', 'z'], 4) := by decide +kernel

-- printf_matches_iso on the former finding classes
example : isoFormat igrisPtr "[%#x|%#5o|%-3c]".toList [.int 0, .int 0, .int 0]
      = some ['[', '0', '|', ' ', ' ', ' ', ' ', '0', '|', NUL, ' ', ' ', ']'] := by decide +kernel

-- IsoSupported / IsoDefined (decidable); the former classes are outside IsoSupported, inside IsoDefined
example : IsoSupported "%-*.3lld|%#x".toList [.int 8, .long (BitVec.ofInt 64 (-42)), .int 255] := by decide +kernel
example : ¬ IsoSupported "%#x".toList [.int 0] ∧ IsoDefined "%#x".toList [.int 0] ∧
    ¬ IsoSupported "%c".toList [.int 256] ∧ IsoDefined "%c".toList [.int 256] ∧
    ¬ IsoDefined "%lc".toList [.int 65] ∧ ¬ IsoDefined "%#d".toList [.int 1] ∧ ¬ IsoDefined "%5%".toList [] := by
  refine ⟨?_, ?_, ?_, ?_, ?_, ?_, ?_⟩ <;> decide +kernel

-- print_i_ints_in_range: `%+08.3d` of 42 — the ints print_i computes
example : printIInts 42 true 8 3 { sign := true, zero := true, prec := true } 10
    = [1, 2, 4, 2, 1, 1, 6, 5, 4, 4, 4, 5, 6, 8, 8] := by decide +kernel

-- printfN_below_bound: the guard holds on an ordinary format, fails on a 10-digit literal
example : guardFree 30 "a=%-*.3lld|%+05d|%.2s".toList
    [.int 8, .long (BitVec.ofInt 64 (-42)), .int 7, .str ['x', 'y', 'z']] = true := by decide +kernel
example : guardFree 20 "%4294967301d".toList [.int 1] = false := by decide +kernel

-- printfN_count / printfN_n_stores_count / printfN_refines_printf: a finished run with a store, one without
example : printfN "x=%d%n|".toList [.int 42, .ptr 8] = .done "x=42|".toList 5 [⟨8, 4, 4, 4⟩] := by decide +kernel
example : printfN "x=%5d|".toList [.int 42] = .done "x=   42|".toList 8 [] := by decide +kernel
example : printf "x=%5d|".toList [.int 42] = .done "x=   42|".toList 8 := by decide +kernel

-- printf_p_field (a negative `*` width), canon_ptr_text on the rendering with significant digits only
example : printf "%*p".toList [.int (BitVec.ofInt 32 (-20)), .ptr 0x7ffc1234]
    = .done "0x000000007ffc1234  ".toList 20 := by decide +kernel
example : PtrText 0x7ffc1234 "0x7ffc1234".toList := ⟨"7ffc1234".toList, by decide +kernel, rfl, by decide +kernel⟩
example : PtrText 0 "0x0".toList := ⟨['0'], by decide +kernel, rfl, by decide +kernel⟩
example : canonPtrText "0x7ffc1234".toList = some "0x000000007ffc1234".toList := by decide +kernel

-- loopN_print_i_ints: the print_i call of `%+08.3d` of 42; a directive that calls print_s has none
example : printICall "%+08.3d".toList [.int 42]
    = some (42, true, 8, 3, { sign := true, zero := true, prec := true }, 10) := by decide +kernel
example : printICall "%5s".toList [.str ['a', NUL]] = none := by decide +kernel
example : loopN 9 "%+08.3d".toList [.int 42] [] 0 [] = .done "    +042".toList 8 [] := by decide +kernel

-- print_s_ints_in_range: `%-5.2s` of "abc"
example : printS ['a', 'b', 'c', NUL] 5 2 { left := true, prec := true } = some ("ab   ".toList, 5) := by decide +kernel
example : printSInts ['a', 'b', 'c', NUL] 5 2 { left := true, prec := true } = [2, 3, 0, 2, 5] := by decide +kernel

-- vsnprintf_fast_eq: a truncating call through the closed form
example : snprintfFast ['x', 'x', 'x', 'y', 'z'] 3 "%s=%d".toList [.str ['a', 'b', NUL], .int 7]
      = some (['a', 'b', NUL, 'y', 'z'], 4) := by decide +kernel

-- guardFree_of_syntax: the condition holds on an ordinary call, fails on a 10-digit literal / an INT_MIN argument
example : digitRunsOk "a=%-*.3lld|%+05d|%.2s|123456789".toList = true ∧
    noIntMinArg [.int 8, .long (BitVec.ofInt 64 (-42)), .int 7, .str ['x', 'y', 'z']] = true := by
  constructor <;> decide +kernel
example : digitRunsOk "%4294967301d".toList = false ∧ noIntMinArg [.int (BitVec.intMin 32)] = false := by
  constructor <;> decide +kernel

end Igris.C06
