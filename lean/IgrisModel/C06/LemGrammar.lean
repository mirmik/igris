/- The generative grammar of Grammar.lean lies inside the domain of `Iso.isoFormat`. -/
import IgrisModel.C06.LemRender
namespace Igris.C06
open Iso

theorem starWidthArg_eq (d : DirTxt) (args : List Arg) :
    starWidthArg d.width args = (resolveWidth (dirOf d) args).map (·.2.2) := by
  unfold starWidthArg resolveWidth dirOf
  cases d.width with
  | none => rfl
  | lit ds => rfl
  | star =>
    cases args with
    | nil => rfl
    | cons x as => cases x <;> rfl

theorem effPrec_eq (d : DirTxt) (args : List Arg) : effPrec d.prec args = resolvePrec (dirOf d) args := by
  unfold effPrec resolvePrec dirOf
  cases d.prec with
  | none => rfl
  | lit ds => rfl
  | star =>
    cases args with
    | nil => rfl
    | cons x as => cases x <;> rfl

theorem intArg_signed_eq (len : Len) (args : List Arg) : intArg len args = (signedArg len args).map (·.2) := by
  cases len <;> cases args with
    | nil => rfl
    | cons x as => cases x <;> rfl

theorem intArg_unsigned_eq (len : Len) (args : List Arg) : intArg len args = (unsignedArg len args).map (·.2) := by
  cases len <;> cases args with
    | nil => rfl
    | cons x as => cases x <;> rfl

theorem strArgOk_eq (mem : List Char) (ep : Option Nat) : strArgOk mem ep = (isoStr mem ep).isSome := by
  unfold strArgOk isoStr
  cases ep with
  | none => by_cases h : NUL ∈ mem <;> simp [h]
  | some p =>
    by_cases hle : p ≤ mem.length
    · simp [hle]
    · have : mem.take p = mem := List.take_of_length_le (by omega)
      by_cases h : NUL ∈ mem <;> simp [hle, this, h]

theorem flags_isEmpty (fl : List Char) (hall : fl.all flagChar = true) :
    fl.isEmpty = !(fl.contains '-' || fl.contains '+' || fl.contains ' ' || fl.contains '#' || fl.contains '0') := by
  cases fl with
  | nil => rfl
  | cons x xs =>
    simp only [List.all_cons, Bool.and_eq_true, flagChar, Bool.or_eq_true, decide_eq_true_eq] at hall
    rcases hall.1 with (((rfl | rfl) | rfl) | rfl) | rfl <;> simp

theorem percent_plain (d : DirTxt) (hfl : d.flags.all flagChar = true) :
    (d.flags.isEmpty && d.width == NumTxt.none && d.prec == NumTxt.none && (dirOf d).len == Len.none)
      = !((dirOf d).minus || (dirOf d).plus || (dirOf d).space || (dirOf d).hash || (dirOf d).zero ||
          decide ((dirOf d).width ≠ Num.none) || decide ((dirOf d).prec ≠ Num.none) ||
          decide ((dirOf d).len ≠ Len.none)) := by
  have hn : ∀ w : NumTxt, (w == NumTxt.none) = !decide (numOf w ≠ Num.none) := by intro w; cases w <;> rfl
  have hl : ∀ x : Len, (x == Len.none) = !decide (x ≠ Len.none) := by intro x; cases x <;> rfl
  obtain ⟨fl, w, p, ln, c⟩ := d
  simp only [dirOf, flags_isEmpty fl hfl, hn, hl, Bool.not_or]
  rfl

theorem convChar_false_of_convCase {c : Char} (h : convCase c = .unsupported ∨ convCase c = .other) :
    convChar c = false := by
  cases hc : convChar c with
  | false => rfl
  | true =>
    simp only [convChar, Bool.or_eq_true, decide_eq_true_eq] at hc
    rcases hc with ((((((((rfl | rfl) | rfl) | rfl) | rfl) | rfl) | rfl) | rfl) | rfl) | rfl <;>
      exact absurd h (by decide)

theorem accepts_eq (pfmt : Nat → List Char) (d : DirTxt) (hfl : d.flags.all flagChar = true) (args : List Arg) :
    d.accepts args = (isoConv pfmt false (dirOf d) args).map (·.2) := by
  unfold DirTxt.accepts isoConv
  rw [starWidthArg_eq]
  cases resolveWidth (dirOf d) args with
  | none => rfl
  | some q =>
    obtain ⟨mi, W, a1⟩ := q
    simp only [Option.map_some, effPrec_eq]
    cases resolvePrec (dirOf d) a1 with
    | none => rfl
    | some r =>
      obtain ⟨ep, a2⟩ := r
      simp only []
      rw [isoBody_eq]
      -- the flags, length and conversion of `d` as fields of `dirOf d`
      have eh : d.flags.contains '#' = (dirOf d).hash := rfl
      have ez : d.flags.contains '0' = (dirOf d).zero := rfl
      have el : d.len = (dirOf d).len := rfl
      have ec : d.conv = (dirOf d).conv := rfl
      have hne : ((dirOf d).len != Len.none) = decide ((dirOf d).len ≠ Len.none) := by
        cases (dirOf d).len <;> rfl
      simp only [eh, ez, el, ec, hne]
      have hinv := convCase_inv (dirOf d).conv
      cases hk : convCase (dirOf d).conv <;> rw [hk] at hinv <;> simp only at hinv ⊢
      case percent =>
        simp (decide := true) only [hinv, if_true, if_false, Bool.or_self]
        rw [← hne, percent_plain d hfl, hne]
        by_cases hB : ((dirOf d).minus || (dirOf d).plus || (dirOf d).space || (dirOf d).hash || (dirOf d).zero ||
          decide ((dirOf d).width ≠ Num.none) || decide ((dirOf d).prec ≠ Num.none) ||
          decide ((dirOf d).len ≠ Len.none)) = true
        · simp only [hB]; rfl
        · simp only [hB]; rfl
      case signed =>
        have h1 : (decide ((dirOf d).conv = 'd') || decide ((dirOf d).conv = 'i') ||
            decide ((dirOf d).conv = 'u')) = true := by
          rcases hinv with h | h <;> rw [h] <;> rfl
        simp only [if_pos h1, intArg_signed_eq]
        by_cases hh : (dirOf d).hash = true
        · simp only [if_pos hh]; rfl
        · simp only [if_neg hh]; cases signedArg (dirOf d).len a2 <;> rfl
      case unsigned =>
        by_cases hu : (dirOf d).conv = 'u'
        · simp (decide := true) only [hu, if_true, Bool.or_true, Bool.and_true, decide_true, intArg_unsigned_eq]
          by_cases hh : (dirOf d).hash = true
          · simp only [if_pos hh]; rfl
          · simp only [if_neg hh]; cases unsignedArg (dirOf d).len a2 <;> rfl
        · have h1 : (decide ((dirOf d).conv = 'd') || decide ((dirOf d).conv = 'i') ||
              decide ((dirOf d).conv = 'u')) = false := by
            rcases hinv with h | h | h | h
            · exact absurd h hu
            all_goals rw [h]; rfl
          have h2 : (decide ((dirOf d).conv = 'o') || decide ((dirOf d).conv = 'x') ||
              decide ((dirOf d).conv = 'X')) = true := by
            rcases hinv with h | h | h | h
            · exact absurd h hu
            all_goals rw [h]; rfl
          simp only [h1, h2, if_true, Bool.false_eq_true, if_false]
          simp only [hu, decide_false, Bool.and_false, Bool.false_and, Bool.false_eq_true, if_false,
            intArg_unsigned_eq]
          cases unsignedArg (dirOf d).len a2 <;> rfl
      case char | pointer =>
        simp (decide := true) only [hinv, if_true, if_false, Bool.or_self, Bool.false_and]
        by_cases hB : ((dirOf d).hash || (dirOf d).zero || ep.isSome || decide ((dirOf d).len ≠ Len.none)) = true
        · simp only [if_pos hB]; rfl
        · simp only [if_neg hB]
          cases a2 with
          | nil => rfl
          | cons x as => cases x <;> rfl
      case string =>
        simp (decide := true) only [hinv, if_true, if_false, Bool.or_self]
        by_cases hB : ((dirOf d).hash || (dirOf d).zero || decide ((dirOf d).len ≠ Len.none)) = true
        · simp only [if_pos hB]; rfl
        · simp only [if_neg hB]
          cases a2 with
          | nil => rfl
          | cons x as =>
            cases x <;> try rfl
            simp only [strArgOk_eq]
            cases isoStr _ ep <;> rfl
      all_goals
        have hn := convChar_false_of_convCase
          (by simp [hk] : convCase (dirOf d).conv = .unsupported ∨ convCase (dirOf d).conv = .other)
        simp only [convChar, Bool.or_eq_false_iff, decide_eq_false_iff_not] at hn
        simp [hn]

/-- ISO defines the conversion on every directive/argument list the grammar accepts -/
theorem accepts_isoConv (pfmt : Nat → List Char) (d : DirTxt) (args rest : List Arg)
    (hs : d.syntaxOk = true) (ha : d.accepts args = some rest) :
    ∃ out, isoConv pfmt false (dirOf d) args = some (out, rest) := by
  simp only [DirTxt.syntaxOk, Bool.and_eq_true] at hs
  rw [accepts_eq pfmt d hs.1.1.1.1] at ha
  obtain ⟨q, hq, rfl⟩ := Option.map_eq_some_iff.mp ha
  exact ⟨q.1, hq⟩

end Igris.C06
