/- One pass of the format loop only moves forward in format and argument list (its two scanning loops are `dropWhile`s)
   and counts the characters it emits (print_s is first put in closed form, `printS_eq`, as print_i is in LemPrintI);
   from this the loop's count, its independence of the fuel and its termination. -/
import IgrisModel.C06.LemPrintI
import IgrisModel.C06.Spec
namespace Igris.C06
open Iso

theorem strlen_eq (mem : List Char) :
    strlen mem = if NUL ∈ mem then some (mem.takeWhile (· ≠ NUL)).length else none := by
  induction mem with
  | nil => simp [strlen]
  | cons c cs ih =>
    simp only [strlen, ih, List.mem_cons]
    by_cases hc : c = NUL
    · simp [hc]
    · have : ¬ NUL = c := fun h => hc h.symm
      simp only [hc, this, if_false, false_or]
      split <;> simp [hc]

theorem strnlen_eq (mem : List Char) (p : Nat) :
    strnlen mem p =
      if NUL ∈ mem.take p ∨ p ≤ mem.length then some ((mem.take p).takeWhile (· ≠ NUL)).length else none := by
  induction mem generalizing p with
  | nil => cases p <;> simp [strnlen]
  | cons c cs ih =>
    cases p with
    | zero => simp [strnlen]
    | succ p =>
      simp only [strnlen, ih p, List.take_succ_cons, List.mem_cons, List.length_cons, Nat.add_le_add_iff_right]
      by_cases hc : c = NUL
      · simp [hc]
      · have : ¬ NUL = c := fun h => hc h.symm
        simp only [hc, this, if_false, false_or]
        split <;> simp [hc]

/-- the length print_s works with: `ops & OPS_SPEC_CHAR ? 1 : ops & OPS_PREC_IS_GIVEN ? (int)strnlen(str, max_len) :
(int)strlen(str)` (`none`: a byte behind the allocation was read) -/
def strMeasure (mem : List Char) (maxLen : Int) (ops : Ops) : Option Nat :=
  if ops.chr then (if 1 ≤ mem.length then some 1 else none)
  else if ops.prec then strnlen mem maxLen.toNat else strlen mem

theorem strMeasure_le {mem : List Char} {maxLen : Int} {ops : Ops} {n : Nat}
    (h : strMeasure mem maxLen ops = some n) : n ≤ mem.length := by
  unfold strMeasure at h
  split at h
  · split at h <;> cases h
    assumption
  · split at h
    · rw [strnlen_eq] at h
      split at h <;> cases h
      exact Nat.le_trans (List.takeWhile_sublist _).length_le (List.take_sublist _ _).length_le
    · rw [strlen_eq] at h
      split at h <;> cases h
      exact (List.takeWhile_sublist _).length_le

theorem printS_eq (mem : List Char) (width maxLen : Int) (ops : Ops) :
    printS mem width maxLen ops =
      (strMeasure mem maxLen ops).map fun (n : Nat) =>
        (field ops.left (if width > (n : Int) then width - n else 0).toNat 0 [] (mem.take n),
         (if width > (n : Int) then width - n else 0) + n) := by
  unfold printS strMeasure
  cases (if ops.chr = true then if 1 ≤ mem.length then some 1 else none
      else if ops.prec = true then strnlen mem maxLen.toNat else strlen mem) with
  | none => rfl
  | some n => cases hl : ops.left <;> simp [field] <;> omega

theorem printS_count {mem : List Char} {width maxLen : Int} {ops : Ops} {out : List Char} {pc : Int}
    (h : printS mem width maxLen ops = some (out, pc)) : pc = out.length := by
  rw [printS_eq] at h
  obtain ⟨n, hn, h⟩ := Option.map_eq_some_iff.mp h
  cases h
  have := strMeasure_le hn
  simp only [field_length, List.length_take, List.length_nil]
  omega

/-! ### the parser only moves forward -/

theorem skipDigits_eq (s : List Char) : skipDigits s = s.dropWhile Char.isDigit := by
  induction s with
  | nil => rfl
  | cons c cs ih =>
    simp only [skipDigits, List.dropWhile_cons]
    split <;> simp_all

theorem skipDigits_suffix (s : List Char) : skipDigits s <:+ s := by
  rw [skipDigits_eq]; exact List.dropWhile_suffix _

theorem flagsLoop_eq (s : List Char) (ops : Ops) :
    flagsLoop s ops =
      (s.dropWhile isFlag,
       { ops with
         left := ops.left || (s.takeWhile isFlag).contains '-',
         sign := ops.sign || (s.takeWhile isFlag).contains '+',
         space := ops.space || (s.takeWhile isFlag).contains ' ',
         spec := ops.spec || (s.takeWhile isFlag).contains '#',
         zero := ops.zero || (s.takeWhile isFlag).contains '0' }) := by
  induction s generalizing ops with
  | nil => simp [flagsLoop]
  | cons c cs ih =>
    simp only [flagsLoop]
    by_cases h1 : c = '-'
    · subst h1; simp [ih, isFlag]
    by_cases h2 : c = '+'
    · subst h2; simp [ih, isFlag]
    by_cases h3 : c = ' '
    · subst h3; simp [ih, isFlag]
    by_cases h4 : c = '#'
    · subst h4; simp [ih, isFlag]
    by_cases h5 : c = '0'
    · subst h5; simp [ih, isFlag]
    · simp [h1, h2, h3, h4, h5, isFlag]

theorem flagsLoop_suffix (s : List Char) (ops : Ops) : (flagsLoop s ops).1 <:+ s := by
  rw [flagsLoop_eq]; exact List.dropWhile_suffix _

theorem flagsLoop_length (s : List Char) (ops : Ops) : (flagsLoop s ops).1.length ≤ s.length :=
  (flagsLoop_suffix s ops).length_le

theorem vaInt_some {args : List Arg} {v : BitVec 32} {as : List Arg} (h : vaInt args = some (v, as)) :
    as <:+ args ∧ args = .int v :: as := by
  unfold vaInt at h
  split at h
  · cases h; simp
  · cases h

theorem vaLong_suffix {args : List Arg} {v : BitVec 64} {as : List Arg} (h : vaLong args = some (v, as)) :
    as <:+ args := by
  unfold vaLong at h
  split at h
  · cases h; simp
  · cases h

/-- the last step of "get width" and "get precision" — `if (width < 0) { ops |= OPS_FLAG_LEFT_ALIGN; width = -width; }`,
`precision = precision >= 0 ? precision : (ops &= ~OPS_PREC_IS_GIVEN, 0);` — changes the value and `ops` only -/
theorem signStep_eq {c : Prop} [Decidable c] {x y w : Int} {s s1 : List Char} {a a1 : List Arg} {o o' o1 : Ops}
    (h : (if c then (x, s, a, o) else (y, s, a, o')) = (w, s1, a1, o1)) :
    w = (if c then x else y) ∧ s1 = s ∧ a1 = a := by
  by_cases hc : c
  · rw [if_pos hc] at h ⊢; cases h; exact ⟨rfl, rfl, rfl⟩
  · rw [if_neg hc] at h ⊢; cases h; exact ⟨rfl, rfl, rfl⟩

theorem getWidth_some {s : List Char} {args : List Arg} {ops : Ops} {w : Int} {s1 : List Char} {a1 : List Arg}
    {o1 : Ops} (h : getWidth s args ops = some (w, s1, a1, o1)) :
    (∃ rw, rawWidth s args = some rw ∧ w = (if rw < 0 then -rw else rw)) ∧ s1 <:+ s ∧ a1 <:+ args := by
  unfold getWidth at h
  unfold rawWidth
  by_cases hst : hd s = '*'
  · simp only [hst, if_true] at h ⊢
    cases hv : vaInt args with
    | none => simp [hv] at h
    | some q =>
      obtain ⟨v, as⟩ := q
      simp only [hv, Option.map_some, Option.some.injEq] at h ⊢
      obtain ⟨hw, rfl, rfl⟩ := signStep_eq h
      exact ⟨⟨v.toInt, rfl, hw⟩, List.tail_suffix _, (vaInt_some hv).1⟩
  · simp only [hst, if_false, Option.map_some, Option.some.injEq] at h ⊢
    obtain ⟨hw, rfl, rfl⟩ := signStep_eq h
    exact ⟨⟨atoi s, rfl, hw⟩, skipDigits_suffix _, List.suffix_refl _⟩

theorem getPrec_some {s : List Char} {args : List Arg} {ops : Ops} {p : Int} {s1 : List Char} {a1 : List Arg}
    {o1 : Ops} (h : getPrec s args ops = some (p, s1, a1, o1)) :
    ((rawPrec s = none ∧ 0 ≤ p ∧ p ≤ INT_MAX) ∨ (∃ rp, rawPrec s = some rp ∧ p = (if rp ≥ 0 then rp else 0))) ∧
      s1 <:+ s ∧ a1 <:+ args := by
  unfold getPrec at h
  unfold rawPrec
  simp only at h
  by_cases hdot : hd s = '.'
  · simp only [hdot, if_true] at h ⊢
    by_cases hst : hd s.tail = '*'
    · simp only [hst, if_true] at h ⊢
      cases hv : vaInt args with
      | none => simp [hv] at h
      | some q =>
        obtain ⟨v, as⟩ := q
        simp only [hv, Option.map_some, Option.some.injEq] at h
        obtain ⟨hp, rfl, rfl⟩ := signStep_eq h
        have h1 := BitVec.toInt_lt (x := v)
        have h2 := BitVec.le_toInt (x := v)
        refine ⟨Or.inl ⟨trivial, ?_⟩, (List.tail_suffix _).trans (List.tail_suffix _), (vaInt_some hv).1⟩
        unfold INT_MAX
        subst hp
        split <;> omega
    · simp only [hst, if_false, Option.map_some, Option.some.injEq] at h ⊢
      obtain ⟨hp, rfl, rfl⟩ := signStep_eq h
      exact ⟨Or.inr ⟨_, rfl, hp⟩, (skipDigits_suffix _).trans (List.tail_suffix _), List.suffix_refl _⟩
  · simp only [hdot, if_false, Option.map_some, Option.some.injEq] at h ⊢
    obtain ⟨hp, rfl, rfl⟩ := signStep_eq h
    exact ⟨Or.inr ⟨_, rfl, hp⟩, skipDigits_suffix _, List.suffix_refl _⟩

theorem ite_fst_suffix {c : Prop} [Decidable c] {a b : List Char × Ops} {s : List Char}
    (ha : a.1 <:+ s) (hb : b.1 <:+ s) : (if c then a else b).1 <:+ s := by
  split <;> assumption

theorem getLen_suffix (s : List Char) (ops : Ops) : (getLen s ops).1 <:+ s := by
  have t1 : ∀ o : Ops, (s.tail, o).1 <:+ s := fun _ => List.tail_suffix s
  have t2 : ∀ o : Ops, (s.tail.tail, o).1 <:+ s := fun _ => (List.tail_suffix _).trans (List.tail_suffix s)
  unfold getLen
  exact ite_fst_suffix (ite_fst_suffix (t1 _) (t2 _)) <| ite_fst_suffix (ite_fst_suffix (t1 _) (t2 _)) <|
    ite_fst_suffix (t1 _) <| ite_fst_suffix (t1 _) <| ite_fst_suffix (t1 _) <| ite_fst_suffix (t1 _)
      (List.suffix_refl s)

theorem vaInt_map_suffix {g : BitVec 32 × List Arg → BitVec 64 × List Arg} (hg : ∀ q, (g q).2 = q.2)
    {args : List Arg} {u : BitVec 64} {as : List Arg} (h : (vaInt args).map g = some (u, as)) : as <:+ args := by
  cases hv : vaInt args with
  | none => rw [hv] at h; cases h
  | some q =>
    rw [hv, Option.map_some, Option.some.injEq] at h
    have has : as = q.2 := by rw [← hg q, h]
    exact has ▸ (vaInt_some hv).1

theorem fetchSigned_suffix {len : Len} {args : List Arg} {u : BitVec 64} {as : List Arg}
    (h : fetchSigned len args = some (u, as)) : as <:+ args := by
  unfold fetchSigned at h
  split at h
  all_goals first | exact vaLong_suffix h | exact vaInt_map_suffix (fun _ => rfl) h

theorem fetchUnsigned_suffix {len : Len} {args : List Arg} {u : BitVec 64} {as : List Arg}
    (h : fetchUnsigned len args = some (u, as)) : as <:+ args := by
  unfold fetchUnsigned at h
  split at h
  all_goals first | exact vaLong_suffix h | exact vaInt_map_suffix (fun _ => rfl) h

theorem directive_eq (begin : List Char) (args : List Arg) :
    directive begin args = (match parseOpts begin args with
      | none => .badarg
      | some (w, p, s, a, ops) => convert begin s a w p ops) := by
  unfold directive parseOpts
  simp only
  cases getWidth (flagsLoop begin.tail {}).1 args (flagsLoop begin.tail {}).2 with
  | none => rfl
  | some q =>
    obtain ⟨w, s, a, o⟩ := q
    simp only
    cases getPrec s a o with
    | none => rfl
    | some r => rfl

theorem parseOpts_some {begin : List Char} {args : List Arg} {w p : Int} {s : List Char} {a : List Arg} {ops : Ops}
    (h : parseOpts begin args = some (w, p, s, a, ops)) :
    ∃ s1 a1 o1 s2 o2, getWidth (flagsLoop begin.tail {}).1 args (flagsLoop begin.tail {}).2 = some (w, s1, a1, o1) ∧
      getPrec s1 a1 o1 = some (p, s2, a, o2) ∧ getLen s2 o2 = (s, ops) := by
  unfold parseOpts at h
  simp only at h
  cases hw : getWidth (flagsLoop begin.tail {}).1 args (flagsLoop begin.tail {}).2 with
  | none => simp [hw] at h
  | some qw =>
    obtain ⟨w1, s1, a1, o1⟩ := qw
    simp only [hw] at h
    cases hp : getPrec s1 a1 o1 with
    | none => simp [hp] at h
    | some qp =>
      obtain ⟨p1, s2, a2, o2⟩ := qp
      simp only [hp, Option.some.injEq, Prod.mk.injEq] at h
      obtain ⟨rfl, rfl, hs, rfl, ho⟩ := h
      exact ⟨s1, a1, o1, s2, o2, rfl, hp, Prod.ext hs ho⟩

theorem parseOpts_suffix {begin : List Char} {args : List Arg} {w p : Int} {s : List Char} {a : List Arg} {ops : Ops}
    (h : parseOpts begin args = some (w, p, s, a, ops)) : s <:+ begin.tail ∧ a <:+ args := by
  obtain ⟨s1, a1, o1, s2, o2, hw, hp, hl⟩ := parseOpts_some h
  obtain ⟨_, hw1, hw2⟩ := getWidth_some hw
  obtain ⟨_, hp1, hp2⟩ := getPrec_some hp
  have hs : s = (getLen s2 o2).1 := by rw [hl]
  exact ⟨hs ▸ (getLen_suffix s2 o2).trans (hp1.trans (hw1.trans (flagsLoop_suffix begin.tail {}))), hp2.trans hw2⟩

/-! ### "handle specifier" by the case of its `switch` -/

/-- the case label `switch (*format)` jumps to -/
inductive ConvCase
  | percent | signed | unsigned | unsupported | char | string | pointer | other
  deriving DecidableEq

def convCase (c : Char) : ConvCase :=
  if c = '%' then .percent
  else if c = 'd' || c = 'i' then .signed
  else if c = 'u' || c = 'o' || c = 'x' || c = 'X' then .unsigned
  else if c = 'f' || c = 'F' || c = 'e' || c = 'E' || c = 'g' || c = 'G' || c = 'a' || c = 'A' || c = 'n' then
    .unsupported
  else if c = 'c' then .char
  else if c = 's' then .string
  else if c = 'p' then .pointer
  else .other

theorem ite_convCase {β : Sort u} (c : Char) (a1 a2 a3 a4 a5 a6 a7 a8 : β) :
    (if c = '%' then a1
     else if c = 'd' || c = 'i' then a2
     else if c = 'u' || c = 'o' || c = 'x' || c = 'X' then a3
     else if c = 'f' || c = 'F' || c = 'e' || c = 'E' || c = 'g' || c = 'G' || c = 'a' || c = 'A' || c = 'n' then a4
     else if c = 'c' then a5
     else if c = 's' then a6
     else if c = 'p' then a7
     else a8) =
      match convCase c with
      | .percent => a1
      | .signed => a2
      | .unsigned => a3
      | .unsupported => a4
      | .char => a5
      | .string => a6
      | .pointer => a7
      | .other => a8 := by
  -- `split` on this chain is ten times as dear as `by_cases` on its conditions
  unfold convCase
  by_cases h1 : c = '%'
  · simp only [if_pos h1]
  simp only [if_neg h1]
  by_cases h2 : (decide (c = 'd') || decide (c = 'i')) = true
  · simp only [if_pos h2]
  simp only [if_neg h2]
  by_cases h3 : (decide (c = 'u') || decide (c = 'o') || decide (c = 'x') || decide (c = 'X')) = true
  · simp only [if_pos h3]
  simp only [if_neg h3]
  by_cases h4 : (decide (c = 'f') || decide (c = 'F') || decide (c = 'e') || decide (c = 'E') ||
      decide (c = 'g') || decide (c = 'G') || decide (c = 'a') || decide (c = 'A') ||
      decide (c = 'n')) = true
  · simp only [if_pos h4]
  simp only [if_neg h4]
  by_cases h5 : c = 'c'
  · simp only [if_pos h5]
  simp only [if_neg h5]
  by_cases h6 : c = 's'
  · simp only [if_pos h6]
  simp only [if_neg h6]
  by_cases h7 : c = 'p'
  · simp only [if_pos h7]
  simp only [if_neg h7]

theorem ite_convCase_fallthrough {β : Sort u} (c : Char) (a1 a2 a3 a5 a6 a7 a8 : β) :
    (if c = '%' then a1
     else if c = 'd' || c = 'i' then a2
     else if c = 'u' || c = 'o' || c = 'x' || c = 'X' then a3
     else if c = 'c' then a5
     else if c = 's' then a6
     else if c = 'p' then a7
     else a8) =
      match convCase c with
      | .percent => a1
      | .signed => a2
      | .unsigned => a3
      | .unsupported => a8
      | .char => a5
      | .string => a6
      | .pointer => a7
      | .other => a8 := by
  have h : (if c = 'f' || c = 'F' || c = 'e' || c = 'E' || c = 'g' || c = 'G' || c = 'a' || c = 'A' || c = 'n' then a8
      else if c = 'c' then a5 else if c = 's' then a6 else if c = 'p' then a7 else a8)
      = if c = 'c' then a5 else if c = 's' then a6 else if c = 'p' then a7 else a8 :=
    ite_eq_right_iff.mpr fun h => by
      simp only [Bool.or_eq_true, decide_eq_true_eq] at h
      rcases h with (((((((rfl | rfl) | rfl) | rfl) | rfl) | rfl) | rfl) | rfl) | rfl <;> rfl
  rw [← ite_convCase, h]

theorem convCase_inv (c : Char) :
    match convCase c with
    | .percent => c = '%'
    | .signed => c = 'd' ∨ c = 'i'
    | .unsigned => c = 'u' ∨ c = 'o' ∨ c = 'x' ∨ c = 'X'
    | .char => c = 'c'
    | .string => c = 's'
    | .pointer => c = 'p'
    | .unsupported | .other => True := by
  unfold convCase
  by_cases h1 : c = '%'
  · simp only [if_pos h1]; exact h1
  simp only [if_neg h1]
  by_cases h2 : (decide (c = 'd') || decide (c = 'i')) = true
  · simp only [if_pos h2]; simpa using h2
  simp only [if_neg h2]
  by_cases h3 : (decide (c = 'u') || decide (c = 'o') || decide (c = 'x') || decide (c = 'X')) = true
  · simp only [if_pos h3]; simpa [or_assoc] using h3
  simp only [if_neg h3]
  by_cases h4 : (decide (c = 'f') || decide (c = 'F') || decide (c = 'e') || decide (c = 'E') ||
      decide (c = 'g') || decide (c = 'G') || decide (c = 'a') || decide (c = 'A') ||
      decide (c = 'n')) = true
  · simp only [if_pos h4]
  simp only [if_neg h4]
  by_cases h5 : c = 'c'
  · simp only [if_pos h5]; exact h5
  simp only [if_neg h5]
  by_cases h6 : c = 's'
  · simp only [if_pos h6]; exact h6
  simp only [if_neg h6]
  by_cases h7 : c = 'p'
  · simp only [if_pos h7]; exact h7
  simp only [if_neg h7]

theorem convCase_signed {c : Char} (h : (decide (c = 'd') || decide (c = 'i')) = true) : convCase c = .signed := by
  simp only [Bool.or_eq_true, decide_eq_true_eq] at h
  rcases h with rfl | rfl <;> rfl

theorem convCase_unsigned {c : Char}
    (h : (decide (c = 'u') || decide (c = 'o') || decide (c = 'x') || decide (c = 'X')) = true) :
    convCase c = .unsigned := by
  simp only [Bool.or_eq_true, decide_eq_true_eq] at h
  rcases h with ((rfl | rfl) | rfl) | rfl <;> rfl

/-- `ops |= isupper(c) ? OPS_SPEC_UPPER_CASE : 0` -/
def withUpper (c : Char) (ops : Ops) : Ops := if c.isUpper then { ops with upper := true } else ops

theorem withUpper_eq (c : Char) (ops : Ops) (h : ops.upper = false) :
    withUpper c ops = { ops with upper := c.isUpper } := by
  cases ops
  simp only at h
  subst h
  cases hc : c.isUpper <;> simp [withUpper, hc]

/-- how the branches that call print_i / print_s end (`fin` in `convert`) -/
def Step.ofPrint (s : List Char) (r : Option (List Char × Int)) (args : List Arg) : Step :=
  match r with
  | none => .fault
  | some (out, pc) => .ok out pc s.tail args

theorem Step.ofPrint_ok {s : List Char} {r : Option (List Char × Int)} {args : List Arg}
    {emit : List Char} {pc : Int} {rest : List Char} {args' : List Arg}
    (h : Step.ofPrint s r args = .ok emit pc rest args') : r = some (emit, pc) ∧ rest = s.tail ∧ args' = args := by
  unfold Step.ofPrint at h
  split at h
  · cases h
  · cases h; simp

theorem Step.ofPrint_some {s : List Char} {r : Option (List Char × Int)} {args : List Arg} {out : List Char} {pc : Int}
    (h : r = some (out, pc)) : Step.ofPrint s r args = .ok out pc s.tail args := by subst h; rfl

theorem convert_eq (begin s : List Char) (args : List Arg) (w p : Int) (ops : Ops) :
    convert begin s args w p ops =
      match convCase (hd s) with
      | .percent => .ok ['%'] 1 s.tail args
      | .signed =>
        match fetchSigned (withUpper (hd s) ops).len args with
        | none => .badarg
        | some (u, args) => .ofPrint s (printI u true w p (withUpper (hd s) ops) 10) args
      | .unsigned =>
        match fetchUnsigned (withUpper (hd s) ops).len args with
        | none => .badarg
        | some (u, args) =>
          .ofPrint s (printI u false w p (withUpper (hd s) ops)
            (if hd s = 'u' then 10 else if hd s = 'o' then 8 else 16)) args
      | .unsupported => .unsupported
      | .char =>
        match vaInt args with
        | none => .badarg
        | some (v, args) =>
          .ofPrint s (printS [Char.ofNat (v.toNat % 256), NUL] w p { withUpper (hd s) ops with chr := true }) args
      | .string =>
        match args with
        | .str mem :: args => .ofPrint s (printS mem w p (withUpper (hd s) ops)) args
        | .null :: args => .ofPrint s (printS PRINT_S_NULL_STR w p (withUpper (hd s) ops)) args
        | _ => .badarg
      | .pointer =>
        match args with
        | .ptr v :: args =>
          .ofPrint s (printI v false w 16 { withUpper (hd s) ops with spec := true, prec := true, ptr := true } 16) args
        | _ => .badarg
      | .other =>
        .ok (begin.take (begin.length - (if hd s = NUL then s else s.tail).length))
          (begin.length - (if hd s = NUL then s else s.tail).length : Nat) (if hd s = NUL then s else s.tail) args := by
  unfold convert
  exact ite_convCase (hd s) ..

theorem convert_ok {begin s : List Char} {args : List Arg} {w p : Int} {ops : Ops}
    {emit : List Char} {pc : Int} {rest : List Char} {args' : List Arg}
    (h : convert begin s args w p ops = .ok emit pc rest args') :
    pc = emit.length ∧ rest <:+ s ∧ args' <:+ args := by
  rw [convert_eq] at h
  cases hk : convCase (hd s) <;> rw [hk] at h <;> simp only at h
  case percent => cases h; exact ⟨rfl, List.tail_suffix _, List.suffix_refl _⟩
  case signed =>
    cases hf : fetchSigned (withUpper (hd s) ops).len args with
    | none => rw [hf] at h; cases h
    | some q =>
      rw [hf] at h
      obtain ⟨h1, rfl, rfl⟩ := Step.ofPrint_ok h
      exact ⟨printI_count h1, List.tail_suffix _, fetchSigned_suffix hf⟩
  case unsigned =>
    cases hf : fetchUnsigned (withUpper (hd s) ops).len args with
    | none => rw [hf] at h; cases h
    | some q =>
      rw [hf] at h
      obtain ⟨h1, rfl, rfl⟩ := Step.ofPrint_ok h
      exact ⟨printI_count h1, List.tail_suffix _, fetchUnsigned_suffix hf⟩
  case unsupported => cases h
  case char =>
    cases hf : vaInt args with
    | none => rw [hf] at h; cases h
    | some q =>
      rw [hf] at h
      obtain ⟨h1, rfl, rfl⟩ := Step.ofPrint_ok h
      exact ⟨printS_count h1, List.tail_suffix _, (vaInt_some hf).1⟩
  case string =>
    split at h
    · obtain ⟨h1, rfl, rfl⟩ := Step.ofPrint_ok h
      exact ⟨printS_count h1, List.tail_suffix _, List.suffix_cons _ _⟩
    · obtain ⟨h1, rfl, rfl⟩ := Step.ofPrint_ok h
      exact ⟨printS_count h1, List.tail_suffix _, List.suffix_cons _ _⟩
    · cases h
  case pointer =>
    split at h
    · obtain ⟨h1, rfl, rfl⟩ := Step.ofPrint_ok h
      exact ⟨printI_count h1, List.tail_suffix _, List.suffix_cons _ _⟩
    · cases h
  case other =>
    cases h
    refine ⟨by simp [List.length_take], ?_, List.suffix_refl _⟩
    split
    · exact List.suffix_refl _
    · exact List.tail_suffix _

theorem directive_ok {begin : List Char} {args : List Arg}
    {emit : List Char} {pc : Int} {rest : List Char} {args' : List Arg}
    (h : directive begin args = .ok emit pc rest args') :
    pc = emit.length ∧ rest <:+ begin.tail ∧ args' <:+ args := by
  rw [directive_eq] at h
  cases hpo : parseOpts begin args with
  | none => rw [hpo] at h; cases h
  | some q =>
    obtain ⟨w, p, s, a, o⟩ := q
    rw [hpo] at h
    obtain ⟨hc, h1, h2⟩ := convert_ok h
    obtain ⟨h3, h4⟩ := parseOpts_suffix hpo
    exact ⟨hc, h1.trans h3, h2.trans h4⟩

theorem loop_appends (fuel : Nat) (fmt : List Char) (args : List Arg) (out : List Char) (pc : Int)
    (out' : List Char) (pc' : Int) (h : loop fuel fmt args out pc = .done out' pc') :
    ∃ e : List Char, out' = out ++ e ∧ pc' = pc + e.length := by
  fun_induction loop fuel fmt args out pc with
  | case1 | case3 => cases h; exact ⟨[], by simp, by simp⟩
  | case4 _ c _ _ _ _ _ _ ih =>
    obtain ⟨e, rfl, rfl⟩ := ih h
    exact ⟨c :: e, by simp, by simp; omega⟩
  | case5 _ _ _ _ _ _ _ _ emit _ _ _ hd ih =>
    obtain ⟨e, rfl, rfl⟩ := ih h
    exact ⟨emit ++ e, by simp, by rw [(directive_ok hd).1]; simp; omega⟩
  | case2 | case6 | case7 | case8 => cases h

theorem loop_no_diverge (fuel : Nat) (fmt : List Char) (args : List Arg) (out : List Char) (pc : Int)
    (h1 : fmt.length < fuel) : loop fuel fmt args out pc ≠ .diverged := by
  fun_induction loop fuel fmt args out pc with
  | case2 => simp at h1
  | case4 _ _ _ _ _ _ _ _ ih => exact ih (by simp at h1; omega)
  | case5 _ _ _ _ _ _ _ _ _ _ _ _ hd ih =>
    have := (directive_ok hd).2.1.length_le
    exact ih (by simp at h1 this; omega)
  | case1 | case3 | case6 | case7 | case8 => simp

theorem loop_fuel (f1 f2 : Nat) (fmt : List Char) (args : List Arg) (out : List Char) (pc : Int)
    (h1 : fmt.length < f1) (h2 : fmt.length < f2) :
    loop f1 fmt args out pc = loop f2 fmt args out pc := by
  fun_induction loop f1 fmt args out pc generalizing f2 with
  | case1 => simp [loop]
  | case2 => simp at h1
  | case3 => cases f2 <;> simp [loop] at h2 ⊢
  | case4 f1 c cs args out pc hn hp ih =>
    cases f2 with
    | zero => simp at h2
    | succ f2 => simp only [loop, if_neg hn, if_pos hp]; exact ih f2 (by simp at h1; omega) (by simp at h2; omega)
  | case5 f1 c cs args out pc hn hp emit dpc rest args' hd ih =>
    cases f2 with
    | zero => simp at h2
    | succ f2 =>
      have := (directive_ok hd).2.1.length_le
      simp only [loop, if_neg hn, if_neg hp, hd]
      exact ih f2 (by simp at h1 this; omega) (by simp at h2 this; omega)
  | case6 f1 c cs args out pc hn hp hd | case7 f1 c cs args out pc hn hp hd | case8 f1 c cs args out pc hn hp hd =>
    cases f2 with
    | zero => simp at h2
    | succ f2 => simp only [loop, if_neg hn, if_neg hp, hd]

end Igris.C06
