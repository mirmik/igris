/- The call of print_i that `printICall` names for a directive is the call `directive` makes, and behind `intGuard`
   its width and precision are nonnegative `int`s. -/
import IgrisModel.C06.LemPrintfN
namespace Igris.C06

theorem parseOpts_int_range {begin : List Char} {args : List Arg} {w p : Int} {s : List Char} {a : List Arg} {ops : Ops}
    (hg : intGuard begin args = false) (h : parseOpts begin args = some (w, p, s, a, ops)) :
    0 ≤ w ∧ w ≤ INT_MAX ∧ 0 ≤ p ∧ p ≤ INT_MAX := by
  obtain ⟨s1, a1, o1, s2, o2, hw, hp, _⟩ := parseOpts_some h
  unfold intGuard at hg
  simp only [hw] at hg
  obtain ⟨⟨rw, hrw, hw2⟩, _⟩ := getWidth_some hw
  simp only [hrw, Bool.or_eq_false_iff, decide_eq_false_iff_not] at hg
  obtain ⟨hg1, hg2⟩ := hg
  unfold INT_MAX at hg1 hg2 ⊢
  have hwr : 0 ≤ w ∧ w ≤ 2147483647 := by subst hw2; split <;> omega
  rcases (getPrec_some hp).1 with ⟨hn, h0, h1⟩ | ⟨rp, hrp, hp2⟩
  · exact ⟨hwr.1, hwr.2, h0, h1⟩
  · simp only [hrp, decide_eq_false_iff_not] at hg2
    have hpr : 0 ≤ p ∧ p ≤ 2147483647 := by subst hp2; split <;> omega
    exact ⟨hwr.1, hwr.2, hpr⟩

/-- `m = 16` is the `p` conversion, which passes 16 as print_i's minimal length -/
theorem printICall_spec {begin : List Char} {args : List Arg} {u : BitVec 64} {sg : Bool} {w m : Int}
    {ops : Ops} {base : Nat} (hc : printICall begin args = some (u, sg, w, m, ops, base)) :
    ∃ p s a o, parseOpts begin args = some (w, p, s, a, o) ∧ (m = p ∨ m = 16) ∧
      ∀ emit dpc rest args', convert begin s a w p o = .ok emit dpc rest args' →
        printI u sg w m ops base = some (emit, dpc) := by
  unfold printICall at hc
  cases hpo : parseOpts begin args with
  | none => simp [hpo] at hc
  | some q =>
    obtain ⟨w1, p1, s, a, o⟩ := q
    simp only [hpo] at hc
    refine ⟨p1, s, a, o, ?_⟩
    -- `printICall` and `convert` branch on the same character and fetch the same argument
    by_cases hdi : (decide (hd s = 'd') || decide (hd s = 'i')) = true
    · rw [if_pos hdi] at hc
      obtain ⟨r, hf, hc⟩ := Option.map_eq_some_iff.mp hc
      simp only [Prod.mk.injEq] at hc
      obtain ⟨rfl, rfl, rfl, rfl, rfl, rfl⟩ := hc
      refine ⟨rfl, Or.inl rfl, ?_⟩
      intro emit dpc rest args' hcv
      rw [convert_eq, convCase_signed hdi] at hcv
      simp only [withUpper, hf] at hcv
      exact (Step.ofPrint_ok hcv).1
    rw [if_neg hdi] at hc
    by_cases hux : (decide (hd s = 'u') || decide (hd s = 'o') || decide (hd s = 'x') || decide (hd s = 'X')) = true
    · rw [if_pos hux] at hc
      obtain ⟨r, hf, hc⟩ := Option.map_eq_some_iff.mp hc
      simp only [Prod.mk.injEq] at hc
      obtain ⟨rfl, rfl, rfl, rfl, rfl, rfl⟩ := hc
      refine ⟨rfl, Or.inl rfl, ?_⟩
      intro emit dpc rest args' hcv
      rw [convert_eq, convCase_unsigned hux] at hcv
      simp only [withUpper, hf] at hcv
      exact (Step.ofPrint_ok hcv).1
    rw [if_neg hux] at hc
    by_cases hp : hd s = 'p'
    · rw [if_pos hp] at hc
      split at hc
      · simp only [Option.some.injEq, Prod.mk.injEq] at hc
        obtain ⟨rfl, rfl, rfl, rfl, rfl, rfl⟩ := hc
        refine ⟨rfl, Or.inr rfl, ?_⟩
        intro emit dpc rest args' hcv
        rw [convert_eq, hp, show convCase 'p' = .pointer from rfl] at hcv
        simp only [withUpper] at hcv
        rw [hp]
        exact (Step.ofPrint_ok hcv).1
      · cases hc
    · rw [if_neg hp] at hc; cases hc

/-- the call `printICall` names is the call `directive` makes: what print_i returns is what the pass emits -/
theorem directive_printICall {begin : List Char} {args : List Arg} {u : BitVec 64} {sg : Bool} {w m : Int}
    {ops : Ops} {base : Nat} {emit : List Char} {dpc : Int} {rest : List Char} {args' : List Arg}
    (hc : printICall begin args = some (u, sg, w, m, ops, base))
    (hdir : directive begin args = .ok emit dpc rest args') :
    printI u sg w m ops base = some (emit, dpc) ∧
      ∃ p s a o, parseOpts begin args = some (w, p, s, a, o) ∧ (m = p ∨ m = 16) := by
  obtain ⟨p, s, a, o, hpo, hm, hcall⟩ := printICall_spec hc
  rw [directive_eq, hpo] at hdir
  exact ⟨hcall _ _ _ _ hdir, p, s, a, o, hpo, hm⟩

end Igris.C06
