/- `printfN`, the layer with `%n` and the C `int` arithmetic, against the unbounded `printf`. -/
import IgrisModel.C06.LemCount
namespace Igris.C06

theorem directiveN_ok {begin : List Char} {args : List Arg} {emit : List Char} {dpc : Int} {rest : List Char}
    {args' : List Arg} {store : Option (BitVec 64 × Nat)}
    (h : directiveN begin args = .ok emit dpc rest args' store) :
    dpc = emit.length ∧ rest.length ≤ begin.tail.length ∧
      (store = none → directive begin args = .ok emit dpc rest args') ∧
      (store ≠ none → emit = []) := by
  unfold directiveN at h
  split at h
  · cases h
  split at h
  · cases h
  · rename_i w p s a' ops hpo
    have hl := (parseOpts_suffix hpo).1.length_le
    split at h
    · split at h
      · cases h
        refine ⟨by simp, ?_, by simp, by simp⟩
        have : s.tail.length ≤ s.length := by simp
        omega
      · cases h
    · split at h
      · rename_i e d r a hd
        cases h
        obtain ⟨h1, h2, _⟩ := directive_ok hd
        exact ⟨h1, h2.length_le, fun _ => hd, by simp⟩
      all_goals cases h

theorem stores_append {st : List NStore} {out : List Char}
    (hs : ∀ s ∈ st, s.pc = s.emitted ∧ s.emitted ≤ out.length) (e : List Char) :
    ∀ s ∈ st, s.pc = s.emitted ∧ s.emitted ≤ (out ++ e).length :=
  fun s hm => ⟨(hs s hm).1, by have := (hs s hm).2; simp; omega⟩

theorem loopN_inv (fuel : Nat) (fmt : List Char) (args : List Arg) (out : List Char) (pc : Int) (st : List NStore)
    (out' : List Char) (pc' : Int) (st' : List NStore)
    (h0 : pc = out.length) (hb : pc ≤ INT_MAX)
    (hs : ∀ s ∈ st, s.pc = s.emitted ∧ s.emitted ≤ out.length)
    (h : loopN fuel fmt args out pc st = .done out' pc' st') :
    pc' = out'.length ∧ pc' ≤ INT_MAX ∧ (∀ s ∈ st', s.pc = s.emitted ∧ s.emitted ≤ out'.length) ∧
      out.length ≤ out'.length := by
  fun_induction loopN fuel fmt args out pc st with
  | case1 | case3 => cases h; exact ⟨h0, hb, hs, Nat.le_refl _⟩
  | case5 _ c _ _ out _ _ _ _ _ ih =>
    obtain ⟨a, b, c', d⟩ := ih (by simp; omega) (by omega) (stores_append hs [c]) h
    exact ⟨a, b, c', by simp at d; omega⟩
  | case7 _ _ _ _ out pc st _ _ emit dpc _ _ store hd _ ih =>
    have hc := (directiveN_ok hd).1
    refine (ih (by simp; omega) (by omega) ?_ h).imp_right fun x => x.imp_right fun y => y.imp_right fun d => by
      simp at d; omega
    -- the stores so far, and the one this pass appends, hold the count of their moment
    intro s hm
    cases store with
    | none => exact stores_append hs emit s hm
    | some q =>
      simp only [List.mem_append, List.mem_singleton] at hm
      rcases hm with hm | hm
      · exact stores_append hs emit s hm
      · subst hm; exact ⟨h0, by simp⟩
  | case2 | case4 | case6 | case8 | case9 | case10 | case11 => cases h

/-- `st'.length = st.length`: no `n` conversion was executed -/
theorem loopN_stores (fuel : Nat) (fmt : List Char) (args : List Arg) (out : List Char) (pc : Int)
    (st : List NStore) (out' : List Char) (pc' : Int) (st' : List NStore)
    (h : loopN fuel fmt args out pc st = .done out' pc' st') :
    st.length ≤ st'.length ∧ (st'.length = st.length → loop fuel fmt args out pc = .done out' pc') := by
  fun_induction loopN fuel fmt args out pc st with
  | case1 | case3 => cases h; simp [loop]
  | case5 _ _ _ _ _ _ _ hn hp _ ih => simpa only [loop, if_neg hn, if_pos hp] using ih h
  | case7 _ _ _ _ _ _ _ hn hp _ _ _ _ store hd _ ih =>
    obtain ⟨h1, h2⟩ := ih h
    cases store with
    | none => simpa only [loop, if_neg hn, if_neg hp, (directiveN_ok hd).2.2.1 rfl] using And.intro h1 h2
    | some q => simp at h1; exact ⟨by omega, fun he => by omega⟩  -- a store was appended
  | case2 | case4 | case6 | case8 | case9 | case10 | case11 => cases h

theorem directiveN_of_directive {begin : List Char} {args : List Arg} {emit : List Char} {dpc : Int}
    {rest : List Char} {args' : List Arg} (hd : directive begin args = .ok emit dpc rest args') :
    directiveN begin args = if intGuard begin args then .intovf else .ok emit dpc rest args' none := by
  unfold directiveN
  split
  · rfl
  · have hd' := hd
    rw [directive_eq] at hd'
    cases hpo : parseOpts begin args with
    | none => simp [hpo] at hd'
    | some q =>
      obtain ⟨w, p, s, a', ops⟩ := q
      simp only [hpo] at hd' ⊢
      split
      · rename_i hn
        -- `convert` answers `unsupported` for n
        rw [convert_eq, hn, show convCase 'n' = .unsupported from rfl] at hd'
        cases hd'
      · simp only [hd]

/-- `pc` only grows (`loop_appends`), so the bound on the final count `pc'` decides the overflow test of every pass -/
theorem loop_loopN (fuel : Nat) (fmt : List Char) (args : List Arg) (out : List Char) (pc : Int)
    (st : List NStore) (out' : List Char) (pc' : Int) (hpc : pc ≤ INT_MAX)
    (h : loop fuel fmt args out pc = .done out' pc') :
    loopN fuel fmt args out pc st =
      if guardFree fuel fmt args = true ∧ pc' ≤ INT_MAX then .done out' pc' st else .intovf := by
  fun_induction loop fuel fmt args out pc with
  | case1 | case3 => cases h; simp [loopN, guardFree, hpc]
  | case4 _ _ _ _ _ pc hn hp ih =>
    obtain ⟨e, _, hgrow⟩ := loop_appends _ _ _ _ _ _ _ h
    simp only [loopN, guardFree, if_neg hn, if_pos hp]
    by_cases hb : pc + 1 > INT_MAX
    · rw [if_pos hb, if_neg (by omega)]
    · rw [if_neg hb]; exact ih (by omega) h
  | case5 _ c cs args _ pc hn hp _ dpc _ _ hd ih =>
    obtain ⟨e, _, hgrow⟩ := loop_appends _ _ _ _ _ _ _ h
    simp only [loopN, guardFree, if_neg hn, if_neg hp, directiveN_of_directive hd, hd]
    cases intGuard (c :: cs) args
    · simp only [Bool.false_eq_true, if_false, Bool.not_false, Bool.true_and]
      by_cases hb : pc + dpc > INT_MAX
      · rw [if_pos hb, if_neg (by omega)]
      · rw [if_neg hb]; exact ih (by omega) h
    · simp
  | case2 | case6 | case7 | case8 => cases h

theorem loopN_no_diverge (fuel : Nat) (fmt : List Char) (args : List Arg) (out : List Char) (pc : Int)
    (st : List NStore) (h1 : fmt.length < fuel) : loopN fuel fmt args out pc st ≠ .diverged := by
  fun_induction loopN fuel fmt args out pc st with
  | case2 => simp at h1
  | case5 _ _ _ _ _ _ _ _ _ _ ih => exact ih (by simp at h1; omega)
  | case7 _ _ _ _ _ _ _ _ _ _ _ _ _ _ hd _ ih =>
    have := (directiveN_ok hd).2.1
    exact ih (by simp at h1 this; omega)
  | case1 | case3 | case4 | case6 | case8 | case9 | case10 | case11 => simp

end Igris.C06
