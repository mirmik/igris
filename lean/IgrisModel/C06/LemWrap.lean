/- The callbacks of sprintf.c (`sprint_printchar`, `snprint_printchar`) folded over the characters `__printf` emits: after
   every store the destination is what has been written so far (`T`) in front of its old bytes. -/
import IgrisModel.C06.Model
namespace Igris.C06

theorem set_drop (T mem : List Char) (c : Char) (h : T.length < mem.length) :
    (T ++ mem.drop T.length).set T.length c = (T ++ [c]) ++ mem.drop (T ++ [c]).length := by
  rw [List.drop_eq_getElem_cons h, List.set_append_right _ _ (Nat.le_refl _), Nat.sub_self, List.set_cons_zero]
  simp

theorem length_written (T mem : List Char) (h : T.length ≤ mem.length) :
    (T ++ mem.drop T.length).length = mem.length := by
  simp; omega

theorem drop_after_term (T mem : List Char) (c n : Nat) (hT : T.length = c) (hc : c + 1 ≤ n) :
    (T ++ NUL :: mem.drop (c + 1)).drop n = mem.drop n := by
  obtain ⟨j, rfl⟩ : ∃ j, n = T.length + (j + 1) := ⟨n - c - 1, by omega⟩
  rw [List.drop_length_add_append, List.drop_succ_cons, List.drop_drop]
  congr 1
  omega

theorem foldl_snPut_none (out : List Char) : out.foldl snPut none = none := by
  induction out with
  | nil => rfl
  | cons c cs ih => simpa [snPut] using ih

theorem foldl_sprintPut_none (out : List Char) : out.foldl sprintPut none = none := by
  induction out with
  | nil => rfl
  | cons c cs ih => simpa [sprintPut] using ih

theorem foldl_sprintPut (out T mem : List Char) (hT : T.length ≤ mem.length) :
    out.foldl sprintPut (some { mem := T ++ mem.drop T.length, cursor := T.length })
      = if (T ++ out).length ≤ mem.length
        then some { mem := (T ++ out) ++ mem.drop (T ++ out).length, cursor := (T ++ out).length } else none := by
  induction out generalizing T with
  | nil => simp [hT]
  | cons c cs ih =>
    rw [List.foldl_cons]
    by_cases h : T.length < mem.length
    · simp only [sprintPut, length_written T mem hT, h, if_true, set_drop T mem c h]
      simpa using ih (T ++ [c]) (by simp; omega)
    · simp only [sprintPut, length_written T mem hT, h, if_false, foldl_sprintPut_none]
      rw [if_neg (by simp; omega)]

theorem foldl_snPut (out T mem : List Char) (r : Nat) (h : T.length + r ≤ mem.length) :
    out.foldl snPut (some { mem := T ++ mem.drop T.length, cursor := T.length, room := r })
      = some { mem := (T ++ out.take r) ++ mem.drop (T ++ out.take r).length, cursor := (T ++ out.take r).length,
               room := r - out.length } := by
  induction out generalizing T r with
  | nil => simp
  | cons c cs ih =>
    rw [List.foldl_cons]
    cases r with
    | zero => simpa [snPut] using ih T 0 h
    | succ r =>
      have hlt : T.length < mem.length := by omega
      simp only [snPut, ne_eq, Nat.add_one_ne_zero, not_false_eq_true, if_true, length_written T mem (by omega), hlt,
        set_drop T mem c hlt]
      simpa using ih (T ++ [c]) r (by simp; omega)

theorem vsnprintf_done (mem : List Char) (n : Nat) (fmt : List Char) (args : List Arg) (out : List Char) (pc : Int)
    (h : printf fmt args = .done out pc) (hn : n ≤ mem.length) :
    vsnprintf mem n fmt args
      = some (if n = 0 then mem else out.take (n - 1) ++ NUL :: mem.drop (min (n - 1) out.length + 1), pc) := by
  unfold vsnprintf
  rw [h]
  have hf := foldl_snPut out [] mem (if n ≠ 0 then n - 1 else 0) (by simp; split <;> omega)
  simp only [List.nil_append, List.length_nil, List.drop_zero] at hf
  simp only [hf]
  cases n with
  | zero => simp
  | succ k =>
    have hk : (out.take k).length < mem.length := by simp [List.length_take]; omega
    simp only [ne_eq, Nat.add_one_ne_zero, not_false_eq_true, if_true, if_false, Nat.add_sub_cancel,
      length_written _ mem (Nat.le_of_lt hk), hk, set_drop _ mem NUL hk]
    simp [List.length_take]

theorem vsprintfMem_done (mem : List Char) (fmt : List Char) (args : List Arg) (out : List Char) (pc : Int)
    (h : printf fmt args = .done out pc) :
    vsprintfMem mem fmt args
      = if out.length < mem.length then some (out ++ NUL :: mem.drop (out.length + 1), pc) else none := by
  unfold vsprintfMem
  rw [h]
  have hf := foldl_sprintPut out [] mem (Nat.zero_le _)
  simp only [List.nil_append, List.length_nil, List.drop_zero] at hf
  simp only [hf]
  by_cases hlt : out.length < mem.length
  · rw [if_pos (by omega), if_pos hlt]
    simp only [length_written out mem (Nat.le_of_lt hlt), hlt, if_true, set_drop out mem NUL hlt]
    simp
  · rw [if_neg hlt]
    by_cases heq : out.length ≤ mem.length
    · rw [if_pos heq]
      simp only [length_written out mem heq, hlt, if_false]
    · rw [if_neg heq]

end Igris.C06
