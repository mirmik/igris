/- print_i by itself: its digit loop is `Nat.toDigits`, and its output, its count and the `int`s it computes on the
   way have a closed form in prefix_len, len, zero_count and space_count. -/
import IgrisModel.C06.Model
namespace Igris.C06

theorem digitChar_toUpper_lt10 : ∀ r, r < 10 → (Nat.digitChar r).toUpper = Nat.digitChar r := by decide

/-- the case mapping the spec applies to `Nat.toDigits` -/
def caseMap (upper : Bool) (c : Char) : Char := if upper then c.toUpper else c

theorem caseMap_false : caseMap false = id := by funext c; simp [caseMap]
theorem caseMap_true : caseMap true = Char.toUpper := by funext c; simp [caseMap]

theorem digitOf_eq (u base : Nat) (upper : Bool) (hb0 : 0 < base) (hb : base ≤ 16) :
    digitOf u base (if upper then 65 else 97) = caseMap upper (Nat.digitChar (u % base)) := by
  -- the character print_i stores for a digit value `r < 16`: a table of 2 × 16 entries
  have table : ∀ (upper : Bool) r, r < 16 →
      Char.ofNat ((if r ≥ 10 then r + ((if upper then 65 else 97) - 10 - 48) else r) + 48)
        = caseMap upper (Nat.digitChar r) := by decide
  exact table upper (u % base) (Nat.lt_of_lt_of_le (Nat.mod_lt u hb0) hb)

theorem digitLoop_eq (base : Nat) (upper : Bool) (hb : 2 ≤ base) (hb16 : base ≤ 16)
    (room u : Nat) (acc : List Char) (hlen : (Nat.toDigits base u).length ≤ room) :
    digitLoop base (if upper then 65 else 97) room u acc
      = some ((Nat.toDigits base u).map (caseMap upper) ++ acc) := by
  induction room generalizing u acc with
  | zero =>
    have := @Nat.length_toDigits_pos base u
    omega
  | succ room ih =>
    simp only [digitLoop]
    rw [digitOf_eq u base upper (by omega) hb16]
    rw [Nat.toDigits_eq_if (by omega : 1 < base)] at hlen ⊢
    by_cases hu : u < base
    · have hdiv : u / base = 0 := Nat.div_eq_of_lt hu
      simp [hu, hdiv, Nat.mod_eq_of_lt hu]
    · have hdiv : u / base ≠ 0 := by
        intro h
        have := Nat.div_eq_zero_iff.mp h
        omega
      simp only [hu, if_false] at hlen ⊢
      simp only [hdiv, ne_eq, not_false_eq_true, if_true]
      rw [ih (u / base) _ (by simp at hlen; omega)]
      simp

theorem toDigits_head_ne_zero (base : Nat) (hb : 2 ≤ base) (n : Nat) (hn : 0 < n) :
    (Nat.toDigits base n).head? ≠ some '0' := by
  induction n using Nat.strongRecOn with
  | _ n ih =>
    rw [Nat.toDigits_eq_if (by omega : 1 < base)]
    by_cases hu : n < base
    · simp [hu]; omega
    · simp only [hu, if_false]
      have hpos : 0 < n / base := Nat.div_pos (by omega) (by omega)
      have hlt : n / base < n := Nat.div_lt_self hn (by omega)
      have := ih (n / base) hlt hpos
      have hne : Nat.toDigits base (n / base) ≠ [] := Nat.toDigits_ne_nil
      cases hd : Nat.toDigits base (n / base) with
      | nil => exact absurd hd hne
      | cons a as => rw [hd] at this; simpa using this

/-- 22 digits (`PRINT_I_BUFF_SZ - 1`) hold every 64-bit value in base 8 and above -/
theorem toDigits_length_le_22 (base : Nat) (hb : 8 ≤ base) (u : Nat) (hu : u < 2 ^ 64) :
    (Nat.toDigits base u).length ≤ 22 := by
  rw [Nat.length_toDigits_le_iff (by omega) (by omega)]
  have h1 : (8 : Nat) ^ 22 ≤ base ^ 22 := Nat.pow_le_pow_left hb 22
  have h2 : (2 : Nat) ^ 64 ≤ 8 ^ 22 := by decide
  omega

/-- the digit string print_i builds -/
def digitsOf (mag : Nat) (minLen : Int) (prec upper : Bool) (base : Nat) : List Char :=
  if mag ≠ 0 ∨ minLen ≠ 0 ∨ prec = false then (Nat.toDigits base mag).map (caseMap upper) else []

theorem digitsOf_length_pos (mag : Nat) (m : Int) (upper : Bool) (base : Nat) :
    1 ≤ (digitsOf mag m false upper base).length := by
  simp only [digitsOf, or_true, if_true, List.length_map]
  exact Nat.length_toDigits_pos

theorem digitsOf_eq_nil (mag : Nat) (m : Int) (prec upper : Bool) (base : Nat) :
    digitsOf mag m prec upper base = [] ↔ (mag = 0 ∧ m = 0 ∧ prec = true) := by
  have : Nat.toDigits base mag ≠ [] := Nat.toDigits_ne_nil
  unfold digitsOf
  cases prec <;> by_cases h0 : mag = 0 <;> by_cases hm0 : m = 0 <;> simp [h0, hm0, this]

/-- print_i's prefix selection -/
def prefixOf (neg isSigned : Bool) (ops : Ops) (base : Nat) (nz : Bool) (minLen : Int) : List Char :=
  if neg then ['-']
  else if isSigned && ops.sign then ['+']
  else if isSigned && ops.space then [' ']
  else if base = 8 && ops.spec && (nz || (decide (minLen = 0) && ops.prec)) then ['0']
  else if base = 16 && ops.spec && (nz || ops.ptr) then (if ops.upper then ['0', 'X'] else ['0', 'x'])
  else []

/-- `if (u || min_len || !(ops & OPS_PREC_IS_GIVEN)) do { … } while (u);` on the magnitude `v`
(`none`: `buff` overflowed) -/
def loopDigits (v : BitVec 64) (minLen : Int) (ops : Ops) (base : Nat) : Option (List Char) :=
  if v ≠ 0 || minLen ≠ 0 || !ops.prec then
    digitLoop base (if ops.upper then 65 else 97) (PRINT_I_BUFF_SZ - 1) v.toNat []
  else some []

/-- the first operand of `zero_count = (…) - len - prefix_len`; `P`, `L`: prefix_len, len -/
def zeroTarget (left zero prec oct : Bool) (width minLen P L : Int) : Int :=
  if L < minLen then minLen + (if oct then 0 else P) else if zero && !(left || prec) then width else 0

/-- a converted integer as a field: blanks · sign/prefix · zeros · digits · blanks, the `S` blanks on the side
the `-` flag names -/
def field (left : Bool) (S Z : Nat) (X D : List Char) : List Char :=
  (if left then [] else List.replicate S ' ') ++ X ++ List.replicate Z '0' ++ D
    ++ (if left then List.replicate S ' ' else [])

theorem field_length (left : Bool) (S Z : Nat) (X D : List Char) :
    (field left S Z X D).length = S + X.length + Z + D.length := by
  unfold field
  cases left <;> simp <;> omega

/-- print_i's padding arithmetic and emission order for a given prefix and digit string -/
def layoutM (left zero prec oct : Bool) (width minLen : Int) (pfx D : List Char) : List Char :=
  let L : Int := D.length
  let P : Int := pfx.length
  let Z : Int := max (zeroTarget left zero prec oct width minLen P L - L - P) 0
  let S : Int := max (width - L - P - Z) 0
  field left S.toNat Z.toNat pfx D

/-- space_count + prefix_len + zero_count + len -/
theorem layoutM_length (left zero prec oct : Bool) (width minLen : Int) (pfx D : List Char) :
    ((layoutM left zero prec oct width minLen pfx D).length : Int)
      = max (width - D.length - pfx.length
              - max (zeroTarget left zero prec oct width minLen pfx.length D.length - D.length - pfx.length) 0) 0
        + pfx.length + max (zeroTarget left zero prec oct width minLen pfx.length D.length - D.length - pfx.length) 0
        + D.length := by
  unfold layoutM
  simp only [field_length]
  omega

theorem printI_eq (u : BitVec 64) (isSigned : Bool) (width minLen : Int) (ops : Ops) (base : Nat) :
    printI u isSigned width minLen ops base =
      (loopDigits (if (isSigned && u.msb) then -u else u) minLen ops base).map fun D =>
        let out := layoutM ops.left ops.zero ops.prec (base = 8) width minLen
          (prefixOf (isSigned && u.msb) isSigned ops base
            (decide ((if (isSigned && u.msb) then -u else u) ≠ 0)) minLen) D
        (out, (out.length : Int)) := by
  unfold printI loopDigits
  simp only []
  cases (if (decide ((if (isSigned && u.msb) = true then -u else u) ≠ 0) || decide (minLen ≠ 0) || !ops.prec) = true then
        digitLoop base (if ops.upper = true then 65 else 97) (PRINT_I_BUFF_SZ - 1)
          (if (isSigned && u.msb) = true then -u else u).toNat []
      else some []) with
  | none => rfl
  | some D =>
    rw [Option.map_some, layoutM_length]
    cases hl : ops.left <;> simp [layoutM, field, prefixOf, zeroTarget] <;> omega

theorem printI_count {u : BitVec 64} {isSigned : Bool} {width minLen : Int} {ops : Ops} {base : Nat}
    {out : List Char} {pc : Int}
    (h : printI u isSigned width minLen ops base = some (out, pc)) : pc = out.length := by
  rw [printI_eq] at h
  obtain ⟨D, -, h⟩ := Option.map_eq_some_iff.mp h
  cases h
  rfl

/-- `printIInts` from prefix_len `P`, len `L` and the first operand `t` of zero_count -/
def intsOf (left : Bool) (width P L t : Int) : List Int :=
  let Z := max (t - L - P) 0
  let S := max (width - L - P - Z) 0
  let pc1 : Int := if !left then 0 + S else 0
  [P, L, t, t - L, t - L - P, Z, width - L, width - L - P, width - L - P - Z, S,
   pc1, pc1 + P, pc1 + P + Z, pc1 + P + Z + L, pc1 + P + Z + L + (if !left then 0 else S)]

theorem printIInts_eq (u : BitVec 64) (isSigned : Bool) (width minLen : Int) (ops : Ops) (base : Nat) :
    printIInts u isSigned width minLen ops base =
      match loopDigits (if (isSigned && u.msb) then -u else u) minLen ops base with
      | none => []
      | some D =>
        let P : Int := (prefixOf (isSigned && u.msb) isSigned ops base
          (decide ((if (isSigned && u.msb) then -u else u) ≠ 0)) minLen).length
        intsOf ops.left width P D.length (zeroTarget ops.left ops.zero ops.prec (base = 8) width minLen P D.length) := by
  unfold printIInts loopDigits intsOf zeroTarget prefixOf
  simp only [decide_eq_true_eq]
  rfl

theorem zeroTarget_nonneg {left zero prec oct : Bool} {width minLen P L : Int} (hw : 0 ≤ width) (hm : 0 ≤ minLen)
    (hP : 0 ≤ P) : 0 ≤ zeroTarget left zero prec oct width minLen P L := by
  unfold zeroTarget
  split
  · split <;> omega
  · split <;> omega

/-- prefix_len, len, zero_count and space_count are nonnegative and add up to the value returned (the last entry);
`t - len - prefix_len ≤ zero_count` bounds the operand `t`; every other entry is a partial sum of these four or a
difference of two numbers between 0 and the bound `M`, which need not be INT_MAX -/
theorem intsOf_range {left : Bool} {width P L t M : Int} (hP : 0 ≤ P) (hL : 0 ≤ L) (hw0 : 0 ≤ width)
    (hw : width ≤ M) (ht : 0 ≤ t)
    (hpc : max (width - L - P - max (t - L - P) 0) 0 + P + max (t - L - P) 0 + L ≤ M) :
    ∀ x ∈ intsOf left width P L t, -M - 1 ≤ x ∧ x ≤ M := by
  unfold intsOf
  simp only []
  have hZ0 := Int.le_max_right (t - L - P) 0
  have hZ1 := Int.le_max_left (t - L - P) 0
  generalize max (t - L - P) 0 = Z at *
  have hS0 := Int.le_max_right (width - L - P - Z) 0
  have hS1 := Int.le_max_left (width - L - P - Z) 0
  generalize max (width - L - P - Z) 0 = S at *
  cases left <;> simp only [Bool.not_true, Bool.not_false, if_true, if_false, Bool.false_eq_true,
    List.forall_mem_cons, List.not_mem_nil, false_imp_iff, implies_true, and_true] <;>
    omega

/-! ### bases 8 to 16: the loop never overflows `buff` -/

theorem decide_ne_zero_toNat (v : BitVec 64) : decide (v ≠ 0) = decide (v.toNat ≠ 0) := by
  simp [BitVec.toNat_eq]

theorem loopDigits_eq (v : BitVec 64) (minLen : Int) (ops : Ops) (base : Nat) (hb : 8 ≤ base) (hb16 : base ≤ 16) :
    loopDigits v minLen ops base = some (digitsOf v.toNat minLen ops.prec ops.upper base) := by
  have hloop := digitLoop_eq base ops.upper (by omega) hb16 22 v.toNat []
    (toDigits_length_le_22 base hb v.toNat v.isLt)
  unfold loopDigits digitsOf
  rw [decide_ne_zero_toNat]
  have hcond : (decide (v.toNat ≠ 0) || decide (minLen ≠ 0) || !ops.prec) = true ↔
      (v.toNat ≠ 0 ∨ minLen ≠ 0 ∨ ops.prec = false) := by simp [or_assoc]
  simp only [hcond]
  split
  · simpa [PRINT_I_BUFF_SZ] using hloop
  · rfl

theorem printI_form (u : BitVec 64) (isSigned : Bool) (width minLen : Int) (ops : Ops) (base : Nat)
    (hb : 8 ≤ base) (hb16 : base ≤ 16) :
    ∃ pc, printI u isSigned width minLen ops base
      = some (layoutM ops.left ops.zero ops.prec (base = 8) width minLen
                (prefixOf (isSigned && u.msb) isSigned ops base
                  (decide ((if (isSigned && u.msb) then -u else u).toNat ≠ 0)) minLen)
                (digitsOf (if (isSigned && u.msb) then -u else u).toNat minLen ops.prec ops.upper base), pc) := by
  rw [printI_eq, loopDigits_eq _ _ _ _ hb hb16, decide_ne_zero_toNat]
  exact ⟨_, rfl⟩

end Igris.C06
