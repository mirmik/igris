/- The format loop against `Iso.isoAux`; `parseHex` reads `Nat.toDigits 16` back. -/
import IgrisModel.C06.LemConv
namespace Igris.C06
open Iso

theorem loop_iso (f : Nat) (fmt : List Char) (args : List Arg) (o : List Char)
    (h : isoAux igrisPtr false f fmt args = some o)
    (g : Nat) (out : List Char) (pc : Int) (hg : fmt.length < g) :
    ∃ pc', loop g fmt args out pc = .done (out ++ o) pc' := by
  fun_induction isoAux igrisPtr false f fmt args generalizing o g out pc with
  | case1 => cases h; exact ⟨pc, by simp [loop]⟩
  | case2 | case3 | case5 | case6 => cases h
  | case4 _ c cs args hn hp ih =>
    obtain ⟨g, rfl⟩ : ∃ k, g = k + 1 := ⟨g - 1, by omega⟩
    obtain ⟨o', ho, rfl⟩ := Option.map_eq_some_iff.mp h
    obtain ⟨pc', hl⟩ := ih o' ho g (out ++ [c]) (pc + 1) (by simp at hg; omega)
    exact ⟨pc', by simpa [loop, hn, hp] using hl⟩
  | case7 _ c cs args hn hp d rest hpd e a' hcv ih =>
    obtain ⟨g, rfl⟩ : ∃ k, g = k + 1 := ⟨g - 1, by omega⟩
    have hc : c = '%' := by simpa using hp
    subst hc
    obtain ⟨o', ho, rfl⟩ := Option.map_eq_some_iff.mp h
    obtain ⟨dpc, hdir⟩ := directive_iso cs args d rest e a' hpd hcv
    have hr := (directive_ok hdir).2.1.length_le
    obtain ⟨pc', hl⟩ := ih o' ho g (out ++ e) (pc + dpc) (by simp at hg hr; omega)
    exact ⟨pc', by simpa [loop, hn, hdir] using hl⟩

theorem hexDigitVal_digitChar : ∀ r, r < 16 → hexDigitVal (Nat.digitChar r) = some r := by decide

theorem parseHex_snoc (xs : List Char) (c : Char) :
    parseHex (xs ++ [c]) = (parseHex xs).bind fun a => (hexDigitVal c).map (a * 16 + ·) := by
  simp [parseHex, List.foldl_append]

theorem parseHex_toDigits (n : Nat) : parseHex (Nat.toDigits 16 n) = some n := by
  induction n using Nat.strongRecOn with
  | _ n ih =>
    rw [Nat.toDigits_eq_if (by omega : 1 < 16)]
    by_cases h : n < 16
    · simp only [h, if_true]
      simp [parseHex, hexDigitVal_digitChar n h]
    · simp only [h, if_false]
      rw [parseHex_snoc, ih (n / 16) (Nat.div_lt_self (by omega) (by omega)),
        hexDigitVal_digitChar _ (Nat.mod_lt n (by omega))]
      simp
      omega

theorem parseHex_zeros (k : Nat) (ds : List Char) :
    parseHex (List.replicate k '0' ++ ds) = parseHex ds := by
  induction k with
  | zero => simp
  | succ k ih =>
    have h0 : hexDigitVal '0' = some 0 := by decide
    simp only [parseHex, List.replicate_succ, List.cons_append, List.foldl_cons, Option.bind_some, h0,
      Option.map_some] at ih ⊢
    simpa using ih

end Igris.C06
