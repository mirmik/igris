/- print_s against the ISO definition, and what it reads. -/
import IgrisModel.C06.LemCount
import IgrisModel.Common.ListScan
namespace Igris.C06
open Iso

theorem take_take_takeWhile (mem : List Char) (p : Nat) (q : Char → Bool) :
    mem.take ((mem.take p).takeWhile q).length = (mem.take p).takeWhile q := by
  have h1 := take_takeWhile_length q (mem.take p)
  have h2 : ((mem.take p).takeWhile q).length ≤ p := by
    have := (List.takeWhile_sublist q (l := mem.take p)).length_le
    have := List.length_take_le p mem
    omega
  rw [List.take_take, Nat.min_eq_left h2] at h1
  exact h1

theorem pad_eq_field (minus : Bool) (W : Nat) (body : List Char) :
    pad minus W body = field minus (W - body.length) 0 [] body := by
  unfold pad field
  cases minus <;> simp

theorem pad_length (m : Bool) (W : Nat) (b : List Char) : (pad m W b).length = max W b.length := by
  rw [pad_eq_field, field_length]
  simp only [List.length_nil]
  omega

theorem printS_pad (mem : List Char) (W m : Nat) (ops : Ops) (n : Nat) (h : strMeasure mem m ops = some n) :
    ∃ pc, printS mem W m ops = some (pad ops.left W (mem.take n), pc) := by
  have hle := strMeasure_le h
  have hS : (if (W : Int) > (n : Int) then (W : Int) - n else 0).toNat = W - (mem.take n).length := by
    rw [List.length_take, Nat.min_eq_left hle]; split <;> omega
  rw [printS_eq, h, pad_eq_field, Option.map_some, hS]
  exact ⟨_, rfl⟩

/-- also `none = none`: print_s reads behind the array exactly where ISO leaves `%s` undefined -/
theorem strMeasure_eq (mem : List Char) (m : Int) (ops : Ops) (hc : ops.chr = false) :
    strMeasure mem m ops = (isoStr mem (if ops.prec then some m.toNat else none)).map List.length := by
  unfold strMeasure isoStr
  simp only [hc, Bool.false_eq_true, if_false, strnlen_eq, strlen_eq]
  cases ops.prec <;> simp only [Bool.false_eq_true, if_true, if_false] <;> split <;> rfl

theorem isoStr_take {mem : List Char} {pr : Option Nat} {body : List Char} (h : isoStr mem pr = some body) :
    mem.take body.length = body := by
  unfold isoStr at h
  cases pr <;> simp only at h <;> split at h <;> cases h
  · exact take_takeWhile_length _ mem
  · exact take_take_takeWhile mem _ _

theorem printS_iso (mem : List Char) (W m : Nat) (ops : Ops) (body : List Char) (hc : ops.chr = false)
    (h : isoStr mem (if ops.prec then some m else none) = some body) :
    ∃ pc, printS mem W m ops = some (pad ops.left W body, pc) := by
  have := printS_pad mem W m ops body.length (by rw [strMeasure_eq _ _ _ hc, Int.toNat_natCast, h]; rfl)
  rwa [isoStr_take h] at this

/-- `%c`: print_s with OPS_SPEC_CHAR emits exactly the first byte, whatever it is -/
theorem printS_chr (c x : Char) (W m : Nat) (ops : Ops) (hc : ops.chr = true) :
    ∃ pc, printS [c, x] W m ops = some (pad ops.left W [c], pc) :=
  printS_pad [c, x] W m ops 1 (by simp [strMeasure, hc])

theorem takeWhile_append_of_mem {a : Char} (l r : List Char) (h : a ∈ l) :
    (l ++ r).takeWhile (· ≠ a) = l.takeWhile (· ≠ a) := by
  obtain ⟨s, t, rfl⟩ := List.append_of_mem h
  rw [List.append_assoc, List.cons_append, takeWhile_append_neg _ _ (by simp), takeWhile_append_neg _ _ (by simp)]

theorem isoStr_append {pre : List Char} {pr : Option Nat} {body : List Char} (rest : List Char)
    (h : isoStr pre pr = some body) : isoStr (pre ++ rest) pr = some body := by
  unfold isoStr at h ⊢
  cases pr with
  | none =>
    simp only at h ⊢
    split at h
    · rename_i hm
      rw [if_pos (List.mem_append_left _ hm), takeWhile_append_of_mem _ _ hm]; exact h
    · cases h
  | some p =>
    simp only at h ⊢
    split at h
    · rename_i hok
      by_cases hle : p ≤ pre.length
      · rw [List.take_append_of_le_length hle, if_pos (hok.imp id fun _ => by simp; omega)]; exact h
      · have hm : NUL ∈ pre := by
          rcases hok with h1 | h1
          · exact List.mem_of_mem_take h1
          · exact absurd h1 hle
        have ht : pre.take p = pre := List.take_of_length_le (by omega)
        rw [ht] at h
        have : (pre ++ rest).take p = pre ++ rest.take (p - pre.length) := by
          rw [List.take_append]; simp [ht]
        rw [this, if_pos (Or.inl (List.mem_append_left _ hm)), takeWhile_append_of_mem _ _ hm]; exact h
    · cases h

theorem strMeasure_append {pre : List Char} {m : Int} {ops : Ops} {n : Nat} (rest : List Char)
    (h : strMeasure pre m ops = some n) : strMeasure (pre ++ rest) m ops = some n := by
  cases hc : ops.chr
  · rw [strMeasure_eq _ _ _ hc] at h ⊢
    obtain ⟨body, hb, rfl⟩ := Option.map_eq_some_iff.mp h
    rw [isoStr_append rest hb]; rfl
  · unfold strMeasure at h ⊢
    simp only [hc, if_true] at h ⊢
    split at h
    · rw [if_pos (by simp only [List.length_append]; omega)]; exact h
    · cases h

theorem printS_append (pre rest : List Char) (W m : Int) (ops : Ops) (r : List Char × Int)
    (h : printS pre W m ops = some r) : printS (pre ++ rest) W m ops = some r := by
  rw [printS_eq] at h ⊢
  obtain ⟨n, hn, h⟩ := Option.map_eq_some_iff.mp h
  rw [strMeasure_append rest hn, Option.map_some, List.take_append_of_le_length (strMeasure_le hn), h]

end Igris.C06
