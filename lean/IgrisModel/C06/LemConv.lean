/- Where `Iso.isoBody` is defined, "handle specifier" of `__printf` emits its output; where `Iso.isoConv` is defined on
   a parsed directive, so does the whole pass. -/
import IgrisModel.C06.LemInt
import IgrisModel.C06.LemStr
import IgrisModel.C06.LemRender
namespace Igris.C06
open Iso

/-- sign and magnitude of a 64-bit two's complement value, as print_i computes them -/
theorem signMag (u : BitVec 64) :
    u.msb = decide (u.toInt < 0) ∧ (if u.msb then -u else u).toNat = u.toInt.natAbs := by
  refine ⟨BitVec.msb_eq_toInt, ?_⟩
  rw [← BitVec.abs_eq, BitVec.toNat_abs, BitVec.msb_eq_decide, BitVec.toInt_eq_toNat_cond]
  have := u.isLt
  simp only [decide_eq_true_eq]
  split <;> split <;> omega

theorem bmod_toInt32 (v : BitVec 32) (k : Nat) (hk : k ∣ 2 ^ 32) :
    (v.toNat : Int).bmod k = v.toInt.bmod k := by
  rw [BitVec.toInt_eq_toNat_bmod, Int.bmod_bmod_of_dvd hk]

/-- `(T)va_arg(args, int)` for a signed type `T` of `k ≤ 32` bits: the conversion wraps -/
theorem toInt_signExtend_trunc (v : BitVec 32) (k : Nat) (hk : k ≤ 32) :
    ((v.truncate k).signExtend 64).toInt = v.toInt.bmod (2 ^ k) := by
  rw [BitVec.toInt_signExtend_of_le (by omega)]
  simp only [BitVec.truncate, BitVec.toInt_setWidth]
  exact bmod_toInt32 v (2 ^ k) (Nat.pow_dvd_pow 2 hk)

theorem fetchSigned_iso (len : Len) (args as : List Arg) (v : Int) (h : signedArg len args = some (v, as)) :
    ∃ u, fetchSigned len args = some (u, as) ∧ u.toInt = v := by
  unfold signedArg at h
  split at h <;> simp at h
  all_goals (obtain ⟨h1, h2⟩ := h; subst h1 h2)
  all_goals simp [fetchSigned, vaInt, vaLong, toInt_signExtend_trunc _ 8 (by omega), toInt_signExtend_trunc _ 16 (by omega),
    BitVec.toInt_signExtend_of_le]

theorem fetchUnsigned_iso (len : Len) (args as : List Arg) (v : Nat) (h : unsignedArg len args = some (v, as)) :
    ∃ u, fetchUnsigned len args = some (u, as) ∧ u.toNat = v := by
  unfold unsignedArg at h
  split at h <;> simp at h
  all_goals (obtain ⟨h1, h2⟩ := h; subst h1 h2)
  all_goals simp [fetchUnsigned, vaInt, vaLong]
  all_goals (have := (by assumption : BitVec 32).isLt; omega)

theorem toNat_ofNat_lt (n : Nat) (h : n < 256) : (Char.ofNat n).toNat = n := by
  have hv : n.isValidChar := Or.inl (by omega)
  unfold Char.ofNat
  rw [dif_pos hv]
  simp [Char.ofNatAux, Char.toNat, UInt32.toNat_ofNatLT]

/-- the character `%c` emits, `Char.ofNat (v.toNat % 256)`, is NUL only for the byte 0: the `%c` inputs `isoFormatExcl`
leaves out -/
theorem ofNat_eq_NUL (n : Nat) (h : n < 256) (he : Char.ofNat n = NUL) : n = 0 := by
  have h1 := toNat_ofNat_lt n h
  rw [he] at h1
  simpa [NUL] using h1.symm

theorem printI_opsOf (u : BitVec 64) (sg : Bool) (W : Nat) (pr : Option Nat) (D : Directive) (mi : Bool) (base : Nat)
    (upper : Bool) (hbase : base = 8 ∨ base = 10 ∨ base = 16) (hsig : sg = true → base = 10)
    (hup : upper = true → base = 16) :
    ∃ pc, printI u sg W (pr.getD 0 : Nat) { opsOf D mi pr with upper := upper } base
      = some (isoInt mi D.plus D.space D.hash D.zero W pr sg (sg && u.msb)
          (if (sg && u.msb) then -u else u).toNat base upper, pc) := by
  obtain ⟨pc, h⟩ := printI_iso u sg W (pr.getD 0) { opsOf D mi pr with upper := upper } base hbase hsig hup
    (by cases pr <;> simp [opsOf]) rfl
  exact ⟨pc, by rw [h]; cases pr <;> rfl⟩

theorem convert_iso (begin rest : List Char) (args : List Arg) (W : Nat) (pr : Option Nat) (D : Directive) (mi : Bool)
    (out : List Char) (args' : List Arg) (hb : isoBody igrisPtr false D mi W pr args = some (out, args')) :
    ∃ pc, convert begin (D.conv :: rest) args W ((pr.getD 0 : Nat) : Int) (opsOf D mi pr) = .ok out pc rest args' := by
  rw [isoBody_eq] at hb
  rw [convert_eq]
  have hinv := convCase_inv D.conv
  simp only [show hd (D.conv :: rest) = D.conv from rfl, withUpper_eq D.conv (opsOf D mi pr) rfl]
  cases hk : convCase D.conv <;> rw [hk] at hb hinv <;> simp only at hb hinv ⊢
  case percent =>
    split at hb
    · cases hb
    · cases hb; exact ⟨1, rfl⟩
  case signed =>
    have hlow : D.conv.isUpper = false := by rcases hinv with h | h <;> rw [h] <;> rfl
    cases hh : D.hash <;> simp only [hh, if_true, Bool.false_eq_true, if_false] at hb
    · cases hsa : signedArg D.len args with
      | none => simp [hsa] at hb
      | some r =>
        simp only [hsa, Option.some.injEq, Prod.mk.injEq] at hb
        obtain ⟨rfl, rfl⟩ := hb
        obtain ⟨u, hf, hv⟩ := fetchSigned_iso _ _ _ _ hsa
        obtain ⟨pc, hpi⟩ := printI_opsOf u true W pr D mi 10 D.conv.isUpper (by omega) (fun _ => rfl) (by simp [hlow])
        rw [Bool.true_and, (signMag u).2, (signMag u).1, hv, hh, hlow] at hpi
        rw [hlow, show fetchSigned ({ opsOf D mi pr with upper := false } : Ops).len args = some (u, r.2) from hf]
        exact ⟨pc, Step.ofPrint_some hpi⟩
    · cases hb
  case unsigned =>
    generalize hB : (if D.conv = 'u' then 10 else if D.conv = 'o' then 8 else 16) = B at hb ⊢
    obtain ⟨hX, hbase, hup⟩ : D.conv.isUpper = decide (D.conv = 'X') ∧ (B = 8 ∨ B = 10 ∨ B = 16) ∧
        (D.conv.isUpper = true → B = 16) := by
      subst hB
      rcases hinv with h | h | h | h <;> rw [h] <;> decide
    split at hb
    · cases hb
    cases hua : unsignedArg D.len args with
    | none => simp [hua] at hb
    | some r =>
      simp only [hua, Bool.false_and, Bool.false_eq_true, if_false, Option.some.injEq, Prod.mk.injEq] at hb
      obtain ⟨rfl, rfl⟩ := hb
      obtain ⟨u, hf, hv⟩ := fetchUnsigned_iso _ _ _ _ hua
      obtain ⟨pc, hpi⟩ := printI_opsOf u false W pr D mi B D.conv.isUpper hbase (by simp) hup
      simp only [Bool.false_and, Bool.false_eq_true, if_false, hv] at hpi
      rw [show fetchUnsigned ({ opsOf D mi pr with upper := D.conv.isUpper } : Ops).len args = some (u, r.2) from hf, ← hX]
      exact ⟨pc, Step.ofPrint_some hpi⟩
  case unsupported | other => cases hb
  case char =>
    split at hb
    · cases hb
    cases args with
    | nil => cases hb
    | cons x as =>
      cases x <;> simp only [Bool.false_and, Bool.false_eq_true, if_false, Option.some.injEq, Prod.mk.injEq,
        reduceCtorEq] at hb
      rename_i v
      obtain ⟨rfl, rfl⟩ := hb
      obtain ⟨pc, hps⟩ := printS_chr (Char.ofNat (v.toNat % 256)) NUL W (pr.getD 0)
        { opsOf D mi pr with upper := D.conv.isUpper, chr := true } rfl
      exact ⟨pc, Step.ofPrint_some hps⟩
  case string =>
    split at hb
    · cases hb
    cases args with
    | nil => cases hb
    | cons x as =>
      cases x <;> simp only [Option.map_eq_some_iff, Prod.mk.injEq, reduceCtorEq] at hb
      rename_i mem
      obtain ⟨body, hbody, rfl, rfl⟩ := hb
      obtain ⟨pc, hps⟩ := printS_iso mem W (pr.getD 0) { opsOf D mi pr with upper := D.conv.isUpper } body rfl
        (by simp only [opsOf]; cases pr <;> exact hbody)
      exact ⟨pc, Step.ofPrint_some hps⟩
  case pointer =>
    split at hb
    · cases hb
    cases args with
    | nil => cases hb
    | cons x as =>
      cases x <;> simp only [Option.some.injEq, Prod.mk.injEq, reduceCtorEq] at hb
      rename_i v
      obtain ⟨rfl, rfl⟩ := hb
      obtain ⟨pc, hpp⟩ := printI_ptr v W (opsOf D mi pr) rfl
      rw [hinv]
      exact ⟨pc, Step.ofPrint_some hpp⟩

theorem directive_iso (cs : List Char) (args : List Arg) (d : Directive) (rest : List Char)
    (out : List Char) (args' : List Arg)
    (hp : parseDirective cs = some (d, rest))
    (hc : isoConv igrisPtr false d args = some (out, args')) :
    ∃ pc, directive ('%' :: cs) args = .ok out pc rest args' := by
  obtain ⟨dt, hD, hbody, hsyn⟩ := parseDirective_unrender cs d rest hp
  subst hD hbody
  have hs := hsyn (isoConv_valid igrisPtr false (dirOf dt) args _ hc)
  rw [directive_eq, parseOpts_render dt rest hs]
  unfold isoConv at hc
  cases hrw : resolveWidth (dirOf dt) args with
  | none => simp [hrw] at hc
  | some r1 =>
    simp only [hrw] at hc
    simp only [Option.bind_some]
    cases hrp : resolvePrec (dirOf dt) r1.2.2 with
    | none => simp [hrp] at hc
    | some r2 =>
      simp only [hrp] at hc
      exact convert_iso _ rest r2.2 r1.2.1 r2.1 (dirOf dt) r1.1 out args' hc

end Igris.C06
