/- The syntactic condition `digitRunsOk` / `noIntMinArg` implies `guardFree`: a run of at most 9 digits keeps `atoi`
below 10^9 < INT_MAX, and `-width` leaves the range of `int` only for INT_MIN. -/
import IgrisModel.C06.LemR3b
import IgrisModel.C06.LemParse
import IgrisModel.C06.Model2
namespace Igris.C06

theorem directive_suffix {begin : List Char} {args : List Arg}
    {emit : List Char} {pc : Int} {rest : List Char} {args' : List Arg}
    (h : directive begin args = .ok emit pc rest args') : rest <:+ begin ∧ args' <:+ args :=
  let ⟨_, h1, h2⟩ := directive_ok h
  ⟨h1.trans (List.tail_suffix _), h2⟩

theorem suffix_of_and_tail {α : Type} {f : List α → Bool} {p : α → List α → Bool}
    (hf : ∀ a l, f (a :: l) = (p a l && f l)) {s t : List α} (h : f s = true) (hs : t <:+ s) : f t = true := by
  obtain ⟨r, rfl⟩ := hs
  induction r with
  | nil => exact h
  | cons a r ih =>
    rw [List.cons_append, hf, Bool.and_eq_true] at h
    exact ih h.2

theorem digitRunsOk_suffix {s t : List Char} (h : digitRunsOk s = true) (hs : t <:+ s) : digitRunsOk t = true :=
  suffix_of_and_tail (fun _ _ => rfl) h hs

theorem noIntMinArg_suffix {s t : List Arg} (h : noIntMinArg s = true) (hs : t <:+ s) : noIntMinArg t = true :=
  suffix_of_and_tail (fun _ _ => rfl) h hs

theorem digitRunsOk_run {s : List Char} (h : digitRunsOk s = true) : (s.takeWhile Char.isDigit).length ≤ 9 := by
  cases s with
  | nil => simp
  | cons c cs =>
    unfold digitRunsOk at h
    simp only [Bool.and_eq_true, decide_eq_true_eq] at h
    exact h.1

theorem atoiDigits_small {s : List Char} (h : digitRunsOk s = true) :
    0 ≤ atoiDigits s 0 ∧ atoiDigits s 0 < 1000000000 := by
  obtain ⟨h0, h1⟩ := atoiDigits_zero_lt s 9 (digitRunsOk_run h)
  exact ⟨h0, by omega⟩

theorem atoi_small {s : List Char} (h : digitRunsOk s = true) : -1000000000 < atoi s ∧ atoi s < 1000000000 := by
  induction s with
  | nil => simp [atoi]
  | cons c cs ih =>
    have hcs : digitRunsOk cs = true := digitRunsOk_suffix h (List.suffix_cons _ _)
    unfold atoi
    split
    · exact ih hcs
    · unfold atoiSign
      split
      · rename_i cs' heq
        cases heq
        have := atoiDigits_small hcs
        omega
      · rename_i cs' heq
        cases heq
        have := atoiDigits_small hcs
        omega
      · have := atoiDigits_small h
        omega

theorem rawWidth_small {s : List Char} {args : List Arg} {w : Int} (hs : digitRunsOk s = true)
    (ha : noIntMinArg args = true) (h : rawWidth s args = some w) : -INT_MAX - 1 < w ∧ w ≤ INT_MAX := by
  unfold rawWidth at h
  by_cases hst : hd s = '*'
  · simp only [hst, if_true] at h
    cases hv : vaInt args with
    | none => simp [hv] at h
    | some q =>
      obtain ⟨v, as⟩ := q
      simp only [hv, Option.map_some, Option.some.injEq] at h
      subst h
      obtain ⟨_, hargs⟩ := vaInt_some hv
      subst hargs
      unfold noIntMinArg at ha
      simp only [Bool.and_eq_true, bne_iff_ne, ne_eq] at ha
      have hne : v ≠ BitVec.intMin 32 := fun h => ha.1 (by rw [h])
      have h1 := BitVec.toInt_lt (x := v)
      have h2 := BitVec.le_toInt (x := v)
      have hne2 : v.toInt ≠ -2147483648 := by
        intro h
        apply hne
        apply BitVec.eq_of_toInt_eq
        rw [h]; decide
      unfold INT_MAX
      omega
  · simp only [hst, if_false, Option.some.injEq] at h
    subst h
    have := atoi_small hs
    unfold INT_MAX
    omega

theorem rawPrec_small {s : List Char} {p : Int} (hs : digitRunsOk s = true) (h : rawPrec s = some p) :
    -INT_MAX - 1 ≤ p ∧ p ≤ INT_MAX := by
  unfold rawPrec at h
  by_cases hdot : hd s = '.'
  · simp only [hdot, if_true] at h
    by_cases hst : hd s.tail = '*'
    · simp [hst] at h
    · simp only [hst, if_false, Option.some.injEq] at h
      subst h
      have := atoi_small (digitRunsOk_suffix hs (List.tail_suffix s))
      unfold INT_MAX
      omega
  · simp only [hdot, if_false, Option.some.injEq] at h
    subst h
    have := atoi_small hs
    unfold INT_MAX
    omega

theorem intGuard_false_of_syntax {begin : List Char} {args : List Arg}
    (hd1 : digitRunsOk begin = true) (ha : noIntMinArg args = true) : intGuard begin args = false := by
  unfold intGuard
  simp only [Bool.or_eq_false_iff]
  have hf : (flagsLoop begin.tail {}).1 <:+ begin := (flagsLoop_suffix begin.tail {}).trans (List.tail_suffix _)
  have hfd := digitRunsOk_suffix hd1 hf
  constructor
  · cases hr : rawWidth (flagsLoop begin.tail {}).1 args with
    | none => rfl
    | some w =>
      have := rawWidth_small hfd ha hr
      simp only [decide_eq_false_iff_not]
      omega
  · cases hw : getWidth (flagsLoop begin.tail {}).1 args (flagsLoop begin.tail {}).2 with
    | none => rfl
    | some q =>
      obtain ⟨w, s1, a1, o1⟩ := q
      simp only
      have hs1 : digitRunsOk s1 = true := digitRunsOk_suffix hfd (getWidth_some hw).2.1
      cases hr : rawPrec s1 with
      | none => rfl
      | some p =>
        have := rawPrec_small hs1 hr
        simp only [decide_eq_false_iff_not]
        omega

theorem guardFree_of_digitRunsOk (fuel : Nat) (fmt : List Char) (args : List Arg)
    (hd1 : digitRunsOk fmt = true) (ha : noIntMinArg args = true) : guardFree fuel fmt args = true := by
  fun_induction guardFree fuel fmt args with
  | case1 | case2 | case3 => rfl
  | case4 _ _ _ _ _ _ ih => exact ih (digitRunsOk_suffix hd1 (List.suffix_cons _ _)) ha
  | case5 _ _ _ _ _ _ ih =>
    rw [intGuard_false_of_syntax hd1 ha]
    split
    · rename_i hdir
      obtain ⟨h1, h2⟩ := directive_suffix hdir
      exact ih _ _ (digitRunsOk_suffix hd1 h1) (noIntMinArg_suffix ha h2)
    · rfl

end Igris.C06
