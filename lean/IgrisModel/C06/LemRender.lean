/- A directive's text is the rendering of a record (`DirTxt.body`): on it the spec's parser finds the record, the model's
   parser computes what the spec computes from the record, and every text the spec's parser accepts is such a rendering. -/
import IgrisModel.C06.Grammar
import IgrisModel.C06.LemParse
import IgrisModel.Common.ListScan
namespace Igris.C06
open Iso

/-- the `Num` the spec's parser reads from a width or precision text -/
def numOf : NumTxt → Num
  | .none => .none
  | .star => .star
  | .lit ds => .lit (decimal ds)

/-- the `Directive` the spec's parser is expected to find in the rendered text -/
def dirOf (d : DirTxt) : Directive :=
  { minus := d.flags.contains '-', plus := d.flags.contains '+', space := d.flags.contains ' ',
    hash := d.flags.contains '#', zero := d.flags.contains '0',
    width := numOf d.width, prec := numOf d.prec, len := d.len, conv := d.conv }

/-- the clause of `DirTxt.syntaxOk` about the width (`precOk`: about the precision) -/
def widthOk : NumTxt → Prop
  | .lit ds => (!ds.isEmpty && ds.all Char.isDigit && ds.head? != some '0') = true
  | _ => True

def precOk : NumTxt → Prop
  | .lit ds => ds.all Char.isDigit = true
  | _ => True

theorem hd_dropWhile_isFlag (s : List Char) : isFlag (hd (s.dropWhile isFlag)) = false := by
  cases h : s.dropWhile isFlag with
  | nil => decide
  | cons b r => exact dropWhile_head h

theorem convChar_props (c : Char) (h : convChar c = true) :
    c ≠ 'L' ∧ c ≠ 'h' ∧ c ≠ 'l' ∧ c ≠ 'j' ∧ c ≠ 'z' ∧ c ≠ 't' := by
  refine ⟨?_, ?_, ?_, ?_, ?_, ?_⟩ <;> (rintro rfl; exact absurd h (by decide))

theorem isDigit_props (c : Char) (h : c.isDigit = true) :
    isSpaceC c = false ∧ c ≠ '-' ∧ c ≠ '+' ∧ c ≠ '*' ∧ c ≠ '.' := by
  have h48 := isDigit_toNat c h
  refine ⟨?_, ?_, ?_, ?_, ?_⟩
  · simp only [isSpaceC, Bool.or_eq_false_iff, decide_eq_false_iff_not, Bool.and_eq_false_iff]
    refine ⟨?_, ?_⟩
    · intro hc; subst hc; simp at h48
    · right; simp; omega
  all_goals (intro hc; subst hc; simp at h48)

theorem takeWhile_nil_of_hd (s : List Char) (q : Char → Bool) (h : q (hd s) = false) :
    s.takeWhile q = [] ∧ s.dropWhile q = s := by
  cases s with
  | nil => simp
  | cons a t => simp [hd] at h; simp [h]

theorem takeWhile_append_hd (a b : List Char) (q : Char → Bool) (ha : a.all q = true) (hb : q (hd b) = false) :
    (a ++ b).takeWhile q = a ∧ (a ++ b).dropWhile q = b := by
  have h := takeWhile_nil_of_hd b q hb
  rw [List.takeWhile_append_of_pos (List.all_eq_true.mp ha), List.dropWhile_append_of_pos (List.all_eq_true.mp ha),
    h.1, h.2, List.append_nil]
  exact ⟨rfl, rfl⟩

theorem flagChar_eq : flagChar = isFlag := rfl

/-- the first character of a length modifier other than `L` -/
def lenStart (c : Char) : Bool := c = 'h' || c = 'l' || c = 'j' || c = 'z' || c = 't'

/-- a character that can begin `length? conversion` -/
def tailStart (c : Char) : Bool := convChar c || lenStart c

theorem tailStart_props (c : Char) (h : tailStart c = true) :
    c.isDigit = false ∧ c ≠ '.' ∧ c ≠ '*' ∧ isFlag c = false ∧ isSpaceC c = false := by
  simp only [tailStart, convChar, lenStart, Bool.or_eq_true, decide_eq_true_eq] at h
  rcases h with (((((((((h | h) | h) | h) | h) | h) | h) | h) | h) | h) | ((((h | h) | h) | h) | h) <;> subst h <;> decide

theorem tailStart_hd_lenText (ln : Len) (c : Char) (more : List Char) (hl : ln ≠ .bigL) (hc : convChar c = true) :
    tailStart (hd (lenText ln ++ c :: more)) = true := by
  cases ln <;> simp [lenText, hd, tailStart, lenStart, hc] at hl ⊢

theorem hd_precText_props (p : NumTxt) (R3 : List Char) (h3 : tailStart (hd R3) = true) :
    (hd (precText p ++ R3)).isDigit = false ∧ hd (precText p ++ R3) ≠ '*' ∧ isFlag (hd (precText p ++ R3)) = false ∧
      isSpaceC (hd (precText p ++ R3)) = false := by
  cases p with
  | none => have := tailStart_props _ h3; exact ⟨this.1, this.2.2.1, this.2.2.2.1, this.2.2.2.2⟩
  | star => simp [precText, hd]; decide
  | lit ds => simp [precText, hd]; decide

theorem isFlag_hd_widthText (w : NumTxt) (R2 : List Char) (h2 : isFlag (hd R2) = false) (hw : widthOk w) :
    isFlag (hd (widthText w ++ R2)) = false := by
  cases w with
  | none => exact h2
  | star => simp [widthText, hd]; decide
  | lit ds =>
    simp only [widthOk, Bool.and_eq_true, Bool.not_eq_true', bne_iff_ne, ne_eq] at hw
    obtain ⟨⟨hne, hall⟩, h0⟩ := hw
    cases ds with
    | nil => simp at hne
    | cons x xs =>
      simp only [List.all_cons, Bool.and_eq_true] at hall
      have hp := isDigit_props x hall.1
      have hx0 : x ≠ '0' := by simpa using h0
      have hsp : x ≠ ' ' := by intro h; subst h; exact absurd hall.1 (by decide)
      have hha : x ≠ '#' := by intro h; subst h; exact absurd hall.1 (by decide)
      simp [widthText, hd, isFlag, hp.2.1, hp.2.2.1, hx0, hsp, hha]

/-- the pieces of a well-formed rendered directive and what each parser has to know about the character behind each -/
theorem body_lookahead (d : DirTxt) (more : List Char) (hs : d.syntaxOk = true) :
    (d.body ++ more).takeWhile isFlag = d.flags ∧
    (d.body ++ more).dropWhile isFlag = widthText d.width ++ (precText d.prec ++ (lenText d.len ++ d.conv :: more)) ∧
    widthOk d.width ∧ precOk d.prec ∧ d.len ≠ .bigL ∧ convChar d.conv = true ∧
    tailStart (hd (lenText d.len ++ d.conv :: more)) = true ∧
    ((hd (precText d.prec ++ (lenText d.len ++ d.conv :: more))).isDigit = false ∧
      hd (precText d.prec ++ (lenText d.len ++ d.conv :: more)) ≠ '*' ∧
      isFlag (hd (precText d.prec ++ (lenText d.len ++ d.conv :: more))) = false ∧
      isSpaceC (hd (precText d.prec ++ (lenText d.len ++ d.conv :: more))) = false) := by
  simp only [DirTxt.syntaxOk, Bool.and_eq_true, bne_iff_ne, ne_eq] at hs
  obtain ⟨⟨⟨⟨hfl, hw⟩, hp⟩, hl⟩, hc⟩ := hs
  have h3 := tailStart_hd_lenText d.len d.conv more hl hc
  have h2 := hd_precText_props d.prec (lenText d.len ++ d.conv :: more) h3
  have hw' : widthOk d.width := by cases hwd : d.width <;> simp_all [widthOk]
  have hp' : precOk d.prec := by cases hpd : d.prec <;> simp_all [precOk]
  have h1 := isFlag_hd_widthText d.width (precText d.prec ++ (lenText d.len ++ d.conv :: more)) h2.2.2.1 hw'
  have hbody : d.body ++ more
      = d.flags ++ (widthText d.width ++ (precText d.prec ++ (lenText d.len ++ d.conv :: more))) := by
    simp [DirTxt.body, List.append_assoc]
  have hF := takeWhile_append_hd d.flags _ isFlag (by rw [← flagChar_eq]; exact hfl) h1
  rw [hbody]
  exact ⟨hF.1, hF.2, hw', hp', hl, hc, h3, h2⟩

theorem hd_digits_append (ds R : List Char) (hall : ds.all Char.isDigit = true) (h : hd R ≠ '*') :
    hd (ds ++ R) ≠ '*' := by
  cases ds with
  | nil => exact h
  | cons x xs =>
    simp only [List.all_cons, Bool.and_eq_true] at hall
    exact (isDigit_props x hall.1).2.2.2.1

theorem parseLen_render (ln : Len) (c : Char) (more : List Char) (hl : ln ≠ .bigL) (hc : convChar c = true) :
    parseLen (lenText ln ++ c :: more) = (ln, c :: more) := by
  obtain ⟨_, n1, n2, n3, n4, n5⟩ := convChar_props c hc
  cases ln
  · simp [lenText, parseLen, n1, n2, n3, n4, n5]
  · simp [lenText, parseLen]
  · simp [lenText, parseLen, n1]
  · simp [lenText, parseLen, n2]
  · simp [lenText, parseLen]
  · simp [lenText, parseLen]
  · simp [lenText, parseLen]
  · simp [lenText, parseLen]
  · exact absurd rfl hl

theorem parsePrec_render (p : NumTxt) (R3 : List Char) (h3 : tailStart (hd R3) = true) (hp : precOk p) :
    parsePrec (precText p ++ R3) = (numOf p, R3) := by
  have h3p := tailStart_props _ h3
  cases p with
  | none =>
    cases R3 with
    | nil => simp [precText, parsePrec, numOf]
    | cons a t =>
      have ha : a ≠ '.' := by simpa [hd] using h3p.2.1
      simp [precText, parsePrec, numOf, ha]
  | star => simp [precText, parsePrec, numOf]
  | lit ds =>
    have htw := takeWhile_append_hd ds R3 Char.isDigit hp h3p.1
    have hst := hd_digits_append ds R3 hp h3p.2.2.1
    simp only [precText, List.cons_append, numOf]
    cases hds : ds ++ R3 with
    | nil => rw [hds] at htw; simp [parsePrec, ← htw.1, ← htw.2]
    | cons a t =>
      rw [hds] at htw hst
      have ha : a ≠ '*' := hst
      simp [parsePrec, ha, htw.1, htw.2]

theorem parseWidth_render (w : NumTxt) (R2 : List Char)
    (h2 : (hd R2).isDigit = false ∧ hd R2 ≠ '*') (hw : widthOk w) :
    parseWidth (widthText w ++ R2) = (numOf w, R2) := by
  cases w with
  | none =>
    have htw := takeWhile_nil_of_hd R2 Char.isDigit h2.1
    cases R2 with
    | nil => simp [widthText, parseWidth, numOf]
    | cons a t =>
      have ha : a ≠ '*' := by simpa [hd] using h2.2
      simp only [widthText, List.nil_append, numOf]
      unfold parseWidth
      split
      · rename_i heq; cases heq; exact absurd rfl ha
      · simp [htw.1]
  | star => simp [widthText, parseWidth, numOf]
  | lit ds =>
    simp only [widthOk, Bool.and_eq_true, Bool.not_eq_true', bne_iff_ne, ne_eq] at hw
    obtain ⟨⟨hne, hall⟩, _⟩ := hw
    have htw := takeWhile_append_hd ds R2 Char.isDigit hall h2.1
    cases ds with
    | nil => simp at hne
    | cons x xs =>
      simp only [List.all_cons, Bool.and_eq_true] at hall
      have hx : x ≠ '*' := (isDigit_props x hall.1).2.2.2.1
      simp only [widthText, numOf]
      unfold parseWidth
      split
      · rename_i heq; simp only [List.cons_append, List.cons.injEq] at heq; exact absurd heq.1 hx
      · simp only [List.cons_append] at htw ⊢
        simp [htw.1, htw.2]

theorem parseDirective_render (d : DirTxt) (more : List Char) (hs : d.syntaxOk = true) :
    parseDirective (d.body ++ more) = some (dirOf d, more) := by
  obtain ⟨hF1, hF2, hw, hp, hl, hc, h3, h2⟩ := body_lookahead d more hs
  unfold parseDirective
  simp only [hF1, hF2, parseWidth_render d.width _ ⟨h2.1, h2.2.1⟩ hw, parsePrec_render d.prec _ h3 hp,
    parseLen_render d.len d.conv more hl hc]
  rfl

/-- `h2`, `h3`: with `ds` empty `atoi` would still skip blanks and take a sign from `R` -/
theorem atoi_render (ds R : List Char) (hall : ds.all Char.isDigit = true) (h1 : (hd R).isDigit = false)
    (h2 : isSpaceC (hd R) = false) (h3 : isFlag (hd R) = false) :
    atoi (ds ++ R) = (decimal ds : Nat) ∧ skipDigits (ds ++ R) = R := by
  simp only [isFlag, Bool.or_eq_false_iff, decide_eq_false_iff_not] at h3
  have htw := takeWhile_append_hd ds R Char.isDigit hall h1
  rw [skipDigits_eq, htw.2]
  cases ds with
  | nil => exact ⟨by rw [List.nil_append, atoi_eq R h2 h3.1.1.1.1 h3.1.1.1.2, (takeWhile_nil_of_hd R _ h1).1], rfl⟩
  | cons x xs =>
    simp only [List.all_cons, Bool.and_eq_true] at hall
    have hp := isDigit_props x hall.1
    exact ⟨by rw [atoi_eq (x :: xs ++ R) hp.1 hp.2.1 hp.2.2.1, htw.1], rfl⟩

theorem getWidth_render (w : NumTxt) (R2 : List Char) (args : List Arg) (ops : Ops) (D : Directive) (hw : widthOk w)
    (h2 : (hd R2).isDigit = false ∧ hd R2 ≠ '*' ∧ isFlag (hd R2) = false ∧ isSpaceC (hd R2) = false)
    (hDw : D.width = numOf w) (hDm : D.minus = ops.left) :
    getWidth (widthText w ++ R2) args ops =
      (resolveWidth D args).map fun r => ((r.2.1 : Int), R2, r.2.2, { ops with left := r.1 }) := by
  obtain ⟨h1, hst, hf, hsp⟩ := h2
  unfold resolveWidth
  rw [hDw]
  cases w with
  | none =>
    obtain ⟨hat, hsk⟩ := atoi_render [] R2 rfl h1 hsp hf
    simp only [List.nil_append] at hat hsk
    simp [widthText, numOf, getWidth, hst, hat, hsk, decimal, hDm]
  | star =>
    cases args with
    | nil => simp [widthText, numOf, getWidth, hd, vaInt]
    | cons x as =>
      cases x <;> simp [widthText, numOf, getWidth, hd, vaInt]
      rename_i v
      by_cases hneg : v.toInt < 0 <;> simp [hneg, hDm] <;> omega
  | lit ds =>
    simp only [widthOk, Bool.and_eq_true] at hw
    obtain ⟨hat, hsk⟩ := atoi_render ds R2 hw.1.2 h1 hsp hf
    have hs := hd_digits_append ds R2 hw.1.2 hst
    simp only [widthText, numOf, getWidth, hs, if_false, hat, hsk, Option.map_some]
    rw [if_neg (by omega)]
    simp [hDm]

theorem getPrec_render (p : NumTxt) (R3 : List Char) (args : List Arg) (ops : Ops) (D : Directive) (hp : precOk p)
    (h3 : tailStart (hd R3) = true) (hDp : D.prec = numOf p) (hop : ops.prec = false) :
    getPrec (precText p ++ R3) args ops =
      (resolvePrec D args).map fun r => (((r.1.getD 0 : Nat) : Int), R3, r.2, { ops with prec := r.1.isSome }) := by
  obtain ⟨h1, hdot, hst, hf, hsp⟩ := tailStart_props _ h3
  unfold resolvePrec
  rw [hDp]
  cases ops
  simp only at hop
  subst hop
  cases p with
  | none =>
    obtain ⟨hat, hsk⟩ := atoi_render [] R3 rfl h1 hsp hf
    simp only [List.nil_append] at hat hsk
    simp [precText, numOf, getPrec, hdot, hat, hsk, decimal]
  | star =>
    cases args with
    | nil => simp [precText, numOf, getPrec, hd, vaInt]
    | cons x as =>
      cases x <;> simp [precText, numOf, getPrec, hd, vaInt]
      rename_i v
      by_cases hneg : v.toInt < 0
      · have : ¬ v.toInt ≥ 0 := by omega
        simp [hneg, this]
      · have : v.toInt ≥ 0 := by omega
        simp [hneg, this]
        omega
  | lit ds =>
    obtain ⟨hat, hsk⟩ := atoi_render ds R3 hp h1 hsp hf
    have hs := hd_digits_append ds R3 hp hst
    have e : hd ('.' :: (ds ++ R3)) = '.' := rfl
    simp [precText, numOf, getPrec, e, hs, hat, hsk]

theorem getLen_render (ln : Len) (c : Char) (more : List Char) (ops : Ops) (hl : ln ≠ .bigL) (hc : convChar c = true)
    (hol : ops.len = .none) : getLen (lenText ln ++ c :: more) ops = (c :: more, { ops with len := ln }) := by
  obtain ⟨hL, n1, n2, n3, n4, n5⟩ := convChar_props c hc
  cases ops
  simp only at hol
  subst hol
  cases ln <;> first | exact absurd rfl hl | simp [lenText, getLen, hd, n1, n2, n3, n4, n5, hL]

/-- the `ops` of the model's parser where the spec's has the directive `D`, the effective `-` flag `mi` and the
effective precision `pr` -/
def opsOf (D : Directive) (mi : Bool) (pr : Option Nat) : Ops :=
  { left := mi, sign := D.plus, space := D.space, spec := D.hash, zero := D.zero, prec := pr.isSome, len := D.len }

theorem parseOpts_render (d : DirTxt) (more : List Char) (hs : d.syntaxOk = true) (args : List Arg) :
    parseOpts ('%' :: (d.body ++ more)) args =
      (resolveWidth (dirOf d) args).bind fun r1 => (resolvePrec (dirOf d) r1.2.2).map fun r2 =>
        ((r1.2.1 : Int), ((r2.1.getD 0 : Nat) : Int), d.conv :: more, r2.2, opsOf (dirOf d) r1.1 r2.1) := by
  obtain ⟨hF1, hF2, hw, hp, hl, hc, h3, h2⟩ := body_lookahead d more hs
  unfold parseOpts
  simp only [List.tail_cons, flagsLoop_eq, hF1, hF2, Bool.false_or]
  rw [getWidth_render d.width _ args _ (dirOf d) hw h2 rfl rfl]
  cases resolveWidth (dirOf d) args with
  | none => rfl
  | some r1 =>
    simp only [Option.map_some, Option.bind_some]
    rw [getPrec_render d.prec _ r1.2.2 _ (dirOf d) hp h3 rfl rfl]
    cases resolvePrec (dirOf d) r1.2.2 with
    | none => rfl
    | some r2 =>
      simp only [Option.map_some]
      rw [getLen_render d.len d.conv more _ hl hc rfl]
      rfl

theorem parseLen_unrender (s : List Char) :
    lenText (parseLen s).1 ++ (parseLen s).2 = s ∧ (parseLen s).1 ≠ .bigL := by
  unfold parseLen
  split <;> simp [lenText]

theorem parsePrec_unrender (s : List Char) :
    ∃ p : NumTxt, (parsePrec s).1 = numOf p ∧ precText p ++ (parsePrec s).2 = s ∧ precOk p := by
  unfold parsePrec
  split
  · exact ⟨.star, rfl, by simp [precText], trivial⟩
  · rename_i r _
    exact ⟨.lit (r.takeWhile Char.isDigit), rfl, by simp [precText, List.takeWhile_append_dropWhile],
      List.all_takeWhile⟩
  · exact ⟨.none, rfl, by simp [precText], trivial⟩

theorem parseWidth_unrender (s : List Char) (hf : isFlag (hd s) = false) :
    ∃ w : NumTxt, (parseWidth s).1 = numOf w ∧ widthText w ++ (parseWidth s).2 = s ∧ widthOk w := by
  unfold parseWidth
  split
  · exact ⟨.star, rfl, by simp [widthText], trivial⟩
  · simp only
    split
    · exact ⟨.none, rfl, by simp [widthText], trivial⟩
    · rename_i hne
      refine ⟨.lit (s.takeWhile Char.isDigit), rfl, by simp [widthText, List.takeWhile_append_dropWhile], ?_⟩
      simp only [widthOk, List.all_takeWhile, Bool.and_true, Bool.and_eq_true, Bool.not_eq_true', bne_iff_ne, ne_eq]
      refine ⟨by simpa using hne, ?_⟩
      cases s with
      | nil => simp
      | cons a t =>
        simp only [List.takeWhile_cons]
        split
        · simp only [List.head?_cons, Option.some.injEq]
          intro h0; subst h0; simp [hd, isFlag] at hf
        · simp

theorem parseDirective_unrender (cs : List Char) (D : Directive) (rest : List Char)
    (h : parseDirective cs = some (D, rest)) :
    ∃ dt : DirTxt, dirOf dt = D ∧ dt.body ++ rest = cs ∧ (convChar dt.conv = true → dt.syntaxOk = true) := by
  unfold parseDirective at h
  obtain ⟨w, hw1, hw2, hw3⟩ := parseWidth_unrender (cs.dropWhile isFlag) (hd_dropWhile_isFlag cs)
  obtain ⟨p, hp1, hp2, hp3⟩ := parsePrec_unrender (parseWidth (cs.dropWhile isFlag)).2
  obtain ⟨hl1, hl2⟩ := parseLen_unrender (parsePrec (parseWidth (cs.dropWhile isFlag)).2).2
  simp only at h
  split at h
  · cases h
  · rename_i c r hs
    simp only [Option.some.injEq, Prod.mk.injEq] at h
    obtain ⟨hD, hr⟩ := h
    subst hr
    refine ⟨{ flags := cs.takeWhile isFlag, width := w, prec := p,
              len := (parseLen (parsePrec (parseWidth (cs.dropWhile isFlag)).2).2).1, conv := c }, ?_, ?_, ?_⟩
    · rw [← hD]; simp only [dirOf, ← hw1, ← hp1]
    · simp only [DirTxt.body]
      rw [hs] at hl1
      have : cs = cs.takeWhile isFlag ++ cs.dropWhile isFlag := (List.takeWhile_append_dropWhile).symm
      rw [this]
      conv => rhs; rw [← hw2, ← hp2, ← hl1]
      simp [List.append_assoc]
    · intro hc
      simp only [DirTxt.syntaxOk, Bool.and_eq_true, bne_iff_ne, ne_eq]
      refine ⟨⟨⟨⟨by rw [flagChar_eq]; exact List.all_takeWhile, ?_⟩, ?_⟩, hl2⟩, hc⟩
      · cases w <;> simp_all [widthOk]
      · cases p <;> simp_all [precOk]

end Igris.C06
