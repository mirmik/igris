/-
  C15 — the terminal automaton (`vterm_automate_newdata` / `vtermxx::newdata`) against the reference
  editor (simulation `VSim`).  One call is written as a function of `nrl`, the readline object the
  call starts from, and the flags (`keyBody`); the simulation step, echo off, the C / C++ twins and
  the screen lemmas go through that form.
-/
import IgrisModel.C15.Readline
namespace Igris.C15
open Igris.Proto

/-- the readline object the next call of the terminal starts from: in state 0 / 1
the first thing it does is `readline_newline_reset` -/
def Vterm.nrl (v : Vterm) : Readline := if v.state = 2 then v.rl else v.rl.newlineReset

structure VSim (cap depth : Nat) (v : Vterm) (r : Ref) : Prop where
  st : v.state = 0 ∨ v.state = 1 ∨ v.state = 2
  sig : v.hasSignal = true
  sim : RSim cap depth v.nrl r
  rawOK : SlineOK v.rl.line          -- also while the reset is still pending (state 0 / 1)
  rawCur : v.rl.curhist ≤ depth

theorem reset_sim (cap depth : Nat) (rl : Readline) (r : Ref) (hL : SlineOK rl.line) (hcap : rl.line.cap = cap)
    (hH : HistOK cap depth rl r.hist) (hlast : rl.last = r.prev) : RSim cap depth rl.newlineReset r.fresh := by
  obtain ⟨hb, _, hr, hf⟩ := hL
  refine ⟨⟨hb, Nat.le_refl _, by simp only [Readline.newlineReset, Sline.reset]; omega, hf⟩, hcap,
    histOK_of_eq rl _ rfl rfl rfl rfl rfl hH, hlast, rfl, Nat.zero_le _, rfl, reset_toZip rl.line⟩

theorem nrl_reset (v : Vterm) (h : v.state ≠ 2) : v.nrl = v.rl.newlineReset := by
  unfold Vterm.nrl; rw [if_neg h]

theorem nrl_two (v : Vterm) (h : v.state = 2) : v.nrl = v.rl := by
  unfold Vterm.nrl; rw [if_pos h]

theorem nrl_hist (v : Vterm) :
    v.nrl.hist = v.rl.hist ∧ v.nrl.headhist = v.rl.headhist ∧ v.nrl.hfault = v.rl.hfault ∧
    v.nrl.line.cap = v.rl.line.cap ∧ ∀ k, v.nrl.histLine k = v.rl.histLine k := by
  unfold Vterm.nrl; split <;> exact ⟨rfl, rfl, rfl, rfl, fun _ => rfl⟩

theorem browsing_two {cap depth : Nat} {v : Vterm} {r : Ref} (h : VSim cap depth v r) (hb : r.browse ≠ 0) :
    v.state = 2 := by
  refine Decidable.by_contra fun hs => hb ?_
  rw [← h.sim.cur, nrl_reset _ hs]
  rfl

/-! ### what one call of `Vterm.key` depends on -/

/-- bytes the next call writes before it looks at the character -/
def Vterm.owed (v : Vterm) : List Byte := if v.state = 2 then [] else if v.echo then v.prompt else []

/-- the readline object the call leaves, the new state, the bytes written after the owed ones, the events -/
def keyBody (rl : Readline) (echo : Bool) (prompt : List Byte) (cxx sig : Bool) (c : Byte) :
    Readline × Nat × List Byte × List Ev :=
  if c = ETX then
    (rl.newlineReset, 2, (if echo then [0x5e, 0x43, CR, LF] else []) ++ (if echo then prompt else []),
      if sig then [Ev.sigint] else [])
  else
    let r := rl.putchar c
    if r.2 = RL_NEWLINE then
      let ln := r.1.line.getline
      let rl2 : Readline := { r.1 with line := ln }
      if cxx then (rl2, 1, if echo then [CR, LF] else [], [Ev.exec ln.text])
      else (rl2.newlineReset, 2, (if echo then [CR, LF] else []) ++ (if echo then prompt else []), [Ev.exec ln.text])
    else (r.1, 2, if echo then Vterm.echoFor c r.2 r.1 else [], [])

theorem prologue_eq (v : Vterm) :
    (if v.state = 2 then (v, []) else v.prologue) = ({ v with rl := v.nrl, state := 2 }, v.owed) := by
  obtain ⟨rl, st, echo, prompt, cxx, sig⟩ := v
  unfold Vterm.nrl Vterm.owed Vterm.prologue
  by_cases h2 : st = 2
  · subst h2; rfl
  · simp only [h2, if_false]

theorem key_eq_body (v : Vterm) (c : Byte) (hst : v.state = 0 ∨ v.state = 1 ∨ v.state = 2) :
    let b := keyBody v.nrl v.echo v.prompt v.cxx v.hasSignal c
    v.key c = ({ v with rl := b.1, state := b.2.1 }, v.owed ++ b.2.2.1, b.2.2.2) := by
  unfold Vterm.key
  rw [if_neg (fun hq => hq hst), prologue_eq]
  obtain ⟨rl, st, echo, prompt, cxx, sig⟩ := v
  generalize Vterm.nrl _ = N
  unfold keyBody Vterm.prologue
  simp only
  by_cases hc : c = ETX
  · simp only [hc, if_true, List.append_assoc]
  · simp only [hc, if_false]
    by_cases hn : (N.putchar c).2 = RL_NEWLINE
    · simp only [hn, if_true]
      cases cxx <;> simp
    · simp only [hn, if_false]

theorem keyBody_state (rl : Readline) (echo : Bool) (prompt : List Byte) (cxx sig : Bool) (c : Byte) :
    (keyBody rl echo prompt cxx sig c).2.1 =
      if c ≠ ETX ∧ (rl.putchar c).2 = RL_NEWLINE ∧ cxx = true then 1 else 2 := by
  unfold keyBody
  by_cases hc : c = ETX
  · rw [if_pos hc]
    exact (if_neg (fun h => h.1 hc)).symm
  · rw [if_neg hc]
    by_cases hn : (rl.putchar c).2 = RL_NEWLINE
    · simp only [hn, if_true]
      cases cxx <;> simp [hc]
    · rw [if_neg hn]
      exact (if_neg (fun h => hn h.2.1)).symm

theorem key_st012 (v : Vterm) (c : Byte) (hst : v.state = 0 ∨ v.state = 1 ∨ v.state = 2) :
    (v.key c).1.state = 1 ∨ (v.key c).1.state = 2 := by
  rw [key_eq_body v c hst]
  show (keyBody _ _ _ _ _ _).2.1 = 1 ∨ (keyBody _ _ _ _ _ _).2.1 = 2
  rw [keyBody_state]
  split
  · exact Or.inl rfl
  · exact Or.inr rfl

theorem key_state_c (v : Vterm) (c : Byte) (hst : v.state = 0 ∨ v.state = 1 ∨ v.state = 2) (hx : v.cxx = false) :
    (v.key c).1.state = 2 ∧ (v.key c).1.cxx = false := by
  rw [key_eq_body v c hst]
  refine ⟨?_, hx⟩
  show (keyBody _ _ _ _ _ _).2.1 = 2
  rw [keyBody_state, hx, if_neg (fun h => absurd h.2.2 (by decide))]

theorem vstep (cap depth : Nat) (hd : 1 ≤ depth) (v : Vterm) (r : Ref) (c : Byte)
    (h : VSim cap depth v r) : VSim cap depth (v.key c).1 (r.key cap c).1 ∧ (v.key c).2.2 = (r.key cap c).2 := by
  obtain ⟨hst, hsig, hsim, _, _⟩ := h
  rw [key_eq_body v c hst]
  unfold keyBody Ref.key
  simp only
  by_cases hc : c = ETX
  · -- Ctrl-C
    rw [if_pos hc, if_pos hc]
    have hr := reset_sim cap depth _ r hsim.lineOK hsim.lcap hsim.histOK hsim.last
    exact ⟨⟨Or.inr (Or.inr rfl), hsig, by rw [nrl_two _ rfl]; exact hr, hr.lineOK, Nat.zero_le _⟩, by simp only [hsig, if_true]⟩
  · rw [if_neg hc, if_neg hc]
    obtain ⟨s1, s2, s3, s4⟩ := rstep cap depth hd v.nrl r c hsim
    by_cases hn : (v.nrl.putchar c).2 = RL_NEWLINE
    · -- Enter: execute, then a new line
      rw [if_pos hn, s3 hn]
      simp only
      have hz : (r.rlKey cap c).1.z = r.z := by rw [hn] at s2; exact s2.newline
      have hG := getline_ok (v.nrl.putchar c).1.line s1.lineOK
      unfold StepOK at hG
      simp only [Sline.apply, Zip.apply] at hG
      obtain ⟨g1, g2, g3, _⟩ := hG
      have htext : (v.nrl.putchar c).1.line.getline.text = r.z.line := by
        rw [← toZip_line _ g1, g3, s1.zip, hz]
      have hreset : RSim cap depth
          ({ (v.nrl.putchar c).1 with line := (v.nrl.putchar c).1.line.getline } : Readline).newlineReset
          (r.rlKey cap c).1.fresh :=
        reset_sim cap depth _ _ g1 (by simp only; rw [g2, s1.lcap])
          (histOK_of_eq (v.nrl.putchar c).1 _ rfl rfl rfl rfl rfl s1.histOK) s1.last
      by_cases hx : v.cxx = true
      · rw [if_pos hx]
        exact ⟨⟨Or.inr (Or.inl rfl), hsig, by rw [nrl_reset _ (show (1 : Nat) ≠ 2 by decide)]; exact hreset, g1,
          by show (v.nrl.putchar c).1.curhist ≤ depth; rw [s1.cur]; exact s1.browse⟩, by simp only [htext]⟩
      · rw [if_neg hx]
        exact ⟨⟨Or.inr (Or.inr rfl), hsig, by rw [nrl_two _ rfl]; exact hreset, hreset.lineOK, Nat.zero_le _⟩,
          by simp only [htext]⟩
    · rw [if_neg hn, s4 hn]
      exact ⟨⟨Or.inr (Or.inr rfl), hsig, by rw [nrl_two _ rfl]; exact s1, s1.lineOK,
        by show (v.nrl.putchar c).1.curhist ≤ depth; rw [s1.cur]; exact s1.browse⟩, rfl⟩

/-! ### the initial state -/

theorem init_hist (cap depth : Nat) (hc : 1 ≤ cap) (hd : 1 ≤ depth) :
    HistOK cap depth (Readline.init cap depth) (List.replicate depth []) := by
  refine ⟨by simp [Readline.init]; omega, rfl, by simp [Readline.init],
    by simp only [Readline.init]; omega, rfl, by simp, ?_⟩
  intro k hk
  have hsl := slot_in (slotIdx 0 depth (k + 1)) depth cap (slotIdx_lt _ _ _ (by omega))
  simp only [Readline.init]
  rw [win_replicate _ _ _ _ (by omega)]
  have : (List.replicate depth ([] : List Byte)).getD k [] = [] := by
    simp [List.getD_eq_getElem?_getD, hk]
  rw [this]
  refine ⟨by simp, List.replicate (cap - 1) 0, ?_⟩
  obtain ⟨c', rfl⟩ : ∃ c', cap = c' + 1 := ⟨cap - 1, by omega⟩
  simp [List.replicate_succ]

theorem init_sim (cap depth : Nat) (hc : 1 ≤ cap) (hd : 1 ≤ depth) (cxx : Bool)
    (prompt : List Byte) : VSim cap depth (Vterm.init cap depth cxx prompt) (Ref.init depth) := by
  have hr := reset_sim cap depth (Readline.init cap depth) (Ref.init depth) (init_ok cap hc) rfl
    (init_hist cap depth hc hd) rfl
  refine ⟨Or.inl rfl, rfl, ?_, init_ok cap hc, Nat.zero_le _⟩
  rw [nrl_reset _ (by simp [Vterm.init])]
  exact hr

/-! ### whole key sequences -/

theorem run_sim (cap depth : Nat) (hd : 1 ≤ depth) (v : Vterm) (r : Ref) (ks : List Byte)
    (h : VSim cap depth v r) : VSim cap depth (v.run ks) (r.run cap ks) := by
  induction ks generalizing v r with
  | nil => exact h
  | cons c cs ih => exact ih _ _ (vstep cap depth hd v r c h).1

theorem reach_sim (cap depth : Nat) (hcap : 1 ≤ cap) (hd : 1 ≤ depth) (cxx : Bool) (prompt : List Byte) (keys : List Byte) :
    VSim cap depth ((Vterm.init cap depth cxx prompt).run keys) ((Ref.init depth).run cap keys) :=
  run_sim cap depth hd _ _ keys (init_sim cap depth hcap hd cxx prompt)

theorem events_sim (cap depth : Nat) (hd : 1 ≤ depth) (v : Vterm) (r : Ref) (ks : List Byte)
    (h : VSim cap depth v r) : v.events ks = r.events cap ks := by
  induction ks generalizing v r with
  | nil => rfl
  | cons c cs ih =>
    obtain ⟨h1, h2⟩ := vstep cap depth hd v r c h
    simp only [Vterm.events, Ref.events]
    rw [h2, ih _ _ h1]

theorem safe_of_sim (cap depth : Nat) (v : Vterm) (r : Ref) (h : VSim cap depth v r) :
    v.rl.faulted = false ∧ v.rl.line.cursor ≤ v.rl.line.len ∧ v.rl.line.len < cap ∧
    v.rl.line.buf.length = cap ∧ v.rl.hist.length = cap * depth ∧ v.rl.headhist < depth ∧ v.rl.curhist ≤ depth := by
  obtain ⟨_, _, hsim, hraw, hcur⟩ := h
  have hH := hsim.histOK
  have hc := hsim.lcap
  obtain ⟨e1, e2, e3, e4, _⟩ := nrl_hist v
  have hroom := hraw.room
  refine ⟨?_, hraw.cur, by omega, by rw [hraw.blen]; omega, by rw [← e1]; exact hH.hlen, by rw [← e2]; exact hH.head,
    hcur⟩
  unfold Readline.faulted
  rw [hraw.nofault, ← e3, hH.nofault]
  rfl

theorem editor_of_sim (cap depth : Nat) (v : Vterm) (r : Ref) (h : VSim cap depth v r) :
    v.nrl.line.text = r.z.line ∧ v.nrl.line.cursor = r.z.left.length ∧ v.nrl.curhist = r.browse ∧
    v.nrl.state = r.esc :=
  ⟨by rw [← toZip_line _ h.sim.lineOK, h.sim.zip], by rw [← toZip_left_length _ h.sim.lineOK, h.sim.zip],
    h.sim.cur, h.sim.st⟩

theorem Vterm.run_append (v : Vterm) (a b : List Byte) : v.run (a ++ b) = (v.run a).run b := by
  simp [Vterm.run, List.foldl_append]

/-! ### the terminal automaton never leaves {0, 1, 2} between calls -/

theorem run_st012 (v : Vterm) (ks : List Byte) (hst : v.state = 0 ∨ v.state = 1 ∨ v.state = 2) :
    (v.run ks).state = 0 ∨ (v.run ks).state = 1 ∨ (v.run ks).state = 2 := by
  induction ks generalizing v with
  | nil => exact hst
  | cons c cs ih =>
    have := key_st012 v c hst
    exact ih (v.key c).1 (by omega)

/-- the `default:` branch of the outer switch (`state = 0; return`) is what
`Vterm.key` does in a state outside {0, 1, 2}: it is never taken -/
theorem key_default_branch (v : Vterm) (c : Byte) (h : ¬ (v.state = 0 ∨ v.state = 1 ∨ v.state = 2)) :
    v.key c = ({ v with state := 0 }, [], []) := by
  unfold Vterm.key
  rw [if_pos h]

/-! ### echo off -/

theorem keyBody_echo (rl : Readline) (e : Bool) (prompt : List Byte) (cxx sig : Bool) (c : Byte) :
    keyBody rl e prompt cxx sig c =
      ((keyBody rl true prompt cxx sig c).1, (keyBody rl true prompt cxx sig c).2.1,
        if e then (keyBody rl true prompt cxx sig c).2.2.1 else [], (keyBody rl true prompt cxx sig c).2.2.2) := by
  unfold keyBody
  by_cases hc : c = ETX
  · cases e <;> simp [hc]
  · simp only [hc, if_false]
    split
    · cases cxx <;> cases e <;> simp
    · cases e <;> simp

theorem key_echo_off (v : Vterm) (c : Byte) (hst : v.state = 0 ∨ v.state = 1 ∨ v.state = 2) :
    (({ v with echo := false }).key c).2.1 = [] ∧
    (({ v with echo := false }).key c).2.2 = (v.key c).2.2 ∧
    (({ v with echo := false }).key c).1 = { (v.key c).1 with echo := false } := by
  have h1 := key_eq_body { v with echo := false } c hst
  have h2 := key_eq_body v c hst
  simp only at h1 h2
  have hn : ({ v with echo := false } : Vterm).nrl = v.nrl := by unfold Vterm.nrl; rfl
  rw [h1, h2, hn, keyBody_echo v.nrl false, keyBody_echo v.nrl v.echo]
  refine ⟨?_, rfl, rfl⟩
  simp only [Vterm.owed]
  split <;> simp

theorem run_echo_off (v : Vterm) (ks : List Byte) (hst : v.state = 0 ∨ v.state = 1 ∨ v.state = 2) :
    ({ v with echo := false }).echoed ks = [] ∧
    ({ v with echo := false }).events ks = v.events ks ∧
    ({ v with echo := false }).run ks = { v.run ks with echo := false } := by
  induction ks generalizing v with
  | nil => exact ⟨rfl, rfl, rfl⟩
  | cons c cs ih =>
    obtain ⟨k1, k2, k3⟩ := key_echo_off v c hst
    have hst' : (v.key c).1.state = 0 ∨ (v.key c).1.state = 1 ∨ (v.key c).1.state = 2 := by
      have := key_st012 v c hst; omega
    obtain ⟨j1, j2, j3⟩ := ih (v.key c).1 hst'
    refine ⟨?_, ?_, ?_⟩
    · simp only [Vterm.echoed]; rw [k1, k3, j1]; rfl
    · simp only [Vterm.events]; rw [k2, k3, j2]
    · show ({ v with echo := false } : Vterm).run (c :: cs) = _
      simp only [Vterm.run, List.foldl_cons]
      rw [k3]
      exact j3

/-! ### the C terminal and the C++ terminal -/

/-- `vterm.c` (left) and `igris::vtermxx` (right) after the same keys: they agree
on the readline object the next call starts from and on all flags; the only
difference is that vtermxx may still owe the reset + prompt (state 1) that
vterm.c has already done (state 2) -/
structure Twin (vc vx : Vterm) : Prop where
  c : vc.cxx = false
  x : vx.cxx = true
  stc : vc.state = 0 ∨ vc.state = 1 ∨ vc.state = 2
  stx : vx.state = 0 ∨ vx.state = 1 ∨ vx.state = 2
  nrl : vc.nrl = vx.nrl
  echo : vc.echo = vx.echo
  prompt : vc.prompt = vx.prompt
  sig : vc.hasSignal = vx.hasSignal

theorem nrl_of_key (v : Vterm) (rl : Readline) (st : Nat) : ({ v with rl := rl, state := st } : Vterm).nrl =
    if st = 2 then rl else rl.newlineReset := by
  unfold Vterm.nrl; rfl

theorem newlineReset_idem (rl : Readline) : rl.newlineReset.newlineReset = rl.newlineReset := by
  unfold Readline.newlineReset Sline.reset; rfl

theorem keyBody_twin (N : Readline) (e : Bool) (P : List Byte) (sg : Bool) (c : Byte) :
    (if (keyBody N e P false sg c).2.1 = 2 then (keyBody N e P false sg c).1
      else (keyBody N e P false sg c).1.newlineReset) =
    (if (keyBody N e P true sg c).2.1 = 2 then (keyBody N e P true sg c).1
      else (keyBody N e P true sg c).1.newlineReset) ∧
    (keyBody N e P false sg c).2.2.2 = (keyBody N e P true sg c).2.2.2 ∧
    (keyBody N e P false sg c).2.1 = 2 ∧
    ((keyBody N e P true sg c).2.1 = 1 ∨ (keyBody N e P true sg c).2.1 = 2) ∧
    (keyBody N e P false sg c).2.2.1 =
      (keyBody N e P true sg c).2.2.1 ++ (if (keyBody N e P true sg c).2.1 = 2 then [] else if e then P else []) := by
  unfold keyBody
  by_cases he : c = ETX
  · simp [he]
  · simp only [he, if_false]
    by_cases hn : (N.putchar c).2 = RL_NEWLINE
    · simp [hn]
    · simp [hn]

theorem twin_step (vc vx : Vterm) (c : Byte) (h : Twin vc vx) :
    Twin (vc.key c).1 (vx.key c).1 ∧ (vc.key c).2.2 = (vx.key c).2.2 ∧
    ∃ bc bx, (vc.key c).2.1 = vc.owed ++ bc ∧ (vx.key c).2.1 = vx.owed ++ bx ∧
      bc ++ (vc.key c).1.owed = bx ++ (vx.key c).1.owed := by
  have hc := key_eq_body vc c h.stc
  have hx := key_eq_body vx c h.stx
  simp only at hc hx
  obtain ⟨k1, k2, k3, k4, k5⟩ := keyBody_twin vx.nrl vx.echo vx.prompt vx.hasSignal c
  rw [h.c, h.nrl, h.echo, h.prompt, h.sig] at hc
  rw [h.x] at hx
  rw [hc, hx]
  refine ⟨⟨rfl, rfl, ?_, ?_, k1, rfl, rfl, rfl⟩, k2, _, _, rfl, rfl, ?_⟩
  · exact Or.inr (Or.inr k3)
  · rcases k4 with k4 | k4
    · exact Or.inr (Or.inl k4)
    · exact Or.inr (Or.inr k4)
  · show _ ++ (if _ = 2 then [] else if vx.echo = true then vx.prompt else []) =
      _ ++ (if _ = 2 then [] else if vx.echo = true then vx.prompt else [])
    rw [k5, if_pos k3]
    simp

theorem twin_run (vc vx : Vterm) (ks : List Byte) (h : Twin vc vx) :
    Twin (vc.run ks) (vx.run ks) ∧ vc.events ks = vx.events ks ∧
    ∀ X Y : List Byte, X ++ vc.owed = Y ++ vx.owed →
      (X ++ vc.echoed ks) ++ (vc.run ks).owed = (Y ++ vx.echoed ks) ++ (vx.run ks).owed := by
  induction ks generalizing vc vx with
  | nil =>
    refine ⟨h, rfl, ?_⟩
    intro X Y e
    simpa [Vterm.echoed, Vterm.run] using e
  | cons c cs ih =>
    obtain ⟨t1, t2, bc, bx, o1, o2, o3⟩ := twin_step vc vx c h
    obtain ⟨i1, i2, i3⟩ := ih (vc.key c).1 (vx.key c).1 t1
    refine ⟨i1, ?_, ?_⟩
    · simp only [Vterm.events]; rw [t2, i2]
    · intro X Y e
      have := i3 (X ++ (vc.key c).2.1) (Y ++ (vx.key c).2.1) (by
        rw [o1, o2, ← List.append_assoc X, e, List.append_assoc, List.append_assoc, o3]
        simp only [List.append_assoc])
      simp only [Vterm.echoed, Vterm.run, List.foldl_cons] at this ⊢
      simpa only [List.append_assoc] using this

theorem twin_init (cap depth : Nat) (prompt : List Byte) :
    Twin (Vterm.init cap depth false prompt) (Vterm.init cap depth true prompt) :=
  ⟨rfl, rfl, Or.inl rfl, Or.inl rfl, rfl, rfl, rfl, rfl⟩

/-! ### vterm.c is in state 2 between keys -/

theorem run_state_c (cap depth : Nat) (hd : 1 ≤ depth) (v : Vterm) (r : Ref)
    (h : VSim cap depth v r) (hx : v.cxx = false) (ks : List Byte) (hne : ks ≠ []) : (v.run ks).state = 2 := by
  induction ks generalizing v r with
  | nil => exact absurd rfl hne
  | cons c cs ih =>
    obtain ⟨k1, k2⟩ := key_state_c v c h.st hx
    by_cases hcs : cs = []
    · subst hcs; exact k1
    · exact ih (v.key c).1 (r.key cap c).1 (vstep cap depth hd v r c h).1 k2 hcs

/-! ### starting with `vterm_automate_init_step` (the prompt is printed before the first key) -/

theorem initStep_pending (cap depth : Nat) (v : Vterm) (r : Ref) (h : VSim cap depth v r) (hs : v.state ≠ 2) :
    VSim cap depth v.initStep.1 r ∧ v.initStep.1.state = 2 ∧ v.initStep.1.echo = v.echo ∧
    v.initStep.1.prompt = v.prompt ∧ v.initStep.1.cxx = v.cxx ∧ v.initStep.2 = (if v.echo then v.prompt else []) := by
  obtain ⟨hst, hsig, hsim, _, _⟩ := h
  have e : v.initStep = v.prologue := by
    unfold Vterm.initStep; rw [if_pos (by omega)]
  rw [e]
  rw [nrl_reset _ hs] at hsim
  refine ⟨⟨Or.inr (Or.inr rfl), hsig, ?_, hsim.lineOK, ?_⟩, rfl, rfl, rfl, rfl, rfl⟩
  · rw [nrl_two _ rfl]; exact hsim
  · simp only [Vterm.prologue, Readline.newlineReset]; exact Nat.zero_le _

/-! ### the `int16_t` parameter -/

theorem sextChar_ne (b : Byte) (hb : b ≠ 0xFF) : sextChar b ≠ -1 := by
  have h255 : b.toNat ≠ 255 := fun h => hb (BitVec.eq_of_toNat_eq h)
  have := b.isLt
  unfold sextChar
  split <;> omega

theorem sextChar_trunc : ∀ b : Byte, BitVec.ofInt 8 (sextChar b) = b := by
  intro b
  have := b.isLt
  apply BitVec.eq_of_toNat_eq
  rw [BitVec.toNat_ofInt]
  unfold sextChar
  split <;> omega

theorem sextChar_neg : ∀ b : Byte, (sextChar b < 0 ↔ 128 ≤ b.toNat) := by
  intro b
  have := b.isLt
  unfold sextChar
  split <;> omega

/-! ### actions between keys keep the simulation -/

theorem settings_sim (cap depth : Nat) (v : Vterm) (r : Ref) (h : VSim cap depth v r) (p : List Byte) (e : Bool) :
    VSim cap depth { v with prompt := p, echo := e } r := by
  obtain ⟨a, b, c, d, f⟩ := h
  exact ⟨a, b, c, d, f⟩

theorem initStep_sim (cap depth : Nat) (v : Vterm) (r : Ref) (h : VSim cap depth v r) :
    VSim cap depth v.initStep.1 r := by
  by_cases h2 : v.state = 2
  · have e : v.initStep = (v, []) := by
      unfold Vterm.initStep; rw [if_neg (by omega), if_pos h2]
    rw [e]; exact h
  · exact (initStep_pending cap depth v r h h2).1

theorem act_sim (cap depth : Nat) (hd : 1 ≤ depth) (v : Vterm) (r : Ref) (a : Act) (h : VSim cap depth v r) :
    VSim cap depth (v.act a).1 (r.run cap (Act.typed [a])) ∧ (v.act a).2.2 = r.events cap (Act.typed [a]) := by
  cases a with
  | key c =>
    obtain ⟨h1, h2⟩ := vstep cap depth hd v r c h
    exact ⟨h1, by simp [Vterm.act, Act.typed, Ref.events, h2]⟩
  | keyI i =>
    by_cases hi : i = -1
    · subst hi
      simp only [Vterm.act, Vterm.keyI, Act.typed, if_true, Ref.run, List.foldl_nil, Ref.events]
      exact ⟨initStep_sim cap depth v r h, trivial⟩
    · obtain ⟨h1, h2⟩ := vstep cap depth hd v r (BitVec.ofInt 8 i) h
      simp only [Vterm.act, Vterm.keyI, Act.typed, hi, if_false]
      exact ⟨h1, by simp [Ref.events, h2]⟩
  | initStep => exact ⟨initStep_sim cap depth v r h, rfl⟩
  | setPrompt p => exact ⟨settings_sim cap depth v r h p v.echo, rfl⟩
  | setEcho e => exact ⟨settings_sim cap depth v r h v.prompt e, rfl⟩

theorem typed_cons (a : Act) (as : List Act) : Act.typed (a :: as) = Act.typed [a] ++ Act.typed as := by
  cases a with
  | keyI i => by_cases hi : i = -1 <;> simp [Act.typed, hi]
  | _ => simp [Act.typed]

theorem acts_sim (cap depth : Nat) (hd : 1 ≤ depth) (v : Vterm) (r : Ref) (as : List Act) (h : VSim cap depth v r) :
    VSim cap depth (v.runActs as) (r.run cap (Act.typed as)) ∧ v.actEvents as = r.events cap (Act.typed as) := by
  induction as generalizing v r with
  | nil => exact ⟨h, rfl⟩
  | cons a as ih =>
    obtain ⟨h1, h2⟩ := act_sim cap depth hd v r a h
    obtain ⟨i1, i2⟩ := ih _ _ h1
    rw [typed_cons, Ref.run_append, Ref.events_append]
    refine ⟨i1, ?_⟩
    simp only [Vterm.actEvents]
    rw [h2, i2]

end Igris.C15
