/-
  C15 — the code's arithmetic at its C widths against the unbounded model: `sline_avail` /
  `sline_newdata` (`int` of an `unsigned int` difference), the count of `sline_backspace` /
  `sline_delete` (`unsigned int` = `BitVec 32`: in a well-formed object no subtraction wraps and the
  clamp compares what it means to compare; the clamp written `cursor + count > len` does wrap), and
  the ring offsets (`unsigned int` products).
-/
import IgrisModel.C15.Sline
namespace Igris.C15
open Igris.Proto

/-! ### `sline_newdata` at the C widths -/

theorem availC_small (s : Sline) (hl : s.len ≤ s.cap) (hc : s.cap < 2147483648) :
    s.availC = (s.cap : Int) - (s.len : Int) := by
  unfold Sline.availC toInt32
  have h1 : s.len % 4294967296 = s.len := Nat.mod_eq_of_lt (by omega)
  have h2 : (s.cap + 4294967296 - s.len) % 4294967296 = s.cap - s.len := by
    have : s.cap + 4294967296 - s.len = (s.cap - s.len) + 4294967296 := by omega
    rw [this, Nat.add_mod_right, Nat.mod_eq_of_lt (by omega)]
  rw [h1, h2, if_pos (by omega)]
  omega

theorem newdataC_eq (s : Sline) (hl : s.len ≤ s.cap) (hc : s.cap < 2147483648) (d : List Byte) (n : Int) :
    s.newdataC d n = s.newdataI d n := by
  unfold Sline.newdataC Sline.newdataI
  rw [availC_small s hl hc]
  have : decide ((s.cap : Int) - (s.len : Int) = -2147483648) = false := by simp; omega
  simp [this]

theorem u32_toNat (n : Nat) (h : n < 4294967296) : (Sline.u32 n).toNat = n := by
  unfold Sline.u32; rw [BitVec.toNat_ofNat]; exact Nat.mod_eq_of_lt h

theorem bv32_sub_toNat (a b : BitVec 32) (h : b.toNat ≤ a.toNat) : (a - b).toNat = a.toNat - b.toNat :=
  BitVec.toNat_sub_of_le (BitVec.le_def.mpr h)

/-- the clamp `if (count > x) count = x` on `unsigned int`s is `min` -/
theorem clamp_toNat (count x : BitVec 32) :
    (if count > x then x else count).toNat = if count.toNat > x.toNat then x.toNat else count.toNat := by
  by_cases h : count > x
  · rw [if_pos h, if_pos (by rw [gt_iff_lt, BitVec.lt_def] at h; exact h)]
  · rw [if_neg h, if_neg (by rw [gt_iff_lt, BitVec.lt_def] at h; exact h)]

theorem toInt_small (c : BitVec 32) (h : c.toNat < 2147483648) : c.toInt = (c.toNat : Int) := by
  rw [BitVec.toInt_eq_toNat_cond, if_pos (by omega)]

theorem toInt_toInt32 (c : BitVec 32) : c.toInt = toInt32 c.toNat := by
  have := c.isLt
  unfold toInt32
  rw [BitVec.toInt_eq_toNat_cond, Nat.mod_eq_of_lt (by omega)]
  by_cases h : c.toNat < 2147483648
  · rw [if_pos (by omega), if_pos h]
  · rw [if_neg (by omega), if_neg h]; omega

theorem toInt32_small (k : Nat) (h : k < 2147483648) : toInt32 k = (k : Int) := by
  unfold toInt32; rw [Nat.mod_eq_of_lt (by omega), if_pos h]

theorem rightsizeC_toNat (s : Sline) (h : s.cursor ≤ s.len) (hl : s.len < 4294967296) :
    s.rightsizeC.toNat = s.len - s.cursor := by
  have e1 := u32_toNat s.len hl
  have e2 := u32_toNat s.cursor (by omega)
  unfold Sline.rightsizeC
  rw [bv32_sub_toNat _ _ (by omega), e1, e2]

theorem clamp_sub (count x a : BitVec 32) {n m : Nat} (hx : x.toNat = n) (ha : a.toNat = m) (h : n ≤ m) :
    ∃ c, (if count > x then x else count) = c ∧ (if count.toNat > n then n else count.toNat) = c.toNat ∧
      c.toNat ≤ n ∧ (a - c).toNat = m - c.toNat := by
  subst hx ha
  have hle : (if count > x then x else count).toNat ≤ x.toNat := by rw [clamp_toNat]; split <;> omega
  exact ⟨_, rfl, (clamp_toNat count x).symm, hle, bv32_sub_toNat _ _ (by omega)⟩

/-- `sline_backspace` at the C width = the unbounded model, for EVERY `unsigned int` count -/
theorem backspaceC_eq (s : Sline) (h : SlineOK s) (hc : s.cap ≤ 4294967296) (count : BitVec 32) :
    (s.backspaceC count).1 = (s.backspace count.toNat).1 ∧
    (s.backspaceC count).2 = toInt32 (s.backspace count.toNat).2 := by
  obtain ⟨hb, hcur, hroom, hf⟩ := h
  have hl : s.len < 4294967296 := by omega
  have hcu : s.cursor < 4294967296 := by omega
  have e1 := u32_toNat s.len hl
  have e2 := u32_toNat s.cursor hcu
  obtain ⟨c', hk, hk', hkle, l1⟩ := clamp_sub count (Sline.u32 s.cursor) (Sline.u32 s.len) e2 e1 hcur
  have l2 : (Sline.u32 s.cursor - c').toNat = s.cursor - c'.toNat := by rw [bv32_sub_toNat _ _ (by omega), e2]
  have l3 : ((Sline.u32 s.len - c') - (Sline.u32 s.cursor - c')).toNat = (s.len - c'.toNat) - (s.cursor - c'.toNat) := by
    rw [bv32_sub_toNat _ _ (by omega), l1, l2]
  have hw : decide (s.len < s.cursor) = false := by simp; omega
  unfold Sline.backspaceC Sline.backspace
  simp only [hk, hk', hw, Bool.or_false, BitVec.toNat_ne, l1, l2, l3]
  split <;> exact ⟨rfl, toInt_toInt32 c'⟩

/-- `sline_delete` at the C width = the unbounded model, for EVERY `unsigned int` count -/
theorem deleteC_eq (s : Sline) (h : SlineOK s) (hc : s.cap ≤ 4294967296) (count : BitVec 32) :
    (s.deleteC count).1 = (s.delete count.toNat).1 ∧
    (s.deleteC count).2 = toInt32 (s.delete count.toNat).2 := by
  obtain ⟨hb, hcur, hroom, hf⟩ := h
  have hl : s.len < 4294967296 := by omega
  have hcu : s.cursor < 4294967296 := by omega
  have e1 := u32_toNat s.len hl
  have e2 := u32_toNat s.cursor hcu
  have ers := rightsizeC_toNat s hcur hl
  obtain ⟨c', hk, hk', hkle, l1⟩ := clamp_sub count s.rightsizeC (Sline.u32 s.len) ers e1 (Nat.sub_le _ _)
  have l3 : ((Sline.u32 s.len - c') - Sline.u32 s.cursor).toNat = (s.len - c'.toNat) - s.cursor := by
    rw [bv32_sub_toNat _ _ (by omega), l1, e2]
  have hw : decide (s.len < s.cursor) = false := by simp; omega
  unfold Sline.deleteC Sline.delete Sline.rightsize
  simp only [hk, hk', hw, Bool.or_false, BitVec.toNat_ne, l1, l3, e2]
  split <;> exact ⟨rfl, toInt_toInt32 c'⟩

/-! ### the clamp written with a sum -/

/-- `sline_delete` with the clamp rewritten as
`if (sl->cursor + count > sl->len) count = sl->len - sl->cursor;` — the same inequality over the
integers, but `cursor + count` is an `unsigned int` sum.  NOT the code; the subject of
`delete_clamp_wrapped_witness`. -/
def Sline.deleteWrapped (s : Sline) (count : BitVec 32) : Sline × Int :=
  let count := if Sline.u32 s.cursor + count > Sline.u32 s.len then Sline.u32 s.len - Sline.u32 s.cursor else count
  let len := Sline.u32 s.len - count
  if Sline.u32 s.cursor ≠ len then
    let m := mmove s.buf s.cursor (s.cursor + count.toNat) (len - Sline.u32 s.cursor).toNat
    ({ s with buf := m.1, len := len.toNat, fault := s.fault || m.2 }, count.toInt)
  else
    ({ s with len := len.toNat }, count.toInt)

/-- small counts do not tell the two clamps apart: they differ only where `cursor + count` wraps -/
theorem deleteWrapped_eq_of_no_wrap (s : Sline) (h : SlineOK s) (hc : s.cap ≤ 4294967296) (count : BitVec 32)
    (hs : s.cursor + count.toNat < 4294967296) : s.deleteWrapped count = s.deleteC count := by
  obtain ⟨hb, hcur, hroom, hf⟩ := h
  have e1 := u32_toNat s.len (by omega)
  have e2 := u32_toNat s.cursor (by omega)
  have ers := rightsizeC_toNat s hcur (by omega)
  have hsum : (Sline.u32 s.cursor + count).toNat = s.cursor + count.toNat := by
    rw [BitVec.toNat_add, e2]; exact Nat.mod_eq_of_lt hs
  have hiff : (Sline.u32 s.cursor + count > Sline.u32 s.len) ↔ (count > s.rightsizeC) := by
    rw [gt_iff_lt, gt_iff_lt, BitVec.lt_def, BitVec.lt_def, hsum, e1, ers]; omega
  unfold Sline.deleteWrapped Sline.deleteC
  have : (if Sline.u32 s.cursor + count > Sline.u32 s.len then Sline.u32 s.len - Sline.u32 s.cursor else count) =
      (if count > s.rightsizeC then s.rightsizeC else count) := by
    by_cases hx : count > s.rightsizeC
    · rw [if_pos hx, if_pos (hiff.2 hx)]; rfl
    · rw [if_neg hx, if_neg (fun hy => hx (hiff.1 hy))]
  simp only [this]

/-! ### ring offsets at the C width -/

theorem histOffC_eq (rl : Readline) (num : Nat) (h1 : 1 ≤ rl.hsize) (hh : rl.headhist < rl.hsize) (hn : num ≤ rl.hsize)
    (hs : rl.hsize ≤ 2147483647) (hc : rl.line.cap < 4294967296) (hfit : rl.hsize * rl.line.cap ≤ 4294967296) :
    rl.histOffC num = rl.histOff num ∧ rl.pushOffC = rl.headhist * rl.line.cap ∧
    rl.clearedC % 4294967296 = (rl.line.cap * rl.hsize) % 4294967296 := by
  have e1 := u32_toNat rl.headhist (by omega)
  have e2 := u32_toNat rl.hsize (by omega)
  have e3 := u32_toNat num (by omega)
  have e4 := u32_toNat rl.line.cap hc
  have hsum : (Sline.u32 rl.headhist + Sline.u32 rl.hsize).toNat = rl.headhist + rl.hsize := by
    rw [BitVec.toNat_add, e1, e2]; exact Nat.mod_eq_of_lt (by omega)
  have hdiff : (Sline.u32 rl.headhist + Sline.u32 rl.hsize - Sline.u32 num).toNat = rl.headhist + rl.hsize - num := by
    rw [bv32_sub_toNat _ _ (by rw [hsum, e3]; omega), hsum, e3]
  have hidx : ((Sline.u32 rl.headhist + Sline.u32 rl.hsize - Sline.u32 num) % Sline.u32 rl.hsize).toNat =
      (rl.headhist + rl.hsize - num) % rl.hsize := by
    rw [BitVec.toNat_umod, hdiff, e2]
  have hlt : (rl.headhist + rl.hsize - num) % rl.hsize < rl.hsize := Nat.mod_lt _ (by omega)
  have hmul : ∀ i, i < rl.hsize → i * rl.line.cap < 4294967296 := by
    intro i hi
    have : i * rl.line.cap ≤ (rl.hsize - 1) * rl.line.cap := Nat.mul_le_mul_right _ (by omega)
    have h2 : (rl.hsize - 1) * rl.line.cap + rl.line.cap = rl.hsize * rl.line.cap := by
      rw [← Nat.succ_mul]; congr 1; omega
    by_cases hz : rl.line.cap = 0
    · rw [hz]; simp
    · omega
  refine ⟨?_, ?_, ?_⟩
  · unfold Readline.histOffC Readline.histOff
    rw [BitVec.toNat_mul, hidx, e4]
    exact Nat.mod_eq_of_lt (hmul _ hlt)
  · unfold Readline.pushOffC
    rw [BitVec.toNat_mul, e1, e4]
    exact Nat.mod_eq_of_lt (hmul _ hh)
  · unfold Readline.clearedC
    rw [BitVec.toNat_mul, e4, e2, Nat.mod_mod]

end Igris.C15
