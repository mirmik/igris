/-
  C15 — `struct sline` against the zipper.  A well-formed line object IS a layout of its buffer
  in three parts, `buf = L ++ R ++ T`: the characters left of the cursor, those from the cursor to
  the end of the line, and the rest of the buffer (never empty: the byte `sline_getline` needs for
  the terminator).  Each `sline_*` call has one equation saying what it does to a layout; bounds,
  memory safety and the refinement of the zipper `⟨L, R⟩` are read off these equations.
-/
import IgrisModel.C15.Buffer
namespace Igris.C15
open Igris.Proto

/-- `room`: the byte `sline_getline` writes the terminator into; `nofault`: no access so far left
the buffer -/
structure SlineOK (s : Sline) : Prop where
  blen : s.buf.length = s.cap
  cur : s.cursor ≤ s.len
  room : s.len + 1 ≤ s.cap
  nofault : s.fault = false

@[reducible] def lay (L R T : List Byte) : Sline :=
  ⟨L ++ (R ++ T), L.length + (R.length + T.length), L.length + R.length, L.length, false⟩

theorem lay_ok (L R T : List Byte) (hT : T ≠ []) : SlineOK (lay L R T) := by
  have : 0 < T.length := List.length_pos_iff.mpr hT
  exact ⟨by simp, by simp, by show L.length + R.length + 1 ≤ L.length + (R.length + T.length); omega, rfl⟩

theorem toZip_lay (L R T : List Byte) : (lay L R T).toZip = ⟨L, R⟩ := by
  simp [Sline.toZip]

theorem ok_lay (s : Sline) (h : SlineOK s) :
    ∃ L R T, T ≠ [] ∧ s = lay L R T := by
  obtain ⟨buf, cap, len, cursor, fault⟩ := s
  obtain ⟨hb, hc, hr, hf⟩ := h
  simp only at hb hc hr hf
  refine ⟨buf.take cursor, (buf.drop cursor).take (len - cursor), buf.drop len, ?_, ?_⟩
  · exact List.ne_nil_of_length_pos (by rw [List.length_drop]; omega)
  · have e : (buf.drop cursor).take (len - cursor) ++ buf.drop len = buf.drop cursor := by
      have : buf.drop len = (buf.drop cursor).drop (len - cursor) := by
        rw [List.drop_drop]; congr 1; omega
      rw [this, List.take_append_drop]
    simp only [lay, e, List.take_append_drop, List.length_take, List.length_drop, hf, Sline.mk.injEq, and_true, true_and]
    omega

theorem toZip_left_length (s : Sline) (h : SlineOK s) : s.toZip.left.length = s.cursor := by
  obtain ⟨L, R, T, _, rfl⟩ := ok_lay s h; rw [toZip_lay]

theorem toZip_right_length (s : Sline) (h : SlineOK s) : s.toZip.right.length = s.len - s.cursor := by
  obtain ⟨L, R, T, _, rfl⟩ := ok_lay s h; rw [toZip_lay]; simp

theorem toZip_len (s : Sline) (h : SlineOK s) : s.toZip.len = s.len := by
  obtain ⟨L, R, T, _, rfl⟩ := ok_lay s h; rw [toZip_lay]; rfl

theorem text_lay (L R T : List Byte) : (lay L R T).text = L ++ R := by
  simp [Sline.text, ← List.append_assoc, List.take_left']

theorem toZip_line (s : Sline) (h : SlineOK s) : s.toZip.line = s.text := by
  obtain ⟨L, R, T, _, rfl⟩ := ok_lay s h
  rw [toZip_lay, text_lay]; rfl

theorem text_length (s : Sline) (h : SlineOK s) : s.text.length = s.len := by
  rw [← toZip_line s h, ← toZip_len s h]; simp [Zip.line, Zip.len]

theorem init_ok (cap : Nat) (h : 1 ≤ cap) : SlineOK (Sline.init cap) :=
  ⟨by simp [Sline.init], by simp [Sline.init], by simp [Sline.init]; omega, rfl⟩

theorem init_toZip (cap : Nat) : (Sline.init cap).toZip = Zip.empty := by
  simp [Sline.init, Sline.toZip, Zip.empty]

theorem reset_toZip (s : Sline) : s.reset.toZip = Zip.empty := by
  simp [Sline.reset, Sline.toZip, Zip.empty]

/-! ### what each call does to a layout -/

theorem putchar_full (L R : List Byte) (t c : Byte) : (lay L R [t]).putchar c = (lay L R [t], 0) := by
  unfold Sline.putchar
  rw [if_pos (by simp; omega)]

theorem putchar_lay (L R T : List Byte) (t u c : Byte) :
    (lay L R (t :: u :: T)).putchar c = (lay (L ++ [c]) R (u :: T), 1) := by
  unfold Sline.putchar
  rw [if_neg (by simp; omega)]
  simp only [lay]
  rw [ite_mmove _ _ _ _ (by intro h; simp at h; simp [h])]
  rw [show L ++ (R ++ t :: u :: T) = L ++ (R ++ ([t] ++ u :: T)) from rfl,
    open_gap (k := 1) rfl rfl (by omega) rfl]
  obtain ⟨x, hx⟩ : ∃ x, (R ++ [t]).take 1 = [x] := by cases R <;> simp
  rw [hx]
  simp only
  rw [show L ++ ([x] ++ (R ++ u :: T)) = L ++ x :: (R ++ u :: T) from rfl, wr_app c rfl]
  simp
  omega

/-- `X`: the part of the spare room that the clamped count covers -/
theorem newdata_lay (L R X T d : List Byte) (n : Nat) (hT : T ≠ []) (hn : n ≤ d.length)
    (hk : min n ((X ++ T).length - 1) = X.length) :
    (lay L R (X ++ T)).newdata d n = (lay (L ++ d.take X.length) R T, X.length) := by
  have hTl : 0 < T.length := List.length_pos_iff.mpr hT
  rw [List.length_append] at hk
  unfold Sline.newdata
  simp only [lay, List.length_append]
  have hk1 : (if n > L.length + (R.length + (X.length + T.length)) - (L.length + R.length) - 1
      then L.length + (R.length + (X.length + T.length)) - (L.length + R.length) - 1 else n) = X.length := by
    split <;> omega
  rw [hk1, ite_mmove _ _ _ _ (by intro h; simp at h; simp [h]),
    open_gap (k := X.length) rfl rfl (by omega) rfl]
  simp only
  rw [mcpy_app rfl (by simp) (by omega)]
  simp
  omega

/-- `J`: the stale bytes the move of the right part leaves behind it -/
theorem delete_lay (L R1 R2 T : List Byte) (n : Nat) (hn : min n (R1 ++ R2).length = R1.length) :
    ∃ J, J.length = R1.length ∧ (lay L (R1 ++ R2) T).delete n = (lay L R2 (J ++ T), R1.length) := by
  rw [List.length_append] at hn
  refine ⟨(R1 ++ R2).drop R2.length, by simp, ?_⟩
  unfold Sline.delete Sline.rightsize
  simp only [lay, List.length_append, List.append_assoc]
  have hk1 : (if n > L.length + (R1.length + R2.length) - L.length then L.length + (R1.length + R2.length) - L.length
      else n) = R1.length := by split <;> omega
  rw [hk1]
  by_cases hc : L.length ≠ L.length + (R1.length + R2.length) - R1.length
  · rw [if_pos hc, close_gap rfl rfl (by omega)]
    simp
    omega
  · rw [if_neg hc]
    have : R2 = [] := List.eq_nil_of_length_eq_zero (by omega)
    subst this
    simp

theorem backspace_eq_delete (s : Sline) (n : Nat) (h : s.cursor ≤ s.len) :
    s.backspace n = ({ s with cursor := s.cursor - min n s.cursor } : Sline).delete (min n s.cursor) := by
  have hk : (if n > s.cursor then s.cursor else n) = min n s.cursor := by split <;> omega
  have hle : min n s.cursor ≤ s.cursor := Nat.min_le_right _ _
  generalize min n s.cursor = k at hk hle ⊢
  have hd : (if k > s.len - (s.cursor - k) then s.len - (s.cursor - k) else k) = k := if_neg (by omega)
  have w1 : decide (s.len < s.cursor) = false := decide_eq_false (by omega)
  have w2 : decide (s.len < s.cursor - k) = false := decide_eq_false (by omega)
  unfold Sline.backspace Sline.delete Sline.rightsize
  simp only [hk, hd, w1, w2]

theorem backspace_lay (L1 L2 R T : List Byte) (n : Nat) (hn : min n (L1 ++ L2).length = L2.length) :
    ∃ J, J.length = L2.length ∧ (lay (L1 ++ L2) R T).backspace n = (lay L1 R (J ++ T), L2.length) := by
  have e : ({ lay (L1 ++ L2) R T with cursor := (L1 ++ L2).length - L2.length } : Sline) = lay L1 (L2 ++ R) T := by
    simp [lay]; omega
  rw [backspace_eq_delete _ _ (by simp), show (lay (L1 ++ L2) R T).cursor = (L1 ++ L2).length from rfl, hn, e]
  exact delete_lay L1 L2 R T L2.length (by simp)

theorem backspace_min (L R T : List Byte) (n : Nat) :
    ∃ J, J.length = min n L.length ∧
      (lay L R T).backspace n = (lay (L.take (L.length - min n L.length)) R (J ++ T), min n L.length) := by
  have h2 : (L.drop (L.length - min n L.length)).length = min n L.length := by rw [List.length_drop]; omega
  obtain ⟨J, hJ, e⟩ := backspace_lay (L.take (L.length - min n L.length)) (L.drop (L.length - min n L.length)) R T n
    (by rw [List.take_append_drop, h2])
  rw [List.take_append_drop, h2] at e
  exact ⟨J, by rw [hJ, h2], e⟩

theorem delete_min (L R T : List Byte) (n : Nat) :
    ∃ J, J.length = min n R.length ∧
      (lay L R T).delete n = (lay L (R.drop (min n R.length)) (J ++ T), min n R.length) := by
  have h1 : (R.take (min n R.length)).length = min n R.length := by rw [List.length_take]; omega
  obtain ⟨J, hJ, e⟩ := delete_lay L (R.take (min n R.length)) (R.drop (min n R.length)) T n
    (by rw [List.take_append_drop, h1])
  rw [List.take_append_drop, h1] at e
  exact ⟨J, by rw [hJ, h1], e⟩

theorem left_lay (L R T : List Byte) (x : Byte) : (lay (L ++ [x]) R T).left = (lay L (x :: R) T, 1) := by
  unfold Sline.left
  rw [if_neg (by simp)]
  simp [lay]
  omega

theorem right_lay (L R T : List Byte) (x : Byte) : (lay L (x :: R) T).right = (lay (L ++ [x]) R T, 1) := by
  unfold Sline.right
  rw [if_neg (by simp)]
  simp [lay]
  omega

theorem reset_lay (L R T : List Byte) : (lay L R T).reset = lay [] [] (L ++ (R ++ T)) := by
  simp [lay, Sline.reset]

theorem getline_lay (L R T : List Byte) (t : Byte) : (lay L R (t :: T)).getline = lay L R (0 :: T) := by
  unfold Sline.getline
  rw [if_neg (by simp)]
  simp only [lay]
  rw [show L ++ (R ++ t :: T) = (L ++ R) ++ t :: T by simp, wr_app 0 (by simp)]
  simp

/-! ### every call against the zipper -/

def StepOK (s : Sline) (o : SOp) : Prop :=
  SlineOK (s.apply o).1 ∧ (s.apply o).1.cap = s.cap ∧
  (s.apply o).1.toZip = (s.toZip.apply s.cap o).1 ∧ (s.apply o).2 = (s.toZip.apply s.cap o).2

theorem stepOK_lay {L R T L' R' T' : List Byte} {o : SOp} {ret : Nat} (hT' : T' ≠ [])
    (he : (lay L R T).apply o = (lay L' R' T', ret))
    (hcap : L'.length + (R'.length + T'.length) = L.length + (R.length + T.length))
    (hz : (Zip.mk L R).apply (L.length + (R.length + T.length)) o = (⟨L', R'⟩, ret)) : StepOK (lay L R T) o := by
  unfold StepOK
  rw [he, toZip_lay, toZip_lay]
  exact ⟨lay_ok _ _ _ hT', hcap, by rw [show (lay L R T).cap = _ from rfl, hz], by rw [show (lay L R T).cap = _ from rfl, hz]⟩

theorem putchar_ok (s : Sline) (h : SlineOK s) (c : Byte) : StepOK s (.putchar c) := by
  obtain ⟨L, R, T, hT, rfl⟩ := ok_lay s h
  match T, hT with
  | [t], _ =>
    refine stepOK_lay (by simp) (putchar_full L R t c) rfl ?_
    simp [Zip.apply, Zip.putchar, Zip.len]
    omega
  | t :: u :: T, _ =>
    refine stepOK_lay (by simp) (putchar_lay L R T t u c) (by simp; omega) ?_
    have : L.length + R.length + 1 < L.length + (R.length + (T.length + 1 + 1)) := by omega
    simp only [Zip.apply, Zip.putchar, Zip.len, List.length_cons, this, if_true]

theorem newdata_ok (s : Sline) (h : SlineOK s) (d : List Byte) : StepOK s (.newdata d) := by
  obtain ⟨L, R, T, hT, rfl⟩ := ok_lay s h
  have hTl : 0 < T.length := List.length_pos_iff.mpr hT
  obtain ⟨X, T', rfl, hX⟩ : ∃ X T', T = X ++ T' ∧ X.length = min d.length (T.length - 1) :=
    ⟨T.take (min d.length (T.length - 1)), T.drop (min d.length (T.length - 1)), (List.take_append_drop _ _).symm,
      by rw [List.length_take]; omega⟩
  have hT' : T' ≠ [] := List.ne_nil_of_length_pos (by rw [List.length_append] at hX hTl; omega)
  refine stepOK_lay hT' (newdata_lay L R X T' d d.length hT' (Nat.le_refl _) hX.symm) ?_ ?_
  · simp; omega
  · have e : L.length + (R.length + (X ++ T').length) - 1 - (L.length + R.length) = (X ++ T').length - 1 := by omega
    simp only [Zip.apply, Zip.newdata, Zip.len, e, ← hX]

theorem backspace_ok (s : Sline) (h : SlineOK s) (n : Nat) : StepOK s (.backspace n) := by
  obtain ⟨L, R, T, hT, rfl⟩ := ok_lay s h
  obtain ⟨J, hJ, e⟩ := backspace_min L R T n
  exact stepOK_lay (by simp [hT]) e (by simp [hJ]; omega) rfl

theorem delete_ok (s : Sline) (h : SlineOK s) (n : Nat) : StepOK s (.delete n) := by
  obtain ⟨L, R, T, hT, rfl⟩ := ok_lay s h
  obtain ⟨J, hJ, e⟩ := delete_min L R T n
  exact stepOK_lay (by simp [hT]) e (by simp [hJ]; omega) rfl

theorem left_ok (s : Sline) (h : SlineOK s) : StepOK s .left := by
  obtain ⟨L, R, T, hT, rfl⟩ := ok_lay s h
  rcases List.eq_nil_or_concat L with rfl | ⟨L', x, rfl⟩
  · exact stepOK_lay (ret := 0) hT (by simp [Sline.apply, Sline.left, lay]) rfl (by simp [Zip.apply, Zip.moveLeft])
  · rw [List.concat_eq_append]
    refine stepOK_lay hT (left_lay L' R T x) (by simp; omega) ?_
    simp [Zip.apply, Zip.moveLeft]

theorem right_ok (s : Sline) (h : SlineOK s) : StepOK s .right := by
  obtain ⟨L, R, T, hT, rfl⟩ := ok_lay s h
  cases R with
  | nil => exact stepOK_lay (ret := 0) hT (by simp [Sline.apply, Sline.right, lay]) rfl (by simp [Zip.apply, Zip.moveRight])
  | cons x R =>
    refine stepOK_lay hT (right_lay L R T x) (by simp; omega) ?_
    simp [Zip.apply, Zip.moveRight]

theorem reset_ok (s : Sline) (h : SlineOK s) : StepOK s .reset := by
  obtain ⟨L, R, T, hT, rfl⟩ := ok_lay s h
  exact stepOK_lay (T' := L ++ (R ++ T)) (by simp [hT]) (by rw [Sline.apply, reset_lay]) (by simp) rfl

theorem getline_ok (s : Sline) (h : SlineOK s) : StepOK s .getline := by
  obtain ⟨L, R, T, hT, rfl⟩ := ok_lay s h
  match T, hT with
  | t :: T, _ => exact stepOK_lay (T' := 0 :: T) (by simp) (by rw [Sline.apply, getline_lay]) rfl rfl

theorem apply_ok (s : Sline) (h : SlineOK s) (o : SOp) : StepOK s o := by
  cases o with
  | putchar c => exact putchar_ok s h c
  | newdata d => exact newdata_ok s h d
  | backspace n => exact backspace_ok s h n
  | delete n => exact delete_ok s h n
  | left => exact left_ok s h
  | right => exact right_ok s h
  | reset => exact reset_ok s h
  | getline => exact getline_ok s h

theorem apply_facts (s : Sline) (h : SlineOK s) (o : SOp) :
    (s.apply o).1.text = (s.toZip.apply s.cap o).1.line ∧ (s.apply o).1.cursor = (s.toZip.apply s.cap o).1.left.length ∧
    (s.apply o).1.len = (s.toZip.apply s.cap o).1.len ∧ (s.apply o).1.cursor ≤ (s.apply o).1.len ∧
    (s.apply o).1.len < s.cap ∧ (s.apply o).1.buf.length = s.cap ∧ (s.apply o).1.fault = false ∧
    (s.apply o).2 = (s.toZip.apply s.cap o).2 := by
  obtain ⟨o1, o2, o3, o4⟩ := apply_ok s h o
  have := o1.room
  exact ⟨by rw [← o3, toZip_line _ o1], by rw [← o3, toZip_left_length _ o1], by rw [← o3, toZip_len _ o1], o1.cur,
    by omega, by rw [o1.blen, o2], o1.nofault, o4⟩

theorem runOps_ok (s : Sline) (h : SlineOK s) (ops : List SOp) :
    SlineOK (s.runOps ops) ∧ (s.runOps ops).cap = s.cap ∧ (s.runOps ops).toZip = s.toZip.runOps s.cap ops := by
  induction ops generalizing s with
  | nil => exact ⟨h, rfl, rfl⟩
  | cons o ops ih =>
    obtain ⟨h1, h2, h3, _⟩ := apply_ok s h o
    obtain ⟨i1, i2, i3⟩ := ih (s.apply o).1 h1
    refine ⟨i1, by rw [← h2]; exact i2, ?_⟩
    show ((s.apply o).1.runOps ops).toZip = ((s.toZip.apply s.cap o).1).runOps s.cap ops
    rw [i3, h2, h3]

theorem reach_ok (cap : Nat) (hcap : 1 ≤ cap) (ops : List SOp) :
    SlineOK ((Sline.init cap).runOps ops) ∧ ((Sline.init cap).runOps ops).cap = cap ∧
    ((Sline.init cap).runOps ops).toZip = Zip.empty.runOps cap ops ∧ (Zip.empty.runOps cap ops).len + 1 ≤ cap := by
  obtain ⟨h, hc, hz⟩ := runOps_ok (Sline.init cap) (init_ok cap hcap) ops
  rw [init_toZip] at hz
  have hc' : ((Sline.init cap).runOps ops).cap = cap := hc
  have hl := toZip_len _ h
  rw [hz] at hl
  have := h.room
  exact ⟨h, hc', hz, by rw [show (Zip.empty.runOps cap ops).len = _ from hl]; omega⟩

/-! ### `sline_newdata` with the `int` length as given -/

theorem mcpy_prefix (b : List Byte) (dst : Nat) (d : List Byte) (m k : Nat) (hk : k ≤ m) (hm : m ≤ d.length) :
    mcpy b dst (d.take m) 0 k = mcpy b dst d 0 k := by
  unfold mcpy
  have hl : (d.take m).length = m := by rw [List.length_take]; omega
  simp only [Nat.zero_add, List.drop_zero, hl]
  rw [List.take_take, Nat.min_eq_left hk]
  have c2 : k ≤ d.length := by omega
  simp only [hk, c2, true_and]

/-- `sline_newdata(sl, data, n)` for ANY `int n` not larger than the caller's data
is the bulk insert of the first `max n 0` bytes: a negative or zero length
inserts nothing -/
theorem newdataI_eq (s : Sline) (h : SlineOK s) (d : List Byte) (n : Int) (hn : n ≤ (d.length : Int)) :
    s.newdataI d n = ((s.apply (.newdata (d.take n.toNat))).1, (((s.apply (.newdata (d.take n.toNat))).2 : Nat) : Int)) := by
  obtain ⟨hb, hc, hr, hf⟩ := h
  have hm : n.toNat ≤ d.length := by omega
  have hl : (d.take n.toNat).length = n.toNat := by rw [List.length_take]; omega
  unfold Sline.apply Sline.newdataI Sline.newdata
  simp only [hl]
  -- the clamped count, in Nat
  generalize hk : (if n.toNat > s.cap - s.len - 1 then s.cap - s.len - 1 else n.toNat) = k
  have hkm : k ≤ n.toNat := by rw [← hk]; split <;> omega
  have hI : (if (if n > (s.cap : Int) - (s.len : Int) - 1 then (s.cap : Int) - (s.len : Int) - 1 else n) < 0 then 0
      else (if n > (s.cap : Int) - (s.len : Int) - 1 then (s.cap : Int) - (s.len : Int) - 1 else n)) = (k : Int) := by
    rw [← hk]
    split <;> split <;> split <;> omega
  simp only [hI, Int.toNat_natCast]
  rw [mcpy_prefix _ _ d n.toNat k hkm hm]

/-! ### histories that also use `sline_newdata` with an `int` length, `clear`, `set_size_and_cursor` -/

inductive SOpX
  | base (o : SOp)
  | newdataI (d : List Byte) (n : Int)   -- sline_newdata(data, n), n as given
  | clear                                -- igris::sline::clear
  | setsc (len cursor : Nat)             -- igris::sline::set_size_and_cursor
deriving DecidableEq, Repr

def Sline.applyX (s : Sline) : SOpX → Sline
  | .base o => (s.apply o).1
  | .newdataI d n => (s.newdataI d n).1
  | .clear => s.clear
  | .setsc l c => s.setSizeCursor l c

/-- the contract of a call: the data really has `n` bytes; the raw setter is
given a cursor inside a line that fits -/
def SOpX.valid (cap : Nat) : SOpX → Prop
  | .newdataI d n => n ≤ (d.length : Int)
  | .setsc l c => c ≤ l ∧ l + 1 ≤ cap
  | _ => True

instance (cap : Nat) (o : SOpX) : Decidable (o.valid cap) := by
  cases o <;> unfold SOpX.valid <;> infer_instance

def Sline.runOpsX (s : Sline) (ops : List SOpX) : Sline := ops.foldl Sline.applyX s

theorem clear_ok (s : Sline) (h : SlineOK s) :
    SlineOK s.clear ∧ s.clear.cap = s.cap ∧ s.clear.text = List.replicate s.len 0 := by
  obtain ⟨hb, hc, hr, hf⟩ := h
  refine ⟨⟨by simp [Sline.clear, hb], hc, hr, hf⟩, rfl, ?_⟩
  unfold Sline.clear Sline.text
  simp only [List.take_replicate]
  congr 1
  omega

theorem setSizeCursor_ok (s : Sline) (h : SlineOK s) (l c : Nat) (h1 : c ≤ l) (h2 : l + 1 ≤ s.cap) :
    SlineOK (s.setSizeCursor l c) ∧ (s.setSizeCursor l c).cap = s.cap ∧
    (s.setSizeCursor l c).text = s.buf.take l :=
  ⟨⟨h.blen, h1, h2, h.nofault⟩, rfl, rfl⟩

theorem applyX_ok (s : Sline) (h : SlineOK s) (o : SOpX) (hv : o.valid s.cap) :
    SlineOK (s.applyX o) ∧ (s.applyX o).cap = s.cap := by
  cases o with
  | base o =>
    obtain ⟨a, b, _, _⟩ := apply_ok s h o
    exact ⟨a, b⟩
  | newdataI d n =>
    have e := newdataI_eq s h d n hv
    obtain ⟨a, b, _, _⟩ := apply_ok s h (.newdata (d.take n.toNat))
    show SlineOK (s.newdataI d n).1 ∧ (s.newdataI d n).1.cap = s.cap
    rw [e]
    exact ⟨a, b⟩
  | clear => exact ⟨(clear_ok s h).1, rfl⟩
  | setsc l c => exact ⟨(setSizeCursor_ok s h l c hv.1 hv.2).1, rfl⟩

theorem runOpsX_ok (s : Sline) (h : SlineOK s) (ops : List SOpX) (hv : ∀ o ∈ ops, o.valid s.cap) :
    SlineOK (s.runOpsX ops) ∧ (s.runOpsX ops).cap = s.cap := by
  induction ops generalizing s with
  | nil => exact ⟨h, rfl⟩
  | cons o os ih =>
    obtain ⟨a, b⟩ := applyX_ok s h o (hv o (by simp))
    have := ih (s.applyX o) a (fun x hx => by rw [b]; exact hv x (by simp [hx]))
    rw [b] at this
    exact this

/-! ### capacity 0 -/

theorem newdata_cap0 (d : List Byte) (n : Nat) : ((Sline.init 0).newdata d n).1 = Sline.init 0 := by
  cases n <;> simp [Sline.newdata, Sline.init, mcpy]

theorem apply_cap0 (o : SOp) : ((Sline.init 0).apply o).1 = Sline.init 0 := by
  cases o with
  | newdata d => exact newdata_cap0 d d.length
  | _ => simp [Sline.apply, Sline.init, Sline.putchar, Sline.backspace, Sline.delete, Sline.left,
      Sline.right, Sline.reset, Sline.getline, Sline.rightsize]

theorem runOps_cap0 (ops : List SOp) : (Sline.init 0).runOps ops = Sline.init 0 := by
  induction ops with
  | nil => rfl
  | cons o os ih =>
    unfold Sline.runOps at ih ⊢
    rw [List.foldl_cons, apply_cap0 o]
    exact ih

end Igris.C15
