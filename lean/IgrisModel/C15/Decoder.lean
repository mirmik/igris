/-
  C15 — the key decoder that `readline_putchar` (Model.lean) and the reference `Ref.rlKey`
  (Spec.lean) have in common.  Both are the same four-state cascade over the byte; here it is
  written once (`decode`: which key press the byte completes, the next state, the byte remembered
  for the CR LF pairing), and both functions are shown to be "decode, then act on the key press".
  Whatever holds for every byte is proved from these two equations as a fact about `decode` alone
  or as one fact per key press.
-/
import IgrisModel.C15.Keys
namespace Igris.C15
open Igris.Proto

/-- one byte through the decoder: the key press it completes (if any), the next state, the new
`last` / `prev` (0 after the swallowed second half of an Enter) -/
def decode (st : RState) (prev c : Byte) : Option Key × RState × Byte :=
  match st with
  | .normal =>
    if c = CR ∨ c = LF then
      if (prev = LF ∨ prev = CR) ∧ prev ≠ c then (none, .normal, 0) else (some .enter, .normal, c)
    else if c = BS then (some .backspace, .normal, c)
    else if c = ESC then (none, .escseq, c)
    else (some (.char c), .normal, c)
  | .escseq => (none, if c = 0x5b then .move else .normal, c)
  | .move =>
    if c = 0x41 then (some .up, .normal, c)
    else if c = 0x42 then (some .down, .normal, c)
    else if c = 0x43 then (some .right, .normal, c)
    else if c = 0x44 then (some .left, .normal, c)
    else if c = 0x33 then (some .delete, .wait7e, c)
    else (none, .normal, c)
  | .wait7e => (none, .normal, c)

/-- never Ctrl-C: the terminal takes it before the line editor sees it -/
theorem decode_key {st : RState} {prev c : Byte} {k : Key} (h : (decode st prev c).1 = some k) :
    k ≠ .interrupt ∧ (k = .enter → (c = CR ∨ c = LF) ∧ (decode st prev c).2.1 = .normal) ∧
    (∀ c', k = .char c' → c' = c ∧ ¬ (c = CR ∨ c = LF) ∧ c ≠ BS ∧ c ≠ ESC) := by
  cases st <;> simp only [decode] at h ⊢
  · by_cases h1 : c = CR ∨ c = LF
    · rw [if_pos h1] at h ⊢
      split at h <;> cases h
      exact ⟨nofun, fun _ => ⟨h1, by split <;> rfl⟩, nofun⟩
    · rw [if_neg h1] at h
      by_cases h2 : c = BS
      · rw [if_pos h2] at h; cases h; exact ⟨nofun, nofun, nofun⟩
      · rw [if_neg h2] at h
        by_cases h3 : c = ESC
        · rw [if_pos h3] at h; cases h
        · rw [if_neg h3] at h; cases h
          exact ⟨nofun, nofun, fun c' hc => by cases hc; exact ⟨rfl, h1, h2, h3⟩⟩
  · cases h
  · repeat' split at h
    all_goals cases h
    all_goals exact ⟨nofun, nofun, nofun⟩
  · cases h

theorem decode_inside {st : RState} {prev c : Byte} (h : (decode st prev c).2.1 ≠ .normal) :
    (decode st prev c).2.2 = c ∧ (c = ESC ∨ c = 0x5b ∨ c = 0x33) := by
  cases st <;> simp only [decode] at h ⊢
  · by_cases h1 : c = CR ∨ c = LF
    · rw [if_pos h1] at h; split at h <;> exact absurd rfl h
    · rw [if_neg h1] at h ⊢
      by_cases h2 : c = BS
      · rw [if_pos h2] at h; exact absurd rfl h
      · rw [if_neg h2] at h ⊢
        by_cases h3 : c = ESC
        · rw [if_pos h3]; exact ⟨rfl, Or.inl h3⟩
        · rw [if_neg h3] at h; exact absurd rfl h
  · by_cases h1 : c = 0x5b
    · exact ⟨trivial, Or.inr (Or.inl h1)⟩
    · rw [if_neg h1] at h; exact absurd rfl h
  · by_cases h5 : c = 0x33
    · subst h5; exact ⟨rfl, Or.inr (Or.inr rfl)⟩
    · repeat' split at h
      all_goals exact absurd rfl h
  · exact absurd rfl h

/-! ### `Ref.rlKey` is decode, then a key press -/

namespace Ref

/-- second component: the line Enter accepts.  Enter keeps the line here, as `Ref.rlKey` does:
`Ref.key` starts the new one. -/
def press (cap : Nat) (r : Ref) : Key → Ref × Option (List Byte)
  | .char c => ({ r with z := (r.z.putchar cap c).1 }, none)
  | .backspace => ({ r with z := (r.z.backspace 1).1 }, none)
  | .delete => ({ r with z := (r.z.delete 1).1 }, none)
  | .left => ({ r with z := r.z.moveLeft.1 }, none)
  | .right => ({ r with z := r.z.moveRight.1 }, none)
  | .up =>
    if r.browse < r.hist.length then ({ r with z := ⟨r.hist.getD r.browse [], []⟩, browse := r.browse + 1 }, none)
    else (r, none)
  | .down =>
    if r.browse = 0 then (r, none)
    else if r.browse = 1 then ({ r with z := Zip.empty, browse := 0 }, none)
    else ({ r with z := ⟨r.hist.getD (r.browse - 2) [], []⟩, browse := r.browse - 1 }, none)
  | .enter => ({ r with hist := Ref.remember r.hist r.z.line, browse := 0 }, some r.z.line)
  | .interrupt => (r, none)

theorem rlKey_eq (cap : Nat) (r : Ref) (c : Byte) :
    r.rlKey cap c =
      match decode r.esc r.prev c with
      | (none, st, p) => ({ r with esc := st, prev := p }, none)
      | (some k, st, p) => ({ (r.press cap k).1 with esc := st, prev := p }, (r.press cap k).2) := by
  obtain ⟨z, hist, browse, esc, prev⟩ := r
  cases esc <;> simp only [rlKey, decode]
  · by_cases h1 : c = CR ∨ c = LF
    · rw [if_pos h1, if_pos h1]
      by_cases h2 : (prev = LF ∨ prev = CR) ∧ prev ≠ c
      · rw [if_pos h2, if_pos h2]
      · rw [if_neg h2, if_neg h2]; rfl
    · rw [if_neg h1, if_neg h1]
      by_cases h3 : c = BS
      · rw [if_pos h3, if_pos h3]; rfl
      · rw [if_neg h3, if_neg h3]
        by_cases h4 : c = ESC
        · rw [if_pos h4, if_pos h4]
        · rw [if_neg h4, if_neg h4]; rfl
  · by_cases h1 : c = 0x41
    · rw [if_pos h1, if_pos h1]; simp only [press]; split <;> rfl
    · rw [if_neg h1, if_neg h1]
      by_cases h2 : c = 0x42
      · rw [if_pos h2, if_pos h2]; simp only [press]; split
        · rfl
        · split <;> rfl
      · rw [if_neg h2, if_neg h2]
        by_cases h3 : c = 0x43
        · rw [if_pos h3, if_pos h3]; rfl
        · rw [if_neg h3, if_neg h3]
          by_cases h4 : c = 0x44
          · rw [if_pos h4, if_pos h4]; rfl
          · rw [if_neg h4, if_neg h4]
            by_cases h5 : c = 0x33
            · rw [if_pos h5, if_pos h5]; rfl
            · rw [if_neg h5, if_neg h5]

def _root_.Igris.C15.edOf (r : Ref) : Ed := ⟨r.z, r.hist, r.browse⟩

theorem press_accepts (cap : Nat) (r : Ref) (k : Key) :
    (r.press cap k).2 = if k = .enter then some r.z.line else none := by
  cases k with
  | up => simp only [Ref.press]; split <;> rfl
  | down =>
    simp only [Ref.press]; split
    · rfl
    · split <;> rfl
  | _ => rfl

theorem press_ed (cap : Nat) (r : Ref) (k : Key) (h1 : k ≠ .enter) (h2 : k ≠ .interrupt) :
    edOf (r.press cap k).1 = (edOf r).run cap [k] ∧ (edOf r).events cap [k] = [] := by
  cases k with
  | enter => exact absurd rfl h1
  | interrupt => exact absurd rfl h2
  | up =>
    unfold edOf
    simp only [press, Ed.run, Ed.events, Ed.key, List.foldl]
    split <;> exact ⟨rfl, rfl⟩
  | down =>
    unfold edOf
    simp only [press, Ed.run, Ed.events, Ed.key, List.foldl]
    split
    · exact ⟨rfl, rfl⟩
    · split <;> exact ⟨rfl, rfl⟩
  | _ => exact ⟨rfl, rfl⟩

theorem key_ed (cap : Nat) (r : Ref) (c : Byte) (hx : c ≠ ETX) :
    edOf (r.key cap c).1 = (edOf r).run cap (decode r.esc r.prev c).1.toList ∧
    (r.key cap c).2 = (edOf r).events cap (decode r.esc r.prev c).1.toList ∧
    (r.key cap c).1.esc = (decode r.esc r.prev c).2.1 ∧ (r.key cap c).1.prev = (decode r.esc r.prev c).2.2 := by
  have he := @decode_key r.esc r.prev c
  unfold key
  rw [if_neg hx, rlKey_eq]
  generalize decode r.esc r.prev c = d at he ⊢
  obtain ⟨_ | k, st, p⟩ := d
  · exact ⟨rfl, rfl, rfl, rfl⟩
  · by_cases h1 : k = .enter
    · subst h1
      exact ⟨rfl, rfl, ((he rfl).2.1 rfl).2.symm, rfl⟩
    · obtain ⟨e1, e2⟩ := press_ed cap r k h1 (he rfl).1
      simp only [press_accepts, if_neg h1]
      exact ⟨e1, e2.symm, trivial, trivial⟩

end Ref

/-! ### whole byte sequences on the reference -/

theorem Ref.run_append (cap : Nat) (r : Ref) (a b : List Byte) : r.run cap (a ++ b) = (r.run cap a).run cap b := by
  simp [Ref.run, List.foldl_append]

theorem Ref.run_cons (cap : Nat) (r : Ref) (c : Byte) (cs : List Byte) :
    r.run cap (c :: cs) = ((r.key cap c).1).run cap cs := rfl

theorem Ref.events_append (cap : Nat) (r : Ref) (a b : List Byte) :
    r.events cap (a ++ b) = r.events cap a ++ (r.run cap a).events cap b := by
  induction a generalizing r with
  | nil => rfl
  | cons c cs ih =>
    simp only [List.cons_append, Ref.events, Ref.run_cons, ih, List.append_assoc]

/-! ### `readline_putchar` is decode, then a key press -/

theorem nothing_ne_newline : RL_NOTHING ≠ RL_NEWLINE := by decide

namespace Readline

/-- a decoded key press on the code's readline object: the `sline_*` / history call of that branch
of `readline_putchar` and the code it returns (`state` and `last` untouched) -/
def press (rl : Readline) : Key → Readline × Int
  | .char c => ({ rl with line := (rl.line.putchar c).1 }, if (rl.line.putchar c).2 ≠ 0 then RL_ECHOCHAR else RL_OVERFLOW)
  | .backspace =>
    ({ rl with line := (rl.line.backspace 1).1 }, if (rl.line.backspace 1).2 ≠ 0 then RL_BACKSPACE else RL_NOTHING)
  | .delete => ({ rl with line := (rl.line.delete 1).1 }, if (rl.line.delete 1).2 ≠ 0 then RL_DELETE else RL_NOTHING)
  | .left => ({ rl with line := rl.line.left.1 }, if rl.line.left.2 ≠ 0 then RL_LEFT else RL_NOTHING)
  | .right => ({ rl with line := rl.line.right.1 }, if rl.line.right.2 ≠ 0 then RL_RIGHT else RL_NOTHING)
  | .up => (rl.historyUp.1, if rl.historyUp.2 ≠ 0 then RL_UPDATELINE else RL_NOTHING)
  | .down => (rl.historyDown.1, if rl.historyDown.2 ≠ 0 then RL_UPDATELINE else RL_NOTHING)
  | .enter => ({ rl.storeLine with curhist := 0 }, RL_NEWLINE)
  | .interrupt => (rl, RL_NOTHING)

theorem storeLine_untouched (rl : Readline) :
    rl.storeLine.line = rl.line ∧ rl.storeLine.state = rl.state ∧ rl.storeLine.last = rl.last := by
  unfold storeLine
  split
  · simp only []; split <;> exact ⟨rfl, rfl, rfl⟩
  · exact ⟨rfl, rfl, rfl⟩

theorem putchar_eq (rl : Readline) (c : Byte) :
    rl.putchar c =
      match decode rl.state rl.last c with
      | (none, st, p) => ({ rl with state := st, last := p }, RL_NOTHING)
      | (some k, st, p) => ({ (rl.press k).1 with state := st, last := p }, (rl.press k).2) := by
  have hs := (storeLine_untouched rl).2.1
  obtain ⟨line, state, last, lastsize, hasHist, hist, hsize, headhist, curhist, hfault⟩ := rl
  cases state <;> simp only [putchar, decode]
  · by_cases h1 : c = CR ∨ c = LF
    · rw [if_pos h1, if_pos h1]
      by_cases h2 : (last = LF ∨ last = CR) ∧ last ≠ c
      · rw [if_pos h2, if_pos h2]
      · rw [if_neg h2, if_neg h2]
        simp only [press, Prod.mk.injEq, and_true]
        simp only at hs
        generalize storeLine _ = s at hs ⊢
        cases s; simp only at hs; subst hs; rfl
    · rw [if_neg h1, if_neg h1]
      by_cases h3 : c = BS
      · rw [if_pos h3, if_pos h3]; rfl
      · rw [if_neg h3, if_neg h3]
        by_cases h4 : c = ESC
        · rw [if_pos h4, if_pos h4]
        · rw [if_neg h4, if_neg h4]; rfl
  · split <;> rfl
  · by_cases h1 : c = 0x41
    · rw [if_pos h1, if_pos h1]; rfl
    · rw [if_neg h1, if_neg h1]
      by_cases h2 : c = 0x42
      · rw [if_pos h2, if_pos h2]; rfl
      · rw [if_neg h2, if_neg h2]
        by_cases h3 : c = 0x43
        · rw [if_pos h3, if_pos h3]; rfl
        · rw [if_neg h3, if_neg h3]
          by_cases h4 : c = 0x44
          · rw [if_pos h4, if_pos h4]; rfl
          · rw [if_neg h4, if_neg h4]
            by_cases h5 : c = 0x33
            · rw [if_pos h5, if_pos h5]; rfl
            · rw [if_neg h5, if_neg h5]

theorem press_newline (rl : Readline) (k : Key) (h : (rl.press k).2 = RL_NEWLINE) : k = .enter := by
  cases k with
  | enter => rfl
  | interrupt => exact absurd h nothing_ne_newline
  | _ => simp only [press] at h; split at h <;> exact absurd h (by decide)

end Readline

theorem putchar_newline (rl : Readline) (c : Byte) (h : (rl.putchar c).2 = RL_NEWLINE) : c = CR ∨ c = LF := by
  rw [Readline.putchar_eq] at h
  have hk := @decode_key rl.state rl.last c
  generalize decode rl.state rl.last c = d at h hk
  obtain ⟨_ | k, st, p⟩ := d
  · exact absurd h nothing_ne_newline
  · exact ((hk rfl).2.1 (Readline.press_newline rl k h)).1

end Igris.C15
