/-
  C15 — the history ring (`history_space`: `depth` slots of `cap` bytes, each holding a C string)
  against the reference's list of remembered lines (invariant `HistOK`).
-/
import IgrisModel.C15.Sline
import IgrisModel.Common.ListScan
namespace Igris.C15
open Igris.Proto

/-! ### C strings -/

theorem cstrlen_append_zero (l t : List Byte) (h : ∀ x ∈ l, x ≠ 0) : cstrlen (l ++ 0 :: t) = some l.length := by
  induction l with
  | nil => simp [cstrlen]
  | cons x xs ih =>
    have hx : x ≠ 0 := h x (by simp)
    simp only [List.cons_append, cstrlen, hx, if_false, List.length_cons]
    rw [ih (fun y hy => h y (by simp [hy]))]
    rfl

theorem cstr_nonzero (l : List Byte) : ∀ x ∈ cstr l, x ≠ 0 := by
  intro x hx
  exact of_decide_eq_true (mem_takeWhile_sat (p := fun b : Byte => decide (b ≠ 0)) (l := l) hx)

theorem cstr_split (l junk : List Byte) : ∃ junk', l ++ 0 :: junk = cstr l ++ 0 :: junk' := by
  induction l with
  | nil => exact ⟨junk, rfl⟩
  | cons x xs ih =>
    by_cases hx : x = 0
    · subst hx
      exact ⟨xs ++ 0 :: junk, by simp [cstr]⟩
    · obtain ⟨j, hj⟩ := ih
      refine ⟨j, ?_⟩
      simp only [cstr] at hj ⊢
      rw [List.takeWhile_cons_of_pos (by simpa using hx)]
      simp only [List.cons_append]
      rw [hj]

theorem cstr_eq_self (l : List Byte) (h : ∀ x ∈ l, x ≠ 0) : cstr l = l :=
  takeWhile_all fun x hx => decide_eq_true (h x hx)

theorem strncmpEq_eq (l h t1 t2 : List Byte) (hl : l.length = h.length) (hz : ∀ x ∈ h, x ≠ 0) :
    strncmpEq (l ++ t1) (h ++ t2) h.length = decide (l = h) := by
  induction l generalizing h with
  | nil =>
    cases h with
    | nil => simp [strncmpEq]
    | cons y ys => simp at hl
  | cons x xs ih =>
    cases h with
    | nil => simp at hl
    | cons y ys =>
      simp only [List.cons_append, List.length_cons, strncmpEq]
      have hy : y ≠ 0 := hz y (by simp)
      by_cases hxy : x = y
      · subst hxy
        simp only [ne_eq, not_true_eq_false, if_false, hy]
        rw [ih ys (by simpa using hl) (fun z hzm => hz z (by simp [hzm]))]
        simp
      · simp [hxy]

def HoldsCStr (w l : List Byte) : Prop := (∀ x ∈ l, x ≠ 0) ∧ ∃ junk, w = l ++ 0 :: junk

/-! ### ring arithmetic -/

/-- ring slot of the `k`-th most recent entry, `1 ≤ k ≤ depth` -/
def slotIdx (head depth k : Nat) : Nat := (head + depth - k) % depth

theorem slotIdx_lt (h d k : Nat) (hd : 0 < d) : slotIdx h d k < d := Nat.mod_lt _ hd

theorem slotIdx_eq (h d k : Nat) (hh : h < d) (hk1 : 1 ≤ k) (hk : k ≤ d) :
    slotIdx h d k = if k ≤ h then h - k else h + d - k := by
  unfold slotIdx
  split
  · have : h + d - k = (h - k) + d := by omega
    rw [this, Nat.add_mod_right, Nat.mod_eq_of_lt (by omega)]
  · rw [Nat.mod_eq_of_lt (by omega)]

theorem head_succ (h d : Nat) (hh : h < d) : (h + 1) % d = if h + 1 = d then 0 else h + 1 := by
  split
  · rename_i e; rw [e, Nat.mod_self]
  · rw [Nat.mod_eq_of_lt (by omega)]

theorem slot_in (i depth cap : Nat) (h : i < depth) : i * cap + cap ≤ cap * depth := by
  have : (i + 1) * cap ≤ depth * cap := Nat.mul_le_mul_right cap (by omega)
  rw [Nat.add_mul, Nat.one_mul, Nat.mul_comm depth cap] at this
  exact this

theorem slot_disj (i j cap : Nat) (h : i ≠ j) : i * cap + cap ≤ j * cap ∨ j * cap + cap ≤ i * cap := by
  rcases Nat.lt_or_gt_of_ne h with h | h
  · left
    have : (i + 1) * cap ≤ j * cap := Nat.mul_le_mul_right cap (by omega)
    rw [Nat.add_mul, Nat.one_mul] at this; exact this
  · right
    have : (j + 1) * cap ≤ i * cap := Nat.mul_le_mul_right cap (by omega)
    rw [Nat.add_mul, Nat.one_mul] at this; exact this

theorem ring_new (h d : Nat) (hh : h < d) : slotIdx ((h + 1) % d) d 1 = h := by
  have h1 : (h + 1) % d < d := Nat.mod_lt _ (by omega)
  rw [slotIdx_eq _ _ _ h1 (by omega) (by omega), head_succ h d hh]
  split <;> split <;> omega

theorem ring_old (h d k : Nat) (hh : h < d) (hk1 : 1 ≤ k) (hk : k < d) :
    slotIdx ((h + 1) % d) d (k + 1) = slotIdx h d k ∧ slotIdx h d k ≠ h := by
  have h1 : (h + 1) % d < d := Nat.mod_lt _ (by omega)
  rw [slotIdx_eq _ _ _ h1 (by omega) (by omega), slotIdx_eq _ _ _ hh hk1 (by omega), head_succ h d hh]
  constructor
  · split <;> split <;> split <;> omega
  · split <;> omega

/-! ### the history ring against the list of remembered lines -/

structure HistOK (cap depth : Nat) (rl : Readline) (hist : List (List Byte)) : Prop where
  hasHist : rl.hasHist = true
  hsize : rl.hsize = depth
  hlen : rl.hist.length = cap * depth
  head : rl.headhist < depth
  nofault : rl.hfault = false
  slen : hist.length = depth
  slots : ∀ k, k < depth →
    HoldsCStr (win rl.hist (slotIdx rl.headhist depth (k + 1) * cap) cap) (hist.getD k [])

theorem holds_length (w l : List Byte) (n : Nat) (hw : w.length = n) (h : HoldsCStr w l) : l.length + 1 ≤ n := by
  obtain ⟨_, junk, e⟩ := h
  rw [e] at hw
  simp at hw
  omega

/-- `memcpy(b + o, src, len); b[o + len] = 0` with the slot `[o, o + cap)` inside `b` and `len < cap` -/
theorem store_cstr (b src : List Byte) (o cap len : Nat) (ho : o + cap ≤ b.length) (hl : len + 1 ≤ cap)
    (hs : len ≤ src.length) :
    ∃ m b', mcpy b o src 0 len = (m, false) ∧ wr m (o + len) 0 = (b', false) ∧ b'.length = b.length ∧
      HoldsCStr (win b' o cap) (cstr (src.take len)) ∧
      ∀ o' n, (o' + n ≤ o ∨ o + cap ≤ o') → win b' o' n = win b o' n := by
  -- the slot is `X ++ y :: Y`: the bytes the copy overwrites, the one the terminator goes to, the rest
  obtain ⟨X, y, e, hX⟩ := split3 b o len (by omega)
  obtain ⟨Y, B, eY, hY⟩ : ∃ Y B, b.drop (o + len + 1) = Y ++ B ∧ Y.length = cap - len - 1 :=
    ⟨win b (o + len + 1) (cap - len - 1), _, drop_eq_win_append _ _ _, length_win _ _ _ (by omega)⟩
  have hA : (b.take o).length = o := by rw [List.length_take]; omega
  generalize b.take o = A at e hA
  rw [eY] at e
  subst e
  obtain ⟨m, e1, e2⟩ := copy_term (A := A) (X := X) (Y := Y ++ B) (y := y) (src := src) hA.symm hX.symm hs
  have hS : (src.take len ++ 0 :: Y).length = (X ++ y :: Y).length := by simp [hX]; omega
  have r1 : A ++ (src.take len ++ 0 :: (Y ++ B)) = A ++ ((src.take len ++ 0 :: Y) ++ B) := by simp
  have r2 : A ++ (X ++ y :: (Y ++ B)) = A ++ ((X ++ y :: Y) ++ B) := by simp
  refine ⟨m, _, e1, e2, by simp [hX]; omega, ?_, ?_⟩
  · rw [r1, win_app_at _ _ _ hA.symm (by simp [hY]; omega)]
    obtain ⟨j, hj⟩ := cstr_split (src.take len) Y
    exact ⟨cstr_nonzero _, j, hj⟩
  · intro o' n h
    rw [r1, r2]
    exact win_app_same hS (by simp [hX, hY]; omega)

/-- `readline_push_current_line_to_history` -/
theorem push_ok (cap depth : Nat) (hd : 1 ≤ depth) (rl : Readline) (hist : List (List Byte))
    (hl : SlineOK rl.line) (hc : rl.line.cap = cap) (H : HistOK cap depth rl hist) :
    HistOK cap depth rl.pushCurrent ((cstr rl.line.text :: hist).dropLast) := by
  obtain ⟨hb, hcur, hroom, hf⟩ := hl
  obtain ⟨h1, h2, h3, h4, h5, h6, h7⟩ := H
  obtain ⟨a, as, rfl⟩ := List.exists_cons_of_length_pos (l := hist) (by omega)
  obtain ⟨m, b', e1, e2, e3, e4, e5⟩ := store_cstr rl.hist rl.line.buf (rl.headhist * cap) cap rl.line.len
    (by have := slot_in rl.headhist depth cap h4; omega) (by omega) (by omega)
  have e : rl.pushCurrent = { rl with hist := b', headhist := (rl.headhist + 1) % depth } := by
    unfold Readline.pushCurrent
    simp only [hc, h2, e1, e2, h5, Bool.or_false]
  rw [e]
  refine ⟨h1, h2, by simp only; rw [e3, h3], Nat.mod_lt _ (by omega), h5, by simpa using h6, ?_⟩
  intro k hk
  simp only
  cases k with
  | zero =>
    rw [ring_new _ _ h4]
    exact e4
  | succ k =>
    obtain ⟨r1, r2⟩ := ring_old rl.headhist depth (k + 1) h4 (by omega) hk
    have hget : ((cstr rl.line.text :: a :: as).dropLast).getD (k + 1) [] = (a :: as).getD k [] := by
      simp only [List.length_cons] at h6
      rw [List.dropLast_cons_of_ne_nil (by simp)]
      simp only [List.getD_eq_getElem?_getD, List.getElem?_cons_succ]
      rw [List.getElem?_dropLast, List.length_cons, if_pos (by omega)]
    rw [hget, r1, e5 _ _ (slot_disj _ _ cap r2)]
    exact h7 k (by omega)

/-- what `readline_history_pointer(rl, k)` points at -/
theorem slot_cstr {cap depth : Nat} {rl : Readline} {hist : List (List Byte)} (H : HistOK cap depth rl hist)
    (hc : rl.line.cap = cap) (k : Nat) (hk1 : 1 ≤ k) (hk : k ≤ depth) :
    (∀ x ∈ hist.getD (k - 1) [], x ≠ 0) ∧ (hist.getD (k - 1) []).length + 1 ≤ cap ∧
    rl.histOff k + cap ≤ rl.hist.length ∧
    ∃ rest, rl.hist.drop (rl.histOff k) = hist.getD (k - 1) [] ++ 0 :: rest := by
  have e : rl.histOff k = slotIdx rl.headhist depth k * cap := by
    unfold Readline.histOff; rw [H.hsize, hc]; rfl
  rw [e]
  have hold := H.slots (k - 1) (by omega)
  rw [show k - 1 + 1 = k by omega] at hold
  have hsl := slot_in (slotIdx rl.headhist depth k) depth cap (slotIdx_lt _ _ _ (by omega))
  have hwl : (win rl.hist (slotIdx rl.headhist depth k * cap) cap).length = cap :=
    length_win _ _ _ (by rw [H.hlen]; omega)
  have hlen := holds_length _ _ _ hwl hold
  obtain ⟨hnz, junk, hj⟩ := hold
  exact ⟨hnz, hlen, by rw [H.hlen]; omega, junk ++ rl.hist.drop (slotIdx rl.headhist depth k * cap + cap),
    by rw [drop_eq_win_append _ _ cap, hj]; simp⟩

/-- `readline_load_history_line` -/
theorem load_ok (cap depth : Nat) (rl : Readline) (hist : List (List Byte))
    (hl : SlineOK rl.line) (hc : rl.line.cap = cap) (H : HistOK cap depth rl hist) (hb : rl.curhist ≤ depth) :
    ∃ L : Sline, rl.loadHistoryLine = { rl with lastsize := rl.line.cursor, line := L } ∧ SlineOK L ∧ L.cap = cap ∧
      L.toZip = (if rl.curhist = 0 then Zip.empty else ⟨hist.getD (rl.curhist - 1) [], []⟩) := by
  obtain ⟨hbl, hcur, hroom, hf⟩ := hl
  by_cases h0 : rl.curhist = 0
  · refine ⟨{ rl.line with buf := List.replicate rl.line.buf.length 0, len := 0, cursor := 0 }, ?_, ?_, hc, ?_⟩
    · unfold Readline.loadHistoryLine
      simp only [h0, if_true]
      rw [← hbl, mset_all]
      simp [hf]
    · exact ⟨by simp only [List.length_replicate]; exact hbl, Nat.le_refl _, by simp only; omega, hf⟩
    · simp [h0, Sline.toZip, Zip.empty]
  · obtain ⟨hnz, hlen, hsl, rest, hdrop⟩ := slot_cstr H hc rl.curhist (by omega) hb
    generalize hist.getD (rl.curhist - 1) [] = l at *
    refine ⟨{ rl.line with buf := l ++ rl.line.buf.drop l.length, len := l.length, cursor := l.length }, ?_, ?_, hc, ?_⟩
    · unfold Readline.loadHistoryLine
      simp only [h0, if_false]
      rw [show ({ rl with lastsize := rl.line.cursor } : Readline).histOff rl.curhist = rl.histOff rl.curhist from rfl,
        hdrop, cstrlen_append_zero _ _ hnz]
      simp only
      rw [mcpy_head _ _ _ _ (by omega) (by omega), hdrop, List.take_left' rfl]
      simp [hf]
    · exact ⟨by simp only [List.length_append, List.length_drop]; omega, Nat.le_refl _, by simp only; omega, hf⟩
    · simp [h0, Sline.toZip]

/-- `readline_is_not_same_as_last`; the `false`: its `strlen` stays inside `history_space` -/
theorem notSameAsLast_eq (cap depth : Nat) (hd : 1 ≤ depth) (rl : Readline) (hist : List (List Byte))
    (hl : SlineOK rl.line) (hc : rl.line.cap = cap) (H : HistOK cap depth rl hist) :
    rl.notSameAsLast = (decide (hist.head? ≠ some rl.line.text), false) := by
  have htl := text_length _ hl
  obtain ⟨hbl, hcur, hroom, hf⟩ := hl
  obtain ⟨hnz, _, _, rest, hdrop⟩ := slot_cstr H hc 1 (Nat.le_refl 1) hd
  have hhead : hist.head? = some (hist.getD 0 []) := by
    cases hist with
    | nil => exact absurd H.slen (by simp; omega)
    | cons a as => simp
  rw [hhead]
  generalize hist.getD (1 - 1) [] = l at *
  unfold Readline.notSameAsLast Sline.equal
  rw [hdrop, cstrlen_append_zero _ _ hnz]
  simp only
  by_cases hlen : rl.line.len = l.length
  · rw [if_neg (by simpa using hlen)]
    have hbuf : rl.line.buf = rl.line.text ++ rl.line.buf.drop rl.line.len := by
      unfold Sline.text; rw [List.take_append_drop]
    rw [hbuf, hlen, strncmpEq_eq _ _ _ _ (by omega) hnz]
    simp only [Option.some.injEq, ne_eq]
    by_cases hq : rl.line.text = l
    · simp [hq]
    · have : ¬ l = rl.line.text := fun e => hq e.symm
      simp [hq, this]
  · rw [if_pos (by simpa using hlen)]
    have : ¬ l = rl.line.text := by intro e; rw [← e] at htl; omega
    simp [this]

theorem histOK_of_eq {cap depth : Nat} {hist : List (List Byte)} (rl rl' : Readline)
    (e1 : rl'.hasHist = rl.hasHist) (e2 : rl'.hsize = rl.hsize) (e3 : rl'.hist = rl.hist)
    (e4 : rl'.headhist = rl.headhist) (e5 : rl'.hfault = rl.hfault) (H : HistOK cap depth rl hist) :
    HistOK cap depth rl' hist :=
  ⟨by rw [e1]; exact H.hasHist, by rw [e2]; exact H.hsize, by rw [e3]; exact H.hlen, by rw [e4]; exact H.head,
   by rw [e5]; exact H.nofault, H.slen, by rw [e3, e4]; exact H.slots⟩

/-! ### the history part of Enter -/

theorem storeLine_ok (cap depth : Nat) (hd : 1 ≤ depth) (rl : Readline) (hist : List (List Byte))
    (hL : SlineOK rl.line) (hcap : rl.line.cap = cap) (hH : HistOK cap depth rl hist) :
    HistOK cap depth rl.storeLine (Ref.remember hist rl.line.text) := by
  have hlen : rl.line.text.length = rl.line.len := text_length _ hL
  unfold Ref.remember Readline.storeLine
  by_cases hl0 : rl.line.len = 0
  · rw [if_neg (by simp [hl0])]
    have : rl.line.text = [] := List.eq_nil_of_length_eq_zero (by omega)
    rw [if_neg (by simp [this])]
    exact hH
  · have hne : rl.line.text ≠ [] := by intro e; rw [e] at hlen; simp at hlen; omega
    rw [if_pos ⟨hH.hasHist, hl0⟩, notSameAsLast_eq cap depth hd rl hist hL hcap hH]
    simp only [Bool.or_false, decide_eq_true_eq]
    have hH0 : HistOK cap depth ({ rl with hfault := rl.hfault } : Readline) hist :=
      histOK_of_eq rl _ rfl rfl rfl rfl rfl hH
    by_cases hsame : hist.head? ≠ some rl.line.text
    · rw [if_pos hsame, if_pos ⟨hne, hsame⟩]
      exact push_ok cap depth hd _ hist hL hcap hH0
    · rw [if_neg hsame, if_neg (by intro ⟨_, q⟩; exact hsame q)]
      exact hH0

/-! ### the ring as the list of remembered lines -/

/-- the C string `readline_history_pointer(rl, k)` points at (k = 1: the most recent) -/
def Readline.histLine (rl : Readline) (k : Nat) : List Byte := (rl.hist.drop (rl.histOff k)).takeWhile (· ≠ 0)

theorem histLine_of_ok (cap depth : Nat) (rl : Readline) (hist : List (List Byte)) (hH : HistOK cap depth rl hist)
    (hc : rl.line.cap = cap) (k : Nat) (hk1 : 1 ≤ k) (hk : k ≤ depth) :
    rl.histLine k = hist.getD (k - 1) [] := by
  obtain ⟨hnz, _, _, rest, hdrop⟩ := slot_cstr hH hc k hk1 hk
  unfold Readline.histLine
  rw [hdrop]
  exact takeWhile_append_stop rest (fun x hx => decide_eq_true (hnz x hx)) (by decide)

end Igris.C15
