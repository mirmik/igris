/-
  C15 — what the index-checked memory operations of the model (`wr`, `mcpy`, `mmove`, `mset`) do to a
  buffer written as the concatenation of its parts: the parts of the edit buffer are what the zipper
  speaks of; the history ring, addressed by offsets, is first cut at the slot an operation touches
  (`split3`).
-/
import IgrisModel.C15.Spec
namespace Igris.C15
open Igris.Proto

def win (b : List α) (o n : Nat) : List α := (b.drop o).take n

theorem getElem?_win (b : List α) (o n i : Nat) : (win b o n)[i]? = if i < n then b[o + i]? else none := by
  unfold win
  simp [List.getElem?_take, List.getElem?_drop]

theorem length_win (b : List α) (o n : Nat) (h : o + n ≤ b.length) : (win b o n).length = n := by
  unfold win; simp; omega

theorem length_win_le (b : List α) (o n : Nat) : (win b o n).length ≤ n := by
  unfold win; simp; omega

theorem win_add (b : List α) (o n m : Nat) : win b o (n + m) = win b o n ++ win b (o + n) m := by
  unfold win
  rw [List.take_add, List.drop_drop]

theorem win_take (b : List α) (o n m : Nat) : (win b o n).take m = win b o (min m n) := by
  unfold win
  rw [List.take_take]

theorem win_drop (b : List α) (o n k : Nat) : (win b o n).drop k = win b (o + k) (n - k) := by
  unfold win
  rw [List.drop_take, List.drop_drop]

@[simp] theorem win_zero (b : List α) (o : Nat) : win b o 0 = [] := by simp [win]

theorem drop_eq_win_append (b : List α) (o n : Nat) : b.drop o = win b o n ++ b.drop (o + n) := by
  unfold win
  rw [← List.drop_drop, List.take_append_drop]

theorem take_eq_win (b : List α) (n : Nat) : b.take n = win b 0 n := by simp [win]

theorem win_replicate (n o k : Nat) (v : Byte) (h : o + k ≤ n) : win (List.replicate n v) o k = List.replicate k v := by
  unfold win
  rw [List.drop_replicate, List.take_replicate]
  congr 1; omega

theorem win_app_at (A S B : List Byte) {o n : Nat} (ho : o = A.length) (hn : n = S.length) : win (A ++ (S ++ B)) o n = S := by
  subst ho hn; simp [win]

theorem win_app_same {A S S' B : List Byte} (hS : S'.length = S.length) {o n : Nat}
    (h : o + n ≤ A.length ∨ A.length + S.length ≤ o) : win (A ++ (S' ++ B)) o n = win (A ++ (S ++ B)) o n := by
  unfold win
  rcases h with h | h
  · rw [List.drop_append_of_le_length (by omega), List.drop_append_of_le_length (by omega),
      List.take_append_of_le_length (by simp; omega), List.take_append_of_le_length (by simp; omega)]
  · simp (disch := omega) [List.drop_append, List.drop_eq_nil_of_le, hS]

theorem exists_snoc_of_ne_nil {l : List α} (h : l ≠ []) : ∃ l0 x, l = l0 ++ [x] :=
  ⟨l.dropLast, l.getLast h, (List.dropLast_concat_getLast h).symm⟩

theorem mmove_zero (b : List Byte) (dst src : Nat) (hs : src ≤ b.length) (hd : dst ≤ b.length) :
    mmove b dst src 0 = (b, false) := by
  unfold mmove mcpy
  rw [if_pos ⟨hs, hd⟩]
  simp

/-- the `if (cursor != len) memmove(…, len - cursor)` of the sline functions: the test only skips a
move of no bytes -/
theorem ite_mmove {c : Prop} [Decidable c] (b : List Byte) (dst src n : Nat)
    (h : ¬ c → n = 0 ∧ src ≤ b.length ∧ dst ≤ b.length) :
    (if c then mmove b dst src n else (b, false)) = mmove b dst src n := by
  split
  · rfl
  · obtain ⟨h0, hs, hd⟩ := h ‹_›
    rw [h0, mmove_zero b dst src hs hd]

theorem mcpy_app {A X B d : List Byte} {dst src n : Nat} (hd : dst = A.length) (hn : n = X.length)
    (h : src + n ≤ d.length) :
    mcpy (A ++ (X ++ B)) dst d src n = (A ++ ((d.drop src).take n ++ B), false) := by
  subst hd hn
  unfold mcpy
  rw [if_pos ⟨h, by simp⟩]
  simp

theorem wr_app {A B : List Byte} {x : Byte} {i : Nat} (v : Byte) (hi : i = A.length) :
    wr (A ++ x :: B) i v = (A ++ v :: B, false) := by
  subst hi
  unfold wr
  rw [if_pos (by simp)]
  simp

/-- `memmove` of the part `M` down over the part `G` before it; `|G|` stale bytes stay behind `M` -/
theorem close_gap {A G M B : List Byte} {dst src n : Nat} (hd : dst = A.length) (hs : src = A.length + G.length)
    (hn : n = M.length) :
    mmove (A ++ (G ++ (M ++ B))) dst src n = (A ++ (M ++ ((G ++ M).drop n ++ B)), false) := by
  subst hd hs hn
  unfold mmove mcpy
  rw [if_pos ⟨by simp; omega, by simp; omega⟩]
  simp (disch := omega) [List.drop_append, List.drop_eq_nil_of_le]

/-- `memmove` of the part `R` up by `k` bytes into the room `X` behind it; the `k` bytes in front
of the moved part are then stale -/
theorem open_gap {L R X T : List Byte} {dst src n k : Nat} (hs : src = L.length) (hd : dst = L.length + k)
    (hn : n = R.length) (hk : k = X.length) :
    mmove (L ++ (R ++ (X ++ T))) dst src n = (L ++ ((R ++ X).take k ++ (R ++ T)), false) := by
  subst hs hd hn hk
  unfold mmove mcpy
  rw [if_pos ⟨by simp, by simp; omega⟩]
  simp (disch := omega) [List.take_append, List.drop_append, List.drop_eq_nil_of_le, List.take_of_length_le]

theorem mcpy_head (b d : List Byte) (src n : Nat) (hn : n ≤ b.length) (h : src + n ≤ d.length) :
    mcpy b 0 d src n = ((d.drop src).take n ++ b.drop n, false) := by
  have := mcpy_app (A := []) (X := b.take n) (B := b.drop n) (d := d) (dst := 0) (src := src) (n := n) rfl
    (by rw [List.length_take]; omega) h
  rwa [List.nil_append, List.take_append_drop] at this

theorem mset_all (b : List Byte) (v : Byte) : mset b 0 v b.length = (List.replicate b.length v, false) := by
  unfold mset; simp

theorem split3 (b : List Byte) (o n : Nat) (h : o + n < b.length) :
    ∃ X y, b = b.take o ++ (X ++ y :: b.drop (o + n + 1)) ∧ X.length = n :=
  ⟨win b o n, b[o + n], by rw [← List.drop_eq_getElem_cons h, ← drop_eq_win_append, List.take_append_drop],
    length_win _ _ _ (by omega)⟩

/-- `memcpy(b + o, src, len); b[o + len] = 0`: what the history push and `readline_linecpy` do -/
theorem copy_term {A X Y src : List Byte} {y : Byte} {o len : Nat} (ho : o = A.length) (hl : len = X.length)
    (hs : len ≤ src.length) :
    ∃ m, mcpy (A ++ (X ++ y :: Y)) o src 0 len = (m, false) ∧ wr m (o + len) 0 = (A ++ (src.take len ++ 0 :: Y), false) := by
  refine ⟨_, mcpy_app ho hl (by omega), ?_⟩
  rw [← List.append_assoc, wr_app 0 (by simp [ho, hl]; omega), List.drop_zero, List.append_assoc]

end Igris.C15
