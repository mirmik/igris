/-
  C15 — the W-column terminal with auto-wrap (`WScreen`) follows the unbounded one-row screen byte
  for byte as long as the cursor stays left of the last column.
-/
import IgrisModel.C15.Screen
namespace Igris.C15
open Igris.Proto

def WScreen.ofScreen (above : List (List Byte)) (s : Screen) : WScreen := ⟨above, s.cells, s.col, false, s.ps⟩

theorem wput_eq (W : Nat) (ab : List (List Byte)) (s : Screen) (b : Byte) (h : (s.put b).col + 1 < W) (h0 : s.col + 1 < W) :
    WScreen.put W (WScreen.ofScreen ab s) b =
      WScreen.ofScreen (if s.ps = .ground ∧ b = LF then s.cells :: ab else ab) (s.put b) := by
  obtain ⟨cells, col, ps⟩ := s
  simp only at h0
  cases ps with
  | ground =>
    by_cases hLF : b = LF
    · subst hLF; rfl
    · -- the two `put`s are the same cascade; only a glyph looks at the width
      rw [if_neg (fun hq => hLF hq.2)]
      simp only [WScreen.put, Screen.put, WScreen.ofScreen] at h ⊢
      by_cases h1 : b = ESC
      · rw [if_pos h1, if_pos h1]
      · rw [if_neg h1, if_neg h1]
        by_cases h2 : b = CR
        · rw [if_pos h2, if_pos h2]
        · rw [if_neg h2, if_neg h2, if_neg hLF, if_neg hLF]
          by_cases h4 : b = BS
          · rw [if_pos h4, if_pos h4]
          · rw [if_neg h4, if_neg h4]
            by_cases h5 : Screen.isPrintable b = true
            · rw [if_neg h1, if_neg h2, if_neg hLF, if_neg h4, if_pos h5] at h
              rw [if_pos h5, if_pos h5]
              simp only [Screen.putGlyph, WScreen.putGlyph, Bool.false_eq_true, if_false] at h ⊢
              rw [if_pos (by omega)]
            · rw [if_neg h5, if_neg h5]
  | esc =>
    simp only [WScreen.put, Screen.put, WScreen.ofScreen, reduceCtorEq, false_and, if_false]
    split <;> rfl
  | csi n =>
    simp only [WScreen.put, Screen.put, WScreen.ofScreen, reduceCtorEq, false_and, if_false] at h ⊢
    generalize (if n.getD 1 = 0 then 1 else n.getD 1) = k at h ⊢
    by_cases hd : Screen.isDigit b = true
    · rw [if_pos hd, if_pos hd]
    · rw [if_neg hd, if_neg hd] at *
      by_cases h2 : b = 0x44
      · rw [if_pos h2, if_pos h2]
      · rw [if_neg h2, if_neg h2] at *
        by_cases h3 : b = 0x43
        · rw [if_pos h3] at h
          have hk : col + k < W := by simp only at h; omega
          rw [if_pos h3, if_pos h3]
          simp only [hk, if_true]
        · rw [if_neg h3, if_neg h3]
          split <;> rfl

theorem wfeed_eq (W : Nat) (ab : List (List Byte)) (s : Screen) (bs : List Byte) (h : s.hw bs + 1 < W) :
    ∃ ab', WScreen.feed W (WScreen.ofScreen ab s) bs = WScreen.ofScreen ab' (s.feed bs) := by
  induction bs generalizing ab s with
  | nil => exact ⟨ab, rfl⟩
  | cons b bs ih =>
    simp only [Screen.hw] at h
    have h0 : s.col + 1 < W := by omega
    have h1 : (s.put b).hw bs + 1 < W := by omega
    have h2 : (s.put b).col + 1 < W := by have := Screen.hw_ge (s.put b) bs; omega
    have e1 := wput_eq W ab s b h2 h0
    obtain ⟨ab2, e2⟩ := ih _ (s.put b) h1
    refine ⟨ab2, ?_⟩
    unfold WScreen.feed Screen.feed at *
    rw [List.foldl_cons, List.foldl_cons, e1]
    exact e2

end Igris.C15
