/-
  C15 — PROPERTY THEOREMS: line editor (sline), readline automaton with
  history, terminal automaton (vterm) and the VT100 screen it drives.

  "For every byte sequence typed at the terminal automaton (printable
  characters, backspace, ESC-[ arrows, delete, CR/LF in any pairing, Ctrl-C,
  unknown escapes) the line handed to the execute callback equals the line a
  reference editor with the same key semantics and capacity produces, history
  recall returns the previously entered lines in order, and the echoed output
  drives a VT100 screen model to show the same line and cursor.  The edit
  buffer, cursor and history never leave their bounds (0 <= cursor <= length <
  capacity) and no write lands outside the line or history buffers, including
  for the bulk-insert and NUL-terminating accessors."

  Model: IgrisModel/C15/Model.lean (the code after the twelve `fix:` commits of
  branch fix-C15).  Reference: IgrisModel/C15/Spec.lean (a zipper with a
  capacity, a list of remembered lines, a key decoder).
-/
import IgrisModel.C15.Recall
import IgrisModel.C15.Grammar
import IgrisModel.C15.WideScreen
import IgrisModel.C15.Widths
namespace Igris.C15
open Igris.Proto

/-! ### the edit buffer (struct sline / igris::sline), any history of API calls -/

/-- Bounds and memory safety of the edit buffer, for EVERY history of API calls
(putchar, bulk insert `sline_newdata` with data of any length, backspace /
delete by any count, left, right, reset, the NUL-terminating `sline_getline`)
and every capacity ≥ 1: `0 ≤ cursor ≤ length < capacity`, the object still
describes the buffer it was given, and no store, memmove or memcpy left that
buffer (`fault = false`: every access of the model is index-checked). -/
theorem sline_inv (cap : Nat) (hcap : 1 ≤ cap) (ops : List SOp) :
    ((Sline.init cap).runOps ops).cursor ≤ ((Sline.init cap).runOps ops).len ∧
    ((Sline.init cap).runOps ops).len < cap ∧
    ((Sline.init cap).runOps ops).cap = cap ∧
    ((Sline.init cap).runOps ops).buf.length = cap ∧
    ((Sline.init cap).runOps ops).fault = false := by
  obtain ⟨h, hc', _, _⟩ := reach_ok cap hcap ops
  refine ⟨h.cur, ?_, hc', by rw [h.blen, hc'], h.nofault⟩
  have := h.room; omega

/-- non-vacuity / the bound is tight: a bulk insert longer than the buffer fills
it to `cap - 1` and `sline_getline` then writes the terminator at `cap - 1` -/
example : ((Sline.init 4).runOps [.newdata [1, 2, 3, 4, 5, 6], .getline]).len = 3 ∧
    ((Sline.init 4).runOps [.newdata [1, 2, 3, 4, 5, 6], .getline]).buf = [1, 2, 3, 0] := by decide

/-- The edit buffer refines the zipper: after every history of API calls the
characters left / right of the cursor are exactly those of the reference
zipper driven by the same calls; in particular the line handed out by
`sline_getline` / `(data, size)` is the reference line and the cursor is at
the reference position. -/
theorem sline_refines_zipper (cap : Nat) (hcap : 1 ≤ cap) (ops : List SOp) :
    ((Sline.init cap).runOps ops).toZip = Zip.empty.runOps cap ops ∧
    ((Sline.init cap).runOps ops).text = (Zip.empty.runOps cap ops).line ∧
    ((Sline.init cap).runOps ops).cursor = (Zip.empty.runOps cap ops).left.length := by
  obtain ⟨h, _, hz', _⟩ := reach_ok cap hcap ops
  refine ⟨hz', ?_, ?_⟩
  · rw [← hz', toZip_line _ h]
  · rw [← hz', toZip_left_length _ h]

/-- ... and every call returns what the reference returns (characters stored,
removed, cursor moved) -/
theorem sline_returns (cap : Nat) (hcap : 1 ≤ cap) (ops : List SOp) (o : SOp) :
    (((Sline.init cap).runOps ops).apply o).2 = ((Zip.empty.runOps cap ops).apply cap o).2 := by
  obtain ⟨h, hc, hz, _⟩ := reach_ok cap hcap ops
  obtain ⟨_, _, _, hr⟩ := apply_ok _ h o
  rw [hr, hz, hc]

/-! ### the terminal automaton (vterm_automate / igris::vtermxx), any key sequence

`cxx = false` is `vterm_automate_newdata` (vterm.c), `cxx = true` is
`igris::vtermxx::newdata` (returns right after the execute callback; the line
is reset and the prompt printed at the start of the next call).  EVERY history
depth ≥ 1 (the ring indices are `unsigned int` since fix 53c38ec; with the
original `uint8_t` fields depth 256 divided by zero, see corpus/C15/fixed.ops). -/

/-- Bounds and memory safety of the whole terminal, for EVERY byte sequence,
capacity ≥ 1, every history depth ≥ 1, both variants, any prompt:
`0 ≤ cursor ≤ length < capacity`; the history indices stay inside the ring
(`headhist < depth`, `curhist ≤ depth`); and no store / memmove / memcpy /
memset / strlen of the edit buffer or of history_space left its object
(`faulted = false`: every access of the model is index-checked against the
exactly sized buffer, including the terminator written by `sline_getline` for
the execute callback and the `memcpy + '\0'` of the history push). -/
theorem vterm_safe (cap depth : Nat) (hcap : 1 ≤ cap) (hd : 1 ≤ depth) (cxx : Bool)
    (prompt : List Byte) (keys : List Byte) :
    let v := (Vterm.init cap depth cxx prompt).run keys
    v.rl.faulted = false ∧ v.rl.line.cursor ≤ v.rl.line.len ∧ v.rl.line.len < cap ∧
    v.rl.line.buf.length = cap ∧ v.rl.hist.length = cap * depth ∧ v.rl.headhist < depth ∧ v.rl.curhist ≤ depth := by
  exact safe_of_sim cap depth _ _ (reach_sim cap depth hcap hd cxx prompt keys)

/-- THE LINE HANDED TO EXECUTE.  For every byte sequence typed at the terminal
(any bytes: printable, BS, ESC-[ arrows, ESC-[-3-~, CR/LF in any pairing,
Ctrl-C, unknown escapes, anything else), the sequence of callback events —
every `execute(line)` with its line, every SIGINT, in order — is exactly the
sequence the reference editor produces. -/
theorem readline_line (cap depth : Nat) (hcap : 1 ≤ cap) (hd : 1 ≤ depth) (cxx : Bool)
    (prompt : List Byte) (keys : List Byte) :
    (Vterm.init cap depth cxx prompt).events keys = (Ref.init depth).events cap keys :=
  events_sim cap depth hd _ _ keys (init_sim cap depth hcap hd cxx prompt)

/-- ... and between the events the edit buffer and the cursor are the reference
editor's: after every key sequence the line the next call works on (`nrl`: the
buffer itself in state 2, the freshly reset buffer while the reset after Enter
is still pending) holds the reference line with the cursor at the reference
position, is browsing the same history entry and is in the same place of an
escape sequence. -/
theorem vterm_refines_editor (cap depth : Nat) (hcap : 1 ≤ cap) (hd : 1 ≤ depth) (cxx : Bool)
    (prompt : List Byte) (keys : List Byte) :
    let v := (Vterm.init cap depth cxx prompt).run keys
    let r := (Ref.init depth).run cap keys
    v.nrl.line.text = r.z.line ∧ v.nrl.line.cursor = r.z.left.length ∧ v.nrl.curhist = r.browse ∧
    v.nrl.state = r.esc := by
  exact editor_of_sim cap depth _ _ (reach_sim cap depth hcap hd cxx prompt keys)

/-- WHAT THE RETURN CODES MEAN.  In every reachable state of the terminal's
readline (after any key sequence) the code `readline_putchar` answers to the
next byte classifies the reference editor's transition: ECHOCHAR = `c` was
inserted at the cursor; BACKSPACE / DELETE = the character before / at the
cursor was removed; LEFT / RIGHT = the cursor moved; UPDATELINE = another
history line was loaded (cursor at its end, `lastsize` = the old cursor);
NOTHING / OVERFLOW = the line is unchanged; NEWLINE = the line is unchanged and
accepted — and NEWLINE is answered exactly when the reference accepts a line. -/
theorem readline_codes (cap depth : Nat) (hcap : 1 ≤ cap) (hd : 1 ≤ depth) (cxx : Bool)
    (prompt : List Byte) (keys : List Byte) (c : Byte) :
    let rl := ((Vterm.init cap depth cxx prompt).run keys).nrl
    let r := (Ref.init depth).run cap keys
    EchoRel c (rl.putchar c).2 (rl.putchar c).1.lastsize r.z (r.rlKey cap c).1.z ∧
    ((rl.putchar c).2 = RL_NEWLINE → (r.rlKey cap c).2 = some r.z.line) ∧
    ((rl.putchar c).2 ≠ RL_NEWLINE → (r.rlKey cap c).2 = none) := by
  have h := reach_sim cap depth hcap hd cxx prompt keys
  exact (rstep cap depth hd _ _ c h.sim).2

/-! ### history recall -/

/-- HISTORY RECALL RETURNS THE ENTERED LINES IN ORDER.  Enter `n` lines (each
non-empty, fitting the buffer, made of ordinary characters, each different
from the one before it), then press Up `k` times, `1 ≤ k ≤ min n depth`: the
edit buffer holds the `k`-th most recent line with the cursor at its end, the
terminal is browsing entry `k`.  (All ring indices stay `< depth` and all ring
writes inside history_space: `vterm_safe`.) -/
theorem history_recall (cap depth : Nat) (hcap : 1 ≤ cap) (hd : 1 ≤ depth) (cxx : Bool)
    (prompt : List Byte) (ls : List (List Byte)) (k : Nat)
    (hl : ∀ l ∈ ls, l ≠ [] ∧ l.length + 1 ≤ cap ∧ ∀ c ∈ l, plain c) (hdist : ConsecDistinct ls)
    (hk1 : 1 ≤ k) (hk : k ≤ ls.length) (hkd : k ≤ depth) :
    let v := (Vterm.init cap depth cxx prompt).run (ls.flatMap (· ++ [CR]) ++ (List.replicate k UP).flatten)
    v.rl.line.text = ls.reverse.getD (k - 1) [] ∧
    v.rl.line.cursor = (ls.reverse.getD (k - 1) []).length ∧
    v.rl.curhist = k := by
  obtain ⟨hz, hb⟩ := ref_recall cap depth hd ls k 0 hl hdist hk hkd hk1
  rw [show (List.replicate 0 DOWN).flatten = [] from rfl, List.append_nil] at hz hb
  obtain ⟨t1, t2, t3⟩ := recall_transfer (reach_sim cap depth hcap hd cxx prompt _) (by rw [hb]; omega) _ hz
  exact ⟨t1, t2, by rw [t3, hb]; rfl⟩

/-- non-vacuity: three lines, history depth 2, Up twice shows the second most recent -/
example :
    ((Vterm.init 4 2 false).run
      ([[0x61], [0x62, 0x63], [0x64]].flatMap (· ++ [CR]) ++ (List.replicate 2 UP).flatten)).rl.line.text = [0x62, 0x63] ∧
    ((Vterm.init 4 2 false).run
      ([[0x61], [0x62, 0x63], [0x64]].flatMap (· ++ [CR]) ++ (List.replicate 2 UP).flatten)).rl.curhist = 2 := by
  decide

/-! ### the echoed output on a VT100 screen -/

/- The clause as the property states it — "the echoed output drives a VT100
screen model to show the same line and cursor" for EVERY byte sequence — does
not hold: a byte a terminal cannot show (TAB, DEL, NUL, ≥ 0x80) is stored and
echoed as it is (`screen_matches_witness`).  `_partial` = with the
hypothesis that the keys are printable ASCII or one of the control keys the
automaton handles (every key class the property enumerates), the prompt is
printable, echo is on (echo off: `echo_off_silent`), and the screen is ONE row
of unbounded width: no right margin, no auto-wrap (a real 80-column terminal
does not move up a row on `ESC[nD`; a line crossing the margin is outside this
model). -/

/-- THE SCREEN SHOWS THE LINE AND THE CURSOR.  Feed every byte the terminal
passes to the write callback, from the very first call on, to the one-row VT100
screen model (`Screen`: printable, CR, LF, ESC[nD, ESC[nC, ESC[K; column
clamped at 0).  For every key sequence made of keys a terminal can show
(printable ASCII, BS, CR, LF, ESC, Ctrl-C — in any order, so every escape
sequence, complete or not), every printable prompt, capacity ≥ 1, every depth
≥ 1, both variants: after every key (the statement is for every key sequence,
hence for every prefix of a session)
  * in state 2 (always, for vterm.c, once a key was typed — `screen_matches_c_partial`)
    the row is exactly  prompt ++ line  and the cursor column is
    |prompt| + cursor, the screen's escape parser is in its ground state;
  * while igris::vtermxx still owes the prompt after Enter (state 1) — and
    before the first call (state 0) — the row is blank, cursor in column 0. -/
theorem screen_matches_partial (cap depth : Nat) (hcap : 1 ≤ cap) (hd : 1 ≤ depth) (cxx : Bool)
    (prompt : List Byte) (keys : List Byte) (hP : AllP prompt) (hk : ∀ k ∈ keys, screenKey k = true) :
    let v0 := Vterm.init cap depth cxx prompt
    let v := v0.run keys
    let scr := Screen.blank.feed (v0.echoed keys)
    (v.state = 2 → scr = ⟨prompt ++ v.rl.line.text, prompt.length + v.rl.line.cursor, .ground⟩) ∧
    (v.state ≠ 2 → scr = ⟨[], 0, .ground⟩) := by
  have h0 := init_sim cap depth hcap hd cxx prompt
  obtain ⟨s1, s2, _⟩ := screen_run cap depth hd (Vterm.init cap depth cxx prompt) (Ref.init depth) Screen.blank keys
    h0 (refP_init depth) rfl hP hk (sinv_init cap depth cxx prompt)
  exact screen_of_sim cap depth prompt _ _ _ s2 s1

/-- vterm.c: after every non-empty key sequence the screen shows prompt ++ line
with the cursor at |prompt| + cursor -/
theorem screen_matches_c_partial (cap depth : Nat) (hcap : 1 ≤ cap) (hd : 1 ≤ depth)
    (prompt : List Byte) (keys : List Byte) (hP : AllP prompt) (hk : ∀ k ∈ keys, screenKey k = true)
    (hne : keys ≠ []) :
    Screen.blank.feed ((Vterm.init cap depth false prompt).echoed keys) =
      ⟨prompt ++ ((Vterm.init cap depth false prompt).run keys).rl.line.text,
       prompt.length + ((Vterm.init cap depth false prompt).run keys).rl.line.cursor, .ground⟩ :=
  (screen_matches_partial cap depth hcap hd false prompt keys hP hk).1
    (run_state_c cap depth hd _ _ (init_sim cap depth hcap hd false prompt) rfl keys hne)

/-- non-vacuity, and the two defects repaired in fix-C15 as concrete sessions:
"abc", Left, Left, "x" on a 6-byte line: the row reads "$ axbc", cursor after the x -/
example : Screen.blank.feed ((Vterm.init 6 2 false).echoed [0x61, 0x62, 0x63, ESC, 0x5b, 0x44, ESC, 0x5b, 0x44, 0x78]) =
    ⟨[0x24, 0x20, 0x61, 0x78, 0x62, 0x63], 4, .ground⟩ := by decide

/-- "ab", Enter, Up, Left, Up (recall with the cursor mid-line): the prompt survives -/
example : Screen.blank.feed ((Vterm.init 4 2 false).echoed
      [0x61, 0x62, CR, ESC, 0x5b, 0x41, ESC, 0x5b, 0x44, ESC, 0x5b, 0x41]) = ⟨[0x24, 0x20], 2, .ground⟩ := by decide

/-- The hypothesis on the keys is needed: a byte a terminal cannot show (TAB) is
stored in the line and echoed, and the screen model ignores it — the row then
differs from prompt ++ line.  (Recorded as the limit of the screen clause, not
as a defect: the line handed to execute is still the reference line.) -/
theorem screen_matches_witness :
    Screen.blank.feed ((Vterm.init 4 1 false).echoed [0x09]) ≠
      ⟨[0x24, 0x20] ++ ((Vterm.init 4 1 false).run [0x09]).rl.line.text,
       2 + ((Vterm.init 4 1 false).run [0x09]).rl.line.cursor, .ground⟩ := by decide

/-! ### the usual way to start: `vterm_automate_init_step` first -/

/-- The same guarantees when the session starts with the init step (prompt
printed before the first key, as igris' own test and the harness do): events
equal the reference editor's, memory safety and bounds, and the screen —
fed the init step's output and then every echoed byte — shows prompt ++ line
with the cursor at |prompt| + cursor whenever the terminal is in state 2
(blank row while vtermxx owes the prompt after Enter). -/
theorem init_step_session (cap depth : Nat) (hcap : 1 ≤ cap) (hd : 1 ≤ depth) (cxx : Bool)
    (prompt : List Byte) (keys : List Byte) :
    let v0 := (Vterm.init cap depth cxx prompt).initStep.1
    v0.events keys = (Ref.init depth).events cap keys ∧
    ((v0.run keys).rl.faulted = false ∧ (v0.run keys).rl.line.cursor ≤ (v0.run keys).rl.line.len ∧
      (v0.run keys).rl.line.len < cap) ∧
    (AllP prompt → (∀ k ∈ keys, screenKey k = true) →
      ((v0.run keys).state = 2 →
        Screen.blank.feed ((Vterm.init cap depth cxx prompt).initStep.2 ++ v0.echoed keys) =
          ⟨prompt ++ (v0.run keys).rl.line.text, prompt.length + (v0.run keys).rl.line.cursor, .ground⟩) ∧
      ((v0.run keys).state ≠ 2 →
        Screen.blank.feed ((Vterm.init cap depth cxx prompt).initStep.2 ++ v0.echoed keys) = ⟨[], 0, .ground⟩)) := by
  have h0 := init_sim cap depth hcap hd cxx prompt
  obtain ⟨i1, i2, i3, i4, _, i6⟩ := initStep_pending cap depth _ _ h0 (by simp [Vterm.init])
  refine ⟨events_sim cap depth hd _ _ keys i1, ?_, ?_⟩
  · have := safe_of_sim cap depth _ _ (run_sim cap depth hd _ _ keys i1)
    exact ⟨this.1, this.2.1, this.2.2.1⟩
  · intro hP hk
    have hp0 : (Vterm.init cap depth cxx prompt).initStep.1.prompt = prompt := i4
    have he0 : (Vterm.init cap depth cxx prompt).initStep.1.echo = true := i3
    have hout : (Vterm.init cap depth cxx prompt).initStep.2 = prompt := by rw [i6]; rfl
    have hs0 : SInv (Vterm.init cap depth cxx prompt).initStep.1.prompt (Vterm.init cap depth cxx prompt).initStep.1
        (Screen.blank.feed prompt) (Ref.init depth) := by
      unfold SInv
      rw [if_pos i2, hp0]
      exact showing_empty prompt hP
    obtain ⟨s1, s2, _⟩ := screen_run cap depth hd _ _ _ keys i1 (refP_init depth) he0 (by rw [hp0]; exact hP) hk hs0
    rw [hp0] at s1
    rw [hout, Screen.feed_append]
    exact screen_of_sim cap depth prompt _ _ _ s2 s1

/-! ### sline: `sline_newdata` with an `int` length, `igris::sline::clear`, `set_size_and_cursor` -/

/-- Bounds and memory safety for histories that ALSO use `sline_newdata(data, n)`
with the `int n` exactly as the caller gives it (negative, zero, a prefix of the
data — after fix 21c90c1 a negative length inserts nothing), `igris::sline::clear`
and the raw setter `set_size_and_cursor(len, cursor)` inside its contract
(`cursor ≤ len < cap`): `0 ≤ cursor ≤ len < cap`, no access left the buffer. -/
theorem sline_inv_ext (cap : Nat) (hcap : 1 ≤ cap) (ops : List SOpX) (hv : ∀ o ∈ ops, o.valid cap) :
    ((Sline.init cap).runOpsX ops).cursor ≤ ((Sline.init cap).runOpsX ops).len ∧
    ((Sline.init cap).runOpsX ops).len < cap ∧
    ((Sline.init cap).runOpsX ops).buf.length = cap ∧
    ((Sline.init cap).runOpsX ops).fault = false := by
  obtain ⟨h, hc⟩ := runOpsX_ok (Sline.init cap) (init_ok cap hcap) ops hv
  have hc' : ((Sline.init cap).runOpsX ops).cap = cap := hc
  have := h.room
  exact ⟨h.cur, by omega, by rw [h.blen, hc'], h.nofault⟩

/-- non-vacuity: a negative length, a raw resize that un-deletes a stale byte, clear -/
example : (Sline.init 4).runOpsX [.base (.putchar 0x61), .newdataI [0x62, 0x63] (-1), .base (.putchar 0x62),
      .base (.backspace 1), .setsc 2 1, .base .getline] = ⟨[0x61, 0x62, 0, 0], 4, 2, 1, false⟩ ∧
    ∀ o ∈ [SOpX.base (.putchar 0x61), .newdataI [0x62, 0x63] (-1), .setsc 2 1, .clear], o.valid 4 := by decide

/-- the contract of the raw setter is needed: `set_size_and_cursor(cap, 0)` and
then `getline` writes `buf[cap]` -/
theorem set_size_and_cursor_witness : ((Sline.init 2).setSizeCursor 2 0).getline.fault = true := by decide

/-- `sline_newdata(data, n)` for any `int n ≤ |data|`, in any reachable state, IS
the bulk insert of the first `max n 0` bytes (so `sline_inv`,
`sline_refines_zipper`, `sline_returns` speak about it) -/
theorem newdata_int_length (cap : Nat) (hcap : 1 ≤ cap) (ops : List SOp) (d : List Byte) (n : Int)
    (hn : n ≤ (d.length : Int)) :
    ((Sline.init cap).runOps ops).newdataI d n =
      ((((Sline.init cap).runOps ops).apply (.newdata (d.take n.toNat))).1,
       (((((Sline.init cap).runOps ops).apply (.newdata (d.take n.toNat))).2 : Nat) : Int)) :=
  newdataI_eq _ (reach_ok cap hcap ops).1 d n hn

example : ((Sline.init 4).newdataI [0x61, 0x62] (-5)).2 = 0 ∧ ((Sline.init 4).newdataI [0x61, 0x62] 1).1.text = [0x61] := by
  decide

/-- capacity 0 (finding C15-capacity-zero), what is left of it after the two
repairs of the sline half (fix bd7ecca: `sline_putchar` refuses; fix 609dfa2:
`sline_getline` writes no terminator without a buffer — `sline_any_capacity`
below): a READLINE over a 0-byte line buffer still reads `history_space[0]` of a
0-byte history on the first Up (`strlen` of an empty object). -/
theorem capacity_zero_witness :
    ((((Readline.init 0 1).putchar ESC).1.putchar 0x5b).1.putchar 0x41).1.faulted = true := by decide

/-! ### readline_linecpy -/

/-- `readline_linecpy(rl, line, maxlen)` after ANY key sequence, for a destination
of at least `maxlen` bytes: it returns `n = min(len, maxlen - 1)`, the
destination holds the first `n` characters of the line, a terminator at `[n]`,
and is untouched behind it (so at most `maxlen` bytes are written); no access
leaves the destination or the edit buffer.  `maxlen = 0` writes nothing and
returns 0 (fix 4bae48b; before: `memcpy` of SIZE_MAX bytes). -/
theorem linecpy_bounded (cap depth : Nat) (hcap : 1 ≤ cap) (hd : 1 ≤ depth) (cxx : Bool) (prompt : List Byte)
    (keys : List Byte) (dst : List Byte) (maxlen : Nat) (hm : maxlen ≤ dst.length) :
    let rl := ((Vterm.init cap depth cxx prompt).run keys).rl
    let n := min rl.line.len (maxlen - 1)
    (1 ≤ maxlen → rl.linecpy dst maxlen = (rl.line.text.take n ++ [0] ++ dst.drop (n + 1), (n : Int), false) ∧
      (rl.line.text.take n ++ [0] ++ dst.drop (n + 1)).length = dst.length) ∧
    (maxlen = 0 → rl.linecpy dst maxlen = (dst, 0, false)) := by
  intro rl n
  have hs := reach_sim cap depth hcap hd cxx prompt keys
  have hL : SlineOK rl.line := hs.rawOK
  constructor
  · intro h1
    refine ⟨linecpy_ok rl hL dst maxlen h1 hm, ?_⟩
    have hl : rl.line.text.length = rl.line.len := text_length _ hL
    simp only [List.length_append, List.length_take, List.length_drop, List.length_singleton, hl]
    omega
  · intro h0
    subst h0
    rfl

example : (((Vterm.init 8 1 false).run [0x61, 0x62, 0x63]).rl.linecpy [9, 9, 9, 9] 3) = ([0x61, 0x62, 0, 9], 2, false) := by
  decide

/-! ### the `default:` branches of the automata are dead -/

/-- Between calls the terminal automaton is in one of its enumerated states
0, 1, 2 — for EVERY capacity, depth, variant, prompt, key sequence (no
hypothesis at all): the outer `default:` branch (`state = 0; return`,
vterm.c 226–230, vtermxx.cpp 205–209; `key_default_branch`) is never taken.
The readline's escape state is an enumeration in the model (`RState`): every
assignment to `state` in readline.h / readlinexx.h stores one of the four
constants, so its `default:` (readline.h 310–314, readlinexx.h 313–317) is
dead by construction; the harness checks `state ∈ {0..3}` and `= ` the
reference decoder's after every key. -/
theorem automaton_states_enumerated (cap depth : Nat) (cxx : Bool) (prompt : List Byte) (keys : List Byte) :
    let v := (Vterm.init cap depth cxx prompt).run keys
    (v.state = 0 ∨ v.state = 1 ∨ v.state = 2) ∧
    ∀ c, v.key c ≠ ({ v with state := 0 }, [], []) ∨ v.state = 0 := by
  intro v
  have h := run_st012 (Vterm.init cap depth cxx prompt) keys (Or.inl rfl)
  refine ⟨h, fun c => ?_⟩
  by_cases h0 : v.state = 0
  · exact Or.inr h0
  · left
    intro e
    have := key_st012 v c h
    rw [e] at this
    simp at this

/-! ### echo off -/

/-- ECHO OFF.  With `echo = 0` the write callback is never used — not for the
prompt, not for CR LF, not for `^C` — and everything else is as with echo on:
the same callback events (hence, by `readline_line`, the reference editor's
lines), the same line, cursor, history and automaton state after every key.
Every capacity, depth, variant, prompt, byte sequence; no hypothesis. -/
theorem echo_off_silent (cap depth : Nat) (cxx : Bool) (prompt : List Byte) (keys : List Byte) :
    let on := Vterm.init cap depth cxx prompt
    let off : Vterm := { on with echo := false }
    off.echoed keys = [] ∧ off.events keys = on.events keys ∧ off.run keys = { on.run keys with echo := false } :=
  run_echo_off (Vterm.init cap depth cxx prompt) keys (Or.inl rfl)

/-- … so with echo off the executed lines are the reference editor's -/
theorem echo_off_lines (cap depth : Nat) (hcap : 1 ≤ cap) (hd : 1 ≤ depth) (cxx : Bool) (prompt : List Byte)
    (keys : List Byte) :
    ({ Vterm.init cap depth cxx prompt with echo := false } : Vterm).events keys = (Ref.init depth).events cap keys := by
  rw [(echo_off_silent cap depth cxx prompt keys).2.1]
  exact readline_line cap depth hcap hd cxx prompt keys

example : ({ Vterm.init 4 1 false with echo := false } : Vterm).events [0x61, ETX, 0x62, CR] = [.sigint, .exec [0x62]] ∧
    ({ Vterm.init 4 1 false with echo := false } : Vterm).echoed [0x61, ETX, 0x62, CR] = [] := by decide

/-! ### vterm.c and igris::vtermxx are one editor -/

/-- THE C AND THE C++ TERMINAL ARE OBSERVATIONALLY EQUAL.  After the same keys
(every capacity, depth, prompt, byte sequence — no hypothesis, the proof is a
simulation between the two models): the callbacks saw the same events; the
readline object the next call starts from (`nrl`: line, cursor, escape state,
`last`, the whole history ring and its indices) is the same; echo / prompt are
the same; and the bytes written are the same up to the prompt igris::vtermxx
still owes after Enter (`owed`: it prints it at the start of the next call,
vterm.c at the end of this one).  So every theorem above about one variant is
a theorem about the other. -/
theorem twins_observationally_equal (cap depth : Nat) (prompt : List Byte) (keys : List Byte) :
    let c := Vterm.init cap depth false prompt
    let x := Vterm.init cap depth true prompt
    c.events keys = x.events keys ∧ (c.run keys).nrl = (x.run keys).nrl ∧
    c.echoed keys ++ (c.run keys).owed = x.echoed keys ++ (x.run keys).owed := by
  intro c x
  obtain ⟨t1, t2, t3⟩ := twin_run c x keys (twin_init cap depth prompt)
  refine ⟨t2, t1.nrl, ?_⟩
  have := t3 [] [] rfl
  simpa using this

/-- non-vacuity: "a", Enter — vterm.c has printed the next prompt, vtermxx owes it -/
example : (Vterm.init 4 1 false).echoed [0x61, CR] = (Vterm.init 4 1 true).echoed [0x61, CR] ++ [0x24, 0x20] ∧
    ((Vterm.init 4 1 true).run [0x61, CR]).owed = [0x24, 0x20] ∧ ((Vterm.init 4 1 false).run [0x61, CR]).owed = [] := by
  decide

/-! ### the history ring is the reference's list of lines -/

/-- THE RING IS THE LIST.  After every key sequence the C string in the slot
`readline_history_pointer(rl, k)` points at (`histLine k`: slot
`(headhist + depth − k) mod depth`, up to its NUL) is the `k`-th most recent
remembered line of the reference editor, for every `1 ≤ k ≤ depth` — whatever
was typed, however often the ring wrapped. -/
theorem history_is_reference (cap depth : Nat) (hcap : 1 ≤ cap) (hd : 1 ≤ depth) (cxx : Bool) (prompt : List Byte)
    (keys : List Byte) (k : Nat) (hk1 : 1 ≤ k) (hk : k ≤ depth) :
    ((Vterm.init cap depth cxx prompt).run keys).rl.histLine k = ((Ref.init depth).run cap keys).hist.getD (k - 1) [] := by
  have hs := reach_sim cap depth hcap hd cxx prompt keys
  rw [← (nrl_hist _).2.2.2.2 k]
  exact histLine_of_ok cap depth _ _ hs.sim.histOK hs.sim.lcap k hk1 hk

/-- EDITING A RECALLED LINE DOES NOT ALTER THE HISTORY.  Whatever is typed after
`keys` — recalls, edits of the recalled line, cursor moves, escapes, Ctrl-C —
as long as no line is handed to execute, every stored line stays what it was. -/
theorem history_unchanged_by_editing (cap depth : Nat) (hcap : 1 ≤ cap) (hd : 1 ≤ depth) (cxx : Bool)
    (prompt : List Byte) (keys edits : List Byte)
    (hne : ∀ e ∈ ((Vterm.init cap depth cxx prompt).run keys).events edits, e = Ev.sigint)
    (k : Nat) (hk1 : 1 ≤ k) (hk : k ≤ depth) :
    ((Vterm.init cap depth cxx prompt).run (keys ++ edits)).rl.histLine k =
      ((Vterm.init cap depth cxx prompt).run keys).rl.histLine k := by
  rw [history_is_reference cap depth hcap hd cxx prompt _ k hk1 hk,
    history_is_reference cap depth hcap hd cxx prompt _ k hk1 hk, Ref.run_append]
  -- on the key presses the edits consist of (`tok_run`) only Enter touches the remembered lines, and Enter calls execute
  obtain ⟨a, b⟩ := tok_run cap _ edits (dec_run cap _ keys (dec_init depth))
  rw [events_sim cap depth hd _ _ edits (reach_sim cap depth hcap hd cxx prompt keys), b] at hne
  have := Ed.run_hist cap _ _ hne
  rw [← a] at this
  rw [show (((Ref.init depth).run cap keys).run cap edits).hist = _ from this]
  rfl

/-- non-vacuity: "ab" Enter, Up, Backspace, "x", Ctrl-C: the stored line is still "ab" -/
example : ((Vterm.init 4 2 false).run ([0x61, 0x62, CR] ++ [ESC, 0x5b, 0x41, BS, 0x78, ETX])).rl.histLine 1 = [0x61, 0x62] ∧
    ∀ e ∈ ((Vterm.init 4 2 false).run [0x61, 0x62, CR]).events [ESC, 0x5b, 0x41, BS, 0x78, ETX], e = Ev.sigint := by
  decide

/-- UP BEYOND THE OLDEST, DOWN BEYOND THE NEWEST ARE NO-OPS.  In any reachable
state (after any keys) in which the terminal waits for a key outside an escape
sequence: when the oldest entry is shown (`curhist = depth`) the Up key, and
when a new line is edited (`curhist = 0`) the Down key, write nothing, call
nothing, and leave line, cursor, browse position and history as they are. -/
theorem history_ends_noop (cap depth : Nat) (hcap : 1 ≤ cap) (hd : 1 ≤ depth) (cxx : Bool) (prompt : List Byte)
    (keys : List Byte) :
    let v := (Vterm.init cap depth cxx prompt).run keys
    v.state = 2 → v.rl.state = .normal →
    (v.rl.curhist = depth → v.echoed UP = [] ∧ v.events UP = [] ∧ (v.run UP).rl.line = v.rl.line ∧
      (v.run UP).rl.curhist = depth ∧ (v.run UP).rl.hist = v.rl.hist ∧ (v.run UP).rl.headhist = v.rl.headhist) ∧
    (v.rl.curhist = 0 → v.echoed DOWN = [] ∧ v.events DOWN = [] ∧ (v.run DOWN).rl.line = v.rl.line ∧
      (v.run DOWN).rl.curhist = 0 ∧ (v.run DOWN).rl.hist = v.rl.hist ∧ (v.run DOWN).rl.headhist = v.rl.headhist) := by
  intro v h2 hn
  have hs := reach_sim cap depth hcap hd cxx prompt keys
  have hH := hs.sim.histOK
  rw [nrl_two _ h2] at hH
  constructor
  · intro hc
    obtain ⟨a, b, c⟩ := up_at_oldest v h2 hn hH.hasHist (by rw [hc, hH.hsize])
    rw [c]
    exact ⟨a, b, rfl, hc, rfl, rfl⟩
  · intro hc
    obtain ⟨a, b, c⟩ := down_at_newest v h2 hn hc
    rw [c]
    exact ⟨a, b, rfl, hc, rfl, rfl⟩

/-- non-vacuity: depth 1, one line, Up (oldest shown), Up again; and Down on a fresh line -/
example : ((Vterm.init 4 1 false).run [0x61, CR, ESC, 0x5b, 0x41]).rl.curhist = 1 ∧
    ((Vterm.init 4 1 false).run [0x61, CR, ESC, 0x5b, 0x41]).state = 2 ∧
    ((Vterm.init 4 1 false).run [0x61, CR, ESC, 0x5b, 0x41]).echoed UP = [] ∧
    ((Vterm.init 4 1 false).run [0x61, CR]).echoed DOWN = [] := by decide

/-- RECALL IN BOTH DIRECTIONS.  `n` accepted lines, `k` × Up, then `j` × Down with
`1 ≤ j < k ≤ min n depth`: the buffer holds the `(k − j)`-th most recent line,
cursor at its end, the terminal browses entry `k − j`. -/
theorem history_recall_down (cap depth : Nat) (hcap : 1 ≤ cap) (hd : 1 ≤ depth) (cxx : Bool)
    (prompt : List Byte) (ls : List (List Byte)) (k j : Nat)
    (hl : ∀ l ∈ ls, l ≠ [] ∧ l.length + 1 ≤ cap ∧ ∀ c ∈ l, plain c) (hdist : ConsecDistinct ls)
    (hk : k ≤ ls.length) (hkd : k ≤ depth) (hj1 : 1 ≤ j) (hj : j < k) :
    let v := (Vterm.init cap depth cxx prompt).run
      (ls.flatMap (· ++ [CR]) ++ (List.replicate k UP).flatten ++ (List.replicate j DOWN).flatten)
    v.rl.line.text = ls.reverse.getD (k - j - 1) [] ∧
    v.rl.line.cursor = (ls.reverse.getD (k - j - 1) []).length ∧
    v.rl.curhist = k - j := by
  obtain ⟨hz, hb⟩ := ref_recall cap depth hd ls k j hl hdist hk hkd hj
  obtain ⟨t1, t2, t3⟩ := recall_transfer (reach_sim cap depth hcap hd cxx prompt _) (by rw [hb]; omega) _ hz
  exact ⟨t1, t2, by rw [t3, hb]⟩

example :
    ((Vterm.init 4 3 false).run
      ([[0x61], [0x62, 0x63], [0x64]].flatMap (· ++ [CR]) ++ (List.replicate 3 UP).flatten ++
        (List.replicate 1 DOWN).flatten)).rl.line.text = [0x62, 0x63] := by decide

/-! ### an independent key grammar (Keys.lean) -/

/-- THE BYTE-LEVEL REFERENCE IS THE KEY-PRESS EDITOR.  `Ref` decodes bytes with a
four-state automaton shaped like the code's; `keyPresses` (Keys.lean) cuts the
same bytes into key presses by a two-level grammar without any decoder state
(Enter = CR | LF | CR LF | LF CR, Ctrl-C transparent for the pairing;
`ESC [ A/B/C/D`, `ESC [ 3 x`, unknown `ESC x` / `ESC [ x` ignored, Ctrl-C aborts
a sequence), and `Ed` is an editor over key presses (zipper, list of lines,
browse position — nothing else).  For EVERY byte sequence, capacity and depth
the two agree on the callback events and on line, cursor, history and browse
position. -/
theorem reference_is_key_editor (cap depth : Nat) (keys : List Byte) :
    (Ref.init depth).events cap keys = (Ed.init depth).events cap (keyPresses keys) ∧
    edOf ((Ref.init depth).run cap keys) = (Ed.init depth).run cap (keyPresses keys) := by
  obtain ⟨a, b⟩ := tok_run cap (Ref.init depth) keys (dec_init depth)
  exact ⟨b, a⟩

/-- THE LINES HANDED TO EXECUTE, AGAINST THE KEY GRAMMAR: the terminal's callback
events for any byte sequence are those of the key-press editor run on the key
presses the bytes consist of; and between events its line, cursor and browse
position are the key-press editor's. -/
theorem readline_line_keys (cap depth : Nat) (hcap : 1 ≤ cap) (hd : 1 ≤ depth) (cxx : Bool)
    (prompt : List Byte) (keys : List Byte) :
    let v := (Vterm.init cap depth cxx prompt).run keys
    let e := (Ed.init depth).run cap (keyPresses keys)
    (Vterm.init cap depth cxx prompt).events keys = (Ed.init depth).events cap (keyPresses keys) ∧
    v.nrl.line.text = e.z.line ∧ v.nrl.line.cursor = e.z.left.length ∧ v.nrl.curhist = e.browse := by
  intro v e
  obtain ⟨a, b⟩ := reference_is_key_editor cap depth keys
  obtain ⟨r1, r2, r3, _⟩ := vterm_refines_editor cap depth hcap hd cxx prompt keys
  have hb : e = edOf ((Ref.init depth).run cap keys) := b.symm
  refine ⟨by rw [readline_line cap depth hcap hd cxx prompt keys, a], ?_, ?_, ?_⟩
  · rw [hb]; exact r1
  · rw [hb]; exact r2
  · rw [hb]; exact r3

/-- what the grammar says about the corner cases: CR LF CR LF is two Enters; a
Ctrl-C between the halves of a CR LF does not make a second Enter; ESC followed
by Enter (sent as CR LF) is an unknown escape sequence and is ignored as a
whole; Delete acts at `ESC [ 3` and consumes the next byte; a Ctrl-C inside an
escape sequence aborts it; a broken sequence followed by a valid one -/
example : keyPresses [CR, LF, CR, LF] = [.enter, .enter] ∧
    keyPresses [CR, ETX, LF] = [.enter, .interrupt] ∧
    keyPresses [ESC, CR, LF, 0x61] = [.char 0x61] ∧
    keyPresses [ESC, 0x5b, 0x33, 0x7e, 0x61] = [.delete, .char 0x61] ∧
    keyPresses [ESC, ETX, 0x5b, 0x41] = [.interrupt, .char 0x5b, .char 0x41] ∧
    keyPresses [ESC, 0x5b, 0x5a, ESC, 0x5b, 0x44] = [.left] := by decide

/-! ### sline: every capacity, 0 included -/

/-- THE EDIT BUFFER IS SAFE FOR EVERY CAPACITY, 0 INCLUDED (after fix bd7ecca and
fix 609dfa2 of `sline_getline`): for every history of API calls `cursor ≤
len`, `len < cap` — or `len = 0` when there is no buffer at all —, and no access
left the buffer.  A line without a buffer stays the empty line whatever is called. -/
theorem sline_any_capacity (cap : Nat) (ops : List SOp) :
    let s := (Sline.init cap).runOps ops
    s.cursor ≤ s.len ∧ (s.len < cap ∨ (cap = 0 ∧ s.len = 0)) ∧ s.buf.length = cap ∧ s.fault = false ∧
    (cap = 0 → s = Sline.init 0) := by
  intro s
  by_cases h0 : cap = 0
  · subst h0
    have e : s = Sline.init 0 := runOps_cap0 ops
    rw [e]
    exact ⟨Nat.le_refl _, Or.inr ⟨rfl, rfl⟩, rfl, rfl, fun _ => rfl⟩
  · obtain ⟨a, b, _, d, e⟩ := sline_inv cap (by omega) ops
    exact ⟨a, Or.inl b, d, e, fun h => absurd h h0⟩

example : ((Sline.init 0).runOps [.putchar 0x61, .newdata [1, 2], .getline, .backspace 3]) = Sline.init 0 := by decide

/-! ### `sline_avail` / `sline_newdata` at the C widths (`unsigned int` fields, `int` results) -/

/- `sline_newdata` clamps to `sline_avail(sl) - 1` where `sline_avail` is `(int)(cap - len)`:
for a buffer of 2^31 bytes or more that `int` is negative and NOTHING is inserted although
there is room (for exactly 2^31 free bytes `avail - 1` overflows: undefined).  The wrapper
`igris::sline::newdata(data, size_t)` narrows its size to `int` in the same way.  `_partial` =
capacities and sizes below 2^31, where the C arithmetic is the unbounded arithmetic of
`newdataI` (so `sline_inv`, `sline_refines_zipper`, `newdata_int_length` speak about the code);
finding C15-newdata-2g. -/

/-- below 2^31 the C widths do not matter: in every reachable state `sline_newdata`
computed with 32-bit `unsigned` / `int` intermediates is the unbounded `newdataI`, and
`igris::sline::newdata(data, sz)` is `newdataI` with `sz` -/
theorem newdata_widths_partial (cap : Nat) (hcap : 1 ≤ cap) (hc : cap < 2147483648) (ops : List SOp) (d : List Byte) :
    (∀ n : Int, ((Sline.init cap).runOps ops).newdataC d n = ((Sline.init cap).runOps ops).newdataI d n) ∧
    (∀ sz : Nat, sz < 2147483648 →
      ((Sline.init cap).runOps ops).newdataSz d sz = ((Sline.init cap).runOps ops).newdataI d (sz : Int)) := by
  obtain ⟨_, h2, h3, _, _⟩ := sline_inv cap hcap ops
  have hl : ((Sline.init cap).runOps ops).len ≤ ((Sline.init cap).runOps ops).cap := by rw [h3]; omega
  have hc' : ((Sline.init cap).runOps ops).cap < 2147483648 := by rw [h3]; exact hc
  refine ⟨fun n => newdataC_eq _ hl hc' d n, fun sz hsz => ?_⟩
  unfold Sline.newdataSz
  rw [newdataC_eq _ hl hc' d]
  rw [toInt32_small sz hsz]

example : ((Sline.init 4).newdataC [0x61, 0x62, 0x63, 0x64] 4).1.text = [0x61, 0x62, 0x63] := by decide

/-- at 2^31 and beyond they do: a buffer of 2^31 + 1 bytes (the first 4 materialised), empty line,
2 bytes offered: nothing is inserted; with exactly 2^31 free bytes `avail - 1` overflows; a size of
2^31 passed to the C++ wrapper is a negative `int` -/
theorem newdata_widths_witness :
    ((⟨[0, 0, 0, 0], 2147483649, 0, 0, false⟩ : Sline).newdataC [0x61, 0x62] 2).2 = 0 ∧
    ((⟨[0, 0, 0, 0], 2147483649, 0, 0, false⟩ : Sline).newdataI [0x61, 0x62] 2).2 = 2 ∧
    ((⟨[0, 0, 0, 0], 2147483648, 0, 0, false⟩ : Sline).newdataC [0x61, 0x62] 2).1.fault = true ∧
    ((Sline.init 4).newdataSz [0x61, 0x62] 2147483648).2 = 0 := by decide

/-! ### the `int16_t` parameter of `vterm_automate_newdata` -/

/- The property speaks of "every byte sequence typed".  igris' own callers hold
the byte in a (signed) `char` and pass it to the `int16_t` parameter; the
parameter's negative range used to be "no character" as a whole, so every byte
≥ 0x80 (all of UTF-8) was dropped on that path.  After `fix: only
VTERM_INIT_STEP is the init step` every byte except 0xFF arrives
(`char_parameter_partial`); 0xFF sign-extends to -1 = VTERM_INIT_STEP and cannot
be told from it (`char_parameter_witness`, finding C15-char-ff). -/

/-- a byte held in a `char` and passed to the `int16_t` parameter is the key press
of that byte — for every byte but 0xFF, in every state of the terminal -/
theorem char_parameter_partial (v : Vterm) (b : Byte) (hb : b ≠ 0xFF) : v.keyI (sextChar b) = v.key b := by
  unfold Vterm.keyI
  rw [if_neg (sextChar_ne b hb), sextChar_trunc]

example : sextChar 0xC3 = -61 ∧ (Vterm.init 4 1 false).keyI (-61) = (Vterm.init 4 1 false).key 0xC3 := by decide

/-- 0xFF through a `char` is the init step: no character is typed -/
theorem char_parameter_witness :
    sextChar 0xFF = -1 ∧
    (Vterm.init 4 1 false).actEvents [.keyI (sextChar 0xFF), .key CR] = [.exec []] ∧
    (Ref.init 1).events 4 [0xFF, CR] = [.exec [0xFF]] := by decide

/-- the parameter as a whole: `-1` is the init step, every other `int16_t` types
its low 8 bits (`(char)input_c`) -/
theorem int16_parameter (v : Vterm) (i : Int) :
    (i = -1 → v.keyI i = (v.initStep.1, v.initStep.2, [])) ∧ (i ≠ -1 → v.keyI i = v.key (BitVec.ofInt 8 i)) := by
  unfold Vterm.keyI
  exact ⟨fun h => by rw [if_pos h], fun h => by rw [if_neg h]⟩

/-! ### one object, settings changed between the keys -/

/-- A SESSION WITH EVERYTHING A CALLER CAN DO BETWEEN KEYS.  Keys given as bytes
or as any `int16_t`, init steps at any time, `set_prompt` with ANY bytes
(unprintable included) and `set_echo` at any time, in any order: the callback
events are the reference editor's on the bytes that were typed, no access leaves
the line or the history, the bounds hold, and line / cursor / browse position are
the reference's.  (What the prompt and the echo flag change is the written
bytes only.) -/
theorem session_with_settings (cap depth : Nat) (hcap : 1 ≤ cap) (hd : 1 ≤ depth) (cxx : Bool) (prompt : List Byte)
    (as : List Act) :
    let v0 := Vterm.init cap depth cxx prompt
    let v := v0.runActs as
    let r := (Ref.init depth).run cap (Act.typed as)
    v0.actEvents as = (Ref.init depth).events cap (Act.typed as) ∧
    (v.rl.faulted = false ∧ v.rl.line.cursor ≤ v.rl.line.len ∧ v.rl.line.len < cap ∧ v.rl.headhist < depth ∧
      v.rl.curhist ≤ depth) ∧
    (v.nrl.line.text = r.z.line ∧ v.nrl.line.cursor = r.z.left.length ∧ v.nrl.curhist = r.browse) := by
  intro v0 v r
  obtain ⟨h1, h2⟩ := acts_sim cap depth hd v0 (Ref.init depth) as (init_sim cap depth hcap hd cxx prompt)
  have s := safe_of_sim cap depth _ _ h1
  have e := editor_of_sim cap depth _ _ h1
  exact ⟨h2, ⟨s.1, s.2.1, s.2.2.1, s.2.2.2.2.2.1, s.2.2.2.2.2.2⟩, ⟨e.1, e.2.1, e.2.2.1⟩⟩

/-- non-vacuity: an unprintable prompt set mid-line, echo switched off and on, a
byte through the `char` path, an init step in the middle -/
example : (Vterm.init 6 1 true).actEvents [.key 0x61, .setPrompt [0x07, 0x00 + 0x1b], .setEcho false, .keyI (-61), .initStep,
      .setEcho true, .key CR, .keyI 0x162, .key LF] = [.exec [0x61, 0xC3], .exec [0x62]] ∧
    Act.typed [.key 0x61, .setPrompt [0x07, 0x1b], .setEcho false, .keyI (-61), .initStep, .setEcho true, .key CR,
      .keyI 0x162, .key LF] = [0x61, 0xC3, CR, 0x62, LF] := by decide

/-- `set_prompt` with an unprintable byte: the line is still the reference's
(`session_with_settings`), the screen clause is not — the prompt is written as
it is, BEL does not occupy a cell (the limit `AllP prompt` of
`screen_matches_partial` is needed) -/
theorem unprintable_prompt_witness :
    Screen.blank.feed ((Vterm.init 4 1 false [0x07, 0x24]).echoed [0x61]) ≠
      ⟨[0x07, 0x24] ++ ((Vterm.init 4 1 false [0x07, 0x24]).run [0x61]).rl.line.text,
       2 + ((Vterm.init 4 1 false [0x07, 0x24]).run [0x61]).rl.line.cursor, .ground⟩ := by decide

/-! ### a terminal with W columns -/

/-- A W-COLUMN TERMINAL WITH AUTO-WRAP SHOWS WHAT THE ONE-ROW MODEL SHOWS, for
EVERY byte stream, as long as the cursor of the one-row model stays left of the
last column while the stream is fed (`hw` = the highest column reached): same
row, same cursor column, same parser state, nothing pending; the only
difference is that the rows left behind by LF are remembered. -/
theorem wide_terminal_is_one_row (W : Nat) (s : Screen) (bs : List Byte) (h : s.hw bs + 1 < W) :
    ∃ above, WScreen.feed W (WScreen.ofScreen [] s) bs = WScreen.ofScreen above (s.feed bs) :=
  wfeed_eq W [] s bs h

example : Screen.blank.hw ((Vterm.init 6 2 false).echoed [0x61, 0x62, 0x63, ESC, 0x5b, 0x44, 0x78]) = 6 := by decide

/- "…drives a VT100 screen model to show the same line and cursor" on a REAL
terminal, i.e. one with W columns and auto-wrap.  The echo strategy (re-print the
right part, `ESC[nD` back) cannot cross a row boundary: `ESC[nD` does not move up
a row.  `_partial` = the terminal is wide enough for prompt + longest line + `^C`
(`|prompt| + cap + 3 ≤ W`); for a narrower terminal the statement is false
(`narrow_screen_witness`, finding C15-narrow-screen). -/

/-- THE SCREEN CLAUSE ON A W-COLUMN TERMINAL WITH AUTO-WRAP (the reference
emulator `WScreen`), `W ≥ |prompt| + cap + 3`: after every key sequence (keys and
prompt as in `screen_matches_partial`) the current row is exactly prompt ++ line,
the cursor column is |prompt| + cursor, no wrap is pending and the escape parser
is in its ground state (state 2); blank row, column 0 while vtermxx owes the prompt. -/
theorem screen_matches_wide_partial (cap depth : Nat) (hcap : 1 ≤ cap) (hd : 1 ≤ depth) (cxx : Bool)
    (prompt : List Byte) (keys : List Byte) (hP : AllP prompt) (hk : ∀ k ∈ keys, screenKey k = true)
    (W : Nat) (hW : prompt.length + cap + 3 ≤ W) :
    let v0 := Vterm.init cap depth cxx prompt
    let v := v0.run keys
    let w := WScreen.feed W WScreen.blank (v0.echoed keys)
    (v.state = 2 → w.cells = prompt ++ v.rl.line.text ∧ w.col = prompt.length + v.rl.line.cursor ∧
      w.pending = false ∧ w.ps = .ground) ∧
    (v.state ≠ 2 → w.cells = [] ∧ w.col = 0 ∧ w.pending = false ∧ w.ps = .ground) := by
  intro v0 v w
  have h0 := init_sim cap depth hcap hd cxx prompt
  have hhw := (screen_run cap depth hd v0 (Ref.init depth) Screen.blank keys h0 (refP_init depth) rfl hP hk
    (sinv_init cap depth cxx prompt)).2.2
  have hpr : v0.prompt = prompt := rfl
  rw [hpr] at hhw
  obtain ⟨ab, e⟩ := wfeed_eq W [] Screen.blank (v0.echoed keys) (by omega)
  have hw : w = WScreen.ofScreen ab (Screen.blank.feed (v0.echoed keys)) := e
  obtain ⟨m1, m2⟩ := screen_matches_partial cap depth hcap hd cxx prompt keys hP hk
  constructor
  · intro h2
    rw [hw, m1 h2]
    exact ⟨rfl, rfl, rfl, rfl⟩
  · intro h2
    rw [hw, m2 h2]
    exact ⟨rfl, rfl, rfl, rfl⟩

/-- non-vacuity: prompt "$ ", an 8-byte line, 13 columns; "abcdefg" fills the line, Left, Left, "x" is refused -/
example : (WScreen.feed 13 WScreen.blank ((Vterm.init 8 1 false).echoed
      [0x61, 0x62, 0x63, 0x64, 0x65, 0x66, 0x67, ESC, 0x5b, 0x44, ESC, 0x5b, 0x44, 0x78])).cells =
      [0x24, 0x20, 0x61, 0x62, 0x63, 0x64, 0x65, 0x66, 0x67] ∧
    (WScreen.feed 13 WScreen.blank ((Vterm.init 8 1 false).echoed
      [0x61, 0x62, 0x63, 0x64, 0x65, 0x66, 0x67, ESC, 0x5b, 0x44, ESC, 0x5b, 0x44, 0x78])).col = 7 := by decide

/-- ON A NARROWER TERMINAL THE CLAUSE IS FALSE.  6 columns, prompt "$ ", an 8-byte
line: "abcde" (the `e` wraps to the second row), Left, Left (`ESC[D` stops at
column 0 of the second row instead of going back to the `d`), "x": the editor's
line is "abcxde", a correct display would be the rows "$ abcx" / "de", the
terminal shows "$ abcd" / "xde". -/
theorem narrow_screen_witness :
    let keys : List Byte := [0x61, 0x62, 0x63, 0x64, 0x65, ESC, 0x5b, 0x44, ESC, 0x5b, 0x44, 0x78]
    let w := WScreen.feed 6 WScreen.blank ((Vterm.init 8 1 false).echoed keys)
    ((Vterm.init 8 1 false).run keys).rl.line.text = [0x61, 0x62, 0x63, 0x78, 0x64, 0x65] ∧
    w.above.reverse ++ [w.cells] = [[0x24, 0x20, 0x61, 0x62, 0x63, 0x64], [0x78, 0x64, 0x65]] ∧
    WScreen.chunks 6 8 ([0x24, 0x20] ++ ((Vterm.init 8 1 false).run keys).rl.line.text) =
      [[0x24, 0x20, 0x61, 0x62, 0x63, 0x78], [0x64, 0x65]] := by decide

/-! ### the twins refine ONE reference editor -/

/-- vterm.c and igris::vtermxx, driven by the same actions (keys as bytes or `int16_t`, init steps,
`set_prompt`, `set_echo` in any order): the same callback events, the same line, cursor and browse
position before the next call — because both refine the same reference editor
(`session_with_settings`).  (The written bytes may differ when the prompt is changed while vtermxx
still owes it: vterm.c has printed the old one already.) -/
theorem twins_refine_one_editor (cap depth : Nat) (hcap : 1 ≤ cap) (hd : 1 ≤ depth) (prompt : List Byte) (as : List Act) :
    let c := Vterm.init cap depth false prompt
    let x := Vterm.init cap depth true prompt
    c.actEvents as = x.actEvents as ∧ (c.runActs as).nrl.line.text = (x.runActs as).nrl.line.text ∧
    (c.runActs as).nrl.line.cursor = (x.runActs as).nrl.line.cursor ∧
    (c.runActs as).nrl.curhist = (x.runActs as).nrl.curhist := by
  intro c x
  obtain ⟨a1, _, a2, a3, a4⟩ := session_with_settings cap depth hcap hd false prompt as
  obtain ⟨b1, _, b2, b3, b4⟩ := session_with_settings cap depth hcap hd true prompt as
  exact ⟨a1.trans b1.symm, a2.trans b2.symm, a3.trans b3.symm, a4.trans b4.symm⟩

/-- the written bytes CAN differ: Enter, then `set_prompt`, then a key -/
example : (Vterm.init 4 1 false).actEchoed [.key CR, .setPrompt [0x3e], .key 0x61] ≠
    (Vterm.init 4 1 true).actEchoed [.key CR, .setPrompt [0x3e], .key 0x61] := by decide

/-- more corner cases of the key grammar (Keys.lean), as the code decodes them: Home / End sent as
`ESC [ 1 ~` / `ESC [ 4 ~`, application-mode arrows `ESC O A`, modified arrows `ESC [ 1 ; 5 C` are
unknown escapes whose tail is typed as text; two ESC in a row swallow each other; an escape
sequence split anywhere is the same keys (the grammar sees the concatenation) -/
example : keyPresses [ESC, 0x5b, 0x31, 0x7e] = [.char 0x7e] ∧
    keyPresses [ESC, 0x4f, 0x41] = [.char 0x41] ∧
    keyPresses [ESC, 0x5b, 0x31, 0x3b, 0x35, 0x43] = [.char 0x3b, .char 0x35, .char 0x43] ∧
    keyPresses [ESC, ESC, 0x5b, 0x41] = [.char 0x5b, .char 0x41] ∧
    keyPresses ([ESC] ++ [0x5b] ++ [0x41]) = [.up] ∧
    keyPresses [ESC, 0x5b] = [] := by decide

/-! ### every count of the C type (`unsigned int` / the `int` of the C++ wrappers) -/

/- `sline_backspace(sl, unsigned int count)` / `sline_delete(sl, unsigned int count)` and
`igris::sline::backspace(int)` / `del(int)` (the `int` converts to the `unsigned int` parameter:
`del(-1)` = `sline_delete(sl, UINT_MAX)`, "delete everything right of the cursor").  The model
functions `backspaceC` / `deleteC` compute every intermediate value as a `BitVec 32` in the order
the code does. -/

/-- NO OVERFLOW IN THE CODE'S ARITHMETIC: in every reachable state of a line (any buffer an
`unsigned int` capacity can describe) and for EVERY count of the C type, the 32-bit computation of
`sline_backspace` / `sline_delete` — the clamp `count > cursor` / `count > len - cursor`, `len -=
count`, `cursor -= count`, the `memmove` length — is the unbounded computation of `Sline.backspace`
/ `Sline.delete`, to which `sline_inv`, `sline_refines_zipper`, `sline_returns` apply; the value
returned is `(int)` of the number of characters removed. -/
theorem count_parameters_width (cap : Nat) (hcap : 1 ≤ cap) (hc : cap ≤ 4294967296) (ops : List SOp) (count : BitVec 32) :
    let s := (Sline.init cap).runOps ops
    (s.backspaceC count).1 = (s.backspace count.toNat).1 ∧ (s.backspaceC count).2 = toInt32 (s.backspace count.toNat).2 ∧
    (s.deleteC count).1 = (s.delete count.toNat).1 ∧ (s.deleteC count).2 = toInt32 (s.delete count.toNat).2 := by
  intro s
  obtain ⟨h, hcp, _, _⟩ := reach_ok cap hcap ops
  have hcp' : s.cap ≤ 4294967296 := by rw [hcp]; exact hc
  obtain ⟨a, b⟩ := backspaceC_eq s h hcp' count
  obtain ⟨c, d⟩ := deleteC_eq s h hcp' count
  exact ⟨a, b, c, d⟩

/-- `sline_delete` / `igris::sline::del` REMOVE EXACTLY min(count, what is right of the cursor)
CHARACTERS, for every `unsigned int` count, in every reachable state: with `z` the reference
zipper after the same history, the line becomes `z.left ++ z.right.drop k`, `k = min count
|z.right|`, the cursor stays, `0 ≤ cursor ≤ len < cap` holds, no access left the buffer, and `k`
is returned (as an `int`: itself below 2^31). -/
theorem delete_every_count (cap : Nat) (hcap : 1 ≤ cap) (hc : cap ≤ 4294967296) (ops : List SOp) (count : BitVec 32) :
    let z := Zip.empty.runOps cap ops
    let k := min count.toNat z.right.length
    let r := ((Sline.init cap).runOps ops).deleteC count
    r.1.text = z.left ++ z.right.drop k ∧ r.1.cursor = z.left.length ∧ r.1.len + k = z.left.length + z.right.length ∧
    r.1.cursor ≤ r.1.len ∧ r.1.len < cap ∧ r.1.buf.length = cap ∧ r.1.fault = false ∧
    r.2 = toInt32 k ∧ (cap ≤ 2147483648 → r.2 = (k : Int)) := by
  intro z k r
  obtain ⟨h, hcp', hz', hfit⟩ := reach_ok cap hcap ops
  obtain ⟨e1, e2⟩ := deleteC_eq _ h (by rw [hcp']; exact hc) count
  obtain ⟨f1, f2, f3, f4, f5, f6, f7, f8⟩ := apply_facts _ h (.delete count.toNat)
  have hfit' : z.left.length + z.right.length + 1 ≤ cap := hfit
  rw [hz', hcp'] at f1 f2 f3 f8
  rw [hcp'] at f5 f6
  have hk : k ≤ z.right.length := Nat.min_le_right _ _
  have hlen : r.1.len = z.left.length + (z.right.length - k) := by
    rw [e1]; exact f3.trans (by simp [Zip.apply, Zip.delete, Zip.len]; rfl)
  have h5 : r.1.len < cap := by rw [e1]; exact f5
  refine ⟨by rw [e1]; exact f1, by rw [e1]; exact f2, by omega, by rw [e1]; exact f4, h5, by rw [e1]; exact f6,
    by rw [e1]; exact f7, by rw [e2]; exact congrArg toInt32 f8, fun h31 => ?_⟩
  rw [e2]
  exact (congrArg toInt32 f8).trans (toInt32_small k (by omega))

/-- the idiom that tells the two clamps of `delete_clamp_wrapped_witness` apart:
`igris::sline::del(-1)` / `sline_delete(sl, UINT_MAX)` with the cursor ANYWHERE deletes everything
right of the cursor and nothing else -/
theorem delete_to_end_of_line (cap : Nat) (hcap : 1 ≤ cap) (hc : cap ≤ 4294967296) (ops : List SOp) :
    let z := Zip.empty.runOps cap ops
    let r := ((Sline.init cap).runOps ops).deleteI (-1)
    r.1.text = z.left ∧ r.1.cursor = z.left.length ∧ r.1.len = z.left.length ∧ r.1.fault = false := by
  obtain ⟨a, b, c, _, _, _, g, _, _⟩ := delete_every_count cap hcap hc ops (BitVec.ofInt 32 (-1))
  obtain ⟨_, _, _, hfit⟩ := reach_ok cap hcap ops
  have hk : min (BitVec.ofInt 32 (-1)).toNat (Zip.empty.runOps cap ops).right.length = (Zip.empty.runOps cap ops).right.length := by
    have : (BitVec.ofInt 32 (-1)).toNat = 4294967295 := by decide
    simp only [Zip.len] at hfit
    omega
  simp only [hk] at a c
  refine ⟨?_, b, ?_, g⟩
  · show (((Sline.init cap).runOps ops).deleteC (BitVec.ofInt 32 (-1))).1.text = _
    rw [a, List.drop_length, List.append_nil]
  · show (((Sline.init cap).runOps ops).deleteC (BitVec.ofInt 32 (-1))).1.len = _
    omega

/-- non-vacuity: "abc", cursor after `a`, `del(-1)`: the line is `a` -/
example : (((Sline.init 8).runOps [.newdata [0x61, 0x62, 0x63], .left, .left]).deleteI (-1)).1.text = [0x61] ∧
    (((Sline.init 8).runOps [.newdata [0x61, 0x62, 0x63], .left, .left]).deleteI (-1)).2 = 2 := by decide

/-- `sline_backspace` / `igris::sline::backspace` REMOVE EXACTLY min(count, cursor) CHARACTERS left
of the cursor, for every `unsigned int` count, in every reachable state; bounds and safety kept. -/
theorem backspace_every_count (cap : Nat) (hcap : 1 ≤ cap) (hc : cap ≤ 4294967296) (ops : List SOp) (count : BitVec 32) :
    let z := Zip.empty.runOps cap ops
    let k := min count.toNat z.left.length
    let r := ((Sline.init cap).runOps ops).backspaceC count
    r.1.text = z.left.take (z.left.length - k) ++ z.right ∧ r.1.cursor = z.left.length - k ∧
    r.1.cursor ≤ r.1.len ∧ r.1.len < cap ∧ r.1.buf.length = cap ∧ r.1.fault = false ∧ r.2 = toInt32 k := by
  intro z k r
  obtain ⟨h, hcp', hz, _⟩ := reach_ok cap hcap ops
  have hz' : ((Sline.init cap).runOps ops).toZip = z := hz
  obtain ⟨e1, e2⟩ := backspaceC_eq _ h (by rw [hcp']; exact hc) count
  obtain ⟨f1, f2, _, f4, f5, f6, f7, f8⟩ := apply_facts _ h (.backspace count.toNat)
  rw [hz', hcp'] at f1 f2 f8
  rw [hcp'] at f5 f6
  have hk : k ≤ z.left.length := Nat.min_le_right _ _
  exact ⟨by rw [e1]; exact f1, by rw [e1]; exact f2.trans (by simp [Zip.apply, Zip.backspace]; omega), by rw [e1]; exact f4,
    by rw [e1]; exact f5, by rw [e1]; exact f6, by rw [e1]; exact f7, by rw [e2]; exact congrArg toInt32 f8⟩

example : (((Sline.init 8).runOps [.newdata [0x61, 0x62, 0x63], .left]).backspaceI (-1)).1.text = [0x63] ∧
    (((Sline.init 8).runOps [.newdata [0x61, 0x62, 0x63], .left]).backspaceC 0x80000000#32).2 = 2 := by decide

/-- THE CLAMP WRITTEN WITH A SUM BREAKS IT (seeded change C15-sline-delete-clamp-wrap): `ab`, cursor
after `a`, `sline_delete(sl, UINT_MAX)`: `cursor + count` wraps to 0, the clamp is skipped, `len`
GROWS to 3 and the `memmove` source is 4 GiB behind the buffer — while the code's clamp removes the
one character that is there.  (`deleteWrapped_eq_of_no_wrap`: for `cursor + count < 2^32` the two
forms are the same function, which is why only counts from the top of the range tell them apart.) -/
theorem delete_clamp_wrapped_witness :
    let s := (Sline.init 4).runOps [.putchar 0x61, .putchar 0x62, .left]
    (s.deleteWrapped 0xFFFFFFFF#32).1.len = 3 ∧ (s.deleteWrapped 0xFFFFFFFF#32).1.fault = true ∧
    (s.deleteC 0xFFFFFFFF#32).1.len = 1 ∧ (s.deleteC 0xFFFFFFFF#32).1.text = [0x61] ∧
    (s.deleteC 0xFFFFFFFF#32).1.fault = false ∧ (s.deleteC 0xFFFFFFFF#32).2 = 1 ∧
    (s.deleteWrapped 0xFFFFFFFF#32).2 = -1 ∧
    -- `UINT_MAX - cursor` is the last count the wrapped form still clamps
    (s.deleteWrapped 0xFFFFFFFE#32).1.len = 1 ∧ (s.deleteWrapped 0xFFFFFFFE#32).2 = 1 := by decide

/-- `set_size_and_cursor(size_t, size_t)` stores into `unsigned int` fields: inside its contract
(`cursor ≤ sz < cap`, `cap` an `unsigned int`) nothing is truncated -/
theorem set_size_width (s : Sline) (sz cursor : Nat) (h1 : cursor ≤ sz) (h2 : sz < s.cap) (hc : s.cap ≤ 4294967296) :
    s.setSizeCursorC sz cursor = s.setSizeCursor sz cursor := by
  unfold Sline.setSizeCursorC Sline.setSizeCursor
  rw [Nat.mod_eq_of_lt (by omega), Nat.mod_eq_of_lt (by omega)]

/-- outside it is: `set_size_and_cursor(2^32 + 1, 0)` gives length 1 -/
example : ((Sline.init 4).setSizeCursorC 4294967297 0).len = 1 := by decide

/-! ### the history ring's offsets at their C width -/

/-- `idx * rl->line.cap` and `rl->headhist * rl->line.cap` are `unsigned int` products.  After ANY key
sequence, for a ring that fits an `unsigned int` (`depth * cap ≤ 2^32`) and a depth the `int hsize` of
`readline_history_init` can hold, the offset the code adds to `history_space` — for every slot `num ≤
depth` a recall can ask for, and for the slot a push writes — is the unbounded offset of the model
(`histOff`, `headhist * cap`), to which `vterm_safe`, `history_is_reference`, `history_recall` apply.
`_partial`: the hypothesis `depth * cap ≤ 2^32` (`cap` itself is an `unsigned int`). -/
theorem ring_offsets_width_partial (cap depth : Nat) (hcap : 1 ≤ cap) (hd : 1 ≤ depth) (cxx : Bool) (prompt : List Byte)
    (keys : List Byte) (hc : cap < 4294967296) (hdi : depth ≤ 2147483647) (hfit : depth * cap ≤ 4294967296)
    (num : Nat) (hn : num ≤ depth) :
    let rl := ((Vterm.init cap depth cxx prompt).run keys).nrl
    rl.histOffC num = rl.histOff num ∧ rl.pushOffC = rl.headhist * rl.line.cap := by
  intro rl
  have hs := reach_sim cap depth hcap hd cxx prompt keys
  have h1 : rl.hsize = depth := hs.sim.histOK.hsize
  have h2 : rl.headhist < depth := hs.sim.histOK.head
  have h3 : rl.line.cap = cap := hs.sim.lcap
  obtain ⟨a, b, _⟩ := histOffC_eq rl num (by omega) (by omega) (by omega) (by omega) (by omega) (by rw [h1, h3]; exact hfit)
  exact ⟨a, b⟩

example : ((Vterm.init 4 2 false).run [0x61, CR, 0x62, CR]).nrl.histOffC 1 = 4 ∧
    ((Vterm.init 4 2 false).run [0x61, CR, 0x62, CR]).nrl.pushOffC = 0 := by decide

/-- beyond it the product wraps: 65537 slots of 65536 bytes (4 GiB + 64 KiB), write index on the last
slot: the push lands on slot 0 (offset 2^32 wraps to 0), a recall of that slot reads slot 0 — the
offsets are wrong although every byte of the ring exists. -/
theorem ring_offsets_width_witness :
    let rl : Readline := { Readline.init 0 0 with line := { Sline.init 0 with cap := 65536 }, hsize := 65537, headhist := 65536 }
    rl.pushOffC = 0 ∧ rl.headhist * rl.line.cap = 4294967296 ∧
    rl.histOffC 0 = 0 ∧ rl.histOff 0 = 4294967296 ∧ rl.clearedC = 65536 := by decide

end Igris.C15
