/-
  C15 — `readline_putchar` against the reference decoder `Ref.rlKey` (simulation `RSim`): both decode
  a byte into a key press in the same way, and the return code says how the line changed (`EchoRel`).
-/
import IgrisModel.C15.History
import IgrisModel.C15.Decoder
namespace Igris.C15
open Igris.Proto

structure RSim (cap depth : Nat) (rl : Readline) (r : Ref) : Prop where
  lineOK : SlineOK rl.line
  lcap : rl.line.cap = cap
  histOK : HistOK cap depth rl r.hist
  last : rl.last = r.prev
  cur : rl.curhist = r.browse
  browse : r.browse ≤ depth
  st : rl.state = r.esc
  zip : rl.line.toZip = r.z

/-- how the line changed, by return code: what the terminal has to redraw -/
def EchoRel (c : Byte) (ret : Int) (lastsize : Nat) (z z' : Zip) : Prop :=
  (ret = RL_ECHOCHAR ∧ z' = ⟨z.left ++ [c], z.right⟩) ∨
  (ret = RL_BACKSPACE ∧ z.left ≠ [] ∧ z' = ⟨z.left.take (z.left.length - 1), z.right⟩) ∨
  (ret = RL_DELETE ∧ z.right ≠ [] ∧ z' = ⟨z.left, z.right.drop 1⟩) ∨
  (ret = RL_LEFT ∧ z.left ≠ [] ∧ z' = z.moveLeft.1) ∨
  (ret = RL_RIGHT ∧ z.right ≠ [] ∧ z' = z.moveRight.1) ∨
  (ret = RL_UPDATELINE ∧ z'.right = [] ∧ lastsize = z.left.length) ∨
  ((ret = RL_NOTHING ∨ ret = RL_OVERFLOW ∨ ret = RL_NEWLINE) ∧ z' = z)

theorem EchoRel.newline {c : Byte} {ls : Nat} {z z' : Zip} (h : EchoRel c RL_NEWLINE ls z z') : z' = z := by
  rcases h with ⟨e, _⟩ | ⟨e, _⟩ | ⟨e, _⟩ | ⟨e, _⟩ | ⟨e, _⟩ | ⟨e, _⟩ | ⟨_, e⟩
  all_goals first | exact e | exact absurd e (by decide)

theorem EchoRel.echochar {c : Byte} {ls : Nat} {z z' : Zip} (h : EchoRel c RL_ECHOCHAR ls z z') :
    z' = ⟨z.left ++ [c], z.right⟩ := by
  rcases h with ⟨_, e⟩ | ⟨e, _⟩ | ⟨e, _⟩ | ⟨e, _⟩ | ⟨e, _⟩ | ⟨e, _⟩ | ⟨e, _⟩
  · exact e
  all_goals first | exact absurd e (by decide) | (rcases e with e | e | e <;> exact absurd e (by decide))

/-- the step of the simulation; `p` is what `readline_putchar` leaves and returns on the byte `c` -/
def RStep (cap depth : Nat) (c : Byte) (r : Ref) (p : Readline × Int) : Prop :=
  RSim cap depth p.1 (r.rlKey cap c).1 ∧
  EchoRel c p.2 p.1.lastsize r.z (r.rlKey cap c).1.z ∧
  (p.2 = RL_NEWLINE → (r.rlKey cap c).2 = some r.z.line) ∧
  (p.2 ≠ RL_NEWLINE → (r.rlKey cap c).2 = none)

theorem zip_eta (z : Zip) : (⟨z.left, z.right⟩ : Zip) = z := by cases z; rfl

/-! ### one key press, then one byte, against the reference -/

theorem echo_nothing (c : Byte) (ls : Nat) (z : Zip) : EchoRel c RL_NOTHING ls z z :=
  Or.inr (Or.inr (Or.inr (Or.inr (Or.inr (Or.inr ⟨Or.inl rfl, rfl⟩)))))

theorem RSim.set {cap depth : Nat} {rl : Readline} {r : Ref} (h : RSim cap depth rl r) (st : RState) (p : Byte) :
    RSim cap depth { rl with state := st, last := p } { r with esc := st, prev := p } :=
  ⟨h.lineOK, h.lcap, histOK_of_eq rl _ rfl rfl rfl rfl rfl h.histOK, rfl, h.cur, h.browse, rfl, h.zip⟩

theorem line_sim {cap depth : Nat} {rl : Readline} {r : Ref} (h : RSim cap depth rl r) (o : SOp) :
    RSim cap depth { rl with line := (rl.line.apply o).1 } { r with z := (r.z.apply cap o).1 } ∧
    (rl.line.apply o).2 = (r.z.apply cap o).2 := by
  obtain ⟨o1, o2, o3, o4⟩ := apply_ok rl.line h.lineOK o
  rw [h.zip, h.lcap] at o3 o4
  exact ⟨⟨o1, by simp only; rw [o2, h.lcap], histOK_of_eq rl _ rfl rfl rfl rfl rfl h.histOK, h.last, h.cur, h.browse,
    h.st, o3⟩, o4⟩

/-- `readline_load_history_line` with `curhist = b`; `b'` is `b` in the form the caller has it -/
theorem browse_sim {cap depth : Nat} {rl : Readline} {r : Ref} (h : RSim cap depth rl r) (b b' : Nat) (hb : b ≤ depth)
    (hb' : b = b') :
    RSim cap depth ({ rl with curhist := b } : Readline).loadHistoryLine
      { r with z := if b = 0 then Zip.empty else ⟨r.hist.getD (b - 1) [], []⟩, browse := b' } ∧
    ({ rl with curhist := b } : Readline).loadHistoryLine.lastsize = r.z.left.length := by
  have hH := histOK_of_eq rl { rl with curhist := b } rfl rfl rfl rfl rfl h.histOK
  obtain ⟨L, e, l1, l2, l3⟩ := load_ok cap depth { rl with curhist := b } r.hist h.lineOK h.lcap hH hb
  rw [e]
  subst hb'
  exact ⟨⟨l1, l2, histOK_of_eq rl _ rfl rfl rfl rfl rfl h.histOK, h.last, rfl, hb, h.st, l3⟩,
    by rw [← h.zip, toZip_left_length _ h.lineOK]⟩

theorem press_accepts_sim (cap : Nat) (rl : Readline) (r : Ref) (k : Key) :
    ((rl.press k).2 = RL_NEWLINE → (r.press cap k).2 = some r.z.line) ∧
    ((rl.press k).2 ≠ RL_NEWLINE → (r.press cap k).2 = none) := by
  rw [Ref.press_accepts]
  exact ⟨fun e => if_pos (Readline.press_newline rl k e), fun e => if_neg (fun hk => e (by subst hk; rfl))⟩

theorem press_sim (cap depth : Nat) (hd : 1 ≤ depth) (rl : Readline) (r : Ref) (c : Byte) (k : Key)
    (hk : ∀ c', k = .char c' → c' = c) (h : RSim cap depth rl r) :
    RSim cap depth (rl.press k).1 (r.press cap k).1 ∧
    EchoRel c (rl.press k).2 (rl.press k).1.lastsize r.z (r.press cap k).1.z := by
  have hls : rl.line.cursor = r.z.left.length := by rw [← h.zip, toZip_left_length _ h.lineOK]
  cases k with
  | char c' =>
    obtain rfl := hk c' rfl
    obtain ⟨s1, s2⟩ := line_sim h (.putchar c')
    refine ⟨s1, ?_⟩
    show EchoRel c' (if (rl.line.putchar c').2 ≠ 0 then RL_ECHOCHAR else RL_OVERFLOW) rl.lastsize r.z (r.z.putchar cap c').1
    rw [show (rl.line.putchar c').2 = (r.z.putchar cap c').2 from s2]
    unfold Zip.putchar
    split
    · exact Or.inl ⟨rfl, rfl⟩
    · exact Or.inr (Or.inr (Or.inr (Or.inr (Or.inr (Or.inr ⟨Or.inr (Or.inl rfl), rfl⟩)))))
  | backspace =>
    obtain ⟨s1, s2⟩ := line_sim h (.backspace 1)
    refine ⟨s1, ?_⟩
    show EchoRel c (if (rl.line.backspace 1).2 ≠ 0 then RL_BACKSPACE else RL_NOTHING) rl.lastsize r.z (r.z.backspace 1).1
    rw [show (rl.line.backspace 1).2 = (r.z.backspace 1).2 from s2]
    unfold Zip.backspace
    cases hq : r.z.left with
    | nil =>
      have : (⟨[], r.z.right⟩ : Zip) = r.z := hq ▸ zip_eta r.z
      simp only [List.length_nil, Nat.min_zero, List.take_nil, ne_eq, not_true_eq_false, if_false, this]
      exact echo_nothing _ _ _
    | cons a as =>
      have hm : min 1 (a :: as).length = 1 := by simp
      simp only [hm, ne_eq, Nat.succ_ne_zero, not_false_eq_true, if_true]
      exact Or.inr (Or.inl ⟨rfl, by rw [hq]; simp, by rw [hq]⟩)
  | delete =>
    obtain ⟨s1, s2⟩ := line_sim h (.delete 1)
    refine ⟨s1, ?_⟩
    show EchoRel c (if (rl.line.delete 1).2 ≠ 0 then RL_DELETE else RL_NOTHING) rl.lastsize r.z (r.z.delete 1).1
    rw [show (rl.line.delete 1).2 = (r.z.delete 1).2 from s2]
    unfold Zip.delete
    cases hq : r.z.right with
    | nil =>
      have : (⟨r.z.left, []⟩ : Zip) = r.z := hq ▸ zip_eta r.z
      simp only [List.length_nil, Nat.min_zero, List.drop_nil, ne_eq, not_true_eq_false, if_false, this]
      exact echo_nothing _ _ _
    | cons a as =>
      have hm : min 1 (a :: as).length = 1 := by simp
      simp only [hm, ne_eq, Nat.succ_ne_zero, not_false_eq_true, if_true]
      exact Or.inr (Or.inr (Or.inl ⟨rfl, by rw [hq]; simp, by rw [hq]⟩))
  | left =>
    obtain ⟨s1, s2⟩ := line_sim h .left
    refine ⟨s1, ?_⟩
    show EchoRel c (if rl.line.left.2 ≠ 0 then RL_LEFT else RL_NOTHING) rl.lastsize r.z r.z.moveLeft.1
    rw [show rl.line.left.2 = r.z.moveLeft.2 from s2]
    by_cases hr : r.z.left = []
    · simp only [Zip.moveLeft, hr, if_true, ne_eq, not_true_eq_false, if_false]; exact echo_nothing _ _ _
    · have e : r.z.moveLeft.2 = 1 := by simp only [Zip.moveLeft, hr, if_false]
      rw [e, if_pos (by decide)]
      exact Or.inr (Or.inr (Or.inr (Or.inl ⟨rfl, hr, rfl⟩)))
  | right =>
    obtain ⟨s1, s2⟩ := line_sim h .right
    refine ⟨s1, ?_⟩
    show EchoRel c (if rl.line.right.2 ≠ 0 then RL_RIGHT else RL_NOTHING) rl.lastsize r.z r.z.moveRight.1
    rw [show rl.line.right.2 = r.z.moveRight.2 from s2]
    by_cases hr : r.z.right = []
    · simp only [Zip.moveRight, hr, if_true, ne_eq, not_true_eq_false, if_false]; exact echo_nothing _ _ _
    · have e : r.z.moveRight.2 = 1 := by simp only [Zip.moveRight, hr, if_false]
      rw [e, if_pos (by decide)]
      exact Or.inr (Or.inr (Or.inr (Or.inr (Or.inl ⟨rfl, hr, rfl⟩))))
  | up =>
    have hH := h.histOK
    have hc := h.cur
    have hb := h.browse
    have eU : rl.historyUp = if rl.curhist = depth then (rl, 0)
        else (({ rl with curhist := rl.curhist + 1 } : Readline).loadHistoryLine, 1) := by
      unfold Readline.historyUp; rw [if_neg (not_not_intro hH.hasHist), hH.hsize]
    simp only [Readline.press, Ref.press, eU, hH.slen]
    rw [← hc]
    by_cases hfull : rl.curhist = depth
    · rw [if_pos hfull, if_neg (by omega)]
      exact ⟨h, echo_nothing _ _ _⟩
    · obtain ⟨b1, b2⟩ := browse_sim h (rl.curhist + 1) (rl.curhist + 1) (by omega) rfl
      rw [if_neg (Nat.succ_ne_zero _), Nat.add_sub_cancel] at b1
      rw [if_neg hfull, if_pos (by omega)]
      exact ⟨b1, Or.inr (Or.inr (Or.inr (Or.inr (Or.inr (Or.inl ⟨rfl, rfl, b2⟩)))))⟩
  | down =>
    have hc := h.cur
    have hb := h.browse
    have eD : rl.historyDown = if rl.curhist = 0 then (rl, 0)
        else (({ rl with curhist := rl.curhist - 1 } : Readline).loadHistoryLine, 1) := by
      unfold Readline.historyDown; rw [if_neg (not_not_intro h.histOK.hasHist)]
    simp only [Readline.press, Ref.press, eD]
    rw [← hc]
    by_cases h0 : rl.curhist = 0
    · rw [if_pos h0, if_pos h0]
      exact ⟨h, echo_nothing _ _ _⟩
    · rw [if_neg h0, if_neg h0]
      by_cases h1 : rl.curhist = 1
      · obtain ⟨b1, b2⟩ := browse_sim h (rl.curhist - 1) 0 (by omega) (by omega)
        rw [if_pos (by omega)] at b1
        rw [if_pos h1]
        exact ⟨b1, Or.inr (Or.inr (Or.inr (Or.inr (Or.inr (Or.inl ⟨rfl, rfl, b2⟩)))))⟩
      · obtain ⟨b1, b2⟩ := browse_sim h (rl.curhist - 1) (rl.curhist - 1) (by omega) rfl
        rw [if_neg (by omega)] at b1
        rw [if_neg h1]
        exact ⟨b1, Or.inr (Or.inr (Or.inr (Or.inr (Or.inr (Or.inl ⟨rfl, rfl, b2⟩)))))⟩
  | enter =>
    have hline : r.z.line = rl.line.text := by rw [← h.zip, toZip_line _ h.lineOK]
    have k3 := storeLine_ok cap depth hd rl r.hist h.lineOK h.lcap h.histOK
    obtain ⟨k1, k2, k4⟩ := Readline.storeLine_untouched rl
    refine ⟨⟨by show SlineOK rl.storeLine.line; rw [k1]; exact h.lineOK, by show rl.storeLine.line.cap = cap; rw [k1]; exact h.lcap,
      ?_, by show rl.storeLine.last = r.prev; rw [k4]; exact h.last, rfl, Nat.zero_le _,
      by show rl.storeLine.state = r.esc; rw [k2]; exact h.st, by show rl.storeLine.line.toZip = r.z; rw [k1]; exact h.zip⟩,
      ?_⟩
    · show HistOK cap depth _ (Ref.remember r.hist r.z.line)
      rw [hline]
      exact histOK_of_eq rl.storeLine _ rfl rfl rfl rfl rfl k3
    · exact Or.inr (Or.inr (Or.inr (Or.inr (Or.inr (Or.inr ⟨Or.inr (Or.inr rfl), rfl⟩)))))
  | interrupt => exact ⟨h, echo_nothing _ _ _⟩

/-- both sides decode the byte in the same way (`putchar_eq`, `rlKey_eq`) and then press the same key -/
theorem rstep (cap depth : Nat) (hd : 1 ≤ depth) (rl : Readline) (r : Ref) (c : Byte)
    (h : RSim cap depth rl r) : RStep cap depth c r (rl.putchar c) := by
  unfold RStep
  rw [Readline.putchar_eq, Ref.rlKey_eq, h.st, h.last]
  have hk := @decode_key r.esc r.prev c
  generalize decode r.esc r.prev c = d at hk ⊢
  obtain ⟨_ | k, st, p⟩ := d
  · exact ⟨h.set st p, echo_nothing _ _ _, fun e => absurd e nothing_ne_newline, fun _ => rfl⟩
  · obtain ⟨s1, s2⟩ := press_sim cap depth hd rl r c k (fun c' hc' => ((hk rfl).2.2 c' hc').1) h
    exact ⟨s1.set st p, s2, press_accepts_sim cap rl r k⟩

/-! ### readline_linecpy -/

theorem linecpy_ok (rl : Readline) (h : SlineOK rl.line) (dst : List Byte) (maxlen : Nat) (h1 : 1 ≤ maxlen)
    (hm : maxlen ≤ dst.length) :
    rl.linecpy dst maxlen =
      (rl.line.text.take (min rl.line.len (maxlen - 1)) ++ [0] ++ dst.drop (min rl.line.len (maxlen - 1) + 1),
        ((min rl.line.len (maxlen - 1) : Nat) : Int), false) := by
  obtain ⟨hb, hc, hr, hf⟩ := h
  unfold Readline.linecpy
  rw [if_neg (by omega)]
  have hlen : (if maxlen - 1 > rl.line.len then rl.line.len else maxlen - 1) = min rl.line.len (maxlen - 1) := by
    split <;> omega
  simp only [hlen]
  generalize hn : min rl.line.len (maxlen - 1) = n
  obtain ⟨X, y, e, hX⟩ := split3 dst 0 n (by omega)
  obtain ⟨m, e1, e2⟩ := copy_term (A := dst.take 0) (X := X) (Y := dst.drop (0 + n + 1)) (y := y) (src := rl.line.buf)
    (o := 0) (len := n) (by simp) hX.symm (by omega)
  rw [← e] at e1
  rw [Nat.zero_add] at e2
  rw [e1, e2]
  simp only [Sline.text, List.take_take, List.take_zero, List.nil_append, List.append_assoc, List.singleton_append,
    Bool.or_self, Nat.min_eq_left (show n ≤ rl.line.len by omega)]

end Igris.C15
