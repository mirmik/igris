/-
  C15 — the byte-level reference editor `Ref` (four-state decoder) is the token-level editor `Ed`
  after the grammar `keysOf ∘ symbols` of Keys.lean: one byte of the decoder is one step of the
  grammar (`gram_step`), `Ref.key` is the decoder followed by `Ed.key` (`Ref.key_ed`, Decoder.lean).
-/
import IgrisModel.C15.Decoder
namespace Igris.C15
open Igris.Proto

/-- the second half of an Enter that began with `prev` -/
def pairOf (prev : Byte) : Option Byte := if prev = CR then some LF else if prev = LF then some CR else none

/-! the grammar continued from inside an escape sequence (proof device: one
function per position in `keysOf`'s nested matches) -/

def afterDel : List Sym → List Key
  | [] => []
  | .intr :: r => Key.interrupt :: keysOf r
  | _ :: r => keysOf r

def afterCsi : List Sym → List Key
  | [] => []
  | .intr :: r => Key.interrupt :: keysOf r
  | .nl :: r => keysOf r
  | .b e :: r =>
    if e = 0x41 then Key.up :: keysOf r
    else if e = 0x42 then Key.down :: keysOf r
    else if e = 0x43 then Key.right :: keysOf r
    else if e = 0x44 then Key.left :: keysOf r
    else if e = 0x33 then Key.delete :: afterDel r
    else keysOf r

def afterEsc : List Sym → List Key
  | [] => []
  | .intr :: r => Key.interrupt :: keysOf r
  | .nl :: r => keysOf r
  | .b d :: r => if d ≠ 0x5b then keysOf r else afterCsi r

def keysFrom : RState → List Sym → List Key
  | .normal => keysOf
  | .escseq => afterEsc
  | .move => afterCsi
  | .wait7e => afterDel

theorem keysOf_esc (r : List Sym) : keysOf (Sym.b ESC :: r) = afterEsc r := by
  have hb : ¬ (ESC = BS) := by decide
  match r with
  | [] => simp [keysOf, afterEsc, hb]
  | .intr :: r1 => simp [keysOf, afterEsc, hb]
  | .nl :: r1 => simp [keysOf, afterEsc, hb]
  | .b d :: [] => simp [keysOf, afterEsc, afterCsi, hb]
  | .b d :: .intr :: r2 => simp [keysOf, afterEsc, afterCsi, hb]
  | .b d :: .nl :: r2 => simp [keysOf, afterEsc, afterCsi, hb]
  | .b d :: .b e :: [] => simp [keysOf, afterEsc, afterCsi, afterDel, hb]
  | .b d :: .b e :: .intr :: r3 => simp [keysOf, afterEsc, afterCsi, afterDel, hb]
  | .b d :: .b e :: .nl :: r3 => simp [keysOf, afterEsc, afterCsi, afterDel, hb]
  | .b d :: .b e :: .b f :: r3 => simp [keysOf, afterEsc, afterCsi, afterDel, hb]

theorem keysOf_bs (r : List Sym) : keysOf (Sym.b BS :: r) = Key.backspace :: keysOf r := by
  rw [keysOf.eq_def]
  simp only [if_true]

theorem keysOf_char (c : Byte) (h1 : ¬ c = BS) (h2 : ¬ c = ESC) (r : List Sym) : keysOf (Sym.b c :: r) = Key.char c :: keysOf r := by
  rw [keysOf.eq_def]
  simp only [h1, h2, if_false, ne_eq, not_false_eq_true, if_true]

theorem keysFrom_intr (st : RState) (X : List Sym) : keysFrom st (Sym.intr :: X) = Key.interrupt :: keysOf X := by
  cases st <;> simp [keysFrom, keysOf, afterEsc, afterCsi, afterDel]

/-- decoder invariant: inside an escape sequence the previous byte is no CR / LF, so a newline byte there is
never the second half of an Enter -/
def Dec (r : Ref) : Prop := r.esc ≠ .normal → pairOf r.prev = none

theorem dec_init (depth : Nat) : Dec (Ref.init depth) := fun h => absurd rfl h

theorem pairOf_other (c : Byte) (h : ¬ (c = CR ∨ c = LF)) : pairOf c = none := by
  unfold pairOf
  rw [if_neg (fun e => h (Or.inl e)), if_neg (fun e => h (Or.inr e))]

theorem pairOf_nl (c : Byte) (h : c = CR ∨ c = LF) : pairOf c = some (if c = CR then LF else CR) := by
  unfold pairOf
  rcases h with h | h <;> subst h <;> decide

theorem pairOf_some (prev c : Byte) (h : c = CR ∨ c = LF) :
    pairOf prev = some c ↔ ((prev = LF ∨ prev = CR) ∧ prev ≠ c) := by
  unfold pairOf
  by_cases h1 : prev = CR
  · subst h1; rcases h with h | h <;> subst h <;> decide
  · by_cases h2 : prev = LF
    · subst h2; rcases h with h | h <;> subst h <;> decide
    · simp [h1, h2]

theorem pairOf_zero : pairOf (0 : Byte) = none := by decide
theorem pairOf_esc : pairOf ESC = none := by decide
theorem pairOf_5b : pairOf (0x5b : Byte) = none := by decide
theorem pairOf_33 : pairOf (0x33 : Byte) = none := by decide

theorem dec_key (cap : Nat) (r : Ref) (c : Byte) : Dec (r.key cap c).1 := by
  intro h
  by_cases hx : c = ETX
  · exact absurd (by simp only [Ref.key, if_pos hx, Ref.fresh]) h
  · obtain ⟨_, _, e1, e2⟩ := Ref.key_ed cap r c hx
    rw [e1] at h
    obtain ⟨e3, hc⟩ := decode_inside h
    rw [e2, e3]
    rcases hc with rfl | rfl | rfl
    · exact pairOf_esc
    · exact pairOf_5b
    · exact pairOf_33

theorem dec_run (cap : Nat) (r : Ref) (ks : List Byte) (h : Dec r) : Dec (r.run cap ks) := by
  induction ks generalizing r with
  | nil => exact h
  | cons c cs ih => exact ih _ (dec_key cap r c)

theorem gram_step (st : RState) (prev c : Byte) (ks : List Byte) (hD : st ≠ .normal → pairOf prev = none)
    (hx : c ≠ ETX) :
    keysFrom st (symbols (pairOf prev) (c :: ks)) =
      (decode st prev c).1.toList ++
        keysFrom (decode st prev c).2.1 (symbols (pairOf (decode st prev c).2.2) ks) := by
  by_cases hnl : c = CR ∨ c = LF
  · -- a newline byte: Enter or its second half outside a sequence, the ignored tail of one inside
    cases st with
    | normal =>
      by_cases hsw : (prev = LF ∨ prev = CR) ∧ prev ≠ c
      · have hp : pairOf prev = some c := (pairOf_some prev c hnl).2 hsw
        simp only [decode, if_pos hnl, if_pos hsw, symbols, hx, hp, if_true, if_false, Option.toList, List.nil_append,
          pairOf_zero]
      · have hp : ¬ (pairOf prev = some c) := fun e => hsw ((pairOf_some prev c hnl).1 e)
        simp only [decode, if_pos hnl, if_neg hsw, symbols, hx, hp, if_false, Option.toList, keysFrom, keysOf,
          pairOf_nl c hnl, List.singleton_append]
    | _ =>
      have h1 : ¬ c = 0x5b ∧ ¬ c = 0x41 ∧ ¬ c = 0x42 ∧ ¬ c = 0x43 ∧ ¬ c = 0x44 ∧ ¬ c = 0x33 := by
        rcases hnl with h | h <;> subst h <;> decide
      simp only [decode, symbols, hx, hnl, hD (by simp), h1, if_true, if_false, Option.toList, keysFrom, afterEsc, afterCsi,
        afterDel, pairOf_nl c hnl, List.nil_append, reduceCtorEq]
  · -- any other byte is a symbol of its own and ends a pending pair
    have hpc : pairOf c = none := pairOf_other c hnl
    have hsym : symbols (pairOf prev) (c :: ks) = Sym.b c :: symbols none ks := by
      simp only [symbols, hx, hnl, if_false]
    rw [hsym]
    cases st with
    | normal =>
      by_cases hbs : c = BS
      · subst hbs
        simp only [decode, hnl, if_false, if_true, Option.toList, keysFrom, keysOf_bs, hpc, List.singleton_append]
      · by_cases hes : c = ESC
        · subst hes
          simp only [decode, hnl, hbs, if_false, if_true, Option.toList, keysFrom, keysOf_esc, hpc, List.nil_append]
        · simp only [decode, hnl, hbs, hes, if_false, Option.toList, keysFrom, keysOf_char c hbs hes, hpc,
            List.singleton_append]
    | escseq =>
      by_cases h5 : c = 0x5b
      · simp only [decode, h5, if_true, Option.toList, keysFrom, afterEsc, ne_eq, not_true_eq_false, if_false,
          List.nil_append, pairOf_5b]
      · simp only [decode, h5, if_false, Option.toList, keysFrom, afterEsc, ne_eq, not_false_eq_true, if_true,
          List.nil_append, hpc]
    | move =>
      simp only [decode, keysFrom, afterCsi]
      by_cases a1 : c = 0x41
      · simp only [if_pos a1, Option.toList, List.singleton_append, hpc]
      · simp only [if_neg a1]
        by_cases a2 : c = 0x42
        · simp only [if_pos a2, Option.toList, List.singleton_append, hpc]
        · simp only [if_neg a2]
          by_cases a3 : c = 0x43
          · simp only [if_pos a3, Option.toList, List.singleton_append, hpc]
          · simp only [if_neg a3]
            by_cases a4 : c = 0x44
            · simp only [if_pos a4, Option.toList, List.singleton_append, hpc]
            · simp only [if_neg a4]
              by_cases a5 : c = 0x33
              · simp only [if_pos a5, Option.toList, List.singleton_append, hpc]
              · simp only [if_neg a5, Option.toList, List.nil_append, hpc]
    | wait7e => simp only [decode, Option.toList, keysFrom, afterDel, List.nil_append, hpc]

theorem tok_step (cap : Nat) (r : Ref) (c : Byte) (hD : Dec r) (ks : List Byte) :
    ∃ kk : List Key,
      keysFrom r.esc (symbols (pairOf r.prev) (c :: ks)) =
        kk ++ keysFrom (r.key cap c).1.esc (symbols (pairOf (r.key cap c).1.prev) ks) ∧
      (edOf r).run cap kk = edOf (r.key cap c).1 ∧ (edOf r).events cap kk = (r.key cap c).2 := by
  by_cases hx : c = ETX
  · refine ⟨[Key.interrupt], ?_, ?_, ?_⟩
    · have hs : symbols (pairOf r.prev) (c :: ks) = Sym.intr :: symbols (pairOf r.prev) ks := by
        simp only [symbols, if_pos hx]
      rw [hs, keysFrom_intr]
      simp only [Ref.key, if_pos hx, Ref.fresh, keysFrom, List.singleton_append]
    · simp only [Ref.key, if_pos hx, Ref.fresh, edOf, Ed.run, List.foldl, Ed.key]
    · simp only [Ref.key, if_pos hx, Ed.events, edOf, Ed.key, List.append_nil]
  · obtain ⟨e1, e2, e3, e4⟩ := Ref.key_ed cap r c hx
    exact ⟨_, by rw [e3, e4]; exact gram_step r.esc r.prev c ks hD hx, e1.symm, e2.symm⟩

theorem Ed.run_append (cap : Nat) (e : Ed) (a b : List Key) : e.run cap (a ++ b) = (e.run cap a).run cap b := by
  simp [Ed.run, List.foldl_append]

theorem Ed.events_append (cap : Nat) (e : Ed) (a b : List Key) :
    e.events cap (a ++ b) = e.events cap a ++ (e.run cap a).events cap b := by
  induction a generalizing e with
  | nil => rfl
  | cons k ks ih =>
    simp only [List.cons_append, Ed.events, ih, List.append_assoc]
    rfl

theorem tok_run (cap : Nat) (r : Ref) (ks : List Byte) (hD : Dec r) :
    edOf (r.run cap ks) = (edOf r).run cap (keysFrom r.esc (symbols (pairOf r.prev) ks)) ∧
    r.events cap ks = (edOf r).events cap (keysFrom r.esc (symbols (pairOf r.prev) ks)) := by
  induction ks generalizing r with
  | nil =>
    have : keysFrom r.esc (symbols (pairOf r.prev) []) = [] := by
      cases h : r.esc <;> simp [keysFrom, symbols, keysOf, afterEsc, afterCsi, afterDel]
    rw [this]
    exact ⟨rfl, rfl⟩
  | cons c cs ih =>
    obtain ⟨kk, e1, e2, e3⟩ := tok_step cap r c hD cs
    have d1 := dec_key cap r c
    obtain ⟨i1, i2⟩ := ih (r.key cap c).1 d1
    rw [e1, Ed.run_append, Ed.events_append, e2, e3, Ref.run_cons]
    exact ⟨i1, by simp only [Ref.events]; rw [i2]⟩

theorem Ed.key_hist (cap : Nat) (e : Ed) (k : Key) (h : ∀ ev ∈ (e.key cap k).2, ev = Ev.sigint) :
    (e.key cap k).1.hist = e.hist := by
  cases k with
  | enter => exact absurd (h (Ev.exec e.z.line) (List.mem_singleton.mpr rfl)) nofun
  | up => simp only [Ed.key]; split <;> rfl
  | down =>
    simp only [Ed.key]; split
    · rfl
    · split <;> rfl
  | _ => rfl

theorem Ed.run_hist (cap : Nat) (e : Ed) (ks : List Key) (h : ∀ ev ∈ e.events cap ks, ev = Ev.sigint) :
    (e.run cap ks).hist = e.hist := by
  induction ks generalizing e with
  | nil => rfl
  | cons k ks ih =>
    simp only [Ed.events, List.mem_append] at h
    exact (ih (e.key cap k).1 (fun ev he => h ev (Or.inr he))).trans (Ed.key_hist cap e k (fun ev he => h ev (Or.inl he)))

end Igris.C15
