/-
  C15 — history recall: what entering lines and pressing Up / Down does is computed on the reference
  editor and carried to the terminal by the simulation (`recall_transfer`).
-/
import IgrisModel.C15.Terminal
namespace Igris.C15
open Igris.Proto

/-- `c ≠ 0`: a NUL would cut the remembered line short (`cstr`) -/
def plain (c : Byte) : Prop := c ≠ 0 ∧ c ≠ CR ∧ c ≠ LF ∧ c ≠ BS ∧ c ≠ ESC ∧ c ≠ ETX

def UP : List Byte := [ESC, 0x5b, 0x41]

def DOWN : List Byte := [ESC, 0x5b, 0x42]

/-- a line equal to the one entered before it is not remembered again -/
def ConsecDistinct : List (List Byte) → Prop
  | [] => True
  | [_] => True
  | a :: b :: t => a ≠ b ∧ ConsecDistinct (b :: t)

/-- a new line is being typed, `L` so far; the last conjunct: a CR right after an LF would be the second half of that Enter -/
def Typing (H : List (List Byte)) (L : List Byte) (r : Ref) : Prop :=
  r.hist = H ∧ r.browse = 0 ∧ r.esc = .normal ∧ r.z = ⟨L, []⟩ ∧ (L ≠ [] → r.prev ≠ LF)

theorem Typing.char (cap : Nat) {H : List (List Byte)} {L : List Byte} {r : Ref} (h : Typing H L r) (c : Byte)
    (hc : plain c) (hroom : L.length + 2 ≤ cap) : Typing H (L ++ [c]) (r.key cap c).1 := by
  obtain ⟨z, hist, browse, esc, prev⟩ := r
  obtain ⟨rfl, rfl, rfl, rfl, _⟩ := h
  obtain ⟨_, h1, h2, h3, h4, h5⟩ := hc
  have hnl : ¬ (c = CR ∨ c = LF) := fun h => h.elim h1 h2
  have hfit : (Zip.mk L []).len + 1 < cap := by simp only [Zip.len, List.length_nil]; omega
  simp only [Ref.key, Ref.rlKey, Zip.putchar, if_neg h5, if_neg hnl, if_neg h3, if_neg h4, if_pos hfit]
  exact ⟨rfl, rfl, rfl, rfl, fun _ => h2⟩

theorem Typing.enter (cap : Nat) {H : List (List Byte)} {L : List Byte} {r : Ref} (h : Typing H L r) (hL : L ≠ []) :
    Typing (Ref.remember H L) [] (r.key cap CR).1 := by
  obtain ⟨z, hist, browse, esc, prev⟩ := r
  obtain ⟨rfl, rfl, rfl, rfl, hp⟩ := h
  have hsw : ¬ ((prev = LF ∨ prev = CR) ∧ prev ≠ CR) := fun ⟨h, h2⟩ => h.elim (hp hL) h2
  simp only [Ref.key, Ref.rlKey, if_neg (show ¬ CR = ETX by decide), if_neg hsw, Ref.fresh, Zip.line, List.append_nil]
  exact ⟨rfl, rfl, rfl, rfl, fun h => absurd rfl h⟩

theorem Typing.run (cap : Nat) {H : List (List Byte)} (l : List Byte) {L : List Byte} {r : Ref} (h : Typing H L r)
    (hp : ∀ c ∈ l, plain c) (hroom : L.length + l.length + 1 ≤ cap) : Typing H (L ++ l) (r.run cap l) := by
  induction l generalizing L r with
  | nil => rw [List.append_nil]; exact h
  | cons c cs ih =>
    rw [List.length_cons] at hroom
    have := ih (h.char cap c (hp c (by simp)) (by omega)) (fun x hx => hp x (by simp [hx]))
      (by rw [List.length_append]; simp only [List.length_cons, List.length_nil]; omega)
    rw [List.append_assoc] at this
    exact this

theorem Typing.lines (cap : Nat) (ls : List (List Byte)) {H : List (List Byte)} {r : Ref} (h0 : List Byte)
    (h : Typing H [] r) (hl : ∀ l ∈ ls, l ≠ [] ∧ l.length + 1 ≤ cap ∧ ∀ c ∈ l, plain c)
    (hhead : H.head? = some h0) (hdist : ConsecDistinct (h0 :: ls)) :
    Typing ((ls.reverse ++ H).take H.length) [] (r.run cap (ls.flatMap (· ++ [CR]))) := by
  induction ls generalizing r H h0 with
  | nil => simpa [Ref.run] using h
  | cons l ls ih =>
    obtain ⟨l1, l2, l3⟩ := hl l (by simp)
    obtain ⟨d1, d2⟩ : h0 ≠ l ∧ ConsecDistinct (l :: ls) := by
      cases ls <;> simp [ConsecDistinct] at hdist ⊢ <;> exact hdist
    have hne : H ≠ [] := by intro e; rw [e] at hhead; simp at hhead
    have hrem : Ref.remember H l = (l :: H).take H.length := by
      unfold Ref.remember
      rw [if_pos ⟨l1, by rw [hhead]; intro e; exact d1 (Option.some.inj e)⟩, cstr_eq_self l (fun x hx => (l3 x hx).1),
        List.dropLast_eq_take]
      simp
    have t := ((h.run cap l l3 (by simpa using l2)).enter cap (by simpa using l1))
    rw [List.nil_append, hrem] at t
    have := ih l (r := (r.run cap l).key cap CR |>.1) t (fun x hx => hl x (by simp [hx]))
      (by cases H with
          | nil => exact absurd rfl hne
          | cons a as => simp) d2
    rw [List.flatMap_cons, List.append_assoc, Ref.run_append, Ref.run_append]
    have hlen : ((l :: H).take H.length).length = H.length := by simp
    rw [hlen] at this
    rw [List.reverse_cons, List.append_assoc, List.singleton_append]
    rw [List.take_append (l₁ := ls.reverse), List.take_take, Nat.min_eq_left (by omega)] at this
    rw [List.take_append (l₁ := ls.reverse)]
    exact this

theorem Ref.run_arrow (cap : Nat) (r : Ref) (x : Byte) (k : Key) (he : r.esc = .normal)
    (hk : x = 0x41 ∧ k = .up ∨ x = 0x42 ∧ k = .down) :
    r.run cap [ESC, 0x5b, x] = { (r.press cap k).1 with prev := x } ∧ r.events cap [ESC, 0x5b, x] = [] := by
  obtain ⟨z, hist, browse, esc, prev⟩ := r
  subst he
  have e1 : ∀ p, (⟨z, hist, browse, .normal, p⟩ : Ref).key cap ESC = (⟨z, hist, browse, .escseq, ESC⟩, []) := fun _ => rfl
  have e2 : (⟨z, hist, browse, .escseq, ESC⟩ : Ref).key cap 0x5b = (⟨z, hist, browse, .move, 0x5b⟩, []) := rfl
  simp only [Ref.run, Ref.events, List.foldl, e1, e2, List.append_nil, List.nil_append]
  have a : ¬ (0x41 : Byte) = ETX ∧ ¬ (0x42 : Byte) = ETX ∧ ¬ (0x42 : Byte) = 0x41 := by decide
  rcases hk with ⟨rfl, rfl⟩ | ⟨rfl, rfl⟩
  · by_cases hb : browse < hist.length <;>
      simp only [Ref.key, Ref.rlKey, Ref.press, hb, a, if_false, if_true, and_self]
  · by_cases h0 : browse = 0
    · simp only [Ref.key, Ref.rlKey, Ref.press, h0, a, if_false, if_true, and_self]
    · by_cases h1 : browse = 1 <;>
        simp only [Ref.key, Ref.rlKey, Ref.press, h0, h1, a, Nat.one_ne_zero, if_false, if_true, and_self]

theorem up_noop (cap : Nat) (r : Ref) (he : r.esc = .normal) (hb : ¬ r.browse < r.hist.length) :
    r.run cap UP = { r with prev := 0x41 } ∧ r.events cap UP = [] := by
  have := Ref.run_arrow cap r 0x41 .up he (Or.inl ⟨rfl, rfl⟩)
  simp only [Ref.press, if_neg hb] at this
  exact this

theorem down_noop (cap : Nat) (r : Ref) (he : r.esc = .normal) (hb : r.browse = 0) :
    r.run cap DOWN = { r with prev := 0x42 } ∧ r.events cap DOWN = [] := by
  have := Ref.run_arrow cap r 0x42 .down he (Or.inr ⟨rfl, rfl⟩)
  simp only [Ref.press, if_pos hb] at this
  exact this

def Shows (H : List (List Byte)) (b : Nat) (r : Ref) : Prop :=
  r.hist = H ∧ r.browse = b ∧ r.esc = .normal ∧ (1 ≤ b → r.z = ⟨H.getD (b - 1) [], []⟩)

theorem Shows.up (cap : Nat) {H : List (List Byte)} {b : Nat} {r : Ref} (h : Shows H b r) (hb : b < H.length) :
    Shows H (b + 1) (r.run cap UP) := by
  obtain ⟨rfl, rfl, he, _⟩ := h
  rw [show UP = [ESC, 0x5b, 0x41] from rfl, (Ref.run_arrow cap r 0x41 .up he (Or.inl ⟨rfl, rfl⟩)).1]
  simp only [Ref.press, if_pos hb]
  exact ⟨rfl, rfl, he, fun _ => rfl⟩

theorem Shows.down (cap : Nat) {H : List (List Byte)} {b : Nat} {r : Ref} (h : Shows H (b + 1) r) :
    Shows H b (r.run cap DOWN) := by
  obtain ⟨rfl, hb, he, _⟩ := h
  rw [show DOWN = [ESC, 0x5b, 0x42] from rfl, (Ref.run_arrow cap r 0x42 .down he (Or.inr ⟨rfl, rfl⟩)).1]
  simp only [Ref.press, hb, Nat.succ_ne_zero, if_false, Nat.add_eq_right]
  split
  · next h0 => subst h0; exact ⟨rfl, rfl, he, fun h => absurd h (by decide)⟩
  · exact ⟨rfl, rfl, he, fun _ => rfl⟩

theorem Shows.ups (cap : Nat) {H : List (List Byte)} (k : Nat) {b : Nat} {r : Ref} (h : Shows H b r)
    (hb : b + k ≤ H.length) : Shows H (b + k) (r.run cap (List.replicate k UP).flatten) := by
  induction k generalizing b r with
  | zero => exact h
  | succ k ih =>
    rw [List.replicate_succ, List.flatten_cons, Ref.run_append]
    have := ih (h.up cap (by omega)) (by omega)
    rw [Nat.add_right_comm] at this
    exact this

theorem Shows.downs (cap : Nat) {H : List (List Byte)} (j : Nat) {b : Nat} {r : Ref} (h : Shows H b r) (hj : j ≤ b) :
    Shows H (b - j) (r.run cap (List.replicate j DOWN).flatten) := by
  induction j generalizing b r with
  | zero => exact h
  | succ j ih =>
    obtain ⟨b, rfl⟩ : ∃ b', b = b' + 1 := ⟨b - 1, by omega⟩
    rw [List.replicate_succ, List.flatten_cons, Ref.run_append, Nat.add_sub_add_right]
    exact ih (Shows.down cap h) (by omega)

theorem Typing.shows {H : List (List Byte)} {r : Ref} (h : Typing H [] r) : Shows H 0 r :=
  ⟨h.1, h.2.1, h.2.2.1, fun h => absurd h (by decide)⟩

theorem getD_recent (ls : List (List Byte)) (hist : List (List Byte)) (k : Nat) (hk1 : 1 ≤ k) (hk : k ≤ ls.length)
    (hkd : k ≤ hist.length) :
    ((ls.reverse ++ hist).take hist.length).getD (k - 1) [] = ls.reverse.getD (k - 1) [] := by
  simp only [List.getD_eq_getElem?_getD]
  rw [List.getElem?_take, if_pos (by omega), List.getElem?_append_left (by simp; omega)]

theorem ref_recall (cap depth : Nat) (hd : 1 ≤ depth) (ls : List (List Byte)) (k j : Nat)
    (hl : ∀ l ∈ ls, l ≠ [] ∧ l.length + 1 ≤ cap ∧ ∀ c ∈ l, plain c) (hdist : ConsecDistinct ls)
    (hk : k ≤ ls.length) (hkd : k ≤ depth) (hj : j < k) :
    ((Ref.init depth).run cap (ls.flatMap (· ++ [CR]) ++ (List.replicate k UP).flatten ++
        (List.replicate j DOWN).flatten)).z = ⟨ls.reverse.getD (k - j - 1) [], []⟩ ∧
    ((Ref.init depth).run cap (ls.flatMap (· ++ [CR]) ++ (List.replicate k UP).flatten ++
        (List.replicate j DOWN).flatten)).browse = k - j := by
  have hd0 : ConsecDistinct ([] :: ls) := by
    cases ls with
    | nil => trivial
    | cons a as => exact ⟨fun e => (hl a (by simp)).1 e.symm, hdist⟩
  have t0 : Typing (List.replicate depth []) [] (Ref.init depth) := ⟨rfl, rfl, rfl, rfl, fun h => absurd rfl h⟩
  have s0 := (t0.lines cap ls [] hl (by cases depth with | zero => omega | succ d => rfl) hd0).shows
  rw [List.length_replicate] at s0
  obtain ⟨_, e2, _, e4⟩ := (s0.ups cap k (by simp; omega)).downs cap j (by omega)
  rw [Nat.zero_add] at e2 e4
  rw [Ref.run_append, Ref.run_append, e4 (by omega), e2]
  have := getD_recent ls (List.replicate depth []) (k - j) (by omega) (by omega) (by simp; omega)
  rw [List.length_replicate] at this
  rw [this]
  exact ⟨rfl, rfl⟩

/-- `hb`: while browsing the terminal is in state 2 (`browsing_two`), where `nrl` is the raw object -/
theorem recall_transfer {cap depth : Nat} {v : Vterm} {r : Ref} (h : VSim cap depth v r) (hb : r.browse ≠ 0)
    (X : List Byte) (hz : r.z = ⟨X, []⟩) :
    v.rl.line.text = X ∧ v.rl.line.cursor = X.length ∧ v.rl.curhist = r.browse := by
  obtain ⟨e1, e2, e3, _⟩ := editor_of_sim cap depth _ _ h
  rw [nrl_two _ (browsing_two h hb)] at e1 e2 e3
  rw [hz] at e1 e2
  exact ⟨by rw [e1]; simp [Zip.line], e2, e3⟩

theorem key_quiet (v : Vterm) (c : Byte) (rl' : Readline) (h2 : v.state = 2) (hx : c ≠ ETX)
    (hp : v.rl.putchar c = (rl', RL_NOTHING)) : v.key c = ({ v with rl := rl' }, [], []) := by
  obtain ⟨rl, st, echo, prompt, cxx, sig⟩ := v
  simp only at h2 hp
  subst h2
  have he : ∀ r, Vterm.echoFor c RL_NOTHING r = [] := fun r => by
    unfold Vterm.echoFor
    rw [if_neg (by decide), if_neg (by decide), if_neg (by decide), if_neg (by decide), if_neg (by decide),
      if_neg (by decide)]
  unfold Vterm.key
  simp only [or_true, not_true_eq_false, if_false, if_true, hx, hp, nothing_ne_newline, he, List.nil_append,
    ite_self]

theorem keys_quiet (v : Vterm) (a b c : Byte) (r1 r2 r3 : Readline) (h2 : v.state = 2) (ha : a ≠ ETX) (hb : b ≠ ETX)
    (hc : c ≠ ETX) (p1 : v.rl.putchar a = (r1, RL_NOTHING)) (p2 : r1.putchar b = (r2, RL_NOTHING))
    (p3 : r2.putchar c = (r3, RL_NOTHING)) :
    v.echoed [a, b, c] = [] ∧ v.events [a, b, c] = [] ∧ v.run [a, b, c] = { v with rl := r3 } := by
  have k1 := key_quiet v a r1 h2 ha p1
  have k2 := key_quiet { v with rl := r1 } b r2 h2 hb p2
  have k3 := key_quiet { v with rl := r2 } c r3 h2 hc p3
  simp only [Vterm.echoed, Vterm.events, Vterm.run, List.foldl, k1, k2, k3, List.append_nil]
  exact ⟨trivial, trivial, trivial⟩

theorem putchar_esc (rl : Readline) (hst : rl.state = .normal) :
    rl.putchar ESC = ({ rl with state := .escseq, last := ESC }, RL_NOTHING) := by
  unfold Readline.putchar; rw [hst]; rfl

theorem putchar_csi (rl : Readline) (hs : rl.state = .escseq) :
    rl.putchar 0x5b = ({ rl with state := .move, last := 0x5b }, RL_NOTHING) := by
  unfold Readline.putchar; rw [hs]; rfl

theorem up_at_oldest (v : Vterm) (h2 : v.state = 2) (hn : v.rl.state = .normal) (hh : v.rl.hasHist = true)
    (hc : v.rl.curhist = v.rl.hsize) :
    v.echoed UP = [] ∧ v.events UP = [] ∧ v.run UP = { v with rl := { v.rl with last := 0x41 } } := by
  have p3 : ({ v.rl with state := .move, last := 0x5b } : Readline).putchar 0x41 = ({ v.rl with last := 0x41 }, RL_NOTHING) := by
    simp only [Readline.putchar, Readline.historyUp, hh, hc, not_true_eq_false, if_false, if_true, ne_eq]
    rw [← hn]
  exact keys_quiet v ESC 0x5b 0x41 _ _ _ h2 (by decide) (by decide) (by decide)
    (putchar_esc v.rl hn) (putchar_csi _ rfl) p3

theorem down_at_newest (v : Vterm) (h2 : v.state = 2) (hn : v.rl.state = .normal) (hc : v.rl.curhist = 0) :
    v.echoed DOWN = [] ∧ v.events DOWN = [] ∧ v.run DOWN = { v with rl := { v.rl with last := 0x42 } } := by
  have p3 : ({ v.rl with state := .move, last := 0x5b } : Readline).putchar 0x42 = ({ v.rl with last := 0x42 }, RL_NOTHING) := by
    have e : ({ v.rl with state := .move, last := 0x5b } : Readline).historyDown =
        ({ v.rl with state := .move, last := 0x5b }, 0) := by
      unfold Readline.historyDown; split <;> rfl
    simp only [Readline.putchar, e, not_true_eq_false, if_false, if_true, ne_eq]
    rw [← hn]
    simp
  exact keys_quiet v ESC 0x5b 0x42 _ _ _ h2 (by decide) (by decide) (by decide)
    (putchar_esc v.rl hn) (putchar_csi _ rfl) p3

end Igris.C15
