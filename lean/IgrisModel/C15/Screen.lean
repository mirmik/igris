/-
  C15 — what the echoed bytes do to the one-row VT100 screen model: the echo of one key redraws the
  line held in the zipper (`echo_redraw`), which gives the screen invariant `SInv` over whole key
  sequences and a bound on the highest column the cursor reaches on the way (`Screen.hw`).
-/
import IgrisModel.C15.Terminal
namespace Igris.C15
open Igris.Proto

namespace Screen

theorem feed_append (s : Screen) (a b : List Byte) : s.feed (a ++ b) = (s.feed a).feed b := by
  simp [feed, List.foldl_append]

theorem feed_cons (s : Screen) (a : Byte) (b : List Byte) : s.feed (a :: b) = (s.put a).feed b := rfl

theorem feed_nil (s : Screen) : s.feed [] = s := rfl

theorem printable_ne (b : Byte) (h : isPrintable b = true) : b ≠ ESC ∧ b ≠ CR ∧ b ≠ LF ∧ b ≠ BS := by
  refine ⟨?_, ?_, ?_, ?_⟩ <;> (intro e; subst e; revert h; decide)

theorem put_printable (A B : List Byte) (b : Byte) (h : isPrintable b = true) :
    (Screen.mk (A ++ B) A.length .ground).put b = ⟨A ++ [b] ++ B.drop 1, A.length + 1, .ground⟩ := by
  obtain ⟨h1, h2, h3, h4⟩ := printable_ne b h
  unfold put
  simp only [h1, h2, h3, h4, if_false, h, if_true, putGlyph]
  congr 1
  cases B with
  | nil => simp
  | cons x xs => simp

theorem feed_print (A B l : List Byte) (h : ∀ b ∈ l, isPrintable b = true) :
    (Screen.mk (A ++ B) A.length .ground).feed l = ⟨A ++ l ++ B.drop l.length, A.length + l.length, .ground⟩ := by
  induction l generalizing A B with
  | nil => simp [feed_nil]
  | cons b bs ih =>
    rw [feed_cons, put_printable A B b (h b (by simp))]
    have := ih (A ++ [b]) (B.drop 1) (fun x hx => h x (by simp [hx]))
    simp only [List.length_append, List.length_cons, List.length_nil, Nat.zero_add] at this
    rw [this]
    simp only [List.append_assoc, List.singleton_append, List.drop_drop, List.length_cons, Screen.mk.injEq, and_true]
    constructor
    · congr 3; omega
    · omega

/-! the decimal parameter of `ESC [ n D` -/

def digitsVal (ds : List Byte) (a : Nat) : Nat := ds.foldl (fun a b => a * 10 + (b.toNat - 48)) a

def valRev : List Byte → Nat
  | [] => 0
  | b :: bs => (b.toNat - 48) + 10 * valRev bs

theorem digitsVal_reverse (ds : List Byte) : digitsVal ds.reverse 0 = valRev ds := by
  induction ds with
  | nil => rfl
  | cons b bs ih =>
    simp only [List.reverse_cons, digitsVal, List.foldl_append, List.foldl_cons, List.foldl_nil, valRev]
    have : List.foldl (fun a b => a * 10 + (b.toNat - 48)) 0 bs.reverse = valRev bs := ih
    rw [this]; omega

theorem digit_byte (d : Nat) (h : d < 10) :
    isDigit (BitVec.ofNat 8 (48 + d)) = true ∧ (BitVec.ofNat 8 (48 + d)).toNat - 48 = d := by
  have : (BitVec.ofNat 8 (48 + d)).toNat = 48 + d := by
    simp only [BitVec.toNat_ofNat]; omega
  unfold isDigit
  rw [this]
  simp; omega

theorem decRev_spec (fuel n : Nat) (h : n < fuel) :
    valRev (decRev fuel n) = n ∧ (∀ b ∈ decRev fuel n, isDigit b = true) ∧ decRev fuel n ≠ [] := by
  induction fuel generalizing n with
  | zero => omega
  | succ f ih =>
    obtain ⟨d1, d2⟩ := digit_byte (n % 10) (Nat.mod_lt _ (by omega))
    unfold decRev
    by_cases h0 : n / 10 = 0
    · simp only [h0, if_true, valRev, d2, List.mem_singleton, forall_eq, d1, ne_eq, List.cons_ne_nil,
        not_false_eq_true, and_self, and_true]
      omega
    · obtain ⟨i1, i2, _⟩ := ih (n / 10) (by omega)
      simp only [h0, if_false, valRev, d2, i1, ne_eq, List.cons_ne_nil, not_false_eq_true, and_true]
      refine ⟨by omega, ?_⟩
      intro b hb
      rcases List.mem_cons.mp hb with e | e
      · rw [e]; exact d1
      · exact i2 b e

theorem decDigits_spec (n : Nat) :
    digitsVal (decDigits n) 0 = n ∧ (∀ b ∈ decDigits n, isDigit b = true) ∧ decDigits n ≠ [] := by
  obtain ⟨h1, h2, h3⟩ := decRev_spec (n + 1) n (by omega)
  unfold decDigits
  refine ⟨by rw [digitsVal_reverse, h1], fun b hb => h2 b (by simpa using hb), by simpa using h3⟩

theorem put_digit (cells : List Byte) (col : Nat) (o : Option Nat) (b : Byte) (hb : isDigit b = true) :
    (Screen.mk cells col (.csi o)).put b = ⟨cells, col, .csi (some (o.getD 0 * 10 + (b.toNat - 48)))⟩ := by
  simp [put, hb]

theorem feed_digits (cells : List Byte) (col : Nat) (ds : List Byte) (o : Option Nat)
    (h : ∀ b ∈ ds, isDigit b = true) (hne : ds ≠ []) :
    (Screen.mk cells col (.csi o)).feed ds = ⟨cells, col, .csi (some (digitsVal ds (o.getD 0)))⟩ := by
  induction ds generalizing o with
  | nil => exact absurd rfl hne
  | cons b bs ih =>
    rw [feed_cons, put_digit cells col o b (h b (by simp))]
    by_cases hbs : bs = []
    · subst hbs; simp [feed_nil, digitsVal]
    · rw [ih _ (fun x hx => h x (by simp [hx])) hbs]
      simp [digitsVal]

theorem feed_csi (cells : List Byte) (col : Nat) :
    (Screen.mk cells col .ground).feed [ESC, 0x5b] = ⟨cells, col, .csi none⟩ := by
  simp [feed, put, ESC]

theorem feed_left (s : Screen) (h : s.ps = .ground) (n : Nat) (hn : 1 ≤ n) :
    s.feed (vt100Left n) = { s with col := s.col - n } := by
  obtain ⟨cells, col, ps⟩ := s
  simp only at h; subst h
  obtain ⟨d1, d2, d3⟩ := decDigits_spec n
  unfold vt100Left
  rw [feed_append, feed_append, feed_csi, feed_digits cells col _ none d2 d3]
  simp only [Option.getD_none, d1]
  have hd : isDigit (68#8) = false := by decide
  have hn0 : ¬ n = 0 := by omega
  simp [feed, put, hd, hn0]

/-! the highest column the cursor reaches while bytes are fed -/

def hw (s : Screen) : List Byte → Nat
  | [] => s.col
  | b :: bs => max s.col ((s.put b).hw bs)

theorem hw_ge (s : Screen) (bs : List Byte) : s.col ≤ s.hw bs := by
  cases bs with
  | nil => exact Nat.le_refl _
  | cons b bs => exact Nat.le_max_left _ _

theorem hw_nil (s : Screen) : s.hw [] = s.col := rfl
theorem hw_cons (s : Screen) (b : Byte) (bs : List Byte) : s.hw (b :: bs) = max s.col ((s.put b).hw bs) := rfl

theorem hw_append (s : Screen) (a b : List Byte) : s.hw (a ++ b) = max (s.hw a) ((s.feed a).hw b) := by
  induction a generalizing s with
  | nil =>
    simp only [List.nil_append, hw_nil, feed_nil]
    have := hw_ge s b
    omega
  | cons x xs ih =>
    simp only [List.cons_append, hw_cons, feed_cons, ih]
    omega

theorem hw_print (A B l : List Byte) (h : ∀ b ∈ l, isPrintable b = true) :
    (Screen.mk (A ++ B) A.length .ground).hw l = A.length + l.length := by
  induction l generalizing A B with
  | nil => simp [hw_nil]
  | cons b bs ih =>
    rw [hw_cons, put_printable A B b (h b (by simp))]
    have := ih (A ++ [b]) (B.drop 1) (fun x hx => h x (by simp [hx]))
    simp only [List.length_append, List.length_cons, List.length_nil, Nat.zero_add] at this
    rw [this]
    simp only [List.length_cons]
    omega

theorem hw_digits (cells : List Byte) (col : Nat) (ds : List Byte) (o : Option Nat)
    (h : ∀ b ∈ ds, isDigit b = true) : (Screen.mk cells col (.csi o)).hw ds = col := by
  induction ds generalizing o with
  | nil => rfl
  | cons b bs ih =>
    rw [hw_cons, put_digit cells col o b (h b (by simp)), ih _ (fun x hx => h x (by simp [hx]))]
    simp

theorem hw_left (s : Screen) (h : s.ps = .ground) (n : Nat) (hn : 1 ≤ n) : s.hw (vt100Left n) = s.col := by
  obtain ⟨cells, col, ps⟩ := s
  simp only at h; subst h
  obtain ⟨d1, d2, d3⟩ := decDigits_spec n
  unfold vt100Left
  rw [hw_append, hw_append, feed_append]
  have e0 : (Screen.mk cells col .ground).hw [ESC, 0x5b] = col := by
    simp [hw, put, ESC]
  rw [feed_csi, e0, feed_digits cells col _ none d2 d3, hw_digits cells col _ none d2]
  have hd : isDigit (68#8) = false := by decide
  simp [hw, put, hd]

end Screen

/-! ### the echo of one key, in terms of the zipper -/

def AllP (l : List Byte) : Prop := ∀ b ∈ l, Screen.isPrintable b = true

theorem AllP_nil : AllP [] := fun _ h => by simp at h

theorem AllP_append {a b : List Byte} (ha : AllP a) (hb : AllP b) : AllP (a ++ b) := by
  intro x hx; rcases List.mem_append.mp hx with h | h; exact ha x h; exact hb x h

theorem AllP_take {a : List Byte} (n : Nat) (ha : AllP a) : AllP (a.take n) :=
  fun x hx => ha x (List.mem_of_mem_take hx)

theorem AllP_drop {a : List Byte} (n : Nat) (ha : AllP a) : AllP (a.drop n) :=
  fun x hx => ha x (List.mem_of_mem_drop hx)

/-- re-print what is right of the cursor and come back -/
def zRightEcho (z : Zip) : List Byte := if z.right = [] then [] else z.right ++ vt100Left z.right.length

def zEchoFor (c : Byte) (ret : Int) (lastsize : Nat) (z : Zip) : List Byte :=
  if ret = RL_ECHOCHAR then [c] ++ zRightEcho z
  else if ret = RL_BACKSPACE then VT100_LEFT ++ VT100_ERASE ++ zRightEcho z
  else if ret = RL_RIGHT then VT100_RIGHT
  else if ret = RL_LEFT then VT100_LEFT
  else if ret = RL_UPDATELINE then
    (if lastsize ≠ 0 then vt100Left lastsize else []) ++ VT100_ERASE ++ (if z.line ≠ [] then z.line else [])
  else if ret = RL_DELETE then VT100_ERASE ++ zRightEcho z
  else []

theorem rightEcho_eq (s : Sline) (h : SlineOK s) : Vterm.rightEcho s = zRightEcho s.toZip := by
  have hr := toZip_right_length s h
  have hc := h.cur
  unfold Vterm.rightEcho zRightEcho Sline.inRightpos Sline.rightsize
  have he : s.len = s.cursor ↔ s.toZip.right = [] := by rw [← List.length_eq_zero_iff, hr]; omega
  simp only [he, decide_eq_true_eq, hr]
  rfl

theorem echoFor_eq (c : Byte) (ret : Int) (rl : Readline) (h : SlineOK rl.line) :
    Vterm.echoFor c ret rl = zEchoFor c ret rl.lastsize rl.line.toZip := by
  have hl := toZip_line _ h
  have htl := text_length _ h
  unfold Vterm.echoFor zEchoFor
  rw [rightEcho_eq _ h, hl]
  have hc : (rl.line.len ≠ 0) ↔ (rl.line.text ≠ []) := by rw [← htl]; exact not_congr List.length_eq_zero_iff
  simp only [hc]
  rfl

namespace Screen

/-- `P` is the prompt -/
def showing (P : List Byte) (z : Zip) : Screen := ⟨(P ++ z.left) ++ z.right, (P ++ z.left).length, .ground⟩

def Goes (s : Screen) (bs : List Byte) (s' : Screen) (m : Nat) : Prop := s.feed bs = s' ∧ s.hw bs ≤ m

theorem Goes.append {s s1 s2 : Screen} {a b : List Byte} {m : Nat} (h1 : Goes s a s1 m) (h2 : Goes s1 b s2 m) :
    Goes s (a ++ b) s2 m :=
  ⟨by rw [feed_append, h1.1, h2.1], by rw [hw_append, h1.1]; exact Nat.max_le.mpr ⟨h1.2, h2.2⟩⟩

theorem goes_nil (s : Screen) {m : Nat} (h : s.col ≤ m) : Goes s [] s m := ⟨rfl, h⟩

theorem goes_print (A B l : List Byte) (hp : ∀ b ∈ l, isPrintable b = true) {m : Nat} (hm : (A ++ l).length ≤ m) :
    Goes ⟨A ++ B, A.length, .ground⟩ l ⟨(A ++ l) ++ B.drop l.length, (A ++ l).length, .ground⟩ m :=
  ⟨by rw [feed_print A B l hp, List.length_append], by rw [hw_print A B l hp, ← List.length_append]; exact hm⟩

/-! `ESC[D`, `ESC[C`, `ESC[K`, CR LF and `vt100_left n` on a screen in the ground state; the screen
reached is given up to an equation, so that a caller can name it in the form it needs -/

theorem goes_LEFT {cells : List Byte} {col col' m : Nat} (hc : col' = col - 1) (hm : col ≤ m) :
    Goes ⟨cells, col, .ground⟩ VT100_LEFT ⟨cells, col', .ground⟩ m := by
  subst hc
  constructor
  · simp [feed, VT100_LEFT, put, ESC, isDigit]
  · simp [hw, VT100_LEFT, put, ESC, isDigit]; omega

theorem goes_RIGHT {cells : List Byte} {col col' m : Nat} (hc : col' = col + 1) (hm : col' ≤ m) :
    Goes ⟨cells, col, .ground⟩ VT100_RIGHT ⟨cells, col', .ground⟩ m := by
  subst hc
  constructor
  · simp [feed, VT100_RIGHT, put, ESC, isDigit]
  · simp [hw, VT100_RIGHT, put, ESC, isDigit]; omega

theorem goes_ERASE {cells cells' : List Byte} {col m : Nat} (hc : cells' = cells.take col) (hm : col ≤ m) :
    Goes ⟨cells, col, .ground⟩ VT100_ERASE ⟨cells', col, .ground⟩ m := by
  subst hc
  constructor
  · simp [feed, VT100_ERASE, put, ESC, isDigit]
  · simp [hw, VT100_ERASE, put, ESC, isDigit]; omega

theorem goes_CRLF {cells : List Byte} {col m : Nat} (hm : col ≤ m) :
    Goes ⟨cells, col, .ground⟩ [CR, LF] ⟨[], 0, .ground⟩ m := by
  constructor
  · simp [feed, put, ESC, CR, LF]
  · simp [hw, put, ESC, CR, LF]; omega

theorem goes_left {cells : List Byte} {col col' m : Nat} (n : Nat) (hn : 1 ≤ n) (hc : col' = col - n) (hm : col ≤ m) :
    Goes ⟨cells, col, .ground⟩ (vt100Left n) ⟨cells, col', .ground⟩ m := by
  subst hc
  exact ⟨feed_left _ rfl n hn, by rw [hw_left _ rfl n hn]; exact hm⟩

theorem Goes.mono {s s' : Screen} {bs : List Byte} {m m' : Nat} (h : Goes s bs s' m) (hm : m ≤ m') : Goes s bs s' m' :=
  ⟨h.1, Nat.le_trans h.2 hm⟩

/-- `B`: the stale cells after the cursor; there are at most `|R|`, so printing `R` overwrites them all -/
theorem goes_rightEcho (A B L R : List Byte) (hR : AllP R) (hB : B.length ≤ R.length) {m : Nat}
    (hm : (A ++ R).length ≤ m) :
    Goes ⟨A ++ B, A.length, .ground⟩ (zRightEcho ⟨L, R⟩) ⟨A ++ R, A.length, .ground⟩ m := by
  unfold zRightEcho
  by_cases h : R = []
  · subst h
    have : B = [] := List.eq_nil_of_length_eq_zero (by simpa using hB)
    subst this
    rw [if_pos rfl]
    exact goes_nil _ (by simpa using hm)
  · rw [if_neg h]
    have hn : 1 ≤ R.length := List.length_pos_iff.mpr h
    have e : (A ++ R) ++ B.drop R.length = A ++ R := by rw [List.drop_eq_nil_of_le hB, List.append_nil]
    have g := goes_print A B R hR hm
    rw [e] at g
    exact g.append (goes_left R.length hn (by simp) hm)

theorem echo_redraw (P : List Byte) (z z' : Zip) (c : Byte) (ret : Int) (lastsize : Nat)
    (hrel : EchoRel c ret lastsize z z') (hnn : ret ≠ RL_NEWLINE)
    (hc : ret = RL_ECHOCHAR → isPrintable c = true)
    (hzr : AllP z.right) (hzl' : AllP z'.left) :
    Goes (showing P z) (zEchoFor c ret lastsize z') (showing P z') (P.length + max z.len z'.len) := by
  obtain ⟨L, R⟩ := z
  obtain ⟨L', R'⟩ := z'
  simp only at hzr hzl'
  unfold showing zEchoFor Zip.len
  simp only
  generalize hm : P.length + max (L.length + R.length) (L'.length + R'.length) = m
  have h1 : P.length + (L.length + R.length) ≤ m := by omega
  have h2 : P.length + (L'.length + R'.length) ≤ m := by omega
  clear hm
  rcases hrel with ⟨e, hz⟩ | ⟨e, hne, hz⟩ | ⟨e, hne, hz⟩ | ⟨e, hne, hz⟩ | ⟨e, hne, hz⟩ | ⟨e, hr, hls⟩ | ⟨e, hz⟩
  · -- a character was typed: the character, then the right part again
    obtain ⟨h3, h4⟩ := Zip.mk.inj hz
    subst L' R'
    simp only [List.length_append, List.length_singleton] at h2
    rw [if_pos e, ← List.append_assoc P L [c]]
    exact (goes_print (P ++ L) R [c] (by intro b hb; rw [List.mem_singleton.mp hb]; exact hc e)
        (by simp only [List.length_append, List.length_singleton]; omega)).append
      (goes_rightEcho ((P ++ L) ++ [c]) (R.drop 1) (L ++ [c]) R hzr (by simp)
        (by simp only [List.length_append, List.length_singleton]; omega))
  · -- backspace: one column left, erase to the end of the row, the right part again
    obtain ⟨h3, h4⟩ := Zip.mk.inj hz
    subst L' R'
    obtain ⟨L0, x, rfl⟩ := exists_snoc_of_ne_nil hne
    have hL0 : (L0 ++ [x]).take ((L0 ++ [x]).length - 1) = L0 := by simp
    simp only [List.length_append, List.length_singleton] at h1
    rw [hL0, e, if_neg (by decide), if_pos rfl]
    have e2 : (P ++ L0) ++ [] = ((P ++ (L0 ++ [x])) ++ R).take (P ++ L0).length := by
      rw [List.append_nil, ← List.append_assoc P L0, List.append_assoc (P ++ L0), List.take_left' rfl]
    exact ((goes_LEFT (by simp) (by simp only [List.length_append, List.length_singleton]; omega)).append
        (goes_ERASE e2 (by simp only [List.length_append]; omega))).append
      (goes_rightEcho (P ++ L0) [] L0 R hzr (by simp) (by simp only [List.length_append]; omega))
  · -- delete: erase to the end of the row, what is left of the right part again
    obtain ⟨h3, h4⟩ := Zip.mk.inj hz
    subst L' R'
    simp only at h2
    rw [e, if_neg (by decide), if_neg (by decide), if_neg (by decide), if_neg (by decide), if_neg (by decide), if_pos rfl]
    have e2 : (P ++ L) ++ [] = ((P ++ L) ++ R).take (P ++ L).length := by rw [List.append_nil, List.take_left' rfl]
    exact (goes_ERASE e2 (by simp only [List.length_append]; omega)).append
      (goes_rightEcho (P ++ L) [] L (R.drop 1) (AllP_drop 1 hzr) (by simp) (by simp only [List.length_append]; omega))
  · -- left
    obtain ⟨L0, x, rfl⟩ := exists_snoc_of_ne_nil hne
    have hml : (Zip.mk (L0 ++ [x]) R).moveLeft.1 = ⟨L0, [x] ++ R⟩ := by simp [Zip.moveLeft]
    obtain ⟨h3, h4⟩ := Zip.mk.inj (hz.trans hml)
    subst L' R'
    rw [e, if_neg (by decide), if_neg (by decide), if_neg (by decide), if_pos rfl]
    rw [show (P ++ (L0 ++ [x])) ++ R = (P ++ L0) ++ ([x] ++ R) by simp]
    exact goes_LEFT (by simp) (by simp only [List.length_append] at h1 ⊢; omega)
  · -- right
    obtain ⟨x, R0, rfl⟩ := List.exists_cons_of_ne_nil hne
    have hmr : (Zip.mk L (x :: R0)).moveRight.1 = ⟨L ++ [x], R0⟩ := by simp [Zip.moveRight]
    obtain ⟨h3, h4⟩ := Zip.mk.inj (hz.trans hmr)
    subst L' R'
    rw [e, if_neg (by decide), if_neg (by decide), if_pos rfl]
    rw [show (P ++ (L ++ [x])) ++ R0 = (P ++ L) ++ (x :: R0) by simp]
    exact goes_RIGHT (by simp only [List.length_append, List.length_singleton]; omega)
      (by simp only [List.length_append, List.length_cons] at h1 h2 ⊢; omega)
  · -- another history line: back to the end of the prompt, erase, print the line
    simp only at hr hls
    subst hr hls
    rw [e, if_neg (by decide), if_neg (by decide), if_neg (by decide), if_neg (by decide), if_pos rfl]
    have hline : (Zip.mk L' []).line = L' := by simp [Zip.line]
    rw [hline]
    simp only [List.length_nil, Nat.add_zero] at h2
    have g1 : Goes ⟨(P ++ L) ++ R, (P ++ L).length, .ground⟩ (if L.length ≠ 0 then vt100Left L.length else [])
        ⟨(P ++ L) ++ R, P.length, .ground⟩ m := by
      by_cases h0 : L.length = 0
      · have : L = [] := List.eq_nil_of_length_eq_zero h0
        subst this
        rw [if_neg (fun h => h rfl), List.append_nil]
        exact goes_nil _ (by simp only; omega)
      · rw [if_pos h0]
        exact goes_left L.length (by omega) (by simp) (by simp only [List.length_append]; omega)
    have e2 : P ++ [] = ((P ++ L) ++ R).take P.length := by
      rw [List.append_nil, List.append_assoc, List.take_left' rfl]
    have g3 : Goes ⟨P ++ [], P.length, .ground⟩ (if L' ≠ [] then L' else []) ⟨(P ++ L') ++ [], (P ++ L').length, .ground⟩ m := by
      have e : (if L' ≠ [] then L' else []) = L' := by
        by_cases hl : L' = []
        · rw [if_neg (not_not_intro hl), hl]
        · rw [if_pos hl]
      rw [e]
      simpa using goes_print P [] L' hzl' (m := m) (by simp only [List.length_append]; omega)
    exact (g1.append (goes_ERASE e2 (by omega))).append g3
  · -- nothing to redraw
    obtain ⟨h3, h4⟩ := Zip.mk.inj hz
    subst L' R'
    have hcol : (Screen.mk ((P ++ L) ++ R) (P ++ L).length .ground).col ≤ m := by
      simp only [List.length_append]; omega
    have he : zEchoFor c ret lastsize ⟨L, R⟩ = [] := by
      unfold zEchoFor
      rcases e with e | e | e
      · rw [e]; rfl
      · rw [e]; rfl
      · exact absurd e hnn
    unfold zEchoFor at he
    rw [he]
    exact goes_nil _ hcol

theorem echo_hw (P : List Byte) (z z' : Zip) (c : Byte) (ret : Int) (lastsize : Nat)
    (hrel : EchoRel c ret lastsize z z') (hnn : ret ≠ RL_NEWLINE)
    (hc : ret = RL_ECHOCHAR → isPrintable c = true)
    (hzr : AllP z.right) (hzl' : AllP z'.left) :
    (showing P z).hw (zEchoFor c ret lastsize z') ≤ P.length + max z.len z'.len :=
  (echo_redraw P z z' c ret lastsize hrel hnn hc hzr hzl').2

end Screen

/-- what the reference editor holds is printable, so that a redraw of it occupies one cell per byte -/
structure RefP (r : Ref) : Prop where
  left : AllP r.z.left
  right : AllP r.z.right
  hist : ∀ e ∈ r.hist, AllP e

theorem AllP_getD (hist : List (List Byte)) (k : Nat) (h : ∀ e ∈ hist, AllP e) : AllP (hist.getD k []) := by
  rw [List.getD_eq_getElem?_getD]
  cases hk : hist[k]? with
  | none => exact AllP_nil
  | some e => exact h e (List.mem_of_getElem? hk)

theorem AllP_cstr (l : List Byte) (h : AllP l) : AllP (cstr l) :=
  fun x hx => h x ((List.takeWhile_prefix _).subset hx)

theorem remember_P (hist : List (List Byte)) (l : List Byte) (h : ∀ e ∈ hist, AllP e) (hl : AllP l) :
    ∀ e ∈ Ref.remember hist l, AllP e := by
  unfold Ref.remember
  split
  · intro e he
    have := List.dropLast_subset _ he
    rcases List.mem_cons.mp this with q | q
    · rw [q]; exact AllP_cstr l hl
    · exact h e q
  · exact h

theorem screenKey_printable (c : Byte) (h : screenKey c = true) (h1 : ¬ (c = CR ∨ c = LF)) (h2 : c ≠ BS) (h3 : c ≠ ESC)
    (h4 : c ≠ ETX) : Screen.isPrintable c = true := by
  unfold screenKey at h
  simp only [Bool.or_eq_true, decide_eq_true_eq] at h
  rcases h with h | h | h | h | h | h
  · exact h
  · exact absurd h h2
  · exact absurd (Or.inl h) h1
  · exact absurd (Or.inr h) h1
  · exact absurd h h3
  · exact absurd h h4

theorem refP_fresh (r : Ref) (h : RefP r) : RefP r.fresh := ⟨AllP_nil, AllP_nil, h.hist⟩

theorem refP_press (cap : Nat) (r : Ref) (k : Key) (hk : ∀ c, k = .char c → Screen.isPrintable c = true) (h : RefP r) :
    RefP (r.press cap k).1 := by
  obtain ⟨hl, hr, hh⟩ := h
  cases k with
  | char c =>
    simp only [Ref.press, Zip.putchar]
    split
    · exact ⟨AllP_append hl (fun b hb => by rw [List.mem_singleton.mp hb]; exact hk c rfl), hr, hh⟩
    · exact ⟨hl, hr, hh⟩
  | backspace => exact ⟨AllP_take _ hl, hr, hh⟩
  | delete => exact ⟨hl, AllP_drop _ hr, hh⟩
  | left =>
    simp only [Ref.press, Zip.moveLeft]
    split
    · exact ⟨hl, hr, hh⟩
    · exact ⟨AllP_take _ hl, AllP_append (AllP_drop _ hl) hr, hh⟩
  | right =>
    simp only [Ref.press, Zip.moveRight]
    split
    · exact ⟨hl, hr, hh⟩
    · exact ⟨AllP_append hl (AllP_take _ hr), AllP_drop _ hr, hh⟩
  | up =>
    simp only [Ref.press]
    split
    · exact ⟨AllP_getD _ _ hh, AllP_nil, hh⟩
    · exact ⟨hl, hr, hh⟩
  | down =>
    simp only [Ref.press]
    split
    · exact ⟨hl, hr, hh⟩
    · split
      · exact ⟨AllP_nil, AllP_nil, hh⟩
      · exact ⟨AllP_getD _ _ hh, AllP_nil, hh⟩
  | enter => exact ⟨hl, hr, remember_P _ _ hh (AllP_append hl hr)⟩
  | interrupt => exact ⟨hl, hr, hh⟩

theorem refP_rlKey (cap : Nat) (r : Ref) (c : Byte) (hc : screenKey c = true) (hx : c ≠ ETX) (h : RefP r) :
    RefP (r.rlKey cap c).1 := by
  rw [Ref.rlKey_eq]
  have hk := @decode_key r.esc r.prev c
  generalize decode r.esc r.prev c = d at hk ⊢
  obtain ⟨_ | k, st, p⟩ := d
  · exact ⟨h.left, h.right, h.hist⟩
  · have := refP_press cap r k (fun c' hc' => by
      obtain ⟨rfl, a, b, e⟩ := (hk rfl).2.2 c' hc'
      exact screenKey_printable c' hc a b e hx) h
    exact ⟨this.left, this.right, this.hist⟩

theorem refP_key (cap : Nat) (r : Ref) (c : Byte) (hc : screenKey c = true) (h : RefP r) : RefP (r.key cap c).1 := by
  unfold Ref.key
  by_cases hx : c = ETX
  · rw [if_pos hx]; exact refP_fresh r h
  · rw [if_neg hx]
    have := refP_rlKey cap r c hc hx h
    simp only
    split
    · exact refP_fresh _ this
    · exact this

/-! ### the screen invariant -/

/-- in state 2 the screen shows prompt ++ line with the cursor at the line's
cursor; while the prompt is still to be printed (state 0, or state 1 of
igris::vtermxx after Enter) the row is blank with the cursor in column 0 -/
def SInv (P : List Byte) (v : Vterm) (scr : Screen) (r : Ref) : Prop :=
  if v.state = 2 then scr = Screen.showing P r.z else scr = ⟨[], 0, .ground⟩

theorem showing_empty (P : List Byte) (hP : AllP P) : (Screen.mk [] 0 .ground).feed P = Screen.showing P Zip.empty := by
  have := Screen.feed_print [] [] P hP
  simp only [List.append_nil, List.length_nil, List.nil_append, List.drop_nil, Nat.zero_add] at this
  rw [this]
  simp [Screen.showing, Zip.empty]

theorem zlen_lt (cap depth : Nat) (rl : Readline) (r : Ref) (h : RSim cap depth rl r) : r.z.len + 1 ≤ cap := by
  have h1 := toZip_len _ h.lineOK
  rw [h.zip] at h1
  have h2 := h.lineOK.room
  have h3 := h.lcap
  omega

theorem showing_col (P : List Byte) (z : Zip) : (Screen.showing P z).col ≤ P.length + z.len := by
  simp only [Screen.showing, Zip.len, List.length_append]; omega

/-- `+ 1` in the bound: the `^C` printed after a line that may be full -/
theorem sstep (cap depth : Nat) (hd : 1 ≤ depth) (v : Vterm) (r : Ref) (c : Byte) (scr : Screen)
    (h : VSim cap depth v r) (hp : RefP r) (he : v.echo = true) (hP : AllP v.prompt) (hc : screenKey c = true)
    (hs : SInv v.prompt v scr r) :
    SInv v.prompt (v.key c).1 (scr.feed (v.key c).2.1) (r.key cap c).1 ∧ (v.key c).1.echo = true ∧
    (v.key c).1.prompt = v.prompt ∧ scr.hw (v.key c).2.1 ≤ v.prompt.length + cap + 1 := by
  obtain ⟨hst, hsig, hsim, _, _⟩ := h
  have hzl := zlen_lt cap depth _ _ hsim
  have hcol := showing_col v.prompt r.z
  -- a blank row takes the prompt; the screen after the (possibly pending) prompt shows the line
  have gP : Screen.Goes ⟨[], 0, .ground⟩ v.prompt (Screen.showing v.prompt Zip.empty) (v.prompt.length + cap + 1) := by
    have := Screen.goes_print [] [] v.prompt hP (m := v.prompt.length + cap + 1) (by simp only [List.nil_append]; omega)
    simpa [Screen.showing, Zip.empty] using this
  have gpre : Screen.Goes scr (if v.state = 2 then [] else v.prompt) (Screen.showing v.prompt r.z)
      (v.prompt.length + cap + 1) := by
    unfold SInv at hs
    by_cases h2 : v.state = 2
    · rw [if_pos h2] at hs ⊢; rw [hs]; exact Screen.goes_nil _ (by omega)
    · rw [if_neg h2] at hs ⊢
      have hz : r.z = Zip.empty := by
        rw [← hsim.zip, nrl_reset _ h2]
        exact reset_toZip _
      rw [hs, hz]; exact gP
  have gnl : Screen.Goes (Screen.showing v.prompt r.z) [CR, LF] ⟨[], 0, .ground⟩ (v.prompt.length + cap + 1) :=
    Screen.goes_CRLF (col := (Screen.showing v.prompt r.z).col) (by omega)
  have how : v.owed = if v.state = 2 then [] else v.prompt := by unfold Vterm.owed; rw [he]; rfl
  rw [key_eq_body v c hst, how]
  unfold keyBody Ref.key
  simp only [he, if_true]
  by_cases hcx : c = ETX
  · -- Ctrl-C: "^C", CR LF, a new prompt
    rw [if_pos hcx, if_pos hcx]
    have gcc : Screen.Goes (Screen.showing v.prompt r.z) [0x5e, 0x43, CR, LF] ⟨[], 0, .ground⟩
        (v.prompt.length + cap + 1) := by
      have g1 := Screen.goes_print (v.prompt ++ r.z.left) r.z.right [0x5e, 0x43]
        (by intro b hb; simp at hb; rcases hb with q | q <;> (rw [q]; decide)) (m := v.prompt.length + cap + 1)
        (by simp only [Zip.len] at hzl; simp only [List.length_append, List.length_cons, List.length_nil]; omega)
      exact g1.append (Screen.goes_CRLF (by simp only [Zip.len] at hzl; simp only [List.length_append, List.length_cons, List.length_nil]; omega))
    have g := gpre.append (gcc.append gP)
    exact ⟨by unfold SInv; rw [if_pos rfl, g.1]; rfl, trivial, trivial, g.2⟩
  · rw [if_neg hcx, if_neg hcx]
    obtain ⟨s1, s2, s3, s4⟩ := rstep cap depth hd v.nrl r c hsim
    have hzl' := zlen_lt cap depth _ _ s1
    by_cases hn : (v.nrl.putchar c).2 = RL_NEWLINE
    · -- Enter: CR LF (and the new prompt at once in the C variant)
      rw [if_pos hn, s3 hn]
      simp only
      by_cases hx : v.cxx = true
      · rw [if_pos hx]
        have g := gpre.append gnl
        exact ⟨by unfold SInv; rw [if_neg (show ¬ (1 = 2) by decide), g.1], trivial, trivial, g.2⟩
      · rw [if_neg hx]
        have g := gpre.append (gnl.append gP)
        exact ⟨by unfold SInv; rw [if_pos rfl, g.1]; rfl, trivial, trivial, g.2⟩
    · -- any other key: the redraw of `echo_redraw`
      rw [if_neg hn, s4 hn]
      simp only
      have hp' := refP_rlKey cap r c hc hcx hp
      have hpr : (v.nrl.putchar c).2 = RL_ECHOCHAR → Screen.isPrintable c = true := by
        intro hret
        have s2' := s2
        rw [hret] at s2'
        have hl := hp'.left
        rw [s2'.echochar] at hl
        exact hl c (by simp)
      have g := gpre.append ((Screen.echo_redraw v.prompt r.z (r.rlKey cap c).1.z c _ _ s2 hn hpr hp.right hp'.left).mono
        (by omega))
      rw [echoFor_eq _ _ _ s1.lineOK, s1.zip]
      exact ⟨by unfold SInv; rw [if_pos rfl, g.1], trivial, trivial, g.2⟩

theorem sinv_col (cap depth : Nat) (P : List Byte) (v : Vterm) (r : Ref) (scr : Screen) (h : VSim cap depth v r)
    (hs : SInv P v scr r) : scr.col ≤ P.length + cap + 1 := by
  unfold SInv at hs
  have hz := zlen_lt cap depth _ _ h.sim
  split at hs
  · rw [hs]; have := showing_col P r.z; omega
  · rw [hs]; exact Nat.zero_le _

theorem screen_run (cap depth : Nat) (hd : 1 ≤ depth) (v : Vterm) (r : Ref) (scr : Screen)
    (ks : List Byte) (h : VSim cap depth v r) (hp : RefP r) (he : v.echo = true) (hP : AllP v.prompt)
    (hk : ∀ k ∈ ks, screenKey k = true) (hs : SInv v.prompt v scr r) :
    SInv v.prompt (v.run ks) (scr.feed (v.echoed ks)) (r.run cap ks) ∧ VSim cap depth (v.run ks) (r.run cap ks) ∧
    scr.hw (v.echoed ks) ≤ v.prompt.length + cap + 1 := by
  induction ks generalizing v r scr with
  | nil => exact ⟨hs, h, sinv_col cap depth _ v r scr h hs⟩
  | cons c cs ih =>
    obtain ⟨s1, s2, s3, hw⟩ := sstep cap depth hd v r c scr h hp he hP (hk c (by simp)) hs
    have hv := (vstep cap depth hd v r c h).1
    have := ih (v.key c).1 (r.key cap c).1 (scr.feed (v.key c).2.1) hv (refP_key cap r c (hk c (by simp)) hp) s2
      (by rw [s3]; exact hP) (fun k hk' => hk k (by simp [hk'])) (by rw [s3]; exact s1)
    rw [s3] at this
    simp only [Vterm.echoed, Screen.feed_append, Screen.hw_append]
    exact ⟨this.1, this.2.1, Nat.max_le.mpr ⟨hw, this.2.2⟩⟩

theorem showing_line (P : List Byte) (s : Sline) (h : SlineOK s) :
    Screen.showing P s.toZip = ⟨P ++ s.text, P.length + s.cursor, .ground⟩ := by
  unfold Screen.showing
  rw [List.append_assoc, List.length_append, toZip_left_length _ h]
  have := toZip_line _ h
  unfold Zip.line at this
  rw [this]

theorem refP_init (depth : Nat) : RefP (Ref.init depth) :=
  ⟨AllP_nil, AllP_nil, by intro e he; simp [Ref.init] at he; rw [he.2]; exact AllP_nil⟩

theorem sinv_init (cap depth : Nat) (cxx : Bool) (prompt : List Byte) :
    SInv prompt (Vterm.init cap depth cxx prompt) Screen.blank (Ref.init depth) := by
  unfold SInv
  rw [if_neg (show ¬ ((Vterm.init cap depth cxx prompt).state = 2) from fun e => by simp [Vterm.init] at e)]
  rfl

/-- the statement of `screen_matches_partial` for any start satisfying the invariants -/
theorem screen_of_sim (cap depth : Nat) (P : List Byte) (v : Vterm) (r : Ref) (scr : Screen)
    (h : VSim cap depth v r) (hs : SInv P v scr r) :
    (v.state = 2 → scr = ⟨P ++ v.rl.line.text, P.length + v.rl.line.cursor, .ground⟩) ∧
    (v.state ≠ 2 → scr = ⟨[], 0, .ground⟩) := by
  unfold SInv at hs
  constructor
  · intro h2
    rw [if_pos h2] at hs
    have := h.sim
    rw [nrl_two _ h2] at this
    rw [hs, ← this.zip, showing_line _ _ this.lineOK]
  · intro h2
    rw [if_neg h2] at hs
    exact hs

theorem sstep_hw (cap depth : Nat) (hd : 1 ≤ depth) (v : Vterm) (r : Ref) (c : Byte) (scr : Screen)
    (h : VSim cap depth v r) (hp : RefP r) (he : v.echo = true) (hP : AllP v.prompt) (hc : screenKey c = true)
    (hs : SInv v.prompt v scr r) :
    scr.hw (v.key c).2.1 ≤ v.prompt.length + cap + 1 :=
  (sstep cap depth hd v r c scr h hp he hP hc hs).2.2.2

theorem run_hw (cap depth : Nat) (hd : 1 ≤ depth) (v : Vterm) (r : Ref) (scr : Screen)
    (ks : List Byte) (h : VSim cap depth v r) (hp : RefP r) (he : v.echo = true) (hP : AllP v.prompt)
    (hk : ∀ k ∈ ks, screenKey k = true) (hs : SInv v.prompt v scr r) (hc0 : scr.col ≤ v.prompt.length + cap + 1) :
    scr.hw (v.echoed ks) ≤ v.prompt.length + cap + 1 :=
  (screen_run cap depth hd v r scr ks h hp he hP hk hs).2.2

end Igris.C15
