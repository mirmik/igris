/-
  C11 — the byte-level qsort, bsearch and upper_bound / lower_bound (`ModelBytes.lean`) are the
  element-level ones (`Model.lean`) on the chunks of `size` bytes, for every `size ≥ 1`.
-/
import IgrisModel.C11.ModelBytes
import IgrisModel.C11.Sort
namespace Igris.C11
open Igris.Proto (Byte)

def Uniform (size : Nat) (a : List (List Byte)) : Prop := ∀ x ∈ a, x.length = size

section chunks
variable {size : Nat}

theorem off_succ_le {i n : Nat} (hi : i < n) : i * size + size ≤ n * size := by
  rw [← Nat.add_one_mul]; exact Nat.mul_le_mul_right size hi

theorem Uniform.tail {x : List Byte} {a : List (List Byte)} (h : Uniform size (x :: a)) : Uniform size a :=
  fun y hy => h y (List.mem_cons_of_mem _ hy)

theorem Uniform.head {x : List Byte} {a : List (List Byte)} (h : Uniform size (x :: a)) : x.length = size :=
  h x List.mem_cons_self

theorem Uniform.take {a : List (List Byte)} (h : Uniform size a) (k : Nat) : Uniform size (a.take k) :=
  fun y hy => h y (List.mem_of_mem_take hy)

theorem Uniform.drop {a : List (List Byte)} (h : Uniform size a) (k : Nat) : Uniform size (a.drop k) :=
  fun y hy => h y (List.mem_of_mem_drop hy)

theorem Uniform.append {a b : List (List Byte)} (ha : Uniform size a) (hb : Uniform size b) : Uniform size (a ++ b) := by
  intro y hy
  rcases List.mem_append.1 hy with h | h
  · exact ha y h
  · exact hb y h

theorem Uniform.getElem {a : List (List Byte)} (h : Uniform size a) (i : Nat) (hi : i < a.length) : a[i].length = size :=
  h _ (List.getElem_mem hi)

theorem Uniform.set {a : List (List Byte)} (h : Uniform size a) (i : Nat) (x : List Byte) (hx : x.length = size) :
    Uniform size (a.set i x) := by
  intro y hy
  rcases List.mem_or_eq_of_mem_set hy with h' | h'
  · exact h y h'
  · rw [h']; exact hx

theorem Uniform.perm {a b : List (List Byte)} (h : Uniform size a) (p : b.Perm a) : Uniform size b :=
  fun y hy => h y (p.mem_iff.1 hy)

theorem flatten_length : ∀ (a : List (List Byte)), Uniform size a → a.flatten.length = a.length * size := by
  intro a
  induction a with
  | nil => intro _; simp
  | cons x xs ih =>
    intro h
    simp only [List.flatten_cons, List.length_append, List.length_cons, ih h.tail, h.head, Nat.add_mul, Nat.one_mul]
    omega

theorem flatten_take : ∀ (a : List (List Byte)) (k : Nat), Uniform size a → a.flatten.take (k * size) = (a.take k).flatten := by
  intro a
  induction a with
  | nil => intro k _; simp
  | cons x xs ih =>
    intro k h
    cases k with
    | zero => simp
    | succ k' =>
      simp only [List.flatten_cons, List.take_succ_cons]
      have : (k' + 1) * size = x.length + k' * size := by rw [h.head, Nat.add_mul, Nat.one_mul]; omega
      rw [this, List.take_length_add_append, ih k' h.tail]

theorem flatten_drop : ∀ (a : List (List Byte)) (k : Nat), Uniform size a → a.flatten.drop (k * size) = (a.drop k).flatten := by
  intro a k h
  have e : a.flatten.take (k * size) ++ a.flatten.drop (k * size) = (a.take k).flatten ++ (a.drop k).flatten := by
    rw [List.take_append_drop, ← List.flatten_append, List.take_append_drop]
  rw [flatten_take a k h] at e
  exact List.append_cancel_left e

theorem elemAt_flatten (hs : 0 < size) (a : List (List Byte)) (h : Uniform size a) (i : Nat) :
    elemAt size a.flatten (i * size) = a[i]? := by
  unfold elemAt
  rw [flatten_length a h]
  by_cases hi : i < a.length
  · rw [if_pos (off_succ_le hi), flatten_drop a i h, List.drop_eq_getElem_cons hi, List.flatten_cons,
      List.take_left' (h.getElem i hi), List.getElem?_eq_getElem hi]
  · have hge : a.length ≤ i := by omega
    have : ¬ (i * size + size ≤ a.length * size) := by
      have : a.length * size ≤ i * size := Nat.mul_le_mul_right size hge
      omega
    rw [if_neg this, List.getElem?_eq_none hge]

theorem blit_flatten (a : List (List Byte)) (h : Uniform size a) (i : Nat) (hi : i < a.length) (x : List Byte)
    (hx : x.length = size) : blit a.flatten (i * size) x = some (a.set i x).flatten := by
  unfold blit
  rw [hx, flatten_length a h, if_pos (off_succ_le hi), ← Nat.add_one_mul, flatten_take a i h, flatten_drop a (i + 1) h,
    List.set_eq_take_append_cons_drop, if_pos hi]
  simp only [List.flatten_append, List.flatten_cons, List.append_assoc]

/-- the three `memcpy`s of `swap`, also for `i = j` -/
theorem swapB_flatten (hs : 0 < size) (a : List (List Byte)) (h : Uniform size a) (i j : Nat) :
    swapB size a.flatten (i * size) (j * size) = (swapAt a i j).map List.flatten := by
  unfold swapB swapAt
  rw [elemAt_flatten hs a h j, elemAt_flatten hs a h i]
  by_cases hij : i < a.length ∧ j < a.length
  · obtain ⟨hi, hj⟩ := hij
    rw [List.getElem?_eq_getElem hj, List.getElem?_eq_getElem hi]
    simp only
    rw [blit_flatten a h j hj a[i] (h.getElem i hi)]
    simp only
    rw [blit_flatten (a.set j a[i]) (h.set j _ (h.getElem i hi)) i (by simpa using hi) a[j] (h.getElem j hj)]
    rw [dif_pos ⟨hi, hj⟩]
    simp only [Option.map_some]
    by_cases e : i = j
    · subst e; simp
    · rw [List.set_comm _ _ (fun h' => e h'.symm)]
  · rw [dif_neg hij]
    by_cases hj : j < a.length
    · have hi : ¬ i < a.length := fun hi => hij ⟨hi, hj⟩
      rw [List.getElem?_eq_getElem hj, List.getElem?_eq_none (by omega)]
      rfl
    · rw [List.getElem?_eq_none (by omega)]
      rfl

theorem exists_chunks : ∀ (n : Nat) (mem : List Byte), mem.length = n * size →
    ∃ a : List (List Byte), Uniform size a ∧ a.length = n ∧ a.flatten = mem := by
  intro n
  induction n with
  | zero =>
    intro mem h
    refine ⟨[], fun _ h => (by cases h), rfl, ?_⟩
    have : mem.length = 0 := by simpa using h
    simp [List.eq_nil_of_length_eq_zero this]
  | succ n ih =>
    intro mem h
    obtain ⟨a, ha, hn, hf⟩ := ih (mem.drop size) (by rw [List.length_drop, h, Nat.add_mul, Nat.one_mul]; omega)
    refine ⟨mem.take size :: a, ?_, by simp [hn], ?_⟩
    · intro y hy
      rcases List.mem_cons.1 hy with h' | h'
      · rw [h', List.length_take, h, Nat.add_mul, Nat.one_mul]; omega
      · exact ha y h'
    · rw [List.flatten_cons, hf, List.take_append_drop]

end chunks

/-! ## pointer arithmetic: byte offsets are `index * size` -/

section arith
variable {size : Nat}

theorem off_le_iff (hs : 0 < size) (i : Nat) (j : Int) : ((i * size : Nat) : Int) ≤ j * (size : Int) ↔ (i : Int) ≤ j := by
  rw [Int.natCast_mul]
  exact Int.mul_le_mul_right (by omega)

theorem off_neg_iff (hs : 0 < size) (j : Int) : j * (size : Int) < 0 ↔ j < 0 := by
  have h := Int.mul_lt_mul_right (b := j) (c := 0) (show (0 : Int) < (size : Int) by omega)
  rwa [Int.zero_mul] at h

theorem off_toNat (j : Int) (hj : 0 ≤ j) : (j * (size : Int)).toNat = j.toNat * size := by
  rw [Int.toNat_mul hj (Int.natCast_nonneg size), Int.toNat_natCast]

theorem off_pred (j : Int) : j * (size : Int) - (size : Int) = (j - 1) * (size : Int) := by
  rw [Int.sub_mul, Int.one_mul]

theorem flatten_div (hs : 0 < size) (a : List (List Byte)) (h : Uniform size a) : a.flatten.length / size = a.length := by
  rw [flatten_length a h, Nat.mul_div_cancel _ hs]

end arith

/-! ## the scans, the partition loop, the small networks -/

section refine
variable {size : Nat} (cmp : List Byte → List Byte → Int) (key : List Byte)

theorem scanUpB_refines (hs : 0 < size) (a : List (List Byte)) (h : Uniform size a) : ∀ (f i : Nat),
    scanUpB cmp key size a.flatten f (i * size) = (scanUp cmp key a f i).map (· * size) := by
  intro f
  induction f with
  | zero => intro i; rfl
  | succ f ih =>
    intro i
    unfold scanUpB scanUp
    rw [elemAt_flatten hs a h i]
    cases a[i]? with
    | none => rfl
    | some x =>
      simp only
      by_cases hc : cmp x key < 0
      · rw [if_pos hc, if_pos hc, ← Nat.add_one_mul, ih]
      · rw [if_neg hc, if_neg hc]; rfl

theorem scanDownB_refines (hs : 0 < size) (a : List (List Byte)) (h : Uniform size a) : ∀ (f : Nat) (j : Int),
    scanDownB cmp key size a.flatten f (j * (size : Int)) = (scanDown cmp key a f j).map (· * (size : Int)) := by
  intro f
  induction f with
  | zero => intro j; rfl
  | succ f ih =>
    intro j
    unfold scanDownB scanDown
    by_cases hj : j < 0
    · rw [if_pos ((off_neg_iff hs j).2 hj), if_pos hj]; rfl
    · rw [if_neg (fun h' => hj ((off_neg_iff hs j).1 h')), if_neg hj]
      rw [off_toNat j (by omega), elemAt_flatten hs a h j.toNat]
      cases a[j.toNat]? with
      | none => rfl
      | some x =>
        simp only
        by_cases hc : cmp key x < 0
        · rw [if_pos hc, if_pos hc, off_pred, ih]
        · rw [if_neg hc, if_neg hc]; rfl

theorem swapAt_uniform (a a' : List (List Byte)) (h : Uniform size a) (i j : Nat) (hsw : swapAt a i j = some a') :
    Uniform size a' := by
  unfold swapAt at hsw
  split at hsw
  · rename_i hij
    simp only [Option.some.injEq] at hsw
    rw [← hsw]
    exact (h.set i _ (h.getElem j hij.2)).set j _ (h.getElem i hij.1)
  · cases hsw

theorem partLoopB_refines (hs : 0 < size) : ∀ (f : Nat) (a : List (List Byte)), Uniform size a → ∀ (i : Nat) (j : Int),
    partLoopB cmp key size f a.flatten (i * size) (j * (size : Int)) =
      (partLoop cmp key f a i j).map fun r => (r.1.flatten, r.2.1 * size, r.2.2 * (size : Int)) := by
  intro f
  induction f with
  | zero => intro a _ i j; rfl
  | succ f ih =>
    intro a h i j
    unfold partLoopB partLoop
    by_cases hij : (i : Int) ≤ j
    · rw [if_pos ((off_le_iff hs i j).2 hij), if_pos hij]
      rw [flatten_div hs a h, scanUpB_refines cmp key hs a h]
      cases scanUp cmp key a (a.length + 1) i with
      | none => rfl
      | some i' =>
        simp only [Option.map_some]
        rw [scanDownB_refines cmp key hs a h]
        cases scanDown cmp key a (a.length + 1) j with
        | none => rfl
        | some j' =>
          simp only [Option.map_some]
          by_cases hij' : (i' : Int) ≤ j'
          · rw [if_pos ((off_le_iff hs i' j').2 hij'), if_pos hij']
            rw [off_toNat j' (by omega), swapB_flatten hs a h]
            cases hsw : swapAt a i' j'.toNat with
            | none => rfl
            | some a' =>
              simp only [Option.map_some]
              rw [← Nat.add_one_mul, off_pred]
              exact ih a' (swapAt_uniform a a' h _ _ hsw) (i' + 1) (j' - 1)
          · rw [if_neg (fun h' => hij' ((off_le_iff hs i' j').1 h')), if_neg hij']
            exact ih a h i' j'
    · rw [if_neg (fun h' => hij ((off_le_iff hs i j).1 h')), if_neg hij]
      rfl

end refine

section networks
variable {size : Nat} (cmp : List Byte → List Byte → Int)

theorem elemAt_flatten_of_lt (hs : 0 < size) (a : List (List Byte)) (h : Uniform size a) (i : Nat) (hi : i < a.length) :
    elemAt size a.flatten (i * size) = some a[i] := by
  rw [elemAt_flatten hs a h i, List.getElem?_eq_getElem hi]

theorem swapB_flatten_of_lt (hs : 0 < size) (a : List (List Byte)) (h : Uniform size a) (p q : Nat)
    (hp : p < a.length) (hq : q < a.length) :
    swapB size a.flatten (p * size) (q * size) = some ((a.set p a[q]).set q a[p]).flatten := by
  rw [swapB_flatten hs a h p q]
  unfold swapAt
  rw [dif_pos ⟨hp, hq⟩]
  rfl

theorem cswapB_flatten (hs : 0 < size) (a : List (List Byte)) (h : Uniform size a) (p q : Nat)
    (hp : p < a.length) (hq : q < a.length) :
    cswapB cmp size a.flatten (p * size) (q * size) =
      some (if cmp a[q] a[p] < 0 then (a.set p a[q]).set q a[p] else a).flatten := by
  unfold cswapB
  rw [elemAt_flatten_of_lt hs a h q hq, elemAt_flatten_of_lt hs a h p hp]
  simp only
  by_cases hc : cmp a[q] a[p] < 0
  · rw [if_pos hc, if_pos hc, swapB_flatten_of_lt hs a h p q hp hq]
  · rw [if_neg hc, if_neg hc]

theorem uniform3 {x y z : List Byte} (hx : x.length = size) (hy : y.length = size) (hz : z.length = size) :
    Uniform size [x, y, z] := by
  intro w hw
  simp only [List.mem_cons, List.not_mem_nil, or_false] at hw
  rcases hw with rfl | rfl | rfl <;> assumption

/-- the second and third compare-exchange of the 3-element network -/
theorem network3B_refines (hs : 0 < size) (x y z : List Byte) (hx : x.length = size) (hy : y.length = size) (hz : z.length = size) :
    (match elemAt size [x, y, z].flatten (size * 2), elemAt size [x, y, z].flatten size with
      | some z', some y' =>
        if cmp z' y' < 0 then
          match swapB size [x, y, z].flatten size (size * 2) with
          | none => none
          | some mem => cswapB cmp size mem 0 size
        else some [x, y, z].flatten
      | _, _ => none) =
    some (if cmp z y < 0 then (if cmp z x < 0 then [z, x, y] else [x, z, y]) else [x, y, z]).flatten := by
  have hu := uniform3 hx hy hz
  have e2 : size * 2 = 2 * size := Nat.mul_comm _ _
  have e1 : size = 1 * size := (Nat.one_mul _).symm
  have r2 := elemAt_flatten_of_lt hs [x, y, z] hu 2 (by simp)
  have r1 := elemAt_flatten_of_lt hs [x, y, z] hu 1 (by simp)
  have sw := swapB_flatten_of_lt hs [x, y, z] hu 1 2 (by simp) (by simp)
  rw [← e2, ← e1] at sw
  rw [← e2] at r2
  rw [← e1] at r1
  rw [r2, r1]
  simp only [List.getElem_cons_succ, List.getElem_cons_zero]
  by_cases h1 : cmp z y < 0
  · rw [if_pos h1, if_pos h1, sw]
    simp only [List.getElem_cons_succ, List.getElem_cons_zero, List.set_cons_succ, List.set_cons_zero]
    have hu' := uniform3 hx hz hy
    have cs := cswapB_flatten cmp hs [x, z, y] hu' 0 1 (by simp) (by simp)
    rw [Nat.zero_mul, ← e1] at cs
    rw [cs]
    simp only [List.getElem_cons_succ, List.getElem_cons_zero, List.set_cons_succ, List.set_cons_zero]
  · rw [if_neg h1, if_neg h1]

theorem smallSortB_refines (hs : 0 < size) (a : List (List Byte)) (h : Uniform size a) (hlen : a.length < 4) :
    smallSortB cmp size a.length a.flatten = some (smallSort cmp a).flatten := by
  have e1 : size = 1 * size := (Nat.one_mul _).symm
  match a, h, hlen with
  | [], _, _ => simp [smallSortB, smallSort]
  | [x], _, _ => simp [smallSortB, smallSort]
  | [x, y], h, _ =>
    have cs := cswapB_flatten cmp hs [x, y] h 0 1 (by simp) (by simp)
    rw [Nat.zero_mul, ← e1] at cs
    unfold smallSortB
    simp only [List.length_cons, List.length_nil, if_true]
    rw [cs]
    simp only [List.getElem_cons_succ, List.getElem_cons_zero, List.set_cons_succ, List.set_cons_zero, smallSort]
  | [x, y, z], h, _ =>
    have hx : x.length = size := h x (by simp)
    have hy : y.length = size := h y (by simp)
    have hz : z.length = size := h z (by simp)
    have cs := cswapB_flatten cmp hs [x, y, z] h 0 1 (by simp) (by simp)
    rw [Nat.zero_mul, ← e1] at cs
    unfold smallSortB
    simp only [List.length_cons, List.length_nil]
    rw [if_pos trivial, cs]
    simp only [List.getElem_cons_succ, List.getElem_cons_zero, List.set_cons_succ, List.set_cons_zero, smallSort]
    by_cases hc : cmp y x < 0
    · rw [if_pos hc, if_pos hc]
      simp only
      exact network3B_refines cmp hs y x z hy hx hz
    · rw [if_neg hc, if_neg hc]
      simp only
      exact network3B_refines cmp hs x y z hx hy hz
  | _ :: _ :: _ :: _ :: _, _, hlen => exact absurd hlen (by simp only [List.length_cons]; omega)

end networks

section uniform
variable {size : Nat} (cmp : List Byte → List Byte → Int)

theorem partLoop_uniform (key : List Byte) : ∀ (f : Nat) (a : List (List Byte)) (i : Nat) (j : Int) (r : List (List Byte) × Nat × Int),
    Uniform size a → partLoop cmp key f a i j = some r → Uniform size r.1 := by
  intro f a i j r hu h
  fun_induction partLoop cmp key f a i j with
  | case1 => cases h
  | case2 => cases h
  | case3 => cases h
  | case4 => cases h
  | case5 f a i j hij i' hsu d hsd hc a' hsw ih => exact ih (swapAt_uniform a a' hu _ _ hsw) h
  | case6 f a i j hij i' hsu d hsd hc ih => exact ih hu h
  | case7 => cases h; exact hu

/-- the array after the left recursive call of qsort (or after its guard skipped it) -/
theorem leftCall_uniform (f : Nat) (rs1 : List Int) (a1 a2 : List (List Byte)) (rs2 : List Int) (j : Int) (hu1 : Uniform size a1)
    (ih : ∀ r, Uniform size (a1.take (j.toNat + 1)) → qsortF cmp f rs1 (a1.take (j.toNat + 1)) = some r → Uniform size r.1)
    (hl : (if j > 0 then (qsortF cmp f rs1 (a1.take (j.toNat + 1))).map fun (s, rs) => (s ++ a1.drop (j.toNat + 1), rs)
        else some (a1, rs1)) = some (a2, rs2)) : Uniform size a2 := by
  split at hl
  · cases hq : qsortF cmp f rs1 (a1.take (j.toNat + 1)) with
    | none => rw [hq] at hl; cases hl
    | some r1 =>
      rw [hq] at hl
      cases hl
      exact (ih r1 (hu1.take _) hq).append (hu1.drop _)
  · cases hl; exact hu1

theorem qsortF_uniform : ∀ (fuel : Nat) (rs : List Int) (a : List (List Byte)) (r : List (List Byte) × List Int),
    Uniform size a → qsortF cmp fuel rs a = some r → Uniform size r.1 := by
  intro fuel rs a
  fun_induction qsortF cmp fuel rs a with
  | case1 => intro r _ h; cases h
  | case2 fuel rs a _ hsmall => intro r hu h; cases h; exact hu.perm (smallSort_perm cmp a)
  | case3 => intro r _ h; cases h
  | case4 => intro r _ h; cases h
  | case5 => intro r _ h; cases h
  | case6 fuel rs a _ h4 p rs1 hr key hkey a1 i j hpl l a2 rs2 hl hi ih1 ih2 =>
    intro r hu h
    have hu2 := leftCall_uniform cmp fuel rs1 a1 a2 rs2 j (partLoop_uniform cmp key _ _ _ _ _ hu hpl) ih1 hl
    cases hq : qsortF cmp fuel rs2 (a2.drop i) with
    | none => rw [hq] at h; cases h
    | some r2 =>
      rw [hq] at h
      cases h
      exact (hu2.take _).append (ih2 r2 (hu2.drop _) hq)
  | case7 fuel rs a _ h4 p rs1 hr key hkey a1 i j hpl l a2 rs2 hl hi ih1 =>
    intro r hu h
    cases h
    exact leftCall_uniform cmp fuel rs1 a1 a2 rs2 j (partLoop_uniform cmp key _ _ _ _ _ hu hpl) ih1 hl

end uniform

section main
variable {size : Nat} (cmp : List Byte → List Byte → Int)

theorem last_off (n : Nat) (hn : 1 ≤ n) : ((size * (n - 1) : Nat) : Int) = ((n : Int) - 1) * (size : Int) := by
  rw [Int.natCast_mul, Int.natCast_sub hn, Int.mul_comm]
  rfl

/-- qsort.c on the bytes of an array of `size`-byte elements is the
element-level model on the elements — same result, same faults, same use of
the pivot stream — for every element size ≥ 1, every comparator, every fuel -/
theorem qsortFB_refines (hs : 0 < size) : ∀ (fuel : Nat) (rs : List Int) (a : List (List Byte)), Uniform size a →
    qsortFB cmp size fuel rs a.flatten = (qsortF cmp fuel rs a).map fun r => (r.1.flatten, r.2) := by
  intro fuel
  induction fuel with
  | zero => intro rs a _; rfl
  | succ f ih =>
    intro rs a hu
    unfold qsortFB qsortF
    simp only [flatten_div hs a hu]
    by_cases hsmall : a.length < 4
    · rw [if_pos hsmall, if_pos hsmall, smallSortB_refines cmp hs a hu hsmall]
      rfl
    · rw [if_neg hsmall, if_neg hsmall]
      rw [elemAt_flatten hs a hu]
      cases hkey : a[pivotIndex (nextRand rs).1 a.length]? with
      | none => rfl
      | some key =>
        simp only
        have e0 : (0 : Nat) = 0 * size := (Nat.zero_mul _).symm
        rw [last_off a.length (by omega)]
        conv => lhs; rw [e0]
        rw [partLoopB_refines cmp key hs (a.length + 2) a hu 0 ((a.length : Int) - 1)]
        cases hpl : partLoop cmp key (a.length + 2) a 0 ((a.length : Int) - 1) with
        | none => rfl
        | some r =>
          obtain ⟨a1, i, j⟩ := r
          have hu1 : Uniform size a1 := partLoop_uniform cmp key _ _ _ _ _ hu hpl
          simp only [Option.map_some]
          have hleft : (if j * (size : Int) > 0 then
                Option.map (fun x => (x.1 ++ List.drop (((j * (size : Int)).toNat / size + 1) * size) a1.flatten, x.2))
                  (qsortFB cmp size f (nextRand rs).2 (List.take (((j * (size : Int)).toNat / size + 1) * size) a1.flatten))
              else some (a1.flatten, (nextRand rs).2)) =
              (if j > 0 then
                Option.map (fun x => (x.1 ++ List.drop (j.toNat + 1) a1, x.2)) (qsortF cmp f (nextRand rs).2 (List.take (j.toNat + 1) a1))
              else some (a1, (nextRand rs).2)).map fun r => (r.1.flatten, r.2) := by
            by_cases hj : j > 0
            · have hj' : j * (size : Int) > 0 := Int.mul_pos hj (by omega)
              rw [if_pos hj', if_pos hj]
              rw [off_toNat j (by omega), Nat.mul_div_cancel _ hs, flatten_take a1 _ hu1, flatten_drop a1 _ hu1,
                ih _ _ (hu1.take _)]
              cases qsortF cmp f (nextRand rs).2 (List.take (j.toNat + 1) a1) with
              | none => rfl
              | some r1 => simp only [Option.map_some, List.flatten_append]
            · have hj' : ¬ j * (size : Int) > 0 := by
                intro h'
                have : j * (size : Int) ≤ 0 := Int.mul_nonpos_of_nonpos_of_nonneg (by omega) (by omega)
                omega
              rw [if_neg hj', if_neg hj]
              rfl
          rw [hleft]
          cases hl : (if j > 0 then
                Option.map (fun x => (x.1 ++ List.drop (j.toNat + 1) a1, x.2)) (qsortF cmp f (nextRand rs).2 (List.take (j.toNat + 1) a1))
              else some (a1, (nextRand rs).2)) with
          | none => rfl
          | some r2 =>
            obtain ⟨a2, rs2⟩ := r2
            have hu2 : Uniform size a2 :=
              leftCall_uniform cmp f _ a1 a2 rs2 j hu1 (fun r => qsortF_uniform cmp _ _ _ r) hl
            simp only [Option.map_some]
            by_cases hi : i < a.length - 1
            · have hi' : i * size < (a.length - 1) * size := Nat.mul_lt_mul_of_pos_right hi hs
              rw [if_pos hi', if_pos hi, flatten_drop a2 _ hu2, flatten_take a2 _ hu2, ih _ _ (hu2.drop _)]
              cases qsortF cmp f rs2 (List.drop i a2) with
              | none => rfl
              | some r3 => simp only [Option.map_some, List.flatten_append]
            · have hi' : ¬ i * size < (a.length - 1) * size := by
                intro h'
                exact hi (Nat.lt_of_mul_lt_mul_right h')
              rw [if_neg hi', if_neg hi]
              rfl

end main

/-! ## bsearch / upper_bound / lower_bound on bytes -/

section bsearchB
variable {size : Nat} {κ : Type} (cmp : κ → List Byte → Int) (key : κ)

/-- `left + ((right - left) / (size << 1) * size)` is the element-index midpoint -/
theorem mid_off (hs : 0 < size) (l r : Nat) :
    l * size + ((r * size - l * size) / (size * 2) * size) = (l + (r - l) / 2) * size := by
  rw [← Nat.sub_mul, Nat.mul_comm size 2, Nat.mul_comm (r - l) size, Nat.mul_comm 2 size,
    Nat.mul_div_mul_left _ _ hs, Nat.add_mul]

theorem bsLoopB_refines (hs : 0 < size) (a : List (List Byte)) (h : Uniform size a) : ∀ (f l r : Nat),
    bsLoopB cmp key size a.flatten f (l * size) (r * size) =
      (bsLoop cmp key a f l r).map fun p => (p.1 * size, p.2 * size) := by
  intro f
  induction f with
  | zero => intro l r; rfl
  | succ f ih =>
    intro l r
    unfold bsLoopB bsLoop
    by_cases hlr : l + 1 < r
    · have : l * size + size < r * size := by
        rw [← Nat.add_one_mul]; exact Nat.mul_lt_mul_of_pos_right hlr hs
      rw [if_pos this, if_pos hlr]
      simp only
      rw [mid_off hs, elemAt_flatten hs a h]
      cases a[l + (r - l) / 2]? with
      | none => rfl
      | some x =>
        simp only
        by_cases hc : cmp key x < 0
        · rw [if_pos hc, if_pos hc, ih]
        · rw [if_neg hc, if_neg hc, ih]
    · have : ¬ l * size + size < r * size := by
        rw [← Nat.add_one_mul]; intro h'; exact hlr (Nat.lt_of_mul_lt_mul_right h')
      rw [if_neg this, if_neg hlr]
      rfl

theorem bsearchB_refines (hs : 0 < size) (a : List (List Byte)) (h : Uniform size a) :
    bsearchB cmp key size a.flatten a.length = (bsearch cmp key a).map fun r => r.map (· * size) := by
  unfold bsearchB bsearch
  by_cases h0 : a.length = 0
  · rw [if_pos h0, if_pos h0]; rfl
  · rw [if_neg h0, if_neg h0]
    have e0 : (0 : Nat) = 0 * size := (Nat.zero_mul _).symm
    rw [Nat.mul_comm size a.length]
    conv => lhs; rw [e0]
    rw [bsLoopB_refines cmp key hs a h]
    cases bsLoop cmp key a (a.length + 1) 0 a.length with
    | none => rfl
    | some p =>
      obtain ⟨left, right⟩ := p
      simp only [Option.map_some]
      rw [elemAt_flatten hs a h]
      cases a[left]? with
      | none => rfl
      | some x =>
        simp only
        by_cases hc : cmp key x = 0
        · rw [if_pos hc, if_pos hc]; rfl
        · rw [if_neg hc, if_neg hc]; rfl

theorem bndLoopB_refines (hs : 0 < size) (p : List Byte → Bool) (a : List (List Byte)) (h : Uniform size a) : ∀ (f l r : Nat),
    bndLoopB size a.flatten p f (l * size) (r * size) = (bndLoop p a f l r).map (· * size) := by
  intro f
  induction f with
  | zero => intro l r; rfl
  | succ f ih =>
    intro l r
    unfold bndLoopB bndLoop
    by_cases hlr : l < r
    · rw [if_pos (Nat.mul_lt_mul_of_pos_right hlr hs), if_pos hlr]
      simp only
      rw [mid_off hs, elemAt_flatten hs a h]
      cases a[l + (r - l) / 2]? with
      | none => rfl
      | some x =>
        simp only
        cases p x with
        | true => simp only [if_true]; rw [ih]
        | false => simp only [Bool.false_eq_true, if_false]; rw [← Nat.add_one_mul, ih]
    · have : ¬ l * size < r * size := fun h' => hlr (Nat.lt_of_mul_lt_mul_right h')
      rw [if_neg this, if_neg hlr]
      rfl

theorem bndLoopB_refines_zero (hs : 0 < size) (p : List Byte → Bool) (a : List (List Byte)) (h : Uniform size a) (f : Nat) :
    bndLoopB size a.flatten p f 0 (size * a.length) = (bndLoop p a f 0 a.length).map (· * size) := by
  have := bndLoopB_refines hs p a h f 0 a.length
  rwa [Nat.zero_mul, Nat.mul_comm a.length size] at this

theorem boundsB_refine (hs : 0 < size) (a : List (List Byte)) (h : Uniform size a) :
    upperBoundB cmp key size a.flatten a.length = (upperBound cmp key a).map (· * size) ∧
    lowerBoundB cmp key size a.flatten a.length = (lowerBound cmp key a).map (· * size) :=
  ⟨bndLoopB_refines_zero hs _ a h _, bndLoopB_refines_zero hs _ a h _⟩

end bsearchB

end Igris.C11
