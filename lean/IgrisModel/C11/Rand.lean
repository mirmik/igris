/-
  C11 — rand.c: the recurrence, and the cycle the generator enters from its initial state.
-/
import IgrisModel.C11.Model
namespace Igris.C11

theorem randSeed_lt (s : Nat) : randSeed s < 204814687 := by
  unfold randSeed; exact Nat.mod_lt _ (by decide)

theorem randSeed_formula (s : Nat) : randSeed s = (s * 16546134871 + 513585871) % 2 ^ 32 % 204814687 := by
  unfold randSeed
  rw [Nat.mod_mod_of_dvd _ (by decide : (2 : Nat) ^ 32 ∣ 2 ^ 64)]

theorem randSeed_high_bits (s k : Nat) : randSeed (s + k * 2 ^ 32) = randSeed s := by
  rw [randSeed_formula, randSeed_formula]
  have : (s + k * 2 ^ 32) * 16546134871 + 513585871 = (s * 16546134871 + 513585871) + 2 ^ 32 * (k * 16546134871) := by
    omega
  rw [this, Nat.add_mul_mod_self_left]

theorem randOut_of_lt (x : Nat) (h : x < 2 ^ 31) : randOut x = ((x / 2 : Nat) : Int) := by
  unfold randOut asSigned
  have h1 : x % 2 ^ 32 = x := Nat.mod_eq_of_lt (by omega)
  rw [h1]
  have h2 : x < 2 ^ (32 - 1) := by simpa using h
  simp only [h2, if_true]
  rw [Int.shiftRight_eq_div_pow]
  norm_cast

/-- `n` calls of `rand()`: the state afterwards -/
def randIter : Nat → Nat → Nat
  | 0, x => x
  | n + 1, x => randIter n (randSeed x)

-- Stated through `id`: asked for `randIter (n + 1) x = randIter n (randSeed x)` directly, the kernel
-- compares the arguments of the two `randIter` applications, last one first, and normalising
-- `randSeed x` at a free `x` is unary arithmetic against `2 ^ 64`.  With different heads it unfolds
-- the left side first and the two sides meet.
theorem randIter_succ (n x : Nat) : randIter (n + 1) x = randIter n (randSeed x) :=
  have h : randIter (n + 1) x = id (randIter n (randSeed x)) := rfl
  h

theorem randIter_add (m n x : Nat) : randIter (m + n) x = randIter n (randIter m x) := by
  induction m generalizing x with
  | zero => rw [Nat.zero_add]; rfl
  | succ m ih => rw [Nat.succ_add, randIter_succ, randIter_succ, ih]

theorem randIter_trans {m n k x y z : Nat} (h₁ : randIter m x = y) (h₂ : randIter n y = z) (hk : m + n = k) :
    randIter k x = z := by
  rw [← hk, randIter_add, h₁, h₂]

theorem randIter_period_shift {p x : Nat} (h : randIter p x = x) (k : Nat) :
    randIter p (randIter k x) = randIter k x := by
  rw [← randIter_add, Nat.add_comm, randIter_add, h]

/-! An evaluator for the orbit, for the `decide +kernel` of `rand_tails` and `rand_cycle_walk`.  What the kernel pays
per step of `randIter` is not the arithmetic but unfolding: the `HMul`/`HAdd`/`HMod`/`HPow` instances and the literals
inside `randSeed` (`2 ^ 64`, `2 ^ 32` at every step), and the structural recursion of `randIter` itself.  `seedFast` is
`randSeed` in `Nat`'s own operations on literals (the `% 2 ^ 64` is absorbed by `% 2 ^ 32`, `randSeed_formula`);
`seed64` is 64 steps as a closed term of plain definitions, so that the recursion of `iterOf` is paid once per 64 steps.
The two theorems reach it through `iterBlocks_eq` alone. -/

def seedFast (s : Nat) : Nat := Nat.mod (Nat.mod (Nat.add (Nat.mul s 16546134871) 513585871) 4294967296) 204814687
def seed4 (s : Nat) : Nat := seedFast (seedFast (seedFast (seedFast s)))
def seed16 (s : Nat) : Nat := seed4 (seed4 (seed4 (seed4 s)))
def seed64 (s : Nat) : Nat := seed16 (seed16 (seed16 (seed16 s)))

def iterOf (f : Nat → Nat) : Nat → Nat → Nat
  | 0, x => x
  | n + 1, x => iterOf f n (f x)

def iterBlocks (n x : Nat) : Nat := iterOf seedFast (n % 64) (iterOf seed64 (n / 64) x)

theorem seedFast_eq (s : Nat) : seedFast s = randIter 1 s :=
  (randSeed_formula s).symm.trans (randIter_succ 0 s).symm

theorem four_eq {f : Nat → Nat} {k : Nat} (hf : ∀ x, f x = randIter k x) (x : Nat) :
    f (f (f (f x))) = randIter (k + (k + (k + k))) x := by
  rw [hf, hf, hf, hf, ← randIter_add, ← randIter_add, ← randIter_add]

theorem seed64_eq (s : Nat) : seed64 s = randIter 64 s := four_eq (four_eq (four_eq seedFast_eq)) s

theorem iterOf_eq {f : Nat → Nat} {k : Nat} (hf : ∀ x, f x = randIter k x) (n x : Nat) :
    iterOf f n x = randIter (k * n) x := by
  induction n generalizing x with
  | zero => rfl
  | succ n ih =>
    have h : iterOf f (n + 1) x = iterOf f n (f x) := rfl
    rw [h, ih, hf, ← randIter_add, Nat.mul_succ, Nat.add_comm]

theorem iterBlocks_eq (n x : Nat) : iterBlocks n x = randIter n x := by
  rw [iterBlocks, iterOf_eq seedFast_eq, iterOf_eq seed64_eq, ← randIter_add, Nat.one_mul, Nat.div_add_mod]

/-- The three starting states of interest reach one cycle: the static initial seed after 8269
calls, `srand(1)` after 462, `srand(0)` after 2919.  Each tail is walked once. -/
theorem rand_tails :
    randIter 8269 randInit = 62553197 ∧ randIter 462 1 = 183185008 ∧ randIter 2919 0 = 15552095 := by
  simp only [← iterBlocks_eq]
  decide +kernel

/-- One walk round that cycle, from the state 62553197 where the initial seed enters it, cut at
the states the period theorems speak of: 4, 8609 and 17218 steps on (34436 = 2·2·8609), and
where `srand(1)` (10075 steps on) and `srand(0)` (13195 steps on) enter. -/
theorem rand_cycle_walk :
    randIter 4 62553197 = 72685678 ∧ randIter 8605 72685678 = 174719852 ∧
    randIter 1466 174719852 = 183185008 ∧ randIter 3120 183185008 = 15552095 ∧
    randIter 4023 15552095 = 114724281 ∧ randIter 17218 114724281 = 62553197 := by
  simp only [← iterBlocks_eq]
  decide +kernel

theorem rand_cycle_at :
    randIter 4 62553197 = 72685678 ∧ randIter 8609 62553197 = 174719852 ∧
    randIter 10075 62553197 = 183185008 ∧ randIter 13195 62553197 = 15552095 ∧
    randIter 17218 62553197 = 114724281 ∧ randIter 34436 62553197 = 62553197 := by
  obtain ⟨s1, s2, s3, s4, s5, s6⟩ := rand_cycle_walk
  have a2 := randIter_trans s1 s2 (k := 8609) rfl
  have a3 := randIter_trans a2 s3 (k := 10075) rfl
  have a4 := randIter_trans a3 s4 (k := 13195) rfl
  have a5 := randIter_trans a4 s5 (k := 17218) rfl
  exact ⟨s1, a2, a3, a4, a5, randIter_trans a5 s6 rfl⟩

end Igris.C11
