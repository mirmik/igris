/-
  C11 — bsearch, upper_bound / lower_bound and qsort.  Each bisection goes through one lemma generic
  in the invariant (`bsLoop_inv`, `bndLoop_inv`), so that the run on an array laid out for the key and
  the run under no hypothesis at all are one induction; the partition loop is followed through `PInv`,
  whose clause `S` holds the sentinels that keep the two scans inside the array.
-/
import IgrisModel.C11.Model
import IgrisModel.Common.ListScan
namespace Igris.C11

/-! ## bsearch -/

section
variable {κ α : Type}

/-- generic in the invariant `I`: `bsLoop_spec` takes the ordering facts for it, `bsearch_safe`
takes `True` -/
theorem bsLoop_inv (cmp : κ → α → Int) (key : κ) (a : List α) (I : Nat → Nat → Prop)
    (hlo : ∀ l r (h : l + (r - l) / 2 < a.length), l + 1 < r → I l r → cmp key a[l + (r - l) / 2] < 0 → I l (l + (r - l) / 2))
    (hhi : ∀ l r (h : l + (r - l) / 2 < a.length), l + 1 < r → I l r → ¬ cmp key a[l + (r - l) / 2] < 0 → I (l + (r - l) / 2) r) :
    ∀ (fuel left right : Nat), left < right → right ≤ a.length → right - left ≤ fuel → I left right →
    ∃ l, bsLoop cmp key a fuel left right = some (l, l + 1) ∧ l < a.length ∧ I l (l + 1) := by
  intro fuel
  induction fuel with
  | zero => intro left right h1 h2 h3; omega
  | succ f ih =>
    intro left right hlr hr hf hI
    unfold bsLoop
    by_cases hc : left + 1 < right
    · have hm1 : left < left + (right - left) / 2 := by omega
      have hm2 : left + (right - left) / 2 < right := by omega
      have hm : left + (right - left) / 2 < a.length := Nat.lt_of_lt_of_le hm2 hr
      have hlo' := hlo left right hm hc hI
      have hhi' := hhi left right hm hc hI
      simp only [hc, if_true, List.getElem?_eq_getElem hm]
      generalize left + (right - left) / 2 = mid at *
      by_cases hk : cmp key a[mid] < 0
      · rw [if_pos hk]
        exact ih left mid hm1 (by omega) (by omega) (hlo' hk)
      · rw [if_neg hk]
        exact ih mid right hm2 hr (by omega) (hhi' hk)
    · have : right = left + 1 := by omega
      subst this
      rw [if_neg hc]
      exact ⟨left, rfl, by omega, hI⟩

theorem bsLoop_spec (cmp : κ → α → Int) (key : κ) (a : List α) (hp : PartitionedBy cmp key a) :
    ∀ (fuel left right : Nat), left < right → right ≤ a.length → right - left ≤ fuel →
    (∀ k (hk : k < a.length), right ≤ k → cmp key a[k] < 0) →
    (left = 0 ∨ ∃ h : left < a.length, 0 ≤ cmp key a[left]) →
    ∃ l, ∃ h : l < a.length, bsLoop cmp key a fuel left right = some (l, l + 1) ∧
      (∀ k (hk : k < a.length), l + 1 ≤ k → cmp key a[k] < 0) ∧ (l = 0 ∨ 0 ≤ cmp key a[l]) := by
  intro fuel left right hlr hr hf hR hL
  obtain ⟨l, hrun, hl, hR', hL'⟩ := bsLoop_inv cmp key a
    (fun l r => (∀ k (hk : k < a.length), r ≤ k → cmp key a[k] < 0) ∧ (l = 0 ∨ ∃ h : l < a.length, 0 ≤ cmp key a[l]))
    (fun l r hm _ hI hk => ⟨fun k hk' hge => (hp _ k hge hk').1 hk, hI.2⟩)
    (fun l r hm _ hI hk => ⟨hI.1, Or.inr ⟨hm, by omega⟩⟩)
    fuel left right hlr hr hf ⟨hR, hL⟩
  exact ⟨l, hl, hrun, hR', hL'.imp id fun ⟨_, h⟩ => h⟩

theorem bsearch_of_length_eq_zero (cmp : κ → α → Int) (key : κ) (a : List α) (h0 : a.length = 0) :
    bsearch cmp key a = some none := by
  unfold bsearch
  rw [if_pos h0]

theorem bsearch_of_bsLoop (cmp : κ → α → Int) (key : κ) (a : List α) (h0 : a.length ≠ 0) {l : Nat} (hl : l < a.length)
    (hrun : bsLoop cmp key a (a.length + 1) 0 a.length = some (l, l + 1)) :
    bsearch cmp key a = some (if cmp key a[l] = 0 then some l else none) := by
  unfold bsearch
  simp only [h0, if_false, hrun, List.getElem?_eq_getElem hl]
  split <;> rfl

theorem bsearch_run (cmp : κ → α → Int) (key : κ) (a : List α) (hp : PartitionedBy cmp key a) (h0 : a.length ≠ 0) :
    ∃ l, ∃ hl : l < a.length, bsearch cmp key a = some (if cmp key a[l] = 0 then some l else none) ∧
      (∀ k (hk : k < a.length), l + 1 ≤ k → cmp key a[k] < 0) ∧ (l = 0 ∨ 0 ≤ cmp key a[l]) := by
  obtain ⟨l, hl, hrun, hR, hL⟩ := bsLoop_spec cmp key a hp (a.length + 1) 0 a.length (by omega) (by omega) (by omega)
    (by intro k hk hge; omega) (Or.inl rfl)
  exact ⟨l, hl, bsearch_of_bsLoop cmp key a h0 hl hrun, hR, hL⟩

/-- of several matching elements the literal algorithm returns the LAST -/
theorem bsearch_last (cmp : κ → α → Int) (key : κ) (a : List α) (hp : PartitionedBy cmp key a) (i : Nat)
    (h : bsearch cmp key a = some (some i)) :
    ∃ hi : i < a.length, cmp key a[i] = 0 ∧ ∀ k (hk : k < a.length), i < k → cmp key a[k] < 0 := by
  have h0 : a.length ≠ 0 := fun h0 => by rw [bsearch_of_length_eq_zero cmp key a h0] at h; cases h
  obtain ⟨l, hl, hrun, hR, _⟩ := bsearch_run cmp key a hp h0
  rw [hrun, Option.some.injEq] at h
  obtain ⟨heq, hi⟩ := Option.ite_none_right_eq_some.1 h
  cases hi
  exact ⟨hl, heq, hR⟩

end

/-! ## qsort -/

section
variable {α : Type} (cmp : α → α → Int) (key : α)

theorem scanUp_spec (a : List α) : ∀ (fuel i u : Nat) (xu : α), a[u]? = some xu → ¬ cmp xu key < 0 →
    i ≤ u → u - i < fuel →
    ∃ i' xi, scanUp cmp key a fuel i = some i' ∧ i ≤ i' ∧ i' ≤ u ∧ a[i']? = some xi ∧ ¬ cmp xi key < 0 ∧
      ∀ k x, i ≤ k → k < i' → a[k]? = some x → cmp x key < 0 := by
  intro fuel i u xu hu hxu
  have hul := lt_of_getElem?_some hu
  fun_induction scanUp cmp key a fuel i with
  | case1 i => intro _ h; omega
  | case2 f i hnone => intro hiu hf; rw [List.getElem?_eq_none_iff] at hnone; omega
  | case3 f i x hx hc ih =>
    intro hiu hf
    -- the sentinel is not at `i`
    have hne : i ≠ u := fun h => by subst h; rw [hx] at hu; cases hu; exact hxu hc
    obtain ⟨i', xi, h1, h2, h3, h4, h5, h6⟩ := ih (by omega) (by omega)
    refine ⟨i', xi, h1, by omega, h3, h4, h5, fun k y hk1 hk2 hk3 => ?_⟩
    by_cases hki : k = i
    · subst hki; rw [hx] at hk3; cases hk3; exact hc
    · exact h6 k y (by omega) hk2 hk3
  | case4 f i x hx hc =>
    intro hiu hf
    exact ⟨i, x, rfl, Nat.le_refl _, hiu, hx, hc, fun k y h1 h2 => by omega⟩

theorem scanDown_spec (a : List α) : ∀ (fuel : Nat) (j : Int) (d : Nat) (xd : α), a[d]? = some xd → ¬ cmp key xd < 0 →
    (d : Int) ≤ j → j < a.length → (j - d).toNat < fuel →
    ∃ (j' : Nat) (xj : α), scanDown cmp key a fuel j = some (j' : Int) ∧ d ≤ j' ∧ (j' : Int) ≤ j ∧ a[j']? = some xj ∧ ¬ cmp key xj < 0 ∧
      ∀ (k : Nat) x, j' < k → (k : Int) ≤ j → a[k]? = some x → cmp key x < 0 := by
  intro fuel j d xd hd hxd
  fun_induction scanDown cmp key a fuel j with
  | case1 j => intro _ _ h; omega
  | case2 f j hneg => intro hdj _ _; omega
  | case3 f j hneg hnone => intro hdj hjl hf; rw [List.getElem?_eq_none_iff] at hnone; omega
  | case4 f j hneg x hx hc ih =>
    intro hdj hjl hf
    -- `j` is not negative: a natural number from here on
    obtain ⟨n, rfl⟩ : ∃ n : Nat, j = n := ⟨j.toNat, by omega⟩
    rw [Int.toNat_natCast] at hx
    -- the sentinel is not at `n`
    have hne : n ≠ d := fun h => by rw [h, hd] at hx; cases hx; exact hxd hc
    obtain ⟨j', xj, h1, h2, h3, h4, h5, h6⟩ := ih (by omega) (by omega) (by omega)
    refine ⟨j', xj, h1, h2, by omega, h4, h5, fun k y hk1 hk2 hk3 => ?_⟩
    by_cases hkj : k = n
    · subst hkj; rw [hx] at hk3; cases hk3; exact hc
    · exact h6 k y hk1 (by omega) hk3
  | case5 f j hneg x hx hc =>
    intro hdj hjl hf
    obtain ⟨n, rfl⟩ : ∃ n : Nat, j = n := ⟨j.toNat, by omega⟩
    rw [Int.toNat_natCast] at hx
    exact ⟨n, x, rfl, by omega, Int.le_refl _, hx, hc, fun k y h1 h2 => by omega⟩

theorem swapAt_spec (a : List α) (i j : Nat) (x y : α) (hi : a[i]? = some x) (hj : a[j]? = some y) :
    swapAt a i j = some ((a.set i y).set j x) ∧ ((a.set i y).set j x).Perm a := by
  have hil := lt_of_getElem?_some hi
  have hjl := lt_of_getElem?_some hj
  rw [List.getElem?_eq_getElem hil] at hi
  rw [List.getElem?_eq_getElem hjl] at hj
  cases hi; cases hj
  unfold swapAt
  simp only [hil, hjl, and_self, dite_true]
  exact ⟨trivial, List.set_set_perm hil hjl⟩

theorem swap_get (a : List α) (i j k : Nat) (x y : α) (hi : i < a.length) (hj : j < a.length) :
    ((a.set i y).set j x)[k]? = if k = j then some x else if k = i then some y else a[k]? := by
  simp only [List.getElem?_set, List.length_set]
  by_cases h1 : j = k
  · subst h1; simp [hj]
  · by_cases h2 : i = k
    · subst h2; simp [hi, h1]; intro h; omega
    · simp [h1, h2]
      have : ¬ k = j := fun h => h1 h.symm
      have : ¬ k = i := fun h => h2 h.symm
      simp [*]

/-- invariant of the `while (i <= j)` loop of the partition.  `L` and `R` say on which side of the key an
element is in the only form available for an arbitrary comparator: the test of the scan that passed it, or the
negated test of the other scan (an element a swap brought over). -/
structure PInv (a0 a : List α) (i : Nat) (j : Int) : Prop where
  perm : a.Perm a0
  jlo : -1 ≤ j
  jhi : j < a.length
  L : ∀ k x, k < i → a[k]? = some x → (cmp x key < 0 ∨ ¬ cmp key x < 0)
  R : ∀ (k : Nat) x, j < (k : Int) → a[k]? = some x → (cmp key x < 0 ∨ ¬ cmp x key < 0)
  S : (i = 0 ∧ j = (a.length : Int) - 1 ∧ ∃ (p : Nat) (x : α), a[p]? = some x ∧ ¬ cmp x key < 0 ∧ ¬ cmp key x < 0) ∨
      (1 ≤ i ∧ j + 2 ≤ a.length ∧ (∃ x, a[(j + 1).toNat]? = some x ∧ ¬ cmp x key < 0) ∧
        (∃ x, a[i - 1]? = some x ∧ ¬ cmp key x < 0))

/-- what the loop hands to the two recursive calls of qsort; `ilo` and `jhi` make the array of each shorter than `a` -/
structure PPost (a0 a : List α) (i : Nat) (j : Int) : Prop where
  perm : a.Perm a0
  jlo : -1 ≤ j
  ilo : 1 ≤ i
  jhi : j + 2 ≤ a.length
  ji : j < (i : Int)
  L : ∀ k x, k < i → a[k]? = some x → (cmp x key < 0 ∨ ¬ cmp key x < 0)
  R : ∀ (k : Nat) x, j < (k : Int) → a[k]? = some x → (cmp key x < 0 ∨ ¬ cmp x key < 0)

/-- the sentinels that stop the two scans of one round: the pivot itself in the first round,
afterwards the two elements the previous round swapped -/
theorem pinv_sentinels {a0 a : List α} {i : Nat} {j : Int} (inv : PInv cmp key a0 a i j) (hij : (i : Int) ≤ j) :
    ∃ (u d : Nat) (xu xd : α), a[u]? = some xu ∧ ¬ cmp xu key < 0 ∧ i ≤ u ∧ a[d]? = some xd ∧ ¬ cmp key xd < 0 ∧ (d : Int) ≤ j := by
  rcases inv.S with ⟨h1, h2, p, x, hp, hx1, hx2⟩ | ⟨h1, h2, ⟨x, hx, hx'⟩, ⟨y, hy, hy'⟩⟩
  · have := lt_of_getElem?_some hp
    exact ⟨p, p, x, x, hp, hx1, by omega, hp, hx2, by omega⟩
  · exact ⟨(j + 1).toNat, i - 1, x, y, hx, hx', by omega, hy, hy', by omega⟩

theorem pinv_swap {a0 a : List α} {i : Nat} {j : Int} (inv : PInv cmp key a0 a i j)
    {i' j' : Nat} {xi xj : α} (hxi : a[i']? = some xi) (hxj : a[j']? = some xj)
    (hxi' : ¬ cmp xi key < 0) (hxj' : ¬ cmp key xj < 0) (hc : i' ≤ j')
    (hup : ∀ k x, i ≤ k → k < i' → a[k]? = some x → cmp x key < 0)
    (hdn : ∀ (k : Nat) x, j' < k → (k : Int) ≤ j → a[k]? = some x → cmp key x < 0) :
    PInv cmp key a0 ((a.set i' xj).set j' xi) (i' + 1) ((j' : Int) - 1) := by
  have hi'l := lt_of_getElem?_some hxi
  have hj'l := lt_of_getElem?_some hxj
  have hsame : i' = j' → xi = xj := fun h => by rw [h, hxj] at hxi; cases hxi; rfl
  constructor
  · exact (swapAt_spec a i' j' xi xj hxi hxj).2.trans inv.perm
  · omega
  · simp only [List.length_set]; omega
  · intro k x hk hkx
    rw [swap_get a i' j' k xi xj hi'l hj'l] at hkx
    by_cases h1 : k = j'
    · rw [if_pos h1] at hkx
      cases hkx
      exact Or.inr (hsame (by omega) ▸ hxj')
    · rw [if_neg h1] at hkx
      by_cases h2 : k = i'
      · rw [if_pos h2] at hkx; cases hkx; exact Or.inr hxj'
      · rw [if_neg h2] at hkx
        by_cases h3 : k < i
        · exact inv.L k x h3 hkx
        · exact Or.inl (hup k x (by omega) (by omega) hkx)
  · intro k x hk hkx
    rw [swap_get a i' j' k xi xj hi'l hj'l] at hkx
    by_cases h1 : k = j'
    · rw [if_pos h1] at hkx; cases hkx; exact Or.inr hxi'
    · rw [if_neg h1, if_neg (by omega)] at hkx
      by_cases h3 : j < (k : Int)
      · exact inv.R k x h3 hkx
      · exact Or.inl (hdn k x (by omega) (by omega) hkx)
  · right
    simp only [List.length_set]
    refine ⟨by omega, by omega, ⟨xi, ?_, hxi'⟩, ?_⟩
    · rw [show ((j' : Int) - 1 + 1).toNat = j' by omega, swap_get a i' j' j' xi xj hi'l hj'l, if_pos rfl]
    · rw [show i' + 1 - 1 = i' by omega, swap_get a i' j' i' xi xj hi'l hj'l]
      by_cases h : i' = j'
      · rw [if_pos h]; exact ⟨xi, rfl, hsame h ▸ hxj'⟩
      · rw [if_neg h, if_pos rfl]; exact ⟨xj, rfl, hxj'⟩

theorem pinv_crossed {a0 a : List α} {i : Nat} {j : Int} (inv : PInv cmp key a0 a i j) {i' j' : Nat}
    (hc : ¬ (i' : Int) ≤ j') (hil : i' < a.length)
    (hup : ∀ k x, i ≤ k → k < i' → a[k]? = some x → cmp x key < 0)
    (hdn : ∀ (k : Nat) x, j' < k → (k : Int) ≤ j → a[k]? = some x → cmp key x < 0) :
    PPost cmp key a0 a i' j' := by
  refine ⟨inv.perm, by omega, by omega, by omega, by omega, ?_, ?_⟩
  · intro k x hk hkx
    by_cases h3 : k < i
    · exact inv.L k x h3 hkx
    · exact Or.inl (hup k x (by omega) hk hkx)
  · intro k x hk hkx
    by_cases h3 : j < (k : Int)
    · exact inv.R k x h3 hkx
    · exact Or.inl (hdn k x (by omega) (by omega) hkx)

theorem partLoop_spec (a0 : List α) : ∀ (fuel : Nat) (a : List α) (i : Nat) (j : Int),
    PInv cmp key a0 a i j → (j + 2 - i).toNat < fuel →
    ∃ a' i' j', partLoop cmp key fuel a i j = some (a', i', j') ∧ PPost cmp key a0 a' i' j' := by
  intro fuel
  induction fuel with
  | zero => intro a i j _ h; omega
  | succ f ih =>
    intro a i j inv hf
    unfold partLoop
    by_cases hij : (i : Int) ≤ j
    · obtain ⟨u, d, xu, xd, hu, hxu, hiu, hd, hxd, hdj⟩ := pinv_sentinels cmp key inv hij
      have hul := lt_of_getElem?_some hu
      have hjhi := inv.jhi
      obtain ⟨i', xi, hsu, hi1, hi2, hxi, hxi', hup⟩ := scanUp_spec cmp key a (a.length + 1) i u xu hu hxu hiu (by omega)
      obtain ⟨j', xj, hsd, hj1, hj2, hxj, hxj', hdn⟩ := scanDown_spec cmp key a (a.length + 1) j d xd hd hxd hdj hjhi (by omega)
      simp only [hij, if_true, hsu, hsd]
      by_cases hc : (i' : Int) ≤ (j' : Int)
      · simp only [hc, if_true, Int.toNat_natCast, (swapAt_spec a i' j' xi xj hxi hxj).1]
        exact ih _ _ _ (pinv_swap cmp key inv hxi hxj hxi' hxj' (by omega) hup hdn) (by omega)
      · obtain ⟨f', rfl⟩ : ∃ f', f = f' + 1 := ⟨f - 1, by omega⟩
        simp only [hc, if_false]
        unfold partLoop
        rw [if_neg hc]
        exact ⟨a, i', j', rfl, pinv_crossed cmp key inv hc (by omega) hup hdn⟩
    · rw [if_neg hij]
      refine ⟨a, i, j, rfl, ?_⟩
      have hph2 : 1 ≤ i ∧ j + 2 ≤ a.length := by
        rcases inv.S with ⟨h1, h2, p, x, hp, _, _⟩ | ⟨h1, h2, _, _⟩
        · have := lt_of_getElem?_some hp; omega
        · exact ⟨h1, h2⟩
      exact ⟨inv.perm, inv.jlo, hph2.1, hph2.2, by omega, inv.L, inv.R⟩

/-- the second and third compare-exchange of the 3-element network -/
theorem network3_perm (x y z : α) :
    (if cmp z y < 0 then (if cmp z x < 0 then [z, x, y] else [x, z, y]) else [x, y, z]).Perm [x, y, z] := by
  by_cases h2 : cmp z y < 0
  · rw [if_pos h2]
    by_cases h3 : cmp z x < 0
    · rw [if_pos h3]; exact (List.Perm.swap x z [y]).trans ((List.Perm.swap y z []).cons x)
    · rw [if_neg h3]; exact (List.Perm.swap y z []).cons x
  · rw [if_neg h2]

theorem smallSort_perm (a : List α) : (smallSort cmp a).Perm a := by
  match a with
  | [] | [_] | _ :: _ :: _ :: _ :: _ => exact List.Perm.refl _
  | [x, y] =>
    simp only [smallSort]
    by_cases h1 : cmp y x < 0
    · rw [if_pos h1]; exact List.Perm.swap x y []
    · rw [if_neg h1]
  | [x, y, z] =>
    simp only [smallSort]
    by_cases h1 : cmp y x < 0
    · simp only [h1, if_true]; exact (network3_perm cmp y x z).trans (List.Perm.swap x y [z])
    · simp only [h1, if_false]; exact network3_perm cmp x y z

namespace Consistent

theorem le_of_not_lt {cmp : α → α → Int} (hc : Consistent cmp) {p q : α} (h : ¬ cmp q p < 0) : cmp p q ≤ 0 := by
  have := hc.anti q p
  omega

theorem irrefl {cmp : α → α → Int} (hc : Consistent cmp) (x : α) : ¬ cmp x x < 0 := by
  have := hc.anti x x
  omega

theorem zero_symm {cmp : α → α → Int} (hc : Consistent cmp) {x y : α} (h0 : cmp x y = 0) : cmp y x = 0 := by
  have h1 := hc.anti x y; have h2 := hc.anti y x
  omega

theorem lt_of_lt_of_le {cmp : α → α → Int} (hc : Consistent cmp) {x y z : α} (h1 : cmp x y < 0) (h2 : cmp y z ≤ 0) :
    cmp x z < 0 := by
  have t := hc.trans x y z (by omega) h2
  by_cases h0 : cmp x z = 0
  · have := hc.zero_symm h0
    have := hc.trans y z x h2 (by omega)
    have := (hc.anti x y).1 h1
    omega
  · omega

theorem lt_of_le_of_lt {cmp : α → α → Int} (hc : Consistent cmp) {x y z : α} (h1 : cmp x y ≤ 0) (h2 : cmp y z < 0) :
    cmp x z < 0 := by
  apply Classical.byContradiction
  intro hn
  have := (hc.anti y x).1 (hc.lt_of_lt_of_le h2 (hc.le_of_not_lt hn))
  omega

end Consistent

theorem sorted_triple (hc : Consistent cmp) {x y z : α} (h1 : cmp x y ≤ 0) (h2 : cmp y z ≤ 0) : Sorted cmp [x, y, z] := by
  have h3 := hc.trans x y z h1 h2
  simp only [Sorted, List.pairwise_cons, List.mem_cons, forall_eq_or_imp, List.not_mem_nil, false_imp_iff, implies_true,
    List.Pairwise.nil, and_true]
  exact ⟨⟨h1, h3⟩, h2⟩

theorem network3_sorted (hc : Consistent cmp) (x y z : α) (h : cmp x y ≤ 0) :
    Sorted cmp (if cmp z y < 0 then (if cmp z x < 0 then [z, x, y] else [x, z, y]) else [x, y, z]) := by
  by_cases h2 : cmp z y < 0
  · rw [if_pos h2]
    by_cases h3 : cmp z x < 0
    · rw [if_pos h3]; exact sorted_triple cmp hc (Int.le_of_lt h3) h
    · rw [if_neg h3]; exact sorted_triple cmp hc (hc.le_of_not_lt h3) (Int.le_of_lt h2)
  · rw [if_neg h2]; exact sorted_triple cmp hc h (hc.le_of_not_lt h2)

theorem smallSort_sorted (hc : Consistent cmp) (a : List α) (h : a.length < 4) : Sorted cmp (smallSort cmp a) := by
  match a, h with
  | [], _ => exact List.Pairwise.nil
  | [x], _ => exact List.pairwise_singleton _ _
  | [x, y], _ =>
    simp only [smallSort]
    by_cases h1 : cmp y x < 0
    · rw [if_pos h1]; exact List.pairwise_pair.2 (Int.le_of_lt h1)
    · rw [if_neg h1]; exact List.pairwise_pair.2 (hc.le_of_not_lt h1)
  | [x, y, z], _ =>
    simp only [smallSort]
    by_cases h1 : cmp y x < 0
    · simp only [h1, if_true]; exact network3_sorted cmp hc y x z (Int.le_of_lt h1)
    · simp only [h1, if_false]; exact network3_sorted cmp hc x y z (hc.le_of_not_lt h1)
  | _ :: _ :: _ :: _ :: _, h => simp only [List.length_cons] at h; omega

theorem sorted_append3 (hc : Consistent cmp) (A M B : List α)
    (hA : ∀ x ∈ A, cmp x key ≤ 0) (hM : ∀ x ∈ M, cmp x key ≤ 0 ∧ cmp key x ≤ 0) (hB : ∀ x ∈ B, cmp key x ≤ 0)
    (sA : Sorted cmp A) (sB : Sorted cmp B) : Sorted cmp (A ++ (M ++ B)) := by
  unfold Sorted at *
  rw [List.pairwise_append, List.pairwise_append]
  refine ⟨sA, ⟨?_, sB, ?_⟩, ?_⟩
  · apply List.pairwise_of_forall_mem_list
    intro x hx y hy
    exact hc.trans x key y (hM x hx).1 (hM y hy).2
  · intro x hx y hy
    exact hc.trans x key y (hM x hx).1 (hB y hy)
  · intro x hx y hy
    rcases List.mem_append.1 hy with h | h
    · exact hc.trans x key y (hA x hx) (hM y h).2
    · exact hc.trans x key y (hA x hx) (hB y h)

theorem mem_take_getElem? {l : List α} {n : Nat} {x : α} (h : x ∈ l.take n) : ∃ k, k < n ∧ l[k]? = some x := by
  obtain ⟨k, hk, rfl⟩ := List.mem_take_iff_getElem.1 h
  exact ⟨k, (Nat.lt_min.1 hk).1, List.getElem?_eq_getElem (Nat.lt_min.1 hk).2⟩

theorem mem_drop_getElem? {l : List α} {n : Nat} {x : α} (h : x ∈ l.drop n) : ∃ k, n ≤ k ∧ l[k]? = some x := by
  obtain ⟨k, hk⟩ := List.mem_iff_getElem?.1 h
  rw [List.getElem?_drop] at hk
  exact ⟨n + k, by omega, hk⟩

theorem sorted_short (l : List α) (h : l.length ≤ 1) : Sorted cmp l := by
  match l, h with
  | [], _ => exact List.Pairwise.nil
  | [x], _ => exact List.pairwise_singleton _ _
  | _ :: _ :: _, h => simp at h

theorem pivotIndex_lt (r : Int) (n : Nat) (h : 0 < n) : pivotIndex r n < n := Nat.mod_lt _ h

/-- either of the two guarded recursive calls of qsort: `sub` is the sub-array, `wb` puts the result back into the
array; where the guard `g` skips the call, `sub` is too short to need sorting -/
theorem qsort_call {f : Nat}
    (ih : ∀ (rs : List Int) (a : List α), a.length < f →
      ∃ out rs', qsortF cmp f rs a = some (out, rs') ∧ out.Perm a ∧ (Consistent cmp → Sorted cmp out))
    (g : Prop) [Decidable g] (wb : List α → List α) (sub whole : List α) (rs : List Int)
    (hw : wb sub = whole) (hlt : sub.length < f) (hshort : ¬ g → sub.length ≤ 1) :
    ∃ s rs', (if g then (qsortF cmp f rs sub).map fun r => (wb r.1, r.2) else some (whole, rs)) = some (wb s, rs') ∧
      s.Perm sub ∧ (Consistent cmp → Sorted cmp s) := by
  by_cases hg : g
  · obtain ⟨s, rs', hs, hsp, hss⟩ := ih rs sub hlt
    exact ⟨s, rs', by rw [if_pos hg, hs]; rfl, hsp, hss⟩
  · exact ⟨sub, rs, by rw [if_neg hg, hw], List.Perm.refl _, fun _ => sorted_short cmp _ (hshort hg)⟩

theorem qsortF_spec (hirr : ∀ x, ¬ cmp x x < 0) : ∀ (fuel : Nat) (rs : List Int) (a : List α), a.length < fuel →
    ∃ out rs', qsortF cmp fuel rs a = some (out, rs') ∧ out.Perm a ∧ (Consistent cmp → Sorted cmp out) := by
  intro fuel
  induction fuel with
  | zero => intro rs a h; omega
  | succ f ih =>
    intro rs a hlen
    unfold qsortF
    by_cases h4 : a.length < 4
    · simp only [h4, if_true]
      exact ⟨_, _, rfl, smallSort_perm cmp a, fun hc => smallSort_sorted cmp hc a h4⟩
    · simp only [h4, if_false]
      have hp := pivotIndex_lt (nextRand rs).1 a.length (by omega)
      generalize (nextRand rs).2 = rs1
      generalize pivotIndex (nextRand rs).1 a.length = p at hp
      rw [List.getElem?_eq_getElem hp]
      simp only
      generalize hkey : a[p] = key
      have hkp : a[p]? = some key := by rw [List.getElem?_eq_getElem hp, hkey]
      have inv : PInv cmp key a a 0 ((a.length : Int) - 1) := by
        constructor
        · exact List.Perm.refl _
        · omega
        · omega
        · intro k x hk; omega
        · intro k x hk hkx
          have := lt_of_getElem?_some hkx; omega
        · left; exact ⟨rfl, rfl, p, key, hkp, hirr key, hirr key⟩
      obtain ⟨a1, i, j, hpl, post⟩ := partLoop_spec cmp key a (a.length + 2) a 0 ((a.length : Int) - 1) inv (by omega)
      rw [hpl]
      simp only
      have hlen1 : a1.length = a.length := post.perm.length_eq
      have hjlo := post.jlo
      have hilo := post.ilo
      have hjhi := post.jhi
      have hji := post.ji
      -- order facts (only meaningful for a consistent comparator)
      have hLE : Consistent cmp → ∀ k x, k < i → a1[k]? = some x → cmp x key ≤ 0 := by
        intro hc k x hk hkx
        rcases post.L k x hk hkx with h | h
        · omega
        · exact hc.le_of_not_lt h
      -- the length of the left call's array; where the guard skips the call (`j ≤ 0`) it is 1, and that one
      -- element is the left part (`1 ≤ i`)
      generalize hjn : j.toNat + 1 = jn
      have hjni : jn ≤ i := by omega
      have hjnl : jn + 1 ≤ a.length := by omega
      have hGE : Consistent cmp → ∀ x ∈ a1.drop jn, cmp key x ≤ 0 := by
        intro hc x hx
        obtain ⟨k, hk, hkx⟩ := mem_drop_getElem? hx
        rcases post.R k x (by omega) hkx with h | h
        · omega
        · exact hc.le_of_not_lt h
      obtain ⟨lft, rs2, hleq, hlp, hls⟩ := qsort_call cmp ih (j > 0) (· ++ a1.drop jn) (a1.take jn) a1 rs1
        (List.take_append_drop _ _) (by rw [List.length_take]; omega) (fun h => by rw [List.length_take]; omega)
      rw [hleq]
      simp only
      have hlftlen : lft.length = jn := by rw [hlp.length_eq, List.length_take]; omega
      have htake : (lft ++ a1.drop jn).take i = lft ++ (a1.drop jn).take (i - jn) := by
        rw [List.take_append, List.take_of_length_le (by omega), hlftlen]
      have hdrop : (lft ++ a1.drop jn).drop i = (a1.drop jn).drop (i - jn) := by
        rw [List.drop_append, List.drop_of_length_le (by omega), hlftlen, List.nil_append]
      obtain ⟨rgt, rs3, hreq, hrp, hrs⟩ := qsort_call cmp ih (i < a.length - 1) ((lft ++ a1.drop jn).take i ++ ·)
        ((lft ++ a1.drop jn).drop i) (lft ++ a1.drop jn) rs2
        (List.take_append_drop _ _) (by rw [hdrop]; simp only [List.length_drop]; omega)
        (fun h => by rw [hdrop]; simp only [List.length_drop]; omega)
      rw [hreq, htake]
      rw [hdrop] at hrp
      refine ⟨_, _, rfl, ?_, ?_⟩
      · have h1 : (lft ++ ((a1.drop jn).take (i - jn) ++ rgt)).Perm (a1.take jn ++ ((a1.drop jn).take (i - jn) ++ (a1.drop jn).drop (i - jn))) :=
          hlp.append ((List.Perm.refl _).append hrp)
        rw [List.take_append_drop, List.take_append_drop] at h1
        rw [List.append_assoc]
        exact h1.trans post.perm
      · intro hc
        rw [List.append_assoc]
        apply sorted_append3 cmp key hc
        · intro x hx
          have : x ∈ a1.take jn := hlp.mem_iff.1 hx
          obtain ⟨k, hk, hkx⟩ := mem_take_getElem? this
          exact hLE hc k x (by omega) hkx
        · intro x hx
          constructor
          · obtain ⟨k, hk, hkx⟩ := mem_take_getElem? hx
            rw [List.getElem?_drop] at hkx
            exact hLE hc (jn + k) x (by omega) hkx
          · exact hGE hc x (List.mem_of_mem_take hx)
        · intro x hx
          have : x ∈ (a1.drop jn).drop (i - jn) := hrp.mem_iff.1 hx
          exact hGE hc x (List.mem_of_mem_drop this)
        · exact hls hc
        · exact hrs hc
end

/-! ## upper_bound / lower_bound -/

section bounds
variable {κ α : Type}

/-- the half-open bisection, generic in the invariant as `bsLoop_inv` -/
theorem bndLoop_inv (p : α → Bool) (a : List α) (I : Nat → Nat → Prop)
    (hlo : ∀ l r (h : l + (r - l) / 2 < a.length), l < r → I l r → p a[l + (r - l) / 2] = true → I l (l + (r - l) / 2))
    (hhi : ∀ l r (h : l + (r - l) / 2 < a.length), l < r → I l r → p a[l + (r - l) / 2] = false → I (l + (r - l) / 2 + 1) r) :
    ∀ (fuel left right : Nat), left ≤ right → right ≤ a.length → right - left < fuel → I left right →
    ∃ x, bndLoop p a fuel left right = some x ∧ left ≤ x ∧ x ≤ right ∧ I x x := by
  intro fuel
  induction fuel with
  | zero => intro left right _ _ h; omega
  | succ f ih =>
    intro left right hlr hrn hf hI
    unfold bndLoop
    by_cases hlt : left < right
    · have hm1 : left ≤ left + (right - left) / 2 := Nat.le_add_right _ _
      have hm2 : left + (right - left) / 2 < right := by omega
      have hm : left + (right - left) / 2 < a.length := Nat.lt_of_lt_of_le hm2 hrn
      have hlo' := hlo left right hm hlt hI
      have hhi' := hhi left right hm hlt hI
      simp only [hlt, if_true, List.getElem?_eq_getElem hm]
      generalize left + (right - left) / 2 = mid at *
      cases hpm : p a[mid] with
      | true =>
        obtain ⟨x, hx, h1, h2, h3⟩ := ih left mid hm1 (by omega) (by omega) (hlo' hpm)
        exact ⟨x, by simpa using hx, h1, by omega, h3⟩
      | false =>
        obtain ⟨x, hx, h1, h2, h3⟩ := ih (mid + 1) right (by omega) hrn (by omega) (hhi' hpm)
        exact ⟨x, by simpa using hx, by omega, h2, h3⟩
    · have : right = left := by omega
      subst this
      rw [if_neg hlt]
      exact ⟨right, rfl, Nat.le_refl _, Nat.le_refl _, hI⟩

theorem bndLoop_le (p : α → Bool) (a : List α) : ∃ r, bndLoop p a (a.length + 1) 0 a.length = some r ∧ r ≤ a.length := by
  obtain ⟨x, hx, _, h2, _⟩ := bndLoop_inv p a (fun _ _ => True) (fun _ _ _ _ _ _ => trivial) (fun _ _ _ _ _ _ => trivial)
    (a.length + 1) 0 a.length (Nat.zero_le _) (Nat.le_refl _) (by omega) trivial
  exact ⟨x, hx, h2⟩

theorem takeWhile_length_eq (p : α → Bool) (l : List α) (k : Nat) (hk : k ≤ l.length)
    (h1 : ∀ j (h : j < l.length), j < k → p l[j] = true) (h2 : ∀ j (h : j < l.length), k ≤ j → p l[j] = false) :
    (l.takeWhile p).length = k := by
  rw [List.takeWhile_eq_take_findIdx_not, List.length_take, Nat.min_eq_left List.findIdx_le_length]
  rcases Nat.lt_or_ge k l.length with hlt | hge
  · exact (List.findIdx_eq hlt).2 ⟨by simp [h2 k hlt (Nat.le_refl _)], fun j hj => by simp [h1 j (by omega) hj]⟩
  · obtain rfl : k = l.length := by omega
    exact List.findIdx_eq_length.2 fun x hx => by obtain ⟨j, hj, rfl⟩ := List.getElem_of_mem hx; simp [h1 j hj hj]

theorem firstIdx_eq {P : α → Prop} [DecidablePred P] (a : List α) (r : Nat) (hr : r ≤ a.length)
    (h1 : ∀ i (h : i < a.length), i < r → ¬ P a[i]) (h2 : ∀ i (h : i < a.length), r ≤ i → P a[i]) :
    Spec.firstIdx (fun x => decide (P x)) a = r :=
  takeWhile_length_eq (fun x => !decide (P x)) a r hr
    (fun j h hj => by simp only [decide_eq_false (h1 j h hj), Bool.not_false])
    (fun j h hj => by simp only [decide_eq_true (h2 j h hj), Bool.not_true])

/-- upper_bound and lower_bound in one -/
theorem bndLoop_firstIdx {P : α → Prop} [DecidablePred P] (a : List α)
    (hmono : ∀ i j (_ : i ≤ j) (hj : j < a.length), P (a[i]'(by omega)) → P a[j]) :
    bndLoop (fun x => decide (P x)) a (a.length + 1) 0 a.length = some (Spec.firstIdx (fun x => decide (P x)) a) ∧
      Spec.firstIdx (fun x => decide (P x)) a ≤ a.length ∧
      (∀ i (h : i < a.length), i < Spec.firstIdx (fun x => decide (P x)) a → ¬ P a[i]) ∧
      (∀ i (h : i < a.length), Spec.firstIdx (fun x => decide (P x)) a ≤ i → P a[i]) := by
  obtain ⟨r, hr, _, hle, h1, h2⟩ := bndLoop_inv (fun x => decide (P x)) a
    (fun l r => (∀ i (h : i < a.length), i < l → ¬ P a[i]) ∧ (∀ i (h : i < a.length), r ≤ i → P a[i]))
    (fun l r hm _ hI hpm => ⟨hI.1, fun i hi hge => hmono _ i hge hi (of_decide_eq_true hpm)⟩)
    (fun l r hm _ hI hpm => ⟨fun i hi hlt hpi => of_decide_eq_false hpm (hmono i _ (by omega) hm hpi), hI.2⟩)
    (a.length + 1) 0 a.length (Nat.zero_le _) (Nat.le_refl _) (by omega) ⟨fun i _ h => by omega, fun i hi h => by omega⟩
  rw [firstIdx_eq a r hle h1 h2]
  exact ⟨hr, hle, h1, h2⟩

end bounds

/-! ## the ordered key sequence is unique -/

theorem sorted_keys_unique {α : Type} (key : α → Int) (cmp : α → α → Int)
    (hk : ∀ x y, cmp x y ≤ 0 ↔ key x ≤ key y) (out a : List α) (hperm : out.Perm a) (hs : Sorted cmp out) :
    out.map key = (a.map key).mergeSort (fun x y => decide (x ≤ y)) := by
  apply List.Perm.eq_of_pairwise (le := fun x y : Int => x ≤ y)
  · intro x y _ _ h1 h2; omega
  · unfold Sorted at hs
    rw [List.pairwise_map]
    exact hs.imp (fun {x y} h => (hk x y).1 h)
  · have := List.pairwise_mergeSort (le := fun x y : Int => decide (x ≤ y))
      (by intro a b c h1 h2; simp only [decide_eq_true_eq] at *; omega)
      (by intro a b; simp only [Bool.or_eq_true, decide_eq_true_eq]; omega) (a.map key)
    exact this.imp (fun {x y} h => by simpa using h)
  · exact (hperm.map key).trans (List.mergeSort_perm _ _).symm

/-! ## the run of equal elements between the two bounds -/

theorem equalRun_eq {κ α : Type} (cmp : κ → α → Int) (key : κ) (a : List α) (lo hi i : Nat)
    (hhi : hi ≤ a.length) (hlo : lo ≤ i) (hih : i < hi)
    (hin : ∀ j (h : j < a.length), lo ≤ j → j < hi → cmp key a[j] = 0)
    (hbelow : ∀ j (h : j < a.length), j < lo → cmp key a[j] ≠ 0)
    (habove : ∀ j (h : j < a.length), hi ≤ j → cmp key a[j] ≠ 0) :
    equalRun cmp key a i = (lo, hi - 1) := by
  unfold equalRun
  have h1 : ((a.take i).reverse.takeWhile fun x => cmp key x == 0).length = i - lo := by
    apply takeWhile_length_eq
    · simp only [List.length_reverse, List.length_take]; omega
    · intro j hj hjk
      simp only [List.length_reverse, List.length_take] at hj
      simp only [List.getElem_reverse, List.getElem_take, List.length_take, beq_iff_eq]
      apply hin <;> omega
    · intro j hj hjk
      simp only [List.length_reverse, List.length_take] at hj
      simp only [List.getElem_reverse, List.getElem_take, List.length_take, beq_eq_false_iff_ne]
      apply hbelow; omega
  have h2 : ((a.drop (i + 1)).takeWhile fun x => cmp key x == 0).length = hi - 1 - i := by
    apply takeWhile_length_eq
    · simp only [List.length_drop]; omega
    · intro j hj hjk
      simp only [List.length_drop] at hj
      simp only [List.getElem_drop, beq_iff_eq]
      apply hin <;> omega
    · intro j hj hjk
      simp only [List.length_drop] at hj
      simp only [List.getElem_drop, beq_eq_false_iff_ne]
      apply habove; omega
  rw [h1, h2]
  congr 1 <;> omega

/-! ## the lexicographic order of the canonical form -/

section lex
variable {α : Type}

theorem lexLe_iff (cmp : α → α → Int) (le : α → α → Bool) (x y : α) :
    lexLe cmp le x y = true ↔ cmp x y < 0 ∨ (cmp x y = 0 ∧ le x y = true) := by
  unfold lexLe; simp

theorem lexLe_trans (cmp : α → α → Int) (hc : Consistent cmp) (le : α → α → Bool)
    (htr : ∀ x y z, le x y = true → le y z = true → le x z = true) (x y z : α)
    (h1 : lexLe cmp le x y = true) (h2 : lexLe cmp le y z = true) : lexLe cmp le x z = true := by
  rw [lexLe_iff] at *
  rcases h1 with h1 | ⟨h1, l1⟩ <;> rcases h2 with h2 | ⟨h2, l2⟩
  · exact Or.inl (hc.lt_of_lt_of_le h1 (by omega))
  · exact Or.inl (hc.lt_of_lt_of_le h1 (by omega))
  · exact Or.inl (hc.lt_of_le_of_lt (by omega) h2)
  · right
    refine ⟨?_, htr x y z l1 l2⟩
    have a1 := hc.trans x y z (by omega) (by omega)
    have := hc.zero_symm h1
    have := hc.zero_symm h2
    have a2 := hc.trans z y x (by omega) (by omega)
    have := hc.anti x z
    omega

theorem lexLe_total (cmp : α → α → Int) (hc : Consistent cmp) (le : α → α → Bool)
    (htot : ∀ x y, (le x y || le y x) = true) (x y : α) : (lexLe cmp le x y || lexLe cmp le y x) = true := by
  rw [Bool.or_eq_true, lexLe_iff, lexLe_iff]
  rcases Int.lt_trichotomy (cmp x y) 0 with h | h | h
  · exact Or.inl (Or.inl h)
  · have := htot x y
    rw [Bool.or_eq_true] at this
    rcases this with l | l
    · exact Or.inl (Or.inr ⟨h, l⟩)
    · exact Or.inr (Or.inr ⟨hc.zero_symm h, l⟩)
  · exact Or.inr (Or.inl ((hc.anti y x).2 h))

theorem lexLe_antisymm (cmp : α → α → Int) (hc : Consistent cmp) (le : α → α → Bool)
    (has : ∀ x y, le x y = true → le y x = true → x = y) (x y : α)
    (h1 : lexLe cmp le x y = true) (h2 : lexLe cmp le y x = true) : x = y := by
  rw [lexLe_iff] at *
  have a1 := hc.anti x y
  have a2 := hc.anti y x
  rcases h1 with h1 | ⟨h1, l1⟩ <;> rcases h2 with h2 | ⟨h2, l2⟩
  · omega
  · omega
  · omega
  · exact has x y l1 l2

theorem canonLex_perm (cmp : α → α → Int) (hc : Consistent cmp) (le : α → α → Bool)
    (htot : ∀ x y, (le x y || le y x) = true) (htr : ∀ x y z, le x y = true → le y z = true → le x z = true)
    (has : ∀ x y, le x y = true → le y x = true → x = y) (l₁ l₂ : List α) (hp : l₁.Perm l₂) :
    canonLex cmp le l₁ = canonLex cmp le l₂ := by
  unfold canonLex
  apply List.Perm.eq_of_pairwise (le := fun x y => lexLe cmp le x y = true)
  · intro x y _ _ h1 h2; exact lexLe_antisymm cmp hc le has x y h1 h2
  · exact List.pairwise_mergeSort (lexLe_trans cmp hc le htr) (lexLe_total cmp hc le htot) l₁
  · exact List.pairwise_mergeSort (lexLe_trans cmp hc le htr) (lexLe_total cmp hc le htot) l₂
  · exact (List.mergeSort_perm l₁ _).trans (hp.trans (List.mergeSort_perm l₂ _).symm)

end lex

