/-
  C11 — the strto* family and atol / atoi against ISO 7.22.1.4 and 7.22.1.2.  Each digit loop of strto* is
  followed through an invariant (`GoodU` / `GoodS`) that ties the accumulator and the flag `any` to
  the value of the digits read so far; the code after the loop turns such a state into ISO's result.
-/
import IgrisModel.C11.Model
import IgrisModel.Common.ListScan
namespace Igris.C11
open Igris.Proto (Byte)

/-- igris/util/ctype.h on a character read through either conversion (`unsigned char` or the
sign-extending `int c = *s++`) against the specification, byte by byte -/
theorem ctype_rd : ∀ (u : Bool) (b : Byte),
    isspace (rd u b) = Spec.isSpace b ∧
    digitOf (rd u b) = (if Spec.digit b < 36 then some ((Spec.digit b : Nat) : Int) else none) ∧
    ((rd u b = 48 ↔ b.toNat = 48) ∧ (rd u b = 45 ↔ b.toNat = 45) ∧ (rd u b = 43 ↔ b.toNat = 43)) := by
  decide +kernel

theorem ctype_toNat : ∀ (b : Byte),
    isxdigit (b.toNat : Int) = decide (Spec.digit b < 16) ∧
    (isdigit (b.toNat : Int) = decide (Spec.digit b < 10) ∧
      (Spec.digit b < 10 → (b.toNat : Int) - 48 = (Spec.digit b : Int))) ∧
    ((b = 120 ∨ b = 88) ↔ (b.toNat = 120 ∨ b.toNat = 88)) ∧ Spec.digit b ≤ 36 := by
  decide +kernel

theorem isspace_rd (u : Bool) (b : Byte) : isspace (rd u b) = Spec.isSpace b := (ctype_rd u b).1

theorem digitOf_rd (u : Bool) (b : Byte) :
    digitOf (rd u b) = if Spec.digit b < 36 then some ((Spec.digit b : Nat) : Int) else none := (ctype_rd u b).2.1

theorem digitOf_rd_of_lt {base : Nat} (hb36 : base ≤ 36) (u : Bool) {b : Byte} (h : Spec.digit b < base) :
    digitOf (rd u b) = some ((Spec.digit b : Nat) : Int) := by
  rw [digitOf_rd, if_pos (by omega)]

theorem digitOf_rd_of_not_lt {base : Nat} (u : Bool) {b : Byte} (h : ¬ Spec.digit b < base) {d : Int}
    (hd : digitOf (rd u b) = some d) : d ≥ (base : Int) := by
  rw [digitOf_rd] at hd
  split at hd
  · cases hd; omega
  · cases hd

theorem rd_eq_lit (u : Bool) (b : Byte) :
    (rd u b = 48 ↔ b.toNat = 48) ∧ (rd u b = 45 ↔ b.toNat = 45) ∧ (rd u b = 43 ↔ b.toNat = 43) := (ctype_rd u b).2.2

theorem isxdigit_toNat (b : Byte) : isxdigit (b.toNat : Int) = decide (Spec.digit b < 16) := (ctype_toNat b).1

theorem isdigit_toNat (b : Byte) : isdigit (b.toNat : Int) = decide (Spec.digit b < 10) ∧
    (Spec.digit b < 10 → (b.toNat : Int) - 48 = (Spec.digit b : Int)) := (ctype_toNat b).2.1

theorem byte_eq_lit (b : Byte) : ((b = 120 ∨ b = 88) ↔ (b.toNat = 120 ∨ b.toNat = 88)) := (ctype_toNat b).2.2.1

theorem digit_le : ∀ (b : Byte), Spec.digit b ≤ 36 := fun b => (ctype_toNat b).2.2.2
theorem digit_zero : Spec.digit (0 : Byte) = 36 := by decide
theorem isSpace_zero : Spec.isSpace (0 : Byte) = false := by decide

/-- the cutoff/cutlim test is exactly "one more digit would exceed the limit" -/
theorem cutoff_test (limit base N d : Nat) (hb : 0 < base) (hd : d < base) :
    (N > limit / base ∨ (N = limit / base ∧ d > limit % base)) ↔ N * base + d > limit := by
  have h1 := Nat.div_add_mod limit base
  have h2 := Nat.mod_lt limit hb
  generalize limit / base = q at *
  generalize limit % base = r at *
  rw [Nat.mul_comm] at h1
  constructor
  · rintro (h | ⟨h, h'⟩)
    · have := Nat.mul_le_mul_right base (show q + 1 ≤ N from h)
      rw [Nat.add_mul] at this
      omega
    · subst h; omega
  · intro h
    rcases Nat.lt_trichotomy N q with h3 | h3 | h3
    · have := Nat.mul_le_mul_right base (show N + 1 ≤ q from h3)
      rw [Nat.add_mul] at this
      omega
    · subst h3; right; exact ⟨rfl, by omega⟩
    · left; exact h3

/-- state of the unsigned digit loop after a digit string of value `N`
(`ne`: at least one digit) -/
def GoodU (limit : Nat) (ovf : Option Nat) (N : Nat) (ne : Bool) (st : Nat × Int) : Prop :=
  (ne = false → N = 0 ∧ st = (0, 0)) ∧
  (ne = true → N ≤ limit → st = (N, 1)) ∧
  (ne = true → limit < N → st.2 = -1 ∧ ∀ v, ovf = some v → st.1 = v)

theorem goodU_cases {limit : Nat} {ovf : Option Nat} {N : Nat} {ne : Bool} {st : Nat × Int} (g : GoodU limit ovf N ne st) :
    (N ≤ limit ∧ st = (N, if ne = true then 1 else 0)) ∨
    (ne = true ∧ limit < N ∧ st.2 = -1 ∧ ∀ v, ovf = some v → st.1 = v) := by
  obtain ⟨g1, g2, g3⟩ := g
  cases ne with
  | false => obtain ⟨rfl, rfl⟩ := g1 rfl; exact Or.inl ⟨Nat.zero_le _, rfl⟩
  | true =>
    rcases Nat.lt_or_ge limit N with h | h
    · exact Or.inr ⟨rfl, h, g3 rfl h⟩
    · exact Or.inl ⟨h, g2 rfl h⟩

theorem goodU_zero {limit : Nat} {ovf : Option Nat} : GoodU limit ovf 0 false (0, 0) :=
  ⟨fun _ => ⟨rfl, rfl⟩, (by intro h; cases h), (by intro h; cases h)⟩

theorem goodU_start {limit : Nat} {ovf : Option Nat} {N : Nat} {st : Nat × Int} (g : GoodU limit ovf N false st) : st = (0, 0) :=
  (g.1 rfl).2

theorem goodU_of {limit : Nat} {ovf : Option Nat} {N : Nat} {st : Nat × Int}
    (h : if N ≤ limit then st = (N, 1) else st.2 = -1 ∧ ∀ v, ovf = some v → st.1 = v) : GoodU limit ovf N true st :=
  ⟨fun h => (by cases h), fun _ hle => by rwa [if_pos hle] at h, fun _ hlt => by rwa [if_neg (Nat.not_le.2 hlt)] at h⟩

/-- the cutoff/cutlim test is `cutoff_test`; when it admits the digit the new value is below `W`,
so `% W` does nothing -/
theorem stepU_mag (W base limit : Nat) (ovf : Option Nat) (hb : 0 < base) (hW : limit < W)
    (N d : Nat) (hd : d < base) (any : Int) (hany : ¬ any < 0) :
    stepU W base (limit / base) ((limit % base : Nat) : Int) ovf (N, any) (d : Int) =
      if N * base + d ≤ limit then (N * base + d, 1) else (ovf.getD N, -1) := by
  have key := cutoff_test limit base N d hb hd
  unfold stepU
  simp only [hany, if_false, Int.toNat_natCast]
  by_cases hov : N * base + d ≤ limit
  · rw [if_neg (by omega), if_pos hov, Nat.mod_eq_of_lt (by omega)]
  · rw [if_pos (by omega), if_neg hov]

theorem stepU_good (W base limit : Nat) (ovf : Option Nat) (hb : 0 < base) (hW : limit < W)
    (N : Nat) (ne : Bool) (st : Nat × Int) (d : Nat) (hd : d < base) (g : GoodU limit ovf N ne st) :
    GoodU limit ovf (N * base + d) true (stepU W base (limit / base) ((limit % base : Nat) : Int) ovf st (d : Int)) := by
  have hmono : N ≤ N * base + d := Nat.le_trans (Nat.le_mul_of_pos_right N hb) (Nat.le_add_right _ _)
  apply goodU_of
  rcases goodU_cases g with ⟨_, rfl⟩ | ⟨_, hov, hflag, hacc⟩
  · rw [stepU_mag W base limit ovf hb hW N d hd _ (by split <;> decide)]
    split
    · rfl
    · exact ⟨rfl, fun v hv => by rw [hv]; rfl⟩
  · -- flagged: the state stays, and the value stays beyond the limit
    rw [if_neg (by omega), show stepU W base (limit / base) ((limit % base : Nat) : Int) ovf st (d : Int) = st by
      unfold stepU; rw [if_pos (by rw [hflag]; decide)]]
    exact ⟨hflag, hacc⟩

theorem foldU_good (W base limit : Nat) (ovf : Option Nat) (hb : 0 < base) (hW : limit < W) :
    ∀ (ds : List Nat) (N : Nat) (ne : Bool) (st : Nat × Int), (∀ d ∈ ds, d < base) → GoodU limit ovf N ne st →
    GoodU limit ovf (ds.foldl (fun a d => a * base + d) N) (ne || !ds.isEmpty)
      (ds.foldl (fun st (d : Nat) => stepU W base (limit / base) ((limit % base : Nat) : Int) ovf st (d : Int)) st) := by
  intro ds
  induction ds with
  | nil => intro N ne st _ g; simpa using g
  | cons d ds ih =>
    intro N ne st hds g
    simp only [List.foldl_cons]
    have := ih (N * base + d) true _ (fun x hx => hds x (List.mem_cons_of_mem _ hx))
      (stepU_good W base limit ovf hb hW N ne st d (hds d List.mem_cons_self) g)
    simpa using this

theorem exists_next (bs : List Byte) (stop : Byte) (tail : List Byte) : ∃ cb rest, cb :: rest = bs ++ stop :: tail := by
  cases bs with
  | nil => exact ⟨stop, tail, rfl⟩
  | cons y ys => exact ⟨y, ys ++ stop :: tail, rfl⟩

theorem loopU_spec (W base cutoff : Nat) (cutlim : Int) (lp : Bool) (ovf : Option Nat) (hb36 : base ≤ 36) :
    ∀ (bs : List Byte) (stop : Byte) (tail : List Byte), (∀ x ∈ bs, Spec.digit x < base) → ¬ Spec.digit stop < base →
    ∀ (cb : Byte) (rest : List Byte), cb :: rest = bs ++ stop :: tail → ∀ (u : Bool) (off : Nat) (st : Nat × Int),
    loopU W base cutoff cutlim lp ovf rest (rd u cb) off st =
      some (((bs.map Spec.digit).foldl (fun st (d : Nat) => stepU W base cutoff cutlim ovf st (d : Int)) st).1,
            ((bs.map Spec.digit).foldl (fun st (d : Nat) => stepU W base cutoff cutlim ovf st (d : Int)) st).2,
            off + bs.length) := by
  intro bs
  induction bs with
  | nil =>
    intro stop tail _ hstop cb rest heq u off st
    rw [List.nil_append, List.cons.injEq] at heq
    obtain ⟨rfl, rfl⟩ := heq
    unfold loopU
    cases hd : digitOf (rd u cb) with
    | none => rfl
    | some d => simp only [if_pos (digitOf_rd_of_not_lt u hstop hd)]; rfl
  | cons x bs ih =>
    intro stop tail hbs hstop cb rest heq u off st
    rw [List.cons_append, List.cons.injEq] at heq
    obtain ⟨rfl, rfl⟩ := heq
    have hx := hbs cb List.mem_cons_self
    unfold loopU
    rw [digitOf_rd_of_lt hb36 u hx]
    simp only [show ¬ ((Spec.digit cb : Nat) : Int) ≥ (base : Int) by omega, if_false]
    obtain ⟨cb', rest', heq'⟩ := exists_next bs stop tail
    rw [← heq']
    simp only
    rw [ih stop tail (fun y hy => hbs y (List.mem_cons_of_mem _ hy)) hstop cb' rest' heq' lp (off + 1)]
    simp only [List.map_cons, List.foldl_cons, List.length_cons]
    congr 2
    congr 1
    omega

theorem skipWs_spec (u : Bool) : ∀ (t : List Byte) (off : Nat),
    ∃ cb rest, cb :: rest = t.dropWhile Spec.isSpace ++ [0] ∧
      skipWs u (t ++ [0]) off = some (rd u cb, rest, off + (t.takeWhile Spec.isSpace).length + 1) := by
  intro t
  induction t with
  | nil =>
    intro off
    refine ⟨0, [], rfl, ?_⟩
    simp only [List.nil_append, skipWs, isspace_rd, isSpace_zero, List.takeWhile_nil, List.length_nil]
    rfl
  | cons c t ih =>
    intro off
    by_cases hc : Spec.isSpace c = true
    · obtain ⟨cb, rest, h1, h2⟩ := ih (off + 1)
      refine ⟨cb, rest, ?_, ?_⟩
      · simp only [List.dropWhile_cons, hc, if_true]; exact h1
      · simp only [List.cons_append, skipWs, isspace_rd, hc, if_true, h2, List.takeWhile_cons, List.length_cons]
        congr 3; omega
    · have hc' : Spec.isSpace c = false := Bool.eq_false_iff.2 hc
      refine ⟨c, t ++ [0], ?_, ?_⟩
      · simp only [List.dropWhile_cons, hc']; rfl
      · simp only [List.cons_append, skipWs, isspace_rd, hc', List.takeWhile_cons]
        rfl

theorem sign_head (t1 : List Byte) (cb : Byte) (rest : List Byte) (h : cb :: rest = t1 ++ [0]) :
    ((cb.toNat = 45 ∨ cb.toNat = 43) ∧ ∃ cb2 rest2, rest = cb2 :: rest2 ∧ cb2 :: rest2 = (Spec.sign t1).2.2 ++ [0] ∧
      (Spec.sign t1).1 = decide (cb.toNat = 45) ∧ (Spec.sign t1).2.1 = 1) ∨
    (¬ cb.toNat = 45 ∧ ¬ cb.toNat = 43 ∧ cb :: rest = (Spec.sign t1).2.2 ++ [0] ∧
      (Spec.sign t1).1 = false ∧ (Spec.sign t1).2.1 = 0) := by
  cases t1 with
  | nil =>
    rw [List.nil_append, List.cons.injEq] at h
    obtain ⟨rfl, rfl⟩ := h
    exact Or.inr ⟨by decide, by decide, rfl, rfl, rfl⟩
  | cons b r =>
    rw [List.cons_append, List.cons.injEq] at h
    obtain ⟨rfl, rfl⟩ := h
    obtain ⟨cb2, rest2, heq⟩ := exists_next r 0 []
    by_cases h45 : cb.toNat = 45
    · rw [show Spec.sign (cb :: r) = (true, 1, r) by simp only [Spec.sign, if_pos h45]]
      exact Or.inl ⟨Or.inl h45, cb2, rest2, heq.symm, heq, (decide_eq_true h45).symm, rfl⟩
    · by_cases h43 : cb.toNat = 43
      · rw [show Spec.sign (cb :: r) = (false, 1, r) by simp only [Spec.sign, if_neg h45, if_pos h43]]
        exact Or.inl ⟨Or.inr h43, cb2, rest2, heq.symm, heq, (decide_eq_false h45).symm, rfl⟩
      · rw [show Spec.sign (cb :: r) = (false, 0, cb :: r) by simp only [Spec.sign, if_neg h45, if_neg h43]]
        exact Or.inr ⟨h45, h43, rfl, rfl, rfl⟩

theorem signStep_spec (R : Reads) (t1 : List Byte) (cb : Byte) (rest : List Byte) (h : cb :: rest = t1 ++ [0])
    (u : Bool) (off : Nat) :
    ∃ cb2 rest2 u2, cb2 :: rest2 = (Spec.sign t1).2.2 ++ [0] ∧
      signStep R (rd u cb) rest off = some ((Spec.sign t1).1, rd u2 cb2, rest2, off + (Spec.sign t1).2.1) := by
  obtain ⟨_, l45, l43⟩ := rd_eq_lit u cb
  rcases sign_head t1 cb rest h with ⟨hsg, cb2, rest2, rfl, heq, hneg, hlen⟩ | ⟨h45, h43, heq, hneg, hlen⟩
  · refine ⟨cb2, rest2, R.sg, heq, ?_⟩
    rw [hneg, hlen]
    by_cases h45 : cb.toNat = 45
    · simp only [signStep, l45.2 h45, if_true, h45, decide_true]
    · simp only [signStep, l43.2 (hsg.resolve_left h45), h45, decide_false]
      exact if_neg (by decide)
  · refine ⟨cb, rest, u, heq, ?_⟩
    have a : ¬ rd u cb = 45 := fun h => h45 (l45.1 h)
    have b : ¬ rd u cb = 43 := fun h => h43 (l43.1 h)
    simp only [signStep, a, b, if_false, hneg, hlen, Nat.add_zero]

theorem base0_eff (u : Bool) (base : Nat) (t2 : List Byte) (cb : Byte) (rest : List Byte) (h : cb :: rest = t2 ++ [0]) :
    base0 (rd u cb) base = Spec.effBase base false t2 := by
  obtain ⟨l48, _, _⟩ := rd_eq_lit u cb
  unfold base0 Spec.effBase
  cases t2 with
  | nil =>
    rw [List.nil_append, List.cons.injEq] at h
    obtain ⟨rfl, _⟩ := h
    have : ¬ rd u (0#8) = 48 := by rw [(rd_eq_lit u 0#8).1]; decide
    simp [this]
  | cons z r =>
    rw [List.cons_append, List.cons.injEq] at h
    obtain ⟨rfl, _⟩ := h
    by_cases h48 : cb.toNat = 48
    · simp [l48.2 h48, h48]
    · have : ¬ rd u cb = 48 := fun h => h48 (l48.1 h)
      simp [this, h48]

theorem prefixStep_spec (R : Reads) (base : Nat) (t2 : List Byte) (cb : Byte) (rest : List Byte)
    (h : cb :: rest = t2 ++ [0]) (u : Bool) (off : Nat) (neg : Bool) :
    ∃ cb3 rest3 u3,
      cb3 :: rest3 = (if (decide (base = 0 ∨ base = 16) && Spec.hexPrefix t2) = true then t2.drop 2 else t2) ++ [0] ∧
      prefixStep R base neg (rd u cb) rest off =
        some ⟨neg, rd u3 cb3, rest3, off + (if (decide (base = 0 ∨ base = 16) && Spec.hexPrefix t2) = true then 2 else 0),
              Spec.effBase base (decide (base = 0 ∨ base = 16) && Spec.hexPrefix t2) t2⟩ := by
  obtain ⟨l48, _, _⟩ := rd_eq_lit u cb
  have hb0 := base0_eff u base t2 cb rest h
  -- the fall-through answer (no prefix consumed)
  have fall : (decide (base = 0 ∨ base = 16) && Spec.hexPrefix t2) = false →
      prefixStep R base neg (rd u cb) rest off = some ⟨neg, rd u cb, rest, off, base0 (rd u cb) base⟩ →
      ∃ cb3 rest3 u3,
      cb3 :: rest3 = (if (decide (base = 0 ∨ base = 16) && Spec.hexPrefix t2) = true then t2.drop 2 else t2) ++ [0] ∧
      prefixStep R base neg (rd u cb) rest off =
        some ⟨neg, rd u3 cb3, rest3, off + (if (decide (base = 0 ∨ base = 16) && Spec.hexPrefix t2) = true then 2 else 0),
              Spec.effBase base (decide (base = 0 ∨ base = 16) && Spec.hexPrefix t2) t2⟩ := by
    intro hh hp
    refine ⟨cb, rest, u, ?_, ?_⟩
    · simp only [hh]; exact h
    · rw [hp, hh, hb0]; simp
  by_cases hcond : (base = 0 ∨ base = 16) ∧ rd u cb = 48
  · obtain ⟨hbase, hc48⟩ := hcond
    have h48 := l48.1 hc48
    cases t2 with
    | nil =>
      rw [List.nil_append, List.cons.injEq] at h
      obtain ⟨rfl, _⟩ := h
      exact absurd h48 (by decide)
    | cons z r =>
      rw [List.cons_append, List.cons.injEq] at h
      obtain ⟨rfl, rfl⟩ := h
      cases r with
      | nil =>
        apply fall
        · simp [Spec.hexPrefix]
        · simp only [prefixStep, hbase, hc48, and_self, if_true, List.nil_append]
          have : ¬ ((0 : Byte) = 120 ∨ (0 : Byte) = 88) := by decide
          simp only [this, if_false]
      | cons x r' =>
        by_cases hx : x = 120 ∨ x = 88
        · cases r' with
          | nil =>
            apply fall
            · simp [Spec.hexPrefix]
            · simp only [prefixStep, hbase, hc48, and_self, if_true, List.cons_append, List.nil_append, hx]
              have : ¬ (isxdigit ((0 : Byte).toNat : Int) = true) := by decide
              simp only [this]
              simp
          | cons y r'' =>
            by_cases hy : Spec.digit y < 16
            · have hhex : (decide (base = 0 ∨ base = 16) && Spec.hexPrefix (cb :: x :: y :: r'')) = true := by
                have := (byte_eq_lit x).1 hx
                simp only [Spec.hexPrefix, hbase, decide_true, Bool.true_and, h48, hy, Bool.and_true]
                rcases this with h | h <;> simp [h]
              refine ⟨y, r'' ++ [0], R.sg, ?_, ?_⟩
              · simp only [hhex, if_true, List.drop_succ_cons, List.drop_zero, List.cons_append]
              · simp only [hhex]
                simp only [prefixStep, hbase, hc48, and_self, if_true, List.cons_append, hx, isxdigit_toNat, hy, decide_true,
                  Spec.effBase, base0]
                simp
            · apply fall
              · have : ¬ (Spec.digit y < 16) := hy
                simp [Spec.hexPrefix, this]
              · simp only [prefixStep, hbase, hc48, and_self, if_true, List.cons_append, hx, isxdigit_toNat, hy, decide_false]
                simp
        · apply fall
          · have := fun h => hx ((byte_eq_lit x).2 h)
            have a : ¬ x.toNat = 120 := fun h => this (Or.inl h)
            have b : ¬ x.toNat = 88 := fun h => this (Or.inr h)
            cases r' <;> simp [Spec.hexPrefix, a, b]
          · simp only [prefixStep, hbase, hc48, and_self, if_true, List.cons_append, hx, if_false]
  · apply fall
    · by_cases hbase : base = 0 ∨ base = 16
      · have hc : ¬ rd u cb = 48 := fun h => hcond ⟨hbase, h⟩
        have h48 : ¬ cb.toNat = 48 := fun h => hc (l48.2 h)
        cases t2 with
        | nil => simp [Spec.hexPrefix]
        | cons z r =>
          rw [List.cons_append, List.cons.injEq] at h
          obtain ⟨rfl, _⟩ := h
          match r with
          | [] => simp [Spec.hexPrefix]
          | [_] => simp [Spec.hexPrefix]
          | _ :: _ :: _ => simp [Spec.hexPrefix, h48]
      · simp [hbase]
    · simp only [prefixStep, hcond, if_false]

theorem front_spec (R : Reads) (t : List Byte) (base : Nat) :
    ∃ cb rest u,
      cb :: rest = (if (decide (base = 0 ∨ base = 16) && Spec.hexPrefix (Spec.sign (t.dropWhile Spec.isSpace)).2.2) = true
          then (Spec.sign (t.dropWhile Spec.isSpace)).2.2.drop 2 else (Spec.sign (t.dropWhile Spec.isSpace)).2.2) ++ [0] ∧
      front R (t ++ [0]) base = some ⟨(Spec.sign (t.dropWhile Spec.isSpace)).1, rd u cb, rest,
        (t.takeWhile Spec.isSpace).length + (Spec.sign (t.dropWhile Spec.isSpace)).2.1 +
          (if (decide (base = 0 ∨ base = 16) && Spec.hexPrefix (Spec.sign (t.dropWhile Spec.isSpace)).2.2) = true then 2 else 0) + 1,
        Spec.effBase base (decide (base = 0 ∨ base = 16) && Spec.hexPrefix (Spec.sign (t.dropWhile Spec.isSpace)).2.2)
          (Spec.sign (t.dropWhile Spec.isSpace)).2.2⟩ := by
  obtain ⟨cb1, rest1, e1, h1⟩ := skipWs_spec R.ws t 0
  obtain ⟨cb2, rest2, u2, e2, h2⟩ := signStep_spec R (t.dropWhile Spec.isSpace) cb1 rest1 e1 R.ws (0 + (t.takeWhile Spec.isSpace).length + 1)
  obtain ⟨cb3, rest3, u3, e3, h3⟩ := prefixStep_spec R base (Spec.sign (t.dropWhile Spec.isSpace)).2.2 cb2 rest2 e2 u2
    (0 + (t.takeWhile Spec.isSpace).length + 1 + (Spec.sign (t.dropWhile Spec.isSpace)).2.1) (Spec.sign (t.dropWhile Spec.isSpace)).1
  refine ⟨cb3, rest3, u3, e3, ?_⟩
  unfold front
  rw [h1]; simp only
  rw [h2]; simp only
  rw [h3]
  congr 2
  omega

theorem run_split (b : Nat) (hb : b ≤ 36) : ∀ (t3 : List Byte),
    ∃ stop tail, t3 ++ [0] = t3.takeWhile (fun x => decide (Spec.digit x < b)) ++ stop :: tail ∧ ¬ Spec.digit stop < b := by
  intro t3
  induction t3 with
  | nil => exact ⟨0, [], rfl, by rw [digit_zero]; omega⟩
  | cons x xs ih =>
    by_cases hx : Spec.digit x < b
    · obtain ⟨stop, tail, h1, h2⟩ := ih
      refine ⟨stop, tail, ?_, h2⟩
      simp only [List.takeWhile_cons, hx, decide_true, if_true, List.cons_append, h1]
    · refine ⟨x, xs ++ [0], ?_, hx⟩
      simp only [List.takeWhile_cons, hx, decide_false, List.cons_append]
      rfl

theorem digits_eq (b : Nat) (t3 : List Byte) :
    Spec.digits b t3 = (t3.takeWhile (fun x => decide (Spec.digit x < b))).map Spec.digit := by
  unfold Spec.digits
  rw [List.takeWhile_map]
  rfl

theorem effBase_range (base : Nat) (hbase : base = 0 ∨ (2 ≤ base ∧ base ≤ 36)) (hex : Bool) (t2 : List Byte) :
    2 ≤ Spec.effBase base hex t2 ∧ Spec.effBase base hex t2 ≤ 36 := by
  unfold Spec.effBase
  split
  · omega
  · split
    · split <;> omega
    · omega

theorem digits_split (b : Nat) (hb : b ≤ 36) (t3 : List Byte) :
    ∃ bs stop tail, t3 ++ [0] = bs ++ stop :: tail ∧ (∀ x ∈ bs, Spec.digit x < b) ∧ ¬ Spec.digit stop < b ∧
      bs.map Spec.digit = Spec.digits b t3 := by
  obtain ⟨stop, tail, hsplit, hstop⟩ := run_split b hb t3
  exact ⟨_, stop, tail, hsplit, fun x hx => by have := mem_takeWhile_sat hx; simpa using this, hstop, (digits_eq b t3).symm⟩

/-- `t3` is the text after white space, sign and prefix, `k` its offset in the string -/
theorem front_parse (R : Reads) (t : List Byte) (base : Nat) (hbase : base = 0 ∨ (2 ≤ base ∧ base ≤ 36)) :
    ∃ (neg : Bool) (b k : Nat) (t3 : List Byte) (cb : Byte) (rest : List Byte) (u : Bool),
      2 ≤ b ∧ b ≤ 36 ∧ cb :: rest = t3 ++ [0] ∧
      front R (t ++ [0]) base = some ⟨neg, rd u cb, rest, k + 1, b⟩ ∧
      Spec.parse t base =
        if Spec.digits b t3 = [] then none
        else some ⟨neg, Spec.ofDigits b (Spec.digits b t3), k + (Spec.digits b t3).length⟩ := by
  obtain ⟨cb, rest, u, hcb, hfront⟩ := front_spec R t base
  obtain ⟨hb2, hb36⟩ := effBase_range base hbase
    (decide (base = 0 ∨ base = 16) && Spec.hexPrefix (Spec.sign (t.dropWhile Spec.isSpace)).2.2)
    (Spec.sign (t.dropWhile Spec.isSpace)).2.2
  exact ⟨_, _, _, _, cb, rest, u, hb2, hb36, hcb, hfront, rfl⟩

theorem loopU_digits (W b limit : Nat) (ovf : Option Nat) (lp : Bool) (hb2 : 2 ≤ b) (hb36 : b ≤ 36) (hW : limit < W)
    (t3 : List Byte) (cb : Byte) (rest : List Byte) (h : cb :: rest = t3 ++ [0]) (u : Bool) (off : Nat) :
    ∃ st : Nat × Int,
      loopU W b (limit / b) ((limit % b : Nat) : Int) lp ovf rest (rd u cb) off (0, 0) =
        some (st.1, st.2, off + (Spec.digits b t3).length) ∧
      GoodU limit ovf (Spec.ofDigits b (Spec.digits b t3)) (!(Spec.digits b t3).isEmpty) st := by
  obtain ⟨bs, stop, tail, hsplit, hbs, hstop, hds⟩ := digits_split b hb36 t3
  have hrun := loopU_spec W b (limit / b) ((limit % b : Nat) : Int) lp ovf hb36 bs stop tail hbs hstop cb rest
    (by rw [h, hsplit]) u off (0, 0)
  have hgood := foldU_good W b limit ovf (by omega) hW (bs.map Spec.digit) 0 false (0, 0)
    (List.forall_mem_map.2 hbs) goodU_zero
  rw [← hds]
  exact ⟨_, by rw [hrun, List.length_map], by simpa [Spec.ofDigits] using hgood⟩

/-! ### strtoll: the signed accumulator -/

/-- state of strtoll's signed digit loop after a digit string of value `N` -/
def GoodS (H : Nat) (neg : Bool) (N : Nat) (ne : Bool) (st : Int × Int) : Prop :=
  (ne = false → N = 0 ∧ st = (0, 0)) ∧
  (ne = true → N ≤ (if neg = true then H else H - 1) → st = (if neg = true then -(N : Int) else (N : Int), 1)) ∧
  (ne = true → (if neg = true then H else H - 1) < N → st = (if neg = true then -(H : Int) else (H : Int) - 1, -1))

theorem goodS_cases {H : Nat} {neg : Bool} {N : Nat} {ne : Bool} {st : Int × Int} (g : GoodS H neg N ne st) :
    (N ≤ (if neg = true then H else H - 1) ∧ st = (if neg = true then -(N : Int) else (N : Int), if ne = true then 1 else 0)) ∨
    (ne = true ∧ (if neg = true then H else H - 1) < N ∧ st = (if neg = true then -(H : Int) else (H : Int) - 1, -1)) := by
  obtain ⟨g1, g2, g3⟩ := g
  cases ne with
  | false => obtain ⟨rfl, rfl⟩ := g1 rfl; exact Or.inl ⟨Nat.zero_le _, by cases neg <;> rfl⟩
  | true =>
    rcases Nat.lt_or_ge (if neg = true then H else H - 1) N with h | h
    · exact Or.inr ⟨rfl, h, g3 rfl h⟩
    · exact Or.inl ⟨h, g2 rfl h⟩

theorem goodS_zero {H : Nat} {neg : Bool} : GoodS H neg 0 false (0, 0) :=
  ⟨fun _ => ⟨rfl, rfl⟩, (by intro h; cases h), (by intro h; cases h)⟩

theorem goodS_start {H : Nat} {neg : Bool} {N : Nat} {st : Int × Int} (g : GoodS H neg N false st) : st = (0, 0) :=
  (g.1 rfl).2

theorem goodS_of {H : Nat} {neg : Bool} (M : Nat) : GoodS H neg M true
    (if M ≤ (if neg = true then H else H - 1) then (if neg = true then -(M : Int) else (M : Int), 1)
      else (if neg = true then -(H : Int) else (H : Int) - 1, -1)) :=
  ⟨fun h => (by cases h), fun _ h => by rw [if_pos h], fun _ h => by rw [if_neg (Nat.not_le.2 h)]⟩

/-- the cutoff/cutlim test is `cutoff_test` read through the sign; when it admits the digit neither
the multiplication nor the addition leaves `[-H, H - 1]` -/
theorem stepS_mag (H b : Nat) (neg : Bool) (hH : 0 < H) (hb : 0 < b) (N d : Nat) (hd : d < b) (any : Int) (hany : ¬ any < 0) :
    stepS (-(H : Int)) ((H : Int) - 1) (b : Int) neg
        (if neg = true then -(((if neg = true then H else H - 1) / b : Nat) : Int) else (((if neg = true then H else H - 1) / b : Nat) : Int))
        (((if neg = true then H else H - 1) % b : Nat) : Int) (if neg = true then -(N : Int) else (N : Int), any) (d : Int) =
      some (if N * b + d ≤ (if neg = true then H else H - 1)
        then (if neg = true then -((N * b + d : Nat) : Int) else ((N * b + d : Nat) : Int), 1)
        else (if neg = true then -(H : Int) else (H : Int) - 1, -1)) := by
  generalize hlim : (if neg = true then H else H - 1) = limit
  have key := cutoff_test limit b N d hb hd
  have hNb : (N : Int) * (b : Int) = ((N * b : Nat) : Int) := by push_cast; rfl
  generalize limit / b = q at key ⊢
  generalize limit % b = r at key ⊢
  unfold stepS
  simp only [hany, if_false]
  cases neg <;> simp only [Bool.false_eq_true, if_false, if_true] at hlim ⊢
  · by_cases hov : N * b + d ≤ limit
    · rw [if_neg (by omega), hNb, if_neg (by omega), if_pos hov]; rfl
    · rw [if_pos (by omega), if_neg hov]
  · by_cases hov : N * b + d ≤ limit
    · rw [if_neg (by omega), Int.neg_mul, hNb, if_neg (by omega), if_pos hov]
      congr 2; omega
    · rw [if_pos (by omega), if_neg hov]

theorem stepS_good (H b : Nat) (neg : Bool) (hH : 0 < H) (hb : 0 < b)
    (N : Nat) (ne : Bool) (st : Int × Int) (d : Nat) (hd : d < b) (g : GoodS H neg N ne st) :
    ∃ st', stepS (-(H : Int)) ((H : Int) - 1) (b : Int) neg
        (if neg = true then -(((if neg = true then H else H - 1) / b : Nat) : Int) else (((if neg = true then H else H - 1) / b : Nat) : Int))
        (((if neg = true then H else H - 1) % b : Nat) : Int) st (d : Int) = some st' ∧
      GoodS H neg (N * b + d) true st' := by
  have hmono : N ≤ N * b + d := Nat.le_trans (Nat.le_mul_of_pos_right N hb) (Nat.le_add_right _ _)
  rcases goodS_cases g with ⟨_, rfl⟩ | ⟨_, hov, rfl⟩
  · exact ⟨_, stepS_mag H b neg hH hb N d hd _ (by split <;> decide), goodS_of _⟩
  · -- flagged: the state stays, and the magnitude stays beyond the limit
    have := goodS_of (H := H) (neg := neg) (N * b + d)
    rw [if_neg (by omega)] at this
    exact ⟨_, by simp only [stepS, show ((-1 : Int) < 0) by decide, if_true], this⟩

theorem loopS_good (H b : Nat) (neg : Bool) (lp : Bool) (hH : 0 < H) (hb2 : 2 ≤ b) (hb36 : b ≤ 36) :
    ∀ (bs : List Byte) (stop : Byte) (tail : List Byte), (∀ x ∈ bs, Spec.digit x < b) → ¬ Spec.digit stop < b →
    ∀ (cb : Byte) (rest : List Byte), cb :: rest = bs ++ stop :: tail →
    ∀ (u : Bool) (off : Nat) (st : Int × Int) (N : Nat) (ne : Bool), GoodS H neg N ne st →
    ∃ st' : Int × Int,
      loopS (-(H : Int)) ((H : Int) - 1) (b : Int) neg
        (if neg = true then -(((if neg = true then H else H - 1) / b : Nat) : Int) else (((if neg = true then H else H - 1) / b : Nat) : Int))
        (((if neg = true then H else H - 1) % b : Nat) : Int) lp rest (rd u cb) off st = some (st'.1, st'.2, off + bs.length) ∧
      GoodS H neg ((bs.map Spec.digit).foldl (fun a d => a * b + d) N) (ne || !bs.isEmpty) st' := by
  intro bs
  induction bs with
  | nil =>
    intro stop tail _ hstop cb rest heq u off st N ne g
    rw [List.nil_append, List.cons.injEq] at heq
    obtain ⟨rfl, rfl⟩ := heq
    refine ⟨st, ?_, by simpa using g⟩
    unfold loopS
    cases hd : digitOf (rd u cb) with
    | none => rfl
    | some d => simp only [if_pos (digitOf_rd_of_not_lt u hstop hd)]; rfl
  | cons x bs ih =>
    intro stop tail hbs hstop cb rest heq u off st N ne g
    rw [List.cons_append, List.cons.injEq] at heq
    obtain ⟨rfl, rfl⟩ := heq
    have hx := hbs cb List.mem_cons_self
    obtain ⟨st1, hstep, g'⟩ := stepS_good H b neg hH (by omega) N ne st (Spec.digit cb) hx g
    obtain ⟨cb', rest', heq'⟩ := exists_next bs stop tail
    obtain ⟨st', hrun, g''⟩ := ih stop tail (fun y hy => hbs y (List.mem_cons_of_mem _ hy)) hstop cb' rest' heq' lp (off + 1) st1
      (N * b + Spec.digit cb) true g'
    refine ⟨st', ?_, by simpa using g''⟩
    unfold loopS
    rw [digitOf_rd_of_lt hb36 u hx]
    simp only [show ¬ ((Spec.digit cb : Nat) : Int) ≥ (b : Int) by omega, if_false]
    rw [hstep]
    simp only
    rw [← heq']
    simp only
    rw [hrun]
    simp only [List.length_cons]
    congr 3
    omega

theorem loopS_digits (H b : Nat) (neg lp : Bool) (hH : 0 < H) (hb2 : 2 ≤ b) (hb36 : b ≤ 36)
    (t3 : List Byte) (cb : Byte) (rest : List Byte) (h : cb :: rest = t3 ++ [0]) (u : Bool) (off : Nat) :
    ∃ st : Int × Int,
      loopS (-(H : Int)) ((H : Int) - 1) (b : Int) neg
        (if neg = true then -(((if neg = true then H else H - 1) / b : Nat) : Int) else (((if neg = true then H else H - 1) / b : Nat) : Int))
        (((if neg = true then H else H - 1) % b : Nat) : Int) lp rest (rd u cb) off (0, 0) =
          some (st.1, st.2, off + (Spec.digits b t3).length) ∧
      GoodS H neg (Spec.ofDigits b (Spec.digits b t3)) (!(Spec.digits b t3).isEmpty) st := by
  obtain ⟨bs, stop, tail, hsplit, hbs, hstop, hds⟩ := digits_split b hb36 t3
  obtain ⟨st, hloop, hgood⟩ := loopS_good H b neg lp hH hb2 hb36 bs stop tail hbs hstop cb rest (by rw [h, hsplit])
    u off (0, 0) 0 false goodS_zero
  rw [← hds, List.length_map, List.isEmpty_map]
  exact ⟨st, hloop, by simpa [Spec.ofDigits] using hgood⟩

/-! ### atol / atoi -/

/-- atol's white-space loop is strtol's (the `unsigned char` reads), without the offset -/
theorem atolSkip_eq_skipWs : ∀ (mem : List Byte) (off : Nat),
    atolSkip mem = (skipWs true mem off).map fun r => (r.1, r.2.1) := by
  intro mem
  induction mem with
  | nil => intro off; rfl
  | cons b rest ih =>
    intro off
    unfold atolSkip skipWs
    simp only [rd, if_true]
    split
    · exact ih (off + 1)
    · rfl

theorem atolSkip_spec : ∀ (t : List Byte),
    ∃ cb rest, cb :: rest = t.dropWhile Spec.isSpace ++ [0] ∧ atolSkip (t ++ [0]) = some ((cb.toNat : Int), rest) := by
  intro t
  obtain ⟨cb, rest, h1, h2⟩ := skipWs_spec true t 0
  exact ⟨cb, rest, h1, by rw [atolSkip_eq_skipWs _ 0, h2]; rfl⟩

theorem fold10_ge : ∀ (ds : List Nat) (N : Nat), N ≤ ds.foldl (fun a d => a * 10 + d) N := by
  intro ds
  induction ds with
  | nil => intro N; exact Nat.le_refl _
  | cons d ds ih =>
    intro N
    simp only [List.foldl_cons]
    have := ih (N * 10 + d)
    omega

theorem atolLoop_stop (MIN MAX : Int) {stop : Byte} (hstop : ¬ Spec.digit stop < 10) (tail : List Byte) (total : Int) :
    atolLoop MIN MAX tail (stop.toNat : Int) total = some total := by
  unfold atolLoop
  rw [(isdigit_toNat stop).1]
  simp [hstop]

theorem atolLoop_run (H : Nat) (hH : 0 < H) : ∀ (bs : List Byte) (stop : Byte) (tail : List Byte),
    (∀ x ∈ bs, Spec.digit x < 10) → ∀ (cb : Byte) (rest : List Byte), cb :: rest = bs ++ stop :: tail →
    ∀ (N : Nat), N ≤ H →
    atolLoop (-(H : Int)) ((H : Int) - 1) rest (cb.toNat : Int) (-(N : Int)) =
      if H < (bs.map Spec.digit).foldl (fun a d => a * 10 + d) N then none
      else atolLoop (-(H : Int)) ((H : Int) - 1) tail (stop.toNat : Int)
        (-(((bs.map Spec.digit).foldl (fun a d => a * 10 + d) N : Nat) : Int)) := by
  intro bs
  induction bs with
  | nil =>
    intro stop tail _ cb rest heq N hN
    rw [List.nil_append, List.cons.injEq] at heq
    obtain ⟨rfl, rfl⟩ := heq
    exact (if_neg (Nat.not_lt.2 hN)).symm
  | cons x bs ih =>
    intro stop tail hbs cb rest heq N hN
    rw [List.cons_append, List.cons.injEq] at heq
    obtain ⟨rfl, rfl⟩ := heq
    have hx := hbs cb List.mem_cons_self
    have hval := (isdigit_toNat cb).2 hx
    have hge := fold10_ge (bs.map Spec.digit) (N * 10 + Spec.digit cb)
    obtain ⟨cb', rest', heq'⟩ := exists_next bs stop tail
    rw [List.map_cons, List.foldl_cons, atolLoop, (isdigit_toNat cb).1]
    simp only [hx, decide_true, if_true, hval]
    by_cases hstep : N * 10 + Spec.digit cb ≤ H
    · rw [if_neg (by omega), ← heq']
      simp only
      rw [show (10 : Int) * -(N : Int) - (Spec.digit cb : Int) = -((N * 10 + Spec.digit cb : Nat) : Int) by omega]
      exact ih stop tail (fun y hy => hbs y (List.mem_cons_of_mem _ hy)) cb' rest' heq' _ hstep
    · rw [if_pos (by omega), if_pos (by omega)]

theorem atolLoop_ovf (H : Nat) (hH : 0 < H) : ∀ (bs : List Byte) (stop : Byte) (tail : List Byte),
    (∀ x ∈ bs, Spec.digit x < 10) →
    ∀ (cb : Byte) (rest : List Byte), cb :: rest = bs ++ stop :: tail →
    ∀ (N : Nat), N ≤ H → H < (bs.map Spec.digit).foldl (fun a d => a * 10 + d) N →
    atolLoop (-(H : Int)) ((H : Int) - 1) rest (cb.toNat : Int) (-(N : Int)) = none := by
  intro bs stop tail hbs cb rest heq N hN hov
  rw [atolLoop_run H hH bs stop tail hbs cb rest heq N hN, if_pos hov]

theorem atolSign_spec (t1 : List Byte) (cb : Byte) (rest : List Byte) (h : cb :: rest = t1 ++ [0]) :
    ∃ cb2 rest2, cb2 :: rest2 = (Spec.sign t1).2.2 ++ [0] ∧
      ((cb.toNat : Int) = 45 ↔ (Spec.sign t1).1 = true) ∧
      atolSign (cb.toNat : Int) rest = some ((cb2.toNat : Int), rest2) := by
  unfold atolSign
  rcases sign_head t1 cb rest h with ⟨hsg, cb2, rest2, rfl, heq, hneg, _⟩ | ⟨h45, h43, heq, hneg, _⟩
  · refine ⟨cb2, rest2, heq, ?_, ?_⟩
    · rw [hneg, decide_eq_true_eq]
      omega
    · rw [if_pos (by omega)]
  · refine ⟨cb, rest, heq, ?_, ?_⟩
    · simp only [hneg, Bool.false_eq_true, iff_false]
      omega
    · rw [if_neg (by omega)]

theorem two_pow_cast (n : Nat) : (2 : Int) ^ n = ((2 ^ n : Nat) : Int) := by norm_cast

/-- `none` is signed overflow.  The positive limit is one below the negative one, so a magnitude of
exactly `2 ^ (w - 1)` survives the negative accumulation and overflows in the final negation -/
theorem atol_eq (w : Nat) (t : List Byte) :
    atol w (t ++ [0]) =
      if -((2 : Int) ^ (w - 1)) ≤ Spec.decimalValue t ∧ Spec.decimalValue t ≤ (2 : Int) ^ (w - 1) - 1
      then some (Spec.decimalValue t) else none := by
  have hH0 := Nat.two_pow_pos (w - 1)
  have hHi := two_pow_cast (w - 1)
  rw [hHi]
  generalize hH : 2 ^ (w - 1) = H at *
  obtain ⟨cb1, rest1, e1, h1⟩ := atolSkip_spec t
  obtain ⟨cb2, rest2, e2, hsign, h2⟩ := atolSign_spec (t.dropWhile Spec.isSpace) cb1 rest1 e1
  generalize hsg : Spec.sign (t.dropWhile Spec.isSpace) = sg at *
  obtain ⟨bs, stop, tail, hsplit, hbs, hstop, hds⟩ := digits_split 10 (by omega) sg.2.2
  have hparse : Spec.parse t 10 =
      if Spec.digits 10 sg.2.2 = [] then none
      else some ⟨sg.1, Spec.ofDigits 10 (Spec.digits 10 sg.2.2),
        (t.takeWhile Spec.isSpace).length + sg.2.1 + 0 + (Spec.digits 10 sg.2.2).length⟩ := by
    unfold Spec.parse
    simp [hsg, Spec.effBase]
  have hval : Spec.decimalValue t =
      if sg.1 = true then -((Spec.ofDigits 10 (Spec.digits 10 sg.2.2) : Nat) : Int)
      else ((Spec.ofDigits 10 (Spec.digits 10 sg.2.2) : Nat) : Int) := by
    unfold Spec.decimalValue
    rw [hparse]
    by_cases hnil : Spec.digits 10 sg.2.2 = []
    · simp [hnil, Spec.ofDigits]
    · simp [hnil]
  have hloop := atolLoop_run H hH0 bs stop tail hbs cb2 rest2 (by rw [e2, hsplit]) 0 (Nat.zero_le _)
  rw [hds, show List.foldl (fun a d => a * 10 + d) 0 (Spec.digits 10 sg.2.2) = Spec.ofDigits 10 (Spec.digits 10 sg.2.2) from rfl,
    atolLoop_stop _ _ hstop, show (-((0 : Nat) : Int)) = 0 by simp] at hloop
  rw [hval]
  unfold atol
  rw [h1]
  simp only [hHi]
  rw [h2]
  simp only
  rw [hloop]
  generalize Spec.ofDigits 10 (Spec.digits 10 sg.2.2) = mag at *
  by_cases hbig : H < mag
  · rw [if_pos hbig, if_neg (by cases sg.1 <;> simp only [Bool.false_eq_true, if_false, if_true] <;> omega)]
  · rw [if_neg hbig]
    simp only
    cases h : sg.1
    · have : ¬ (cb1.toNat : Int) = 45 := by rw [hsign, h]; simp
      simp only [this, if_false, Bool.false_eq_true, Int.neg_neg]
      by_cases hrep : mag ≤ H - 1
      · rw [if_neg (by omega), if_pos (by omega)]
      · rw [if_pos (by omega), if_neg (by omega)]
    · have : (cb1.toNat : Int) = 45 := by rw [hsign, h]
      simp only [this, if_true]
      rw [if_pos (by omega)]

/-- atol on a text whose decimal value is NOT representable: signed overflow
(undefined behaviour in C; ISO 7.22.1.2 makes the call undefined as well).
Together with `atol_value`: the model returns a value iff ISO defines one. -/
theorem atol_overflow (w : Nat) (hw : 0 < w) (t : List Byte)
    (hrep : ¬ (-((2 : Int) ^ (w - 1)) ≤ Spec.decimalValue t ∧ Spec.decimalValue t ≤ (2 : Int) ^ (w - 1) - 1)) :
    atol w (t ++ [0]) = none := by
  rw [atol_eq w t, if_neg hrep]

theorem asSigned_wrap (w : Nat) (hw : 0 < w) (v : Int)
    (h : -((2 : Int) ^ (w - 1)) ≤ v ∧ v ≤ (2 : Int) ^ (w - 1) - 1) :
    asSigned w ((v % 2 ^ w).toNat) = v := by
  have hW2 := Nat.two_pow_pred_mul_two hw
  have hH0 := Nat.two_pow_pos (w - 1)
  have hHi := two_pow_cast (w - 1)
  have hWi := two_pow_cast w
  rw [hHi] at h
  unfold asSigned
  rw [hWi]
  generalize 2 ^ (w - 1) = H at *
  generalize 2 ^ w = W at *
  by_cases hv : 0 ≤ v
  · have e : v % (W : Int) = v := Int.emod_eq_of_lt hv (by omega)
    rw [e]
    have : v.toNat < H := by omega
    simp only [this, if_true]
    omega
  · have e : v % (W : Int) = v + W := by
      have := Int.add_mul_emod_self_left v (W : Int) 1
      rw [Int.mul_one] at this
      rw [← this]
      exact Int.emod_eq_of_lt (by omega) (by omega)
    rw [e]
    have : ¬ (v + (W : Int)).toNat < H := by omega
    simp only [this, if_false]
    omega

/-! ### errno threaded through the two digit loops -/

theorem loopU_neg (W base cutoff : Nat) (cutlim : Int) (lp : Bool) (ovf : Option Nat) :
    ∀ (rest : List Byte) (c : Int) (off : Nat) (st : Nat × Int) (r : Nat × Int × Nat), st.2 < 0 →
    loopU W base cutoff cutlim lp ovf rest c off st = some r → r.2.1 < 0 := by
  intro rest c off st r hneg h
  fun_induction loopU W base cutoff cutlim lp ovf rest c off st with
  | case1 rest c off st hd => cases h; exact hneg
  | case2 rest c off st d hd hge => cases h; exact hneg
  | case3 c off st d hd hge => cases h
  | case4 c off st d hd hge b rest' ih => exact ih (by unfold stepU; simp only [hneg, if_true]) h

theorem stepU_err (W base cutoff : Nat) (cutlim : Int) (ovf : Option Nat) (st : Nat × Int) (d : Int) (e : Nat) :
    (st.2 < 0 → (stepU W base cutoff cutlim ovf st d).2 = st.2 ∧ errU cutoff cutlim st d e = e) ∧
    (¬ st.2 < 0 → ((stepU W base cutoff cutlim ovf st d).2 = -1 ∧ errU cutoff cutlim st d e = ERANGE) ∨
      ((stepU W base cutoff cutlim ovf st d).2 = 1 ∧ errU cutoff cutlim st d e = e)) := by
  unfold stepU errU
  constructor
  · intro hneg; simp only [hneg, if_true, and_self]
  · intro hneg
    by_cases hov : st.1 > cutoff ∨ (st.1 = cutoff ∧ d > cutlim)
    · simp only [hneg, if_false, hov, if_true, and_self, true_or]
    · simp only [hneg, if_false, hov, and_self, or_true]

/-- what the errno proofs of both loops share: `a`, `e` are flag and errno before a pass, `a'`, `e'`
after it, `r` the final flag (negative once flagged) -/
theorem errno_thread {a a' r : Int} {e e' : Nat} (k1 : a < 0 → a' = a ∧ e' = e)
    (k2 : ¬ a < 0 → (a' = -1 ∧ e' = ERANGE) ∨ (a' = 1 ∧ e' = e)) (h3 : a' < 0 → r < 0) :
    (if 0 ≤ a' ∧ r < 0 then ERANGE else e') = (if 0 ≤ a ∧ r < 0 then ERANGE else e) := by
  by_cases hneg : a < 0
  · obtain ⟨h1, h2⟩ := k1 hneg
    rw [h1, h2]
  · rcases k2 hneg with ⟨h1, h2⟩ | ⟨h1, h2⟩
    · rw [h2, if_neg (by omega), if_pos ⟨by omega, h3 (by omega)⟩]
    · rw [h2]
      by_cases hr : r < 0
      · rw [if_pos ⟨by omega, hr⟩, if_pos ⟨by omega, hr⟩]
      · rw [if_neg (fun h => hr h.2), if_neg (fun h => hr h.2)]

/-- where a loop stops, nothing has been stored -/
theorem errno_stop {α : Type} (acc : α) (any : Int) (off e : Nat) :
    some (acc, any, off, e) = some (acc, any, off, if 0 ≤ any ∧ any < 0 then ERANGE else e) := by
  rw [if_neg (by omega)]

theorem loopUe_eq (W base cutoff : Nat) (cutlim : Int) (lp : Bool) (ovf : Option Nat) :
    ∀ (rest : List Byte) (c : Int) (off : Nat) (st : Nat × Int) (e : Nat),
    loopUe W base cutoff cutlim lp ovf rest c off st e =
      (loopU W base cutoff cutlim lp ovf rest c off st).map
        fun r => (r.1, r.2.1, r.2.2, if 0 ≤ st.2 ∧ r.2.1 < 0 then ERANGE else e) := by
  intro rest c off st e
  fun_induction loopUe W base cutoff cutlim lp ovf rest c off st e with
  | case1 rest c off st e hd => rw [loopU, hd]; exact errno_stop st.1 st.2 off e
  | case2 rest c off st e d hd hge => rw [loopU, hd]; simp only [hge, if_true]; exact errno_stop st.1 st.2 off e
  | case3 c off st e d hd hge => rw [loopU, hd]; simp only [hge, if_false]; rfl
  | case4 c off st e d hd hge b rest' ih =>
    rw [loopU, hd]
    simp only [hge, if_false]
    rw [ih]
    cases hl : loopU W base cutoff cutlim lp ovf rest' (rd lp b) (off + 1) (stepU W base cutoff cutlim ovf st d) with
    | none => rfl
    | some r =>
      obtain ⟨k1, k2⟩ := stepU_err W base cutoff cutlim ovf st d e
      simp only [Option.map_some]
      congr 4
      exact errno_thread k1 k2
        (fun h => loopU_neg W base cutoff cutlim lp ovf rest' _ _ _ r h hl)

theorem loopS_neg (MIN MAX base : Int) (neg : Bool) (cutoff cutlim : Int) (lp : Bool) :
    ∀ (rest : List Byte) (c : Int) (off : Nat) (st : Int × Int) (r : Int × Int × Nat), st.2 < 0 →
    loopS MIN MAX base neg cutoff cutlim lp rest c off st = some r → r.2.1 < 0 := by
  intro rest c off st r hneg h
  fun_induction loopS MIN MAX base neg cutoff cutlim lp rest c off st with
  | case1 rest c off st hd => cases h; exact hneg
  | case2 rest c off st d hd hge => cases h; exact hneg
  | case3 rest c off st d hd hge hs => cases h
  | case4 c off st d hd hge st' hs => cases h
  | case5 c off st d hd hge st' hs b rest' ih =>
    refine ih ?_ h
    unfold stepS at hs
    simp only [hneg, if_true, Option.some.injEq] at hs
    rw [← hs]; exact hneg

theorem stepS_err (MIN MAX base : Int) (neg : Bool) (cutoff cutlim : Int) (st st' : Int × Int) (d : Int) (e : Nat)
    (h : stepS MIN MAX base neg cutoff cutlim st d = some st') :
    (st.2 < 0 → st'.2 = st.2 ∧ errS neg cutoff cutlim st d e = e) ∧
    (¬ st.2 < 0 → (st'.2 = -1 ∧ errS neg cutoff cutlim st d e = ERANGE) ∨ (st'.2 = 1 ∧ errS neg cutoff cutlim st d e = e)) := by
  unfold errS
  revert h
  fun_cases stepS MIN MAX base neg cutoff cutlim st d with
  | case1 hneg => intro h; cases h; exact ⟨fun _ => ⟨rfl, if_pos hneg⟩, fun hn => absurd hneg hn⟩
  | case2 hneg hn hov =>
    intro h; cases h
    exact ⟨fun h => absurd h hneg, fun _ => Or.inl ⟨rfl, by rw [if_neg hneg, if_pos hn, if_pos hov]⟩⟩
  | case3 => intro h; cases h
  | case4 hneg hn hov =>
    intro h; cases h
    exact ⟨fun h => absurd h hneg, fun _ => Or.inr ⟨rfl, by rw [if_neg hneg, if_pos hn, if_neg hov]⟩⟩
  | case5 hneg hn hov =>
    intro h; cases h
    exact ⟨fun h => absurd h hneg, fun _ => Or.inl ⟨rfl, by rw [if_neg hneg, if_neg hn, if_pos hov]⟩⟩
  | case6 => intro h; cases h
  | case7 hneg hn hov =>
    intro h; cases h
    exact ⟨fun h => absurd h hneg, fun _ => Or.inr ⟨rfl, by rw [if_neg hneg, if_neg hn, if_neg hov]⟩⟩

theorem loopSe_eq (MIN MAX base : Int) (neg : Bool) (cutoff cutlim : Int) (lp : Bool) :
    ∀ (rest : List Byte) (c : Int) (off : Nat) (st : Int × Int) (e : Nat),
    loopSe MIN MAX base neg cutoff cutlim lp rest c off st e =
      (loopS MIN MAX base neg cutoff cutlim lp rest c off st).map
        fun r => (r.1, r.2.1, r.2.2, if 0 ≤ st.2 ∧ r.2.1 < 0 then ERANGE else e) := by
  intro rest c off st e
  fun_induction loopSe MIN MAX base neg cutoff cutlim lp rest c off st e with
  | case1 rest c off st e hd => rw [loopS, hd]; exact errno_stop st.1 st.2 off e
  | case2 rest c off st e d hd hge => rw [loopS, hd]; simp only [hge, if_true]; exact errno_stop st.1 st.2 off e
  | case3 rest c off st e d hd hge hs => rw [loopS, hd]; simp only [hge, if_false, hs]; rfl
  | case4 c off st e d hd hge st' hs => rw [loopS, hd]; simp only [hge, if_false, hs]; rfl
  | case5 c off st e d hd hge st' hs b rest' ih =>
    rw [loopS, hd]
    simp only [hge, if_false, hs]
    rw [ih]
    cases hl : loopS MIN MAX base neg cutoff cutlim lp rest' (rd lp b) (off + 1) st' with
    | none => rfl
    | some r =>
      obtain ⟨k1, k2⟩ := stepS_err MIN MAX base neg cutoff cutlim st st' d e hs
      simp only [Option.map_some]
      congr 4
      exact errno_thread k1 k2
        (fun h => loopS_neg MIN MAX base neg cutoff cutlim lp rest' _ _ _ r h hl)

/-! ### front end and digit loop against `Spec.parse`; the flag `any` against the specification -/

/-- what the flag `any` says after the loop: 0 = no digit, 1 = the magnitude is
within the limit, -1 = it is not -/
def AnyOK (any : Int) (p : Option Spec.Subject) (lim : Bool → Nat) : Prop :=
  (p = none → any = 0) ∧ ∀ s, p = some s → (s.mag ≤ lim s.neg → any = 1) ∧ (lim s.neg < s.mag → any = -1)

/-- the invariant `G` of either digit loop at `!ds.isEmpty`, read as the two cases of `Spec.parse` in the form
`front_parse` gives it: no digit, the initial state; else sign, end offset and `G` after at least one digit -/
theorem parsed_of_digits {σ : Type} {G : Bool → Nat → Bool → σ → Prop} {zero : σ}
    (hstart : ∀ {neg N st}, G neg N false st → st = zero)
    {neg : Bool} {ds : List Nat} {mag k : Nat} {st : σ} (hg : G neg mag (!ds.isEmpty) st) :
    match (if ds = [] then none else some (⟨neg, mag, k + ds.length⟩ : Spec.Subject)) with
    | none => st = zero
    | some s => neg = s.neg ∧ k + 1 + ds.length = s.len + 1 ∧ G s.neg s.mag true st := by
  cases ds with
  | nil => exact hstart hg
  | cons d ds =>
    rw [if_neg (List.cons_ne_nil d ds)]
    exact ⟨rfl, Nat.add_right_comm _ _ _, hg⟩

/-- front end + unsigned digit loop: strtol, strtoimax, strtoul, strtoumax, strtoull -/
theorem loopU_parse (R : Reads) (t : List Byte) (base : Nat) (hbase : base = 0 ∨ (2 ≤ base ∧ base ≤ 36))
    (W : Nat) (lim : Bool → Nat) (hlim : ∀ n, lim n < W) (ovf : Option Nat) :
    ∃ f st off, front R (t ++ [0]) base = some f ∧
      loopU W f.base (lim f.neg / f.base) ((lim f.neg % f.base : Nat) : Int) R.lp ovf f.rest f.c f.off (0, 0) =
        some (st.1, st.2, off) ∧
      match Spec.parse t base with
      | none => st = (0, 0)
      | some s => f.neg = s.neg ∧ off = s.len + 1 ∧ GoodU (lim s.neg) ovf s.mag true st := by
  obtain ⟨neg, b, k, t3, cb, rest, u, hb2, hb36, hcb, hfront, hparse⟩ := front_parse R t base hbase
  obtain ⟨st, hloop, hgood⟩ := loopU_digits W b (lim neg) ovf R.lp hb2 hb36 (hlim _) t3 cb rest hcb u (k + 1)
  refine ⟨_, st, _, hfront, hloop, ?_⟩
  rw [hparse]
  exact parsed_of_digits (G := fun neg N ne st => GoodU (lim neg) ovf N ne st) goodU_start hgood

theorem anyOK_of_goodU {lim : Bool → Nat} {ovf : Option Nat} {neg : Bool} {st : Nat × Int} {off : Nat} {p : Option Spec.Subject}
    (h : match p with
      | none => st = (0, 0)
      | some s => neg = s.neg ∧ off = s.len + 1 ∧ GoodU (lim s.neg) ovf s.mag true st) :
    AnyOK st.2 p lim := by
  cases p with
  | none => subst h; exact ⟨fun _ => rfl, fun s hs => by cases hs⟩
  | some s =>
    refine ⟨fun h => (by cases h), fun s' hs => ?_⟩
    cases hs
    rcases goodU_cases h.2.2 with ⟨hN, rfl⟩ | ⟨_, hov, hflag, _⟩
    · exact ⟨fun _ => rfl, fun hov => by omega⟩
    · exact ⟨fun hfit => by omega, fun _ => hflag⟩

theorem loopU_any (R : Reads) (t : List Byte) (base : Nat) (hbase : base = 0 ∨ (2 ≤ base ∧ base ≤ 36))
    (W : Nat) (lim : Bool → Nat) (hlim : ∀ n, lim n < W) (ovf : Option Nat) :
    ∃ f acc any off, front R (t ++ [0]) base = some f ∧
      loopU W f.base (lim f.neg / f.base) ((lim f.neg % f.base : Nat) : Int) R.lp ovf f.rest f.c f.off (0, 0) = some (acc, any, off) ∧
      AnyOK any (Spec.parse t base) lim := by
  obtain ⟨f, st, off, hf, hl, hp⟩ := loopU_parse R t base hbase W lim hlim ovf
  exact ⟨f, st.1, st.2, off, hf, hl, anyOK_of_goodU hp⟩

/-- `loopU_parse` for strtoll's signed loop, with the cutoff/cutlim computation of
strtoll.c (truncating `/` and `%`, the adjustment for negative numbers) -/
theorem loopS_parse (w : Nat) (R : Reads) (t : List Byte) (base : Nat) (hbase : base = 0 ∨ (2 ≤ base ∧ base ≤ 36)) :
    ∃ f st off, front R (t ++ [0]) base = some f ∧
      (let MAX : Int := 2 ^ (w - 1) - 1
       let MIN : Int := -(2 ^ (w - 1))
       let b : Int := f.base
       let cutoff0 : Int := if f.neg then MIN else MAX
       let cutlim0 := cutoff0.tmod b
       let cutoff1 := cutoff0.tdiv b
       let cc : Int × Int :=
         if f.neg then
           let (co, cl) := if cutlim0 > 0 then (cutoff1 + 1, cutlim0 - b) else (cutoff1, cutlim0)
           (co, -cl)
         else (cutoff1, cutlim0)
       loopS MIN MAX b f.neg cc.1 cc.2 R.lp f.rest f.c f.off (0, 0) = some (st.1, st.2, off)) ∧
      match Spec.parse t base with
      | none => st = (0, 0)
      | some s => f.neg = s.neg ∧ off = s.len + 1 ∧ GoodS (2 ^ (w - 1)) s.neg s.mag true st := by
  obtain ⟨neg, b, k, t3, cb, rest, u, hb2, hb36, hcb, hfront, hparse⟩ := front_parse R t base hbase
  have hH0 := Nat.two_pow_pos (w - 1)
  have hHi := two_pow_cast (w - 1)
  obtain ⟨st, hloop, hgood⟩ := loopS_digits (2 ^ (w - 1)) b neg R.lp hH0 hb2 hb36 t3 cb rest hcb u (k + 1)
  refine ⟨_, st, k + 1 + (Spec.digits b t3).length, hfront, ?_, ?_⟩
  · -- `cutoff` and `cutlim` of strtoll.c (C's truncating `/` and `%` on `LLONG_MIN` or `LLONG_MAX`, then the
    -- adjustment for negative numbers, which never fires: the remainder of a negative number is not
    -- positive) are quotient and remainder of the magnitude limit, the quotient carrying the sign
    simp only [hHi]
    generalize 2 ^ (w - 1) = H at hH0 hloop ⊢
    cases neg
    · simp only [Bool.false_eq_true, if_false] at hloop ⊢
      have hH1 : (H : Int) - 1 = ((H - 1 : Nat) : Int) := by omega
      rw [show ((H : Int) - 1).tdiv b = (((H - 1) / b : Nat) : Int) by rw [hH1, ← Int.ofNat_tdiv],
        show ((H : Int) - 1).tmod b = (((H - 1) % b : Nat) : Int) by rw [hH1, ← Int.ofNat_tmod]]
      exact hloop
    · simp only [if_true, Int.neg_tmod, Int.neg_tdiv, ← Int.ofNat_tdiv, ← Int.ofNat_tmod] at hloop ⊢
      simp only [show ¬ (-((H % b : Nat) : Int) > 0) by omega, if_false, Int.neg_neg]
      exact hloop
  · rw [hparse]
    exact parsed_of_digits (G := fun neg N ne st => GoodS (2 ^ (w - 1)) neg N ne st) goodS_start hgood

theorem anyOK_of_goodS {H : Nat} {neg : Bool} {st : Int × Int} {off : Nat} {p : Option Spec.Subject}
    (h : match p with
      | none => st = (0, 0)
      | some s => neg = s.neg ∧ off = s.len + 1 ∧ GoodS H s.neg s.mag true st) :
    AnyOK st.2 p (fun n => if n = true then H else H - 1) := by
  cases p with
  | none => subst h; exact ⟨fun _ => rfl, fun s hs => by cases hs⟩
  | some s =>
    refine ⟨fun h => (by cases h), fun s' hs => ?_⟩
    cases hs
    rcases goodS_cases h.2.2 with ⟨hN, rfl⟩ | ⟨_, hov, rfl⟩
    · exact ⟨fun _ => rfl, fun hov => by simp only at hov; omega⟩
    · exact ⟨fun hfit => by simp only at hfit; omega, fun _ => rfl⟩

theorem loopS_any (w : Nat) (hw : 0 < w) (R : Reads) (t : List Byte) (base : Nat) (hbase : base = 0 ∨ (2 ≤ base ∧ base ≤ 36)) :
    ∃ f acc any off, front R (t ++ [0]) base = some f ∧
      (let MAX : Int := 2 ^ (w - 1) - 1
       let MIN : Int := -(2 ^ (w - 1))
       let b : Int := f.base
       let cutoff0 : Int := if f.neg then MIN else MAX
       let cutlim0 := cutoff0.tmod b
       let cutoff1 := cutoff0.tdiv b
       let cc : Int × Int :=
         if f.neg then
           let (co, cl) := if cutlim0 > 0 then (cutoff1 + 1, cutlim0 - b) else (cutoff1, cutlim0)
           (co, -cl)
         else (cutoff1, cutlim0)
       loopS MIN MAX b f.neg cc.1 cc.2 R.lp f.rest f.c f.off (0, 0) = some (acc, any, off)) ∧
      AnyOK any (Spec.parse t base) (fun n => if n = true then 2 ^ (w - 1) else 2 ^ (w - 1) - 1) := by
  obtain ⟨f, st, off, hf, hl, hp⟩ := loopS_parse w R t base hbase
  exact ⟨f, st.1, st.2, off, hf, hl, anyOK_of_goodS hp⟩

theorem signedErr_of_any (w : Nat) (hw : 0 < w) (any : Int) (p : Option Spec.Subject)
    (h : AnyOK any p (fun n => if n = true then 2 ^ (w - 1) else 2 ^ (w - 1) - 1)) :
    (if any < 0 then ERANGE else 0) = Spec.signedErr w p := by
  have hH0 := Nat.two_pow_pos (w - 1)
  have hHi := two_pow_cast (w - 1)
  cases p with
  | none => rw [h.1 rfl]; rfl
  | some s =>
    obtain ⟨h1, h2⟩ := h.2 s rfl
    simp only [Spec.signedErr, hHi, ERANGE]
    generalize 2 ^ (w - 1) = H at *
    cases hneg : s.neg <;> simp only [hneg, Bool.false_eq_true, if_false, if_true] at h1 h2 ⊢
    · by_cases hfit : s.mag ≤ H - 1
      · rw [h1 hfit, if_neg (by decide), if_neg (by omega)]
      · rw [h2 (by omega), if_pos (by decide), if_pos (by omega)]
    · by_cases hfit : s.mag ≤ H
      · rw [h1 hfit, if_neg (by decide), if_neg (by omega)]
      · rw [h2 (by omega), if_pos (by decide), if_pos (by omega)]

theorem unsignedErr_of_any (w : Nat) (any : Int) (p : Option Spec.Subject)
    (h : AnyOK any p (fun _ => 2 ^ w - 1)) :
    (if any < 0 then ERANGE else 0) = Spec.unsignedErr w p ∧
    (if any < 0 then ERANGE else if any = 0 then EINVAL else 0) = Spec.unsignedErrEinval w p := by
  cases p with
  | none => rw [h.1 rfl]; simp [Spec.unsignedErr, Spec.unsignedErrEinval, EINVAL]
  | some s =>
    obtain ⟨h1, h2⟩ := h.2 s rfl
    simp only [Spec.unsignedErr, Spec.unsignedErrEinval, ERANGE]
    simp only at h1 h2
    by_cases hfit : s.mag ≤ 2 ^ w - 1
    · rw [h1 hfit]; simp; omega
    · rw [h2 (by omega)]; simp; omega

/-! ### after the loop: the four epilogues -/

theorem asSigned_magnitude (w : Nat) (hw : 0 < w) (neg : Bool) (m : Nat)
    (h : m ≤ if neg = true then 2 ^ (w - 1) else 2 ^ (w - 1) - 1) :
    asSigned w (if neg = true then (2 ^ w - m) % 2 ^ w else m) = if neg = true then -(m : Int) else (m : Int) := by
  have hW2 := Nat.two_pow_pred_mul_two hw
  have hH0 := Nat.two_pow_pos (w - 1)
  have hWi := two_pow_cast w
  unfold asSigned
  rw [hWi]
  generalize 2 ^ (w - 1) = H at *
  generalize 2 ^ w = W at *
  cases neg
  · simp only [Bool.false_eq_true, if_false] at h ⊢
    rw [if_pos (by omega)]
  · simp only [if_true] at h ⊢
    by_cases hm : m = 0
    · subst hm; rw [Nat.sub_zero, Nat.mod_self, if_pos hH0]; rfl
    · rw [Nat.mod_eq_of_lt (by omega)]; split <;> omega

theorem asSigned_limit (w : Nat) (hw : 0 < w) (neg : Bool) :
    asSigned w (if neg = true then 2 ^ (w - 1) else 2 ^ (w - 1) - 1) =
      if neg = true then -((2 ^ (w - 1) : Nat) : Int) else ((2 ^ (w - 1) : Nat) : Int) - 1 := by
  have hW2 := Nat.two_pow_pred_mul_two hw
  have hH0 := Nat.two_pow_pos (w - 1)
  have hWi := two_pow_cast w
  unfold asSigned
  rw [hWi]
  generalize 2 ^ (w - 1) = H at *
  generalize 2 ^ w = W at *
  cases neg
  · simp only [Bool.false_eq_true, if_false]; rw [if_pos (by omega)]; omega
  · simp only [if_true]; rw [if_neg (by omega)]; omega

theorem signedResult_some (w : Nat) (s : Spec.Subject) :
    Spec.signedResult w (some s) =
      (if s.mag ≤ (if s.neg = true then 2 ^ (w - 1) else 2 ^ (w - 1) - 1)
        then (if s.neg = true then -(s.mag : Int) else (s.mag : Int))
        else (if s.neg = true then -((2 ^ (w - 1) : Nat) : Int) else ((2 ^ (w - 1) : Nat) : Int) - 1), s.len) := by
  have hH0 := Nat.two_pow_pos (w - 1)
  have hHi := two_pow_cast (w - 1)
  simp only [Spec.signedResult, hHi]
  generalize 2 ^ (w - 1) = H at *
  congr 1
  cases s.neg <;> simp only [Bool.false_eq_true, if_false, if_true]
  · by_cases hfit : s.mag ≤ H - 1
    · rw [if_pos hfit, if_neg (by omega), if_neg (by omega)]
    · rw [if_neg hfit, if_neg (by omega), if_pos (by omega)]
  · by_cases hfit : s.mag ≤ H
    · rw [if_pos hfit, if_neg (by omega), if_neg (by omega)]
    · rw [if_neg hfit, if_pos (by omega)]

/-- strtol.c / strtoimax.c after the loop: the clamp on overflow, the negation in the unsigned type and
the conversion to the signed type give ISO's result -/
theorem epilogueSU (w : Nat) (hw : 0 < w) (p : Option Spec.Subject) (neg : Bool) (st : Nat × Int) (off : Nat)
    (h : match p with
      | none => st = (0, 0)
      | some s => neg = s.neg ∧ off = s.len + 1 ∧
          GoodU (if s.neg = true then 2 ^ (w - 1) else 2 ^ (w - 1) - 1) none s.mag true st) :
    (asSigned w (if st.2 < 0 then (if neg = true then 2 ^ (w - 1) else 2 ^ (w - 1) - 1)
        else if neg = true then (2 ^ w - st.1) % 2 ^ w else st.1), endOff st.2 off) = Spec.signedResult w p := by
  cases p with
  | none =>
    subst h
    have := asSigned_magnitude w hw false 0 (Nat.zero_le _)
    simp only [Bool.false_eq_true, if_false] at this
    simp [Spec.signedResult, endOff, this]
  | some s =>
    obtain ⟨rfl, rfl, g⟩ := h
    rw [signedResult_some w s]
    rcases goodU_cases g with ⟨hfit, rfl⟩ | ⟨_, hov, hflag, _⟩
    · rw [if_pos hfit]
      simp only [if_true, show ¬ ((1 : Int) < 0) by decide, if_false]
      rw [asSigned_magnitude w hw _ _ hfit]
      rfl
    · rw [hflag, if_neg (Nat.not_le.2 hov), if_pos (by decide), asSigned_limit w hw]
      rfl

theorem epilogueUU (w : Nat) (p : Option Spec.Subject) (neg : Bool) (st : Nat × Int) (off : Nat)
    (h : match p with
      | none => st = (0, 0)
      | some s => neg = s.neg ∧ off = s.len + 1 ∧ GoodU (2 ^ w - 1) none s.mag true st) :
    (if st.2 < 0 then 2 ^ w - 1 else if st.2 = 0 then st.1 else if neg = true then (2 ^ w - st.1) % 2 ^ w else st.1,
      endOff st.2 off) = Spec.unsignedResult w p := by
  cases p with
  | none => subst h; rfl
  | some s =>
    obtain ⟨rfl, rfl, g⟩ := h
    rcases goodU_cases g with ⟨hN, rfl⟩ | ⟨_, hov, hflag, _⟩
    · simp [Spec.unsignedResult, Nat.not_lt.2 hN, endOff]
    · rw [hflag]; simp [Spec.unsignedResult, hov, endOff]

theorem epilogueULL (w : Nat) (p : Option Spec.Subject) (neg : Bool) (st : Nat × Int) (off : Nat)
    (h : match p with
      | none => st = (0, 0)
      | some s => neg = s.neg ∧ off = s.len + 1 ∧ GoodU (2 ^ w - 1) (some (2 ^ w - 1)) s.mag true st) :
    (if neg = true ∧ st.2 > 0 then (2 ^ w - st.1) % 2 ^ w else st.1, endOff st.2 off) = Spec.unsignedResult w p := by
  cases p with
  | none => subst h; simp [Spec.unsignedResult, endOff]
  | some s =>
    obtain ⟨rfl, rfl, g⟩ := h
    rcases goodU_cases g with ⟨hN, rfl⟩ | ⟨_, hov, hflag, hacc⟩
    · simp [Spec.unsignedResult, Nat.not_lt.2 hN, endOff]
    · rw [hflag, hacc _ rfl]; simp [Spec.unsignedResult, hov, endOff]

theorem epilogueLL (w : Nat) (p : Option Spec.Subject) (neg : Bool) (st : Int × Int) (off : Nat)
    (h : match p with
      | none => st = (0, 0)
      | some s => neg = s.neg ∧ off = s.len + 1 ∧ GoodS (2 ^ (w - 1)) s.neg s.mag true st) :
    (st.1, endOff st.2 off) = Spec.signedResult w p := by
  cases p with
  | none => subst h; rfl
  | some s =>
    obtain ⟨rfl, rfl, g⟩ := h
    rw [signedResult_some w s]
    rcases goodS_cases g with ⟨hN, rfl⟩ | ⟨_, hov, rfl⟩
    · rw [if_pos hN]; rfl
    · rw [if_neg (Nat.not_le.2 hov)]; rfl

/-! ### value, end pointer and errno -/

theorem strtoSUe_spec (w : Nat) (hw : 0 < w) (R : Reads) (t : List Byte) (base : Nat)
    (hbase : base = 0 ∨ (2 ≤ base ∧ base ≤ 36)) :
    strtoSUe w R (t ++ [0]) base =
      some ((Spec.signedResult w (Spec.parse t base)).1, (Spec.signedResult w (Spec.parse t base)).2,
        Spec.signedErr w (Spec.parse t base)) := by
  obtain ⟨f, st, off, hf, hl, hp⟩ := loopU_parse R t base hbase (2 ^ w)
    (fun n => if n = true then 2 ^ (w - 1) else 2 ^ (w - 1) - 1)
    (by intro n; have := Nat.two_pow_pred_mul_two hw; have := Nat.two_pow_pos (w - 1); split <;> omega) none
  unfold strtoSUe
  rw [hf]
  simp only at hl ⊢
  rw [hl]
  simp only
  rw [signedErr_of_any w hw st.2 _ (anyOK_of_goodU hp), ← epilogueSU w hw _ f.neg st off hp]

theorem strtoUUe_spec (w : Nat) (R : Reads) (t : List Byte) (base : Nat)
    (hbase : base = 0 ∨ (2 ≤ base ∧ base ≤ 36)) :
    strtoUUe w R (t ++ [0]) base =
      some ((Spec.unsignedResult w (Spec.parse t base)).1, (Spec.unsignedResult w (Spec.parse t base)).2,
        Spec.unsignedErrEinval w (Spec.parse t base)) := by
  have hW0 : 0 < 2 ^ w := Nat.two_pow_pos _
  obtain ⟨f, st, off, hf, hl, hp⟩ := loopU_parse R t base hbase (2 ^ w) (fun _ => 2 ^ w - 1) (by intro n; omega) none
  unfold strtoUUe
  rw [hf]
  simp only at hl ⊢
  rw [hl]
  simp only
  rw [(unsignedErr_of_any w st.2 _ (anyOK_of_goodU hp)).2, ← epilogueUU w _ f.neg st off hp]

theorem strtoULLe_spec (w : Nat) (R : Reads) (t : List Byte) (base : Nat)
    (hbase : base = 0 ∨ (2 ≤ base ∧ base ≤ 36)) :
    strtoULLe w R (t ++ [0]) base =
      some ((Spec.unsignedResult w (Spec.parse t base)).1, (Spec.unsignedResult w (Spec.parse t base)).2,
        Spec.unsignedErr w (Spec.parse t base)) := by
  have hW0 : 0 < 2 ^ w := Nat.two_pow_pos _
  obtain ⟨f, st, off, hf, hl, hp⟩ := loopU_parse R t base hbase (2 ^ w) (fun _ => 2 ^ w - 1) (by intro n; omega)
    (some (2 ^ w - 1))
  unfold strtoULLe
  rw [hf]
  simp only at hl ⊢
  rw [loopUe_eq, hl]
  simp only [Option.map_some, Int.le_refl, true_and]
  rw [(unsignedErr_of_any w st.2 _ (anyOK_of_goodU hp)).1, ← epilogueULL w _ f.neg st off hp]

theorem strtoLLe_spec (w : Nat) (hw : 0 < w) (R : Reads) (t : List Byte) (base : Nat)
    (hbase : base = 0 ∨ (2 ≤ base ∧ base ≤ 36)) :
    strtoLLe w R (t ++ [0]) base =
      some ((Spec.signedResult w (Spec.parse t base)).1, (Spec.signedResult w (Spec.parse t base)).2,
        Spec.signedErr w (Spec.parse t base)) := by
  obtain ⟨f, st, off, hf, hl, hp⟩ := loopS_parse w R t base hbase
  unfold strtoLLe
  rw [hf]
  simp only at hl ⊢
  rw [loopSe_eq, hl]
  simp only [Option.map_some, Int.le_refl, true_and]
  rw [signedErr_of_any w hw st.2 _ (anyOK_of_goodS hp), ← epilogueLL w _ f.neg st off hp]

/-! ### the errno-carrying functions projected to the original ones -/

theorem strtoSUe_proj (w : Nat) (R : Reads) (mem : List Byte) (base : Nat) :
    (strtoSUe w R mem base).map (fun r => (r.1, r.2.1)) = strtoSU w R mem base := by
  unfold strtoSUe strtoSU
  cases front R mem base with
  | none => rfl
  | some f =>
    simp only
    cases loopU (2 ^ w) f.base ((if f.neg = true then 2 ^ (w - 1) else 2 ^ (w - 1) - 1) / f.base)
      (((if f.neg = true then 2 ^ (w - 1) else 2 ^ (w - 1) - 1) % f.base : Nat) : Int) R.lp none f.rest f.c f.off (0, 0) with
    | none => rfl
    | some r => rfl

theorem strtoUUe_proj (w : Nat) (R : Reads) (mem : List Byte) (base : Nat) :
    (strtoUUe w R mem base).map (fun r => (r.1, r.2.1)) = strtoUU w R mem base := by
  unfold strtoUUe strtoUU
  cases front R mem base with
  | none => rfl
  | some f =>
    simp only
    cases loopU (2 ^ w) f.base ((2 ^ w - 1) / f.base) (((2 ^ w - 1) % f.base : Nat) : Int) R.lp none f.rest f.c f.off (0, 0) with
    | none => rfl
    | some r => rfl

theorem strtoULLe_proj (w : Nat) (R : Reads) (mem : List Byte) (base : Nat) :
    (strtoULLe w R mem base).map (fun r => (r.1, r.2.1)) = strtoULL w R mem base := by
  unfold strtoULLe strtoULL
  cases front R mem base with
  | none => rfl
  | some f =>
    simp only
    rw [loopUe_eq]
    cases loopU (2 ^ w) f.base ((2 ^ w - 1) / f.base) (((2 ^ w - 1) % f.base : Nat) : Int) R.lp (some (2 ^ w - 1)) f.rest f.c f.off (0, 0) with
    | none => rfl
    | some r => rfl

theorem strtoLLe_proj (w : Nat) (R : Reads) (mem : List Byte) (base : Nat) :
    (strtoLLe w R mem base).map (fun r => (r.1, r.2.1)) = strtoLL w R mem base := by
  unfold strtoLLe strtoLL
  cases front R mem base with
  | none => rfl
  | some f =>
    simp only
    rw [loopSe_eq]
    cases loopS _ _ _ _ _ _ _ _ _ _ _ <;> rfl

/-! ### value and end pointer alone -/

theorem strtoSU_spec (w : Nat) (hw : 0 < w) (R : Reads) (t : List Byte) (base : Nat)
    (hbase : base = 0 ∨ (2 ≤ base ∧ base ≤ 36)) :
    strtoSU w R (t ++ [0]) base = some (Spec.signedResult w (Spec.parse t base)) := by
  rw [← strtoSUe_proj, strtoSUe_spec w hw R t base hbase]
  rfl

theorem strtoUU_spec (w : Nat) (R : Reads) (t : List Byte) (base : Nat)
    (hbase : base = 0 ∨ (2 ≤ base ∧ base ≤ 36)) :
    strtoUU w R (t ++ [0]) base = some (Spec.unsignedResult w (Spec.parse t base)) := by
  rw [← strtoUUe_proj, strtoUUe_spec w R t base hbase]
  rfl

theorem strtoULL_spec (w : Nat) (R : Reads) (t : List Byte) (base : Nat)
    (hbase : base = 0 ∨ (2 ≤ base ∧ base ≤ 36)) :
    strtoULL w R (t ++ [0]) base = some (Spec.unsignedResult w (Spec.parse t base)) := by
  rw [← strtoULLe_proj, strtoULLe_spec w R t base hbase]
  rfl

theorem strtoLL_spec (w : Nat) (hw : 0 < w) (R : Reads) (t : List Byte) (base : Nat)
    (hbase : base = 0 ∨ (2 ≤ base ∧ base ≤ 36)) :
    strtoLL w R (t ++ [0]) base = some (Spec.signedResult w (Spec.parse t base)) := by
  rw [← strtoLLe_proj, strtoLLe_spec w hw R t base hbase]
  rfl

/-! ### the range of the specification's results (what strtoq / strtouq convert to 64 bits) -/

theorem signedResult_range (w : Nat) (p : Option Spec.Subject) :
    -((2 : Int) ^ (w - 1)) ≤ (Spec.signedResult w p).1 ∧ (Spec.signedResult w p).1 ≤ (2 : Int) ^ (w - 1) - 1 := by
  have hH0 : (0 : Int) < 2 ^ (w - 1) := Int.pow_pos (by decide)
  cases p with
  | none => simp only [Spec.signedResult]; omega
  | some s =>
    simp only [Spec.signedResult]
    generalize (2 : Int) ^ (w - 1) = H at hH0 ⊢
    generalize (if s.neg = true then -(s.mag : Int) else (s.mag : Int)) = v
    by_cases h1 : v < -H
    · rw [if_pos h1]; omega
    · rw [if_neg h1]
      by_cases h2 : H - 1 < v
      · rw [if_pos h2]; omega
      · rw [if_neg h2]; omega

theorem unsignedResult_lt (w : Nat) (p : Option Spec.Subject) : (Spec.unsignedResult w p).1 < 2 ^ w := by
  have hW0 : 0 < 2 ^ w := Nat.two_pow_pos _
  cases p with
  | none => simpa [Spec.unsignedResult] using hW0
  | some s =>
    simp only [Spec.unsignedResult]
    split
    · omega
    · split
      · exact Nat.mod_lt _ hW0
      · omega

end Igris.C11
