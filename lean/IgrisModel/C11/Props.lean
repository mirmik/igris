/-
  C11 — PROPERTY THEOREMS.  Their statements speak of the model (Model.lean,
  ModelBytes.lean), of `Uniform` (Bytes.lean), `randIter` (Rand.lean) and of
  `ValidBase` and `nestedCmp` defined here.

  Property: "strtol, strtoul, strtoll, strtoull, strtoimax, strtoumax, atoi and
  atol return the value ISO C prescribes for every text and base (0, 2..36) -
  leading space, sign, 0x/0 prefixes, clamping to the type limits on overflow -
  and set the end pointer to the first unconsumed character (the start when no
  digits were consumed).  qsort leaves a permutation of its input ordered by
  the comparator for every array length, element size and comparator that is a
  consistent weak order.  bsearch returns an element comparing equal to the key
  if and only if one exists and never dereferences outside the array,
  including when it is empty."

  The model is the code AFTER the `fix:` commits of branch fix-C11 (0x
  look-ahead in the six strto*, bsearch empty array + argument order, atol
  accumulating negatively, strtoumax cutoff in uintmax_t); on the unrepaired
  tree three of the statements below are false ("0xg", nmemb = 0,
  "-9223372036854775808") and the check reports them with concrete inputs.

  Reading the statements.
  * `t : List Byte` is the text WITHOUT its terminator; the function is run on
    the memory `t ++ [0]` and nothing else: `= some …` says in particular that
    no byte outside the string (terminator included) is read.
  * `w` is the width of the result type.  Every theorem holds for every
    `w ≥ 1`, i.e. for the 64-bit types of the host as well as for a 32-bit
    `long`.
  * A model result `none` is a fault: a read outside the given memory, signed
    overflow (undefined behaviour) or, for qsort, running out of fuel.
-/
import IgrisModel.C11.Strto
import IgrisModel.C11.Sort
import IgrisModel.C11.Bytes
import IgrisModel.C11.Rand
namespace Igris.C11
open Igris.Proto (Byte)

/-- the bases the property quantifies over -/
def ValidBase (base : Nat) : Prop := base = 0 ∨ (2 ≤ base ∧ base ≤ 36)

example : ValidBase 0 ∧ ValidBase 2 ∧ ValidBase 36 := by unfold ValidBase; omega

/-! ## strto*: value, clamping and end offset (ISO 7.22.1.4) -/

/-- strtol: for every text and base the result is the ISO value (the subject
sequence's value, clamped to `[LONG_MIN, LONG_MAX]`, 0 without a conversion)
and `*endptr - nptr` is the length of white space + subject sequence (0 without
a conversion). -/
theorem strtol_value_end (w : Nat) (hw : 0 < w) (t : List Byte) (base : Nat) (hb : ValidBase base) :
    strtol w (t ++ [0]) base = some (Spec.signedResult w (Spec.parse t base)) :=
  strtoSU_spec w hw readsL t base hb

theorem strtoimax_value_end (w : Nat) (hw : 0 < w) (t : List Byte) (base : Nat) (hb : ValidBase base) :
    strtoimax w (t ++ [0]) base = some (Spec.signedResult w (Spec.parse t base)) :=
  strtoSU_spec w hw readsL t base hb

/-- strtoll accumulates in a SIGNED `long long` (negatively for negative
numbers): in addition to value and end offset the theorem says that no signed
overflow ever happens (the model faults on it). -/
theorem strtoll_value_end (w : Nat) (hw : 0 < w) (t : List Byte) (base : Nat) (hb : ValidBase base) :
    strtoll w (t ++ [0]) base = some (Spec.signedResult w (Spec.parse t base)) :=
  strtoLL_spec w hw readsLL t base hb

/-- strtoul: the magnitude if it fits (negated modulo 2^w after a minus sign),
else the maximum. -/
theorem strtoul_value_end (w : Nat) (t : List Byte) (base : Nat) (hb : ValidBase base) :
    strtoul w (t ++ [0]) base = some (Spec.unsignedResult w (Spec.parse t base)) :=
  strtoUU_spec w readsUL t base hb

theorem strtoumax_value_end (w : Nat) (t : List Byte) (base : Nat) (hb : ValidBase base) :
    strtoumax w (t ++ [0]) base = some (Spec.unsignedResult w (Spec.parse t base)) :=
  strtoUU_spec w readsUL t base hb

theorem strtoull_value_end (w : Nat) (t : List Byte) (base : Nat) (hb : ValidBase base) :
    strtoull w (t ++ [0]) base = some (Spec.unsignedResult w (Spec.parse t base)) :=
  strtoULL_spec w readsLL t base hb

/-- The digit loop never lets the accumulator pass the limit it was given
(`LONG_MAX`, `-(unsigned long)LONG_MIN`, `ULONG_MAX`, all `< 2^w`), for any
digit string: after the loop either overflow was flagged (`any = -1`) or
`acc ≤ limit`.  Every intermediate state is the final state of a shorter
string, so the `* base + digit` never wraps modulo `2^w`. -/
theorem strto_accumulator_never_wraps (W b limit : Nat) (ovf : Option Nat) (lp : Bool)
    (hb2 : 2 ≤ b) (hb36 : b ≤ 36) (hW : limit < W)
    (t3 : List Byte) (cb : Byte) (rest : List Byte) (h : cb :: rest = t3 ++ [0]) (u : Bool) (off : Nat) :
    ∃ acc any off', loopU W b (limit / b) ((limit % b : Nat) : Int) lp ovf rest (rd u cb) off (0, 0) = some (acc, any, off') ∧
      (any = -1 ∨ acc ≤ limit) := by
  obtain ⟨st, hrun, g⟩ := loopU_digits W b limit ovf lp hb2 hb36 hW t3 cb rest h u off
  refine ⟨st.1, st.2, _, hrun, ?_⟩
  rcases goodU_cases g with ⟨hN, rfl⟩ | ⟨_, _, hflag, _⟩
  · exact Or.inr hN
  · exact Or.inl hflag

/-- `strto_accumulator_never_wraps` for EVERY step of EVERY run (not only the
final state): after any digit string the loop state is flagged (`any = -1`) or
`acc ≤ limit`, and whenever the cutoff/cutlim test admits the next digit `d`,
`acc * base + d ≤ limit < 2^w`: the unsigned multiplication and addition of the
code never wrap -/
theorem strto_no_step_wraps (W b limit : Nat) (ovf : Option Nat) (hb : 0 < b) (hW : limit < W)
    (ds : List Nat) (hds : ∀ d ∈ ds, d < b) (d : Nat) (hd : d < b) :
    let st := ds.foldl (fun st (d : Nat) => stepU W b (limit / b) ((limit % b : Nat) : Int) ovf st (d : Int)) (0, 0)
    st.2 = -1 ∨ (st.1 ≤ limit ∧
      (¬ (st.1 > limit / b ∨ (st.1 = limit / b ∧ (d : Int) > ((limit % b : Nat) : Int))) → st.1 * b + d < W)) := by
  intro st
  have g : GoodU limit ovf _ _ st := foldU_good W b limit ovf hb hW ds 0 false (0, 0) hds goodU_zero
  rcases goodU_cases g with ⟨hN, hst⟩ | ⟨_, _, hflag, _⟩
  · -- unflagged, holding the value: the test is `cutoff_test`
    rw [hst]
    refine Or.inr ⟨hN, fun hno => Nat.lt_of_le_of_lt (Nat.le_of_not_lt fun hov => hno ?_) hW⟩
    rcases (cutoff_test limit b _ d hb hd).2 hov with h | ⟨h1, h2⟩
    · exact Or.inl h
    · exact Or.inr ⟨h1, by omega⟩
  · exact Or.inl hflag

/-! the hypotheses are satisfiable and the statements say something: the
specification itself on a few texts (`decide` on the SPEC, not on the model) -/

-- "0xg", base 16: ISO consumes the "0" (the defect repaired by f30e23a)
example : Spec.parse [0x30, 0x78, 0x67] 16 = some ⟨false, 0, 1⟩ := by decide +kernel
-- "  -0x1F;" base 0
example : Spec.parse [0x20, 0x20, 0x2d, 0x30, 0x78, 0x31, 0x46, 0x3b] 0 = some ⟨true, 31, 7⟩ := by decide +kernel
-- "077" base 0 is octal, "08" stops after the 0
example : Spec.parse [0x30, 0x37, 0x37] 0 = some ⟨false, 63, 3⟩ := by decide +kernel
example : Spec.parse [0x30, 0x38] 0 = some ⟨false, 0, 1⟩ := by decide +kernel
-- "-", "+x", "": no conversion
example : Spec.parse [0x2d] 10 = none ∧ Spec.parse [0x2b, 0x78] 16 = none ∧ Spec.parse [] 0 = none := by decide +kernel
-- "zZ" base 36
example : Spec.parse [0x7a, 0x5a] 36 = some ⟨false, 35 * 36 + 35, 2⟩ := by decide +kernel
-- clamping both ways at w = 8: "-129" -> -128, "128" -> 127, "-128" -> -128
example : Spec.signedResult 8 (some ⟨true, 129, 4⟩) = (-128, 4) ∧ Spec.signedResult 8 (some ⟨false, 128, 3⟩) = (127, 3)
    ∧ Spec.signedResult 8 (some ⟨true, 128, 4⟩) = (-128, 4) := by decide +kernel
-- unsigned: "-1" -> 255, "256" -> 255
example : Spec.unsignedResult 8 (some ⟨true, 1, 2⟩) = (255, 2) ∧ Spec.unsignedResult 8 (some ⟨false, 256, 3⟩) = (255, 3) := by decide +kernel
-- and the model on the text of the repaired defect, at the width of the host
example : strtol 64 ([0x30, 0x78, 0x67] ++ [0]) 16 = some (0, 1) := by decide +kernel

/-! ## atol / atoi

ISO 7.22.1.2: `atol(s)` is `strtol(s, NULL, 10)` "except for the behavior on
error"; "if the value of the result cannot be represented, the behavior is
undefined".  So the full ISO statement carries the representability hypothesis;
it is not a weakening.  Inside it (LONG_MIN included) the repaired code returns
the value and commits no signed overflow. -/

theorem atol_value (w : Nat) (hw : 0 < w) (t : List Byte)
    (hrep : -((2 : Int) ^ (w - 1)) ≤ Spec.decimalValue t ∧ Spec.decimalValue t ≤ (2 : Int) ^ (w - 1) - 1) :
    atol w (t ++ [0]) = some (Spec.decimalValue t) := by
  rw [atol_eq w t, if_pos hrep]

/-- `atoi` = `(int) atol`: the value, whenever it is representable in `int` -/
theorem atoi_value (wl wi : Nat) (hwi : 0 < wi) (hle : wi ≤ wl) (t : List Byte)
    (hrep : -((2 : Int) ^ (wi - 1)) ≤ Spec.decimalValue t ∧ Spec.decimalValue t ≤ (2 : Int) ^ (wi - 1) - 1) :
    atoi wl wi (t ++ [0]) = some (Spec.decimalValue t) := by
  have hmono : (2 : Int) ^ (wi - 1) ≤ (2 : Int) ^ (wl - 1) := by
    have := Nat.pow_le_pow_right (show 0 < 2 by omega) (show wi - 1 ≤ wl - 1 by omega)
    have a := two_pow_cast (wi - 1)
    have b := two_pow_cast (wl - 1)
    rw [a, b]; omega
  unfold atoi
  rw [atol_value wl (by omega) t ⟨by omega, by omega⟩]
  simp only [Option.map_some]
  rw [asSigned_wrap wi hwi _ hrep]

-- LONG_MIN of a 64-bit long is inside the hypothesis (the defect repaired by 46143a1) …
example : Spec.decimalValue [0x2d, 0x39, 0x32, 0x32, 0x33, 0x33, 0x37, 0x32, 0x30, 0x33, 0x36, 0x38, 0x35, 0x34, 0x37, 0x37,
    0x35, 0x38, 0x30, 0x38] = -(2 : Int) ^ 63 := by decide +kernel
-- … and one more is outside: there the code has undefined behaviour (model: fault), as ISO allows
example : atol 8 ([0x31, 0x32, 0x38] ++ [0]) = none ∧ atol 8 ([0x2d, 0x31, 0x32, 0x38] ++ [0]) = some (-128) := by decide +kernel

/-! ## qsort -/

/-- qsort terminates without touching anything outside the array it was given
and leaves a permutation of its input — for EVERY stream of `rand()` results
and every comparator that never says `x < x` (nothing else is needed for
safety: the scans are stopped by sentinels the partition itself creates). -/
theorem qsort_perm {α : Type} (cmp : α → α → Int) (hirr : ∀ x, ¬ cmp x x < 0) (rs : List Int) (a : List α) :
    ∃ out rs', qsort cmp rs a = some (out, rs') ∧ out.Perm a := by
  obtain ⟨out, rs', h, hp, _⟩ := qsortF_spec cmp hirr (a.length + 1) rs a (by omega)
  exact ⟨out, rs', h, hp⟩

/-- … and the result is ordered by the comparator, for every comparator that
is consistent in the sense of ISO 7.22.5 ¶4 (a total preorder: this includes
duplicates and comparators that identify distinct elements). -/
theorem qsort_sorted {α : Type} (cmp : α → α → Int) (hc : Consistent cmp) (rs : List Int) (a : List α) :
    ∃ out rs', qsort cmp rs a = some (out, rs') ∧ out.Perm a ∧ Sorted cmp out := by
  obtain ⟨out, rs', h, hp, hs⟩ := qsortF_spec cmp hc.irrefl (a.length + 1) rs a (by omega)
  exact ⟨out, rs', h, hp, hs hc⟩

-- consistent comparators exist (the harness's ascending and "everything equal" ones)
example : Consistent (fun a b : Int => a - b) := ⟨by intro a b; omega, by intro a b c; omega⟩
example : Consistent (fun _ _ : Int => (0 : Int)) := ⟨by intro a b; omega, by intro a b c; omega⟩
-- a run of the model: 6 elements, pivots 4 and 1
example : (qsort (fun a b : Int => a - b) [4, 1] [3, 1, 2, 3, 0, 1]).map (·.1) = some [0, 1, 1, 2, 3, 3] := by decide +kernel

/-! ## bsearch -/

/-- On an array laid out as ISO 7.22.5.1 ¶2 requires for this key (elements
comparing less, then equal, then greater), bsearch never accesses an index
outside the array and returns the index of an element comparing equal to the
key if one exists, NULL if and only if none does.  `cmp` is called as
`cmp key element` only; key and elements may have different types. -/
theorem bsearch_iff {κ α : Type} (cmp : κ → α → Int) (key : κ) (a : List α) (hp : PartitionedBy cmp key a) :
    ∃ r, bsearch cmp key a = some r ∧
      (∀ i, r = some i → ∃ h : i < a.length, cmp key a[i] = 0) ∧
      (r = none → ∀ i (h : i < a.length), cmp key a[i] ≠ 0) := by
  by_cases h0 : a.length = 0
  · refine ⟨none, bsearch_of_length_eq_zero cmp key a h0, fun i hi => (by cases hi), fun _ i h => (by omega)⟩
  · obtain ⟨l, hl, hrun, hR, hL⟩ := bsearch_run cmp key a hp h0
    refine ⟨_, hrun, ?_, ?_⟩
    · intro i hi
      obtain ⟨heq, hi⟩ := Option.ite_none_right_eq_some.1 hi
      cases hi
      exact ⟨hl, heq⟩
    · intro hnone p hpl hp0
      have he : cmp key a[l] ≠ 0 := fun he => by rw [if_pos he] at hnone; cases hnone
      -- an equal element would lie at or before `l`, and then `a[l]` could not be greater than the key
      have hpl' : p ≤ l := Nat.le_of_not_lt fun hn => by have := hR p hpl hn; omega
      by_cases hpe : p = l
      · subst hpe; exact he hp0
      · rcases hL with h | h
        · omega
        · have := (hp p l hpl' hl).2 (by omega)
          omega

/-- the empty array: NULL, and the comparator is not called at all (the model
has no access to make: `a = []`) -/
theorem bsearch_empty {κ α : Type} (cmp : κ → α → Int) (key : κ) : bsearch cmp key ([] : List α) = some none := rfl

/-- the usual situation: key and elements of one type, array sorted by a
consistent comparator ⇒ the layout hypothesis of `bsearch_iff` holds -/
theorem partitioned_of_sorted {α : Type} (cmp : α → α → Int) (hc : Consistent cmp) (a : List α) (hs : Sorted cmp a)
    (key : α) : PartitionedBy cmp key a := by
  intro i j hij hj
  by_cases hije : i = j
  · subst hije; exact ⟨id, id⟩
  · have hle : cmp (a[i]'(by omega)) a[j] ≤ 0 := by
      have := List.pairwise_iff_getElem.1 hs i j (by omega) hj (by omega)
      exact this
    exact ⟨fun h => hc.lt_of_lt_of_le h hle, fun h => hc.trans _ _ _ h hle⟩

theorem bsearch_iff_sorted {α : Type} (cmp : α → α → Int) (hc : Consistent cmp) (key : α) (a : List α) (hs : Sorted cmp a) :
    ∃ r, bsearch cmp key a = some r ∧
      (∀ i, r = some i → ∃ h : i < a.length, cmp key a[i] = 0) ∧
      (r = none → ∀ i (h : i < a.length), cmp key a[i] ≠ 0) :=
  bsearch_iff cmp key a (partitioned_of_sorted cmp hc a hs key)

/-- what qsort produces is what bsearch needs -/
theorem bsearch_after_qsort {α : Type} (cmp : α → α → Int) (hc : Consistent cmp) (rs : List Int) (a : List α) (key : α) :
    ∃ out rs' r, qsort cmp rs a = some (out, rs') ∧ bsearch cmp key out = some r ∧
      (r = none ↔ ∀ x ∈ a, cmp key x ≠ 0) := by
  obtain ⟨out, rs', hq, hperm, hs⟩ := qsort_sorted cmp hc rs a
  obtain ⟨r, hb, h1, h2⟩ := bsearch_iff_sorted cmp hc key out hs
  refine ⟨out, rs', r, hq, hb, ?_⟩
  constructor
  · intro hr x hx
    have hx' : x ∈ out := hperm.mem_iff.2 hx
    obtain ⟨i, hi, rfl⟩ := List.getElem_of_mem hx'
    exact h2 hr i hi
  · intro hall
    cases r with
    | none => rfl
    | some i =>
      obtain ⟨hi, h0⟩ := h1 i rfl
      exact absurd h0 (hall _ (hperm.mem_iff.1 (List.getElem_mem hi)))

-- a layout satisfying the hypothesis, with duplicates and an absent key
example : bsearch (fun (k : Int) (e : Int) => k - e) 4 [1, 3, 3, 5, 7] = some none := by decide +kernel
example : bsearch (fun (k : Int) (e : Int) => k - e) 3 [1, 3, 3, 5, 7] = some (some 2) := by decide +kernel

/-! ## errno, strtoq/strtouq, atoll

`strtolE` … are the same transcriptions with one more result component: what
the call stores in `errno` (`0` = nothing is stored, the caller's value stays;
`ERANGE = 34`, `EINVAL = 22`).  ISO 7.22.1.4 ¶8: ERANGE is stored iff the
correct value is outside the range of the result type (`Spec.signedErr`,
`Spec.unsignedErr`); ISO 7.5 ¶3: a library function never stores 0.
strtol.c / strtoimax.c stored nothing before 83dc9e1. -/

/-- the errno-carrying functions compute the value and end offset of the
original ones, on EVERY memory (not only on well-formed strings) -/
theorem strtoE_same_value_end (w : Nat) (mem : List Byte) (base : Nat) :
    (strtolE w mem base).map (fun r => (r.1, r.2.1)) = strtol w mem base ∧
    (strtoimaxE w mem base).map (fun r => (r.1, r.2.1)) = strtoimax w mem base ∧
    (strtoulE w mem base).map (fun r => (r.1, r.2.1)) = strtoul w mem base ∧
    (strtoumaxE w mem base).map (fun r => (r.1, r.2.1)) = strtoumax w mem base ∧
    (strtoullE w mem base).map (fun r => (r.1, r.2.1)) = strtoull w mem base :=
  ⟨strtoSUe_proj w readsL mem base, strtoSUe_proj w readsL mem base, strtoUUe_proj w readsUL mem base,
   strtoUUe_proj w readsUL mem base, strtoULLe_proj w readsLL mem base⟩

/-- strtol: value, end offset AND errno are ISO's, for every text and base -/
theorem strtol_value_end_errno (w : Nat) (hw : 0 < w) (t : List Byte) (base : Nat) (hb : ValidBase base) :
    strtolE w (t ++ [0]) base =
      some ((Spec.signedResult w (Spec.parse t base)).1, (Spec.signedResult w (Spec.parse t base)).2,
        Spec.signedErr w (Spec.parse t base)) :=
  strtoSUe_spec w hw readsL t base hb

theorem strtoimax_value_end_errno (w : Nat) (hw : 0 < w) (t : List Byte) (base : Nat) (hb : ValidBase base) :
    strtoimaxE w (t ++ [0]) base =
      some ((Spec.signedResult w (Spec.parse t base)).1, (Spec.signedResult w (Spec.parse t base)).2,
        Spec.signedErr w (Spec.parse t base)) :=
  strtoSUe_spec w hw readsL t base hb

/-- strtoll stores ERANGE inside the digit loop, at the digit that would pass
the limit: the theorem says that this happens exactly for the out-of-range texts -/
theorem strtoll_value_end_errno (w : Nat) (hw : 0 < w) (t : List Byte) (base : Nat) (hb : ValidBase base) :
    strtollE w (t ++ [0]) base =
      some ((Spec.signedResult w (Spec.parse t base)).1, (Spec.signedResult w (Spec.parse t base)).2,
        Spec.signedErr w (Spec.parse t base)) :=
  strtoLLe_spec w hw readsLL t base hb

theorem strtoull_value_end_errno (w : Nat) (t : List Byte) (base : Nat) (hb : ValidBase base) :
    strtoullE w (t ++ [0]) base =
      some ((Spec.unsignedResult w (Spec.parse t base)).1, (Spec.unsignedResult w (Spec.parse t base)).2,
        Spec.unsignedErr w (Spec.parse t base)) :=
  strtoULLe_spec w readsLL t base hb

/-- strtoul / strtoumax: ISO's value, end offset and ERANGE; in addition the
code stores EINVAL when no conversion is performed (`Spec.unsignedErrEinval`;
POSIX allows it, ISO C does not ask for it — the code is modelled as it is) -/
theorem strtoul_value_end_errno (w : Nat) (t : List Byte) (base : Nat) (hb : ValidBase base) :
    strtoulE w (t ++ [0]) base =
      some ((Spec.unsignedResult w (Spec.parse t base)).1, (Spec.unsignedResult w (Spec.parse t base)).2,
        Spec.unsignedErrEinval w (Spec.parse t base)) :=
  strtoUUe_spec w readsUL t base hb

theorem strtoumax_value_end_errno (w : Nat) (t : List Byte) (base : Nat) (hb : ValidBase base) :
    strtoumaxE w (t ++ [0]) base =
      some ((Spec.unsignedResult w (Spec.parse t base)).1, (Spec.unsignedResult w (Spec.parse t base)).2,
        Spec.unsignedErrEinval w (Spec.parse t base)) :=
  strtoUUe_spec w readsUL t base hb

/-- … and whenever a conversion IS performed, what strtoul/strtoumax store is exactly ISO's -/
theorem strtoul_errno_iso_when_converted (w : Nat) (s : Spec.Subject) :
    Spec.unsignedErrEinval w (some s) = Spec.unsignedErr w (some s) := rfl

-- errno of the specification at w = 8: "128" -> ERANGE, "-128" -> nothing, "-129" -> ERANGE, "" -> nothing;
-- unsigned: "256" -> ERANGE, "-255" -> nothing, "-256" -> ERANGE (the magnitude does not fit), "" -> EINVAL (code) / nothing (ISO)
example : Spec.signedErr 8 (some ⟨false, 128, 3⟩) = 34 ∧ Spec.signedErr 8 (some ⟨true, 128, 4⟩) = 0
    ∧ Spec.signedErr 8 (some ⟨true, 129, 4⟩) = 34 ∧ Spec.signedErr 8 none = 0 := by decide +kernel
example : Spec.unsignedErr 8 (some ⟨false, 256, 3⟩) = 34 ∧ Spec.unsignedErr 8 (some ⟨true, 255, 4⟩) = 0
    ∧ Spec.unsignedErr 8 (some ⟨true, 256, 4⟩) = 34 ∧ Spec.unsignedErrEinval 8 none = 22 ∧ Spec.unsignedErr 8 none = 0 := by decide +kernel
-- the model at w = 8: "128" base 10 clamps and stores ERANGE; base 36: "3k" = 128 overflows on the LAST digit, "3j" = 127 does not;
-- "-3k" = -128 is representable (nothing stored), "-3l" is not
example : strtolE 8 ([0x31, 0x32, 0x38] ++ [0]) 10 = some (127, 3, 34) := by decide +kernel
example : strtollE 8 ([0x33, 0x6b] ++ [0]) 36 = some (127, 2, 34) ∧ strtollE 8 ([0x33, 0x6a] ++ [0]) 36 = some (127, 2, 0) := by decide +kernel
example : strtollE 8 ([0x2d, 0x33, 0x6b] ++ [0]) 36 = some (-128, 3, 0) ∧ strtollE 8 ([0x2d, 0x33, 0x6c] ++ [0]) 36 = some (-128, 3, 34) := by decide +kernel
example : strtoulE 8 ([0x2d] ++ [0]) 10 = some (0, 0, 22) ∧ strtoullE 8 ([0x2d] ++ [0]) 10 = some (0, 0, 0) := by decide +kernel

/-- strtoq = `(int64_t) strtoll`: for every `long long` of at most 64 bits the
conversion changes nothing, the result is ISO's -/
theorem strtoq_value_end_errno (w : Nat) (hw : 0 < w) (h64 : w ≤ 64) (t : List Byte) (base : Nat) (hb : ValidBase base) :
    strtoqE w (t ++ [0]) base =
      some ((Spec.signedResult w (Spec.parse t base)).1, (Spec.signedResult w (Spec.parse t base)).2,
        Spec.signedErr w (Spec.parse t base)) := by
  unfold strtoqE
  rw [strtoll_value_end_errno w hw t base hb]
  simp only [Option.map_some]
  obtain ⟨h1, h2⟩ := signedResult_range w (Spec.parse t base)
  have h3 : (2 : Int) ^ (w - 1) ≤ (2 : Int) ^ (64 - 1) := by
    have : (2 : Nat) ^ (w - 1) ≤ 2 ^ (64 - 1) := Nat.pow_le_pow_right (by omega) (by omega)
    exact_mod_cast this
  rw [asSigned_wrap 64 (by omega) _ ⟨by omega, by omega⟩]

theorem strtouq_value_end_errno (w : Nat) (h64 : w ≤ 64) (t : List Byte) (base : Nat) (hb : ValidBase base) :
    strtouqE w (t ++ [0]) base =
      some ((Spec.unsignedResult w (Spec.parse t base)).1, (Spec.unsignedResult w (Spec.parse t base)).2,
        Spec.unsignedErr w (Spec.parse t base)) := by
  unfold strtouqE
  rw [strtoull_value_end_errno w t base hb]
  simp only [Option.map_some]
  have h1 := unsignedResult_lt w (Spec.parse t base)
  have h2 : (2 : Nat) ^ w ≤ 2 ^ 64 := Nat.pow_le_pow_right (by omega) h64
  rw [Nat.mod_eq_of_lt (by omega)]

/-- atoll = `strtoll(nptr, 0, 10)` (compat/libc/include/stdlib.h): unlike
atol/atoi it is defined for EVERY text — the decimal value clamped to the range -/
theorem atoll_value (w : Nat) (hw : 0 < w) (t : List Byte) :
    atoll w (t ++ [0]) = some (Spec.signedResult w (Spec.parse t 10)).1 := by
  unfold atoll
  rw [strtoll_value_end w hw t 10 (Or.inr ⟨by omega, by omega⟩)]
  rfl

/-! ## upper_bound / lower_bound (bsearch.c, after 933e684 / 92e12fe)

stdlib.h: lower_bound "Find the smallest element, greater or equals to
specified", upper_bound "… strictly greater than specified".  Result = element
index, `nmemb` = the one-past-the-end pointer.  `= some r` says: no access
outside the array (the comparator is only called on elements `a[i]`, `i < nmemb`,
as `cmp key element`), and the loop terminates. -/

/-- upper_bound on an array laid out as ISO 7.22.5.1 ¶2 requires for this key:
every element before the result is not greater than the key, every element from
the result on is greater -/
theorem upper_bound_spec {κ α : Type} (cmp : κ → α → Int) (key : κ) (a : List α) (hp : PartitionedBy cmp key a) :
    ∃ r, upperBound cmp key a = some r ∧ r ≤ a.length ∧
      (∀ i (h : i < a.length), i < r → 0 ≤ cmp key a[i]) ∧ (∀ i (h : i < a.length), r ≤ i → cmp key a[i] < 0) := by
  obtain ⟨hr, hle, h3, h4⟩ := bndLoop_firstIdx (P := fun x => cmp key x < 0) a fun i j hij hj => (hp i j hij hj).1
  exact ⟨_, hr, hle, fun i hi hlt => Int.not_lt.1 (h3 i hi hlt), h4⟩

/-- lower_bound: every element before the result is less than the key, every
element from the result on is not less -/
theorem lower_bound_spec {κ α : Type} (cmp : κ → α → Int) (key : κ) (a : List α) (hp : PartitionedBy cmp key a) :
    ∃ r, lowerBound cmp key a = some r ∧ r ≤ a.length ∧
      (∀ i (h : i < a.length), i < r → 0 < cmp key a[i]) ∧ (∀ i (h : i < a.length), r ≤ i → cmp key a[i] ≤ 0) := by
  obtain ⟨hr, hle, h3, h4⟩ := bndLoop_firstIdx (P := fun x => cmp key x ≤ 0) a fun i j hij hj => (hp i j hij hj).2
  exact ⟨_, hr, hle, fun i hi hlt => Int.not_le.1 (h3 i hi hlt), h4⟩

/-- the positions are their specification: the FIRST element greater than the
key / the FIRST element not less than the key (`nmemb` when there is none) -/
theorem upper_bound_is_first_greater {κ α : Type} (cmp : κ → α → Int) (key : κ) (a : List α) (hp : PartitionedBy cmp key a) :
    upperBound cmp key a = some (Spec.firstIdx (fun x => decide (cmp key x < 0)) a) :=
  (bndLoop_firstIdx (P := fun x => cmp key x < 0) a fun i j hij hj => (hp i j hij hj).1).1

theorem lower_bound_is_first_not_less {κ α : Type} (cmp : κ → α → Int) (key : κ) (a : List α) (hp : PartitionedBy cmp key a) :
    lowerBound cmp key a = some (Spec.firstIdx (fun x => decide (cmp key x ≤ 0)) a) :=
  (bndLoop_firstIdx (P := fun x => cmp key x ≤ 0) a fun i j hij hj => (hp i j hij hj).2).1

/-- the two bounds bracket exactly the elements comparing equal, and bsearch
answers from inside the bracket: found iff `lower < upper` -/
theorem bounds_bracket_equal_range {κ α : Type} (cmp : κ → α → Int) (key : κ) (a : List α) (hp : PartitionedBy cmp key a) :
    ∃ lo hi r, lowerBound cmp key a = some lo ∧ upperBound cmp key a = some hi ∧ bsearch cmp key a = some r ∧
      lo ≤ hi ∧ hi ≤ a.length ∧
      (∀ i (h : i < a.length), (lo ≤ i ∧ i < hi) ↔ cmp key a[i] = 0) ∧
      (r = none ↔ lo = hi) ∧ (∀ i, r = some i → lo ≤ i ∧ i < hi) := by
  obtain ⟨lo, hlo, hlon, l1, l2⟩ := lower_bound_spec cmp key a hp
  obtain ⟨hi, hhi, hhin, u1, u2⟩ := upper_bound_spec cmp key a hp
  obtain ⟨r, hr, r1, r2⟩ := bsearch_iff cmp key a hp
  have hlohi : lo ≤ hi := by
    apply Classical.byContradiction
    intro hn
    have hlt : hi < a.length := by omega
    have := l1 hi hlt (by omega)
    have := u2 hi hlt (Nat.le_refl _)
    omega
  have hiff : ∀ i (h : i < a.length), (lo ≤ i ∧ i < hi) ↔ cmp key a[i] = 0 := by
    intro i h
    constructor
    · rintro ⟨h1, h2⟩
      have := l2 i h h1
      have := u1 i h h2
      omega
    · intro h0
      constructor
      · apply Classical.byContradiction; intro hn; have := l1 i h (by omega); omega
      · apply Classical.byContradiction; intro hn; have := u2 i h (by omega); omega
  refine ⟨lo, hi, r, hlo, hhi, hr, hlohi, hhin, hiff, ?_, ?_⟩
  · constructor
    · intro hnone
      apply Classical.byContradiction
      intro hne
      have hlt : lo < a.length := by omega
      exact r2 hnone lo hlt ((hiff lo hlt).1 ⟨Nat.le_refl _, by omega⟩)
    · intro heq
      cases r with
      | none => rfl
      | some i =>
        obtain ⟨hi', h0⟩ := r1 i rfl
        have := (hiff i hi').2 h0
        omega
  · intro i hri
    obtain ⟨hi', h0⟩ := r1 i hri
    exact (hiff i hi').2 h0

/-- the usual situation: one type, array sorted by a consistent comparator -/
theorem bounds_sorted {α : Type} (cmp : α → α → Int) (hc : Consistent cmp) (key : α) (a : List α) (hs : Sorted cmp a) :
    lowerBound cmp key a = some (Spec.firstIdx (fun x => decide (cmp key x ≤ 0)) a) ∧
    upperBound cmp key a = some (Spec.firstIdx (fun x => decide (cmp key x < 0)) a) :=
  ⟨lower_bound_is_first_not_less cmp key a (partitioned_of_sorted cmp hc a hs key),
   upper_bound_is_first_greater cmp key a (partitioned_of_sorted cmp hc a hs key)⟩

/-- nmemb = 0: `base` is returned and nothing is read -/
theorem bounds_empty {κ α : Type} (cmp : κ → α → Int) (key : κ) :
    upperBound cmp key ([] : List α) = some 0 ∧ lowerBound cmp key ([] : List α) = some 0 := ⟨rfl, rfl⟩

/-- nmemb = 1: one comparison decides between `base` and `base + size` -/
theorem bounds_singleton {κ α : Type} (cmp : κ → α → Int) (key : κ) (x : α) :
    upperBound cmp key [x] = some (if cmp key x < 0 then 0 else 1) ∧
    lowerBound cmp key [x] = some (if cmp key x ≤ 0 then 0 else 1) := by
  constructor
  · by_cases h : cmp key x < 0 <;> simp [upperBound, bndLoop, h]
  · by_cases h : cmp key x ≤ 0 <;> simp [lowerBound, bndLoop, h]

-- duplicates, key present / absent / below all / above all (the last two are the inputs of the repaired defects)
example : lowerBound (fun (k e : Int) => k - e) 3 [1, 3, 3, 5, 7] = some 1 ∧ upperBound (fun (k e : Int) => k - e) 3 [1, 3, 3, 5, 7] = some 3 := by decide +kernel
example : lowerBound (fun (k e : Int) => k - e) 4 [1, 3, 3, 5, 7] = some 3 ∧ upperBound (fun (k e : Int) => k - e) 4 [1, 3, 3, 5, 7] = some 3 := by decide +kernel
example : upperBound (fun (k e : Int) => k - e) 0 [1, 3, 3, 5, 7] = some 0 ∧ lowerBound (fun (k e : Int) => k - e) 9 [1, 3, 3, 5, 7] = some 5 := by decide +kernel
example : Spec.firstIdx (fun x : Int => decide (3 - x < 0)) [1, 3, 3, 5, 7] = 3 := by decide +kernel

/-! ## qsort — recursion depth, element size -/

/-- Termination with an explicit bound: one unit of fuel is consumed per NESTED
call, so `fuel` bounds the recursion depth; every fuel above `nmemb` suffices.
The recursion of qsort.c is therefore never deeper than `nmemb + 1` frames
(each holding two VLAs of `size` bytes) — and the bound is reached: a pivot
stream that always picks an extreme element peels one element per level. -/
theorem qsort_recursion_depth {α : Type} (cmp : α → α → Int) (hirr : ∀ x, ¬ cmp x x < 0) (rs : List Int) (a : List α)
    (fuel : Nat) (hf : a.length < fuel) :
    ∃ out rs', qsortF cmp fuel rs a = some (out, rs') ∧ out.Perm a := by
  obtain ⟨out, rs', h, hp, _⟩ := qsortF_spec cmp hirr fuel rs a hf
  exact ⟨out, rs', h, hp⟩

/-- An element index `i < nmemb` is the byte range `[i*size, i*size + size)`
inside `[0, nmemb*size)`: the model gives every access as such an index (a
fault otherwise), so for every element size the bytes touched by qsort,
bsearch, upper_bound and lower_bound lie inside the array. -/
theorem element_bytes_in_array (nmemb size i : Nat) (hi : i < nmemb) : i * size + size ≤ nmemb * size :=
  off_succ_le hi

-- depth is really linear for an adversarial pivot stream: 8 distinct elements with fuel 3 run out of fuel, fuel 9 does not
example : qsortF (fun a b : Int => a - b) 3 [0, 0, 0, 0, 0, 0, 0, 0] [0, 1, 2, 3, 4, 5, 6, 7] = none := by decide +kernel
example : (qsortF (fun a b : Int => a - b) 9 [0, 0, 0, 0, 0, 0, 0, 0] [0, 1, 2, 3, 4, 5, 6, 7]).map (·.1) = some [0, 1, 2, 3, 4, 5, 6, 7] := by decide +kernel

/-! ## qsort on BYTES, for every element size ≥ 1

`qsortB` (ModelBytes.lean) is qsort.c on the `nmemb * size` bytes it is given:
pointers are byte offsets, `swap` is three `memcpy`s through `char temp[size]`,
the pivot is copied into `char key[size]`, a recursive call gets exactly the
bytes of its sub-array; a `memcpy` or comparator argument that is not
completely inside those bytes is a fault.  The comparator sees the `size`
bytes of an element (so it may look at a key subfield only). -/

/-- the byte-level function IS the element-level model on the `size`-byte
chunks: same result, same faults, same consumption of the pivot stream — for
every comparator (also inconsistent ones), every size ≥ 1, every array -/
theorem qsort_bytes_refines (size : Nat) (hs : 0 < size) (cmp : List Byte → List Byte → Int) (rs : List Int)
    (a : List (List Byte)) (hu : Uniform size a) :
    qsortB cmp size rs a.flatten = (qsort cmp rs a).map fun r => (r.1.flatten, r.2) := by
  unfold qsortB qsort
  rw [flatten_div hs a hu]
  exact qsortFB_refines cmp hs _ rs a hu

/-- qsort on ANY array of `nmemb * size` bytes, `size ≥ 1`: it terminates, no
byte outside `[base, base + nmemb*size)` is read or written (no fault, although
exactly these bytes are mapped), the result has the same length and its
elements are a permutation of the input's elements — for every pivot stream and
every comparator that never says `x < x` -/
theorem qsort_bytes_perm (size : Nat) (hs : 0 < size) (cmp : List Byte → List Byte → Int) (hirr : ∀ x, ¬ cmp x x < 0)
    (rs : List Int) (nmemb : Nat) (mem : List Byte) (hlen : mem.length = nmemb * size) :
    ∃ a out rs', Uniform size a ∧ a.length = nmemb ∧ a.flatten = mem ∧
      qsortB cmp size rs mem = some (out.flatten, rs') ∧ Uniform size out ∧ out.Perm a ∧
      out.flatten.length = mem.length := by
  obtain ⟨a, hu, hn, hf⟩ := exists_chunks nmemb mem hlen
  obtain ⟨out, rs', hq, hp⟩ := qsort_perm cmp hirr rs a
  refine ⟨a, out, rs', hu, hn, hf, ?_, hu.perm hp, hp, ?_⟩
  · rw [← hf, qsort_bytes_refines size hs cmp rs a hu, hq]; rfl
  · rw [flatten_length out (hu.perm hp), hp.length_eq, hn, hlen]

/-- … and ordered by the comparator, for every consistent comparator (total
preorder on element contents, e.g. the order of a key subfield) -/
theorem qsort_bytes_sorted (size : Nat) (hs : 0 < size) (cmp : List Byte → List Byte → Int) (hc : Consistent cmp)
    (rs : List Int) (nmemb : Nat) (mem : List Byte) (hlen : mem.length = nmemb * size) :
    ∃ a out rs', Uniform size a ∧ a.length = nmemb ∧ a.flatten = mem ∧
      qsortB cmp size rs mem = some (out.flatten, rs') ∧ Uniform size out ∧ out.Perm a ∧ Sorted cmp out := by
  obtain ⟨a, hu, hn, hf⟩ := exists_chunks nmemb mem hlen
  obtain ⟨out, rs', hq, hp, hsrt⟩ := qsort_sorted cmp hc rs a
  refine ⟨a, out, rs', hu, hn, hf, ?_, hu.perm hp, hp, hsrt⟩
  rw [← hf, qsort_bytes_refines size hs cmp rs a hu, hq]; rfl

/-- the primitives: a comparator argument / `memcpy` source at byte offset
`i * size` is element `i`, and a fault exactly when `i ≥ nmemb`; `swap` on the
bytes exchanges the two elements (also `swap(p, p)`) -/
theorem qsort_bytes_primitives (size : Nat) (hs : 0 < size) (a : List (List Byte)) (hu : Uniform size a) (i j : Nat) :
    elemAt size a.flatten (i * size) = a[i]? ∧
    swapB size a.flatten (i * size) (j * size) = (swapAt a i j).map List.flatten :=
  ⟨elemAt_flatten hs a hu i, swapB_flatten hs a hu i j⟩

-- a comparator on a key subfield (the first byte) is consistent; a run on 3-byte elements
example : Consistent (fun x y : List Byte => ((x.headD 0).toNat : Int) - (y.headD 0).toNat) :=
  ⟨by intro a b; omega, by intro a b c; omega⟩
example : (qsortB (fun x y : List Byte => ((x.headD 0).toNat : Int) - (y.headD 0).toNat) 3 [2, 0]
    [3, 0xa, 0xb, 1, 0xc, 0xd, 2, 0xe, 0xf, 1, 0x1, 0x2, 0, 0x3, 0x4]).map (·.1) =
    some [0, 0x3, 0x4, 1, 0xc, 0xd, 1, 0x1, 0x2, 2, 0xe, 0xf, 3, 0xa, 0xb] := by decide +kernel
-- an element that is not completely inside the bytes given is a fault: element 1 of a 3-byte array of 2-byte elements,
-- a swap with it, and a `memcpy` over the end
example : elemAt 2 [3, 0, 2] 2 = none ∧ swapB 2 [3, 0, 2] 0 2 = none ∧ blit [3, 0, 2] 2 [7, 7] = none := by decide +kernel

/-! ## bsearch / upper_bound / lower_bound on BYTES

The same for bsearch.c: `left`, `right`, `mid` as byte offsets with the C
expression `mid = left + ((right - left) / (size << 1) * size)`; every
comparator argument must be `size` bytes completely inside the array. -/

/-- bsearch on the bytes of an array laid out as ISO requires: no access
outside `[base, base + nmemb*size)`, the returned pointer is `base + i*size` of
an element comparing equal, NULL iff there is none — for every `size ≥ 1` -/
theorem bsearch_bytes_iff {κ : Type} (size : Nat) (hs : 0 < size) (cmp : κ → List Byte → Int) (key : κ)
    (a : List (List Byte)) (hu : Uniform size a) (hp : PartitionedBy cmp key a) :
    ∃ r, bsearchB cmp key size a.flatten a.length = some r ∧
      (∀ p, r = some p → ∃ i, ∃ h : i < a.length, p = i * size ∧ cmp key a[i] = 0) ∧
      (r = none → ∀ i (h : i < a.length), cmp key a[i] ≠ 0) := by
  obtain ⟨r, hr, h1, h2⟩ := bsearch_iff cmp key a hp
  refine ⟨r.map (· * size), ?_, ?_, ?_⟩
  · rw [bsearchB_refines cmp key hs a hu, hr]; rfl
  · intro p hp'
    obtain ⟨i, rfl, rfl⟩ := Option.map_eq_some_iff.1 hp'
    obtain ⟨hi, h0⟩ := h1 i rfl
    exact ⟨i, hi, rfl, h0⟩
  · intro hn
    exact h2 (Option.map_eq_none_iff.1 hn)

/-- upper_bound / lower_bound on bytes return `base + size * (first index …)` -/
theorem bounds_bytes {κ : Type} (size : Nat) (hs : 0 < size) (cmp : κ → List Byte → Int) (key : κ)
    (a : List (List Byte)) (hu : Uniform size a) (hp : PartitionedBy cmp key a) :
    upperBoundB cmp key size a.flatten a.length = some (Spec.firstIdx (fun x => decide (cmp key x < 0)) a * size) ∧
    lowerBoundB cmp key size a.flatten a.length = some (Spec.firstIdx (fun x => decide (cmp key x ≤ 0)) a * size) := by
  obtain ⟨h1, h2⟩ := boundsB_refine cmp key hs a hu
  rw [h1, h2, upper_bound_is_first_greater cmp key a hp, lower_bound_is_first_not_less cmp key a hp]
  exact ⟨rfl, rfl⟩

-- 3-byte elements ordered by their first byte, a 1-byte key: found at byte offset 6, bounds at 3 and 9
example : bsearchB (fun (k : Nat) (e : List Byte) => (k : Int) - (e.headD 0).toNat) 3 3 [1, 9, 9, 3, 8, 8, 3, 7, 7, 5, 6, 6] 4 = some (some 6)
    ∧ lowerBoundB (fun (k : Nat) (e : List Byte) => (k : Int) - (e.headD 0).toNat) 3 3 [1, 9, 9, 3, 8, 8, 3, 7, 7, 5, 6, 6] 4 = some 3
    ∧ upperBoundB (fun (k : Nat) (e : List Byte) => (k : Int) - (e.headD 0).toNat) 3 3 [1, 9, 9, 3, 8, 8, 3, 7, 7, 5, 6, 6] 4 = some 9 := by decide +kernel

/-! ## atol / atoi / atoll outside the representable range -/

/-- atol is defined by the code exactly where ISO defines it: the decimal value
when it is representable in `long`, and signed overflow (a fault of the model,
undefined behaviour of the C code — UBSan aborts) for every other text.  ISO
7.22.1.2 leaves that case undefined, so this is not a violation; callers that
need clamping have `strtol` / `atoll` (`atoll_value`: defined for every text). -/
theorem atol_defined_iff_representable (w : Nat) (hw : 0 < w) (t : List Byte) :
    atol w (t ++ [0]) =
      if -((2 : Int) ^ (w - 1)) ≤ Spec.decimalValue t ∧ Spec.decimalValue t ≤ (2 : Int) ^ (w - 1) - 1
      then some (Spec.decimalValue t) else none :=
  atol_eq w t

/-- atoi = `(int) atol`: inside `long` but outside `int` the low `wi` bits of the
value (implementation-defined conversion, what gcc and glibc's atoi do);
outside `long` the fault of atol -/
theorem atoi_truncates (wl wi : Nat) (hwl : 0 < wl) (t : List Byte) :
    atoi wl wi (t ++ [0]) =
      if -((2 : Int) ^ (wl - 1)) ≤ Spec.decimalValue t ∧ Spec.decimalValue t ≤ (2 : Int) ^ (wl - 1) - 1
      then some (asSigned wi ((Spec.decimalValue t % 2 ^ wi).toNat)) else none := by
  unfold atoi
  rw [atol_defined_iff_representable wl hwl t]
  split <;> rfl

-- "128" as atol of an 8-bit long: overflow; "200" as atoi of a 16-bit long / 8-bit int: 200 - 256
example : atol 8 ([0x31, 0x32, 0x38] ++ [0]) = none := by decide +kernel
example : atoi 16 8 ([0x32, 0x30, 0x30] ++ [0]) = some (-56) := by decide +kernel
example : atoll 8 ([0x31, 0x32, 0x38] ++ [0]) = some 127 ∧ atoll 8 ([0x20, 0x2d, 0x39, 0x39, 0x39] ++ [0]) = some (-128) := by decide +kernel

/-! ## safety WITHOUT any hypothesis on the comparator or the array

"never dereferences outside the array" does not depend on the array being laid
out as ISO requires (that is the caller's obligation for the RESULT to mean
something): for every comparator — inconsistent, constant, anything — and every
array the three bisections terminate, read only indices `< nmemb` and return a
pointer into `[base, base + nmemb*size]`. -/

theorem bsearch_safe {κ α : Type} (cmp : κ → α → Int) (key : κ) (a : List α) :
    ∃ r, bsearch cmp key a = some r ∧ ∀ i, r = some i → i < a.length := by
  by_cases h0 : a.length = 0
  · exact ⟨none, bsearch_of_length_eq_zero cmp key a h0, fun i hi => (by cases hi)⟩
  · obtain ⟨l, hrun, hl, _⟩ := bsLoop_inv cmp key a (fun _ _ => True) (fun _ _ _ _ _ _ => trivial) (fun _ _ _ _ _ _ => trivial)
      (a.length + 1) 0 a.length (by omega) (by omega) (by omega) trivial
    refine ⟨_, bsearch_of_bsLoop cmp key a h0 hl hrun, fun i hi => ?_⟩
    cases (Option.ite_none_right_eq_some.1 hi).2
    exact hl

theorem bounds_safe {κ α : Type} (cmp : κ → α → Int) (key : κ) (a : List α) :
    (∃ r, upperBound cmp key a = some r ∧ r ≤ a.length) ∧ (∃ r, lowerBound cmp key a = some r ∧ r ≤ a.length) :=
  ⟨bndLoop_le (fun x => decide (cmp key x < 0)) a, bndLoop_le (fun x => decide (cmp key x ≤ 0)) a⟩

/-- … and on bytes, for every element size ≥ 1: no `size`-byte comparator
argument outside `[base, base + nmemb*size)`, the returned pointer is
`base + i*size` with `i < nmemb` (bsearch) resp. `i ≤ nmemb` (bounds) -/
theorem bisections_bytes_safe {κ : Type} (size : Nat) (hs : 0 < size) (cmp : κ → List Byte → Int) (key : κ)
    (a : List (List Byte)) (hu : Uniform size a) :
    (∃ r, bsearchB cmp key size a.flatten a.length = some r ∧ ∀ p, r = some p → ∃ i, i < a.length ∧ p = i * size) ∧
    (∃ i, upperBoundB cmp key size a.flatten a.length = some (i * size) ∧ i ≤ a.length) ∧
    (∃ i, lowerBoundB cmp key size a.flatten a.length = some (i * size) ∧ i ≤ a.length) := by
  obtain ⟨r, hr, hin⟩ := bsearch_safe cmp key a
  obtain ⟨⟨u, hu', hul⟩, ⟨l, hl', hll⟩⟩ := bounds_safe cmp key a
  obtain ⟨b1, b2⟩ := boundsB_refine cmp key hs a hu
  refine ⟨⟨r.map (· * size), ?_, ?_⟩, ⟨u, ?_, hul⟩, ⟨l, ?_, hll⟩⟩
  · rw [bsearchB_refines cmp key hs a hu, hr]; rfl
  · intro p hp
    obtain ⟨i, rfl, rfl⟩ := Option.map_eq_some_iff.1 hp
    exact ⟨i, hin i rfl, rfl⟩
  · rw [b1, hu']; rfl
  · rw [b2, hl']; rfl

-- an unordered array and a nonsense comparator: still inside the array
example : bsearch (fun (k : Int) (e : Int) => if e % 2 = 0 then -1 else k - e) 3 [5, 3, 8, 1, 3, 0, 9] = some (some 4) := by decide +kernel

/-! ## rand.c; soundness of the canonical observables of the correspondence -/

/-- rand.c is the linear congruential generator its header announces:
`x' = ((x * 16546134871 + 513585871) mod 2^32) mod 204814687`, result `x' / 2` —
for EVERY state `x`; the result lies in `[0, 102407343]`, so inside
`[0, RAND_MAX]` (`RAND_MAX = INT_MAX` in compat/libc/include/stdlib.h), and the
`(int)` conversion never sees a negative number. -/
theorem rand_is_lcg (x : Nat) :
    randSeed x = (x * 16546134871 + 513585871) % 2 ^ 32 % 204814687 ∧
    randOut (randSeed x) = ((randSeed x / 2 : Nat) : Int) ∧
    0 ≤ randOut (randSeed x) ∧ randOut (randSeed x) ≤ 102407343 ∧ randOut (randSeed x) ≤ 2 ^ 31 - 1 := by
  have hlt := randSeed_lt x
  have ho := randOut_of_lt (randSeed x) (by omega)
  refine ⟨randSeed_formula x, ho, ?_, ?_, ?_⟩ <;> rw [ho] <;> omega

/-- the width of `static unsigned long seed` does not matter: bits 32 and above of
the state never influence the next state (the `(unsigned int)` cast), so a
target with a 32-bit `unsigned long` produces the same sequence; and after the
first call the state is below the modulus for good -/
theorem rand_state_width_irrelevant (x k : Nat) :
    randSeed (x + k * 2 ^ 32) = randSeed x ∧ randSeed x < 204814687 :=
  ⟨randSeed_high_bits x k, randSeed_lt x⟩

/-- `rand_r(&s)` is one step of the same generator on the caller's `unsigned int`:
the value `rand()` would return after `srand(s)`, the new `*seedp` below the modulus -/
theorem rand_r_is_rand_step (s : Nat) :
    [(randR s).2] = randStream 1 (s % 2 ^ 32) ∧ (randR s).1 < 204814687 ∧ randR (s + 2 ^ 32) = randR s := by
  refine ⟨rfl, randSeed_lt _, ?_⟩
  unfold randR
  rw [Nat.add_mod_right]

example : randStream 3 randInit = [30021663, 54139618, 75880662] := by decide +kernel

/-- The ordered key sequence is UNIQUE: when the comparator orders the elements by
an integer key (any sign-compatible comparator: `a - b`, `±1`, `INT_MIN/INT_MAX`),
the keys of qsort's output are the merge-sorted keys of the input - for every
pivot stream.  Only the arrangement of elements with equal keys is left open; that
is what the canonical form of the correspondence (`canonRuns`) abstracts from, and
why the driver may print `mergeSort` of the keys for arrays too long to execute. -/
theorem qsort_keys_unique {α : Type} (key : α → Int) (cmp : α → α → Int)
    (hk : ∀ x y, (cmp x y < 0 ↔ key x < key y) ∧ (0 < cmp x y ↔ key y < key x)) (rs : List Int) (a : List α) :
    ∃ out rs', qsort cmp rs a = some (out, rs') ∧
      out.map key = (a.map key).mergeSort (fun x y => decide (x ≤ y)) := by
  have hc : Consistent cmp := by
    constructor
    · intro a b; rw [(hk a b).1, (hk b a).2]
    · intro a b c h1 h2
      have := (hk a b).2; have := (hk b c).2; have := (hk a c).2
      omega
  obtain ⟨out, rs', h, hp, hs⟩ := qsort_sorted cmp hc rs a
  refine ⟨out, rs', h, sorted_keys_unique key cmp ?_ out a hp hs⟩
  intro x y
  have := (hk x y).2
  omega

/-- hence the pivots (the state of `rand()`) have no influence on the keys -/
theorem qsort_keys_pivot_independent {α : Type} (key : α → Int) (cmp : α → α → Int)
    (hk : ∀ x y, (cmp x y < 0 ↔ key x < key y) ∧ (0 < cmp x y ↔ key y < key x)) (rs₁ rs₂ : List Int) (a : List α) :
    ((qsort cmp rs₁ a).map fun r => r.1.map key) = ((qsort cmp rs₂ a).map fun r => r.1.map key) := by
  obtain ⟨o1, r1, h1, e1⟩ := qsort_keys_unique key cmp hk rs₁ a
  obtain ⟨o2, r2, h2, e2⟩ := qsort_keys_unique key cmp hk rs₂ a
  rw [h1, h2]
  simp only [Option.map_some, e1, e2]

example : ∀ x y : Int × Nat, ((fun a b : Int × Nat => a.1 - b.1) x y < 0 ↔ x.1 < y.1) ∧
    (0 < (fun a b : Int × Nat => a.1 - b.1) x y ↔ y.1 < x.1) := by intro x y; constructor <;> constructor <;> intro h <;> simp only at * <;> omega
-- two pivot streams: the same keys, a different arrangement of the equal elements
example : (qsort (fun a b : Int × Nat => a.1 - b.1) [0] [(0, 0), (1, 1), (0, 2), (0, 3)]).map (·.1) = some [(0, 3), (0, 2), (0, 0), (1, 1)] ∧
    (qsort (fun a b : Int × Nat => a.1 - b.1) [1] [(0, 0), (1, 1), (0, 2), (0, 3)]).map (·.1) = some [(0, 0), (0, 3), (0, 2), (1, 1)] := by decide +kernel

/-- WHICH of several equal elements: the bisection of bsearch.c never stops on
equality and moves `left` on "key >= *mid", so it returns the LAST element of the
run of equal elements, i.e. the one just before `upper_bound`.  (True of the code
as it is; ISO and the property leave the choice open, so the correspondence
compares only the run - `equalRun` - that contains the returned element.) -/
theorem bsearch_returns_last_equal {κ α : Type} (cmp : κ → α → Int) (key : κ) (a : List α)
    (hp : PartitionedBy cmp key a) (i : Nat) (h : bsearch cmp key a = some (some i)) :
    upperBound cmp key a = some (i + 1) ∧ ∀ k (hk : k < a.length), i < k → cmp key a[k] ≠ 0 := by
  obtain ⟨hi, h0, hlast⟩ := bsearch_last cmp key a hp i h
  refine ⟨?_, fun k hk hik => by have := hlast k hk hik; omega⟩
  rw [upper_bound_is_first_greater cmp key a hp, firstIdx_eq a (i + 1) (by omega)]
  · intro j hj hlt hneg
    have := (hp j i (by omega) hi).1 hneg
    omega
  · intro j hj hge
    exact hlast j hj (by omega)

example : bsearch (fun (k : Int) (e : Int) => k - e) 3 [1, 3, 3, 3, 7] = some (some 3) ∧
    upperBound (fun (k : Int) (e : Int) => k - e) 3 [1, 3, 3, 3, 7] = some 4 ∧
    equalRun (fun (k : Int) (e : Int) => k - e) 3 [1, 3, 3, 3, 7] 2 = (1, 3) := by decide +kernel

/-- Soundness of the canonical bsearch observable: on an array laid out as ISO
requires, the run of equal elements around ANY element comparing equal to the key
is the bracket `[lower_bound, upper_bound - 1]` - the same for every admissible
answer.  So two correct implementations that return different equal elements
print the same line, and a wrong answer (an element that is not equal) cannot. -/
theorem bsearch_equal_run_canonical {κ α : Type} (cmp : κ → α → Int) (key : κ) (a : List α)
    (hp : PartitionedBy cmp key a) (i : Nat) (hi : i < a.length) (h0 : cmp key a[i] = 0) :
    ∃ lo up, lowerBound cmp key a = some lo ∧ upperBound cmp key a = some up ∧
      equalRun cmp key a i = (lo, up - 1) := by
  obtain ⟨lo, up, r, hlo, hup, _, _, hupn, hiff, _, _⟩ := bounds_bracket_equal_range cmp key a hp
  have hin := (hiff i hi).2 h0
  refine ⟨lo, up, hlo, hup, equalRun_eq cmp key a lo up i hupn hin.1 hin.2 ?_ ?_ ?_⟩
  · intro j hj h1 h2; exact (hiff j hj).1 ⟨h1, h2⟩
  · intro j hj h1 h; have := (hiff j hj).2 h; omega
  · intro j hj h1 h; have := (hiff j hj).2 h; omega

/-- in particular the line does not depend on WHICH equal element was returned -/
theorem bsearch_equal_run_independent {κ α : Type} (cmp : κ → α → Int) (key : κ) (a : List α)
    (hp : PartitionedBy cmp key a) (i j : Nat) (hi : i < a.length) (hj : j < a.length)
    (h0 : cmp key a[i] = 0) (h1 : cmp key a[j] = 0) :
    equalRun cmp key a i = equalRun cmp key a j := by
  obtain ⟨lo, up, hlo, hup, e1⟩ := bsearch_equal_run_canonical cmp key a hp i hi h0
  obtain ⟨lo', up', hlo', hup', e2⟩ := bsearch_equal_run_canonical cmp key a hp j hj h1
  rw [hlo] at hlo'; rw [hup] at hup'
  cases hlo'; cases hup'
  rw [e1, e2]

example : equalRun (fun (k : Int) (e : Int) => k - e) 3 [1, 3, 3, 3, 7] 1 = (1, 3) ∧
    equalRun (fun (k : Int) (e : Int) => k - e) 3 [1, 3, 3, 3, 7] 3 = (1, 3) := by decide +kernel

/-- Soundness of the canonical qsort observable, for EVERY consistent comparator
(classes, partial keys, everything-equal included) and every pivot stream: the
canonical form of the model's output (`canonLex`: elements ordered by the
comparator, elements comparing equal ordered by a total order `le` on whole
elements) is the merge sort of the INPUT by that lexicographic order - a list
function of the input alone.  So the pivots, `rand()`, the partition scheme and
the arrangement of equal elements cannot influence the line the driver prints,
and any implementation that leaves a permutation ordered by the comparator
prints the same line. -/
theorem qsort_canonical {α : Type} (cmp : α → α → Int) (hc : Consistent cmp) (le : α → α → Bool)
    (htot : ∀ x y, (le x y || le y x) = true) (htr : ∀ x y z, le x y = true → le y z = true → le x z = true)
    (has : ∀ x y, le x y = true → le y x = true → x = y) (rs : List Int) (a : List α) :
    ∃ out rs', qsort cmp rs a = some (out, rs') ∧ canonLex cmp le out = a.mergeSort (lexLe cmp le) := by
  obtain ⟨out, rs', h, hp, _⟩ := qsort_sorted cmp hc rs a
  exact ⟨out, rs', h, canonLex_perm cmp hc le htot htr has out a hp⟩

/-- … and EVERY permutation of the input has that same canonical form: the line
the driver prints carries the multiset clause; the order clause is judged by the
oracle on the raw output of the real code and by the run structure of the form
the harness computes from it (`canon_runs`: runs of adjacent equal elements) -/
theorem canonical_of_any_permutation {α : Type} (cmp : α → α → Int) (hc : Consistent cmp) (le : α → α → Bool)
    (htot : ∀ x y, (le x y || le y x) = true) (htr : ∀ x y z, le x y = true → le y z = true → le x z = true)
    (has : ∀ x y, le x y = true → le y x = true → x = y) (a out : List α) (hp : out.Perm a) :
    canonLex cmp le out = a.mergeSort (lexLe cmp le) :=
  canonLex_perm cmp hc le htot htr has out a hp

-- a total order `le` exists (the hypotheses are satisfiable)
example : (∀ x y : Int, (decide (x ≤ y) || decide (y ≤ x)) = true) ∧
    (∀ x y z : Int, decide (x ≤ y) = true → decide (y ≤ z) = true → decide (x ≤ z) = true) ∧
    (∀ x y : Int, decide (x ≤ y) = true → decide (y ≤ x) = true → x = y) := by
  refine ⟨?_, ?_, ?_⟩
  · intro x y; simp only [Bool.or_eq_true, decide_eq_true_eq]; omega
  · intro x y z; simp only [decide_eq_true_eq]; omega
  · intro x y; simp only [decide_eq_true_eq]; omega

/-! ## re-entrancy - a comparator that itself calls qsort

In C a comparator may call qsort (rows ordered by their sorted contents).  The
model has no state, so a call made from inside a comparator is an independent
call; what has to be said is that such a comparator is a pure function of its two
arguments WHATEVER pivots the inner calls draw (i.e. in whatever state `rand()` is
at that moment: `pick` chooses arbitrary pivot streams per call), and that the
outer call then does what the property says.  That the real code behaves like
this (no shared static between two calls in progress) is what the ops `qsn` /
`bsn` of the correspondence check. -/

/-- the comparator "compare two rows by a function `f` of their SORTED key
sequences", the sorting done by nested calls of the model's qsort with the pivot
streams `pick a b` (a fault of a nested call, which never happens, would give 0) -/
def nestedCmp {β : Type} (f : List Int → List Int → Int) (key : β → Int) (icmp : β → β → Int)
    (pick : List β → List β → List Int × List Int) (a b : List β) : Int :=
  match qsort icmp (pick a b).1 a, qsort icmp (pick a b).2 b with
  | some (oa, _), some (ob, _) => f (oa.map key) (ob.map key)
  | _, _ => 0

/-- … is, for EVERY choice of inner pivot streams, the list function "f of the
merge-sorted keys" (right-hand side without any model function) -/
theorem nested_comparator_is_pure {β : Type} (f : List Int → List Int → Int) (key : β → Int) (icmp : β → β → Int)
    (hk : ∀ x y, (icmp x y < 0 ↔ key x < key y) ∧ (0 < icmp x y ↔ key y < key x))
    (pick : List β → List β → List Int × List Int) (a b : List β) :
    nestedCmp f key icmp pick a b =
      f ((a.map key).mergeSort fun x y => decide (x ≤ y)) ((b.map key).mergeSort fun x y => decide (x ≤ y)) := by
  obtain ⟨oa, ra, ha, ea⟩ := qsort_keys_unique key icmp hk (pick a b).1 a
  obtain ⟨ob, rb, hb, eb⟩ := qsort_keys_unique key icmp hk (pick a b).2 b
  unfold nestedCmp
  rw [ha, hb]
  simp only [ea, eb]

/-- qsort whose comparator calls qsort: for every outer pivot stream, every choice
of inner pivot streams and every `f` that is a consistent order on sorted key
sequences, the outer call terminates without fault and leaves a permutation of the
rows ordered by "f of the sorted contents" - the same statement as for a plain
comparator; the nested calls cannot be seen. -/
theorem qsort_nested_comparator {β : Type} (f : List Int → List Int → Int) (key : β → Int) (icmp : β → β → Int)
    (hk : ∀ x y, (icmp x y < 0 ↔ key x < key y) ∧ (0 < icmp x y ↔ key y < key x))
    (hf : Consistent fun a b : List β =>
      f ((a.map key).mergeSort fun x y => decide (x ≤ y)) ((b.map key).mergeSort fun x y => decide (x ≤ y)))
    (pick : List β → List β → List Int × List Int) (rs : List Int) (rows : List (List β)) :
    ∃ out rs', qsort (nestedCmp f key icmp pick) rs rows = some (out, rs') ∧ out.Perm rows ∧
      Sorted (fun a b : List β =>
        f ((a.map key).mergeSort fun x y => decide (x ≤ y)) ((b.map key).mergeSort fun x y => decide (x ≤ y))) out := by
  have he : nestedCmp f key icmp pick = fun a b : List β =>
      f ((a.map key).mergeSort fun x y => decide (x ≤ y)) ((b.map key).mergeSort fun x y => decide (x ≤ y)) := by
    funext a b; exact nested_comparator_is_pure f key icmp hk pick a b
  rw [he]
  exact qsort_sorted _ hf rs rows

/-- two different choices of inner pivots: the same outer result -/
theorem qsort_nested_pivot_independent {β : Type} (f : List Int → List Int → Int) (key : β → Int) (icmp : β → β → Int)
    (hk : ∀ x y, (icmp x y < 0 ↔ key x < key y) ∧ (0 < icmp x y ↔ key y < key x))
    (pick₁ pick₂ : List β → List β → List Int × List Int) (rs : List Int) (rows : List (List β)) :
    qsort (nestedCmp f key icmp pick₁) rs rows = qsort (nestedCmp f key icmp pick₂) rs rows := by
  have he : nestedCmp f key icmp pick₁ = nestedCmp f key icmp pick₂ := by
    funext a b
    rw [nested_comparator_is_pure f key icmp hk pick₁ a b, nested_comparator_is_pure f key icmp hk pick₂ a b]
  rw [he]

-- the hypotheses are satisfiable: rows of integers ordered by their minimum (= head of the sorted row)
example : Consistent fun a b : List Int =>
    (fun x y : List Int => x.headD 0 - y.headD 0) ((a.map id).mergeSort fun x y => decide (x ≤ y)) ((b.map id).mergeSort fun x y => decide (x ≤ y)) :=
  ⟨by intro a b; simp only []; omega, by intro a b c; simp only []; omega⟩
-- a run: rows ordered by their minimum, the minimum found by a nested qsort with other pivots than the outer call
example : (qsort (nestedCmp (fun x y => x.headD 0 - y.headD 0) id (fun a b : Int => a - b) (fun _ _ => ([2, 0, 1], [1, 1, 0])))
    [3, 0, 1, 2] [[5, 9, 7, 8, 6], [3, 1, 2, 4, 1], [9, 9, 2, 9, 9], [7, 6, 5, 4, 3], [8, 8, 8, 8, 0]]).map (·.1) =
    some [[8, 8, 8, 8, 0], [3, 1, 2, 4, 1], [9, 9, 2, 9, 9], [7, 6, 5, 4, 3], [5, 9, 7, 8, 6]] := by decide +kernel

/-! ## the period of rand.c's generator

`x ↦ ((x·a + c) mod 2^32) mod m` is not a bijection of `[0, m)`, so the sequence has a
tail and a short cycle.  For the state the library starts from (and for `srand(1)`,
`srand(0)`) both are determined by kernel evaluation of one walk of that cycle and of the three
tails (`rand_cycle_walk`, `rand_tails` in Rand.lean); an exhaustive walk of all
204 814 687 states (scratch program, not a theorem) finds 15
cycles with 80 816 cyclic states in total, the longest of length 34 436. -/

/-- from the initial state, after 8269 calls the sequence of `rand()` repeats with
period (dividing) 34436; same cycle after `srand(1)` (462 calls) and `srand(0)` (2919 calls) -/
theorem rand_eventually_periodic :
    randIter 34436 (randIter 8269 randInit) = randIter 8269 randInit ∧
    randIter 34436 (randIter 462 1) = randIter 462 1 ∧
    randIter 34436 (randIter 2919 0) = randIter 2919 0 := by
  obtain ⟨t0, t1, t2⟩ := rand_tails
  obtain ⟨_, _, a1, a0, _, hper⟩ := rand_cycle_at
  rw [t0, t1, t2]
  refine ⟨hper, ?_, ?_⟩
  · rw [← a1]; exact randIter_period_shift hper 10075
  · rw [← a0]; exact randIter_period_shift hper 13195

/-- … and 34436 = 2·2·8609 is the exact period: its maximal proper divisors 17218 = 34436/2 and
4 = 34436/8609 are not periods (nor is 8609), and the least period divides every period -/
theorem rand_period_exact :
    randIter 17218 (randIter 8269 randInit) ≠ randIter 8269 randInit ∧
    randIter 8609 (randIter 8269 randInit) ≠ randIter 8269 randInit ∧
    randIter 4 (randIter 8269 randInit) ≠ randIter 8269 randInit := by
  obtain ⟨a4, a8609, _, _, a17218, _⟩ := rand_cycle_at
  rw [rand_tails.1, a4, a8609, a17218]
  decide

end Igris.C11
