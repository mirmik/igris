/-
  C18 — lemmas on hexascii.{h,c}, hexascii_string.cpp and the byte lanes of access.h.
-/
import IgrisModel.C18.Model
import IgrisModel.C18.Spec
namespace Igris.C18
open Igris.Proto Spec

/-! ## nibbles and digits

What the C expressions do to a byte is checked on the 256 bytes; what `hex2half`
makes of the digit table is checked on its sixteen entries.  The rest is
arithmetic on `16 * hi + lo`. -/

theorem encHi_spec : ∀ b : Byte, encHi b = upperDigit (b.toNat / 16) := by decide +kernel
theorem encLo_spec : ∀ b : Byte, encLo b = upperDigit (b.toNat % 16) := by decide +kernel

/-- the fixed-width helpers split a byte with `HIHALF/LOHALF`: same digits -/
theorem half_hi : ∀ b : Byte, half2hex (HIHALF b) = encHi b := by decide +kernel
theorem half_lo (b : Byte) : half2hex (LOHALF b) = encLo b := rfl

theorem hex2half_upperDigit : ∀ n, n < 16 → hex2half (upperDigit n) = BitVec.ofNat 8 n := by decide +kernel

theorem upperDigit_eq_getElem (n : Nat) (h : n < 16) :
    upperDigit n = (hexDigits.map ch)[n]'(by rw [List.length_map]; exact h) := by
  have hl : n < hexDigits.length := h
  rw [upperDigit, List.getD_eq_getElem?_getD, List.getElem?_eq_getElem hl, List.getElem_map]; rfl

theorem upperDigit_isUpperHex (n : Nat) (h : n < 16) : IsUpperHex (upperDigit n) := by
  rw [upperDigit_eq_getElem n h]; exact List.getElem_mem _

theorem exists_upperDigit (c : Byte) (h : IsUpperHex c) : ∃ n, n < 16 ∧ c = upperDigit n := by
  obtain ⟨n, hn, rfl⟩ := List.getElem_of_mem h
  rw [List.length_map] at hn
  exact ⟨n, hn, (upperDigit_eq_getElem n hn).symm⟩

theorem enc_upper (b : Byte) : IsUpperHex (encHi b) ∧ IsUpperHex (encLo b) := by
  have := b.isLt
  rw [encHi_spec, encLo_spec]
  exact ⟨upperDigit_isUpperHex _ (by omega), upperDigit_isUpperHex _ (by omega)⟩

theorem hex2byte_eq (hi lo : Byte) :
    hex2byte hi lo = BitVec.ofNat 8 (16 * (hex2half hi).toNat + (hex2half lo).toNat) := by
  apply BitVec.eq_of_toNat_eq
  have h1 := (hex2half hi).isLt; have h2 := (hex2half lo).isLt
  simp [hex2byte, toU8, zx, BitVec.toNat_add, BitVec.toNat_shiftLeft, Nat.shiftLeft_eq]
  omega

theorem hex2byte_upperDigit (m n : Nat) (hm : m < 16) (hn : n < 16) :
    hex2byte (upperDigit m) (upperDigit n) = BitVec.ofNat 8 (16 * m + n) := by
  rw [hex2byte_eq, hex2half_upperDigit m hm, hex2half_upperDigit n hn, BitVec.toNat_ofNat, BitVec.toNat_ofNat,
    Nat.mod_eq_of_lt (by omega), Nat.mod_eq_of_lt (by omega)]

theorem hex2byte_enc (b : Byte) : hex2byte (encHi b) (encLo b) = b := by
  have := b.isLt
  rw [encHi_spec, encLo_spec, hex2byte_upperDigit _ _ (by omega) (by omega)]
  apply BitVec.eq_of_toNat_eq
  rw [BitVec.toNat_ofNat]; omega

/-- `hex_to_uint8 (uint8_to_hex v) = v` unfolded; the wider helpers use it once per byte lane -/
theorem ofLanes_lanes8 (v : BitVec 8) : hex2byte (half2hex (HIHALF v)) (half2hex (LOHALF v)) = v := by
  rw [half_hi, half_lo, hex2byte_enc]

theorem enc_hex2byte (hi lo : Byte) (h1 : IsUpperHex hi) (h2 : IsUpperHex lo) :
    encHi (hex2byte hi lo) = hi ∧ encLo (hex2byte hi lo) = lo := by
  obtain ⟨m, hm, rfl⟩ := exists_upperDigit hi h1
  obtain ⟨n, hn, rfl⟩ := exists_upperDigit lo h2
  rw [encHi_spec, encLo_spec, hex2byte_upperDigit m n hm hn, BitVec.toNat_ofNat]
  constructor <;> congr 1 <;> omega

theorem digits_of_pair (hi lo : Byte) (h1 : IsUpperHex hi) (h2 : IsUpperHex lo) :
    half2hex (HIHALF (hex2byte hi lo)) = hi ∧ half2hex (LOHALF (hex2byte hi lo)) = lo := by
  rw [half_hi, half_lo]; exact enc_hex2byte hi lo h1 h2

/-! ## hexascii: lists -/

theorem decPairs_length : ∀ s : List Byte, (decPairs s).length = s.length / 2
  | [] => rfl
  | [_] => by simp [decPairs]
  | a :: b :: rest => by
    simp only [decPairs, List.length_cons, decPairs_length rest]; omega

theorem decPairs_snoc_even : ∀ (s : List Byte) (c : Byte), s.length % 2 = 0 → decPairs (s ++ [c]) = decPairs s
  | [], _, _ => rfl
  | [_], _, h => by simp at h
  | a :: b :: rest, c, h => by
    have hr : rest.length % 2 = 0 := by simp only [List.length_cons] at h; omega
    simp only [List.cons_append, decPairs, decPairs_snoc_even rest c hr]

theorem decPairs_take (cs : List Byte) (n : Nat) (h : n ≤ cs.length) :
    decPairs (cs.take (2 * (n / 2))) = decPairs (cs.take n) := by
  by_cases hp : n % 2 = 0
  · rw [show 2 * (n / 2) = n by omega]
  · have e : cs.take n = cs.take (2 * (n / 2)) ++ [cs[2 * (n / 2)]'(by omega)] := by
      rw [← List.take_succ_eq_append_getElem, show 2 * (n / 2) + 1 = n by omega]
    rw [e, decPairs_snoc_even _ _ (by rw [List.length_take]; omega)]

theorem hexDecode_eq_decPairs (s : List Byte) : hexDecode s = decPairs s := by
  have h := decPairs_take s s.length (Nat.le_refl _)
  rw [List.take_length] at h
  have e : (if s.length % 2 = 1 then s.length - 1 else s.length) = 2 * (s.length / 2) := by split <;> omega
  simp only [hexDecode, e]
  split
  · rename_i h0
    rw [← h, h0]; rfl
  · exact h

theorem hexDecode_take (cs : List Byte) (n : Nat) (h : n ≤ cs.length) :
    hexDecode (cs.take n) = decPairs (cs.take (2 * (n / 2))) := by
  rw [hexDecode_eq_decPairs, decPairs_take cs n h]

theorem decPairs_hexEncode (data : List Byte) : decPairs (hexEncode data) = data := by
  induction data with
  | nil => rfl
  | cons b bs ih => simp only [hexEncode, decPairs, hex2byte_enc, ih]

theorem hexEncode_decPairs : ∀ s : List Byte, (∀ c ∈ s, IsUpperHex c) → s.length % 2 = 0 →
    hexEncode (decPairs s) = s
  | [], _, _ => rfl
  | [_], _, h => by simp at h
  | a :: b :: rest, hc, hl => by
    have ha := hc a (by simp)
    have hb := hc b (by simp)
    have hr : ∀ c ∈ rest, IsUpperHex c := fun c h => hc c (by simp [h])
    have hl' : rest.length % 2 = 0 := by simp only [List.length_cons] at hl; omega
    obtain ⟨e1, e2⟩ := enc_hex2byte a b ha hb
    simp only [decPairs, hexEncode, e1, e2, hexEncode_decPairs rest hr hl']

/-! ## fixed-width helpers: byte lanes -/

theorem lane_toNat {w : Nat} (v : BitVec w) (k : Nat) : (lane v k).toNat = v.toNat / 256 ^ k % 256 := by
  simp [lane, BitVec.toNat_setWidth, BitVec.toNat_ushiftRight, Nat.shiftRight_eq_div_pow, Nat.pow_mul]

theorem lanesNat_lt : ∀ bs : List Byte, lanesNat bs < 256 ^ bs.length
  | [] => by simp [lanesNat]
  | b :: bs => by
    have := lanesNat_lt bs; have := b.isLt
    simp only [lanesNat, List.length_cons, Nat.pow_succ]; omega

theorem lanesNat_div : ∀ (bs : List Byte) (k : Nat), lanesNat bs / 256 ^ k % 256 = (bs.getD k 0#8).toNat
  | [], k => by simp [lanesNat]
  | b :: bs, 0 => by have := b.isLt; simp [lanesNat]; omega
  | b :: bs, k + 1 => by
    have := b.isLt
    rw [List.getD_cons_succ, ← lanesNat_div bs k, lanesNat, Nat.pow_succ, Nat.mul_comm _ 256, ← Nat.div_div_eq_div_mul]
    congr 2; omega

theorem lane_ofLanes (w : Nat) (bs : List Byte) (k : Nat) (h : 8 * bs.length ≤ w) :
    lane (ofLanes w bs) k = bs.getD k 0#8 := by
  apply BitVec.eq_of_toNat_eq
  have h1 : lanesNat bs < 2 ^ w := by
    refine Nat.lt_of_lt_of_le (lanesNat_lt bs) ?_
    rw [show 256 = 2 ^ 8 from rfl, ← Nat.pow_mul]
    exact Nat.pow_le_pow_right (by decide) h
  rw [lane_toNat, ofLanes, BitVec.toNat_ofNat, Nat.mod_eq_of_lt h1, lanesNat_div]

theorem lanesNat_lanes {w : Nat} (v : BitVec w) : ∀ (n j : Nat),
    lanesNat ((List.range' j n).map (lane v)) = v.toNat / 256 ^ j % 256 ^ n
  | 0, j => by simp [lanesNat, Nat.mod_one]
  | n + 1, j => by
    rw [List.range'_succ, List.map_cons, lanesNat, lanesNat_lanes v n (j + 1), lane_toNat,
      Nat.pow_succ 256 j, ← Nat.div_div_eq_div_mul, Nat.pow_succ' (n := n), Nat.mod_mul]

theorem ofLanes_lanes (w n : Nat) (v : BitVec w) (h : w ≤ 8 * n) :
    ofLanes w ((List.range' 0 n).map (lane v)) = v := by
  apply BitVec.eq_of_toNat_eq
  have h1 : v.toNat < 256 ^ n := by
    refine Nat.lt_of_lt_of_le v.isLt ?_
    rw [show 256 = 2 ^ 8 from rfl, ← Nat.pow_mul]
    exact Nat.pow_le_pow_right (by decide) h
  rw [ofLanes, BitVec.toNat_ofNat, lanesNat_lanes, Nat.pow_zero, Nat.div_one, Nat.mod_eq_of_lt h1, Nat.mod_eq_of_lt v.isLt]

theorem encHi_lane {w : Nat} (v : BitVec w) (k : Nat) :
    encHi (lane v k) = upperDigit (v.toNat / 16 ^ (2 * k + 1) % 16) := by
  rw [encHi_spec, lane_toNat, show 256 ^ k = 16 ^ (2 * k) from (Nat.pow_mul 16 2 k).symm, Nat.pow_succ,
    ← Nat.div_div_eq_div_mul]
  congr 1; omega

theorem encLo_lane {w : Nat} (v : BitVec w) (k : Nat) :
    encLo (lane v k) = upperDigit (v.toNat / 16 ^ (2 * k) % 16) := by
  rw [encLo_spec, lane_toNat, show 256 ^ k = 16 ^ (2 * k) from (Nat.pow_mul 16 2 k).symm]
  congr 1; omega

theorem hexEncode_lanes {w : Nat} (v : BitVec w) : ∀ n : Nat,
    hexEncode ((List.range n).reverse.map (lane v)) = hexOfNumber (2 * n) v.toNat
  | 0 => rfl
  | n + 1 => by
    rw [List.range_succ, List.reverse_append, List.reverse_singleton, List.singleton_append, List.map_cons, hexEncode,
      hexEncode_lanes v n, encHi_lane, encLo_lane]
    simp only [hexOfNumber, show 2 * (n + 1) = 2 * n + 1 + 1 from rfl, List.range_succ, List.reverse_append,
      List.reverse_singleton, List.singleton_append, List.map_cons]

theorem uint8ToHex_hexEncode (v : BitVec 8) : uint8ToHex v = hexEncode [v] := by
  simp only [uint8ToHex, hexEncode, half_hi, half_lo]
theorem uint16ToHex_hexEncode (v : BitVec 16) : uint16ToHex v = hexEncode [lane v 1, lane v 0] := by
  simp only [uint16ToHex, hexEncode, half_hi, half_lo]
theorem uint32ToHex_hexEncode (v : BitVec 32) :
    uint32ToHex v = hexEncode [lane v 3, lane v 2, lane v 1, lane v 0] := by
  simp only [uint32ToHex, hexEncode, half_hi, half_lo]
theorem uint64ToHex_hexEncode (v : BitVec 64) :
    uint64ToHex v = hexEncode [lane v 7, lane v 6, lane v 5, lane v 4, lane v 3, lane v 2, lane v 1, lane v 0] := by
  simp only [uint64ToHex, hexEncode, half_hi, half_lo]

theorem map_hexAt_eq_decPairs : ∀ (n : Nat) (t : List Byte), t.length = 2 * n →
    (List.range n).map (fun k => hexAt t (2 * k)) = decPairs t
  | 0, [], _ => rfl
  | n + 1, a :: b :: t, h => by
    rw [List.range_succ_eq_map, List.map_cons, List.map_map, decPairs,
      ← map_hexAt_eq_decPairs n t (by simp only [List.length_cons] at h; omega)]
    rfl

theorem hexEncode_map_hexAt (n : Nat) (t : List Byte) (hc : ∀ c ∈ t, IsUpperHex c) (hl : t.length = 2 * n) :
    hexEncode ((List.range n).map fun k => hexAt t (2 * k)) = t := by
  rw [map_hexAt_eq_decPairs n t hl, hexEncode_decPairs t hc (by omega)]

/-! ## digits of either case, case folding -/

theorem hex2half_lowerDigit : ∀ n (h : n < 16), hex2half ((lowerHexDigits.map ch)[n]'h) = BitVec.ofNat 8 n := by
  decide +kernel

theorem hexVal_lt (c : Byte) (v : Nat) (h : hexVal c = some v) : v < 16 := by
  unfold hexVal at h
  split at h
  · rename_i w hw
    cases h
    have := (List.idxOf?_eq_some_iff.mp hw).1
    rwa [List.length_map] at this
  · have := (List.idxOf?_eq_some_iff.mp h).1
    rwa [List.length_map] at this

theorem hex2half_hexVal (c : Byte) (v : Nat) (h : hexVal c = some v) : (hex2half c).toNat = v := by
  have hv := hexVal_lt c v h
  unfold hexVal at h
  split at h
  · rename_i w hw
    obtain ⟨hlt, rfl, -⟩ := List.idxOf?_eq_some_iff.mp hw
    cases h
    rw [← upperDigit_eq_getElem v hv, hex2half_upperDigit v hv, BitVec.toNat_ofNat]
    omega
  · obtain ⟨hlt, rfl, -⟩ := List.idxOf?_eq_some_iff.mp h
    exact (congrArg BitVec.toNat (hex2half_lowerDigit v hv)).trans (Nat.mod_eq_of_lt (by omega))

theorem hexVal_ranges : ∀ c : Byte, (0x30 ≤ c.toNat ∧ c.toNat ≤ 0x39) ∨ (0x41 ≤ c.toNat ∧ c.toNat ≤ 0x46) ∨
    (0x61 ≤ c.toNat ∧ c.toNat ≤ 0x66) → (hexVal c).isSome = true := by decide +kernel

theorem hex2half_lower : ∀ c : Byte, hex2half (asciiLower c) = hex2half c := by decide +kernel
theorem hex2half_upper : ∀ c : Byte, hex2half (asciiUpper c) = hex2half c := by decide +kernel

theorem hex2byte_lower (hi lo : Byte) : hex2byte (asciiLower hi) (asciiLower lo) = hex2byte hi lo := by
  simp only [hex2byte, hex2half_lower]

theorem decPairs_lower : ∀ s : List Byte, decPairs (s.map asciiLower) = decPairs s
  | [] | [_] => rfl
  | a :: b :: rest => by
    simp only [List.map_cons, decPairs, hex2byte_lower, decPairs_lower rest]

theorem asciiLower_zero : asciiLower 0#8 = 0#8 := by decide

theorem hexAt_lower (t : List Byte) (i : Nat) : hexAt (t.map asciiLower) i = hexAt t i := by
  have h : ∀ k, (t.map asciiLower).getD k 0#8 = asciiLower (t.getD k 0#8) := by
    intro k
    simp only [List.getD_eq_getElem?_getD, List.getElem?_map]
    cases t[k]? <;> simp [asciiLower_zero]
  simp only [hexAt, h, hex2byte_lower]

theorem hex2byte_spec (hi lo : Byte) (h1 : (hexVal hi).isSome = true) (h2 : (hexVal lo).isSome = true) :
    hex2byte hi lo = BitVec.ofNat 8 (16 * (hexVal hi).getD 0 + (hexVal lo).getD 0) := by
  obtain ⟨m, hm⟩ := Option.isSome_iff_exists.mp h1
  obtain ⟨n, hn⟩ := Option.isSome_iff_exists.mp h2
  rw [hex2byte_eq, hex2half_hexVal hi m hm, hex2half_hexVal lo n hn, hm, hn]; rfl

theorem decPairs_spec : ∀ s : List Byte, (∀ c ∈ s, (hexVal c).isSome = true) → decPairs s = bytesOfHex s
  | [], _ | [_], _ => rfl
  | a :: b :: rest, hc => by
    have hr : ∀ c ∈ rest, (hexVal c).isSome = true := fun c h => hc c (by simp [h])
    simp only [decPairs, bytesOfHex, hex2byte_spec a b (hc a (by simp)) (hc b (by simp)), decPairs_spec rest hr]

/-! ## the C `int size` -/

theorem toInt32_eq (n : Nat) : toInt32 n =
    if 2 * (n % 2 ^ 32) < 2 ^ 32 then ((n % 2 ^ 32 : Nat) : Int) else ((n % 2 ^ 32 : Nat) : Int) - ((2 ^ 32 : Nat) : Int) := by
  rw [toInt32, BitVec.toInt_eq_toNat_cond, BitVec.toNat_ofNat]

theorem toInt32_le (n : Nat) : toInt32 n ≤ n := by
  rw [toInt32_eq]; split <;> omega

theorem toInt32_of_lt (n : Nat) (h : n < 2 ^ 31) : toInt32 n = n := by
  rw [toInt32_eq]; split <;> omega

theorem toInt32_neg (n : Nat) (h1 : 2 ^ 31 ≤ n) (h2 : n < 2 ^ 32) : toInt32 n < 0 := by
  rw [toInt32_eq]; split <;> omega

/-- `size` rounded down to even, as the routine does it (`-3 % 2 == -1`: a
negative odd size is not decremented, it leaves through `size <= 0`) -/
def evenSize (size : Int) : Nat := if size ≤ 1 then 0 else size.toNat - size.toNat % 2

theorem evenSize_even (size : Int) : 2 * (evenSize size / 2) = evenSize size := by
  unfold evenSize; split <;> omega

theorem evenSize_toNat (size : Int) : evenSize size = 2 * (size.toNat / 2) := by
  unfold evenSize; split <;> omega

/-- left: the iterations after the prologue `if (size % 2 == 1) --size; if (size <= 0) return;` of `hexascii_decode` -/
theorem prologue_eq_evenSize (size : Int) : (if (if size.tmod 2 = 1 then size - 1 else size) ≤ 0 then 0
    else (if size.tmod 2 = 1 then size - 1 else size).toNat / 2) = evenSize size / 2 := by
  unfold evenSize
  by_cases h : size ≤ 1
  · have : (if size.tmod 2 = 1 then size - 1 else size) ≤ 0 := by
      by_cases h1 : size = 1
      · subst h1; decide
      · split <;> omega
    rw [if_pos h, if_pos this]
  · obtain ⟨n, rfl⟩ := Int.eq_ofNat_of_zero_le (by omega : 0 ≤ size)
    rw [show (n : Int).tmod 2 = ((n % 2 : Nat) : Int) from rfl, if_neg h, Int.toNat_natCast]
    split <;> (rw [if_neg (by omega)]; omega)

theorem hexDecodeM_loop (cs : List Byte) (size : Int) (cap : Nat) :
    hexDecodeM cs size cap = decPairsM cs cap (evenSize size / 2) 0 0 [] := by
  rw [← prologue_eq_evenSize, hexDecodeM]; split <;> split <;> rfl

theorem hexDecodeInPlaceM_loop (buf : List Byte) (size : Int) :
    hexDecodeInPlaceM buf size = decInPlace (evenSize size / 2) 0 buf := by
  rw [← prologue_eq_evenSize, hexDecodeInPlaceM]; split <;> split <;> rfl

/-! ## hexascii_decode with an explicit `int size` on mapped buffers -/

theorem decPairsM_eq (cs : List Byte) (cap : Nat) : ∀ (n it k : Nat) (acc : List Byte), it ≤ cs.length → k ≤ cap →
    decPairsM cs cap n it k acc =
      if it + 2 * n ≤ cs.length ∧ k + n ≤ cap then some (acc ++ decPairs ((cs.drop it).take (2 * n))) else none
  | 0, it, k, acc, h1, h2 => by simp [decPairsM, decPairs, h1, h2]
  | n + 1, it, k, acc, _, _ => by
    rw [decPairsM]
    by_cases l1 : it + 1 < cs.length
    · have l0 : it < cs.length := by omega
      rw [List.getElem?_eq_getElem l0, List.getElem?_eq_getElem l1]
      simp only
      by_cases hk : k < cap
      · rw [if_pos hk, decPairsM_eq cs cap n (it + 2) (k + 1) _ (by omega) (by omega)]
        by_cases hc : it + 2 * (n + 1) ≤ cs.length ∧ k + (n + 1) ≤ cap
        · rw [if_pos hc, if_pos (by omega), List.drop_eq_getElem_cons l0, List.drop_eq_getElem_cons l1,
            show 2 * (n + 1) = 2 * n + 1 + 1 by omega]
          simp only [List.take_succ_cons, decPairs, List.append_assoc, List.cons_append, List.nil_append]
        · rw [if_neg hc, if_neg (by omega)]
      · rw [if_neg hk, if_neg (by omega)]
    · rw [List.getElem?_eq_none (by omega : cs.length ≤ it + 1), if_neg (by omega)]
      cases cs[it]? <;> rfl

theorem hexDecodeM_spec (cs : List Byte) (size : Int) (cap : Nat) :
    hexDecodeM cs size cap =
      if evenSize size ≤ cs.length ∧ evenSize size / 2 ≤ cap then some (decPairs (cs.take (evenSize size)))
      else none := by
  rw [hexDecodeM_loop, decPairsM_eq cs cap _ 0 0 [] (by omega) (by omega), evenSize_even]
  simp

/-- `size.toNat`: a negative `size` needs nothing mapped -/
theorem hexDecodeM_of_mapped (cs : List Byte) (size : Int) (cap : Nat) (h1 : size.toNat ≤ cs.length)
    (h2 : size.toNat / 2 ≤ cap) : hexDecodeM cs size cap = some (hexDecode (cs.take size.toNat)) := by
  rw [hexDecodeM_spec, hexDecode_take cs _ h1, ← evenSize_toNat, if_pos]
  rw [evenSize_toNat]; omega

/-! ## hexascii_encode with an explicit size on mapped buffers -/

theorem encLoopM_eq (cs : List Byte) (cap : Nat) : ∀ (n it k : Nat) (acc : List Byte), it ≤ cs.length → k ≤ cap →
    encLoopM cs cap n it k acc =
      if it + n ≤ cs.length ∧ k + 2 * n ≤ cap then some (acc ++ hexEncode ((cs.drop it).take n)) else none
  | 0, it, k, acc, h1, h2 => by simp [encLoopM, hexEncode, h1, h2]
  | n + 1, it, k, acc, _, _ => by
    rw [encLoopM]
    by_cases l0 : it < cs.length
    · rw [List.getElem?_eq_getElem l0]
      simp only
      by_cases hk : k + 1 < cap
      · rw [if_pos hk, encLoopM_eq cs cap n (it + 1) (k + 2) _ (by omega) (by omega)]
        by_cases hc : it + (n + 1) ≤ cs.length ∧ k + 2 * (n + 1) ≤ cap
        · rw [if_pos hc, if_pos (by omega), List.drop_eq_getElem_cons l0]
          simp only [List.take_succ_cons, hexEncode, List.append_assoc, List.cons_append, List.nil_append]
        · rw [if_neg hc, if_neg (by omega)]
      · rw [if_neg hk, if_neg (by omega)]
    · rw [List.getElem?_eq_none (by omega : cs.length ≤ it), if_neg (by omega)]

theorem hexEncodeM_spec (cs : List Byte) (size : Int) (cap : Nat) :
    hexEncodeM cs size cap =
      if 0 ≤ size ∧ size.toNat ≤ cs.length ∧ 2 * size.toNat ≤ cap then some (hexEncode (cs.take size.toNat))
      else none := by
  unfold hexEncodeM
  by_cases hn : size < 0
  · rw [if_pos hn, if_neg (by omega)]
  · rw [if_neg hn, encLoopM_eq cs cap size.toNat 0 0 [] (by omega) (by omega)]
    simp [show 0 ≤ size by omega]

/-! ## in-place decoding -/

/-- invariant of `hexascii_decode(buf, size, buf)`: after `k` iterations the
buffer is `done ++ mid ++ rest` — `k` decoded bytes, `k` stale characters that
were already consumed, the text not yet read -/
theorem decInPlace_inv : ∀ (n : Nat) (done mid rest : List Byte), done.length = mid.length →
    2 * n ≤ rest.length →
    decInPlace n done.length (done ++ mid ++ rest)
      = some (done ++ decPairs (rest.take (2 * n)) ++ (mid ++ rest).drop n)
  | 0, done, mid, rest, _, _ => by simp [decInPlace, decPairs]
  | n + 1, done, mid, rest, hl, hr => by
    match rest, hr with
    | hi :: lo :: rest', hr =>
      -- the store hits the first stale character, or `hi` itself when nothing is stale yet
      obtain ⟨m0, mid2, e⟩ : ∃ m0 mid2, mid ++ [hi, lo] = m0 :: mid2 := by cases mid <;> exact ⟨_, _, rfl⟩
      have hl2 : (done ++ [hex2byte hi lo]).length = mid2.length := by
        have := congrArg List.length e; simp at this ⊢; omega
      have em : mid ++ hi :: lo :: rest' = m0 :: (mid2 ++ rest') := by
        rw [← List.cons_append, ← e]; simp
      have hlen : (done ++ mid).length = 2 * done.length := by simp [hl]; omega
      have g0 : (done ++ mid ++ hi :: lo :: rest')[2 * done.length]? = some hi := by
        rw [List.getElem?_append_right (by omega), hlen]; simp
      have g1 : (done ++ mid ++ hi :: lo :: rest')[2 * done.length + 1]? = some lo := by
        rw [List.getElem?_append_right (by omega), hlen]; simp
      have ih := decInPlace_inv n (done ++ [hex2byte hi lo]) mid2 rest' hl2 (by simp at hr; omega)
      rw [decInPlace, g0, g1]
      simp only
      rw [List.append_assoc, em, List.set_append_right _ _ (Nat.le_refl _), Nat.sub_self, List.set_cons_zero]
      simp only [List.length_append, List.length_singleton, List.append_assoc, List.cons_append, List.nil_append] at ih
      rw [ih, show 2 * (n + 1) = 2 * n + 1 + 1 by omega]
      simp [decPairs]

/-! ## accumulator forms = the model -/

theorem hexEncodeTR_eq : ∀ (d acc : List Byte), hexEncodeTR d acc = acc.reverse ++ hexEncode d
  | [], acc => by simp [hexEncodeTR, hexEncode]
  | b :: rest, acc => by
    rw [hexEncodeTR, hexEncodeTR_eq rest, hexEncode]
    simp

theorem decPairsTR_eq : ∀ (s acc : List Byte), decPairsTR s acc = acc.reverse ++ decPairs s
  | hi :: lo :: rest, acc => by
    rw [decPairsTR, decPairsTR_eq rest, decPairs]
    simp
  | [_], acc | [], acc => by simp [decPairsTR, decPairs]

/-! ## byte order -/

theorem objByte_macroOff {w : Nat} (e : Endian) (n j : Nat) (v : BitVec w) (h : j < n) :
    objByte e n v (macroOff e n j) = lane v j := by
  cases e
  · rfl
  · simp only [objByte, macroOff]
    congr 1; omega

theorem laneHex_eq {w : Nat} (e : Endian) (n j : Nat) (v : BitVec w) (h : j < n) :
    laneHex e n v j = [half2hex (HIHALF (lane v j)), half2hex (LOHALF (lane v j))] := by
  simp only [laneHex, objByte_macroOff e n j v h]

/-! ## the fixed-width parsers on a mapped buffer -/

theorem hexAtM_eq (hex : List Byte) (i : Nat) :
    hexAtM hex i = if i + 1 < hex.length then some (hexAt hex i) else none := by
  unfold hexAtM hexAt
  by_cases h : i + 1 < hex.length
  · have h0 : i < hex.length := by omega
    simp [h, h0, List.getD_eq_getElem?_getD]
  · rw [if_neg h, List.getElem?_eq_none (by omega : hex.length ≤ i + 1)]
    cases hex[i]? <;> rfl

/-- `h` is given once per parser; `simp` then settles `i + 2 ≤ n` at each literal offset `i` -/
theorem hexAtM_mapped {t : List Byte} {n : Nat} (h : n ≤ t.length) (i : Nat) (hi : i + 2 ≤ n) :
    hexAtM t i = some (hexAt t i) := by
  rw [hexAtM_eq, if_pos (by omega)]

theorem hexAtM_unmapped {t : List Byte} {i : Nat} (h : t.length < i + 2) : hexAtM t i = none := by
  rw [hexAtM_eq, if_neg (by omega)]

theorem hexAt_append (t r : List Byte) (i : Nat) (h : i + 1 < t.length) : hexAt (t ++ r) i = hexAt t i := by
  simp [hexAt, List.getD_eq_getElem?_getD, List.getElem?_append_left, h, show i < t.length by omega]

end Igris.C18
