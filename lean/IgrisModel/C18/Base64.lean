/-
  C18 — lemmas on base64.cpp.

  The two alphabets are used through one correspondence: six bits always name
  a letter (`letter_mem`) and every letter is named by its own six bits
  (`exists_bits`).  What holds of every letter is therefore checked on the 64
  groups of six bits, by evaluation; what the C expressions do to a byte is
  checked on the 256 bytes, one byte variable per statement.  List-level
  theorems are recursion three bytes / four letters at a time.
-/
import IgrisModel.C18.Model
import IgrisModel.C18.Spec
import IgrisModel.Common.ListScan
namespace Igris.C18
open Igris.Proto Spec

/-! ## letters and groups of six bits -/

theorem bitsToNat_lt_64 : ∀ b0 b1 b2 b3 b4 b5 : Bool, bitsToNat [b0, b1, b2, b3, b4, b5] < 64 := by decide

theorem bitsToNat_testBit : ∀ k : Fin 64, bitsToNat [k.val.testBit 5, k.val.testBit 4, k.val.testBit 3,
    k.val.testBit 2, k.val.testBit 1, k.val.testBit 0] = k.val := by decide +kernel

theorem letter_eq_getElem (al : List Char) (g : List Bool) (h : bitsToNat g < al.length) :
    letter al g = (al.map ch)[bitsToNat g]'(by rwa [List.length_map]) := by
  rw [letter, List.getD_eq_getElem?_getD, List.getElem?_eq_getElem h, List.getElem_map]; rfl

theorem letterVal_isSome (al : List Char) (c : Byte) : (letterVal al c).isSome = true ↔ c ∈ al.map ch :=
  List.isSome_idxOf?

theorem letter_mem (al : List Char) (h : al.length = 64) (b0 b1 b2 b3 b4 b5 : Bool) :
    letter al [b0, b1, b2, b3, b4, b5] ∈ al.map ch := by
  rw [letter_eq_getElem al _ (h ▸ bitsToNat_lt_64 ..)]
  exact List.getElem_mem _

theorem exists_bits (al : List Char) (h : al.length ≤ 64) (c : Byte) (hc : (letterVal al c).isSome = true) :
    ∃ b0 b1 b2 b3 b4 b5, c = letter al [b0, b1, b2, b3, b4, b5] ∧ letterBits al c = [b0, b1, b2, b3, b4, b5] := by
  obtain ⟨k, hk⟩ := Option.isSome_iff_exists.mp hc
  obtain ⟨hlt, hget, -⟩ := List.idxOf?_eq_some_iff.mp hk
  rw [List.length_map] at hlt
  have hb := bitsToNat_testBit ⟨k, by omega⟩
  refine ⟨k.testBit 5, k.testBit 4, k.testBit 3, k.testBit 2, k.testBit 1, k.testBit 0, ?_, ?_⟩
  · rw [letter_eq_getElem al _ (hb ▸ hlt)]; simp only [hb, hget]
  · rw [letterBits, hk]; rfl

theorem exists_bits_std (c : Byte) (hc : (letterVal stdAlphabet c).isSome = true) :
    ∃ b0 b1 b2 b3 b4 b5, c = letter stdAlphabet [b0, b1, b2, b3, b4, b5] ∧
      letterBits stdAlphabet c = [b0, b1, b2, b3, b4, b5] :=
  exists_bits stdAlphabet (by decide) c hc

theorem letter_mem_url : ∀ b0 b1 b2 b3 b4 b5 : Bool,
    letter urlAlphabet [b0, b1, b2, b3, b4, b5] ∈ urlAlphabet.map ch := letter_mem _ rfl

theorem pad_is_3D : padChar = 0x3D#8 := by decide

/-! ## the encoder's table lookups are RFC letters of bit groups -/

theorem charset_eq : charset = stdAlphabet.map ch ++ [padChar] := by decide +kernel
theorem csAt64 : csAt 64#32 = padChar := by decide +kernel

theorem csAt_bits (b0 b1 b2 b3 b4 b5 : Bool) :
    csAt (BitVec.ofNat 32 (bitsToNat [b0, b1, b2, b3, b4, b5])) = letter stdAlphabet [b0, b1, b2, b3, b4, b5] := by
  have h := bitsToNat_lt_64 b0 b1 b2 b3 b4 b5
  rw [csAt, BitVec.toNat_ofNat, Nat.mod_eq_of_lt (by omega), charset_eq, List.getD_eq_getElem?_getD,
    List.getElem?_append_left (by exact h), letter_eq_getElem _ _ (by exact h), List.getElem?_eq_getElem]
  rfl

theorem idx0 : ∀ a : Byte, (sx a &&& 0xfc#32).sshiftRight 2
    = BitVec.ofNat 32 (bitsToNat [a.getLsbD 7, a.getLsbD 6, a.getLsbD 5, a.getLsbD 4, a.getLsbD 3, a.getLsbD 2]) := by
  decide +kernel
theorem idx1_hi : ∀ a : Byte, (sx a &&& 0x03#32) <<< 4 = BitVec.ofNat 32 (16 * bitsToNat [a.getLsbD 1, a.getLsbD 0]) := by
  decide +kernel
theorem idx1_lo : ∀ b : Byte, (sx b &&& 0xf0#32).sshiftRight 4
    = BitVec.ofNat 32 (bitsToNat [b.getLsbD 7, b.getLsbD 6, b.getLsbD 5, b.getLsbD 4]) := by decide +kernel
theorem idx2_hi : ∀ b : Byte, (sx b &&& 0x0f#32) <<< 2
    = BitVec.ofNat 32 (4 * bitsToNat [b.getLsbD 3, b.getLsbD 2, b.getLsbD 1, b.getLsbD 0]) := by decide +kernel
theorem idx2_lo : ∀ c : Byte, (sx c &&& 0xc0#32).sshiftRight 6
    = BitVec.ofNat 32 (bitsToNat [c.getLsbD 7, c.getLsbD 6]) := by decide +kernel
theorem idx3 : ∀ c : Byte, sx c &&& 0x3f#32
    = BitVec.ofNat 32 (bitsToNat [c.getLsbD 5, c.getLsbD 4, c.getLsbD 3, c.getLsbD 2, c.getLsbD 1, c.getLsbD 0]) := by
  decide +kernel

theorem or1 : ∀ x1 x0 y3 y2 y1 y0 : Bool,
    BitVec.ofNat 32 (16 * bitsToNat [x1, x0]) ||| BitVec.ofNat 32 (bitsToNat [y3, y2, y1, y0])
      = BitVec.ofNat 32 (bitsToNat [x1, x0, y3, y2, y1, y0]) := by decide +kernel
theorem or2 : ∀ x3 x2 x1 x0 y1 y0 : Bool,
    BitVec.ofNat 32 (4 * bitsToNat [x3, x2, x1, x0]) ||| BitVec.ofNat 32 (bitsToNat [y1, y0])
      = BitVec.ofNat 32 (bitsToNat [x3, x2, x1, x0, y1, y0]) := by decide +kernel

theorem e0_spec (a : Byte) : e0 a = letter stdAlphabet
    [a.getLsbD 7, a.getLsbD 6, a.getLsbD 5, a.getLsbD 4, a.getLsbD 3, a.getLsbD 2] := by
  rw [e0, idx0, csAt_bits]
theorem e1_spec (a b : Byte) : e1 a b = letter stdAlphabet
    [a.getLsbD 1, a.getLsbD 0, b.getLsbD 7, b.getLsbD 6, b.getLsbD 5, b.getLsbD 4] := by
  rw [e1, idx1_hi, idx1_lo, or1, csAt_bits]
theorem e2_spec (b c : Byte) : e2 b c = letter stdAlphabet
    [b.getLsbD 3, b.getLsbD 2, b.getLsbD 1, b.getLsbD 0, c.getLsbD 7, c.getLsbD 6] := by
  rw [e2, idx2_hi, idx2_lo, or2, csAt_bits]
theorem e3_spec (c : Byte) : e3 c = letter stdAlphabet
    [c.getLsbD 5, c.getLsbD 4, c.getLsbD 3, c.getLsbD 2, c.getLsbD 1, c.getLsbD 0] := by
  rw [e3, idx3, csAt_bits]

theorem shl4 : ∀ x1 x0 : Bool, 16 * bitsToNat [x1, x0] = bitsToNat [x1, x0, false, false, false, false] := by decide
theorem shl2 : ∀ x3 x2 x1 x0 : Bool, 4 * bitsToNat [x3, x2, x1, x0] = bitsToNat [x3, x2, x1, x0, false, false] := by
  decide

theorem e1t_spec (a : Byte) : e1t a = letter stdAlphabet
    [a.getLsbD 1, a.getLsbD 0, false, false, false, false] := by
  rw [e1t, idx1_hi, shl4, csAt_bits]
theorem e2t_spec (b : Byte) : e2t b = letter stdAlphabet
    [b.getLsbD 3, b.getLsbD 2, b.getLsbD 1, b.getLsbD 0, false, false] := by
  rw [e2t, idx2_hi, shl2, csAt_bits]

/-! ### the specification, three bytes at a time -/

theorem encodeWith_triple (al : List Char) (a b c : Byte) (rest : List Byte) :
    encodeWith al (a :: b :: c :: rest) =
      letter al [a.getLsbD 7, a.getLsbD 6, a.getLsbD 5, a.getLsbD 4, a.getLsbD 3, a.getLsbD 2] ::
      letter al [a.getLsbD 1, a.getLsbD 0, b.getLsbD 7, b.getLsbD 6, b.getLsbD 5, b.getLsbD 4] ::
      letter al [b.getLsbD 3, b.getLsbD 2, b.getLsbD 1, b.getLsbD 0, c.getLsbD 7, c.getLsbD 6] ::
      letter al [c.getLsbD 5, c.getLsbD 4, c.getLsbD 3, c.getLsbD 2, c.getLsbD 1, c.getLsbD 0] ::
      encodeWith al rest := by
  have e : letters al (a :: b :: c :: rest) = _ :: _ :: _ :: _ :: letters al rest := rfl
  simp only [encodeWith, e, List.length_cons, List.cons_append]
  have : (((((letters al rest).length + 1) + 1) + 1) + 1) % 4 = (letters al rest).length % 4 := by omega
  rw [this]

theorem encodeWith_two (al : List Char) (a b : Byte) :
    encodeWith al [a, b] =
      [letter al [a.getLsbD 7, a.getLsbD 6, a.getLsbD 5, a.getLsbD 4, a.getLsbD 3, a.getLsbD 2],
       letter al [a.getLsbD 1, a.getLsbD 0, b.getLsbD 7, b.getLsbD 6, b.getLsbD 5, b.getLsbD 4],
       letter al [b.getLsbD 3, b.getLsbD 2, b.getLsbD 1, b.getLsbD 0, false, false],
       padChar] := by
  simp [encodeWith, letters, byteBits, groups6]

theorem encodeWith_one (al : List Char) (a : Byte) :
    encodeWith al [a] =
      [letter al [a.getLsbD 7, a.getLsbD 6, a.getLsbD 5, a.getLsbD 4, a.getLsbD 3, a.getLsbD 2],
       letter al [a.getLsbD 1, a.getLsbD 0, false, false, false, false],
       padChar, padChar] := by
  simp [encodeWith, letters, byteBits, groups6]

theorem encodeWith_nil (al : List Char) : encodeWith al [] = [] := by
  simp [encodeWith, letters, groups6]

theorem encodeWith_body (al : List Char) (h : al.length = 64) : ∀ data : List Byte, ∃ body : List Byte,
    encodeWith al data = body ++ List.replicate ((3 - data.length % 3) % 3) padChar ∧
    (∀ c ∈ body, c ∈ al.map ch)
  | a :: b :: c :: rest => by
    obtain ⟨body, hb, hm⟩ := encodeWith_body al h rest
    have : (3 - (a :: b :: c :: rest).length % 3) % 3 = (3 - rest.length % 3) % 3 := by
      simp only [List.length_cons]; omega
    refine ⟨_ :: _ :: _ :: _ :: body, by rw [encodeWith_triple, hb, this]; rfl, ?_⟩
    simp only [List.forall_mem_cons, letter_mem al h, true_and]
    exact hm
  | [a, b] => by
    rw [encodeWith_two]
    exact ⟨[_, _, _], rfl, by simp only [List.forall_mem_cons, letter_mem al h, true_and]; nofun⟩
  | [a] => by
    rw [encodeWith_one]
    exact ⟨[_, _], rfl, by simp only [List.forall_mem_cons, letter_mem al h, true_and]; nofun⟩
  | [] => ⟨[], by simp [encodeWith_nil], by simp⟩

theorem encodeWith_alphabet (al : List Char) (h : al.length = 64) (data : List Byte) :
    ∀ x ∈ encodeWith al data, InAlphabet al x := by
  intro x hx
  obtain ⟨body, e, hb⟩ := encodeWith_body al h data
  rw [e] at hx
  rcases List.mem_append.mp hx with hx | hx
  · exact Or.inl (hb x hx)
  · exact Or.inr (List.eq_of_mem_replicate hx)

theorem count_body_pad (ls : List Byte) (body : List Byte) (k : Nat) (hp : padChar ∉ ls)
    (hb : ∀ c ∈ body, c ∈ ls) : (body ++ List.replicate k padChar).count padChar = k := by
  rw [List.count_append, List.count_replicate_self, List.count_eq_zero.mpr (fun h => hp (hb _ h))]
  omega

/-! ## the decoder -/

theorem letter_facts : ∀ b0 b1 b2 b3 b4 b5 : Bool,
    strchrIdx (letter stdAlphabet [b0, b1, b2, b3, b4, b5]) = BitVec.ofNat 8 (bitsToNat [b0, b1, b2, b3, b4, b5])
    ∧ (letter stdAlphabet [b0, b1, b2, b3, b4, b5] == 0x3D#8) = false
    ∧ isBase64 (letter stdAlphabet [b0, b1, b2, b3, b4, b5]) = true := by decide +kernel

theorem letter_passes (b0 b1 b2 b3 b4 b5 : Bool) :
    (letter stdAlphabet [b0, b1, b2, b3, b4, b5] == 0x3D#8) = false ∧
    isBase64 (letter stdAlphabet [b0, b1, b2, b3, b4, b5]) = true :=
  (letter_facts b0 b1 b2 b3 b4 b5).2

theorem strchr_nul : strchrIdx 0#8 = 65#8 := by decide +kernel

/-! the three `char_array_3` assignments on six-bit values, operand by operand -/

theorem zx_sextet : ∀ g0 g1 g2 g3 g4 g5 : Bool, zx (BitVec.ofNat 8 (bitsToNat [g0, g1, g2, g3, g4, g5]))
    = BitVec.ofNat 32 (bitsToNat [g0, g1, g2, g3, g4, g5]) := by decide +kernel
theorem dec0_hi : ∀ g0 g1 g2 g3 g4 g5 : Bool, BitVec.ofNat 32 (bitsToNat [g0, g1, g2, g3, g4, g5]) <<< 2
    = BitVec.ofNat 32 (4 * bitsToNat [g0, g1, g2, g3, g4, g5]) := by decide +kernel
theorem dec0_lo : ∀ g0 g1 g2 g3 g4 g5 : Bool,
    (BitVec.ofNat 32 (bitsToNat [g0, g1, g2, g3, g4, g5]) &&& 0x30#32).sshiftRight 4
      = BitVec.ofNat 32 (bitsToNat [g0, g1]) := by decide +kernel
theorem dec1_hi : ∀ g0 g1 g2 g3 g4 g5 : Bool,
    (BitVec.ofNat 32 (bitsToNat [g0, g1, g2, g3, g4, g5]) &&& 0xf#32) <<< 4
      = BitVec.ofNat 32 (16 * bitsToNat [g2, g3, g4, g5]) := by decide +kernel
theorem dec1_lo : ∀ g0 g1 g2 g3 g4 g5 : Bool,
    (BitVec.ofNat 32 (bitsToNat [g0, g1, g2, g3, g4, g5]) &&& 0x3c#32).sshiftRight 2
      = BitVec.ofNat 32 (bitsToNat [g0, g1, g2, g3]) := by decide +kernel
theorem dec2_hi : ∀ g0 g1 g2 g3 g4 g5 : Bool,
    (BitVec.ofNat 32 (bitsToNat [g0, g1, g2, g3, g4, g5]) &&& 0x3#32) <<< 6
      = BitVec.ofNat 32 (64 * bitsToNat [g4, g5]) := by decide +kernel

theorem dec0_add : ∀ a7 a6 a5 a4 a3 a2 a1 a0 : Bool,
    toU8 (BitVec.ofNat 32 (4 * bitsToNat [a7, a6, a5, a4, a3, a2]) + BitVec.ofNat 32 (bitsToNat [a1, a0]))
      = BitVec.ofNat 8 (bitsToNat [a7, a6, a5, a4, a3, a2, a1, a0]) := by decide +kernel
theorem dec1_add : ∀ b7 b6 b5 b4 b3 b2 b1 b0 : Bool,
    toU8 (BitVec.ofNat 32 (16 * bitsToNat [b7, b6, b5, b4]) + BitVec.ofNat 32 (bitsToNat [b3, b2, b1, b0]))
      = BitVec.ofNat 8 (bitsToNat [b7, b6, b5, b4, b3, b2, b1, b0]) := by decide +kernel
theorem dec2_add : ∀ c7 c6 c5 c4 c3 c2 c1 c0 : Bool,
    toU8 (BitVec.ofNat 32 (64 * bitsToNat [c7, c6]) + BitVec.ofNat 32 (bitsToNat [c5, c4, c3, c2, c1, c0]))
      = BitVec.ofNat 8 (bitsToNat [c7, c6, c5, c4, c3, c2, c1, c0]) := by decide +kernel

theorem decQuad_bits (a0 a1 a2 a3 a4 a5 b0 b1 b2 b3 b4 b5 c0 c1 c2 c3 c4 c5 d0 d1 d2 d3 d4 d5 : Bool) :
    decQuad [letter stdAlphabet [a0, a1, a2, a3, a4, a5], letter stdAlphabet [b0, b1, b2, b3, b4, b5],
             letter stdAlphabet [c0, c1, c2, c3, c4, c5], letter stdAlphabet [d0, d1, d2, d3, d4, d5]]
      = bytesOfBits [a0, a1, a2, a3, a4, a5, b0, b1, b2, b3, b4, b5, c0, c1, c2, c3, c4, c5, d0, d1, d2, d3, d4, d5] := by
  simp only [decQuad, dec3, List.map_cons, List.map_nil, List.getD_cons_zero, List.getD_cons_succ,
    (letter_facts _ _ _ _ _ _).1, zx_sextet, dec0_hi, dec0_lo, dec0_add, dec1_hi, dec1_lo, dec1_add, dec2_hi,
    dec2_add, bytesOfBits]

/-- the zero-filled slot 3 holds `strchr`'s answer for NUL, 65; the byte it would spoil is not emitted -/
theorem decQuad_bits3 (a0 a1 a2 a3 a4 a5 b0 b1 b2 b3 b4 b5 c0 c1 c2 c3 c4 c5 : Bool) :
    (decQuad [letter stdAlphabet [a0, a1, a2, a3, a4, a5], letter stdAlphabet [b0, b1, b2, b3, b4, b5],
             letter stdAlphabet [c0, c1, c2, c3, c4, c5], 0#8]).take 2
      = bytesOfBits [a0, a1, a2, a3, a4, a5, b0, b1, b2, b3, b4, b5, c0, c1, c2, c3, c4, c5] := by
  simp only [decQuad, dec3, List.map_cons, List.map_nil, List.getD_cons_zero, List.getD_cons_succ,
    (letter_facts _ _ _ _ _ _).1, zx_sextet, dec0_hi, dec0_lo, dec0_add, dec1_hi, dec1_lo, dec1_add, bytesOfBits,
    List.take_succ_cons, List.take_zero]

theorem decQuad_bits2 (a0 a1 a2 a3 a4 a5 b0 b1 b2 b3 b4 b5 : Bool) :
    (decQuad [letter stdAlphabet [a0, a1, a2, a3, a4, a5], letter stdAlphabet [b0, b1, b2, b3, b4, b5],
             0#8, 0#8]).take 1
      = bytesOfBits [a0, a1, a2, a3, a4, a5, b0, b1, b2, b3, b4, b5] := by
  simp only [decQuad, dec3, List.map_cons, List.map_nil, List.getD_cons_zero, List.getD_cons_succ,
    (letter_facts _ _ _ _ _ _).1, zx_sextet, dec0_hi, dec0_lo, dec0_add, bytesOfBits, List.take_succ_cons,
    List.take_zero]

theorem ofNat_bitsToNat_byteBits : ∀ a : Byte, BitVec.ofNat 8 (bitsToNat (byteBits a)) = a := by decide +kernel

theorem bytesOfBits_byteBits (a : Byte) (rest : List Bool) :
    bytesOfBits (byteBits a ++ rest) = a :: bytesOfBits rest := by
  conv => rhs; rw [← ofNat_bitsToNat_byteBits a]
  rfl

theorem decQuad_letters (a b c : Byte) :
    decQuad
      [letter stdAlphabet [a.getLsbD 7, a.getLsbD 6, a.getLsbD 5, a.getLsbD 4, a.getLsbD 3, a.getLsbD 2],
       letter stdAlphabet [a.getLsbD 1, a.getLsbD 0, b.getLsbD 7, b.getLsbD 6, b.getLsbD 5, b.getLsbD 4],
       letter stdAlphabet [b.getLsbD 3, b.getLsbD 2, b.getLsbD 1, b.getLsbD 0, c.getLsbD 7, c.getLsbD 6],
       letter stdAlphabet [c.getLsbD 5, c.getLsbD 4, c.getLsbD 3, c.getLsbD 2, c.getLsbD 1, c.getLsbD 0]]
      = [a, b, c] := by
  rw [decQuad_bits]
  exact (bytesOfBits_byteBits a _).trans (congrArg _ ((bytesOfBits_byteBits b _).trans
    (congrArg _ (bytesOfBits_byteBits c []))))

theorem decLoop_pass (c : Byte) (rest arr ret : List Byte) (h1 : (c == 0x3D#8) = false) (h2 : isBase64 c = true) :
    decLoop (c :: rest) arr ret =
      if (arr ++ [c]).length = 4 then decLoop rest [] (ret ++ decQuad (arr ++ [c])) else decLoop rest (arr ++ [c]) ret := by
  simp [decLoop, h1, h2]

theorem decLoop_pad (rest arr ret : List Byte) : decLoop (0x3D#8 :: rest) arr ret = (arr, ret) := by
  simp [decLoop]

theorem decLoop_run : ∀ (p arr ret rest : List Byte), (∀ c ∈ p, (c == 0x3D#8) = false ∧ isBase64 c = true) →
    arr.length + p.length < 4 → decLoop (p ++ rest) arr ret = decLoop rest (arr ++ p) ret
  | [], arr, ret, rest, _, _ => by simp
  | c :: p, arr, ret, rest, hp, hl => by
    have hc := hp c (by simp)
    simp only [List.length_cons] at hl
    rw [List.cons_append, decLoop_pass c _ arr ret hc.1 hc.2, if_neg (by simp; omega),
      decLoop_run p (arr ++ [c]) ret rest (fun x hx => hp x (by simp [hx])) (by simp; omega),
      List.append_assoc, List.singleton_append]

theorem decLoop_quad (x0 x1 x2 x3 : Byte) (rest ret : List Byte)
    (h0 : (x0 == 0x3D#8) = false ∧ isBase64 x0 = true) (h1 : (x1 == 0x3D#8) = false ∧ isBase64 x1 = true)
    (h2 : (x2 == 0x3D#8) = false ∧ isBase64 x2 = true) (h3 : (x3 == 0x3D#8) = false ∧ isBase64 x3 = true) :
    decLoop (x0 :: x1 :: x2 :: x3 :: rest) [] ret = decLoop rest [] (ret ++ decQuad [x0, x1, x2, x3]) := by
  have h := decLoop_run [x0, x1, x2] [] ret (x3 :: rest)
    (by simp only [List.forall_mem_cons]; exact ⟨h0, h1, h2, nofun⟩) (by simp)
  rw [show x0 :: x1 :: x2 :: x3 :: rest = [x0, x1, x2] ++ x3 :: rest from rfl, h, decLoop_pass _ _ _ _ h3.1 h3.2]
  rfl

/-! ### the decoder on arbitrary text -/

theorem passes (c : Byte) (h : (letterVal stdAlphabet c).isSome = true) :
    (c == 0x3D#8) = false ∧ isBase64 c = true := by
  obtain ⟨b0, b1, b2, b3, b4, b5, rfl, -⟩ := exists_bits_std c h
  exact letter_passes ..

theorem decLoop_short (p ret : List Byte) (hp : ∀ c ∈ p, (letterVal stdAlphabet c).isSome = true)
    (hl : p.length < 4) : decLoop p [] ret = (p, ret) := by
  have h := decLoop_run p [] ret [] (fun c hc => passes c (hp c hc)) (by simpa using hl)
  rwa [List.append_nil, List.nil_append, decLoop] at h

/-- what `is_base64` lets through is in RFC table 1 (so its `!= '='` companion is redundant) -/
theorem mem_std_of_isBase64 : ∀ c : Byte, isBase64 c = true → c ∈ stdAlphabet.map ch := by decide +kernel

/-- the loop test of `base64_decode` = "is a letter of RFC table 1" -/
theorem loopTest_iff : ∀ c : Byte,
    (c == 0x3D#8 || !isBase64 c) = !(letterVal stdAlphabet c).isSome := by
  intro c
  cases h : (letterVal stdAlphabet c).isSome
  · cases hb : isBase64 c
    · simp
    · rw [(letterVal_isSome _ c).mpr (mem_std_of_isBase64 c hb)] at h; cases h
  · simp [passes c h]

theorem decLoop_letter (c : Byte) (rest arr ret : List Byte) (h : (letterVal stdAlphabet c).isSome = true) :
    decLoop (c :: rest) arr ret =
      if (arr ++ [c]).length = 4 then decLoop rest [] (ret ++ decQuad (arr ++ [c])) else decLoop rest (arr ++ [c]) ret :=
  decLoop_pass c rest arr ret (passes c h).1 (passes c h).2

theorem decLoop_stop (c : Byte) (rest arr ret : List Byte) (h : (letterVal stdAlphabet c).isSome = false) :
    decLoop (c :: rest) arr ret = (arr, ret) := by
  rw [decLoop, loopTest_iff, h]; rfl

theorem decLoopM_letter (c : Byte) (rest : List Byte) (in_ : Nat) (arr : List Byte) (i : Nat) (ret : List Byte)
    (h : (letterVal stdAlphabet c).isSome = true) :
    decLoopM (c :: rest) in_ arr i ret =
      if 4 ≤ i then none else
      if 2 ^ 31 ≤ in_ + 1 then none else
      if i + 1 = 4 then
        match mapIdxM (arr.set i c) with
        | none => none
        | some m => decLoopM rest (in_ + 1) m 0
            (ret ++ dec3 (m.getD 0 0#8) (m.getD 1 0#8) (m.getD 2 0#8) (m.getD 3 0#8))
      else decLoopM rest (in_ + 1) (arr.set i c) (i + 1) ret := by
  rw [decLoopM, loopTest_iff, h]; rfl

theorem decLoopM_stop (c : Byte) (rest : List Byte) (in_ : Nat) (arr : List Byte) (i : Nat) (ret : List Byte)
    (h : (letterVal stdAlphabet c).isSome = false) : decLoopM (c :: rest) in_ arr i ret = some (arr, i, ret) := by
  rw [decLoopM, loopTest_iff, h]; rfl

section
variable {al : List Char}

theorem lettersPrefix_all (s : List Byte) : ∀ c ∈ lettersPrefix al s, (letterVal al c).isSome = true :=
  fun _ => mem_takeWhile_sat

theorem lettersPrefix_cons (c : Byte) (rest : List Byte) (h : (letterVal al c).isSome = true) :
    lettersPrefix al (c :: rest) = c :: lettersPrefix al rest := by
  rw [lettersPrefix, List.takeWhile_cons_of_pos (by exact h)]; rfl

theorem lettersPrefix_stop (c : Byte) (rest : List Byte) (hc : (letterVal al c).isSome = false) :
    lettersPrefix al (c :: rest) = [] := by
  rw [lettersPrefix, List.takeWhile_cons_of_neg (by simp [hc])]

theorem lettersPrefix_self (p : List Byte) (hp : ∀ c ∈ p, (letterVal al c).isSome = true) : lettersPrefix al p = p :=
  takeWhile_all hp

theorem lettersPrefix_append_stop {p : List Byte} {c : Byte} (rest : List Byte)
    (hp : ∀ x ∈ p, (letterVal al x).isSome = true) (hc : (letterVal al c).isSome = false) :
    lettersPrefix al (p ++ c :: rest) = p :=
  takeWhile_append_stop rest hp (by simp [hc])

end

theorem decLoop_prefix : ∀ (s arr ret : List Byte),
    decLoop s arr ret = decLoop (lettersPrefix stdAlphabet s) arr ret
  | [], arr, ret => rfl
  | c :: rest, arr, ret => by
    cases h : (letterVal stdAlphabet c).isSome
    · rw [lettersPrefix_stop c rest h, decLoop_stop c rest arr ret h]; rfl
    · rw [lettersPrefix_cons c rest h, decLoop_letter _ _ _ _ h, decLoop_letter _ _ _ _ h,
        ← decLoop_prefix rest, ← decLoop_prefix rest]

theorem decode_letters : ∀ (p ret : List Byte), (∀ c ∈ p, (letterVal stdAlphabet c).isSome = true) →
    decFinish (decLoop p [] ret) = ret ++ bytesOfBits (p.flatMap (letterBits stdAlphabet))
  | x0 :: x1 :: x2 :: x3 :: rest, ret, h => by
    simp only [List.forall_mem_cons] at h
    obtain ⟨h0, h1, h2, h3, hr⟩ := h
    obtain ⟨a0, a1, a2, a3, a4, a5, rfl, ea⟩ := exists_bits_std x0 h0
    obtain ⟨b0, b1, b2, b3, b4, b5, rfl, eb⟩ := exists_bits_std x1 h1
    obtain ⟨c0, c1, c2, c3, c4, c5, rfl, ec⟩ := exists_bits_std x2 h2
    obtain ⟨d0, d1, d2, d3, d4, d5, rfl, ed⟩ := exists_bits_std x3 h3
    rw [decLoop_quad _ _ _ _ _ _ (letter_passes ..) (letter_passes ..) (letter_passes ..) (letter_passes ..),
      decode_letters rest _ hr, decQuad_bits, List.append_assoc]
    simp only [List.flatMap_cons, ea, eb, ec, ed]
    rfl
  | [x0, x1, x2], ret, h => by
    rw [decLoop_short _ ret h (by simp)]
    simp only [List.forall_mem_cons] at h
    obtain ⟨h0, h1, h2, -⟩ := h
    obtain ⟨a0, a1, a2, a3, a4, a5, rfl, ea⟩ := exists_bits_std x0 h0
    obtain ⟨b0, b1, b2, b3, b4, b5, rfl, eb⟩ := exists_bits_std x1 h1
    obtain ⟨c0, c1, c2, c3, c4, c5, rfl, ec⟩ := exists_bits_std x2 h2
    simp only [List.flatMap_cons, List.flatMap_nil, ea, eb, ec, List.cons_append, List.nil_append, ← decQuad_bits3]
    rfl
  | [x0, x1], ret, h => by
    rw [decLoop_short _ ret h (by simp)]
    simp only [List.forall_mem_cons] at h
    obtain ⟨h0, h1, -⟩ := h
    obtain ⟨a0, a1, a2, a3, a4, a5, rfl, ea⟩ := exists_bits_std x0 h0
    obtain ⟨b0, b1, b2, b3, b4, b5, rfl, eb⟩ := exists_bits_std x1 h1
    simp only [List.flatMap_cons, List.flatMap_nil, ea, eb, List.cons_append, List.nil_append, ← decQuad_bits2]
    rfl
  | [x0], ret, h => by
    rw [decLoop_short _ ret h (by simp)]
    simp [decFinish, letterBits, bytesOfBits]
  | [], ret, _ => by
    simp [decLoop, decFinish, bytesOfBits]

theorem bytesOfBits_length : ∀ bs : List Bool, (bytesOfBits bs).length = bs.length / 8
  | b0 :: b1 :: b2 :: b3 :: b4 :: b5 :: b6 :: b7 :: rest => by
    simp only [bytesOfBits, List.length_cons, bytesOfBits_length rest]; omega
  | [] | [_] | [_, _] | [_, _, _] | [_, _, _, _] | [_, _, _, _, _] | [_, _, _, _, _, _] | [_, _, _, _, _, _, _] => by
    simp [bytesOfBits]

theorem flatMap_letterBits_length (al : List Char) (p : List Byte) :
    (p.flatMap (letterBits al)).length = 6 * p.length := by
  induction p with
  | nil => rfl
  | cons c cs ih => simp only [List.flatMap_cons, List.length_append, ih, letterBits, List.length_cons, List.length_nil]; omega

/-! ## the decoder with `char_array_4` as an array, `strchr` that may fail and the `int` index -/

/-- the NUL case is the zero fill of the tail group -/
theorem strchrM_found (c : Byte) (h : ((letterVal stdAlphabet c).isSome || c == 0#8) = true) :
    strchrM c = some (strchrIdx c) := by
  rw [strchrM, if_pos]
  rw [List.contains_iff_mem, charset_eq]
  rcases Bool.or_eq_true _ _ ▸ h with h | h
  · simp [(letterVal_isSome _ c).mp h]
  · simp [eq_of_beq h]

theorem mapIdxM_eq_map : ∀ arr : List Byte, (∀ c ∈ arr, ((letterVal stdAlphabet c).isSome || c == 0#8) = true) →
    mapIdxM arr = some (arr.map strchrIdx)
  | [], _ => rfl
  | c :: cs, h => by
    rw [mapIdxM, strchrM_found c (h c (by simp)), mapIdxM_eq_map cs (fun x hx => h x (by simp [hx]))]
    rfl

theorem decFinishM_sim (arrM : List Byte) (i : Nat) (ret : List Byte)
    (hl : arrM.length = 4) (hi : i < 4) (hok : ∀ c ∈ arrM.take i, (letterVal stdAlphabet c).isSome = true) :
    decFinishM arrM i ret = some (decFinish (arrM.take i, ret)) := by
  have hlen : (arrM.take i).length = i := by rw [List.length_take]; omega
  unfold decFinishM decFinish
  simp only [hlen]
  by_cases h0 : i = 0
  · simp [h0]
  · rw [if_neg h0, if_neg h0]
    have hz : zeroFrom arrM i = arrM.take i ++ List.replicate (4 - i) 0#8 := by rw [zeroFrom, hl]
    have hm : mapIdxM (zeroFrom arrM i) = some ((arrM.take i ++ List.replicate (4 - i) 0#8).map strchrIdx) := by
      rw [hz]
      exact mapIdxM_eq_map _ (List.forall_mem_append.2 ⟨fun x hx => by rw [hok x hx]; rfl,
        fun x hx => by rw [(List.mem_replicate.mp hx).2]; decide⟩)
    rw [hm]
    simp only [decQuad]
    rw [if_pos (by simp [dec3]; omega)]

/-- `arrM.take i` = the slots of `char_array_4` filled so far -/
theorem decM_letters : ∀ (p : List Byte) (in_ : Nat) (arrM : List Byte) (i : Nat) (ret : List Byte),
    arrM.length = 4 → i < 4 → (∀ c ∈ arrM.take i, (letterVal stdAlphabet c).isSome = true) →
    (∀ c ∈ p, (letterVal stdAlphabet c).isSome = true) → in_ + p.length < 2 ^ 31 →
    (match decLoopM p in_ arrM i ret with
      | none => none
      | some (arr, j, r) => decFinishM arr j r) = some (decFinish (decLoop p (arrM.take i) ret))
  | [], _, arrM, i, ret, hl, hi, hok, _, _ => decFinishM_sim arrM i ret hl hi hok
  | c :: rest, in_, arrM, i, ret, hl, hi, hok, hp, hin => by
    have h := hp c (by simp)
    have hr : ∀ x ∈ rest, (letterVal stdAlphabet x).isSome = true := fun x hx => hp x (by simp [hx])
    have hlen : (arrM.take i ++ [c]).length = i + 1 := by
      rw [List.length_append, List.length_take]; simp; omega
    have hset : (arrM.set i c).take (i + 1) = arrM.take i ++ [c] := take_set_succ arrM i c (by omega)
    have hok' : ∀ x ∈ arrM.take i ++ [c], (letterVal stdAlphabet x).isSome = true :=
      List.forall_mem_append.2 ⟨hok, List.forall_mem_singleton.2 h⟩
    simp only [List.length_cons] at hin
    rw [decLoopM_letter _ _ _ _ _ _ h, decLoop_letter _ _ _ _ h, hlen, if_neg (by omega), if_neg (by omega)]
    by_cases h4 : i + 1 = 4
    · have hfull : arrM.set i c = arrM.take i ++ [c] := by
        rw [← hset, h4, List.take_of_length_le (by rw [List.length_set]; omega)]
      rw [if_pos h4, if_pos h4, hfull, mapIdxM_eq_map _ (fun x hx => by rw [hok' x hx]; rfl)]
      have := decM_letters rest (in_ + 1) ((arrM.take i ++ [c]).map strchrIdx) 0
        (ret ++ decQuad (arrM.take i ++ [c])) (by rw [List.length_map]; omega) (by omega)
        (by intro x hx; simp at hx) hr (by omega)
      simpa only [decQuad, List.take_zero] using this
    · rw [if_neg h4, if_neg h4]
      have := decM_letters rest (in_ + 1) (arrM.set i c) (i + 1) ret (by rw [List.length_set]; exact hl) (by omega)
        (by rw [hset]; exact hok') hr (by omega)
      rwa [hset] at this

theorem decLoopM_prefix : ∀ (s : List Byte) (in_ : Nat) (arr : List Byte) (i : Nat) (ret : List Byte),
    decLoopM s in_ arr i ret = decLoopM (lettersPrefix stdAlphabet s) in_ arr i ret
  | [], _, _, _, _ => rfl
  | c :: rest, in_, arr, i, ret => by
    cases h : (letterVal stdAlphabet c).isSome
    · rw [lettersPrefix_stop c rest h, decLoopM_stop c rest _ _ _ _ h]; rfl
    · rw [lettersPrefix_cons c rest h, decLoopM_letter _ _ _ _ _ _ h, decLoopM_letter _ _ _ _ _ _ h]
      simp only [decLoopM_prefix rest]

theorem decLoopM_overflow : ∀ (p : List Byte) (in_ : Nat) (arr : List Byte) (i : Nat) (ret : List Byte),
    (∀ c ∈ p, (letterVal stdAlphabet c).isSome = true) → in_ < 2 ^ 31 → 2 ^ 31 ≤ in_ + p.length →
    decLoopM p in_ arr i ret = none
  | [], in_, _, _, _, _, h1, h2 => by simp at h2; omega
  | c :: rest, in_, arr, i, ret, hp, h1, h2 => by
    simp only [List.length_cons] at h2
    rw [decLoopM_letter _ _ _ _ _ _ (hp c (by simp))]
    by_cases h31 : 2 ^ 31 ≤ in_ + 1
    · simp [h31]
    · have ih := fun a j r => decLoopM_overflow rest (in_ + 1) a j r
        (fun x hx => hp x (by simp [hx])) (by omega) (by omega)
      simp only [ih, if_neg h31]
      -- every branch that is left ends in `none`
      split
      · rfl
      · split
        · split <;> rfl
        · rfl

/-- `init` is the uninitialised `char_array_4`; `2 ^ 31` is where `int in_` overflows -/
theorem b64DecodeM_spec (s init : List Byte) (hi : init.length = 4) :
    b64DecodeM s init =
      if (lettersPrefix stdAlphabet s).length < 2 ^ 31 then some (b64Decode s) else none := by
  rw [b64DecodeM, decLoopM_prefix, b64Decode, decLoop_prefix]
  by_cases h : (lettersPrefix stdAlphabet s).length < 2 ^ 31
  · rw [if_pos h]
    exact decM_letters _ 0 init 0 [] hi (by omega) (by intro c hc; simp at hc) (lettersPrefix_all s) (by omega)
  · rw [if_neg h, decLoopM_overflow _ 0 init 0 [] (lettersPrefix_all s) (by omega) (by omega)]

/-! ## url-safe variant -/

theorem urlSubst_letter : ∀ b0 b1 b2 b3 b4 b5 : Bool,
    urlSubst (letter stdAlphabet [b0, b1, b2, b3, b4, b5]) = letter urlAlphabet [b0, b1, b2, b3, b4, b5] := by
  decide +kernel
theorem urlSubst_pad : urlSubst padChar = padChar := by decide

theorem encodeWith_urlSubst : ∀ data : List Byte,
    (encodeWith stdAlphabet data).map urlSubst = encodeWith urlAlphabet data
  | a :: b :: c :: rest => by
    rw [encodeWith_triple, encodeWith_triple, ← encodeWith_urlSubst rest]
    simp only [List.map_cons, urlSubst_letter]
  | [_, _] | [_] => by
    simp only [encodeWith_two, encodeWith_one, List.map_cons, List.map_nil, urlSubst_letter, urlSubst_pad]
  | [] => rfl

/-! Facts about the 65 entries of `base64_charset`, checked on the table.  They are stated with `List.all`: as
`∀ c ∈ charset, …` the kernel would run the decision procedure for a bounded quantifier over a list, which is far dearer. -/

theorem mem_charset (c : Byte) (h : InAlphabet stdAlphabet c) : c ∈ charset := by
  rw [charset_eq, List.mem_append, List.mem_singleton]; exact h

theorem urlUnsubst_subst_charset : (charset.all fun c => urlUnsubst (urlSubst c) == c) = true := by decide +kernel
theorem urlUnsubst_charset : (charset.all fun c => urlUnsubst c == c) = true := by decide +kernel

theorem urlUnsubst_subst (c : Byte) (h : InAlphabet stdAlphabet c) : urlUnsubst (urlSubst c) = c :=
  eq_of_beq (List.all_eq_true.mp urlUnsubst_subst_charset c (mem_charset c h))

theorem urlUnsubst_std (c : Byte) (h : InAlphabet stdAlphabet c) : urlUnsubst c = c :=
  eq_of_beq (List.all_eq_true.mp urlUnsubst_charset c (mem_charset c h))

theorem map_eq_self {α} {f : α → α} {l : List α} (h : ∀ x ∈ l, f x = x) : l.map f = l := by
  rw [List.map_congr_left h, List.map_id']

theorem map_map_eq_self {α β} {f : α → β} {g : β → α} {l : List α} (h : ∀ x ∈ l, g (f x) = x) :
    (l.map f).map g = l := by
  rw [List.map_map]; exact map_eq_self h

/-! ## accumulator forms = the model -/

theorem b64EncodeTR_eq : ∀ (d acc : List Byte), b64EncodeTR d acc = acc.reverse ++ b64Encode d
  | a :: b :: c :: rest, acc => by
    rw [b64EncodeTR, b64EncodeTR_eq rest, b64Encode]
    simp
  | [_, _], acc | [_], acc | [], acc => by simp [b64EncodeTR, b64Encode]

theorem decLoopTR_eq : ∀ (s arr ret : List Byte),
    decLoopTR s arr ret.reverse = ((decLoop s arr ret).1, (decLoop s arr ret).2.reverse)
  | [], arr, ret => by simp [decLoopTR, decLoop]
  | c :: rest, arr, ret => by
    rw [decLoopTR, decLoop]
    by_cases h : (c == 0x3D#8 || !isBase64 c) = true
    · simp only [h, if_true]
    · have h' : (c == 0x3D#8 || !isBase64 c) = false := by simpa using h
      simp only [h', Bool.false_eq_true, if_false]
      by_cases h4 : (arr ++ [c]).length = 4
      · simp only [h4, if_true]
        rw [← List.reverse_append, decLoopTR_eq rest [] (ret ++ decQuad (arr ++ [c]))]
      · simp only [h4, if_false]
        exact decLoopTR_eq rest (arr ++ [c]) ret

end Igris.C18
