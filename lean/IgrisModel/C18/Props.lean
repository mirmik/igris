/-
  C18 — PROPERTY THEOREMS (definitions: Model.lean = the igris code,
  Spec.lean = the reference; helper lemmas: Hex.lean, Base64.lean).

  Property: "For every byte string, decode(encode(x)) returns x for the
  hexascii and base64 codecs (including the url-safe base64 variant), the
  encoded text has exactly the expected length, uses only the documented
  alphabet (upper-case hex; RFC 4648 letters with '=' padding, '-' and '_' for
  url-safe) and matches the RFC reference encoding.  The fixed-width helpers
  (8/16/32/64-bit to hex and back) invert each other for every value, and
  decoders accept everything their encoders can produce."

  All statements are over *all* byte strings / all values.
-/
import IgrisModel.C18.Hex
import IgrisModel.C18.Base64
import IgrisModel.C07.Model
namespace Igris.C18
open Igris.Proto Spec

/-! ## hexascii -/

/-- `hexascii_encode` writes the upper-case hex text of the data -/
theorem hexEncode_eq_spec (data : List Byte) : hexEncode data = hexOfBytes data := by
  induction data with
  | nil => rfl
  | cons b bs ih =>
    simp only [hexEncode, encHi_spec, encLo_spec, ih, hexOfBytes, List.flatMap_cons, List.cons_append,
      List.nil_append]

/-- `igris::hexascii_encode` (std::string) = `hexascii_encode` (C) -/
theorem hexEncodeStr_twin (data : List Byte) : hexEncodeStr data = hexEncode data := by
  induction data with
  | nil => rfl
  | cons b bs ih => simp [hexEncodeStr, hexEncode, ih]

/-- `igris::hexascii_encode` (std::string) is the same function -/
theorem hexEncodeStr_eq_spec (data : List Byte) : hexEncodeStr data = hexOfBytes data := by
  rw [hexEncodeStr_twin, hexEncode_eq_spec]

/-- exactly two characters per byte -/
theorem hexEncode_length (data : List Byte) : (hexEncode data).length = 2 * data.length := by
  induction data with
  | nil => rfl
  | cons b bs ih => simp only [hexEncode, List.length_cons, ih]; omega

/-- only `0-9A-F` -/
theorem hexEncode_alphabet (data : List Byte) : ∀ c ∈ hexEncode data, IsUpperHex c := by
  induction data with
  | nil => intro c h; simp [hexEncode] at h
  | cons b bs ih =>
    intro c h
    simp only [hexEncode, List.mem_cons] at h
    rcases h with h | h | h
    · exact h ▸ (enc_upper b).1
    · exact h ▸ (enc_upper b).2
    · exact ih c h

/-- `hexascii_decode(hexascii_encode(x)) = x` -/
theorem hex_roundtrip (data : List Byte) : hexDecode (hexEncode data) = data := by
  rw [hexDecode_eq_decPairs, decPairs_hexEncode]

/-- the decoder returns `⌊len/2⌋` bytes for every text -/
theorem hexDecode_length (s : List Byte) : (hexDecode s).length = s.length / 2 := by
  rw [hexDecode_eq_decPairs, decPairs_length]

/-- `igris::hexascii_decode` (std::string / buffer) returns exactly the bytes the
C routine writes, for EVERY text (nothing of the zero-filled `resize` survives) -/
theorem hexDecodeStr_twin (s : List Byte) : hexDecodeStr s = hexDecode s := by
  have hl := hexDecode_length s
  simp only [hexDecodeStr]
  rw [List.drop_of_length_le (by simp [hl])]
  simp

/-- the std::string pair: `igris::hexascii_decode(igris::hexascii_encode(x)) = x` -/
theorem hexStr_roundtrip (data : List Byte) : hexDecodeStr (hexEncodeStr data) = data := by
  rw [hexDecodeStr_twin, hexEncodeStr_twin, hex_roundtrip]

/-- the decoder accepts everything the encoder can produce: on an even-length text
over `0-9A-F` it is the exact inverse of the encoder (re-encoding gives the
text back), so it is injective there -/
theorem hexDecode_accepts (s : List Byte) (hc : ∀ c ∈ s, IsUpperHex c) (hl : s.length % 2 = 0) :
    hexEncode (hexDecode s) = s := by
  rw [hexDecode_eq_decPairs, hexEncode_decPairs s hc hl]

example : (∀ c ∈ [0x41#8, 0x39#8], IsUpperHex c) ∧ [0x41#8, 0x39#8].length % 2 = 0 := by decide +kernel

/-! ## fixed-width helpers: `hex_to_uintN (uintN_to_hex v) = v` for every value -/

theorem uint8_hex_inverse (v : BitVec 8) : hexToUint8 (uint8ToHex v) = v := by
  simp only [hexToUint8, uint8ToHex, hexAt, List.getD_cons_zero, List.getD_cons_succ, ofLanes_lanes8]

theorem uint16_hex_inverse (v : BitVec 16) : hexToUint16 (uint16ToHex v) = v := by
  simp only [hexToUint16, uint16ToHex, hexAt, List.getD_cons_zero, List.getD_cons_succ, ofLanes_lanes8]
  exact ofLanes_lanes 16 2 v (by decide)

theorem uint32_hex_inverse (v : BitVec 32) : hexToUint32 (uint32ToHex v) = v := by
  simp only [hexToUint32, uint32ToHex, hexAt, List.getD_cons_zero, List.getD_cons_succ, ofLanes_lanes8]
  exact ofLanes_lanes 32 4 v (by decide)

theorem uint64_hex_inverse (v : BitVec 64) : hexToUint64 (uint64ToHex v) = v := by
  simp only [hexToUint64, uint64ToHex, hexAt, List.getD_cons_zero, List.getD_cons_succ, ofLanes_lanes8]
  exact ofLanes_lanes 64 8 v (by decide)

/-! … and `uintN_to_hex (hex_to_uintN t) = t` for every text `t` of `2·sizeof`
upper-case hex digits (everything `uintN_to_hex` can produce, see
`uintNToHex_alphabet`): `uintN_to_hex` is `hexascii_encode` of the object bytes, the
object bytes of `hex_to_uintN t` are `decPairs t` (`map_hexAt_eq_decPairs`), and `hexEncode_decPairs`. -/

theorem hex_uint8_inverse (t : List Byte) (hc : ∀ c ∈ t, IsUpperHex c) (hl : t.length = 2) :
    uint8ToHex (hexToUint8 t) = t := by
  rw [uint8ToHex_hexEncode]
  exact hexEncode_map_hexAt 1 t hc hl

theorem hex_uint16_inverse (t : List Byte) (hc : ∀ c ∈ t, IsUpperHex c) (hl : t.length = 4) :
    uint16ToHex (hexToUint16 t) = t := by
  rw [uint16ToHex_hexEncode]
  simp only [hexToUint16, lane_ofLanes, List.getD_cons_zero, List.getD_cons_succ, List.length_cons,
    List.length_nil, Nat.reduceAdd, Nat.reduceMul, Nat.le_refl]
  exact hexEncode_map_hexAt 2 t hc hl

theorem hex_uint32_inverse (t : List Byte) (hc : ∀ c ∈ t, IsUpperHex c) (hl : t.length = 8) :
    uint32ToHex (hexToUint32 t) = t := by
  rw [uint32ToHex_hexEncode]
  simp only [hexToUint32, lane_ofLanes, List.getD_cons_zero, List.getD_cons_succ, List.length_cons,
    List.length_nil, Nat.reduceAdd, Nat.reduceMul, Nat.le_refl]
  exact hexEncode_map_hexAt 4 t hc hl

theorem hex_uint64_inverse (t : List Byte) (hc : ∀ c ∈ t, IsUpperHex c) (hl : t.length = 16) :
    uint64ToHex (hexToUint64 t) = t := by
  rw [uint64ToHex_hexEncode]
  simp only [hexToUint64, lane_ofLanes, List.getD_cons_zero, List.getD_cons_succ, List.length_cons,
    List.length_nil, Nat.reduceAdd, Nat.reduceMul, Nat.le_refl]
  exact hexEncode_map_hexAt 8 t hc hl

/-- what `uintN_to_hex` writes: `2·sizeof` characters, all in `0-9A-F`
(so the hypotheses of `hex_uintN_inverse` hold for every encoder output) -/
theorem uint8ToHex_alphabet (v : BitVec 8) :
    (uint8ToHex v).length = 2 ∧ ∀ c ∈ uint8ToHex v, IsUpperHex c := by
  rw [uint8ToHex_hexEncode]; exact ⟨hexEncode_length _, hexEncode_alphabet _⟩

theorem uint16ToHex_alphabet (v : BitVec 16) :
    (uint16ToHex v).length = 4 ∧ ∀ c ∈ uint16ToHex v, IsUpperHex c := by
  rw [uint16ToHex_hexEncode]; exact ⟨hexEncode_length _, hexEncode_alphabet _⟩

theorem uint32ToHex_alphabet (v : BitVec 32) :
    (uint32ToHex v).length = 8 ∧ ∀ c ∈ uint32ToHex v, IsUpperHex c := by
  rw [uint32ToHex_hexEncode]; exact ⟨hexEncode_length _, hexEncode_alphabet _⟩

theorem uint64ToHex_alphabet (v : BitVec 64) :
    (uint64ToHex v).length = 16 ∧ ∀ c ∈ uint64ToHex v, IsUpperHex c := by
  rw [uint64ToHex_hexEncode]; exact ⟨hexEncode_length _, hexEncode_alphabet _⟩

/-- `uintN_to_hex` writes the `2·sizeof` upper-case hex digits of the value,
most significant first (independent of the byte-lane macros) -/
theorem uint8ToHex_eq_spec (v : BitVec 8) : uint8ToHex v = hexOfNumber 2 v.toNat := by
  rw [uint8ToHex_hexEncode, ← hexEncode_lanes v 1]
  simp [lane]

theorem uint16ToHex_eq_spec (v : BitVec 16) : uint16ToHex v = hexOfNumber 4 v.toNat := by
  rw [uint16ToHex_hexEncode]; exact hexEncode_lanes v 2

theorem uint32ToHex_eq_spec (v : BitVec 32) : uint32ToHex v = hexOfNumber 8 v.toNat := by
  rw [uint32ToHex_hexEncode]; exact hexEncode_lanes v 4

theorem uint64ToHex_eq_spec (v : BitVec 64) : uint64ToHex v = hexOfNumber 16 v.toNat := by
  rw [uint64ToHex_hexEncode]; exact hexEncode_lanes v 8

/-! ## base64 -/

/-- the table compiled into base64.cpp is RFC 4648 table 1 followed by `=` -/
theorem charset_is_rfc : charset = stdAlphabet.map ch ++ [padChar] := charset_eq

/-- `base64_encode` = RFC 4648 §4 (6-bit regrouping of the bit string, `=` padding) -/
theorem b64Encode_eq_rfc : ∀ data : List Byte, b64Encode data = base64 data
  | a :: b :: c :: rest => by
    rw [b64Encode, base64, encodeWith_triple, ← base64, ← b64Encode_eq_rfc rest, e0_spec, e1_spec, e2_spec, e3_spec]
  | [a, b] => by
    rw [b64Encode, base64, encodeWith_two, e0_spec, e1_spec, e2t_spec, csAt64]
  | [a] => by
    rw [b64Encode, base64, encodeWith_one, e0_spec, e1t_spec, csAt64]
  | [] => by
    rw [b64Encode, base64, encodeWith_nil]

/-- `base64url_encode` = RFC 4648 §5 (url-safe alphabet, padding kept) -/
theorem b64urlEncode_eq_rfc : ∀ data : List Byte, b64urlEncode data = base64url data := by
  intro data
  rw [b64urlEncode, b64Encode_eq_rfc, base64, encodeWith_urlSubst]; rfl

/-- the encoded text has exactly `4·⌈n/3⌉` characters -/
theorem b64Encode_length : ∀ data : List Byte, (b64Encode data).length = 4 * ((data.length + 2) / 3)
  | a :: b :: c :: rest => by
    simp only [b64Encode, List.length_cons, b64Encode_length rest]; omega
  | [_, _] | [_] | [] => by simp [b64Encode]

theorem b64urlEncode_length (data : List Byte) : (b64urlEncode data).length = 4 * ((data.length + 2) / 3) := by
  rw [b64urlEncode, List.length_map, b64Encode_length]

/-- only RFC 4648 letters and `=` -/
theorem b64Encode_alphabet : ∀ data : List Byte, ∀ x ∈ b64Encode data, InAlphabet stdAlphabet x := by
  intro data
  rw [b64Encode_eq_rfc]
  exact encodeWith_alphabet stdAlphabet rfl data

/-- url-safe: only `A-Za-z0-9-_` and `=` -/
theorem b64urlEncode_alphabet (data : List Byte) : ∀ x ∈ b64urlEncode data, InAlphabet urlAlphabet x := by
  rw [b64urlEncode_eq_rfc]
  exact encodeWith_alphabet urlAlphabet rfl data

theorem b64_decode_encode_from : ∀ (data ret : List Byte),
    decFinish (decLoop (b64Encode data) [] ret) = ret ++ data
  | a :: b :: c :: rest, ret => by
    rw [b64Encode, e0_spec, e1_spec, e2_spec, e3_spec,
      decLoop_quad _ _ _ _ _ _ (letter_passes ..) (letter_passes ..) (letter_passes ..) (letter_passes ..),
      decQuad_letters, b64_decode_encode_from rest]
    simp
  | [a, b], ret => by
    rw [b64Encode, e0_spec, e1_spec, e2t_spec, csAt64, pad_is_3D,
      show ∀ x y z : Byte, [x, y, z, 0x3D#8] = [x, y, z] ++ [0x3D#8] from fun _ _ _ => rfl, decLoop_run, decLoop_pad]
    · exact congrArg _ ((decQuad_bits3 ..).trans
        ((bytesOfBits_byteBits a _).trans (congrArg _ (bytesOfBits_byteBits b _))))
    · simp only [List.forall_mem_cons]; exact ⟨letter_passes .., letter_passes .., letter_passes .., nofun⟩
    · simp
  | [a], ret => by
    rw [b64Encode, e0_spec, e1t_spec, csAt64, pad_is_3D,
      show ∀ x y : Byte, [x, y, 0x3D#8, 0x3D#8] = [x, y] ++ [0x3D#8, 0x3D#8] from fun _ _ => rfl, decLoop_run, decLoop_pad]
    · exact congrArg _ ((decQuad_bits2 ..).trans (bytesOfBits_byteBits a _))
    · simp only [List.forall_mem_cons]; exact ⟨letter_passes .., letter_passes .., nofun⟩
    · simp
  | [], ret => by
    simp [b64Encode, decLoop, decFinish]

/-- `base64_decode(base64_encode(x)) = x` for every byte string -/
theorem b64_roundtrip (data : List Byte) : b64Decode (b64Encode data) = data := by
  rw [b64Decode, b64_decode_encode_from]; rfl

/-- `base64url_decode(base64url_encode(x)) = x` for every byte string
(after `fix: base64url_decode decodes`) -/
theorem b64url_roundtrip (data : List Byte) : b64urlDecode (b64urlEncode data) = data := by
  rw [b64urlDecode, b64urlEncode,
    map_map_eq_self fun x hx => urlUnsubst_subst x (b64Encode_alphabet data x hx), b64_roundtrip]

/-- historical: on the unchanged tree `base64url_decode` called the encoder -/
theorem b64urlDecodeOrig_witness : b64urlDecodeOrig (b64urlEncode [0#8]) ≠ [0#8] := by decide +kernel

/-- anchors for the specification itself: the RFC 4648 §10 test vectors -/
theorem rfc4648_test_vectors :
    base64 [] = [] ∧
    base64 ("f".toList.map ch) = "Zg==".toList.map ch ∧
    base64 ("fo".toList.map ch) = "Zm8=".toList.map ch ∧
    base64 ("foo".toList.map ch) = "Zm9v".toList.map ch ∧
    base64 ("foob".toList.map ch) = "Zm9vYg==".toList.map ch ∧
    base64 ("fooba".toList.map ch) = "Zm9vYmE=".toList.map ch ∧
    base64 ("foobar".toList.map ch) = "Zm9vYmFy".toList.map ch ∧
    base64url [0xfb#8, 0xff#8] = "-_8=".toList.map ch := by decide +kernel

/-! ## hex2half / half2hex / hex2byte -/

/-- `hex2half ∘ half2hex = id` on the sixteen nibble values -/
theorem hex2half_half2hex (n : Byte) (h : n.toNat < 16) : hex2half (half2hex n) = n := by
  revert n; decide +kernel

example : (0x0b#8 : Byte).toNat < 16 := by decide

/-- `hex2half` accepts both cases: on `0-9`, `A-F`, `a-f` it returns the digit value -/
theorem hex2half_digit (c : Byte) (v : Nat) (h : hexVal c = some v) : (hex2half c).toNat = v :=
  hex2half_hexVal c v h

example : hexVal 0x61#8 = some 10 ∧ hexVal 0x46#8 = some 15 ∧ hexVal 0x39#8 = some 9 ∧ hexVal 0x47#8 = none := by decide

/-- what `hex2half` returns for EVERY `char` value (plain `char` signed: the
values `0x80..0xFF` are negative and take the `c <= '9'` branch) -/
theorem hex2half_exact (c : Byte) : (hex2half c).toNat =
    if 128 ≤ c.toNat ∨ c.toNat ≤ 0x39 then (c.toNat + 256 - 48) % 256
    else if 0x61 ≤ c.toNat then c.toNat - 87 else c.toNat - 55 := by
  revert c; decide +kernel

/-- the characters that are silently taken for a digit (`hex2half c < 16`):
the 22 hex digits and the seven characters `:;<=>?@` (values 3..9) -/
theorem hex2half_lt16_iff (c : Byte) :
    (hex2half c).toNat < 16 ↔ ((hexVal c).isSome ∨ (0x3A ≤ c.toNat ∧ c.toNat ≤ 0x40)) := by
  have hx := hex2half_exact c
  constructor
  · intro h
    by_cases hr : 0x3A ≤ c.toNat ∧ c.toNat ≤ 0x40
    · exact Or.inr hr
    · refine Or.inl (hexVal_ranges c ?_)
      have := c.isLt
      split at hx
      · omega
      · split at hx <;> omega
  · rintro (h | h)
    · obtain ⟨v, hv⟩ := Option.isSome_iff_exists.mp h
      rw [hex2half_hexVal c v hv]; exact hexVal_lt c v hv
    · rw [hx, if_neg (by omega), if_neg (by omega)]; omega

/-- every letter has the value of its other case (also outside `A-F`) -/
theorem hex2half_caseInsensitive (c : Byte) :
    hex2half (asciiLower c) = hex2half c ∧ hex2half (asciiUpper c) = hex2half c :=
  ⟨hex2half_lower c, hex2half_upper c⟩

/-- `hex2byte` on two hex digits of either case = `16·hi + lo` -/
theorem hex2byte_eq_spec (hi lo : Byte) (h1 : (hexVal hi).isSome) (h2 : (hexVal lo).isSome) :
    hex2byte hi lo = BitVec.ofNat 8 (16 * (hexVal hi).getD 0 + (hexVal lo).getD 0) :=
  hex2byte_spec hi lo h1 h2

example : (hexVal 0x63#8).isSome ∧ (hexVal 0x37#8).isSome ∧ hex2byte 0x63#8 0x37#8 = 0xC7#8 := by decide

/-! ## decoders accept lower-case text as the same bytes -/

/-- `hexascii_decode(lower(s)) = hexascii_decode(s)` for EVERY text -/
theorem hexDecode_lower (s : List Byte) : hexDecode (s.map asciiLower) = hexDecode s := by
  rw [hexDecode_eq_decPairs, hexDecode_eq_decPairs, decPairs_lower]

theorem hexDecodeStr_lower (s : List Byte) : hexDecodeStr (s.map asciiLower) = hexDecodeStr s := by
  rw [hexDecodeStr_twin, hexDecodeStr_twin, hexDecode_lower]

/-- on every text of hex digits of either case the decoder is the reference
parse (two digits per byte, an odd last character unused) -/
theorem hexDecode_eq_spec (s : List Byte) (hc : ∀ c ∈ s, (hexVal c).isSome) : hexDecode s = bytesOfHex s := by
  rw [hexDecode_eq_decPairs, decPairs_spec s hc]

example : (∀ c ∈ [0x61#8, 0x42#8, 0x33#8], (hexVal c).isSome) ∧ hexDecode [0x61#8, 0x42#8, 0x33#8] = [0xAB#8] := by decide +kernel

/-- odd length: the last character is not used at all -/
theorem hexDecode_odd (s : List Byte) (c : Byte) (h : s.length % 2 = 0) : hexDecode (s ++ [c]) = hexDecode s := by
  rw [hexDecode_eq_decPairs, hexDecode_eq_decPairs, decPairs_snoc_even s c h]

example : ([0x41#8, 0x42#8] : List Byte).length % 2 = 0 := by decide

theorem hexToUint8_lower (t : List Byte) : hexToUint8 (t.map asciiLower) = hexToUint8 t := by
  simp only [hexToUint8, hexAt_lower]
theorem hexToUint16_lower (t : List Byte) : hexToUint16 (t.map asciiLower) = hexToUint16 t := by
  simp only [hexToUint16, hexAt_lower]
theorem hexToUint32_lower (t : List Byte) : hexToUint32 (t.map asciiLower) = hexToUint32 t := by
  simp only [hexToUint32, hexAt_lower]
theorem hexToUint64_lower (t : List Byte) : hexToUint64 (t.map asciiLower) = hexToUint64 t := by
  simp only [hexToUint64, hexAt_lower]

/-! ## hexascii_decode: memory (buffer + explicit `int size`) -/

/-- the routine completes iff the `evenSize size` characters and the
`evenSize size / 2` output bytes are mapped; it then reads exactly the indices
`[0, evenSize size)` and writes exactly `[0, evenSize size / 2)`; for
`size ≤ 1` (zero, one, every negative value) it touches nothing -/
theorem hexDecodeM_safe_iff (cs : List Byte) (size : Int) (cap : Nat) :
    (hexDecodeM cs size cap).isSome ↔ (evenSize size ≤ cs.length ∧ evenSize size / 2 ≤ cap) := by
  rw [hexDecodeM_spec]; exact Option.isSome_ite

/-- when it completes, the bytes written are the decoder's result on the first `size` characters -/
theorem hexDecodeM_eq (cs : List Byte) (size : Nat) (cap : Nat) (h1 : size ≤ cs.length) (h2 : size / 2 ≤ cap) :
    hexDecodeM cs size cap = some (hexDecode (cs.take size)) :=
  hexDecodeM_of_mapped cs size cap h1 h2

example : hexDecodeM [0x61#8, 0x42#8, 0x33#8] 3 1 = some [0xAB#8] ∧ hexDecodeM [0x61#8, 0x42#8, 0x33#8] (-3) 0 = some []
    ∧ hexDecodeM [0x61#8, 0x42#8, 0x33#8] 4 2 = none ∧ hexDecodeM [0x61#8, 0x42#8] 2 0 = none := by decide

/-- `igris::hexascii_decode(std::string)` for EVERY length (the region that
`hexDecodeStrM_eq` excludes is characterised exactly): only the first
`(int)size()` characters are decoded — none when that is negative —, the rest of
the `size()/2` result bytes stay zero.  A string of `2^31 … 2^32-1` characters
decodes to all zeros without any report. -/
theorem hexDecodeStrM_exact (s : List Byte) :
    hexDecodeStrM s = some (hexDecode (s.take (toInt32 s.length).toNat) ++
      List.replicate (s.length / 2 - (toInt32 s.length).toNat / 2) 0#8) := by
  have hle := toInt32_le s.length
  rw [hexDecodeStrM, List.length_replicate, hexDecodeM_of_mapped s _ _ (by omega) (by omega)]
  simp only [List.drop_replicate, hexDecode_length, List.length_take]
  congr 3
  omega

/-- `igris::hexascii_decode(std::string)` / `(igris::buffer)`: for EVERY
string, of any length (the `(int)size()` conversion included), no access
leaves the string or the `size()/2` bytes of the result -/
theorem hexDecodeStrM_never_faults (s : List Byte) : (hexDecodeStrM s).isSome := by
  rw [hexDecodeStrM_exact]; rfl

/-- … and below `2^31` characters it returns the decoder's result -/
theorem hexDecodeStrM_eq (s : List Byte) (h : s.length < 2 ^ 31) : hexDecodeStrM s = some (hexDecodeStr s) := by
  rw [hexDecodeStrM_exact, toInt32_of_lt _ h, Int.toNat_natCast, List.take_length, Nat.sub_self, List.replicate_zero,
    List.append_nil, hexDecodeStr_twin]

example : ([0x61#8, 0x42#8, 0x33#8] : List Byte).length < 2 ^ 31 := by decide

/-! ## base64_decode on arbitrary text -/

/-- what `base64_decode` does with EVERY text: it decodes the longest prefix
of RFC table-1 letters and ignores everything from the first other character
on (`=` wherever it stands, white space, bytes ≥ 0x80, `-`, `_`, NUL); the
result is the whole bytes of the letters' concatenated six-bit values (an
incomplete last byte is dropped, so missing padding is accepted) -/
theorem b64Decode_eq_spec (s : List Byte) : b64Decode s = decodeWith stdAlphabet s := by
  rw [b64Decode, decLoop_prefix, decode_letters _ _ (lettersPrefix_all s)]
  rfl

/-- everything behind the first non-letter is ignored -/
theorem b64Decode_stops (p rest : List Byte) (c : Byte) (hp : ∀ x ∈ p, (letterVal stdAlphabet x).isSome)
    (hc : (letterVal stdAlphabet c).isSome = false) : b64Decode (p ++ c :: rest) = b64Decode p := by
  rw [b64Decode_eq_spec, b64Decode_eq_spec, decodeWith, decodeWith, lettersPrefix_append_stop rest hp hc,
    lettersPrefix_self p hp]

example : (∀ x ∈ [0x51#8, 0x55#8], (letterVal stdAlphabet x).isSome) ∧ (letterVal stdAlphabet 0x3D#8).isSome = false
    ∧ (letterVal stdAlphabet 0x20#8).isSome = false ∧ (letterVal stdAlphabet 0x2D#8).isSome = false := by decide +kernel

/-- result length on every text: `⌊6n/8⌋` for `n` leading letters
(`3·(n/4)` plus 0, 0, 1, 2 for a tail of 0, 1, 2, 3 letters) -/
theorem b64Decode_length (s : List Byte) :
    (b64Decode s).length = 6 * (lettersPrefix stdAlphabet s).length / 8 := by
  rw [b64Decode_eq_spec, decodeWith, bytesOfBits_length, flatMap_letterBits_length]

/-- the url-safe decoder: the same after `-`→`+`, `_`→`/` (it also takes `+` and `/`) -/
theorem b64urlDecode_eq_spec (s : List Byte) : b64urlDecode s = decodeWith stdAlphabet (s.map urlUnsubst) := by
  rw [b64urlDecode, b64Decode_eq_spec]

/-! ## base64_decode: memory -/

/-- for EVERY text shorter than `2^31` characters and every initial content of
`char_array_4`: no store leaves the four slots of `char_array_4`, no read
leaves `char_array_3`, `strchr` never returns NULL, the `int` index does not
overflow; the result is the list model's -/
theorem b64DecodeM_eq (s init : List Byte) (hi : init.length = 4) (h : s.length < 2 ^ 31) :
    b64DecodeM s init = some (b64Decode s) := by
  have hp : (lettersPrefix stdAlphabet s).length ≤ s.length := length_takeWhile_le _ s
  rw [b64DecodeM_spec s init hi, if_pos (Nat.lt_of_le_of_lt hp h)]

theorem b64urlDecodeM_eq (s : List Byte) (h : s.length < 2 ^ 31) : b64urlDecodeM s = some (b64urlDecode s) := by
  rw [b64urlDecodeM, b64urlDecode, b64DecodeM_eq _ _ rfl (by rw [List.length_map]; exact h)]

example : ([0xAA#8, 0xBB#8, 0xCC#8, 0xDD#8] : List Byte).length = 4 ∧ ([0x51#8] : List Byte).length < 2 ^ 31 := by decide

/-- the `int in_` index: a text of `2^31` letters or more is outside the
routine's domain (signed overflow of `in_++`); the model faults exactly there -/
theorem decLoopM_int_overflow (c : Byte) (rest arr ret : List Byte) (i : Nat)
    (hc : (letterVal stdAlphabet c).isSome) (hi : i < 4) :
    decLoopM (c :: rest) (2 ^ 31 - 1) arr i ret = none := by
  rw [decLoopM_letter _ _ _ _ _ _ hc, if_neg (by omega), if_pos (by omega)]

example : (letterVal stdAlphabet 0x41#8).isSome ∧ (0 : Nat) < 4 := by decide

/-! ## exceptions: which `std::string` growth calls can throw `std::length_error` -/

/-- `igris::hexascii_encode(p, size)` throws exactly for `size·2 mod 2^64 ≥ 2^63` -/
theorem hexEncodeStr_throws_iff (size : Nat) : hexEncodeStrThrows size ↔ 2 ^ 63 ≤ (size * 2) % 2 ^ 64 := by
  unfold hexEncodeStrThrows hexEncodeStrReq strMaxSize
  rw [decide_eq_true_iff]; omega

/-- the other growth calls (`hexascii_decode`: `resize(size/2)`; `base64_encode`:
`reserve(size·8/6+2)`) never exceed `max_size()`: their exception edges
(gcov: hexascii_string.cpp 36, 44, base64.cpp 52; base64.cpp 118 = `ret +=`)
are reachable by `std::bad_alloc` only -/
theorem other_requests_below_max (size : Nat) :
    hexDecodeStrReq size ≤ strMaxSize ∧ b64EncodeReq size ≤ strMaxSize := by
  unfold hexDecodeStrReq b64EncodeReq strMaxSize
  have hx : size * 8 % 2 ^ 64 < 2 ^ 64 := Nat.mod_lt _ (by decide)
  generalize size * 8 % 2 ^ 64 = x at hx
  constructor <;> omega

/-! ## one function, two models: C07 and C18 both transcribe `hex2half` -/

/-- the model of `hex2half` used by property C07 (`BitVec 8` arithmetic on the
signed value) and this one (promotion to `int`, truncation) are the same
function on every `char` -/
theorem hex2half_eq_C07 : ∀ c : Byte, hex2half c = Igris.C07.hex2half c := by decide +kernel

/-! ## injectivity (two different byte strings never share an encoding) -/

theorem hexEncode_injective (x y : List Byte) (h : hexEncode x = hexEncode y) : x = y := by
  rw [← hex_roundtrip x, ← hex_roundtrip y, h]
theorem b64Encode_injective (x y : List Byte) (h : b64Encode x = b64Encode y) : x = y := by
  rw [← b64_roundtrip x, ← b64_roundtrip y, h]
theorem b64urlEncode_injective (x y : List Byte) (h : b64urlEncode x = b64urlEncode y) : x = y := by
  rw [← b64url_roundtrip x, ← b64url_roundtrip y, h]
theorem uint16ToHex_injective (x y : BitVec 16) (h : uint16ToHex x = uint16ToHex y) : x = y := by
  rw [← uint16_hex_inverse x, ← uint16_hex_inverse y, h]
theorem uint32ToHex_injective (x y : BitVec 32) (h : uint32ToHex x = uint32ToHex y) : x = y := by
  rw [← uint32_hex_inverse x, ← uint32_hex_inverse y, h]
theorem uint64ToHex_injective (x y : BitVec 64) (h : uint64ToHex x = uint64ToHex y) : x = y := by
  rw [← uint64_hex_inverse x, ← uint64_hex_inverse y, h]

example : hexEncode [0xAB#8] = hexEncode [0xAB#8] ∧ b64Encode [1#8] = b64Encode [1#8] := ⟨rfl, rfl⟩

/-- the decoder is injective on the encoder's range (even-length upper-case hex) -/
theorem hexDecode_injective_on_hex (s t : List Byte) (hs : ∀ c ∈ s, IsUpperHex c) (ht : ∀ c ∈ t, IsUpperHex c)
    (ls : s.length % 2 = 0) (lt : t.length % 2 = 0) (h : hexDecode s = hexDecode t) : s = t := by
  rw [← hexDecode_accepts s hs ls, ← hexDecode_accepts t ht lt, h]

example : (∀ c ∈ [0x41#8, 0x39#8], IsUpperHex c) ∧ [0x41#8, 0x39#8].length % 2 = 0 := by decide +kernel

/-! ## padding rules -/

/-- `base64_encode`: letters of RFC table 1 (never `=`) followed by exactly
`(3 - n mod 3) mod 3` padding characters: 0, 2, 1 for `n ≡ 0, 1, 2 (mod 3)` -/
theorem b64Encode_padding (data : List Byte) : ∃ body : List Byte,
    b64Encode data = body ++ List.replicate ((3 - data.length % 3) % 3) padChar ∧
    (∀ c ∈ body, c ∈ stdAlphabet.map ch) ∧ padChar ∉ stdAlphabet.map ch :=
  let ⟨body, h, hb⟩ := encodeWith_body stdAlphabet rfl data
  ⟨body, (b64Encode_eq_rfc data).trans h, hb, by decide +kernel⟩

/-- … so the number of `=` in the text is `(3 - n mod 3) mod 3` -/
theorem b64Encode_padCount (data : List Byte) :
    (b64Encode data).count padChar = (3 - data.length % 3) % 3 := by
  obtain ⟨body, h, hb, hp⟩ := b64Encode_padding data
  rw [h, count_body_pad _ body _ hp hb]

/-- url-safe: the same with table 2 (`-`, `_`), padding kept -/
theorem b64urlEncode_padding (data : List Byte) : ∃ body : List Byte,
    b64urlEncode data = body ++ List.replicate ((3 - data.length % 3) % 3) padChar ∧
    (∀ c ∈ body, c ∈ urlAlphabet.map ch) ∧ padChar ∉ urlAlphabet.map ch :=
  let ⟨body, h, hb⟩ := encodeWith_body urlAlphabet rfl data
  ⟨body, (b64urlEncode_eq_rfc data).trans h, hb, by decide +kernel⟩

theorem b64urlEncode_padCount (data : List Byte) :
    (b64urlEncode data).count padChar = (3 - data.length % 3) % 3 := by
  obtain ⟨body, h, hb, hp⟩ := b64urlEncode_padding data
  rw [h, count_body_pad _ body _ hp hb]

/-! ## the other alphabet fed to a decoder -/

/-- `base64url_decode` also decodes standard base64 text (`+`, `/` pass its translation unchanged) -/
theorem b64urlDecode_accepts_std (data : List Byte) : b64urlDecode (b64Encode data) = data := by
  rw [b64urlDecode, map_eq_self fun x hx => urlUnsubst_std x (b64Encode_alphabet data x hx), b64_roundtrip]

/-- `base64_decode` does NOT decode url-safe text: it stops at the first `-` / `_`
(`b64Decode_stops`); `"-_8="` = base64url of `fb ff` decodes to nothing -/
theorem b64Decode_url_witness : b64Decode (b64urlEncode [0xfb#8, 0xff#8]) = [] ∧
    b64urlDecode (b64urlEncode [0xfb#8, 0xff#8]) = [0xfb#8, 0xff#8] := by decide +kernel

/-- the alphabets as the encoders print them: the 48 bytes whose sextets are
0,1,…,63 (op `alphas` runs the same call on the compiled code) -/
theorem sextetRamp_alphabets :
    b64Encode sextetRamp = stdAlphabet.map ch ∧ b64urlEncode sextetRamp = urlAlphabet.map ch := by decide +kernel

/-! ## `base64_decode`: the domain of the `int in_` index, exactly -/

/-- `b64DecodeM_eq` under the hypothesis the routine really depends on: the number
of LEADING LETTERS (the text behind the first non-letter is never indexed) -/
theorem b64DecodeM_eq_prefix (s init : List Byte) (hi : init.length = 4)
    (h : (lettersPrefix stdAlphabet s).length < 2 ^ 31) : b64DecodeM s init = some (b64Decode s) := by
  rw [b64DecodeM_spec s init hi, if_pos h]

/-- totality, exactly: `base64_decode` completes without a fault (store outside
`char_array_4`, NULL from `strchr`, read outside `char_array_3`, overflow of
`int in_`) iff the text has fewer than `2^31` leading letters -/
theorem b64DecodeM_safe_iff (s init : List Byte) (hi : init.length = 4) :
    (b64DecodeM s init).isSome ↔ (lettersPrefix stdAlphabet s).length < 2 ^ 31 := by
  rw [b64DecodeM_spec s init hi]; exact Option.isSome_ite

example : ([0#8, 0#8, 0#8, 0#8] : List Byte).length = 4 ∧
    (lettersPrefix stdAlphabet [0x51#8, 0x55#8, 0x3D#8, 0x51#8]).length < 2 ^ 31 := by decide

/-! ## `hexascii_encode(indata, int size, out)`: the C width of `size` -/

/-- the routine completes iff `size ≥ 0`, `size` bytes are mapped at `indata`
and `2·size` at `out` (a negative size never terminates inside any buffer) -/
theorem hexEncodeM_safe_iff (cs : List Byte) (size : Int) (cap : Nat) :
    (hexEncodeM cs size cap).isSome ↔ (0 ≤ size ∧ size.toNat ≤ cs.length ∧ 2 * size.toNat ≤ cap) := by
  rw [hexEncodeM_spec]; exact Option.isSome_ite

/-- … and then writes the hex text of the first `size` bytes -/
theorem hexEncodeM_eq (cs : List Byte) (size cap : Nat) (h1 : size ≤ cs.length) (h2 : 2 * size ≤ cap) :
    hexEncodeM cs size cap = some (hexEncode (cs.take size)) := by
  rw [hexEncodeM_spec, if_pos (by omega)]; rfl

example : hexEncodeM [0xAB#8, 0xCD#8] 1 2 = some [0x41#8, 0x42#8] ∧ hexEncodeM [0xAB#8] (-1) 100 = none
    ∧ hexEncodeM [0xAB#8] 1 1 = none ∧ hexEncodeM [0xAB#8] 2 4 = none := by decide

/-- a length of `2^31 … 2^32-1` bytes passed through the `int size` parameter
arrives negative: the encoder is outside its domain for EVERY buffer … -/
theorem hexEncodeM_int_wrap (cs : List Byte) (n cap : Nat) (h1 : 2 ^ 31 ≤ n) (h2 : n < 2 ^ 32) :
    hexEncodeM cs (toInt32 n) cap = none := by
  have := toInt32_neg n h1 h2
  rw [hexEncodeM_spec, if_neg (by omega)]

/-- … and the decoder silently decodes nothing -/
theorem hexDecodeM_int_wrap (cs : List Byte) (n cap : Nat) (h1 : 2 ^ 31 ≤ n) (h2 : n < 2 ^ 32) :
    hexDecodeM cs (toInt32 n) cap = some [] := by
  have := toInt32_neg n h1 h2
  rw [hexDecodeM_spec, show evenSize (toInt32 n) = 0 from if_pos (by omega)]; rfl

example : (2 : Nat) ^ 31 ≤ 2 ^ 31 + 5 ∧ 2 ^ 31 + 5 < (2 : Nat) ^ 32 := by decide

/-! ## in place: `hexascii_decode(buf, size, buf)` -/

/-- decoding into the buffer that holds the text works: every pair is loaded
before its byte is stored and the store offset `k` never passes the load offset
`2k`.  Afterwards the first `size/2` bytes are the decoding of the ORIGINAL
text, everything behind them is unchanged. -/
theorem hexDecodeInPlaceM_eq (buf : List Byte) (size : Nat) (h : size ≤ buf.length) :
    hexDecodeInPlaceM buf size = some (hexDecode (buf.take size) ++ buf.drop (size / 2)) := by
  have inv := decInPlace_inv (size / 2) [] [] buf rfl (by omega)
  simp only [List.length_nil, List.nil_append] at inv
  rw [hexDecodeInPlaceM_loop, evenSize_toNat, Int.toNat_natCast, Nat.mul_div_cancel_left _ (by decide : 0 < 2), inv,
    hexDecode_take buf size h]

example : hexDecodeInPlaceM [0x61#8, 0x42#8, 0x33#8, 0x39#8, 0x7A#8] 4 = some [0xAB#8, 0x39#8, 0x33#8, 0x39#8, 0x7A#8] := by decide

/-! ## access.h on either byte order -/

/-- `uintN_to_hex` writes the same text whichever branch of access.h is compiled … -/
theorem uint16ToHexE_endian (e : Endian) (v : BitVec 16) : uint16ToHexE e v = uint16ToHex v := by
  simp [uint16ToHexE, uint16ToHex, laneHex_eq]
theorem uint32ToHexE_endian (e : Endian) (v : BitVec 32) : uint32ToHexE e v = uint32ToHex v := by
  simp [uint32ToHexE, uint32ToHex, laneHex_eq]
theorem uint64ToHexE_endian (e : Endian) (v : BitVec 64) : uint64ToHexE e v = uint64ToHex v := by
  simp [uint64ToHexE, uint64ToHex, laneHex_eq]

/-- … and `hex_to_uintN` returns the same value -/
theorem hexToUint16E_endian (e : Endian) (t : List Byte) : hexToUint16E e t = hexToUint16 t := by
  cases e <;> rfl
theorem hexToUint32E_endian (e : Endian) (t : List Byte) : hexToUint32E e t = hexToUint32 t := by
  cases e <;> rfl
theorem hexToUint64E_endian (e : Endian) (t : List Byte) : hexToUint64E e t = hexToUint64 t := by
  cases e <;> rfl

/-- the offsets of the two branches (the harness prints those of the compiled one) -/
theorem laneOffsets_values :
    laneOffsets .little = [1, 0, 3, 2, 1, 0, 7, 6, 5, 4, 3, 2, 1, 0] ∧
    laneOffsets .big = [0, 1, 0, 1, 2, 3, 0, 1, 2, 3, 4, 5, 6, 7] := by decide

/-! ## accumulator forms used by the driver on long inputs -/

theorem hexEncodeFast_eq (data : List Byte) : hexEncodeFast data = hexEncode data := by
  simp [hexEncodeFast, hexEncodeTR_eq]
theorem hexDecodeFast_eq (s : List Byte) : hexDecodeFast s = hexDecode s := by
  simp [hexDecodeFast, decPairsTR_eq, hexDecode_eq_decPairs]
theorem b64EncodeFast_eq (data : List Byte) : b64EncodeFast data = b64Encode data := by
  simp [b64EncodeFast, b64EncodeTR_eq]
theorem b64DecodeFast_eq (s : List Byte) : b64DecodeFast s = b64Decode s := by
  have h := decLoopTR_eq s [] []
  simp only [List.reverse_nil] at h
  simp only [b64DecodeFast, b64Decode, h, List.reverse_reverse]

/-! ## the fixed-width parsers on a mapped buffer (`hexAt` reads with `getD`; these forms fault instead) -/

/-- `hex_to_uint8(hex)` completes ⇔ 2 characters are mapped at `hex`; then it is `hexToUint8` -/
theorem hexToUint8M_eq (t : List Byte) :
    hexToUint8M t = if 2 ≤ t.length then some (hexToUint8 t) else none := by
  by_cases h : 2 ≤ t.length
  · simp [hexToUint8M, hexToUint8, hexAtM_mapped h, h]
  · simp [hexToUint8M, hexAtM_unmapped (show t.length < 0 + 2 by omega), h]

/-- `hex_to_uint16(hex)` completes ⇔ 4 characters are mapped -/
theorem hexToUint16M_eq (t : List Byte) :
    hexToUint16M t = if 4 ≤ t.length then some (hexToUint16 t) else none := by
  by_cases h : 4 ≤ t.length
  · simp [hexToUint16M, hexToUint16, hexAtM_mapped h, h]
  · simp [hexToUint16M, hexAtM_unmapped (show t.length < 2 + 2 by omega), h]

/-- `hex_to_uint32(hex)` completes ⇔ 8 characters are mapped -/
theorem hexToUint32M_eq (t : List Byte) :
    hexToUint32M t = if 8 ≤ t.length then some (hexToUint32 t) else none := by
  by_cases h : 8 ≤ t.length
  · simp [hexToUint32M, hexToUint32, hexAtM_mapped h, h]
  · simp [hexToUint32M, hexAtM_unmapped (show t.length < 6 + 2 by omega), h]

/-- `hex_to_uint64(hex)` completes ⇔ 16 characters are mapped -/
theorem hexToUint64M_eq (t : List Byte) :
    hexToUint64M t = if 16 ≤ t.length then some (hexToUint64 t) else none := by
  by_cases h : 16 ≤ t.length
  · simp [hexToUint64M, hexToUint64, hexAtM_mapped h, h]
  · simp [hexToUint64M, hexAtM_unmapped (show t.length < 14 + 2 by omega), h]

/-- nothing behind the `2·sizeof` characters is used: a longer buffer gives the same value -/
theorem hexToUint8_prefix (t r : List Byte) (hl : t.length = 2) : hexToUint8 (t ++ r) = hexToUint8 t := by
  simp only [hexToUint8, hexAt_append t r 0 (by omega)]
theorem hexToUint16_prefix (t r : List Byte) (hl : t.length = 4) : hexToUint16 (t ++ r) = hexToUint16 t := by
  have ha : ∀ i, i ≤ 2 → hexAt (t ++ r) i = hexAt t i := fun i hi => hexAt_append t r i (by omega)
  simp [hexToUint16, ha]
theorem hexToUint32_prefix (t r : List Byte) (hl : t.length = 8) : hexToUint32 (t ++ r) = hexToUint32 t := by
  have ha : ∀ i, i ≤ 6 → hexAt (t ++ r) i = hexAt t i := fun i hi => hexAt_append t r i (by omega)
  simp [hexToUint32, ha]
theorem hexToUint64_prefix (t r : List Byte) (hl : t.length = 16) : hexToUint64 (t ++ r) = hexToUint64 t := by
  have ha : ∀ i, i ≤ 14 → hexAt (t ++ r) i = hexAt t i := fun i hi => hexAt_append t r i (by omega)
  simp [hexToUint64, ha]

example : hexToUint16M [0x61, 0x42, 0x33, 0x44] = some 0xAB3D#16 ∧ hexToUint16M [0x61, 0x42, 0x33] = none := by decide
example : hexToUint16 ([0x61, 0x42, 0x33, 0x44] ++ [0x46, 0x46]) = 0xAB3D#16 := by decide

/-! ## the domains of the "encode ∘ decode = id" theorems, exactly

`hexDecode_accepts` and `hex_uintN_inverse` carry the hypothesis "upper-case hex digits (and the right length)".
These are not merely sufficient: outside them the composition never gives the text back. -/

/-- `hexascii_encode(hexascii_decode t) = t` ⇔ `t` has even length and consists of `0-9A-F` (every text) -/
theorem hexDecode_accepts_iff (s : List Byte) :
    hexEncode (hexDecode s) = s ↔ s.length % 2 = 0 ∧ ∀ c ∈ s, IsUpperHex c := by
  constructor
  · intro h
    refine ⟨?_, by rw [← h]; exact hexEncode_alphabet _⟩
    have := congrArg List.length h
    rw [hexEncode_length, hexDecode_length] at this
    omega
  · intro ⟨hl, hc⟩; exact hexDecode_accepts s hc hl

theorem hex_uint8_inverse_iff (t : List Byte) (hl : t.length = 2) :
    uint8ToHex (hexToUint8 t) = t ↔ ∀ c ∈ t, IsUpperHex c :=
  ⟨fun h => h ▸ (uint8ToHex_alphabet _).2, fun hc => hex_uint8_inverse t hc hl⟩
theorem hex_uint16_inverse_iff (t : List Byte) (hl : t.length = 4) :
    uint16ToHex (hexToUint16 t) = t ↔ ∀ c ∈ t, IsUpperHex c :=
  ⟨fun h => h ▸ (uint16ToHex_alphabet _).2, fun hc => hex_uint16_inverse t hc hl⟩
theorem hex_uint32_inverse_iff (t : List Byte) (hl : t.length = 8) :
    uint32ToHex (hexToUint32 t) = t ↔ ∀ c ∈ t, IsUpperHex c :=
  ⟨fun h => h ▸ (uint32ToHex_alphabet _).2, fun hc => hex_uint32_inverse t hc hl⟩
theorem hex_uint64_inverse_iff (t : List Byte) (hl : t.length = 16) :
    uint64ToHex (hexToUint64 t) = t ↔ ∀ c ∈ t, IsUpperHex c :=
  ⟨fun h => h ▸ (uint64ToHex_alphabet _).2, fun hc => hex_uint64_inverse t hc hl⟩

-- both sides of the equivalences occur: "A9" is given back, "a9" and "A9A" are not
example : hexEncode (hexDecode [0x41, 0x39]) = [0x41, 0x39] ∧ hexEncode (hexDecode [0x61, 0x39]) ≠ [0x61, 0x39] ∧
    hexEncode (hexDecode [0x41, 0x39, 0x41]) ≠ [0x41, 0x39, 0x41] := by decide

/-- base64: re-encoding the decoder's result gives the text back exactly on the encoder's range (canonical
texts) and nowhere else - together with `b64_roundtrip` the two routines are mutually inverse bijections between
all byte strings and the canonical texts -/
theorem b64_canonical_iff (t : List Byte) : b64Encode (b64Decode t) = t ↔ ∃ x, b64Encode x = t :=
  ⟨fun h => ⟨_, h⟩, fun ⟨x, hx⟩ => by rw [← hx, b64_roundtrip]⟩
theorem b64url_canonical_iff (t : List Byte) : b64urlEncode (b64urlDecode t) = t ↔ ∃ x, b64urlEncode x = t :=
  ⟨fun h => ⟨_, h⟩, fun ⟨x, hx⟩ => by rw [← hx, b64url_roundtrip]⟩

end Igris.C18
