/-
  C13 — totality, second part: `digitsOf` is cut into its phases; the straight-line one (rounding increment and carry, in
  closed form in `carryStep_cases`, then trailing-zero removal and renormalisation) keeps every value finite, so `digitsOf`
  never ends in `undef`/`diverged` for a finite representable argument whose magnitude the loop bound covers, at every
  precision from 0 to `INT_MAX` (`digitsOf_total`).
-/
import IgrisModel.C13.Total
namespace Igris.C13
open Igris.C06 (Ops NUL)

section
variable {rnd : Rounding} (L : Lawful rnd) (p : Nat → Nat → FV)
include L

theorem rnd_bound {q v : ℚ} (hq : 0 ≤ q) (hv : rnd q = some v) : 0 ≤ v ∧ L.small (v + 1) ∧ v ≤ q * (9 / 8) + 1 / 8 :=
  ⟨L.nonneg hq hv, L.rep_succ_small hv, by linarith only [(abs_le.mp (rnd_near L L.hu L.hd hq hv)).2]⟩

theorem add_nn {a b : ℚ} (ha : 0 ≤ a) (hb : 0 ≤ b) (hs : L.small (a + b)) :
    ∃ v, (arithP rnd p).add (.fin false a) (.fin false b) = .fin false v ∧ 0 ≤ v ∧ L.small (v + 1) ∧
      v ≤ (a + b) * (9 / 8) + 1 / 8 ∧ rnd (a + b) = some v := by
  simp only [arithP_add, FV.add, FV.sval, Bool.false_eq_true, if_false]
  by_cases h0 : a + b = 0
  · refine ⟨0, by simp [h0], le_refl _, ?_, by rw [h0]; norm_num, ?_⟩
    · have := small_nat L 0 (by norm_num); simpa using this
    · rw [h0]; exact rnd_zero L
  · have hpos : 0 < a + b := lt_of_le_of_ne (by linarith only [ha, hb]) (Ne.symm h0)
    simp only [h0, if_false, not_lt.mpr (le_of_lt hpos)]
    obtain ⟨v, hv⟩ := L.rnd_small hs
    obtain ⟨h1, h2, h3⟩ := rnd_bound L (le_of_lt hpos) hv
    exact ⟨v, by simp [FV.mk, hv], h1, h2, h3, hv⟩

/-- what the fraction loop keeps of its value.  The 30: `renorm_inv` needs 17 (the carried integer part, at most 16, and 1
are added to the fraction), `scale_pass` can keep at most the 32 of `nonint_small` -/
def Rq (L : Lawful rnd) (w : ℚ) : Prop := rnd w = some w ∧ 0 ≤ w ∧ L.small (w + 30)

/-- the test of the fraction loop, `FMOD(fp, 1.0L) != 0.0L`: is the value an integer? -/
theorem scale_test (m : ℚ) :
    (arithP rnd p).ne ((arithP rnd p).fmod (.fin false m) (arithP rnd p).one) (arithP rnd p).zero
      = !decide (FV.flr m = m) := by
  rw [one_eq L p, zero_eq L p]
  simp only [Arith.ne, arithP_eq, arithP_fmod, FV.fmod]
  have h1 : (1 : ℚ) ≠ 0 := by norm_num
  simp only [h1, if_false, eq_fin, FV.sval, Bool.false_eq_true]
  congr 1
  apply decide_eq_decide.mpr
  simp only [div_one, mul_one]
  constructor
  · intro h; linarith
  · intro h; linarith

theorem nonint_of_ne {m : ℚ}
    (hne : (arithP rnd p).ne ((arithP rnd p).fmod (.fin false m) (arithP rnd p).one) (arithP rnd p).zero = true) :
    FV.flr m ≠ m := by
  rw [scale_test L p] at hne
  simpa using hne

/-- one pass `fp *= base` of the fraction loop, on a non-integer value: the product is in range because a
representable non-integer is small (`nonint_small`) -/
theorem scale_pass {m : ℚ} (hR : Rq L m) (hni : FV.flr m ≠ m) :
    ∃ v, (arithP rnd p).mul (.fin false m) (arithP rnd p).ten = .fin false v ∧ Rq L v ∧ 8 * m ≤ v ∧
      (L.d ≤ m * L.u → |v - m * 10| ≤ m * 10 * L.u) := by
  obtain ⟨hm, hm0, hms⟩ := hR
  have hsm := L.nonint_small hm (by unfold FV.flr at hni; exact hni)
  have hmpos : 0 < m := lt_of_le_of_ne hm0 (fun h => hni (by rw [← h]; exact flr_zero))
  obtain ⟨v, hv, hmul, h8, h12, hrel⟩ := mul10_pass L p hm hmpos (L.small_down hsm (by linarith only [hm0]))
  refine ⟨v, hmul, ⟨L.idem hv, L.nonneg (by linarith only [hm0]) hv, L.small_down hsm (by linarith only [h12])⟩, h8,
    fun hd => hrel ?_⟩
  have : 0 ≤ m * L.u := mul_nonneg hm0 L.hu0
  linarith only [hd, this]

/-- the fraction loop `for (…; FMOD(fp, 1.0L) != 0.0L; ++sign_count) fp *= base`, at most `n` passes -/
theorem scaleLoop_run : ∀ (n sc : ℕ) (m : ℚ), Rq L m →
    ∃ (j : ℕ) (w : ℚ), scaleLoop (arithP rnd p) n sc (.fin false m) = (sc + j, .fin false w) ∧ j ≤ n ∧ Rq L w ∧
      (j = n ∨ FV.flr w = w) ∧ ((m = 0 ∨ L.d ≤ m * L.u) → Within j L.u w (m * 10 ^ j)) := by
  intro n
  induction n with
  | zero => intro sc m h; exact ⟨0, m, rfl, le_refl _, h, Or.inl rfl, fun _ => by simpa using Within.refl L.u m⟩
  | succ n ih =>
    intro sc m h
    unfold scaleLoop
    rw [scale_test L p m]
    by_cases hint : FV.flr m = m
    · simp only [hint, decide_true, Bool.not_true, Bool.false_eq_true, if_false]
      exact ⟨0, m, rfl, Nat.zero_le _, h, Or.inr hint, fun _ => by simpa using Within.refl L.u m⟩
    · simp only [hint, decide_false, Bool.not_false, if_true]
      obtain ⟨v, hmul, hRv, h8, hrel⟩ := scale_pass L p h hint
      rw [hmul]
      obtain ⟨j, w, hrun, hj, hRq, hfin, hwi⟩ := ih (sc + 1) v hRv
      refine ⟨j + 1, w, by rw [hrun]; congr 1; omega, by omega, hRq, ?_, fun hd => ?_⟩
      · rcases hfin with h | h
        · left; omega
        · right; exact h
      · have hdm : L.d ≤ m * L.u := hd.resolve_left fun h0 => hint (by rw [h0]; exact flr_zero)
        have : m * L.u ≤ v * L.u := mul_le_mul_of_nonneg_right (by linarith only [h8, h.2.1]) L.hu0
        exact Within.cons L.hu0 (lawful_u_le_one L) (by norm_num) (hrel hdm) (hwi (Or.inr (le_trans hdm this)))

theorem scaleLoop_inv : ∀ (n sc : ℕ) (m : ℚ), Rq L m →
    ∃ w, (scaleLoop (arithP rnd p) n sc (.fin false m)).2 = .fin false w ∧ Rq L w := by
  intro n sc m h
  obtain ⟨j, w, hrun, _, hRq, _⟩ := scaleLoop_run L p n sc m h
  exact ⟨w, by rw [hrun], hRq⟩

theorem stripLoop_inv (B : ℚ) (hB : L.small B) : ∀ (sc : ℕ) (b : ℚ), 0 ≤ b → b ≤ B → 1 / 4 ≤ B →
    ∃ b', (stripLoop (arithP rnd p) sc (.fin false b)).2 = .fin false b' ∧ 0 ≤ b' ∧ b' ≤ B := by
  intro sc
  induction sc with
  | zero => intro b h0 hb _; exact ⟨b, rfl, h0, hb⟩
  | succ n ih =>
    intro b h0 hb hB4
    unfold stripLoop
    split
    · obtain ⟨w, hdiv, hw0, _, hrw⟩ := div_ten L p (n := false) h0 (L.small_down hB hb)
      rw [hdiv]
      refine ih w hw0 ?_ hB4
      linarith only [(abs_le.mp (rnd_near L L.hu L.hd (by linarith only [h0] : (0:ℚ) ≤ b / 10) hrw)).2, hb, hB4]
    · exact ⟨b, rfl, h0, hb⟩

end

/- `digitsOf` cut into its phases; by `digitsOf_eq` below their composition is the same function. -/

def phase1 {α : Type} (A : Arith α) (fuel : Nat) (r : α) (P : Int) (withExp isShort : Bool) : M (α × α × α × Bool) :=
  let (fp, ip) := A.modf r
  if withExp || isShort then do
    let (ip, fp, ep) ← normDown A fuel ip fp A.zero
    let (ip, fp, ep) ← (if A.ne fp A.zero then normUp A fuel ip fp ep else pure (ip, fp, ep))
    let withExp := if A.lt ep (A.ofInt (-4)) || A.ge ep (A.ofInt P) then true else withExp
    pure (ip, fp, ep, withExp)
  else pure (ip, fp, A.zero, withExp)

def phase2 {α : Type} (A : Arith α) (isShort we : Bool) (ep : α) (P : Int) : M Int :=
  if isShort then (if we then pure (P - 1) else do
    let e ← toIntM A ep
    pure (P - (e + 1))) else pure P

def carryStep {α : Type} (A : Arith α) (cfg : Cfg) (ip fp : α) (precision : Int) : Nat × α × α :=
  let passes : Nat := if cfg.repaired then min precision.toNat cfg.fracMax else precision.toNat
  let S := scaleLoop A passes 0 fp
  let fpr := A.round S.2
  let pw := A.pow 10 S.1
  (S.1, (if precision ≠ 0 then (if A.ne fpr pw then ip else A.add ip A.one) else A.round (A.add ip fpr)),
    (if A.ne fpr pw then fpr else A.zero))

def stripStep {α : Type} (A : Arith α) (cfg : Cfg) (ops : Ops) (isShort : Bool) (sc : Nat) (fp : α) : Nat × α :=
  if cfg.repaired && isShort && !ops.spec then stripLoop A sc fp else (sc, fp)

def renormStep {α : Type} (A : Arith α) (we : Bool) (ip fp ep : α) : α × α × α :=
  if we && A.ge ip A.ten then
    ((A.modf (A.div (A.add ip fp) A.ten)).2, (A.modf (A.div (A.add ip fp) A.ten)).1, A.add ep A.one)
  else (ip, fp, ep)

theorem renormStep_false {α : Type} (A : Arith α) (ip fp ep : α) : renormStep A false ip fp ep = (ip, fp, ep) := rfl

def tailDigits {α : Type} (A : Arith α) (cfg : Cfg) (ops : Ops) (isShort we : Bool) (ep ip fp : α) (pr : Int) : Digits α :=
  let c := carryStep A cfg ip fp pr
  let s := stripStep A cfg ops isShort c.1 c.2.2
  let r := renormStep A we c.2.1 s.2 ep
  { ip := r.1, fp := r.2.1, ep := r.2.2, signCount := s.1, precision := pr, withExp := we }

theorem digitsOf_eq {α : Type} (A : Arith α) (cfg : Cfg) (fuel : Nat) (r : α) (precision : Int) (ops : Ops)
    (withExp isShort : Bool) :
    digitsOf A cfg fuel r precision ops withExp isShort =
      (phase1 A fuel r (if ops.prec then (if isShort then max precision 1 else precision) else 6) withExp isShort >>= fun q =>
        phase2 A isShort q.2.2.2 q.2.2.1 (if ops.prec then (if isShort then max precision 1 else precision) else 6) >>= fun pr =>
          pure (tailDigits A cfg ops isShort q.2.2.2 q.2.2.1
            (if q.2.2.2 then q.1 else (A.modf r).2) (if q.2.2.2 then q.2.1 else (A.modf r).1) pr)) := by
  unfold digitsOf phase1 phase2 tailDigits carryStep stripStep renormStep
  dsimp only
  congr 1
  funext q
  congr 1
  funext pr
  cases q.2.2.2 <;> rfl

/-- the precision in force for `%f` and `%e`: the given one, else `PRINT_F_PREC_DEFAULT` -/
theorem prec_bounds (ops : Ops) {precision B : ℤ} (hp0 : 0 ≤ precision) (hp1 : precision ≤ B) (hB : 6 ≤ B) :
    0 ≤ (if ops.prec then precision else 6 : ℤ) ∧ (if ops.prec then precision else 6 : ℤ) ≤ B := by
  split <;> constructor <;> omega

/-- `%f` and `%e`: without `%g` there is no trailing-zero removal between the carry and the renormalisation -/
theorem digitsOf_fe {α : Type} (A : Arith α) (cfg : Cfg) (fuel : Nat) (r : α) (precision : Int) (ops : Ops) (withExp : Bool)
    {ip fp ep : α} {we : Bool}
    (h : phase1 A fuel r (if ops.prec then precision else 6) withExp false = .ok (ip, fp, ep, we))
    (hsel : we = false → ip = (A.modf r).2 ∧ fp = (A.modf r).1) :
    digitsOf A cfg fuel r precision ops withExp false =
      .ok (let c := carryStep A cfg ip fp (if ops.prec then precision else 6)
           let n := renormStep A we c.2.1 c.2.2 ep
           { ip := n.1, fp := n.2.1, ep := n.2.2, signCount := c.1,
             precision := if ops.prec then precision else 6, withExp := we }) := by
  rw [digitsOf_eq]
  simp only [Bool.false_eq_true, if_false, h, bind, Except.bind, phase2, pure, Except.pure, tailDigits, stripStep,
    Bool.and_false, Bool.false_and]
  cases we
  · obtain ⟨h1, h2⟩ := hsel rfl
    simp only [Bool.false_eq_true, if_false, ← h1, ← h2]
  · rfl

section
variable {rnd : Rounding} (L : Lawful rnd) (p : Nat → Nat → FV)
include L

/-- **the normalisation phase** of `%e`/`%g`: `j1` divisions, then `j2` multiplications, not both more than once (what
the first loop leaves after a division is at least 7/8, and one multiplication lifts that to 1 or more) -/
theorem phase1_run (N fuel : ℕ) (x0 : ℚ) (P : ℤ) (withExp isShort : Bool) (hn : (withExp || isShort) = true)
    (hx : rnd x0 = some x0) (h0 : 0 ≤ x0) (hN : x0 < 10 * 8 ^ N) (hN' : x0 = 0 ∨ 1 ≤ x0 * 8 ^ N) (hf : N ≤ fuel)
    (hNb : N + 2 ≤ 2 ^ 30) (hP : P.natAbs ≤ 2 ^ 53) :
    ∃ (y : ℚ) (j1 j2 : ℕ),
      phase1 (arithP rnd p) fuel (.fin false x0) P withExp isShort =
        .ok (ipOf y, fpOf y, epv ((j1 : ℤ) - j2),
          if (decide ((j1 : ℤ) - j2 < -4) || decide ((j1 : ℤ) - j2 ≥ P)) = true then true else withExp) ∧
      rnd y = some y ∧ 0 ≤ y ∧ y < 12 ∧ j1 ≤ N ∧ j2 ≤ N ∧ (j1 = 0 ∨ j2 ≤ 1) ∧
      (x0 = 0 → y = 0 ∧ j1 = 0 ∧ j2 = 0) ∧ (0 < x0 → 1 ≤ y) ∧
      ((∀ v w, rnd v = some v → 0 ≤ v → v < 1 → rnd (v * 10) = some w → w < 10) → y < 10) ∧
      (0 < x0 → L.d ≤ L.u → L.d ≤ x0 * L.u → Within (j1 + j2) L.u y (x0 / 10 ^ j1 * 10 ^ j2)) := by
  unfold phase1
  simp only [arithP_modf, modf_fin, hn, if_true]
  obtain ⟨x1, j1, hj1, hx1, h01, hlt1, hj0, hjp, hrun1, hw1, hjz⟩ :=
    normDown_run L p N fuel x0 0 hf hx h0 hN (by omega)
  have hz : (arithP rnd p).zero = epv ((0 : ℕ) : ℤ) := by rw [zero_eq L p]; exact (epv_zero L).symm
  rw [hz, hrun1]
  simp only [bind, Except.bind]
  have hlt : ∀ e : ℤ, (arithP rnd p).lt (epv e) ((arithP rnd p).ofInt (-4)) = decide (e < -4) := by
    intro e; rw [ofInt_epv L p (-4) (by norm_num)]; simp only [arithP_lt]; exact lt_epv e (-4)
  have hge : ∀ e : ℤ, (arithP rnd p).ge (epv e) ((arithP rnd p).ofInt P) = decide (e ≥ P) := by
    intro e; rw [ofInt_epv L p P hP]; simp only [arithP_ge]; exact ge_epv e P
  rw [← hz, ne_fp L p x1]
  have hx1pos : 0 < x0 → 0 < x1 := by
    intro hpos
    rcases Nat.eq_zero_or_pos j1 with hj | hj
    · rw [hj0 hj]; exact hpos
    · have := hjp hj; linarith
  by_cases hfz : x1 - FV.flr x1 = 0
  · -- the fraction is zero: no second loop, the value is an integer below 10
    simp only [hfz, decide_true, Bool.not_true, Bool.false_eq_true, if_false, pure, Except.pure, hlt, hge]
    refine ⟨x1, j1, 0, by simp, hx1, h01, by linarith, hj1, Nat.zero_le _, Or.inr (Nat.zero_le _),
      fun hx0 => ?_, fun hpos => ?_, fun _ => hlt1, fun _ hdu _ => by simpa using hw1 hdu⟩
    · have hj := hjz (by rw [hx0]; norm_num)
      exact ⟨by rw [hj0 hj, hx0], hj, rfl⟩
    · by_contra hc
      rw [(flr_eq_zero_iff h01).mpr (not_le.mp hc)] at hfz
      linarith [hx1pos hpos]
  · simp only [hfz, decide_false, Bool.not_false, if_true]
    have hxp : 0 < x1 := by
      rcases lt_or_eq_of_le h01 with h | h
      · exact h
      · exfalso; apply hfz; rw [← h, flr_zero]; ring
    have hx0pos : 0 < x0 := by
      rcases lt_or_eq_of_le h0 with h | h
      · exact h
      · exfalso
        have hj := hjz (by rw [← h]; norm_num)
        rw [hj0 hj, ← h] at hxp; exact lt_irrefl _ hxp
    have hb1 : 1 ≤ x1 * 8 ^ N := by
      rcases Nat.eq_zero_or_pos j1 with hj | hj
      · rw [hj0 hj]
        rcases hN' with h | h
        · linarith
        · exact h
      · have h78 := hjp hj
        have hN1 : 1 ≤ N := by omega
        have : (8 : ℚ) ^ 1 ≤ 8 ^ N := pow_le_pow_right₀ (by norm_num) hN1
        have := mul_le_mul h78 this (by norm_num) (by linarith only [h78])
        linarith only [this]
    obtain ⟨x2, j2, hj2, hx2, h12, hlt2, _, _, hj21, hten2, hrun2, hw2⟩ :=
      normUp_run L p N fuel x1 ((0 + j1 : ℕ) : ℤ) hf hx1 hxp hb1 (by omega) (by linarith)
    rw [hrun2]
    simp only [pure, Except.pure, hlt, hge]
    refine ⟨x2, j1, j2, by simp, hx2, by linarith, hlt2, hj1, hj2, ?_, fun h => absurd h (ne_of_gt hx0pos),
      fun _ => h12, fun ht => hten2 hlt1 ht, fun _ hdu hdn => ?_⟩
    · rcases Nat.eq_zero_or_pos j1 with hj | hj
      · exact Or.inl hj
      · exact Or.inr (hj21 (hjp hj))
    · have hdn1 : L.d ≤ x1 * 10 * L.u := by
        rcases Nat.eq_zero_or_pos j1 with hj | hj
        · rw [hj0 hj]
          have : 0 ≤ x0 * L.u := mul_nonneg h0 L.hu0
          linarith
        · have h78 := hjp hj
          have : 1 * L.u ≤ x1 * 10 * L.u := mul_le_mul_of_nonneg_right (by linarith) L.hu0
          linarith
      exact Within.trans L.hu0 (lawful_u_le_one L) (by positivity) (hw1 hdu) (hw2 hdn1)

/-- `%f`: no normalisation -/
theorem phase1_plain (fuel : ℕ) (x0 : ℚ) (P : ℤ) :
    phase1 (arithP rnd p) fuel (.fin false x0) P false false = .ok (ipOf x0, fpOf x0, epv 0, false) := by
  unfold phase1
  simp only [arithP_modf, modf_fin, Bool.or_false, Bool.false_eq_true, if_false, pure, Except.pure, zero_eq L p]
  rw [epv_zero L]

omit L in
theorem we_false {e P : ℤ} {w : Bool}
    (h : (if (decide (e < -4) || decide (e ≥ P)) = true then true else w) = false) : -4 ≤ e ∧ e < P := by
  by_cases c1 : e < -4 <;> by_cases c2 : e ≥ P <;> simp [c1, c2] at h <;> omega

/-- what the first phase hands on, with or without normalisation -/
theorem phase1_all (N fuel : ℕ) (x0 : ℚ) (P : ℤ) (withExp isShort : Bool)
    (hx : rnd x0 = some x0) (h0 : 0 ≤ x0) (hN : x0 < 10 * 8 ^ N) (hN' : x0 = 0 ∨ 1 ≤ x0 * 8 ^ N) (hf : N ≤ fuel)
    (hNb : N + 2 ≤ 2 ^ 30) (hP : P.natAbs ≤ 2 ^ 53) :
    ∃ (y : ℚ) (e : ℤ) (we : Bool),
      phase1 (arithP rnd p) fuel (.fin false x0) P withExp isShort = .ok (ipOf y, fpOf y, epv e, we) ∧
      rnd y = some y ∧ 0 ≤ y ∧ e.natAbs ≤ N ∧ (isShort = true → we = false → -4 ≤ e ∧ e < P) ∧ (we = true → y < 12) ∧
      ((withExp || isShort) = true → (0 < x0 → 1 ≤ y) ∧ (x0 = 0 → y = 0 ∧ e = 0) ∧ (isShort = false → we = true) ∧
        ((∀ v w, rnd v = some v → 0 ≤ v → v < 1 → rnd (v * 10) = some w → w < 10) → y < 10)) ∧
      ((withExp || isShort) = false → y = x0 ∧ e = 0 ∧ we = false) := by
  by_cases hb : (withExp || isShort) = true
  · obtain ⟨y, j1, j2, hq, hy, hy0, hy12, hj1, hj2, _, hzero, hpos, hy10, _⟩ :=
      phase1_run L p N fuel x0 P withExp isShort hb hx h0 hN hN' hf hNb hP
    refine ⟨y, _, _, hq, hy, hy0, by omega, fun _ hwe => we_false hwe, fun _ => hy12, fun _ => ⟨hpos, fun hz => ?_, fun hs => ?_, hy10⟩,
      fun h => by rw [hb] at h; exact absurd h (by simp)⟩
    · obtain ⟨e1, e2, e3⟩ := hzero hz
      exact ⟨e1, by rw [e2, e3]; rfl⟩
    · have : withExp = true := by rw [hs] at hb; simpa using hb
      rw [this]; simp
  · have hwf : withExp = false := by cases withExp <;> simp_all
    have hsf : isShort = false := by cases isShort <;> simp_all
    subst hwf hsf
    exact ⟨x0, 0, false, phase1_plain L p fuel x0 P, hx, h0, by omega, fun h => by simp at h, fun h => by simp at h,
      fun h => by simp at h, fun _ => ⟨rfl, rfl, rfl⟩⟩

theorem rq_frac {y : ℚ} (hy : rnd y = some y) (hy0 : 0 ≤ y) : Rq L (y - FV.flr y) := by
  have h1 := flr_le y
  have h2 := lt_flr_add_one y
  refine ⟨L.rep_frac hy0 hy, by linarith, ?_⟩
  exact L.small_down (small_nat L 30 (by norm_num)) (by push_cast; linarith)

theorem carry_sum_nat {i : ℕ} (hi : i + 1 ≤ 2 ^ 53) {w v : ℚ} (hw0 : 0 ≤ w) (pr : ℤ) (hw1 : pr = 0 → w < 1)
    (hv : rnd ((i : ℚ) + (if pr = 0 then FV.flr (w + 1 / 2) else 1)) = some v) :
    ∃ t : ℕ, t ≤ 1 ∧ (if pr = 0 then FV.flr (w + 1 / 2) else 1 : ℚ) = t ∧ (pr ≠ 0 → t = 1) ∧ v = ((i + t : ℕ) : ℚ) ∧
      FV.flr (v + 1 / 2) = v := by
  obtain ⟨t, ht, ht1, htp⟩ : ∃ t : ℕ, (if pr = 0 then FV.flr (w + 1 / 2) else 1 : ℚ) = t ∧ t ≤ 1 ∧ (pr ≠ 0 → t = 1) := by
    split
    · rename_i h
      obtain ⟨t, ht, ht2⟩ := flr_nat_lt (x := w + 1 / 2) (n := 2) (by linarith only [hw0])
        (by push_cast; linarith only [hw1 h])
      exact ⟨t, ht, by omega, fun h' => absurd h h'⟩
    · exact ⟨1, by norm_num, le_refl _, fun _ => rfl⟩
  rw [ht] at hv
  have hvn := rnd_nat L (n := i + t) (by omega) (by push_cast; exact hv)
  exact ⟨t, ht1, ht, htp, hvn, by rw [hvn]; exact flr_eq_nat (by linarith only []) (by linarith only [])⟩

/-- **the rounding step and the carry of `print_f` in closed form**, for a representable `y`: `(j, w)` is what the fraction
loop returns (`scaleLoop_run`), `⌊w + 1/2⌋` is `roundl(fp)`, `c` the outcome of the test `fp != POW(base, sign_count)`
(true: no carry), `v` the one rounded sum the step may need (`ip + 1.0`; at precision 0 `ip + roundl(fp)`).  What totality,
the error bound and the shape proof need of `carryStep` are readings of this. -/
theorem carryStep_cases (cfg : Cfg) (hr : cfg.repaired = true) {y : ℚ} (hy : rnd y = some y) (hy0 : 0 ≤ y) (pr : ℤ) :
    ∃ (j : ℕ) (w v : ℚ) (c : Bool),
      j ≤ min pr.toNat cfg.fracMax ∧ Rq L w ∧ (j = min pr.toNat cfg.fracMax ∨ FV.flr w = w) ∧
      ((y - FV.flr y = 0 ∨ L.d ≤ (y - FV.flr y) * L.u) → Within j L.u w ((y - FV.flr y) * 10 ^ j)) ∧
      (pr = 0 → w = y - FV.flr y) ∧
      c = (arithP rnd p).ne (.fin false (FV.flr (w + 1 / 2))) (p 10 j) ∧
      rnd (FV.flr y + (if pr = 0 then FV.flr (w + 1 / 2) else 1)) = some v ∧
      carryStep (arithP rnd p) cfg (ipOf y) (fpOf y) pr =
        (j, .fin false (if pr = 0 then FV.flr (v + 1 / 2) else if c then FV.flr y else v),
            .fin false (if c then FV.flr (w + 1 / 2) else 0)) := by
  have hf1 := flr_le y
  obtain ⟨j, w, hS, hj, hRq, hfin, hwi⟩ :=
    scaleLoop_run L p (min pr.toNat cfg.fracMax) 0 (y - FV.flr y) (rq_frac L hy hy0)
  have hS' : scaleLoop (arithP rnd p) (min pr.toNat cfg.fracMax) 0 (fpOf y) = (j, .fin false w) := by
    rw [zero_add] at hS; exact hS
  have hw : pr = 0 → w = y - FV.flr y := by
    intro h; subst h
    simp [scaleLoop, fpOf] at hS'; exact hS'.2.symm
  have hF0 : 0 ≤ FV.flr (w + 1 / 2) := flr_nonneg (by linarith only [hRq.2.1])
  have hF1 := flr_le (w + 1 / 2)
  obtain ⟨v, hadd, _, _, _, hv⟩ := add_nn L p (flr_nonneg hy0)
    (show 0 ≤ (if pr = 0 then FV.flr (w + 1 / 2) else 1 : ℚ) by split <;> [exact hF0; norm_num])
    (L.small_down (L.rep_succ_small hy) (by
      split
      · rename_i h; have := hw h; linarith only [hF1, this]
      · linarith only [hf1]))
  refine ⟨j, w, v, _, hj, hRq, hfin, hwi, hw, rfl, hv, ?_⟩
  unfold carryStep
  simp only [hr, if_true, hS', arithP_round, round_fin, arithP_pow]
  by_cases hpr : pr = 0
  · simp only [hpr, if_true, ne_eq, not_true_eq_false, if_false] at hadd ⊢
    rw [show (arithP rnd p).add (ipOf y) (.fin false (FV.flr (w + 1 / 2))) = .fin false v from hadd, round_fin, zero_eq L p]
    generalize (arithP rnd p).ne _ _ = c
    cases c <;> rfl
  · simp only [hpr, if_false, ne_eq, not_false_eq_true, if_true] at hadd ⊢
    rw [show (arithP rnd p).add (ipOf y) (arithP rnd p).one = .fin false v by rw [one_eq L p]; exact hadd, zero_eq L p]
    generalize (arithP rnd p).ne _ _ = c
    cases c <;> rfl

theorem carry_inv (cfg : Cfg) (hr : cfg.repaired = true) {y : ℚ} (hy : rnd y = some y) (hy0 : 0 ≤ y) (pr : ℤ) :
    ∃ (sc : ℕ) (w a b : ℚ), carryStep (arithP rnd p) cfg (ipOf y) (fpOf y) pr = (sc, .fin false a, .fin false b) ∧
      Rq L w ∧ 0 ≤ a ∧ L.small a ∧ (y < 12 → a ≤ 16) ∧ 0 ≤ b ∧ b ≤ w + 1 / 2 := by
  obtain ⟨j, w, v, c, _, hRq, _, _, hw, _, hv, hc⟩ := carryStep_cases L p cfg hr hy hy0 pr
  have hf1 := flr_le y
  have hf0 := flr_nonneg hy0
  have hF0 : 0 ≤ FV.flr (w + 1 / 2) := flr_nonneg (by linarith only [hRq.2.1])
  have hF1 := flr_le (w + 1 / 2)
  have ha1 := flr_le (v + 1 / 2)
  have hsy : L.small (y + 1) := L.rep_succ_small hy
  refine ⟨j, w, _, _, hc, hRq, ?_⟩
  by_cases hpr : pr = 0
  · have hwy := hw hpr
    simp only [hpr, if_true] at hv ⊢
    obtain ⟨hv0, hvs, hvb⟩ := rnd_bound L (add_nonneg hf0 hF0) hv
    refine ⟨flr_nonneg (by linarith only [hv0]), L.small_down hvs (by linarith only [ha1]),
      fun h12 => by linarith only [ha1, hvb, hF1, hwy, h12], ?_⟩
    cases c <;> simp only [if_true, if_false, Bool.false_eq_true] <;> constructor <;> linarith only [hF0, hF1, hRq.2.1]
  · simp only [hpr, if_false] at hv ⊢
    obtain ⟨hv0, hvs, hvb⟩ := rnd_bound L (add_nonneg hf0 zero_le_one) hv
    cases c <;> simp only [if_true, if_false, Bool.false_eq_true]
    · exact ⟨hv0, L.small_down hvs (by linarith only []), fun h => by linarith only [hvb, hf1, h], le_refl _,
        by linarith only [hRq.2.1]⟩
    · exact ⟨hf0, L.small_down hsy (by linarith only [hf1]), fun h => by linarith only [hf1, h], hF0, hF1⟩

theorem strip_inv (cfg : Cfg) (ops : Ops) (isShort : Bool) (sc : ℕ) {w b : ℚ} (hw : Rq L w) (hb0 : 0 ≤ b)
    (hb : b ≤ w + 1 / 2) :
    ∃ (sc' : ℕ) (b' : ℚ), stripStep (arithP rnd p) cfg ops isShort sc (.fin false b) = (sc', .fin false b') ∧
      0 ≤ b' ∧ b' ≤ w + 1 := by
  unfold stripStep
  split
  · obtain ⟨b', h1, h2, h3⟩ := stripLoop_inv L p (w + 1) (L.small_down hw.2.2 (by linarith)) sc b hb0
      (by linarith) (by linarith [hw.2.1])
    exact ⟨_, b', Prod.ext rfl h1, h2, h3⟩
  · exact ⟨sc, b, rfl, hb0, by linarith⟩

theorem modf_add_div_ten {a b : ℚ} (ha0 : 0 ≤ a) (hb0 : 0 ≤ b) (hs : L.small (a + b)) :
    ∃ v w, rnd (a + b) = some v ∧ rnd (v / 10) = some w ∧ 0 ≤ v ∧ 0 ≤ w ∧ L.small w ∧
      (arithP rnd p).modf ((arithP rnd p).div ((arithP rnd p).add (.fin false a) (.fin false b)) (arithP rnd p).ten)
        = (fpOf w, ipOf w) := by
  obtain ⟨v, hadd, hv0, hvs, _, hrv⟩ := add_nn L p ha0 hb0 hs
  obtain ⟨w, hdiv, hw0, hws, hrw⟩ := div_ten L p (n := false) hv0 (L.small_down hvs (by linarith))
  exact ⟨v, w, hrv, hrw, hv0, hw0, hws, by rw [hadd, hdiv]; rfl⟩

theorem renorm_inv (we : Bool) {a b w : ℚ} (e : ℤ) (he : e.natAbs + 1 ≤ 2 ^ 53) (hw : Rq L w) (ha0 : 0 ≤ a)
    (has : L.small a) (ha : we = true → a ≤ 16) (hb0 : 0 ≤ b) (hb : b ≤ w + 1) :
    ∃ ip fp ep, renormStep (arithP rnd p) we (.fin false a) (.fin false b) (epv e) = (ip, fp, ep) ∧
      NN L ip ∧ NN L fp ∧ FinS L ep := by
  unfold renormStep
  have hbs : L.small b := L.small_down hw.2.2 (by linarith)
  split
  · rename_i hc
    have hwe : we = true := by cases we <;> simp_all
    obtain ⟨v, w2, _, _, _, hw20, hw2s, hm⟩ :=
      modf_add_div_ten L p ha0 hb0 (L.small_down hw.2.2 (by linarith [ha hwe]))
    rw [hm, epv_succ L p e (by omega)]
    have h1 := flr_le w2
    have h2 := flr_nonneg hw20
    exact ⟨_, _, _, rfl, ⟨_, rfl, h2, L.small_down hw2s h1⟩, ⟨_, rfl, by linarith, L.small_down hw2s (by linarith)⟩,
      finS_epv L _ (by omega)⟩
  · exact ⟨_, _, _, rfl, ⟨a, rfl, ha0, has⟩, ⟨b, rfl, hb0, hbs⟩, finS_epv L _ (by omega)⟩

theorem tail_inv (cfg : Cfg) (hr : cfg.repaired = true) (ops : Ops) (isShort we : Bool) {y : ℚ} (e pr : ℤ)
    (hy : rnd y = some y) (hy0 : 0 ≤ y) (hwe : we = true → y < 12) (he : e.natAbs + 1 ≤ 2 ^ 53) :
    FinS L (tailDigits (arithP rnd p) cfg ops isShort we (epv e) (ipOf y) (fpOf y) pr).ep ∧
    NN L (tailDigits (arithP rnd p) cfg ops isShort we (epv e) (ipOf y) (fpOf y) pr).fp ∧
    NN L (tailDigits (arithP rnd p) cfg ops isShort we (epv e) (ipOf y) (fpOf y) pr).ip ∧
    (tailDigits (arithP rnd p) cfg ops isShort we (epv e) (ipOf y) (fpOf y) pr).precision = pr := by
  obtain ⟨sc, w, a, b, hc, hw, ha0, has, ha, hb0, hb⟩ := carry_inv L p cfg hr hy hy0 pr
  obtain ⟨sc', b', hs, hb0', hb'⟩ := strip_inv L p cfg ops isShort sc hw hb0 hb
  obtain ⟨ip, fp, ep, hrn, h1, h2, h3⟩ := renorm_inv L p we e he hw ha0 has (fun h => ha (hwe h)) hb0' hb'
  unfold tailDigits
  simp only [hc, hs, hrn]
  exact ⟨h3, h2, h1, trivial⟩

theorem digitsOf_total (cfg : Cfg) (hr : cfg.repaired = true) (N fuel : ℕ) (x0 : ℚ) (precision : ℤ) (ops : Ops)
    (withExp isShort : Bool) (hx : rnd x0 = some x0) (h0 : 0 ≤ x0) (hN : x0 < 10 * 8 ^ N)
    (hN' : x0 = 0 ∨ 1 ≤ x0 * 8 ^ N) (hf : N ≤ fuel) (hNb : N + 2 ≤ 2 ^ 30)
    (hp0 : 0 ≤ precision) (hp1 : precision ≤ 2147483647) :
    ∃ d, digitsOf (arithP rnd p) cfg fuel (.fin false x0) precision ops withExp isShort = .ok d ∧
      FinS L d.ep ∧ NN L d.fp ∧ NN L d.ip ∧ 0 ≤ d.precision := by
  rw [digitsOf_eq]
  generalize hP : (if ops.prec = true then if isShort = true then max precision 1 else precision else 6 : ℤ) = P
  have hPb : 0 ≤ P ∧ P ≤ 2147483647 ∧ (isShort = true → 1 ≤ P) := by
    rw [← hP]; split
    · split
      · refine ⟨by omega, by omega, fun _ => by omega⟩
      · rename_i h; exact ⟨hp0, hp1, fun h' => absurd h' h⟩
    · exact ⟨by norm_num, by norm_num, fun _ => by norm_num⟩
  obtain ⟨y, e, we, hq, hy, hy0, he, hsh, hwe, _, _⟩ :=
    phase1_all L p N fuel x0 P withExp isShort hx h0 hN hN' hf hNb (by omega)
  rw [hq]
  simp only [bind, Except.bind]
  have h2 : ∃ pr, phase2 (arithP rnd p) isShort we (epv e) P = .ok pr ∧ 0 ≤ pr := by
    unfold phase2
    cases hs : isShort
    · exact ⟨P, rfl, hPb.1⟩
    · cases hw : we
      · obtain ⟨e1, e2⟩ := hsh hs hw
        simp only [if_true, Bool.false_eq_true, if_false]
        rw [toIntM_epv p e (by omega) (by omega)]
        exact ⟨P - (e + 1), rfl, by omega⟩
      · exact ⟨P - 1, rfl, by have := hPb.2.2 hs; omega⟩
  obtain ⟨pr, hpr, hpr0⟩ := h2
  simp only [hpr]
  simp only [arithP_modf, modf_fin]
  refine ⟨_, rfl, ?_⟩
  cases hw : we
  · simp only [Bool.false_eq_true, if_false]
    obtain ⟨t1, t2, t3, t4⟩ := tail_inv L p cfg hr ops isShort false e pr hx h0 (fun h => by simp at h) (by omega)
    exact ⟨t1, t2, t3, by rw [t4]; exact hpr0⟩
  · simp only [if_true]
    obtain ⟨t1, t2, t3, t4⟩ := tail_inv L p cfg hr ops isShort true e pr hy hy0 (fun _ => hwe hw) (by omega)
    exact ⟨t1, t2, t3, by rw [t4]; exact hpr0⟩

end
end Igris.C13
