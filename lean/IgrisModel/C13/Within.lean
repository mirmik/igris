/-
  C13 — an algebra of accumulated relative error: `Within n u a b` says that `a` is `b` after at most `n`
  relative perturbations of size `u`.  It composes along a chain of rounded multiplications and
  turns into the absolute bound `2·n·u·b` as long as `n·u ≤ 1/2`.
-/
import IgrisModel.C13.Round
namespace Igris.C13

def Within (n : ℕ) (u a b : ℚ) : Prop := b * (1 - u) ^ n ≤ a ∧ a ≤ b * (1 + u) ^ n

theorem Within.refl (u a : ℚ) : Within 0 u a a := by simp [Within]

theorem Within.nonneg {n : ℕ} {u a b : ℚ} (hu1 : u ≤ 1) (hb : 0 ≤ b) (h : Within n u a b) : 0 ≤ a :=
  le_trans (mul_nonneg hb (pow_nonneg (by linarith) n)) h.1

theorem Within.mono {n m : ℕ} {u a b : ℚ} (hu0 : 0 ≤ u) (hu1 : u ≤ 1) (hb : 0 ≤ b) (hnm : n ≤ m)
    (h : Within n u a b) : Within m u a b := by
  obtain ⟨h1, h2⟩ := h
  constructor
  · have : (1 - u) ^ m ≤ (1 - u) ^ n := pow_le_pow_of_le_one (by linarith) (by linarith) hnm
    have := mul_le_mul_of_nonneg_left this hb
    linarith
  · have : (1 + u) ^ n ≤ (1 + u) ^ m := pow_le_pow_right₀ (by linarith) hnm
    have := mul_le_mul_of_nonneg_left this hb
    linarith

theorem Within.trans {n m : ℕ} {u a b c k : ℚ} (hu0 : 0 ≤ u) (hu1 : u ≤ 1) (hk : 0 ≤ k)
    (h : Within n u a b) (h' : Within m u c (a * k)) : Within (n + m) u c (b * k) := by
  obtain ⟨h1, h2⟩ := h
  obtain ⟨g1, g2⟩ := h'
  have hp1 : 0 ≤ (1 - u) ^ m := pow_nonneg (by linarith) m
  have hp2 : 0 ≤ (1 + u) ^ m := pow_nonneg (by linarith) m
  constructor
  · have e : b * k * (1 - u) ^ (n + m) = (b * (1 - u) ^ n) * (k * (1 - u) ^ m) := by ring
    rw [e]
    have : (b * (1 - u) ^ n) * (k * (1 - u) ^ m) ≤ a * (k * (1 - u) ^ m) :=
      mul_le_mul_of_nonneg_right h1 (mul_nonneg hk hp1)
    linarith
  · have e : b * k * (1 + u) ^ (n + m) = (b * (1 + u) ^ n) * (k * (1 + u) ^ m) := by ring
    rw [e]
    have : a * (k * (1 + u) ^ m) ≤ (b * (1 + u) ^ n) * (k * (1 + u) ^ m) :=
      mul_le_mul_of_nonneg_right h2 (mul_nonneg hk hp2)
    linarith

/-- the induction step of the loops' run theorems -/
theorem Within.cons {j : ℕ} {u x w x' c : ℚ} (hu0 : 0 ≤ u) (hu1 : u ≤ 1) (hc : 0 < c) (hw : |w - x * c| ≤ x * c * u)
    (h : Within j u x' (w * c ^ j)) : Within (j + 1) u x' (x * c ^ (j + 1)) := by
  have h1 : Within 1 u w (x * c) := by
    rw [_root_.abs_le] at hw
    constructor <;> simp only [pow_one] <;> linarith only [hw.1, hw.2]
  have := Within.trans hu0 hu1 (pow_nonneg (le_of_lt hc) j) h1 h
  rwa [add_comm, mul_assoc, ← pow_succ'] at this

/-- an exact non-negative summand only improves the relative error:
`w ≈ m·c` gives `f + w/c ≈ f + m` -/
theorem Within.add_left {n : ℕ} {u w m c f : ℚ} (hu0 : 0 ≤ u) (hu1 : u ≤ 1) (hf : 0 ≤ f) (hc : 0 < c)
    (h : Within n u w (m * c)) : Within n u (f + w / c) (f + m) := by
  obtain ⟨h1, h2⟩ := h
  have hp1 : (1 - u) ^ n ≤ 1 := pow_le_one₀ (by linarith) (by linarith)
  have hp2 : 1 ≤ (1 + u) ^ n := one_le_pow₀ (by linarith)
  constructor
  · have e : m * (1 - u) ^ n ≤ w / c := by
      rw [le_div_iff₀ hc]; linarith
    have := mul_le_mul_of_nonneg_left hp1 hf
    linarith
  · have e : w / c ≤ m * (1 + u) ^ n := by
      rw [div_le_iff₀ hc]; linarith
    have := mul_le_mul_of_nonneg_left hp2 hf
    linarith

theorem one_add_pow_le (u : ℚ) (hu0 : 0 ≤ u) : ∀ n : ℕ, (n : ℚ) * u ≤ 1 / 2 → (1 + u) ^ n ≤ 1 + 2 * n * u := by
  intro n
  induction n with
  | zero => intro _; simp
  | succ k ih =>
    intro h
    push_cast at h ⊢
    have hk : (k : ℚ) * u ≤ 1 / 2 := by linarith only [h, hu0]
    have := ih hk
    have hk0 : (0 : ℚ) ≤ k := Nat.cast_nonneg k
    rw [pow_succ]
    have h1 : (1 + u) ^ k * (1 + u) ≤ (1 + 2 * k * u) * (1 + u) :=
      mul_le_mul_of_nonneg_right this (by linarith)
    -- (1 + 2ku)(1 + u) = 1 + 2ku + u + 2ku·u, and 2ku·u ≤ u
    have h2 : (k : ℚ) * u * u ≤ 1 / 2 * u := mul_le_mul_of_nonneg_right hk hu0
    linarith only [h1, h2]

theorem one_sub_pow_ge (u : ℚ) (hu1 : u ≤ 1) (n : ℕ) : 1 - n * u ≤ (1 - u) ^ n := by
  induction n with
  | zero => simp
  | succ k ih =>
    push_cast
    have hk0 : (0 : ℚ) ≤ k := Nat.cast_nonneg k
    rw [pow_succ]
    have h1 : (1 - k * u) * (1 - u) ≤ (1 - u) ^ k * (1 - u) :=
      mul_le_mul_of_nonneg_right ih (by linarith)
    nlinarith [mul_nonneg hk0 (mul_self_nonneg u)]

theorem Within.abs_le {n : ℕ} {u a b : ℚ} (hu0 : 0 ≤ u) (hu1 : u ≤ 1) (hb : 0 ≤ b) (hn : (n : ℚ) * u ≤ 1 / 2)
    (h : Within n u a b) : |a - b| ≤ 2 * n * u * b := by
  obtain ⟨h1, h2⟩ := h
  have p1 := one_add_pow_le u hu0 n hn
  have p2 := one_sub_pow_ge u hu1 n
  have q1 := mul_le_mul_of_nonneg_left p1 hb
  have q2 := mul_le_mul_of_nonneg_left p2 hb
  have hn0 : (0 : ℚ) ≤ n := Nat.cast_nonneg n
  have : 0 ≤ (n : ℚ) * u * b := mul_nonneg (mul_nonneg hn0 hu0) hb
  rw [_root_.abs_le]
  constructor <;> linarith only [h1, h2, q1, q2, this]

end Igris.C13
