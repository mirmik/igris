/-
  C13 — accumulated rounding error of the digit generation of `print_f` (`%e` / `%f`).

  Every rounded step of the engine (`x = rnd(x/10)`, `x = rnd(x*10)`, `fp = rnd(fp*10)`) has
  relative error ≤ u; `fp = roundl(fp)` costs at most half a unit of the last printed digit.
  For ANY `Lawful rnd` the value read off the `Digits` record that `digitsOf` returns is within
      ½ · (unit of the last printed digit) + 2·K·u·x
  of the argument, K = number of rounded steps (normalisation passes + generated digits),
  whenever K·u ≤ ½:
    * `digits_error_e`  (%e)  K = |e| + 2 + signCount
    * `digits_error_f`  (%f)  K = signCount + 1
  with corollaries for exact arithmetic (`_exact`, no `u` term; they also witness that the
  hypotheses are satisfiable) and for binary64 with precision ≤ 22 (`_b64`).

  Hypotheses on the rounding beyond `Lawful`:
    hdu  : d ≤ u                 absolute error bound below the relative one at 1 (`hdu64`)
    hdn  : d ≤ x·u               the argument is in the normal range (`hdn64`)
    hfr  : the fraction of a representable v ≥ 1 is 0 or ≥ d/u (`hfr64`)
    TenOk: rnd(10·v) < 10 for representable v < 1 (`tenOk_exact`, `tenOk64`); %e only.  Without it
           `ip` can be 10 or 11 after the second normalisation loop while `fp` is not zero, and
           the code's renormalisation `(ip + fp)/base` then adds the already scaled fraction.
    hpw  : POW(10, n) is exactly 10^n for n ≤ precision (the carry test `fp != POW(base, sign_count)`).
           Exact arithmetic: all n.  binary64 `powHost`: n ≤ 22 (`powHost_small`); for n ≥ 23 one
           would need instead that the scaled fraction never reaches `powHost 10 n` (it stays
           below 2^56), which is not of this form — hence `precision ≤ 22` in the `_b64` corollaries.
    hint : rnd of a natural number is an integer (`hint64`); %f with precision 0 only
           (`ip = roundl(ip + roundl(fp))` with an integer part that may exceed 2^53).
-/
import IgrisModel.C13.Total2
import IgrisModel.C13.B64
namespace Igris.C13
open Igris.C06 (Ops NUL)

section
variable {rnd : Rounding} (L : Lawful rnd) (p : Nat → Nat → FV)
include L

theorem normDown_err (hdu : L.d ≤ L.u) : ∀ (N fuel : ℕ) (x : ℚ) (k : ℕ), N ≤ fuel → rnd x = some x → 0 ≤ x →
    x < 10 * 8 ^ N → k + N ≤ 2 ^ 53 →
    ∃ (x' : ℚ) (j : ℕ), j ≤ N ∧ rnd x' = some x' ∧ 0 ≤ x' ∧ x' < 10 ∧ (j = 0 → x' = x) ∧ (0 < j → 7 / 8 ≤ x') ∧
      normDown (arithP rnd p) fuel (ipOf x) (fpOf x) (epv k) = .ok (ipOf x', fpOf x', epv ((k + j : ℕ) : ℤ)) ∧
      Within j L.u x' (x / 10 ^ j) := by
  intro N fuel x k hf hx h0 hlt hk
  obtain ⟨x', j, h1, h2, h3, h4, h5, h6, h7, h8, _⟩ := normDown_run L p N fuel x k hf hx h0 hlt hk
  exact ⟨x', j, h1, h2, h3, h4, h5, h6, h7, h8 hdu⟩

theorem normUp_err : ∀ (N fuel : ℕ) (x : ℚ) (z : ℤ), N ≤ fuel → rnd x = some x → 0 < x → 1 ≤ x * 8 ^ N →
    z.natAbs + N ≤ 2 ^ 53 → x < 12 → L.d ≤ x * 10 * L.u →
    ∃ (x' : ℚ) (j : ℕ), j ≤ N ∧ rnd x' = some x' ∧ 1 ≤ x' ∧ x' < 12 ∧ (j = 0 → x' = x) ∧ (1 ≤ x → j = 0) ∧
      (7 / 8 ≤ x → j ≤ 1) ∧
      (x < 10 → (∀ v w, rnd v = some v → v < 1 → rnd (v * 10) = some w → w < 10) → x' < 10) ∧
      normUp (arithP rnd p) fuel (ipOf x) (fpOf x) (epv z) = .ok (ipOf x', fpOf x', epv (z - (j : ℤ))) ∧
      Within j L.u x' (x * 10 ^ j) := by
  intro N fuel x z hf hx h0 h1 hz h12 hdn
  obtain ⟨x', j, g1, g2, g3, g4, g5, g6, g7, g8, g9, g10⟩ := normUp_run L p N fuel x z hf hx h0 h1 hz h12
  exact ⟨x', j, g1, g2, g3, g4, g5, g6, g7, fun h ht => g8 h (fun v w hv _ hv1 hw => ht v w hv hv1 hw), g9, g10 hdn⟩

theorem scaleLoop_err : ∀ (n sc : ℕ) (m : ℚ), Rq L m → (m = 0 ∨ L.d ≤ m * L.u) →
    ∃ (j : ℕ) (w : ℚ), scaleLoop (arithP rnd p) n sc (.fin false m) = (sc + j, .fin false w) ∧ j ≤ n ∧ Rq L w ∧
      Within j L.u w (m * 10 ^ j) ∧ (j = n ∨ FV.flr w = w) := by
  intro n sc m h hd
  obtain ⟨j, w, hrun, hj, hRq, hfin, hwi⟩ := scaleLoop_run L p n sc m h
  exact ⟨j, w, hrun, hj, hRq, hwi hd, hfin⟩

end

theorem flr_half_err (w : ℚ) : |FV.flr (w + 1 / 2) - w| ≤ 1 / 2 := by
  have h1 := flr_le (w + 1 / 2)
  have h2 := lt_flr_add_one (w + 1 / 2)
  rw [abs_le]; constructor <;> linarith

theorem flr_half_int {w : ℚ} (h0 : 0 ≤ w) (h : FV.flr w = w) : FV.flr (w + 1 / 2) = w := by
  obtain ⟨k, hk⟩ := flr_nat_exists h0
  rw [h] at hk
  rw [hk]
  exact flr_eq_nat (by linarith) (by linarith)

section
variable {rnd : Rounding} (L : Lawful rnd) (p : Nat → Nat → FV)
include L

theorem phase1_e (N fuel : ℕ) (x0 : ℚ) (P : ℤ) (hx : rnd x0 = some x0) (h0 : 0 < x0) (hN : x0 < 10 * 8 ^ N)
    (hN' : 1 ≤ x0 * 8 ^ N) (hf : N ≤ fuel) (hNb : N + 2 ≤ 2 ^ 30) (hP : P.natAbs ≤ 2 ^ 53)
    (hdu : L.d ≤ L.u) (hdn : L.d ≤ x0 * L.u) (hten : TenOk rnd) :
    ∃ (y : ℚ) (j1 j2 : ℕ), phase1 (arithP rnd p) fuel (.fin false x0) P true false
        = .ok (ipOf y, fpOf y, epv ((j1 : ℤ) - j2), true) ∧
      rnd y = some y ∧ 1 ≤ y ∧ y < 10 ∧ j1 ≤ N ∧ j2 ≤ N ∧ (j1 = 0 ∨ j2 ≤ 1) ∧
      Within (j1 + j2) L.u y (x0 / 10 ^ j1 * 10 ^ j2) := by
  obtain ⟨y, j1, j2, hq, hy, _, _, hj1, hj2, hjj, _, hy1, hy10, hw⟩ :=
    phase1_run L p N fuel x0 P true false rfl hx (le_of_lt h0) hN (Or.inr hN') hf hNb hP
  rw [ite_self] at hq
  exact ⟨y, j1, j2, hq, hy, hy1 h0, hy10 (fun v w hv _ hv1 hw => hten v w hv hv1 hw), hj1, hj2, hjj, hw h0 hdu hdn⟩

theorem carry_e (cfg : Cfg) (hr : cfg.repaired = true) {y : ℚ} (hy : rnd y = some y) (hy0 : 0 ≤ y) (hy10 : y < 10)
    (P : ℤ) (hPm : P.toNat ≤ cfg.fracMax)
    (hfr : y - FV.flr y = 0 ∨ L.d ≤ (y - FV.flr y) * L.u)
    (hpw : ∀ n : ℕ, n ≤ P.toNat → p 10 n = .fin false ((10 : ℚ) ^ n)) :
    ∃ (sc : ℕ) (w a b : ℚ), carryStep (arithP rnd p) cfg (ipOf y) (fpOf y) P = (sc, .fin false a, .fin false b) ∧
      sc ≤ P.toNat ∧ 0 ≤ w ∧ Within sc L.u w ((y - FV.flr y) * 10 ^ sc) ∧ (sc = P.toNat ∨ FV.flr w = w) ∧
      a + b / 10 ^ sc = FV.flr y + FV.flr (w + 1 / 2) / 10 ^ sc ∧ (a < 10 ∨ (a = 10 ∧ b = 0)) := by
  obtain ⟨j, w, v, c, hj, hRq, hfin, hwi, hw, hcd, hv, hc⟩ := carryStep_cases L p cfg hr hy hy0 P
  rw [Nat.min_eq_left hPm] at hj hfin
  have hf1 := flr_le y
  have hf2 := lt_flr_add_one y
  -- the integer part is a digit, so `ip + 1.0` is exact
  obtain ⟨k, hk, hk10⟩ := flr_nat_lt hy0 (n := 10) (by push_cast; exact hy10)
  rw [hpw j hj, ne_fin] at hcd
  rw [hk] at hv
  have h10 : (0 : ℚ) < 10 ^ j := by positivity
  have hsucc : ((k + 1 : ℕ) : ℚ) < 10 ∨ (((k + 1 : ℕ) : ℚ) = 10 ∧ (0 : ℚ) = 0) := by
    rcases Nat.lt_or_ge k 9 with h | h
    · left
      have : ((k + 1 : ℕ) : ℚ) ≤ 9 := by exact_mod_cast h
      linarith only [this]
    · right
      have : k = 9 := by omega
      subst this; norm_num
  refine ⟨j, w, _, _, hc, hj, hRq.2.1, hwi hfr, hfin, ?_⟩
  obtain ⟨t, ht1, hst, hpt, hvt, hfv⟩ :=
    carry_sum_nat L (by omega) hRq.2.1 P (fun h => by rw [hw h]; linarith only [hf2]) hv
  by_cases hP : P = 0
  · -- precision 0: ip = roundl(ip + roundl(fp)), and roundl(fp) is 0 or 1
    have hj0 : j = 0 := by subst hP; simpa using hj
    subst hj0
    simp only [hP, if_true] at hst
    simp only [hP, if_true, hst, pow_zero, div_one] at hcd ⊢
    rw [hfv, hvt, hk]
    subst hcd
    rcases Nat.eq_zero_or_pos t with h | h
    · subst h
      have : (k : ℚ) ≤ 9 := by exact_mod_cast (by omega : k ≤ 9)
      exact ⟨by simp, Or.inl (by push_cast; linarith only [this])⟩
    · have : t = 1 := by omega
      subst this
      exact ⟨by simp, by simpa using hsucc⟩
  · obtain rfl := hpt hP
    simp only [hP, if_false]
    subst hcd
    by_cases hcy : FV.flr (w + 1 / 2) = 10 ^ j
    · -- carry
      simp only [hcy, decide_true, Bool.not_true, Bool.false_eq_true, if_false]
      rw [hvt, hk, div_self (ne_of_gt h10)]
      exact ⟨by push_cast; ring, by simpa using hsucc⟩
    · simp only [hcy, decide_false, Bool.not_false, if_true]
      exact ⟨trivial, Or.inl (by linarith only [hf1, hy10])⟩

theorem renorm_e (a b : ℚ) (e : ℤ) (he : e.natAbs + 1 ≤ 2 ^ 53) (h : a < 10 ∨ (a = 10 ∧ b = 0)) :
    (a < 10 ∧ renormStep (arithP rnd p) true (.fin false a) (.fin false b) (epv e)
        = (.fin false a, .fin false b, epv e)) ∨
    (a = 10 ∧ b = 0 ∧ renormStep (arithP rnd p) true (.fin false a) (.fin false b) (epv e)
        = (.fin false 1, .fin false 0, epv (e + 1))) := by
  unfold renormStep
  rw [ge_ten L p]
  rcases h with h | ⟨ha, hb⟩
  · left
    have : ¬ (a ≥ 10) := not_le.mpr h
    simp [this, h]
  · right
    subst ha hb
    refine ⟨rfl, rfl, ?_⟩
    obtain ⟨v, w, hrv, hrw, _, _, _, hm⟩ := modf_add_div_ten L p (a := 10) (b := 0) (by norm_num) (le_refl _)
      (L.small_down (small_nat L 10 (by norm_num)) (by norm_num))
    obtain rfl := rnd_nat L (n := 10) (by norm_num) (by simpa using hrv)
    obtain rfl := rnd_nat L (n := 1) (by norm_num) (by simpa using hrw)
    have hf1 : FV.flr 1 = 1 := by have := flr_natCast 1; simpa using this
    rw [hm, epv_succ L p e (by omega)]
    simp [ipOf, fpOf, hf1]

end

/-- value read off after scaling and `roundl`: `fl` = exact integer part, `m` = exact fraction of the
normalised `y`, `w ≈ m·10^sc` the scaled fraction, `F = roundl w` -/
theorem err_core {u x0 y w m fl F T : ℚ} {k sc Pn K : ℕ} (hu0 : 0 ≤ u) (hu1 : u ≤ 1) (hx0 : 0 < x0) (hT : 0 < T)
    (hy : y = fl + m) (hfl : 0 ≤ fl)
    (h1 : Within k u y (x0 / T)) (h2 : Within sc u w (m * 10 ^ sc))
    (hF : |F - w| ≤ 1 / 2) (hcase : sc = Pn ∨ F = w)
    (hK : k + sc ≤ K) (hKu : (K : ℚ) * u ≤ 1 / 2) :
    |(fl + F / 10 ^ sc) * T - x0| ≤ 1 / 2 * (T / 10 ^ Pn) + 2 * K * u * x0 := by
  have hX : 0 ≤ x0 / T := le_of_lt (div_pos hx0 hT)
  have h10 : (0 : ℚ) < 10 ^ sc := by positivity
  have h10P : (0 : ℚ) < 10 ^ Pn := by positivity
  have hV : Within sc u (fl + w / 10 ^ sc) (y * 1) := by
    rw [mul_one, hy]; exact Within.add_left hu0 hu1 hfl h10 h2
  have hVX := Within.trans hu0 hu1 (by norm_num : (0 : ℚ) ≤ 1) h1 hV
  rw [mul_one] at hVX
  have hVK := Within.mono hu0 hu1 hX hK hVX
  have hab := Within.abs_le hu0 hu1 hX hKu hVK
  have hFw : |F - w| / 10 ^ sc ≤ 1 / 2 / 10 ^ Pn := by
    rcases hcase with h | h
    · rw [h]; exact div_le_div_of_nonneg_right hF (le_of_lt h10P)
    · rw [h, sub_self, abs_zero, zero_div]; positivity
  have hAV : |(fl + F / 10 ^ sc) - (fl + w / 10 ^ sc)| ≤ 1 / 2 / 10 ^ Pn := by
    have e : (fl + F / 10 ^ sc) - (fl + w / 10 ^ sc) = (F - w) / 10 ^ sc := by ring
    rw [e, abs_div, abs_of_pos h10]; exact hFw
  rw [_root_.abs_le] at hab hAV ⊢
  have hxT : x0 / T * T = x0 := by field_simp
  set A := fl + F / 10 ^ sc
  set V := fl + w / 10 ^ sc
  set X := x0 / T
  have e1 : 1 / 2 * (T / 10 ^ Pn) + 2 * K * u * x0 = (1 / 2 / 10 ^ Pn + 2 * K * u * X) * T := by
    rw [← hxT]; ring
  have e2 : A * T - x0 = (A - X) * T := by rw [← hxT]; ring
  rw [e1, e2]
  constructor
  · have : -(1 / 2 / 10 ^ Pn + 2 * K * u * X) * T ≤ (A - X) * T :=
      mul_le_mul_of_nonneg_right (by linarith only [hab.1, hAV.1]) (le_of_lt hT)
    linarith only [this]
  · exact mul_le_mul_of_nonneg_right (by linarith only [hab.2, hAV.2]) (le_of_lt hT)

theorem passes_le_exp {j1 j2 : ℕ} (h : j1 = 0 ∨ j2 ≤ 1) :
    j1 + j2 ≤ ((j1 : ℤ) - j2).natAbs + 2 ∧ j1 + j2 ≤ ((j1 : ℤ) - j2 + 1).natAbs + 2 := by
  omega

section
variable {rnd : Rounding} (L : Lawful rnd) (p : Nat → Nat → FV)
include L

/-- **`%e`**: the value read off the `Digits` record is within half a unit of the last printed digit
plus `2·K·u·x` of the argument, `K` = |decimal exponent| + 2 + number of generated fraction digits
(the number of rounded operations: normalisation passes and fraction scalings). -/
theorem digits_error_e (N fuel : ℕ) (x : ℚ) (precision : ℤ) (ops : Ops)
    (hx : rnd x = some x) (h0 : 0 < x) (hN : x < 10 * 8 ^ N) (hN' : 1 ≤ x * 8 ^ N) (hf : N ≤ fuel)
    (hNb : N + 2 ≤ 2 ^ 30) (hp0 : 0 ≤ precision) (hp1 : precision ≤ 340)
    (hdu : L.d ≤ L.u) (hdn : L.d ≤ x * L.u)
    (hfr : ∀ v, rnd v = some v → 1 ≤ v → v - FV.flr v = 0 ∨ L.d ≤ (v - FV.flr v) * L.u)
    (hten : TenOk rnd)
    (hpw : ∀ n : ℕ, (n : ℤ) ≤ (if ops.prec then precision else 6) → p 10 n = .fin false ((10 : ℚ) ^ n)) :
    ∃ (d : Digits FV) (a b : ℚ) (e : ℤ),
      digitsOf (arithP rnd p) cfgNow fuel (.fin false x) precision ops true false = .ok d ∧
      d.ip = .fin false a ∧ d.fp = .fin false b ∧ d.ep = epv e ∧ d.withExp = true ∧
      d.precision = (if ops.prec then precision else 6) ∧ (d.signCount : ℤ) ≤ d.precision ∧
      e.natAbs ≤ N + 1 ∧
      ∀ K : ℕ, e.natAbs + 2 + d.signCount ≤ K → (K : ℚ) * L.u ≤ 1 / 2 →
        |(a + b / 10 ^ d.signCount) * (10 : ℚ) ^ e - x|
          ≤ 1 / 2 * (10 : ℚ) ^ (e - d.precision) + 2 * K * L.u * x := by
  have hPb := prec_bounds ops hp0 hp1 (by norm_num)
  generalize hP : (if ops.prec = true then precision else 6 : ℤ) = P at hpw hPb
  obtain ⟨y, j1, j2, hq, hy, hy1, hy10, hj1, hj2, hjj, hwy⟩ :=
    phase1_e L p N fuel x P hx h0 hN hN' hf hNb (by omega) hdu hdn hten
  rw [digitsOf_fe _ cfgNow _ _ _ _ _ (by rw [hP]; exact hq) (fun h => by simp at h), hP]
  have hy0 : 0 ≤ y := by linarith
  obtain ⟨sc, w, a0, b0, hc, hscP, hw0, hwi, hfin, hval, hren⟩ :=
    carry_e L p cfgNow rfl hy hy0 hy10 P (by show P.toNat ≤ 340; omega) (hfr y hy hy1)
      (fun n hn => hpw n (by omega))
  have hT : (0 : ℚ) < 10 ^ j1 / 10 ^ j2 := by positivity
  have hwy' : Within (j1 + j2) L.u y (x / (10 ^ j1 / 10 ^ j2)) := by
    have e : x / (10 ^ j1 / 10 ^ j2) = x / 10 ^ j1 * 10 ^ j2 := by field_simp
    rw [e]; exact hwy
  have hPn : ((P.toNat : ℕ) : ℤ) = P := Int.toNat_of_nonneg hPb.1
  have hzp : (10 : ℚ) ^ ((j1 : ℤ) - j2) = 10 ^ j1 / 10 ^ j2 := by
    rw [zpow_sub₀ (by norm_num), zpow_natCast, zpow_natCast]
  have hzp2 : (10 : ℚ) ^ ((j1 : ℤ) - j2 - P) = 10 ^ j1 / 10 ^ j2 / 10 ^ P.toNat := by
    rw [zpow_sub₀ (by norm_num), hzp, ← hPn, zpow_natCast, Int.toNat_natCast]
  have hcore : ∀ K : ℕ, j1 + j2 + sc ≤ K → (K : ℚ) * L.u ≤ 1 / 2 →
      |(a0 + b0 / 10 ^ sc) * (10 : ℚ) ^ ((j1 : ℤ) - j2) - x|
        ≤ 1 / 2 * (10 : ℚ) ^ ((j1 : ℤ) - j2 - P) + 2 * K * L.u * x := by
    intro K hK hKu
    rw [hval, hzp, hzp2]
    refine err_core L.hu0 (lawful_u_le_one L) h0 hT (by ring : y = FV.flr y + (y - FV.flr y)) (flr_nonneg hy0)
      hwy' hwi (flr_half_err w) ?_ hK hKu
    rcases hfin with h | h
    · exact Or.inl h
    · exact Or.inr (flr_half_int hw0 h)
  simp only [hc]
  rcases renorm_e L p a0 b0 ((j1 : ℤ) - j2) (by omega) hren with ⟨_, hr⟩ | ⟨ha, hb, hr⟩
  · rw [hr]
    refine ⟨_, a0, b0, (j1 : ℤ) - j2, rfl, rfl, rfl, rfl, rfl, rfl, by simp only; omega, by omega, ?_⟩
    intro K hK hKu
    -- `|e| + 2` bounds the passes: `e = j1 - j2` and not both loops run more than once (`hjj`)
    exact hcore K (le_trans (Nat.add_le_add_right (passes_le_exp hjj).1 sc) hK) hKu
  · rw [hr]
    refine ⟨_, 1, 0, (j1 : ℤ) - j2 + 1, rfl, rfl, rfl, rfl, rfl, rfl, by simp only; omega, by omega, ?_⟩
    intro K hK hKu
    have := hcore K (le_trans (Nat.add_le_add_right (passes_le_exp hjj).2 sc) hK) hKu
    rw [ha, hb] at this
    simp only at this ⊢
    have e1 : ((1 : ℚ) + 0 / 10 ^ sc) * 10 ^ ((j1 : ℤ) - j2 + 1) = (10 + 0 / 10 ^ sc) * 10 ^ ((j1 : ℤ) - j2) := by
      rw [zpow_add₀ (by norm_num)]; simp; ring
    rw [e1]
    have e2 : (10 : ℚ) ^ ((j1 : ℤ) - j2 - P) ≤ 10 ^ ((j1 : ℤ) - j2 + 1 - P) :=
      zpow_le_zpow_right₀ (by norm_num) (by omega)
    linarith

/-- `ip + 1.0` (or `ip + roundl(fp)`) for an integer part that need not be below `2^53`: one rounding -/
theorem rnd_incr_err (hdu : L.d ≤ L.u) {x v : ℚ} (k c : ℕ) (hk : (k : ℚ) ≤ x) (hc : c ≤ 1)
    (hv : rnd ((k : ℚ) + c) = some v) : |v - ((k : ℚ) + c)| ≤ 2 * L.u * x := by
  have hux : 0 ≤ 2 * L.u * x := mul_nonneg (mul_nonneg (by norm_num) L.hu0) (le_trans (Nat.cast_nonneg k) hk)
  rcases Nat.eq_zero_or_pos k with h | h
  · subst h
    rw [rnd_nat L (n := c) (v := v) (by omega) (by simpa using hv)]
    simpa using hux
  · have hk1 : (1 : ℚ) ≤ k := by exact_mod_cast h
    have hc1 : (c : ℚ) ≤ 1 := by exact_mod_cast hc
    have hc0 : (0 : ℚ) ≤ c := Nat.cast_nonneg c
    have h1 : ((k : ℚ) + c) * L.u ≤ (2 * x) * L.u := mul_le_mul_of_nonneg_right (by linarith only [hk, hc1, hk1]) L.hu0
    have h2 : 1 * L.u ≤ ((k : ℚ) + c) * L.u := mul_le_mul_of_nonneg_right (by linarith only [hk1, hc0]) L.hu0
    refine le_trans (rnd_rel L (le_refl _) (by linarith only [hk1, hc0]) (by linarith only [h2, hdu]) hv) ?_
    linarith only [h1]

theorem carry_f (cfg : Cfg) (hr : cfg.repaired = true) (hdu : L.d ≤ L.u) {x : ℚ} (hx : rnd x = some x) (hx0 : 0 ≤ x)
    (P : ℤ) (hPm : P.toNat ≤ cfg.fracMax)
    (hfr : x - FV.flr x = 0 ∨ L.d ≤ (x - FV.flr x) * L.u)
    (hpw : ∀ n : ℕ, n ≤ P.toNat → p 10 n = .fin false ((10 : ℚ) ^ n))
    (hint : P = 0 → ∀ (n : ℕ) (v : ℚ), rnd (n : ℚ) = some v → FV.flr v = v) :
    ∃ (sc : ℕ) (w a b : ℚ), carryStep (arithP rnd p) cfg (ipOf x) (fpOf x) P = (sc, .fin false a, .fin false b) ∧
      sc ≤ P.toNat ∧ 0 ≤ w ∧ Within sc L.u w ((x - FV.flr x) * 10 ^ sc) ∧ (sc = P.toNat ∨ FV.flr w = w) ∧
      |a + b / 10 ^ sc - (FV.flr x + FV.flr (w + 1 / 2) / 10 ^ sc)| ≤ 2 * L.u * x := by
  obtain ⟨j, w, v, c, hj, hRq, hfin, hwi, hw, hcd, hv, hc⟩ := carryStep_cases L p cfg hr hx hx0 P
  rw [Nat.min_eq_left hPm] at hj hfin
  have hf1 := flr_le x
  have hf2 := lt_flr_add_one x
  have hux : 0 ≤ 2 * L.u * x := mul_nonneg (mul_nonneg (by norm_num) L.hu0) hx0
  obtain ⟨k, hk⟩ := flr_nat_exists hx0
  have hkx : (k : ℚ) ≤ x := by rw [← hk]; exact hf1
  rw [hpw j hj, ne_fin] at hcd
  rw [hk] at hv
  have h10 : (0 : ℚ) < 10 ^ j := by positivity
  refine ⟨j, w, _, _, hc, hj, hRq.2.1, hwi hfr, hfin, ?_⟩
  by_cases hP : P = 0
  · -- precision 0: ip = roundl(ip + roundl(fp)); the rounded sum is an integer (`hint`)
    obtain ⟨t, ht, ht2⟩ := flr_nat_lt (x := w + 1 / 2) (n := 2) (by linarith only [hRq.2.1])
      (by rw [hw hP]; push_cast; linarith only [hf2])
    have hj0 : j = 0 := by subst hP; simpa using hj
    subst hj0
    simp only [hP, if_true, ht, pow_zero, div_one] at hv hcd ⊢
    have hve := rnd_incr_err L hdu k t hkx (by omega) hv
    have hvi : FV.flr v = v := hint hP (k + t) v (by push_cast; exact hv)
    rw [flr_half_int (L.nonneg (by positivity) hv) hvi, hk]
    have hb : (if c = true then (t : ℚ) else 0) = 0 := by
      subst hcd
      rcases Nat.eq_zero_or_pos t with h | h
      · subst h; simp
      · have : t = 1 := by omega
        subst this; simp
    rw [hb]; simpa using hve
  · simp only [hP, if_false] at hv ⊢
    have hve := rnd_incr_err L hdu k 1 hkx (le_refl _) (by push_cast; exact hv)
    subst hcd
    by_cases hcy : FV.flr (w + 1 / 2) = 10 ^ j
    · -- carry
      simp only [hcy, decide_true, Bool.not_true, Bool.false_eq_true, if_false]
      rw [hk, div_self (ne_of_gt h10)]
      simpa using hve
    · simp only [hcy, decide_false, Bool.not_false, if_true]
      simpa using hux

/-- **`%f`**: no normalisation; only the fraction is scaled (`signCount` roundings) and, when the
rounding carries, `ip + 1.0` is rounded once: `K = signCount + 1`.  `hint` (a rounded integer is an
integer) is only needed for precision 0, where the code computes `roundl(ip + roundl(fp))`. -/
theorem digits_error_f (fuel : ℕ) (x : ℚ) (precision : ℤ) (ops : Ops)
    (hx : rnd x = some x) (h0 : 0 < x) (hp0 : 0 ≤ precision) (hp1 : precision ≤ 340)
    (hdu : L.d ≤ L.u) (hdn : L.d ≤ x * L.u)
    (hfr : ∀ v, rnd v = some v → 1 ≤ v → v - FV.flr v = 0 ∨ L.d ≤ (v - FV.flr v) * L.u)
    (hpw : ∀ n : ℕ, (n : ℤ) ≤ (if ops.prec then precision else 6) → p 10 n = .fin false ((10 : ℚ) ^ n))
    (hint : (if ops.prec then precision else 6) = 0 → ∀ (n : ℕ) (v : ℚ), rnd (n : ℚ) = some v → FV.flr v = v) :
    ∃ (d : Digits FV) (a b : ℚ),
      digitsOf (arithP rnd p) cfgNow fuel (.fin false x) precision ops false false = .ok d ∧
      d.ip = .fin false a ∧ d.fp = .fin false b ∧ d.ep = epv 0 ∧ d.withExp = false ∧
      d.precision = (if ops.prec then precision else 6) ∧ (d.signCount : ℤ) ≤ d.precision ∧
      ∀ K : ℕ, d.signCount + 1 ≤ K → (K : ℚ) * L.u ≤ 1 / 2 →
        |a + b / 10 ^ d.signCount - x| ≤ 1 / 2 * (10 : ℚ) ^ (-d.precision) + 2 * K * L.u * x := by
  rw [digitsOf_fe _ _ _ _ _ _ _ (phase1_plain L p fuel x _) (fun _ => ⟨rfl, rfl⟩)]
  have hPb := prec_bounds ops hp0 hp1 (by norm_num)
  generalize hP : (if ops.prec = true then precision else 6 : ℤ) = P at hpw hint hPb ⊢
  have hx0 : 0 ≤ x := le_of_lt h0
  have hfrx : x - FV.flr x = 0 ∨ L.d ≤ (x - FV.flr x) * L.u := by
    by_cases hx1 : 1 ≤ x
    · exact hfr x hx hx1
    · right
      rw [(flr_eq_zero_iff hx0).mpr (not_le.mp hx1)]
      simpa using hdn
  obtain ⟨sc, w, a0, b0, hc, hscP, hw0, hwi, hfin, hval⟩ :=
    carry_f L p cfgNow rfl hdu hx hx0 P (by show P.toNat ≤ 340; omega) hfrx (fun n hn => hpw n (by omega)) hint
  have hPn : ((P.toNat : ℕ) : ℤ) = P := Int.toNat_of_nonneg hPb.1
  have hzp : (10 : ℚ) ^ (-P) = 1 / 10 ^ P.toNat := by
    rw [zpow_neg, ← hPn, zpow_natCast, Int.toNat_natCast, one_div]
  simp only [hc, renormStep_false]
  refine ⟨_, a0, b0, rfl, rfl, rfl, rfl, rfl, rfl, by simp only; omega, ?_⟩
  intro K hK hKu
  simp only at hK ⊢
  obtain ⟨K', rfl⟩ : ∃ K', K = K' + 1 := ⟨K - 1, by omega⟩
  have hK'u : (K' : ℚ) * L.u ≤ 1 / 2 := by
    have : (K' : ℚ) * L.u ≤ ((K' + 1 : ℕ) : ℚ) * L.u :=
      mul_le_mul_of_nonneg_right (by push_cast; linarith) L.hu0
    linarith
  have hcore := err_core (k := 0) (Pn := P.toNat) (K := K') L.hu0 (lawful_u_le_one L) h0 (by norm_num : (0 : ℚ) < 1)
    (by ring : x = FV.flr x + (x - FV.flr x)) (flr_nonneg hx0)
    (by simpa using Within.refl L.u x) hwi (flr_half_err w)
    (by rcases hfin with h | h
        · exact Or.inl h
        · exact Or.inr (flr_half_int hw0 h)) (by omega) hK'u
  rw [mul_one] at hcore
  rw [hzp]
  rw [_root_.abs_le] at hval hcore ⊢
  push_cast
  constructor <;> linarith only [hval.1, hval.2, hcore.1, hcore.2]

end

theorem digits_error_e_exact (N fuel : ℕ) (x : ℚ) (precision : ℤ) (ops : Ops)
    (h0 : 0 < x) (hN : x < 10 * 8 ^ N) (hN' : 1 ≤ x * 8 ^ N) (hf : N ≤ fuel)
    (hNb : N + 2 ≤ 2 ^ 30) (hp0 : 0 ≤ precision) (hp1 : precision ≤ 340) :
    ∃ (d : Digits FV) (a b : ℚ) (e : ℤ),
      digitsOf exactA cfgNow fuel (.fin false x) precision ops true false = .ok d ∧
      d.ip = .fin false a ∧ d.fp = .fin false b ∧ d.ep = epv e ∧
      d.precision = (if ops.prec then precision else 6) ∧
      |(a + b / 10 ^ d.signCount) * (10 : ℚ) ^ e - x| ≤ 1 / 2 * (10 : ℚ) ^ (e - d.precision) := by
  obtain ⟨d, a, b, e, h1, h2, h3, h4, _, h5, _, _, h6⟩ :=
    digits_error_e lawfulExact (fun b n => FV.mk some false ((b : ℚ) ^ n)) N fuel x precision ops rfl h0 hN hN' hf hNb
      hp0 hp1 (le_refl _) (by simp [lawfulExact]) (fun v _ _ => Or.inr (by simp [lawfulExact])) tenOk_exact
      (fun n _ => by simp [FV.mk])
  refine ⟨d, a, b, e, by rw [exactA_eq]; exact h1, h2, h3, h4, h5, ?_⟩
  have := h6 (e.natAbs + 2 + d.signCount) (le_refl _) (by simp [lawfulExact])
  simpa [lawfulExact] using this

theorem digits_error_f_exact (fuel : ℕ) (x : ℚ) (precision : ℤ) (ops : Ops)
    (h0 : 0 < x) (hp0 : 0 ≤ precision) (hp1 : precision ≤ 340) :
    ∃ (d : Digits FV) (a b : ℚ),
      digitsOf exactA cfgNow fuel (.fin false x) precision ops false false = .ok d ∧
      d.ip = .fin false a ∧ d.fp = .fin false b ∧
      d.precision = (if ops.prec then precision else 6) ∧
      |a + b / 10 ^ d.signCount - x| ≤ 1 / 2 * (10 : ℚ) ^ (-d.precision) := by
  obtain ⟨d, a, b, h1, h2, h3, _, _, h5, _, h6⟩ :=
    digits_error_f lawfulExact (fun b n => FV.mk some false ((b : ℚ) ^ n)) fuel x precision ops rfl h0
      hp0 hp1 (le_refl _) (by simp [lawfulExact]) (fun v _ _ => Or.inr (by simp [lawfulExact]))
      (fun n _ => by simp [FV.mk])
      (fun _ n v h => by
        have : (n : ℚ) = v := by simpa using h
        rw [← this]; exact flr_natCast n)
  refine ⟨d, a, b, by rw [exactA_eq]; exact h1, h2, h3, h5, ?_⟩
  have := h6 (d.signCount + 1) (le_refl _) (by simp [lawfulExact])
  simpa [lawfulExact] using this

/-- non-vacuity, concretely: `x = 3/2`, `%.3e` and `%.3f` -/
example : ∃ (d : Digits FV) (a b : ℚ) (e : ℤ),
      digitsOf exactA cfgNow 1 (.fin false (3 / 2)) 3 { prec := true } true false = .ok d ∧
      d.ip = .fin false a ∧ d.fp = .fin false b ∧ d.ep = epv e ∧ d.precision = 3 ∧
      |(a + b / 10 ^ d.signCount) * (10 : ℚ) ^ e - 3 / 2| ≤ 1 / 2 * (10 : ℚ) ^ (e - d.precision) :=
  digits_error_e_exact 1 1 (3 / 2) 3 { prec := true } (by norm_num) (by norm_num) (by norm_num) (le_refl _)
    (by norm_num) (by norm_num) (by norm_num)
example : ∃ (d : Digits FV) (a b : ℚ),
      digitsOf exactA cfgNow 0 (.fin false (3 / 2)) 3 { prec := true } false false = .ok d ∧
      d.ip = .fin false a ∧ d.fp = .fin false b ∧ d.precision = 3 ∧
      |a + b / 10 ^ d.signCount - 3 / 2| ≤ 1 / 2 * (10 : ℚ) ^ (-d.precision) :=
  digits_error_f_exact 0 (3 / 2) 3 { prec := true } (by norm_num) (by norm_num) (by norm_num)

/-- **binary64, `%e`**, precision ≤ 22 (so that every `pow(10, sign_count)` the carry test compares with
is exact, `powHost_small`).  For larger precisions the carry test is still right, but for a reason
outside `hpw` (only a non-integer double, hence one below `2^52`, is scaled again, so the scaled
fraction stays below `2^56 < 10^23`); that case is not covered here. -/
theorem digits_error_e_b64 (N fuel : ℕ) (x : ℚ) (precision : ℤ) (ops : Ops)
    (hx : rnd64 x = some x) (hxn : pow2 (-1022) ≤ x) (hN : x < 10 * 8 ^ N) (hN' : 1 ≤ x * 8 ^ N) (hf : N ≤ fuel)
    (hNb : N + 2 ≤ 2 ^ 30) (hp0 : 0 ≤ precision) (hp1 : precision ≤ 22) :
    ∃ (d : Digits FV) (a b : ℚ) (e : ℤ),
      digitsOf b64A cfgNow fuel (.fin false x) precision ops true false = .ok d ∧
      d.ip = .fin false a ∧ d.fp = .fin false b ∧ d.ep = epv e ∧ d.withExp = true ∧
      d.precision = (if ops.prec then precision else 6) ∧ (d.signCount : ℤ) ≤ d.precision ∧
      e.natAbs ≤ N + 1 ∧
      ∀ K : ℕ, e.natAbs + 2 + d.signCount ≤ K → (K : ℚ) * pow2 (-53) ≤ 1 / 2 →
        |(a + b / 10 ^ d.signCount) * (10 : ℚ) ^ e - x|
          ≤ 1 / 2 * (10 : ℚ) ^ (e - d.precision) + 2 * K * pow2 (-53) * x := by
  rw [b64A_eq]
  exact digits_error_e lawful64 powHost N fuel x precision ops hx (lt_of_lt_of_le (pow2_pos _) hxn) hN hN' hf hNb
    hp0 (by omega) hdu64 (hdn64 hxn) hfr64 tenOk64
    (fun n hn => powHost_small n (by split at hn <;> omega))

theorem digits_error_f_b64 (fuel : ℕ) (x : ℚ) (precision : ℤ) (ops : Ops)
    (hx : rnd64 x = some x) (hxn : pow2 (-1022) ≤ x) (hp0 : 0 ≤ precision) (hp1 : precision ≤ 22) :
    ∃ (d : Digits FV) (a b : ℚ),
      digitsOf b64A cfgNow fuel (.fin false x) precision ops false false = .ok d ∧
      d.ip = .fin false a ∧ d.fp = .fin false b ∧ d.ep = epv 0 ∧ d.withExp = false ∧
      d.precision = (if ops.prec then precision else 6) ∧ (d.signCount : ℤ) ≤ d.precision ∧
      ∀ K : ℕ, d.signCount + 1 ≤ K → (K : ℚ) * pow2 (-53) ≤ 1 / 2 →
        |a + b / 10 ^ d.signCount - x| ≤ 1 / 2 * (10 : ℚ) ^ (-d.precision) + 2 * K * pow2 (-53) * x := by
  rw [b64A_eq]
  exact digits_error_f lawful64 powHost fuel x precision ops hx (lt_of_lt_of_le (pow2_pos _) hxn)
    hp0 (by omega) hdu64 (hdn64 hxn) hfr64
    (fun n hn => powHost_small n (by split at hn <;> omega)) (fun _ => hint64)

/-- non-vacuity of the binary64 corollaries: `x = 1.5` -/
example : rnd64 (3 / 2) = some (3 / 2) ∧ pow2 (-1022) ≤ (3 / 2 : ℚ) ∧ (3 / 2 : ℚ) < 10 * 8 ^ 1 ∧
    1 ≤ (3 / 2 : ℚ) * 8 ^ 1 := by
  refine ⟨?_, ?_, by norm_num, by norm_num⟩
  · have := rnd64_fix (k := 3) (E := -1) (by norm_num) (by norm_num) (by
      have h1 : pow2 (-1) = 1 / 2 := by rw [pow2_eq]; norm_num
      have h2 : pow2 0 ≤ pow2 1024 := pow2_mono (by norm_num)
      rw [pow2_zero] at h2
      rw [h1]; push_cast
      have h3 : pow2 1 < pow2 1024 := pow2_lt (by norm_num)
      have h4 : pow2 1 = 2 := by rw [pow2_eq]; norm_num
      linarith)
    have h1 : pow2 (-1) = 1 / 2 := by rw [pow2_eq]; norm_num
    rw [h1] at this
    norm_num at this
    exact this
  · have h1 : pow2 (-1022) ≤ pow2 0 := pow2_mono (by norm_num)
    rw [pow2_zero] at h1; linarith

end Igris.C13
