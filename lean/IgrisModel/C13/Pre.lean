/-
  C13 — `digitsOf` cut at `fp = roundl(fp)`: `digitsPre` is the part that can diverge or be undefined (normalisation,
  fraction scaling), `digitsPost` the pure rest; `digitsOf` and the tie observable `tieSeen` (Tie.lean) are both
  functions of `digitsPre`.  Then the sizes that the emission part computes with, derived from `printF` itself.
-/
import IgrisModel.C13.Tie
import IgrisModel.C13.Lemmas
import IgrisModel.C13.IntW
namespace Igris.C13
open Igris.C06 (Ops)

/-- the state of print_f just before `fp = roundl(fp)` -/
structure Pre (α : Type) where
  ip : α
  fp : α            -- the scaled fraction handed to `roundl`
  ep : α
  withExp : Bool
  precision : Int   -- after `precision -= is_shortened ? … : 0`
  signCount : Nat

def digitsPre {α : Type} (A : Arith α) (cfg : Cfg) (fuel : Nat) (r : α) (precision : Int) (ops : Ops)
    (withExp isShort : Bool) : M (Pre α) := do
  let precision : Int := if ops.prec then (if isShort then max precision 1 else precision) else 6
  let (fp, ip) := A.modf r
  let (ip, fp, ep, withExp) ←
    (if withExp || isShort then do
        let (ip, fp, ep) ← normDown A fuel ip fp A.zero
        let (ip, fp, ep) ← (if A.ne fp A.zero then normUp A fuel ip fp ep else pure (ip, fp, ep))
        let withExp := if A.lt ep (A.ofInt (-4)) || A.ge ep (A.ofInt precision) then true else withExp
        pure (ip, fp, ep, withExp)
      else pure (ip, fp, A.zero, withExp) : M (α × α × α × Bool))
  let (fp, ip) := if withExp then (fp, ip) else A.modf r
  let precision ← (if isShort then (if withExp then pure (precision - 1) else do
                      let e ← toIntM A ep
                      pure (precision - (e + 1))) else pure precision : M Int)
  let passes : Nat := if cfg.repaired then min precision.toNat cfg.fracMax else precision.toNat
  let (signCount, fp) := scaleLoop A passes 0 fp
  pure { ip, fp, ep, withExp, precision, signCount }

/-- the rest of `digitsOf`: rounding, carry, trailing-zero removal, renormalisation (no loop can fail there) -/
def digitsPost {α : Type} (A : Arith α) (cfg : Cfg) (ops : Ops) (isShort : Bool) (p : Pre α) : Digits α :=
  let fp := A.round p.fp
  let pw := A.pow 10 p.signCount
  let ip := if p.precision ≠ 0 then (if A.ne fp pw then p.ip else A.add p.ip A.one) else A.round (A.add p.ip fp)
  let fp := if A.ne fp pw then fp else A.zero
  let (signCount, fp) := if cfg.repaired && isShort && !ops.spec then stripLoop A p.signCount fp else (p.signCount, fp)
  let (ip, fp, ep) :=
    if p.withExp && A.ge ip A.ten then
      let (fp', ip') := A.modf (A.div (A.add ip fp) A.ten)
      (ip', fp', A.add p.ep A.one)
    else (ip, fp, p.ep)
  { ip, fp, ep, signCount, precision := p.precision, withExp := p.withExp }

theorem digitsOf_eq_pre_aux {α : Type} (A : Arith α) (cfg : Cfg) (fuel : Nat) (r : α) (precision : Int) (ops : Ops)
    (withExp isShort : Bool) :
    digitsOf A cfg fuel r precision ops withExp isShort =
      (digitsPre A cfg fuel r precision ops withExp isShort).map (digitsPost A cfg ops isShort) := by
  unfold digitsOf digitsPre digitsPost
  simp only [bind, Except.bind, Except.map, pure, Except.pure]
  repeat (first | rfl | split)

theorem ckInt_bind {β : Type} {v : Int} (f : Int → M β) (h : -2147483648 ≤ v ∧ v ≤ 2147483647) :
    (ckInt v >>= f) = f v := by
  unfold ckInt fitsInt INT_MAX
  simp [h.1, h.2, bind, Except.bind]

theorem digitsOf_precision_fe {α : Type} (A : Arith α) (cfg : Cfg) (fuel : Nat) (r : α) (precision : Int) (ops : Ops)
    (withExp : Bool) (d : Digits α) (h : digitsOf A cfg fuel r precision ops withExp false = .ok d) :
    d.precision = if ops.prec then precision else 6 := by
  rw [digitsOf_eq_pre_aux] at h
  cases hp : digitsPre A cfg fuel r precision ops withExp false with
  | error e => simp [hp, Except.map] at h
  | ok p =>
    simp only [hp, Except.map, Except.ok.injEq] at h
    subst h
    show p.precision = _
    unfold digitsPre at hp
    simp only [bind, Except.bind, pure, Except.pure, Bool.or_false, Bool.false_eq_true, if_false] at hp
    split at hp
    · cases hp
    · cases hp
      rfl

/-- the sizes the emission part of the repaired `print_f` computes with (%f %e, and %g without `#`): the buffer regions
are within the 352 bytes, the number of trailing zeros lies between 0 and the requested precision (6 by default) -/
theorem emit_sizes {α : Type} (A : Arith α) (fuel : Nat) (r : α) (precision : Int) (ops : Ops) (withExp isShort : Bool)
    (hp : 0 ≤ precision) (hg : isShort = false ∨ ops.spec = false) {d : Digits α} {b : Buf}
    (hd : digitsOf A cfgNow fuel r precision ops withExp isShort = .ok d) (hb : fillBuf A cfgNow ops isShort d = .ok b) :
    b.used ≤ 352 ∧ 0 ≤ (if isShort && !ops.spec then 0 else d.precision - d.signCount) ∧
      (if isShort && !ops.spec then 0 else d.precision - d.signCount) ≤ max precision 6 := by
  have gd := good_digitsOf A cfgNow rfl fuel r precision ops withExp isShort
  rw [hd] at gd
  have gb := good_fillBuf_used A cfgNow rfl cfgNow_fits ops isShort d gd.1
  rw [hb] at gb
  refine ⟨gb, ?_⟩
  have g2 : (d.signCount : Int) ≤ max d.precision 0 := gd.2
  cases isShort
  · rw [digitsOf_precision_fe A cfgNow fuel r precision ops withExp d hd] at g2 ⊢
    simp only [Bool.false_and, Bool.false_eq_true, if_false]
    by_cases hpc : ops.prec = true <;> simp only [hpc, if_true, Bool.false_eq_true, if_false] at g2 ⊢ <;> omega
  · have hs : ops.spec = false := by simpa using hg
    simp only [hs, Bool.not_false, Bool.and_self, if_true]
    omega

end Igris.C13
