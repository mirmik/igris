/-
  C13 — what `digitsOf` hands to the digit loops, for a sharp lawful rounding: after the
  normalisation of %e the value lies in [1, 10) (or is zero), the integer part is a decimal
  digit even after the rounding carry and the renormalisation, the number of generated
  fraction digits is small whenever the integer part is large (so that the buffer suffices).
-/
import IgrisModel.C13.Total2
import IgrisModel.C13.ShapeLoops
namespace Igris.C13
open Igris.C06 (Ops NUL)

section
variable {rnd : Rounding} (L : Lawful rnd) (S : Sharp L) (p : Nat → Nat → FV)
include L S

/-- what the first phase hands on (`phase1_all`), and: a normalised value lies in [1, 10) or is zero -/
def Q2 (L : Lawful rnd) (N : ℕ) (P : ℤ) (isShort norm : Bool) (x0 : ℚ) (q : FV × FV × FV × Bool) : Prop :=
  ∃ (y : ℚ) (e : ℤ), rnd y = some y ∧ 0 ≤ y ∧ q.1 = ipOf y ∧ q.2.1 = fpOf y ∧ q.2.2.1 = epv e ∧ e.natAbs ≤ N ∧
    (isShort = true → q.2.2.2 = false → -4 ≤ e ∧ e < P) ∧
    (norm = true → (1 ≤ y ∧ y < 10) ∨ (y = 0 ∧ e = 0 ∧ x0 = 0)) ∧ (norm = false → y = x0 ∧ e = 0 ∧ q.2.2.2 = false) ∧
    (isShort = false → norm = true → q.2.2.2 = true)

theorem phase1_sharp (N fuel : ℕ) (x0 : ℚ) (P : ℤ) (withExp isShort : Bool)
    (hx : rnd x0 = some x0) (h0 : 0 ≤ x0) (hN : x0 < 10 * 8 ^ N) (hN' : x0 = 0 ∨ 1 ≤ x0 * 8 ^ N) (hf : N ≤ fuel)
    (hNb : N + 2 ≤ 2 ^ 30) (hP : P.natAbs ≤ 2 ^ 53) :
    ∃ q, phase1 (arithP rnd p) fuel (.fin false x0) P withExp isShort = .ok q ∧
      Q2 L N P isShort (withExp || isShort) x0 q := by
  obtain ⟨y, e, we, hq, hy, hy0, he, hsh, _, hnorm, hplain⟩ :=
    phase1_all L p N fuel x0 P withExp isShort hx h0 hN hN' hf hNb hP
  refine ⟨_, hq, y, e, hy, hy0, rfl, rfl, rfl, he, hsh, fun hb => ?_, fun hb => hplain hb, fun hs hb => (hnorm hb).2.2.1 hs⟩
  obtain ⟨hpos, hzero, _, hy10⟩ := hnorm hb
  rcases lt_or_eq_of_le h0 with hp | hz
  · exact Or.inl ⟨hpos hp, hy10 (fun v w hv hv0 hv1 hw => S.mul10_lt hv hv0 hv1 hw)⟩
  · exact Or.inr ⟨(hzero hz.symm).1, (hzero hz.symm).2, hz.symm⟩

/-- the fraction loop stops after at most `k` passes once `m * 8^k ≥ 2^52`: values ≥ 2^52 are integers -/
theorem scaleLoop_count : ∀ (k n sc : ℕ) (m : ℚ), Rq L m → (2 : ℚ) ^ 52 ≤ m * 8 ^ k →
    (scaleLoop (arithP rnd p) n sc (.fin false m)).1 ≤ sc + k := by
  intro k n
  induction n generalizing k with
  | zero => intro sc m _ _; simp [scaleLoop]
  | succ n ih =>
    intro sc m hR hk
    unfold scaleLoop
    split
    · rename_i hne
      have hni := nonint_of_ne L p hne
      cases k with
      | zero =>
        exfalso
        have := S.nonint_lt hR.1 hni
        simp at hk; linarith
      | succ k =>
        obtain ⟨v, hv, hRv, h8, _⟩ := scale_pass L p hR hni
        rw [hv]
        have := ih k (sc + 1) v hRv (by
          have e : (8 : ℚ) ^ (k + 1) = 8 * 8 ^ k := by ring
          rw [e] at hk
          have h8k : (0 : ℚ) ≤ 8 ^ k := by positivity
          have := mul_le_mul_of_nonneg_right h8 h8k
          linarith only [this, hk])
        omega
    · simp

omit S in
theorem scaleLoop_pos {n : ℕ} {m : ℚ} (h : 0 < (scaleLoop (arithP rnd p) n 0 (.fin false m)).1) : FV.flr m ≠ m := by
  cases n with
  | zero => simp [scaleLoop] at h
  | succ n =>
    unfold scaleLoop at h
    split at h
    · rename_i hne; exact nonint_of_ne L p hne
    · simp at h

theorem carry_ip (cfg : Cfg) (hr : cfg.repaired = true) {y : ℚ} (hy : rnd y = some y) (hy0 : 0 ≤ y) (pr : ℤ) :
    ∃ a b, (carryStep (arithP rnd p) cfg (ipOf y) (fpOf y) pr).2 = (.fin false a, .fin false b) ∧ a < 2 ^ 1024 + 1 ∧
      (y < 2 ^ 52 → ∃ i : ℕ, FV.flr y = i ∧ (a = i ∨ (a = i + 1 ∧ b ≤ 1))) := by
  obtain ⟨j, w, v, c, _, hRq, _, _, hw, _, hv, hc⟩ := carryStep_cases L p cfg hr hy hy0 pr
  have hf1 := flr_le y
  have hf2 := lt_flr_add_one y
  have htv := S.top hv
  have hty := S.top hy
  refine ⟨_, _, by rw [hc], ?_, fun h52 => ?_⟩
  · have := flr_le (v + 1 / 2)
    split_ifs <;> linarith only [this, htv, hty, hf1]
  · -- below `2^52` every value involved is a natural number that is rounded exactly
    obtain ⟨i, hi, hi52⟩ := flr_nat_lt hy0 (n := 2 ^ 52) (by push_cast; exact h52)
    refine ⟨i, hi, ?_⟩
    rw [hi] at hv
    obtain ⟨t, ht1, hst, hpt, hvt, hfv⟩ :=
      carry_sum_nat L (by omega) hRq.2.1 pr (fun h => by rw [hw h]; linarith only [hf2]) hv
    rw [hfv, hvt]
    by_cases hpr : pr = 0
    · simp only [hpr, if_true] at hst ⊢
      rw [hst]
      rcases Nat.eq_zero_or_pos t with h | h
      · left; rw [h]; simp
      · right
        have : t = 1 := by omega
        subst this
        exact ⟨by push_cast; rfl, by split_ifs <;> norm_num⟩
    · obtain rfl := hpt hpr
      cases c <;> simp only [hpr, if_true, if_false, Bool.false_eq_true]
      · exact Or.inr ⟨by push_cast; rfl, by norm_num⟩
      · exact Or.inl hi

/-- `if (with_exp && (ip >= base)) fp = MODF((ip + fp) / base, &ip), ep += 1.0L;` after the carry:
the integer part is a single decimal digit again -/
theorem renorm_digit (i : ℕ) (hi : i ≤ 10) {b : ℚ} (hb0 : 0 ≤ b) (hbs : L.small b) (hb1 : i = 10 → b ≤ 1)
    (e : ℤ) (he : e.natAbs + 1 ≤ 2 ^ 53) :
    ∃ (i' : ℕ) (b' : ℚ) (e' : ℤ), renormStep (arithP rnd p) true (.fin false (i : ℚ)) (.fin false b) (epv e) =
        (.fin false (i' : ℚ), .fin false b', epv e') ∧ i' ≤ 9 ∧ (1 ≤ i → 1 ≤ i') ∧ 0 ≤ b' ∧ L.small b' ∧
        (e' = e ∨ e' = e + 1) ∧ (i ≤ 9 → i' = i ∧ e' = e) := by
  unfold renormStep
  have hge : (arithP rnd p).ge (.fin false (i : ℚ)) (arithP rnd p).ten = decide (10 ≤ i) := by
    rw [ge_ten L p]; exact decide_eq_decide.mpr (by exact_mod_cast Iff.rfl)
  rw [hge]
  by_cases h10 : 10 ≤ i
  · have hi10 : i = 10 := by omega
    subst hi10
    have hb1' := hb1 rfl
    simp only [Bool.true_and, h10, decide_true, if_true]
    obtain ⟨v, w, hrv, hrw, _, hw0, hws, hm⟩ := modf_add_div_ten L p (a := ((10 : ℕ) : ℚ)) (b := b) (by norm_num) hb0
      (L.small_down (small_nat L 11 (by norm_num)) (by push_cast; linarith only [hb1']))
    have hv10 : (10 : ℚ) ≤ v := by
      have := S.mono_nat 10 (by norm_num) (by push_cast; linarith only [hb0]) hrv
      exact_mod_cast this
    have hvup : v ≤ 23 / 2 := by
      have := (abs_le.mp (rnd_near L S.u10 S.d10 (by push_cast; linarith only [hb0] : (0:ℚ) ≤ ((10 : ℕ) : ℚ) + b) hrv)).2
      push_cast at this; linarith only [this, hb1']
    have hw1 : (1 : ℚ) ≤ w := by
      have := S.mono_nat 1 (by norm_num) (by push_cast; linarith only [hv10] : ((1 : ℕ) : ℚ) ≤ v / 10) hrw
      exact_mod_cast this
    have hw2 : w < 2 := by
      linarith only [(abs_le.mp (rnd_near L S.u10 S.d10 (by linarith only [hv10] : (0:ℚ) ≤ v / 10) hrw)).2, hvup]
    have hfl : FV.flr w = ((1 : ℕ) : ℚ) := flr_eq_nat (by exact_mod_cast hw1) (by push_cast; linarith only [hw2])
    rw [hm, epv_succ L p e (by omega)]
    refine ⟨1, w - FV.flr w, e + 1, ?_, by norm_num, fun _ => le_refl _, by linarith only [flr_le w], ?_, Or.inr rfl,
      fun h => absurd h (by norm_num)⟩
    · show (ipOf w, fpOf w, epv (e + 1)) = _
      unfold ipOf fpOf; rw [hfl]
    · exact L.small_down hws (by linarith only [flr_nonneg hw0])
  · simp only [h10, decide_false, Bool.and_false, Bool.false_eq_true, if_false]
    exact ⟨i, b, e, rfl, by omega, fun h => h, hb0, hbs, Or.inl rfl, fun _ => ⟨rfl, rfl⟩⟩

omit L S in
theorem natAbs_le_succ {e e' : ℤ} (h : e' = e ∨ e' = e + 1) : e'.natAbs ≤ e.natAbs + 1 := by omega

omit L S in
theorem carry_sc {α : Type} (A : Arith α) (cfg : Cfg) (ip fp : α) (pr : ℤ) :
    (carryStep A cfg ip fp pr).1 =
      (scaleLoop A (if cfg.repaired then min pr.toNat cfg.fracMax else pr.toNat) 0 fp).1 := rfl

theorem sc_facts {y : ℚ} (hy : rnd y = some y) (hy0 : 0 ≤ y) (pr : ℤ) (hpr : 0 ≤ pr) :
    (carryStep (arithP rnd p) cfgNow (ipOf y) (fpOf y) pr).1 ≤ 340 ∧
    ((carryStep (arithP rnd p) cfgNow (ipOf y) (fpOf y) pr).1 : ℤ) ≤ pr ∧
    (0 < (carryStep (arithP rnd p) cfgNow (ipOf y) (fpOf y) pr).1 → FV.flr y ≠ y ∧ y < 2 ^ 52) ∧
    (0 < (carryStep (arithP rnd p) cfgNow (ipOf y) (fpOf y) pr).1 → 1 ≤ y →
      (carryStep (arithP rnd p) cfgNow (ipOf y) (fpOf y) pr).1 ≤ 35) := by
  rw [carry_sc]
  simp only [cfgNow, if_true]
  have hle := scaleLoop_le (arithP rnd p) (min pr.toNat 340) 0 (fpOf y)
  have hR := rq_frac L hy hy0
  have hni : 0 < (scaleLoop (arithP rnd p) (min pr.toNat 340) 0 (fpOf y)).1 → FV.flr y ≠ y := by
    intro h hint
    have := scaleLoop_pos L p (m := y - FV.flr y) h
    apply this
    rw [hint, sub_self]; exact flr_zero
  refine ⟨by omega, by omega, fun h => ⟨hni h, S.nonint_lt hy (hni h)⟩, fun h h1 => ?_⟩
  rcases S.frac_ge hy h1 with hz | hg
  · exfalso; apply hni h; linarith
  · have := scaleLoop_count L S p 35 (min pr.toNat 340) 0 (y - FV.flr y) hR (by
      have e : (8 : ℚ) ^ 35 = 2 ^ 52 * 2 ^ 53 := by norm_num
      rw [e]
      linarith only [hg])
    rw [Nat.zero_add] at this; exact this

/-- **what `digitsOf` hands to the digit loops** (%f and %e).  %e: the integer part is ONE decimal digit; %f: many
fraction digits only with a small integer part, which is what the buffer size needs. -/
theorem digitsOf_shape_fe (N fuel : ℕ) (x0 : ℚ) (precision : ℤ) (ops : Ops) (withExp : Bool)
    (hx : rnd x0 = some x0) (h0 : 0 ≤ x0) (hN : x0 < 10 * 8 ^ N) (hN' : x0 = 0 ∨ 1 ≤ x0 * 8 ^ N) (hf : N ≤ fuel)
    (hNb : N + 2 ≤ 2 ^ 30) (hp0 : 0 ≤ precision) (hp1 : precision ≤ 2147483647) :
    ∃ (d : Digits FV) (a b : ℚ) (e : ℤ),
      digitsOf (arithP rnd p) cfgNow fuel (.fin false x0) precision ops withExp false = .ok d ∧
      d.ip = .fin false a ∧ d.fp = .fin false b ∧ d.ep = epv e ∧ d.withExp = withExp ∧
      d.precision = (if ops.prec then precision else 6) ∧
      0 ≤ a ∧ L.small a ∧ 0 ≤ b ∧ L.small b ∧ e.natAbs ≤ N + 1 ∧ d.signCount ≤ 340 ∧ (d.signCount : ℤ) ≤ d.precision ∧
      (withExp = true → ∃ i : ℕ, a = i ∧ i ≤ 9 ∧ (i = 0 → d.signCount = 0 ∧ e = 0)) ∧
      (withExp = false → a < 2 ^ 1024 + 1 ∧ (0 < d.signCount → a ≤ 1 ∨ (d.signCount ≤ 35 ∧ a ≤ 2 ^ 52 + 1))) := by
  have hPb := prec_bounds ops hp0 hp1 (by norm_num)
  generalize hP : (if ops.prec = true then precision else 6 : ℤ) = P at hPb
  obtain ⟨⟨ip, fp, ep, we⟩, hq, y, e, hy, hy0, hq1, hq2, hq3, he, _, hnorm, hnn, hwe⟩ :=
    phase1_sharp L S p N fuel x0 P withExp false hx h0 hN hN' hf hNb (by omega)
  simp only [Bool.or_false] at hq1 hq2 hq3 hnorm hnn hwe
  subst hq1 hq2 hq3
  have hwe' : we = withExp := by
    cases hw : withExp
    · exact (hnn hw).2.2
    · exact hwe trivial hw
  rw [digitsOf_fe _ cfgNow _ _ _ _ _ (by rw [hP]; exact hq)
    (fun h => by rw [(hnn (by rw [← hwe', h])).1]; exact ⟨rfl, rfl⟩), hP]
  obtain ⟨sc, w, a0, b0, hc, hw, ha0, has, _, hb0, hb⟩ := carry_inv L p cfgNow rfl hy hy0 P
  obtain ⟨a1, b1, hc2, htop, h52⟩ := carry_ip L S p cfgNow rfl hy hy0 P
  obtain ⟨s1, s2, s3, s4⟩ := sc_facts L S p hy hy0 P hPb.1
  rw [hc] at hc2 s1 s2 s3 s4
  simp only at s1 s2 s3 s4
  have hab : a0 = a1 ∧ b0 = b1 := by
    simp only [Prod.mk.injEq, FV.fin.injEq, true_and] at hc2; exact hc2
  obtain ⟨rfl, rfl⟩ := hab
  have hbs : L.small b0 := L.small_down hw.2.2 (by linarith only [hb])
  simp only [hc]
  cases hwE : withExp
  · -- %f
    rw [hwe', hwE]
    rw [renormStep_false]
    refine ⟨_, a0, b0, e, rfl, rfl, rfl, rfl, rfl, rfl, ha0, has, hb0, hbs, by omega, s1, s2,
      fun h => absurd h (by simp), fun _ => ⟨htop, fun hsc => ?_⟩⟩
    obtain ⟨hni, hy52⟩ := s3 hsc
    obtain ⟨i, hi, hai⟩ := h52 hy52
    by_cases hy1 : 1 ≤ y
    · right
      refine ⟨s4 hsc hy1, ?_⟩
      have : (i : ℚ) ≤ 2 ^ 52 := by rw [← hi]; linarith only [flr_le y, hy52]
      rcases hai with h | ⟨h, _⟩ <;> rw [h] <;> linarith only [this]
    · left
      have : FV.flr y = 0 := (flr_eq_zero_iff hy0).mpr (not_le.mp hy1)
      rw [this] at hi
      have : (i : ℚ) = 0 := hi.symm
      rcases hai with h | ⟨h, _⟩ <;> rw [h] <;> linarith only [this]
  · -- %e
    rw [hwe', hwE]
    have hn := hnorm hwE
    have hy10 : y < 10 := by
      rcases hn with h | h
      · exact h.2
      · rw [h.1]; norm_num
    have hy52 : y < 2 ^ 52 := lt_trans hy10 (by norm_num)
    obtain ⟨i, hi, hai⟩ := h52 hy52
    have hi9 : i ≤ 9 := by
      have : (i : ℚ) < 10 := by rw [← hi]; linarith only [flr_le y, hy10]
      have : i < 10 := by exact_mod_cast this
      omega
    obtain ⟨i0, hi0, hi0le, hi0b⟩ : ∃ i0 : ℕ, a0 = (i0 : ℚ) ∧ i0 ≤ 10 ∧ (i0 = 10 → b0 ≤ 1) := by
      rcases hai with h | ⟨h, hb1⟩
      · exact ⟨i, h, by omega, fun h' => by omega⟩
      · exact ⟨i + 1, by rw [h]; push_cast; rfl, by omega, fun _ => hb1⟩
    rw [hi0]
    obtain ⟨i', b', e', hren, hi'9, hi'1, hb'0, hb's, he', hsame⟩ :=
      renorm_digit L S p i0 hi0le hb0 hbs hi0b e (by omega)
    rw [hren]
    refine ⟨_, (i' : ℚ), b', e', rfl, rfl, rfl, rfl, rfl, rfl, by positivity,
      L.small_down (small_nat L 9 (by norm_num)) (by push_cast; have : (i' : ℚ) ≤ 9 := by exact_mod_cast hi'9
                                                     linarith only [this]),
      hb'0, hb's, (natAbs_le_succ he').trans (Nat.succ_le_succ he), s1, s2,
      fun _ => ⟨i', rfl, hi'9, fun hz => ?_⟩, fun h => absurd h (by simp)⟩
    -- the digit is 0: the argument is zero
    have hi00 : i0 = 0 := by
      by_contra hc0
      have := hi'1 (by omega)
      omega
    have ha00 : a0 = 0 := by rw [hi0, hi00]; simp
    have hiz : i = 0 := by
      rcases hai with h | ⟨h, _⟩
      · rw [ha00] at h; exact_mod_cast h.symm
      · rw [ha00] at h; exfalso
        have : (0 : ℚ) ≤ (i : ℚ) := Nat.cast_nonneg i
        linarith only [h, this]
    have hy1 : y < 1 := by
      have := lt_flr_add_one y; rw [hi, hiz] at this; simpa using this
    have hyz : y = 0 ∧ e = 0 := by
      rcases hn with h | h
      · exact absurd h.1 (not_le.mpr hy1)
      · exact ⟨h.1, h.2.1⟩
    obtain ⟨hs1, hs2⟩ := hsame (by omega)
    refine ⟨?_, by rw [hs2]; exact hyz.2⟩
    show sc = 0
    by_contra hsc
    have := (s3 (by omega)).1
    apply this; rw [hyz.1]; exact flr_zero

end
end Igris.C13
