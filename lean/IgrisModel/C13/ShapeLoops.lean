/-
  C13 — what the three digit loops of `print_f` store, for a sharp lawful rounding:
  decimal digit characters only, as many as the measure allows, no leading zero, the
  buffer guard (`str > &buff[0]`, `end - postfix < PRINT_F_EXP_MAX`) never cuts a number short.
-/
import IgrisModel.C13.Total
import IgrisModel.C13.B64
import IgrisModel.C13.Shape
namespace Igris.C13
open Igris.C06 (Ops NUL)

theorem digitChar_props (upper : Bool) (c : ℤ) (h0 : 0 ≤ c) (h9 : c ≤ 9) :
    isDig (digitChar upper c) = true ∧ digitChar upper c ≠ NUL ∧ (digitChar upper c = '0' ↔ c = 0) ∧
      (digitChar upper c).toNat - 48 = c.toNat := by
  have : c = 0 ∨ c = 1 ∨ c = 2 ∨ c = 3 ∨ c = 4 ∨ c = 5 ∨ c = 6 ∨ c = 7 ∨ c = 8 ∨ c = 9 := by omega
  rcases this with rfl | rfl | rfl | rfl | rfl | rfl | rfl | rfl | rfl | rfl <;> (cases upper <;> decide)

section
variable {rnd : Rounding} (L : Lawful rnd) (S : Sharp L) (p : Nat → Nat → FV)
include L S

theorem div10_step {s : Bool} {m : ℚ} (h0 : 0 ≤ m) (hs : L.small m) :
    ∃ w, (arithP rnd p).div (.fin s m) (arithP rnd p).ten = .fin s w ∧ 0 ≤ w ∧ L.small w ∧
      (1 ≤ m → FV.flr w * 8 ≤ m) ∧ (m ≤ 9 → FV.flr w = 0) ∧ (10 ≤ m → 1 ≤ FV.flr w) := by
  obtain ⟨w, hw, hw0, hws, hrw⟩ := div_ten L p (n := s) h0 hs
  have hup := (abs_le.mp (rnd_near L S.u10 S.d10 (by linarith only [h0] : (0:ℚ) ≤ m / 10) hrw)).2
  refine ⟨w, hw, hw0, hws, fun h1 => ?_, fun h9 => ?_, fun h10 => ?_⟩
  · linarith only [hup, flr_le w, h1]
  · rw [flr_eq_zero_iff hw0]; linarith only [hup, h9]
  · have := S.mono_nat 1 (by norm_num) (by push_cast; linarith only [h10] : ((1 : ℕ) : ℚ) ≤ m / 10) hrw
    exact (flr_ge_iff w 1).mpr this

omit S in
theorem ne_zero_fin (s : Bool) (m : ℚ) : (arithP rnd p).ne (.fin s m) (arithP rnd p).zero = decide (m ≠ 0) := by
  rw [zero_eq L p]
  cases s <;> simp [Arith.ne, eq_fin, FV.sval]

omit L S in
theorem flr_nat_div10 (j : ℕ) : FV.flr ((j : ℚ) / 10) = ((j / 10 : ℕ) : ℚ) := by
  unfold FV.flr
  have h : ((j : ℚ) / ((10 : ℕ) : ℚ)).floor = ((j / 10 : ℕ) : ℤ) := by
    rw [ratFloor_eq, Rat.floor_natCast_div_natCast]; norm_cast
  have e : ((10 : ℕ) : ℚ) = 10 := by norm_num
  rw [e] at h
  rw [h, Int.cast_natCast]

omit S in
theorem digit_natmod (j : ℕ) :
    toIntM (arithP rnd p) ((arithP rnd p).fmod (.fin false (j : ℚ)) (arithP rnd p).ten) = .ok ((j % 10 : ℕ) : ℤ) := by
  obtain ⟨c, hc, _, _, hceq⟩ := digit_ok L p (j : ℚ)
  rw [hc, hceq, flr_nat_div10]
  have e : (j : ℚ) - ((j / 10 : ℕ) : ℚ) * 10 = ((j % 10 : ℕ) : ℚ) := by
    have := Nat.div_add_mod j 10
    have h2 : (j : ℚ) = 10 * ((j / 10 : ℕ) : ℚ) + ((j % 10 : ℕ) : ℚ) := by exact_mod_cast this.symm
    linarith
  rw [e]
  have := Rat.floor_intCast ((j % 10 : ℕ) : ℤ)
  rw [Int.cast_natCast] at this
  rw [this]

/-- `do { *--str = digit(ip); ip = ip / base } while (ip != 0 && str > &buff[0])` on a value below `8^k` with `k` free
bytes: each pass divides by more than 8, so the loop ends because `ip` has become 0 and never because the buffer is
full: the loop without the guard returns the same buffer. -/
theorem intLoop_run (cfg : Cfg) (upper : Bool) : ∀ (k n : ℕ) (m : ℚ) (b : Buf), 1 ≤ k → k ≤ n → 0 ≤ m → L.small m →
    m < 8 ^ k → b.used + k ≤ cfg.size →
    ∃ ds b', intLoop (arithP rnd p) cfg upper n (.fin false m) b = .ok b' ∧
      intLoop (arithP rnd p) { cfg with repaired := false } upper n (.fin false m) b = .ok b' ∧
      b'.body = ds ++ b.body ∧ b'.post = b.post ∧
      b'.sep = b.sep ∧ ds ≠ [] ∧ ds.all isDig = true ∧ ds.length ≤ k ∧
      ((∃ j : ℕ, m = j ∧ 1 ≤ j) → ds.head? ≠ some '0') ∧ (ds.length = 1 ∨ ds.head? ≠ some '0') ∧
      (m ≤ 9 → ds.length = 1) ∧ (m = 0 → ds = ['0']) := by
  intro k
  induction k with
  | zero => intro n m b h; omega
  | succ k ih =>
    intro n m b _ hkn h0 hs hlt hused
    obtain ⟨n', rfl⟩ : ∃ n', n = n' + 1 := ⟨n - 1, by omega⟩
    unfold intLoop
    obtain ⟨c, hc, hc0, hc9, hceq⟩ := digit_ok L p m
    obtain ⟨cd, cn, cz, _⟩ := digitChar_props upper c hc0 hc9
    obtain ⟨w, hw, hw0, hws, hw8, hw9, hw10⟩ := div10_step L S p (s := false) h0 hs
    have hput := putBody_ok (cfg := cfg) (b := b) (digitChar upper c) (by omega)
    have hput' : putBody { cfg with repaired := false } b (digitChar upper c) = _ := hput
    simp only [hc, hput, hput', bind, Except.bind, hw, arithP_modf, modf_fin]
    rw [show ipOf w = .fin false (FV.flr w) from rfl, ne_zero_fin L p false]
    have hf0 := flr_nonneg hw0
    by_cases hz : FV.flr w = 0
    · -- the loop ends here
      simp only [hz, ne_eq, not_true_eq_false, decide_false, Bool.false_and, Bool.false_eq_true, if_false]
      refine ⟨[digitChar upper c], _, rfl, rfl, rfl, rfl, rfl, by simp, by simp [cd], by simp, ?_, Or.inl rfl,
        fun _ => rfl, ?_⟩
      · rintro ⟨j, rfl, hj1⟩
        have hj9 : j ≤ 9 := by
          by_contra hcn
          have : (10 : ℚ) ≤ (j : ℚ) := by exact_mod_cast (by omega : 10 ≤ j)
          have := hw10 this
          rw [hz] at this; linarith
        have hd := digit_natmod L p j
        rw [hc] at hd
        injection hd with hd
        simp only [List.head?_cons, ne_eq, Option.some.injEq]
        rw [cz]; omega
      · intro hm0
        subst hm0
        have hd := digit_natmod L p 0
        simp only [Nat.cast_zero] at hd
        rw [hc] at hd
        injection hd with hd
        have := cz.mpr (by simpa using hd)
        rw [this]
    · -- one more digit at least
      have hm9 : ¬ m ≤ 9 := fun h => hz (hw9 h)
      have hm1 : 1 ≤ m := by linarith [not_le.mp hm9]
      have hk1 : 1 ≤ k := by
        by_contra hk
        have : k = 0 := by omega
        subst this
        simp at hlt
        exact hm9 (by linarith)
      have hlt' : FV.flr w < 8 ^ k := by
        have := hw8 hm1
        have e : (8 : ℚ) ^ (k + 1) = 8 ^ k * 8 := by ring
        rw [e] at hlt
        linarith
      have hguard : (!cfg.repaired || decide (Buf.used { b with body := digitChar upper c :: b.body } < cfg.size)) = true := by
        rw [used_putBody]
        have : b.used + 1 < cfg.size := by omega
        simp [this]
      simp only [hz, ne_eq, not_false_eq_true, decide_true, Bool.true_and, hguard, if_true, Bool.not_false, Bool.true_or]
      obtain ⟨ds, b', hrun, hrun', hbody, hpost, hsep, hne, hall, hlen, hhead, _, _, _⟩ :=
        ih n' (FV.flr w) { b with body := digitChar upper c :: b.body } hk1 (by omega) hf0
          (L.small_down hws (flr_le w)) hlt' (by rw [used_putBody]; omega)
      obtain ⟨j, hj⟩ := flr_nat_exists hw0
      have hj1 : 1 ≤ j := by
        rcases Nat.eq_zero_or_pos j with h | h
        · exfalso; apply hz; rw [hj, h]; simp
        · exact h
      have hh := hhead ⟨j, hj, hj1⟩
      have hhead' : (ds ++ [digitChar upper c]).head? ≠ some '0' := by
        rwa [List.head?_append_of_ne_nil _ hne]
      refine ⟨ds ++ [digitChar upper c], b', hrun, hrun', by rw [hbody]; simp, hpost, hsep, by simp, ?_, by simp; omega,
        fun _ => hhead', Or.inr hhead', fun h => absurd h hm9, fun h => ?_⟩
      · simp [List.all_append, hall, cd]
      · exfalso; rw [h] at hm1; linarith

theorem intLoop_shape (cfg : Cfg) (upper : Bool) : ∀ (k n : ℕ) (m : ℚ) (b : Buf), 1 ≤ k → k ≤ n → 0 ≤ m → L.small m →
    m < 8 ^ k → b.used + k ≤ cfg.size →
    ∃ ds b', intLoop (arithP rnd p) cfg upper n (.fin false m) b = .ok b' ∧ b'.body = ds ++ b.body ∧ b'.post = b.post ∧
      b'.sep = b.sep ∧ ds ≠ [] ∧ ds.all isDig = true ∧ ds.length ≤ k ∧
      ((∃ j : ℕ, m = j ∧ 1 ≤ j) → ds.head? ≠ some '0') ∧ (ds.length = 1 ∨ ds.head? ≠ some '0') ∧
      (m ≤ 9 → ds.length = 1) ∧ (m = 0 → ds = ['0']) := by
  intro k n m b hk hkn h0 hs hlt hused
  obtain ⟨ds, b', h1, _, h3⟩ := intLoop_run L S p cfg upper k n m b hk hkn h0 hs hlt hused
  exact ⟨ds, b', h1, h3⟩

/-- **the guard `str > &buff[0]` never fires**: the guarded integer-digit loop of the repaired code computes exactly
what the unguarded loop computes -/
theorem intLoop_unguarded (cfg : Cfg) (upper : Bool) : ∀ (k n : ℕ) (m : ℚ) (b : Buf), 1 ≤ k → k ≤ n → 0 ≤ m → L.small m →
    m < 8 ^ k → b.used + k ≤ cfg.size →
    intLoop (arithP rnd p) cfg upper n (.fin false m) b =
      intLoop (arithP rnd p) { cfg with repaired := false } upper n (.fin false m) b := by
  intro k n m b hk hkn h0 hs hlt hused
  obtain ⟨ds, b', h1, h2, _⟩ := intLoop_run L S p cfg upper k n m b hk hkn h0 hs hlt hused
  rw [h1, h2]

theorem div10_nat {s : Bool} (j : ℕ) (hj : j ≤ 999) (hs : L.small (j : ℚ)) :
    ∃ w, (arithP rnd p).div (.fin s (j : ℚ)) (arithP rnd p).ten = .fin s w ∧ FV.flr w = ((j / 10 : ℕ) : ℚ) := by
  obtain ⟨w, hw, hw0, hws, hrw⟩ := div_ten L p (n := s) (m := (j : ℚ)) (by positivity) hs
  refine ⟨w, hw, ?_⟩
  have hjq : (j : ℚ) ≤ 999 := by exact_mod_cast hj
  have hdm : (j : ℚ) = 10 * ((j / 10 : ℕ) : ℚ) + ((j % 10 : ℕ) : ℚ) := by
    exact_mod_cast (Nat.div_add_mod j 10).symm
  have hmod : ((j % 10 : ℕ) : ℚ) ≤ 9 := by exact_mod_cast (by omega : j % 10 ≤ 9)
  have hmod0 : (0 : ℚ) ≤ ((j % 10 : ℕ) : ℚ) := by positivity
  have hup := (abs_le.mp (rnd_near L S.u10 S.d10 (by positivity : (0:ℚ) ≤ (j : ℚ) / 10) hrw)).2
  exact flr_eq_nat (S.mono_nat (j / 10) (by omega) (by linarith only [hdm, hmod0]) hrw)
    (by linarith only [hup, hdm, hmod, hjq])

omit L S in
theorem digVal_snoc (ds : List Char) (c : Char) : digVal (ds ++ [c]) = digVal ds * 10 + (c.toNat - 48) := by
  unfold digVal; rw [List.foldl_append]; rfl

/-- `do { *--postfix = digit(|ep|); ep = ep / base } while (ep != 0 && end - postfix < PRINT_F_EXP_MAX)`
on a small integer exponent: its decimal digits, most significant first, all of them -/
theorem expLoop_shape (cfg : Cfg) (upper : Bool) (s : Bool) : ∀ (k n j : ℕ) (b : Buf), 1 ≤ k → k ≤ n → j < 10 ^ k →
    j ≤ 999 → L.small (j : ℚ) → b.post.length + k ≤ cfg.expMax → b.used + k ≤ cfg.size →
    ∃ ds b', expLoop (arithP rnd p) cfg upper n (.fin s (j : ℚ)) b = .ok (.fin s 0, b') ∧ b'.post = ds ++ b.post ∧
      b'.body = b.body ∧ b'.sep = b.sep ∧ ds ≠ [] ∧ ds.all isDig = true ∧ ds.length ≤ k ∧ digVal ds = j ∧
      (ds.length = 1 ∨ ds.head? ≠ some '0') ∧ (j ≤ 9 → ds.length = 1) ∧ (1 ≤ j → ds.head? ≠ some '0') := by
  intro k
  induction k with
  | zero => intro n j b h; omega
  | succ k ih =>
    intro n j b _ hkn hlt h999 hs hpost hused
    obtain ⟨n', rfl⟩ : ∃ n', n = n' + 1 := ⟨n - 1, by omega⟩
    unfold expLoop
    have hfabs : (arithP rnd p).fabs (.fin s (j : ℚ)) = .fin false (j : ℚ) := rfl
    have hc := digit_natmod L p j
    obtain ⟨r, hr⟩ : ∃ r : ℕ, r = j % 10 := ⟨_, rfl⟩
    rw [← hr] at hc
    have hr9 : r ≤ 9 := by omega
    obtain ⟨cd, cn, cz, cv⟩ := digitChar_props upper (r : ℤ) (by positivity) (by omega)
    obtain ⟨w, hw, hfl⟩ := div10_nat L S p (s := s) j h999 hs
    have hput := putPost_ok (cfg := cfg) (b := b) (digitChar upper (r : ℤ)) (by omega)
    have hmodf : ((arithP rnd p).modf (.fin s w)).2 = .fin s (FV.flr w) := rfl
    simp only [hfabs, hc, hput, bind, Except.bind, hw, hmodf]
    rw [ne_zero_fin L p s, hfl]
    have cv' : (digitChar upper (r : ℤ)).toNat - 48 = r := by rw [cv]; simp
    by_cases hz : j / 10 = 0
    · have hj9 : j ≤ 9 := by omega
      simp only [hz, Nat.cast_zero, ne_eq, not_true_eq_false, decide_false, Bool.false_and, Bool.false_eq_true, if_false]
      refine ⟨[digitChar upper (r : ℤ)], _, rfl, rfl, rfl, rfl, by simp, by simp [cd], by simp, ?_, Or.inl rfl,
        fun _ => rfl, ?_⟩
      · unfold digVal; simp only [List.foldl_cons, List.foldl_nil]; rw [cv']; omega
      · intro h1
        simp only [List.head?_cons, Option.some.injEq]
        rw [cz]; omega
    · have hk1 : 1 ≤ k := by
        by_contra hk
        have : k = 0 := by omega
        subst this; simp at hlt; omega
      have hq0 : ((j / 10 : ℕ) : ℚ) ≠ 0 := by exact_mod_cast hz
      have hguard : (!cfg.repaired || decide (List.length (digitChar upper (r : ℤ) :: b.post) < cfg.expMax)) = true := by
        have : b.post.length + 1 < cfg.expMax := by omega
        simp [this]
      simp only [hq0, ne_eq, not_false_eq_true, decide_true, Bool.true_and, hguard, if_true]
      have hlt' : j / 10 < 10 ^ k := by
        have : 10 ^ (k + 1) = 10 ^ k * 10 := by ring
        rw [this] at hlt
        exact Nat.div_lt_of_lt_mul (by omega)
      obtain ⟨ds, b', hrun, hp', hbody, hsep, hne, hall, hlen, hval, _, _, hhead⟩ :=
        ih n' (j / 10) { b with post := digitChar upper (r : ℤ) :: b.post } hk1 (by omega) hlt' (by omega)
          (L.small_down hs (by exact_mod_cast Nat.div_le_self j 10)) (by simp; omega) (by rw [used_putPost]; omega)
      have hh := hhead (by omega)
      have hhead' : (ds ++ [digitChar upper (r : ℤ)]).head? ≠ some '0' := by
        rwa [List.head?_append_of_ne_nil _ hne]
      refine ⟨ds ++ [digitChar upper (r : ℤ)], b', hrun, by rw [hp']; simp, hbody, hsep, by simp, ?_,
        by simp; omega, ?_, Or.inr hhead', fun h => by omega, fun _ => hhead'⟩
      · simp [List.all_append, hall, cd]
      · rw [digVal_snoc, hval, cv']; omega

/-- `for (i = 0; i < sign_count; ++i) { *--str = digit(fp); fp = fp / base }`: exactly `n` digit characters -/
theorem fracLoop_shape (cfg : Cfg) (upper : Bool) : ∀ (n : ℕ) (m : ℚ) (b : Buf), 0 ≤ m → L.small m → b.used + n ≤ cfg.size →
    ∃ ds b', fracLoop (arithP rnd p) cfg upper n (.fin false m) b = .ok b' ∧ b'.body = ds ++ b.body ∧ b'.post = b.post ∧
      b'.sep = b.sep ∧ ds.length = n ∧ ds.all isDig = true ∧
      (∀ j : ℕ, m = j → 1 ≤ n → (ds.getLast? = some '0' ↔ j % 10 = 0)) := by
  intro n
  induction n with
  | zero => intro m b _ _ _; exact ⟨[], b, rfl, rfl, rfl, rfl, rfl, rfl, fun _ _ h => by omega⟩
  | succ n ih =>
    intro m b h0 hs hused
    unfold fracLoop
    obtain ⟨c, hc, hc0, hc9, _⟩ := digit_ok L p m
    obtain ⟨cd, cn, cz, _⟩ := digitChar_props upper c hc0 hc9
    obtain ⟨w, hw, hw0, hws, _, _, _⟩ := div10_step L S p (s := false) h0 hs
    simp only [hc, putBody_ok (cfg := cfg) (b := b) _ (by omega), bind, Except.bind, hw, arithP_modf, modf_fin]
    obtain ⟨ds, b', hrun, hbody, hpost, hsep, hlen, hall, _⟩ :=
      ih (FV.flr w) { b with body := digitChar upper c :: b.body } (flr_nonneg hw0) (L.small_down hws (flr_le w))
        (by rw [used_putBody]; omega)
    refine ⟨ds ++ [digitChar upper c], b', hrun, by rw [hbody]; simp, hpost, hsep, by simp [hlen], ?_, ?_⟩
    · simp [List.all_append, hall, cd]
    · intro j hj _
      subst hj
      have hd := digit_natmod L p j
      rw [hc] at hd
      injection hd with hd
      simp only [List.getLast?_append, List.getLast?_singleton, Option.some_or, Option.some.injEq]
      rw [cz, hd]; omega

end
end Igris.C13
