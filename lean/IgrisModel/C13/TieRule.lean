/-
  C13 — lemmas behind the theorems on the tie rule and the callback experiment: off a tie every rounding to a nearest
  integer is `roundl`; `absQ` of Tie.lean is the absolute value; the fold of `runNested`.
-/
import IgrisModel.C13.Round
import IgrisModel.C13.Nested
import IgrisModel.C13.Tie
namespace Igris.C13
open Igris.C06 (Ops)

theorem nearest_off_tie (w : ℚ) (k : ℤ) (hk : |(k : ℚ) - w| ≤ 1 / 2) (hnt : w - FV.flr w ≠ 1 / 2) :
    (k : ℚ) = FV.flr (w + 1 / 2) := by
  obtain ⟨h1, h2⟩ := abs_le.mp hk
  -- `k ≤ w + 1/2 ≤ k + 1`, and `w + 1/2 = k + 1` would make `w` a tie
  have hlt : w + 1 / 2 < (k : ℚ) + 1 := by
    refine lt_of_le_of_ne (by linarith) fun heq => hnt ?_
    have hf : FV.flr w = (k : ℚ) := by
      unfold FV.flr; rw [ratFloor_eq, (Int.floor_eq_iff (z := k)).mpr ⟨by linarith, by linarith⟩]
    rw [hf]; linarith
  unfold FV.flr
  rw [ratFloor_eq, (Int.floor_eq_iff (z := k)).mpr ⟨by linarith, hlt⟩]

theorem nearest_on_tie (w : ℚ) (k : ℤ) (hk : |(k : ℚ) - w| ≤ 1 / 2) (ht : w - FV.flr w = 1 / 2) :
    (k : ℚ) = FV.flr w ∨ (k : ℚ) = FV.flr w + 1 := by
  unfold FV.flr at *
  rw [ratFloor_eq] at *
  rw [abs_le] at hk
  obtain ⟨h1, h2⟩ := hk
  have a : ⌊w⌋ ≤ k := by
    have : ((⌊w⌋ : ℤ) : ℚ) ≤ (k : ℚ) := by linarith
    exact Int.cast_le.mp this
  have b : k ≤ ⌊w⌋ + 1 := by
    have : (k : ℚ) ≤ ((⌊w⌋ + 1 : ℤ) : ℚ) := by push_cast; linarith
    exact Int.cast_le.mp this
  rcases (by omega : k = ⌊w⌋ ∨ k = ⌊w⌋ + 1) with h | h
  · left; rw [h]
  · right; rw [h]; push_cast; ring

theorem foldl_nestCb {ρ : Type} (k : Nat) (inner : Unit → ρ) (l : List Char) (s : NestSt ρ)
    (hs : s.inner = if k < s.out.length then some (inner ()) else none) :
    (l.foldl (nestCb k inner) s).out = s.out ++ l ∧
    (l.foldl (nestCb k inner) s).inner = if k < (s.out ++ l).length then some (inner ()) else none := by
  induction l generalizing s with
  | nil => simpa using hs
  | cons c cs ih =>
    simp only [List.foldl_cons]
    have hs' : (nestCb k inner s c).inner = if k < (nestCb k inner s c).out.length then some (inner ()) else none := by
      unfold nestCb
      by_cases h : s.out.length = k
      · simp [h]
      · simp only [h, if_false, List.length_append, List.length_singleton]
        rw [hs]
        by_cases h2 : k < s.out.length
        · simp [h2]; omega
        · simp [h2]; omega
    have ho : (nestCb k inner s c).out = s.out ++ [c] := by
      unfold nestCb; split <;> rfl
    obtain ⟨i1, i2⟩ := ih (nestCb k inner s c) hs'
    rw [ho] at i1 i2
    constructor
    · rw [i1]; simp
    · rw [i2]; simp

theorem absQ_eq (q : ℚ) : absQ q = |q| := by
  unfold absQ
  split
  · rw [abs_of_neg (by assumption)]
  · rw [abs_of_nonneg (by linarith)]

end Igris.C13
