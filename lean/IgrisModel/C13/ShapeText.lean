/-
  C13 — the shape predicate `isoShape` accepts a text that is laid out by `specLayout` around a
  number made of digit blocks with the right counts (pure list reasoning, no arithmetic).
-/
import IgrisModel.C13.Shape
import IgrisModel.C13.Lemmas
import Mathlib.Data.List.Basic
namespace Igris.C13
open Igris.C06 (Ops NUL)

theorem isDig_not_dot {c : Char} (h : isDig c = true) : c ≠ '.' := by
  intro hc; subst hc; revert h; decide

theorem isDig_ne_nul {c : Char} (h : isDig c = true) : c ≠ NUL := by
  intro hc; subst hc; revert h; decide

theorem tw_append {p : Char → Bool} (ds r : List Char) (hd : ds.all p = true) (h : ∀ c, r.head? = some c → p c = false) :
    (ds ++ r).takeWhile p = ds ∧ (ds ++ r).dropWhile p = r := by
  have hall : ∀ a ∈ ds, p a = true := List.all_eq_true.mp hd
  rw [List.takeWhile_append_of_pos hall, List.dropWhile_append_of_pos hall]
  cases r with
  | nil => simp
  | cons c t => simp [List.takeWhile, List.dropWhile, h c rfl]

theorem splitNum_parts (intd frac rest : List Char) (dot : Bool) (hi : intd.all isDig = true) (hf : frac.all isDig = true)
    (hrest : ∀ c, rest.head? = some c → isDig c = false ∧ c ≠ '.') (hd : dot = false → frac = []) :
    splitNum (intd ++ (if dot then ['.'] else []) ++ frac ++ rest) = { intd := intd, dot := dot, frac := frac, rest := rest } := by
  unfold splitNum
  cases dot
  · obtain rfl := hd rfl
    obtain ⟨h1, h2⟩ := tw_append (p := isDig) intd rest hi (fun c hc => (hrest c hc).1)
    simp only [Bool.false_eq_true, if_false, List.append_nil, h1, h2]
    cases rest with
    | nil => rfl
    | cons c t =>
      have := (hrest c rfl).2
      split
      · rename_i r heq; injection heq with hc _; exact absurd hc this
      · rfl
  · obtain ⟨h1, h2⟩ := tw_append (p := isDig) intd ('.' :: (frac ++ rest)) hi (by
      intro c hc; simp at hc; subst hc; decide)
    obtain ⟨h3, h4⟩ := tw_append (p := isDig) frac rest hf (fun c hc => (hrest c hc).1)
    simp only [if_true, List.append_assoc, List.cons_append, List.nil_append, h1, h2, h3, h4]

theorem all_dig_append_zeros (ds : List Char) (z : Nat) (h : ds.all isDig = true) :
    (ds ++ List.replicate z '0').all isDig = true := by
  rw [List.all_append, h]
  simp only [Bool.true_and, List.all_eq_true]
  intro c hc
  rw [List.mem_replicate] at hc
  rw [hc.2]; decide

theorem frac_nil_of_no_dot {P : Nat} {hash : Bool} {frac : List Char} {dot : Bool} (hlen : frac.length = P)
    (hdot : dot = (decide (0 < P) || hash)) (h : dot = false) : frac = [] := by
  subst h
  cases frac with
  | nil => rfl
  | cons c t => subst hlen; simp at hdot

theorem numShape_f (hash upper : Bool) (P : Nat) (intd frac : List Char) (hi : intd.all isDig = true) (hne : intd ≠ [])
    (hlead : intd.length = 1 ∨ intd.head? ≠ some '0') (hf : frac.all isDig = true) (hlen : frac.length = P)
    (dot : Bool) (hdot : dot = (decide (0 < P) || hash)) :
    numShape .f hash upper P (intd ++ (if dot then ['.'] else []) ++ frac) = true := by
  have hs := splitNum_parts intd frac [] dot hi hf (by simp) (frac_nil_of_no_dot hlen hdot)
  rw [List.append_nil] at hs
  unfold numShape
  rw [hs]
  simp only [hlen, ← hdot]
  rcases hlead with h | h <;> simp [h, hne]

theorem digVal_zeros (ds : List Char) (h : ds.all (· = '0') = true) : digVal ds = 0 := by
  induction ds with
  | nil => rfl
  | cons c t ih =>
    simp only [List.all_cons, Bool.and_eq_true, decide_eq_true_eq] at h
    obtain ⟨rfl, ht⟩ := h
    exact ih ht

theorem expShape_eq (upper : Bool) (neg : Bool) (ds : List Char) (hd : ds.all isDig = true) (h2 : 2 ≤ ds.length)
    (hlead : ds.length = 2 ∨ ds.head? ≠ some '0') (hz : neg = true → digVal ds ≠ 0) :
    expShape upper ((if upper then 'E' else 'e') :: (if neg then '-' else '+') :: ds) =
      some (if neg then -(digVal ds : Int) else (digVal ds : Int)) := by
  unfold expShape
  have hall : neg = true → ds.all (· = '0') = false := by
    intro hn
    cases h : ds.all (· = '0') with
    | false => rfl
    | true => exact absurd (digVal_zeros ds h) (hz hn)
  have hnz : !((if neg = true then '-' else '+') = '-' && ds.all (· = '0')) = true := by
    cases neg with
    | false => simp
    | true => rw [hall rfl]; simp
  have hs : ((if neg = true then '-' else '+') = '+' || (if neg = true then '-' else '+') = '-') = true := by
    cases neg <;> simp
  have hl : (decide (ds.length = 2) || ds.head? != some '0') = true := by
    rcases hlead with h | h
    · simp [h]
    · simp [h]
  simp only [hs, hd, h2, hl, decide_true, Bool.and_true]
  cases neg with
  | false => simp
  | true =>
    have hex : ∃ x, x ∈ ds ∧ ¬x = '0' := by
      have := List.all_eq_false.mp (hall rfl)
      simpa using this
    simp
    exact hex

theorem numShape_e (hash upper : Bool) (P : Nat) (c : Char) (frac : List Char) (hc : isDig c = true)
    (hf : frac.all isDig = true) (hlen : frac.length = P) (dot : Bool) (hdot : dot = (decide (0 < P) || hash))
    (neg : Bool) (ds : List Char) (hd : ds.all isDig = true) (h2 : 2 ≤ ds.length)
    (hlead : ds.length = 2 ∨ ds.head? ≠ some '0') (hz : neg = true → digVal ds ≠ 0)
    (hzero : c = '0' → frac.all (· = '0') = true ∧ digVal ds = 0) :
    numShape .e hash upper P ([c] ++ (if dot then ['.'] else []) ++ frac ++
      ((if upper then 'E' else 'e') :: (if neg then '-' else '+') :: ds)) = true := by
  have hE := expShape_eq upper neg ds hd h2 hlead hz
  have hzero' : ([c] != ['0'] || (frac.all (· = '0') && decide ((if neg then -(digVal ds : Int) else (digVal ds : Int)) = 0))) = true := by
    by_cases hc0 : c = '0'
    · obtain ⟨h1, h2'⟩ := hzero hc0
      simp [h1, h2']
    · simp [hc0]
  unfold numShape
  rw [splitNum_parts [c] frac _ dot (by simp [hc]) hf (fun x hx => by
    simp at hx; subst hx; cases upper <;> simp <;> decide) (frac_nil_of_no_dot hlen hdot)]
  simp only [hE, hlen, ← hdot, hzero']
  simp

theorem isoShape_of_layout (conv : Conv) (ops : Ops) (width precision : Int) (neg : Bool) (body : List Char) (z : Nat)
    (expo : List Char)
    (hnum : numShape conv ops.spec ops.upper (effPrec ops precision) (body ++ List.replicate z '0' ++ expo) = true) :
    isoShape conv ops width precision neg (specLayout ops width (signText neg ops) body z expo) = true := by
  unfold isoShape
  rw [List.any_eq_true]
  set sign := signText neg ops with hsign
  set num := body ++ List.replicate z '0' ++ expo with hnumdef
  have hcore : sign.length + body.length + z + expo.length = sign.length + num.length := by
    simp [hnumdef]; omega
  refine ⟨(width - ((sign.length + body.length + z + expo.length : Nat) : Int)).toNat, ?_, ?_⟩
  · rw [List.mem_range]
    have := specLayout_length ops width sign body z expo
    omega
  · unfold shapeWith
    rw [← hsign]
    generalize hpad : (width - ((sign.length + body.length + z + expo.length : Nat) : Int)).toNat = pad
    have hA : (pad = 0 ∨ ((pad + sign.length + num.length : Nat) : Int) = width) ∧
        width ≤ ((pad + sign.length + num.length : Nat) : Int) := by omega
    unfold specLayout
    simp only [hpad]
    cases hl : ops.left with
    | true =>
      simp only [if_true]
      have e : sign ++ body ++ List.replicate z '0' ++ expo ++ List.replicate pad ' ' =
          sign ++ (num ++ List.replicate pad ' ') := by simp [hnumdef]
      rw [e]
      have hL : (sign ++ (num ++ List.replicate pad ' ')).length = pad + sign.length + num.length := by simp; omega
      rw [hL, List.drop_left' rfl]
      have hk : pad + sign.length + num.length - pad - sign.length = num.length := by omega
      rw [hk, List.take_left' rfl, hnum]
      simp only [List.append_assoc, beq_self_eq_true, Bool.and_true, Bool.and_eq_true, Bool.or_eq_true, decide_eq_true_eq]
      exact ⟨⟨by omega, hA.1⟩, hA.2⟩
    | false =>
      cases hz : ops.zero with
      | true =>
        simp only [Bool.false_eq_true, if_false, if_true]
        have e : sign ++ List.replicate pad '0' ++ body ++ List.replicate z '0' ++ expo =
            (sign ++ List.replicate pad '0') ++ num := by simp [hnumdef]
        rw [e]
        have hL : ((sign ++ List.replicate pad '0') ++ num).length = pad + sign.length + num.length := by simp; omega
        rw [hL, List.drop_left' (by simp), hnum]
        simp only [List.append_assoc, beq_self_eq_true, Bool.and_true, Bool.and_eq_true, Bool.or_eq_true, decide_eq_true_eq]
        exact ⟨⟨by omega, hA.1⟩, hA.2⟩
      | false =>
        simp only [Bool.false_eq_true, if_false]
        have e : List.replicate pad ' ' ++ sign ++ body ++ List.replicate z '0' ++ expo =
            (List.replicate pad ' ' ++ sign) ++ num := by simp [hnumdef]
        rw [e]
        have hL : ((List.replicate pad ' ' ++ sign) ++ num).length = pad + sign.length + num.length := by simp; omega
        rw [hL, List.drop_left' (by simp), hnum]
        simp only [List.append_assoc, beq_self_eq_true, Bool.and_true, Bool.and_eq_true, Bool.or_eq_true, decide_eq_true_eq]
        exact ⟨⟨by omega, hA.1⟩, hA.2⟩

end Igris.C13
