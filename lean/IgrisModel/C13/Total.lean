/-
  C13 — totality: for a lawful rounding the loops of `print_f` terminate and no conversion
  `(int)x` is undefined, so `printF` returns `.ok` for every finite representable argument whose magnitude the
  loop bound covers (`print_f_total_lawful`, Props.lean).
  The two normalisation loops are treated once (`normDown_run`, `normUp_run`: passes, range, exponent and, under
  the extra hypotheses, the accumulated error and `< 10`); what totality, the error bound and the shape proof need
  are projections of these.
-/
import IgrisModel.C13.Lemmas
import IgrisModel.C13.Laws
import IgrisModel.C13.Within
namespace Igris.C13
open Igris.C06 (Ops NUL)

def arithP (rnd : Rounding) (p : Nat → Nat → FV) : Arith FV := { arithOf rnd with pow := p }

theorem b64A_eq : b64A = arithP rnd64 powHost := rfl
theorem exactA_eq : exactA = arithP some (fun b n => FV.mk some false ((b : ℚ) ^ n)) := rfl

@[simp] theorem arithP_add (rnd : Rounding) (p : Nat → Nat → FV) : (arithP rnd p).add = FV.add rnd := rfl
@[simp] theorem arithP_mul (rnd : Rounding) (p : Nat → Nat → FV) : (arithP rnd p).mul = FV.mul rnd := rfl
@[simp] theorem arithP_div (rnd : Rounding) (p : Nat → Nat → FV) : (arithP rnd p).div = FV.div rnd := rfl
@[simp] theorem arithP_neg (rnd : Rounding) (p : Nat → Nat → FV) : (arithP rnd p).neg = FV.neg := rfl
@[simp] theorem arithP_fabs (rnd : Rounding) (p : Nat → Nat → FV) : (arithP rnd p).fabs = FV.fabs := rfl
@[simp] theorem arithP_round (rnd : Rounding) (p : Nat → Nat → FV) : (arithP rnd p).round = FV.round := rfl
@[simp] theorem arithP_modf (rnd : Rounding) (p : Nat → Nat → FV) : (arithP rnd p).modf = FV.modf := rfl
@[simp] theorem arithP_fmod (rnd : Rounding) (p : Nat → Nat → FV) : (arithP rnd p).fmod = FV.fmod := rfl
@[simp] theorem arithP_ge (rnd : Rounding) (p : Nat → Nat → FV) : (arithP rnd p).ge = FV.ge := rfl
@[simp] theorem arithP_lt (rnd : Rounding) (p : Nat → Nat → FV) : (arithP rnd p).lt = FV.lt := rfl
@[simp] theorem arithP_eq (rnd : Rounding) (p : Nat → Nat → FV) : (arithP rnd p).eq = FV.eq := rfl
@[simp] theorem arithP_signbit (rnd : Rounding) (p : Nat → Nat → FV) : (arithP rnd p).signbit = FV.signbit := rfl
@[simp] theorem arithP_isnan (rnd : Rounding) (p : Nat → Nat → FV) : (arithP rnd p).isnan = FV.isNaN := rfl
@[simp] theorem arithP_isinf (rnd : Rounding) (p : Nat → Nat → FV) : (arithP rnd p).isinf = FV.isInf := rfl
@[simp] theorem arithP_toInt (rnd : Rounding) (p : Nat → Nat → FV) : (arithP rnd p).toInt = FV.toInt := rfl
@[simp] theorem arithP_ofInt (rnd : Rounding) (p : Nat → Nat → FV) : (arithP rnd p).ofInt = FV.ofInt rnd := rfl
@[simp] theorem arithP_pow (rnd : Rounding) (p : Nat → Nat → FV) : (arithP rnd p).pow = p := rfl

theorem printF_fin (rnd : Rounding) (p : Nat → Nat → FV) {cfg : Cfg} (hr : cfg.repaired = true) (fuel : Nat) (neg : Bool)
    (x : ℚ) (nanNeg : Bool) (width precision : Int) (ops : Ops) (withExp isShort : Bool) :
    printF (arithP rnd p) cfg fuel (.fin neg x) nanNeg width precision ops withExp isShort = (do
      let d ← digitsOf (arithP rnd p) cfg fuel (.fin false x) precision ops withExp isShort
      let b ← fillBuf (arithP rnd p) cfg ops isShort d
      layout cfg ops width (signText neg ops) b (if isShort && !ops.spec then 0 else d.precision - d.signCount)) := by
  rw [printF_finite hr rfl]
  cases neg <;> rfl

/-- "the only possible failure is `fault`": on `.ok` the same as `Good`, on errors the opposite, so that `Fine` and
`Good` together give `.ok` (`fine_good`) -/
def Fine {β : Type} (P : β → Prop) : M β → Prop
  | .ok v => P v
  | .error e => e = .fault

@[simp] theorem fine_ok {β : Type} (P : β → Prop) (v : β) : Fine P (.ok v : M β) ↔ P v := Iff.rfl
@[simp] theorem fine_pure {β : Type} (P : β → Prop) (v : β) : Fine P (pure v : M β) ↔ P v := Iff.rfl
@[simp] theorem fine_error {β : Type} (P : β → Prop) (e : Err) : Fine P (.error e : M β) ↔ e = .fault := Iff.rfl
@[simp] theorem fine_throw {β : Type} (P : β → Prop) (e : Err) : Fine P (throw e : M β) ↔ e = .fault := Iff.rfl

theorem Fine.bind {β γ : Type} {m : M β} {f : β → M γ} {Q : β → Prop} {P : γ → Prop}
    (hm : Fine Q m) (hf : ∀ v, Q v → Fine P (f v)) : Fine P (m >>= f) := by
  cases m with
  | ok v => exact hf v hm
  | error e => exact hm

theorem Fine.mono {β : Type} {m : M β} {Q P : β → Prop} (hm : Fine Q m) (h : ∀ v, Q v → P v) : Fine P m := by
  cases m with
  | ok v => exact h v hm
  | error e => exact hm

theorem fine_good {β : Type} {m : M β} {P Q : β → Prop} (h1 : Fine P m) (h2 : Good Q m) :
    ∃ v, m = .ok v ∧ P v ∧ Q v := by
  cases m with
  | ok v => exact ⟨v, rfl, h1, h2⟩
  | error e => exact absurd h1 h2

/-- the value `z` as `print_f` holds it in `ep` -/
def epv (z : ℤ) : FV := .fin (decide (z < 0)) ((z.natAbs : ℕ) : ℚ)

section
variable {rnd : Rounding} (L : Lawful rnd) (p : Nat → Nat → FV)
include L

theorem mk_nat (n : Bool) (k : ℕ) (hk : k ≤ 2 ^ 53) : FV.mk rnd n (k : ℚ) = .fin n k := by
  simp [FV.mk, L.nat_exact k hk]

theorem ofInt_epv (z : ℤ) (h : z.natAbs ≤ 2 ^ 53) : (arithP rnd p).ofInt z = epv z := by
  simp only [arithP_ofInt]
  unfold FV.ofInt epv
  exact mk_nat L _ _ h

theorem ofInt_nat (k : ℕ) (hk : k ≤ 2 ^ 53) : (arithP rnd p).ofInt (k : ℤ) = .fin false k := by
  have : ¬ ((k : ℤ) < 0) := by omega
  rw [ofInt_epv L p _ (by omega)]
  simp only [epv, this, decide_false, Int.natAbs_natCast]

theorem ofInt_negNat (k : ℕ) (hk0 : 0 < k) (hk : k ≤ 2 ^ 53) : (arithP rnd p).ofInt (-(k : ℤ)) = .fin true k := by
  have : (-(k : ℤ) < 0) := by omega
  rw [ofInt_epv L p _ (by omega)]
  simp only [epv, this, decide_true, Int.natAbs_neg, Int.natAbs_natCast]

theorem ten_eq : (arithP rnd p).ten = .fin false 10 := by
  have := ofInt_nat L p 10 (by norm_num); simpa [Arith.ten] using this
theorem one_eq : (arithP rnd p).one = .fin false 1 := by
  have := ofInt_nat L p 1 (by norm_num); simpa [Arith.one] using this
theorem zero_eq : (arithP rnd p).zero = .fin false 0 := by
  have := ofInt_nat L p 0 (by norm_num); simpa [Arith.zero] using this

/-- finite, either sign, the magnitude in the range without overflow: what totality needs of `ep` -/
def FinS (L : Lawful rnd) (v : FV) : Prop := ∃ n m, v = .fin n m ∧ 0 ≤ m ∧ L.small m

theorem small_of_rnd {q v : ℚ} (h : rnd q = some v) : L.small v :=
  L.small_down (L.rep_succ_small h) (by linarith)

theorem div_ten {n : Bool} {m : ℚ} (h0 : 0 ≤ m) (hs : L.small m) :
    ∃ w, (arithP rnd p).div (.fin n m) (arithP rnd p).ten = .fin n w ∧ 0 ≤ w ∧ L.small w ∧ rnd (m / 10) = some w := by
  have hs' : L.small (m / 10) := L.small_down hs (by linarith)
  obtain ⟨w, hw⟩ := L.rnd_small hs'
  refine ⟨w, ?_, L.nonneg (by positivity) hw, small_of_rnd L hw, hw⟩
  rw [ten_eq L p]
  simp [FV.div, FV.mk, hw]

/-- `MODF(x / base, &x)` -/
theorem modf_div_ten {n : Bool} {m : ℚ} (h0 : 0 ≤ m) (hs : L.small m) :
    ∃ w, ((arithP rnd p).modf ((arithP rnd p).div (.fin n m) (arithP rnd p).ten)).2 = .fin n w ∧ 0 ≤ w ∧
      L.small w := by
  obtain ⟨w, hw, hw0, hws, _⟩ := div_ten L p (n := n) h0 hs
  rw [hw]
  exact ⟨FV.flr w, rfl, flr_nonneg hw0, L.small_down hws (flr_le w)⟩

theorem finS_step {v : FV} (h : FinS L v) :
    FinS L ((arithP rnd p).modf ((arithP rnd p).div v (arithP rnd p).ten)).2 := by
  obtain ⟨n, m, rfl, h0, hs⟩ := h
  obtain ⟨w, hw, hw0, hws⟩ := modf_div_ten L p (n := n) h0 hs
  exact ⟨n, w, hw, hw0, hws⟩

/-- `(int)fmod(x, 10)` -/
theorem digit_ok (m : ℚ) :
    ∃ c, toIntM (arithP rnd p) ((arithP rnd p).fmod (.fin false m) (arithP rnd p).ten) = .ok c ∧ 0 ≤ c ∧ c ≤ 9 ∧
      c = (m - FV.flr (m / 10) * 10).floor := by
  rw [ten_eq L p]
  show ∃ c, toIntM (arithP rnd p) (FV.fmod (.fin false m) (.fin false 10)) = .ok c ∧ _
  have e : FV.fmod (.fin false m) (.fin false 10) = .fin false (m - FV.flr (m / 10) * 10) := by
    simp [FV.fmod]
  rw [e]
  set t := m - FV.flr (m / 10) * 10 with ht
  have h1 := flr_le (m / 10)
  have h2 := lt_flr_add_one (m / 10)
  have t0 : 0 ≤ t := by rw [ht]; linarith
  have t10 : t < 10 := by rw [ht]; linarith
  have f0 : (0 : ℤ) ≤ t.floor := Rat.le_floor_iff.mpr (by exact_mod_cast t0)
  have f9 : t.floor ≤ 9 := by
    have : ((t.floor : ℤ) : ℚ) ≤ t := Rat.floor_le t
    have : ((t.floor : ℤ) : ℚ) < 10 := by linarith
    have : t.floor < 10 := by exact_mod_cast this
    omega
  refine ⟨t.floor, ?_, f0, f9, rfl⟩
  show toIntM (arithP rnd p) (.fin false t) = _
  unfold toIntM
  show (match FV.toInt (.fin false t) with | some v => _ | none => _) = _
  have : FV.toInt (.fin false t) = some t.floor := by
    unfold FV.toInt
    simp only [Bool.false_eq_true, if_false]
    rw [if_pos (by constructor <;> omega)]
  rw [this]

/-- `FinS` with the sign bit clear: what totality needs of `ip` and `fp` -/
def NN (L : Lawful rnd) (v : FV) : Prop := ∃ m, v = .fin false m ∧ 0 ≤ m ∧ L.small m

theorem NN.finS {v : FV} (h : NN L v) : FinS L v := by
  obtain ⟨m, rfl, h0, hs⟩ := h; exact ⟨false, m, rfl, h0, hs⟩

theorem nn_step {v : FV} (h : NN L v) :
    NN L ((arithP rnd p).modf ((arithP rnd p).div v (arithP rnd p).ten)).2 := by
  obtain ⟨m, rfl, h0, hs⟩ := h
  obtain ⟨w, hw, hw0, hws⟩ := modf_div_ten L p (n := false) h0 hs
  exact ⟨w, hw, hw0, hws⟩

theorem nn_div {v : FV} (h : NN L v) : NN L ((arithP rnd p).div v (arithP rnd p).ten) := by
  obtain ⟨m, rfl, h0, hs⟩ := h
  obtain ⟨w, hw, hw0, hws, _⟩ := div_ten L p (n := false) h0 hs
  rw [hw]
  exact ⟨w, rfl, hw0, hws⟩

omit L in
theorem fine_putPost (cfg : Cfg) (b : Buf) (c : Char) :
    Fine (fun b' => b' = { b with post := c :: b.post }) (putPost cfg b c) := by
  unfold putPost; split <;> simp
omit L in
theorem fine_putBody (cfg : Cfg) (b : Buf) (c : Char) :
    Fine (fun b' => b' = { b with body := c :: b.body }) (putBody cfg b c) := by
  unfold putBody; split <;> simp

theorem fine_digit (m : ℚ) :
    Fine (fun c => 0 ≤ c ∧ c ≤ 9)
      (toIntM (arithP rnd p) ((arithP rnd p).fmod (.fin false m) (arithP rnd p).ten)) := by
  obtain ⟨c, hc, h1, h2, _⟩ := digit_ok L p m
  rw [hc]; exact ⟨h1, h2⟩

theorem expLoop_fine (cfg : Cfg) (upper : Bool) : ∀ (n : Nat) (ep : FV) (b : Buf), FinS L ep →
    Fine (fun _ => True) (expLoop (arithP rnd p) cfg upper n ep b) := by
  intro n
  induction n with
  | zero => intro ep b _; simp [expLoop]
  | succ n ih =>
    intro ep b h
    unfold expLoop
    obtain ⟨s, m, rfl, h0, hs⟩ := h
    have hf : (arithP rnd p).fabs (.fin s m) = .fin false m := rfl
    rw [hf]
    refine (fine_digit L p m).bind fun c _ => ?_
    refine (fine_putPost cfg b _).bind fun b' _ => ?_
    dsimp only
    split
    · exact ih _ _ (finS_step L p ⟨s, m, rfl, h0, hs⟩)
    · simp

theorem fracLoop_fine (cfg : Cfg) (upper : Bool) : ∀ (n : Nat) (fp : FV) (b : Buf), NN L fp →
    Fine (fun _ => True) (fracLoop (arithP rnd p) cfg upper n fp b) := by
  intro n
  induction n with
  | zero => intro fp b _; simp [fracLoop]
  | succ n ih =>
    intro fp b h
    unfold fracLoop
    obtain ⟨m, rfl, h0, hs⟩ := h
    refine (fine_digit L p m).bind fun c _ => ?_
    refine (fine_putBody cfg b _).bind fun b' _ => ?_
    exact ih _ _ (nn_step L p ⟨m, rfl, h0, hs⟩)

theorem intLoop_fine (cfg : Cfg) (upper : Bool) : ∀ (n : Nat) (ip : FV) (b : Buf), NN L ip →
    Fine (fun _ => True) (intLoop (arithP rnd p) cfg upper n ip b) := by
  intro n
  induction n with
  | zero => intro ip b _; simp [intLoop]
  | succ n ih =>
    intro ip b h
    unfold intLoop
    obtain ⟨m, rfl, h0, hs⟩ := h
    refine (fine_digit L p m).bind fun c _ => ?_
    refine (fine_putBody cfg b _).bind fun b' _ => ?_
    dsimp only
    split
    · exact ih _ _ (nn_step L p ⟨m, rfl, h0, hs⟩)
    · simp

theorem fillBuf_fine (cfg : Cfg) (ops : Ops) (isShort : Bool) (d : Digits FV)
    (hep : FinS L d.ep) (hfp : NN L d.fp) (hip : NN L d.ip) :
    Fine (fun _ => True) (fillBuf (arithP rnd p) cfg ops isShort d) := by
  unfold fillBuf
  split
  · simp
  · refine Fine.bind (Q := fun _ => True) ?_ (fun b _ => ?_)
    · split
      · refine (expLoop_fine L p cfg ops.upper _ d.ep {} hep).bind fun r _ => ?_
        refine Fine.bind (Q := fun _ => True) ?_ (fun b1 _ => ?_)
        · split
          · exact (fine_putPost cfg _ _).mono fun _ _ => trivial
          · simp
        · refine (fine_putPost cfg _ _).bind fun b2 _ => ?_
          refine (fine_putPost cfg _ _).bind fun b3 _ => ?_
          split <;> simp
      · simp
    · refine (fracLoop_fine L p cfg ops.upper _ d.fp b hfp).bind fun b1 _ => ?_
      refine Fine.bind (Q := fun _ => True) ?_ (fun b2 _ => ?_)
      · split
        · exact (fine_putBody cfg _ _).mono fun _ _ => trivial
        · simp
      · exact intLoop_fine L p cfg ops.upper _ d.ip b2 hip

end

theorem fine_emitN {n : Int} (h : 0 ≤ n) (c : Char) : Fine (fun _ => True) (emitN n c) := by
  unfold emitN; simp [h]

theorem layout_fine (cfg : Cfg) (hr : cfg.repaired = true) (ops : Ops) (width : Int) (pfx : List Char) (b : Buf)
    (zl : Int) (hzl : 0 ≤ zl) : Fine (fun _ => True) (layout cfg ops width pfx b zl) := by
  rw [layout_eq hr, if_pos hzl]; trivial

theorem ge_fin (n : Bool) (a : ℚ) (n' : Bool) (b : ℚ) :
    FV.ge (.fin n a) (.fin n' b) = decide (FV.sval n a ≥ FV.sval n' b) := by
  simp [FV.ge, FV.key, FV.isNaN]
theorem lt_fin (n : Bool) (a : ℚ) (n' : Bool) (b : ℚ) :
    FV.lt (.fin n a) (.fin n' b) = decide (FV.sval n a < FV.sval n' b) := by
  simp [FV.lt, FV.key, FV.isNaN]
  exact decide_eq_decide.mpr Iff.rfl
theorem eq_fin (n : Bool) (a : ℚ) (n' : Bool) (b : ℚ) :
    FV.eq (.fin n a) (.fin n' b) = decide (FV.sval n a = FV.sval n' b) := by
  simp [FV.eq, FV.key, FV.isNaN]
  exact decide_eq_decide.mpr Iff.rfl

theorem natAbs_cast_neg {z : ℤ} (h : z < 0) : ((z.natAbs : ℕ) : ℚ) = -(z : ℚ) := by
  rw [Nat.cast_natAbs, abs_of_neg h]; push_cast; ring
theorem natAbs_cast_nonneg {z : ℤ} (h : 0 ≤ z) : ((z.natAbs : ℕ) : ℚ) = (z : ℚ) := by
  rw [Nat.cast_natAbs, abs_of_nonneg h]

theorem sval_epv (z : ℤ) : FV.sval (decide (z < 0)) ((z.natAbs : ℕ) : ℚ) = (z : ℚ) := by
  unfold FV.sval
  by_cases h : z < 0
  · simp only [h, decide_true, if_true]
    rw [natAbs_cast_neg h]; ring
  · simp only [h, decide_false, Bool.false_eq_true, if_false]
    exact natAbs_cast_nonneg (not_lt.mp h)

def ipOf (x : ℚ) : FV := .fin false (FV.flr x)
def fpOf (x : ℚ) : FV := .fin false (x - FV.flr x)

theorem modf_fin (x : ℚ) : FV.modf (.fin false x) = (fpOf x, ipOf x) := rfl

theorem round_fin (w : ℚ) : FV.round (.fin false w) = .fin false (FV.flr (w + 1 / 2)) := rfl

section
variable {rnd : Rounding} (L : Lawful rnd) (p : Nat → Nat → FV)
include L

theorem add_epv (z c : ℤ) (h : (z + c).natAbs ≤ 2 ^ 53) : FV.add rnd (epv z) (epv c) = epv (z + c) := by
  unfold epv
  simp only [FV.add, sval_epv]
  have hs : (z : ℚ) + (c : ℚ) = ((z + c : ℤ) : ℚ) := by push_cast; rfl
  rw [hs]
  by_cases h0 : z + c = 0
  · have hnb : (decide (z < 0) && decide (c < 0)) = false := by
      by_cases h1 : z < 0 <;> by_cases h2 : c < 0 <;> simp [h1, h2]; omega
    simp [h0, hnb]
  · have h0' : ¬ (((z + c : ℤ) : ℚ) = 0) := by exact_mod_cast h0
    simp only [h0', if_false]
    by_cases h1 : z + c < 0
    · have h1' : (((z + c : ℤ) : ℚ) < 0) := by exact_mod_cast h1
      simp only [h1', if_true, h1, decide_true]
      have : -(((z + c : ℤ)) : ℚ) = (((z + c).natAbs : ℕ) : ℚ) := (natAbs_cast_neg h1).symm
      rw [this]
      exact mk_nat L true _ h
    · have h1' : ¬ (((z + c : ℤ) : ℚ) < 0) := by exact_mod_cast h1
      simp only [h1', if_false, h1, decide_false]
      have : (((z + c : ℤ)) : ℚ) = (((z + c).natAbs : ℕ) : ℚ) := (natAbs_cast_nonneg (not_lt.mp h1)).symm
      rw [this]
      exact mk_nat L false _ h

omit L in
theorem add_modf {x : ℚ} (hx : rnd x = some x) (h0 : 0 ≤ x) : FV.add rnd (ipOf x) (fpOf x) = .fin false x := by
  unfold ipOf fpOf
  simp only [FV.add, FV.sval, Bool.false_eq_true, if_false]
  have : FV.flr x + (x - FV.flr x) = x := by ring
  rw [this]
  rcases lt_or_eq_of_le h0 with h | h
  · simp [ne_of_gt h, not_lt.mpr h0, FV.mk, hx]
  · simp [← h]

theorem small_nat (n : ℕ) (hn : n ≤ 2 ^ 53) : L.small ((n : ℚ) + 1) := L.rep_succ_small (L.nat_exact n hn)

theorem lawful_u_le_one : L.u ≤ 1 := le_trans L.hu (by norm_num)

theorem ge_ten (a : ℚ) : (arithP rnd p).ge (.fin false a) (arithP rnd p).ten = decide (a ≥ 10) := by
  rw [ten_eq L p]; simp only [arithP_ge, ge_fin, FV.sval, Bool.false_eq_true, if_false]

/-- the test of `while (ip >= base)` -/
theorem ge_ten_ipOf (x : ℚ) : (arithP rnd p).ge (ipOf x) (arithP rnd p).ten = decide (10 ≤ x) := by
  rw [ipOf, ge_ten L p]
  exact decide_eq_decide.mpr (by simpa using flr_ge_iff x 10)

/-- the test of `while (ip == 0.0L)` -/
theorem eq_zero_ipOf {x : ℚ} (h0 : 0 ≤ x) : (arithP rnd p).eq (ipOf x) (arithP rnd p).zero = decide (x < 1) := by
  rw [zero_eq L p]; simp only [arithP_eq, ipOf, eq_fin, FV.sval, Bool.false_eq_true, if_false]
  exact decide_eq_decide.mpr (flr_eq_zero_iff h0)

omit L in
theorem ne_fin (a b : ℚ) : (arithP rnd p).ne (.fin false a) (.fin false b) = !decide (a = b) := by
  simp only [Arith.ne, arithP_eq, eq_fin, FV.sval, Bool.false_eq_true, if_false]

/-- the test `fp != 0.0L` -/
theorem ne_fp (x : ℚ) :
    (arithP rnd p).ne (fpOf x) (arithP rnd p).zero = !decide (x - FV.flr x = 0) := by
  rw [zero_eq L p]; exact ne_fin p _ _

/-- `ep += 1.0L` -/
theorem epv_succ (e : ℤ) (he : e.natAbs + 1 ≤ 2 ^ 53) :
    (arithP rnd p).add (epv e) (arithP rnd p).one = epv (e + 1) := by
  rw [one_eq L p]; simp only [arithP_add]
  have := add_epv L e 1 (by omega)
  have e1 : epv 1 = .fin false 1 := by simp [epv]
  rw [e1] at this; exact this

/-- `ep -= 1.0L` -/
theorem epv_pred (z : ℤ) (hz : z.natAbs + 1 ≤ 2 ^ 53) :
    (arithP rnd p).add (epv z) ((arithP rnd p).ofInt (-1)) = epv (z - 1) := by
  rw [ofInt_epv L p (-1) (by norm_num)]; simp only [arithP_add]
  have := add_epv L z (-1) (by omega)
  rw [this]; rfl

theorem epv_zero : epv 0 = .fin false 0 := by simp [epv]

theorem finS_epv (z : ℤ) (h : z.natAbs ≤ 2 ^ 53) : FinS L (epv z) :=
  ⟨_, _, rfl, by positivity, L.small_down (small_nat L _ h) (by linarith)⟩

omit L in
theorem toIntM_epv (z : ℤ) (h1 : -2147483648 ≤ z) (h2 : z ≤ 2147483647) :
    toIntM (arithP rnd p) (epv z) = .ok z := by
  unfold toIntM epv
  simp only [arithP_toInt, FV.toInt]
  have hf : (((z.natAbs : ℕ) : ℚ)).floor = ((z.natAbs : ℕ) : ℤ) := by
    have := Rat.floor_intCast ((z.natAbs : ℕ) : ℤ)
    rwa [Int.cast_natCast] at this
  rw [hf]
  by_cases hz : z < 0
  · simp only [hz, decide_true, if_true]
    have : -((z.natAbs : ℕ) : ℤ) = z := by omega
    rw [this, if_pos ⟨h1, h2⟩]
  · simp only [hz, decide_false, Bool.false_eq_true, if_false]
    have : ((z.natAbs : ℕ) : ℤ) = z := by omega
    rw [this, if_pos ⟨h1, h2⟩]

omit L in
theorem lt_epv (a b : ℤ) : FV.lt (epv a) (epv b) = decide (a < b) := by
  unfold epv; rw [lt_fin, sval_epv, sval_epv]
  exact decide_eq_decide.mpr (by exact_mod_cast Iff.rfl)
omit L in
theorem ge_epv (a b : ℤ) : FV.ge (epv a) (epv b) = decide (a ≥ b) := by
  unfold epv; rw [ge_fin, sval_epv, sval_epv]
  exact decide_eq_decide.mpr (by exact_mod_cast Iff.rfl)

theorem normDown_stop {x : ℚ} (h : x < 10) (fuel : ℕ) (ep : FV) :
    normDown (arithP rnd p) fuel (ipOf x) (fpOf x) ep = .ok (ipOf x, fpOf x, ep) := by
  have hge := ge_ten_ipOf L p x
  rw [decide_eq_false (not_le.mpr h)] at hge
  cases fuel <;> simp [normDown, hge]

theorem normUp_stop {x : ℚ} (h : 1 ≤ x) (fuel : ℕ) (ep : FV) :
    normUp (arithP rnd p) fuel (ipOf x) (fpOf x) ep = .ok (ipOf x, fpOf x, ep) := by
  have heq := eq_zero_ipOf L p (x := x) (by linarith)
  rw [decide_eq_false (not_lt.mpr h)] at heq
  cases fuel <;> simp [normUp, heq]

/-- one pass of `while (ip >= base)`: the value `x ≥ 10` (= ip + fp exactly, `add_modf`) becomes
`w = rnd (x / 10)`, which lies between 7/8 and `x / 8`; since the quotient is at least 1, the error of the
pass is relative (at most `u`) as soon as `d ≤ u` -/
theorem normDown_pass {x : ℚ} (hx : rnd x = some x) (h10 : 10 ≤ x) :
    ∃ w, rnd w = some w ∧ 7 / 8 ≤ w ∧ w ≤ x / 8 ∧ (L.d ≤ L.u → |w - x * (1 / 10)| ≤ x * (1 / 10) * L.u) ∧
      (arithP rnd p).modf ((arithP rnd p).div ((arithP rnd p).add (ipOf x) (fpOf x)) (arithP rnd p).ten)
        = (fpOf w, ipOf w) := by
  have h0 : 0 ≤ x := by linarith only [h10]
  obtain ⟨w, hw, hw0, hws, hrw⟩ := div_ten L p (n := false) h0 (small_of_rnd L hx)
  have hq : (0:ℚ) < x / 10 := by linarith only [h10]
  have hrel := abs_le.mp (rnd_rel L L.hu hq (by linarith only [L.hd, h10]) hrw)
  refine ⟨w, L.idem hrw, by linarith only [hrel.1, h10], by linarith only [hrel.2, h0], fun hdu => ?_, ?_⟩
  · rw [show x * (1 / 10) = x / 10 by ring]
    exact rnd_rel L (le_refl _) hq (le_trans hdu (by nlinarith only [L.hu0, h10])) hrw
  · simp only [arithP_add, add_modf hx h0]
    rw [hw]; rfl

/-- `x * 10` in `while (ip == 0.0L)` and in the fraction loop: a representable positive value is at least `2 d`, so the
absolute error term is harmless -/
theorem mul10_pass {x : ℚ} (hx : rnd x = some x) (h0 : 0 < x) (hs : L.small (x * 10)) :
    ∃ w, rnd (x * 10) = some w ∧ (arithP rnd p).mul (.fin false x) (arithP rnd p).ten = .fin false w ∧
      8 * x ≤ w ∧ w ≤ 12 * x ∧ (L.d ≤ x * 10 * L.u → |w - x * 10| ≤ x * 10 * L.u) := by
  obtain ⟨w, hrw⟩ := L.rnd_small hs
  have htiny : 2 * L.d ≤ x := (L.rep_tiny (le_of_lt h0) hx).resolve_left (ne_of_gt h0)
  have hq : (0:ℚ) < x * 10 := by linarith only [h0]
  have hrel := abs_le.mp (rnd_rel L L.hu hq (by linarith only [htiny, h0]) hrw)
  exact ⟨w, hrw, by rw [ten_eq L p]; simp [FV.mul, FV.mk, hrw], by linarith only [hrel.1, h0], by linarith only [hrel.2, h0],
    fun hdn => rnd_rel L (le_refl _) hq hdn hrw⟩

/-- one pass of `while (ip == 0.0L)` -/
theorem normUp_pass {x : ℚ} (hx : rnd x = some x) (h0 : 0 < x) (h1 : x < 1) :
    ∃ w, rnd w = some w ∧ rnd (x * 10) = some w ∧ 8 * x ≤ w ∧ w < 12 ∧
      (L.d ≤ x * 10 * L.u → |w - x * 10| ≤ x * 10 * L.u) ∧
      (arithP rnd p).modf ((arithP rnd p).mul ((arithP rnd p).add (ipOf x) (fpOf x)) (arithP rnd p).ten)
        = (fpOf w, ipOf w) := by
  obtain ⟨w, hrw, hmul, h8, h12, hrel⟩ := mul10_pass L p hx h0
    (L.small_down (small_nat L 10 (by norm_num)) (by push_cast; linarith only [h1]))
  refine ⟨w, L.idem hrw, hrw, h8, by linarith only [h12, h1], hrel, ?_⟩
  simp only [arithP_add, add_modf hx (le_of_lt h0)]
  rw [hmul]; rfl

/-- `while (ip >= base)`: `x < 10·8^N` bounds the passes by `N`, each divides by more than 8 (`normDown_pass`) -/
theorem normDown_run : ∀ (N fuel : ℕ) (x : ℚ) (k : ℕ), N ≤ fuel → rnd x = some x → 0 ≤ x → x < 10 * 8 ^ N →
    k + N ≤ 2 ^ 53 →
    ∃ (x' : ℚ) (j : ℕ), j ≤ N ∧ rnd x' = some x' ∧ 0 ≤ x' ∧ x' < 10 ∧ (j = 0 → x' = x) ∧ (0 < j → 7 / 8 ≤ x') ∧
      normDown (arithP rnd p) fuel (ipOf x) (fpOf x) (epv k) = .ok (ipOf x', fpOf x', epv ((k + j : ℕ) : ℤ)) ∧
      (L.d ≤ L.u → Within j L.u x' (x / 10 ^ j)) ∧ (x < 10 → j = 0) := by
  intro N
  induction N with
  | zero =>
    intro fuel x k _ hx h0 hlt _
    exact ⟨x, 0, le_refl _, hx, h0, by linarith, fun _ => rfl, fun h => absurd h (lt_irrefl _),
      normDown_stop L p (by linarith) fuel _, fun _ => by simpa using Within.refl L.u x, fun _ => rfl⟩
  | succ N ih =>
    intro fuel x k hf hx h0 hlt hk
    by_cases h10 : x < 10
    · exact ⟨x, 0, Nat.zero_le _, hx, h0, h10, fun _ => rfl, fun h => absurd h (lt_irrefl _),
        normDown_stop L p h10 fuel _, fun _ => by simpa using Within.refl L.u x, fun _ => rfl⟩
    · have h10' : 10 ≤ x := not_lt.mp h10
      obtain ⟨f, rfl⟩ : ∃ f, fuel = f + 1 := ⟨fuel - 1, by omega⟩
      obtain ⟨w, hww, hw78, hwle, hrel, hstep⟩ := normDown_pass L p hx h10'
      obtain ⟨x', j, hj, hx', h0', hlt', hj0, hpos', hrun, hwi, _⟩ := ih f w (k + 1) (by omega) hww (by linarith)
        (by have : (8:ℚ) ^ (N + 1) = 8 * 8 ^ N := by ring
            rw [this] at hlt; linarith) (by omega)
      refine ⟨x', j + 1, by omega, hx', h0', hlt', by omega, fun _ => ?_, ?_, fun hdu => ?_, fun h => absurd h h10⟩
      · rcases Nat.eq_zero_or_pos j with hj' | hj'
        · rw [hj0 hj']; exact hw78
        · exact hpos' hj'
      · have hge : (arithP rnd p).ge (ipOf x) (arithP rnd p).ten = true := by
          rw [ge_ten_ipOf L p]; exact decide_eq_true h10'
        have hep : (arithP rnd p).add (epv k) (arithP rnd p).one = epv ((k + 1 : ℕ) : ℤ) := by
          rw [epv_succ L p k (by omega)]; rfl
        simp only [normDown, hge, if_true, hstep, hep]
        rw [hrun]
        have : ((k + 1 + j : ℕ) : ℤ) = ((k + (j + 1) : ℕ) : ℤ) := by push_cast; ring
        rw [this]
      · have := Within.cons L.hu0 (lawful_u_le_one L) (by norm_num : (0:ℚ) < 1 / 10) (hrel hdu)
          (by rw [one_div_pow, ← div_eq_mul_one_div]; exact hwi hdu)
        rwa [one_div_pow, ← div_eq_mul_one_div] at this

theorem normDown_total : ∀ (N fuel : ℕ) (x : ℚ) (k : ℕ), N ≤ fuel → rnd x = some x → 0 ≤ x → x < 10 * 8 ^ N →
    k + N ≤ 2 ^ 53 →
    ∃ (x' : ℚ) (j : ℕ), j ≤ N ∧ rnd x' = some x' ∧ 0 ≤ x' ∧ x' < 10 ∧ (j = 0 → x' = x) ∧ (0 < j → 7 / 8 ≤ x') ∧
      normDown (arithP rnd p) fuel (ipOf x) (fpOf x) (epv k) = .ok (ipOf x', fpOf x', epv ((k + j : ℕ) : ℤ)) := by
  intro N fuel x k hf hx h0 hlt hk
  obtain ⟨x', j, h1, h2, h3, h4, h5, h6, h7, _, _⟩ := normDown_run L p N fuel x k hf hx h0 hlt hk
  exact ⟨x', j, h1, h2, h3, h4, h5, h6, h7⟩

/-- `while (ip == 0.0L)`: `8^-N ≤ x` bounds the passes by `N`, each multiplies by at least 8 (`normUp_pass`).  The
result is below 12, and below 10 if the rounding never lifts `10·v`, `v < 1`, to 10 (`TenOk`, B64.lean). -/
theorem normUp_run : ∀ (N fuel : ℕ) (x : ℚ) (z : ℤ), N ≤ fuel → rnd x = some x → 0 < x → 1 ≤ x * 8 ^ N →
    z.natAbs + N ≤ 2 ^ 53 → x < 12 →
    ∃ (x' : ℚ) (j : ℕ), j ≤ N ∧ rnd x' = some x' ∧ 1 ≤ x' ∧ x' < 12 ∧ (j = 0 → x' = x) ∧ (1 ≤ x → j = 0) ∧
      (7 / 8 ≤ x → j ≤ 1) ∧
      (x < 10 → (∀ v w, rnd v = some v → 0 ≤ v → v < 1 → rnd (v * 10) = some w → w < 10) → x' < 10) ∧
      normUp (arithP rnd p) fuel (ipOf x) (fpOf x) (epv z) = .ok (ipOf x', fpOf x', epv (z - (j : ℤ))) ∧
      (L.d ≤ x * 10 * L.u → Within j L.u x' (x * 10 ^ j)) := by
  intro N
  induction N with
  | zero =>
    intro fuel x z _ hx h0 h1 _ h12
    have hx1 : 1 ≤ x := by simpa using h1
    exact ⟨x, 0, le_refl _, hx, hx1, h12, fun _ => rfl, fun _ => rfl, fun _ => by omega, fun h _ => h,
      by simpa using normUp_stop L p hx1 fuel _, fun _ => by simpa using Within.refl L.u x⟩
  | succ N ih =>
    intro fuel x z hf hx h0 h1 hz h12
    by_cases hx1 : 1 ≤ x
    · exact ⟨x, 0, Nat.zero_le _, hx, hx1, h12, fun _ => rfl, fun _ => rfl, fun _ => by omega, fun h _ => h,
        by simpa using normUp_stop L p hx1 fuel _, fun _ => by simpa using Within.refl L.u x⟩
    · have hlt1 : x < 1 := not_le.mp hx1
      obtain ⟨f, rfl⟩ : ∃ f, fuel = f + 1 := ⟨fuel - 1, by omega⟩
      obtain ⟨w, hww, hrw, hwge, hwlt, hrel, hstep⟩ := normUp_pass L p hx h0 hlt1
      obtain ⟨x', j, hj, hx', h1', h12', _, hj1, _, hten', hrun, hwi⟩ := ih f w (z - 1) (by omega) hww (by linarith)
        (by have : (8:ℚ) ^ (N + 1) = 8 * 8 ^ N := by ring
            rw [this] at h1
            have h8 : (0:ℚ) ≤ 8 ^ N := by positivity
            have := mul_le_mul_of_nonneg_right hwge h8
            linarith only [this, h1]) (by omega) hwlt
      refine ⟨x', j + 1, by omega, hx', h1', h12', by omega, fun h => absurd h hx1, fun h78 => ?_,
        fun _ ht => hten' (ht x w hx (le_of_lt h0) hlt1 hrw) ht, ?_, fun hdn => ?_⟩
      · have := hj1 (by linarith); omega
      · have heq : (arithP rnd p).eq (ipOf x) (arithP rnd p).zero = true := by
          rw [eq_zero_ipOf L p (le_of_lt h0)]; exact decide_eq_true hlt1
        simp only [normUp, heq, if_true, hstep, epv_pred L p z (by omega)]
        rw [hrun]
        have : z - 1 - (j : ℤ) = z - ((j + 1 : ℕ) : ℤ) := by push_cast; ring
        rw [this]
      · have hdn' : L.d ≤ w * 10 * L.u := by
          have : x * 10 * L.u ≤ w * 10 * L.u := mul_le_mul_of_nonneg_right (by linarith) L.hu0
          linarith
        exact Within.cons L.hu0 (lawful_u_le_one L) (by norm_num) (hrel hdn) (hwi hdn')

theorem normUp_total : ∀ (N fuel : ℕ) (x : ℚ) (z : ℤ), N ≤ fuel → rnd x = some x → 0 < x → 1 ≤ x * 8 ^ N →
    z.natAbs + N ≤ 2 ^ 53 → x < 12 →
    ∃ (x' : ℚ) (j : ℕ), j ≤ N ∧ rnd x' = some x' ∧ 1 ≤ x' ∧ x' < 12 ∧ (j = 0 → x' = x) ∧
      normUp (arithP rnd p) fuel (ipOf x) (fpOf x) (epv z) = .ok (ipOf x', fpOf x', epv (z - (j : ℤ))) := by
  intro N fuel x z hf hx h0 h1 hz h12
  obtain ⟨x', j, g1, g2, g3, g4, g5, _, _, _, g6, _⟩ := normUp_run L p N fuel x z hf hx h0 h1 hz h12
  exact ⟨x', j, g1, g2, g3, g4, g5, g6⟩

end
end Igris.C13
