/- C13 helper lemmas: the emission blocks refine `specLayout`; a Hoare-style predicate
   `Good` ("does not fault, result satisfies P") pushed through every loop of print_f; the two branches of
   print_f as equations (`printF_nonfinite`: the padded `nfText`; `printF_finite`: digits, buffer, emission). -/
import IgrisModel.Common.ListScan
import IgrisModel.C13.Model
import IgrisModel.C13.Spec
namespace Igris.C13
open Igris.C06 (Ops NUL)

theorem emitN_ok {n : Int} {c : Char} {s : List Char} (h : emitN n c = .ok s) :
    0 ≤ n ∧ s = List.replicate n.toNat c := by
  unfold emitN at h
  split at h
  · simp at h; exact ⟨by omega, h.symm⟩
  · simp at h

theorem cstrlen_le (s : List Char) : cstrlen s ≤ s.length := by
  unfold cstrlen; exact (List.takeWhile_prefix _).length_le

theorem cstrlen_eq_length (s : List Char) (h : ∀ c ∈ s, c ≠ NUL) : cstrlen s = s.length := by
  unfold cstrlen
  rw [takeWhile_all fun c hc => by simpa using h c hc]

theorem cstrlen_full (s : List Char) (h : ∀ c ∈ s, c ≠ NUL) : s.take (cstrlen s) = s := by
  rw [cstrlen_eq_length s h, List.take_length]

/-- with a negative `zero_left` the loop `while (zero_left--)` never ends -/
theorem layout_eq {cfg : Cfg} (hr : cfg.repaired = true) (ops : Ops) (width : Int) (pfx : List Char) (b : Buf) (zl : Int) :
    layout cfg ops width pfx b zl =
      if 0 ≤ zl then
        .ok (specLayout ops width pfx b.body zl.toNat (b.post.take (cstrlen b.post)),
             ((specLayout ops width pfx b.body zl.toNat (b.post.take (cstrlen b.post))).length : Int))
      else .error .diverged := by
  have hm : 0 ≤ max (width - ↑pfx.length - ↑b.body.length - zl - ↑(cstrlen b.post)) 0 := Int.le_max_right ..
  have hc := cstrlen_le b.post
  unfold layout
  by_cases hzl : 0 ≤ zl
  · rw [if_pos hzl, specLayout_length]
    have h1 : (max (width - ↑pfx.length - ↑b.body.length - zl - ↑(cstrlen b.post)) 0).toNat =
        (width - (↑pfx.length + ↑b.body.length + max zl 0 + ↑(cstrlen b.post))).toNat := by omega
    have h2 : max (width - ↑pfx.length - ↑b.body.length - zl - ↑(cstrlen b.post)) 0 + ↑pfx.length + ↑b.body.length + zl +
        ↑(cstrlen b.post) = max width (↑pfx.length + ↑b.body.length + max zl 0 + ↑(cstrlen b.post)) := by omega
    cases hz : ops.zero <;> cases hl : ops.left <;>
      simp [hr, bind, Except.bind, pure, Except.pure, emitN, hm, hzl, specLayout, hz, hl, List.length_take,
        Nat.min_eq_left hc] <;> exact ⟨h1, Eq.trans (by ac_rfl) h2⟩
  · rw [if_neg hzl]
    cases hz : ops.zero <;> cases hl : ops.left <;>
      simp [hr, bind, Except.bind, pure, Except.pure, emitN, hm, hzl]

theorem layout_spec {cfg : Cfg} {ops : Ops} {width : Int} {pfx : List Char} {b : Buf} {zl : Int}
    {out : List Char} {pc : Int} (hr : cfg.repaired = true)
    (h : layout cfg ops width pfx b zl = .ok (out, pc)) :
    0 ≤ zl ∧ out = specLayout ops width pfx b.body zl.toNat (b.post.take (cstrlen b.post)) ∧ pc = out.length := by
  rw [layout_eq hr] at h
  split at h
  · injection h with h; injection h with h1 h2
    subst h1; exact ⟨‹_›, rfl, h2.symm⟩
  · cases h

theorem toIntM_cases {α : Type} (A : Arith α) (x : α) :
    (∃ v, toIntM A x = .ok v) ∨ toIntM A x = .error .undef := by
  unfold toIntM; split <;> simp

@[simp] theorem used_putPost (b : Buf) (c : Char) : Buf.used { b with post := c :: b.post } = b.used + 1 := by
  simp [Buf.used]; omega
@[simp] theorem used_putBody (b : Buf) (c : Char) : Buf.used { b with body := c :: b.body } = b.used + 1 := by
  simp [Buf.used]; omega

theorem Buf.eq_body {b b' : Buf} {l : List Char} (h1 : b'.body = l) (h2 : b'.post = b.post) (h3 : b'.sep = b.sep) :
    b' = { b with body := l } := by
  cases b; cases b'; simp_all

theorem Buf.eq_post {b b' : Buf} {l : List Char} (h1 : b'.post = l) (h2 : b'.body = b.body) (h3 : b'.sep = b.sep) :
    b' = { b with post := l } := by
  cases b; cases b'; simp_all

/-- Hoare-style predicate: the computation does not fault, and its result, if it returns one, satisfies `P` -/
def Good {β : Type} (P : β → Prop) : M β → Prop
  | .ok v => P v
  | .error e => e ≠ .fault

@[simp] theorem good_ok {β : Type} (P : β → Prop) (v : β) : Good P (.ok v : M β) ↔ P v := Iff.rfl
@[simp] theorem good_pure {β : Type} (P : β → Prop) (v : β) : Good P (pure v : M β) ↔ P v := Iff.rfl
@[simp] theorem good_error {β : Type} (P : β → Prop) (e : Err) : Good P (.error e : M β) ↔ e ≠ .fault := Iff.rfl
@[simp] theorem good_throw {β : Type} (P : β → Prop) (e : Err) : Good P (throw e : M β) ↔ e ≠ .fault := Iff.rfl

theorem Good.bind {β γ : Type} {m : M β} {f : β → M γ} {Q : β → Prop} {P : γ → Prop}
    (hm : Good Q m) (hf : ∀ v, Q v → Good P (f v)) : Good P (m >>= f) := by
  cases m with
  | ok v => exact hf v hm
  | error e => exact hm

theorem Good.mono {β : Type} {m : M β} {Q P : β → Prop} (hm : Good Q m) (h : ∀ v, Q v → P v) : Good P m := by
  cases m with
  | ok v => exact h v hm
  | error e => exact hm

theorem good_toIntM {α : Type} (A : Arith α) (x : α) : Good (fun _ => True) (toIntM A x) := by
  unfold toIntM; split <;> simp

theorem putPost_ok {cfg : Cfg} {b : Buf} (c : Char) (h : b.used < cfg.size) :
    putPost cfg b c = .ok { b with post := c :: b.post } := if_pos h

theorem putBody_ok {cfg : Cfg} {b : Buf} (c : Char) (h : b.used < cfg.size) :
    putBody cfg b c = .ok { b with body := c :: b.body } := if_pos h

theorem good_putPost {cfg : Cfg} {b : Buf} (c : Char) (h : b.used < cfg.size) :
    Good (fun b' => b' = { b with post := c :: b.post }) (putPost cfg b c) := by
  simp [putPost, h]

theorem good_putBody {cfg : Cfg} {b : Buf} (c : Char) (h : b.used < cfg.size) :
    Good (fun b' => b' = { b with body := c :: b.body }) (putBody cfg b c) := by
  simp [putBody, h]

theorem expLoop_safe {α : Type} (A : Arith α) (cfg : Cfg) (upper : Bool) (hr : cfg.repaired = true) :
    ∀ (n : Nat) (ep : α) (b : Buf), 1 ≤ n → cfg.expMax ≤ b.post.length + n → b.used + n ≤ cfg.size →
      Good (fun r => r.2.sep = b.sep ∧ r.2.body = b.body ∧ r.2.post.length ≤ b.post.length + n)
        (expLoop A cfg upper n ep b) := by
  intro n
  induction n with
  | zero => intro ep b h; omega
  | succ n ih =>
    intro ep b _ h2 h3
    unfold expLoop
    refine (good_toIntM A _).bind fun v _ => ?_
    refine (good_putPost (digitChar upper v) (by omega)).bind fun b' hb' => ?_
    subst hb'
    dsimp only
    split
    · rename_i hc
      simp [hr] at hc
      refine (ih _ _ (by omega) (by simp; omega) (by simp; omega)).mono ?_
      intro r hr'
      simp at hr'
      refine ⟨hr'.1, hr'.2.1, by omega⟩
    · simp

theorem fracLoop_safe {α : Type} (A : Arith α) (cfg : Cfg) (upper : Bool) :
    ∀ (n : Nat) (fp : α) (b : Buf), b.used + n ≤ cfg.size →
      Good (fun b' => b'.sep = b.sep ∧ b'.post = b.post ∧ b'.used = b.used + n) (fracLoop A cfg upper n fp b) := by
  intro n
  induction n with
  | zero => intro fp b _; simp [fracLoop]
  | succ n ih =>
    intro fp b h
    unfold fracLoop
    refine (good_toIntM A _).bind fun v _ => ?_
    refine (good_putBody (digitChar upper v) (by omega)).bind fun b' hb' => ?_
    subst hb'
    refine (ih _ _ (by simp; omega)).mono ?_
    intro r hr'
    simp at hr'
    refine ⟨hr'.1, hr'.2.1, by omega⟩

theorem good_normDown {α : Type} (A : Arith α) : ∀ (n : Nat) (ip fp ep : α),
    Good (fun _ => True) (normDown A n ip fp ep) := by
  intro n
  induction n with
  | zero => intro ip fp ep; unfold normDown; split <;> simp
  | succ n ih => intro ip fp ep; unfold normDown; split <;> simp [ih]

theorem good_normUp {α : Type} (A : Arith α) : ∀ (n : Nat) (ip fp ep : α),
    Good (fun _ => True) (normUp A n ip fp ep) := by
  intro n
  induction n with
  | zero => intro ip fp ep; unfold normUp; split <;> simp
  | succ n ih => intro ip fp ep; unfold normUp; split <;> simp [ih]

theorem scaleLoop_le {α : Type} (A : Arith α) : ∀ (n sc : Nat) (fp : α), (scaleLoop A n sc fp).1 ≤ sc + n := by
  intro n
  induction n with
  | zero => intro sc fp; simp [scaleLoop]
  | succ n ih =>
    intro sc fp
    unfold scaleLoop
    split
    · have := ih (sc + 1) (A.mul fp A.ten); omega
    · simp

theorem stripLoop_le {α : Type} (A : Arith α) : ∀ (sc : Nat) (fp : α), (stripLoop A sc fp).1 ≤ sc := by
  intro sc
  induction sc with
  | zero => intro fp; simp [stripLoop]
  | succ n ih =>
    intro fp
    unfold stripLoop
    split
    · have := ih (A.div fp A.ten); omega
    · simp

theorem good_layout (cfg : Cfg) (hr : cfg.repaired = true) (ops : Ops) (width : Int) (pfx : List Char) (b : Buf) (zl : Int) :
    Good (fun _ => True) (layout cfg ops width pfx b zl) := by
  rw [layout_eq hr]; split <;> simp

theorem good_digitsOf {α : Type} (A : Arith α) (cfg : Cfg) (hr : cfg.repaired = true) (fuel : Nat) (r : α)
    (precision : Int) (ops : Ops) (withExp isShort : Bool) :
    Good (fun d => d.signCount ≤ cfg.fracMax ∧ (d.signCount : Int) ≤ max d.precision 0)
      (digitsOf A cfg fuel r precision ops withExp isShort) := by
  unfold digitsOf
  dsimp only
  refine Good.bind (Q := fun _ => True) ?_ (fun q _ => ?_)
  · split
    · refine (good_normDown A _ _ _ _).bind (fun _ _ => ?_)
      refine Good.bind (Q := fun _ => True) ?_ (fun _ _ => by simp)
      split
      · exact good_normUp A _ _ _ _
      · simp
    · simp
  · refine Good.bind (Q := fun _ => True) ?_ (fun p _ => ?_)
    · split
      · split
        · simp
        · exact (good_toIntM A _).bind (fun _ _ => by simp)
      · simp
    · simp only [hr, if_true, good_pure]
      have key : ∀ X : α, (scaleLoop A (min p.toNat cfg.fracMax) 0 X).1 ≤ min p.toNat cfg.fracMax :=
        fun X => by simpa using scaleLoop_le A (min p.toNat cfg.fracMax) 0 X
      generalize (if q.2.2.snd = true then (q.2.fst, q.fst) else A.modf r).fst = X
      have h2 := key X
      by_cases hc : (true && isShort && !ops.spec) = true
      · simp only [hc, if_true]
        generalize scaleLoop A (min p.toNat cfg.fracMax) 0 X = S at *
        have h1 := fun F => stripLoop_le A S.1 F
        constructor
        · exact Nat.le_trans (h1 _) (by omega)
        · have := h1 (if A.ne (A.round S.2) (A.pow 10 S.1) = true then A.round S.2 else A.zero)
          omega
      · simp only [hc]
        simp only [Bool.false_eq_true, if_false]
        omega

/-- the relation between the three constants under which `fillBuf` stays inside the buffer.  The 7 bytes besides exponent
and fraction digits: the terminator in `buff[size-1]`, the `0` in front of a one-digit exponent, its sign, the `e`, the
terminator at `postfix - 1`, the point, and the first integer digit, which is stored before the guard is asked -/
def Cfg.Fits (cfg : Cfg) : Prop := max cfg.expMax 1 + cfg.fracMax + 7 ≤ cfg.size

theorem cfgNow_fits : cfgNow.Fits := by unfold Cfg.Fits cfgNow; decide

theorem intLoop_used {α : Type} (A : Arith α) (cfg : Cfg) (upper : Bool) (hr : cfg.repaired = true) :
    ∀ (n : Nat) (ip : α) (b : Buf), b.used < cfg.size → cfg.size < b.used + n →
      Good (fun b' => b'.used ≤ cfg.size) (intLoop A cfg upper n ip b) := by
  intro n
  induction n with
  | zero => intro ip b h1 h2; omega
  | succ n ih =>
    intro ip b h1 h2
    unfold intLoop
    refine (good_toIntM A _).bind fun v _ => ?_
    refine (good_putBody (digitChar upper v) h1).bind fun b' hb' => ?_
    subst hb'
    dsimp only
    split
    · rename_i hc
      simp [hr] at hc
      exact ih _ _ (by simpa using hc.2) (by simp; omega)
    · simp; omega

theorem good_fillBuf_used {α : Type} (A : Arith α) (cfg : Cfg) (hr : cfg.repaired = true) (hfit : cfg.Fits)
    (ops : Ops) (isShort : Bool) (d : Digits α) (hd : d.signCount ≤ cfg.fracMax) :
    Good (fun b => b.used ≤ cfg.size) (fillBuf A cfg ops isShort d) := by
  unfold Cfg.Fits at hfit
  unfold fillBuf
  have h0 : ¬ cfg.size = 0 := by omega
  simp only [h0, if_false, hr, if_true]
  refine Good.bind (Q := fun b : Buf => b.body = [] ∧ b.used ≤ max cfg.expMax 1 + 5) ?_ (fun b hb => ?_)
  · split
    · refine (expLoop_safe A cfg ops.upper hr (max cfg.expMax 1) d.ep {} (by omega) (by simp; omega)
        (by simp [Buf.used]; omega)).bind (fun r hr1 => ?_)
      obtain ⟨ep, b⟩ := r
      obtain ⟨post, sep, body⟩ := b
      simp at hr1
      obtain ⟨h1, h2, hlen⟩ := hr1
      subst h1 h2
      refine Good.bind (Q := fun b' : Buf => b'.sep = false ∧ b'.body = [] ∧ b'.post.length ≤ 1 + max cfg.expMax 1) ?_ (fun b1 h1 => ?_)
      · split
        · refine (good_putPost '0' (by simp [Buf.used]; omega)).mono (fun b' hb' => ?_)
          subst hb'
          simp; omega
        · simp; omega
      · obtain ⟨post1, sep1, body1⟩ := b1
        simp at h1
        obtain ⟨h1a, h1b, h1c⟩ := h1
        subst h1a h1b
        refine (good_putPost _ (by simp [Buf.used]; omega)).bind (fun b2 h2 => ?_)
        subst h2
        refine (good_putPost _ (by simp [Buf.used]; omega)).bind (fun b3 h3 => ?_)
        subst h3
        rw [if_pos (by simp [Buf.used]; omega)]
        simp [Buf.used]
        omega
    · simp [Buf.used]
  · refine (fracLoop_safe A cfg ops.upper d.signCount d.fp b (by omega)).bind (fun b1 h1 => ?_)
    refine Good.bind (Q := fun b' : Buf => b'.used ≤ b1.used + 1) ?_ (fun b2 h2 => ?_)
    · split
      · refine (good_putBody '.' (by omega)).mono (fun b' hb' => ?_)
        subst hb'; simp
      · simp
    · have hb2 : 1 ≤ b2.used := by simp [Buf.used]; omega
      exact intLoop_used A cfg ops.upper hr (cfg.size + 1) d.ip b2 (by omega) (by omega)

theorem strlen_cstr (s : List Char) (h : ∀ c ∈ s, c ≠ NUL) : Igris.C06.strlen (s ++ [NUL]) = some s.length := by
  induction s with
  | nil => simp [Igris.C06.strlen]
  | cons c cs ih =>
    have hc : c ≠ NUL := h c (by simp)
    simp [Igris.C06.strlen, hc, ih (fun d hd => h d (by simp [hd]))]

theorem printS_cstr (s : List Char) (h : ∀ c ∈ s, c ≠ NUL) (width : Int) (left : Bool) :
    Igris.C06.printS (s ++ [NUL]) width 0 { left := left } =
      some (if left then s ++ List.replicate (width - s.length).toNat ' '
            else List.replicate (width - s.length).toNat ' ' ++ s, max width s.length) := by
  unfold Igris.C06.printS
  simp only [Bool.false_eq_true, if_false, strlen_cstr s h, List.take_left']
  by_cases hw : width > (s.length : Int)
  · cases left <;> simp [hw] <;> omega
  · have : (width - (s.length : Int)).toNat = 0 := by omega
    cases left <;> simp [hw, this] <;> omega

theorem nfText_spec (isNan neg : Bool) (ops : Ops) :
    (∀ c ∈ nfText isNan neg ops, c ≠ NUL) ∧ (nfText isNan neg ops).length = (signText neg ops).length + 3 ∧
      (signText neg ops).length ≤ 1 := by
  unfold nfText signText
  cases isNan <;> cases neg <;> cases ops.sign <;> cases ops.space <;> cases ops.upper <;> decide

/-- the whole non-finite branch: the bytes stored in `buff` are `nfText` and its terminator (at most 5 bytes),
and `print_s` pads them with blanks -/
theorem nonFinite_eq {α : Type} (A : Arith α) (cfg : Cfg) (hs : 5 ≤ cfg.size) (r : α) (nanNeg : Bool) (width : Int)
    (ops : Ops) :
    let s := nfText (A.isnan r) (if A.isnan r then nanNeg else A.signbit r) ops
    let pad := List.replicate (width - s.length).toNat ' '
    nonFinite A cfg r nanNeg width ops = .ok (if ops.left then s ++ pad else pad ++ s, max width s.length) := by
  intro s pad
  obtain ⟨hnul, hlen, h1⟩ := nfText_spec (A.isnan r) (if A.isnan r then nanNeg else A.signbit r) ops
  have e : nonFinite A cfg r nanNeg width ops =
      if (signText (if A.isnan r then nanNeg else A.signbit r) ops).length + 4 > cfg.size then .error .fault else
      match Igris.C06.printS (s ++ [NUL]) width 0 { left := ops.left } with
      | some r => .ok r
      | none => .error .fault := by
    simp only [s]
    unfold nonFinite nfText signText
    cases A.isnan r <;> rfl
  rw [e, if_neg (by omega), printS_cstr s hnul]

theorem printF_nonfinite {α : Type} {A : Arith α} {cfg : Cfg} (hr : cfg.repaired = true) (hs : 5 ≤ cfg.size) {fuel : Nat}
    {r : α} {nanNeg : Bool} {width precision : Int} {ops : Ops} {withExp isShort : Bool}
    (h : (A.isnan r || A.isinf r) = true) :
    let s := nfText (A.isnan r) (if A.isnan r then nanNeg else A.signbit r) ops
    let pad := List.replicate (width - s.length).toNat ' '
    printF A cfg fuel r nanNeg width precision ops withExp isShort =
      .ok (if ops.left then s ++ pad else pad ++ s, max width s.length) := by
  unfold printF
  rw [hr, h, Bool.and_self, if_pos rfl]
  exact nonFinite_eq A cfg hs r nanNeg width ops

theorem printF_finite {α : Type} {A : Arith α} {cfg : Cfg} (hr : cfg.repaired = true) {fuel : Nat}
    {r : α} {nanNeg : Bool} {width precision : Int} {ops : Ops} {withExp isShort : Bool}
    (hfin : (A.isnan r || A.isinf r) = false) :
    printF A cfg fuel r nanNeg width precision ops withExp isShort = (do
      let d ← digitsOf A cfg fuel (if A.signbit r then A.neg r else r) precision ops withExp isShort
      let b ← fillBuf A cfg ops isShort d
      layout cfg ops width (signText (A.signbit r) ops) b (if isShort && !ops.spec then 0 else d.precision - d.signCount)) := by
  unfold printF signText
  simp only [hr, hfin, Bool.and_false, Bool.false_eq_true, if_false, Bool.not_true, Bool.false_and, Bool.false_or]

theorem printF_finite_ok {α : Type} {A : Arith α} {cfg : Cfg} (hr : cfg.repaired = true) {fuel : Nat}
    {r : α} {nanNeg : Bool} {width precision : Int} {ops : Ops} {withExp isShort : Bool} {out : List Char} {pc : Int}
    (hfin : (A.isnan r || A.isinf r) = false)
    (h : printF A cfg fuel r nanNeg width precision ops withExp isShort = .ok (out, pc)) :
    ∃ (d : Digits α) (b : Buf),
      digitsOf A cfg fuel (if A.signbit r then A.neg r else r) precision ops withExp isShort = .ok d ∧
      fillBuf A cfg ops isShort d = .ok b ∧
      layout cfg ops width (signText (A.signbit r) ops) b
        (if isShort && !ops.spec then 0 else d.precision - d.signCount) = .ok (out, pc) := by
  rw [printF_finite hr hfin] at h
  cases hd : digitsOf A cfg fuel (if A.signbit r then A.neg r else r) precision ops withExp isShort with
  | error e => simp [hd, bind, Except.bind] at h
  | ok d =>
    cases hb : fillBuf A cfg ops isShort d with
    | error e => simp [hd, hb, bind, Except.bind] at h
    | ok b =>
      refine ⟨d, b, rfl, hb, ?_⟩
      simpa only [hd, hb, bind, Except.bind] using h

theorem good_printF {α : Type} (A : Arith α) (cfg : Cfg) (hr : cfg.repaired = true) (hfit : cfg.Fits) (fuel : Nat)
    (r : α) (nanNeg : Bool) (width precision : Int) (ops : Ops) (withExp isShort : Bool) :
    Good (fun _ => True) (printF A cfg fuel r nanNeg width precision ops withExp isShort) := by
  cases hnf : (A.isnan r || A.isinf r)
  · rw [printF_finite hr hnf]
    refine (good_digitsOf A cfg hr fuel _ precision ops withExp isShort).bind (fun d hd => ?_)
    refine (good_fillBuf_used A cfg hr hfit ops isShort d hd.1).bind (fun b _ => ?_)
    exact good_layout cfg hr ..
  · rw [printF_nonfinite hr (by unfold Cfg.Fits at hfit; omega) hnf]; trivial

/-- `while (ip >= base)` on a value that a pass `(ip + fp) / base` leaves as it is (an infinity): the loop never ends -/
theorem normDown_stuck {α : Type} (A : Arith α) {ip fp : α} (h1 : A.ge ip A.ten = true)
    (h2 : A.modf (A.div (A.add ip fp) A.ten) = (fp, ip)) : ∀ (n : Nat) (ep : α), normDown A n ip fp ep = .error .diverged := by
  intro n
  induction n with
  | zero => intro ep; simp [normDown, h1]
  | succ n ih => intro ep; simp only [normDown, h1, if_true, h2]; exact ih _

theorem normDown_inf : ∀ (n : Nat) (ep : FV), normDown exactA n (.inf false) (.fin false 0) ep = .error .diverged :=
  normDown_stuck exactA (by decide +kernel) (by decide +kernel)
end Igris.C13
