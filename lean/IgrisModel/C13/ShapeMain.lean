/-
  C13 — the text of `print_f` has the ISO shape: `fillBuf` on what `digitsOf` hands over, then the
  layout, judged by the independent predicate `isoShape` (%f and %e; sharp lawful rounding).
-/
import IgrisModel.C13.ShapeDigits
import IgrisModel.C13.ShapeText
namespace Igris.C13
open Igris.C06 (Ops NUL)

theorem cstrlen_digits (ds : List Char) (h : ds.all isDig = true) : cstrlen ds = ds.length :=
  cstrlen_eq_length ds fun c hc => isDig_ne_nul (List.all_eq_true.mp h c hc)

theorem or_absorb (a b c : Bool) (h : b = true → a = true) : (a || b || c) = (a || c) := by
  cases a <;> cases b <;> simp_all

theorem pow8_342 : (2 : ℚ) ^ 1024 + 1 ≤ 8 ^ 342 := by
  have : (8 : ℚ) ^ 342 = 2 ^ 1024 * 4 := by
    rw [show (8 : ℚ) = 2 ^ 3 by norm_num, ← pow_mul]
    rw [show 3 * 342 = 1024 + 2 by norm_num, pow_add]; norm_num
  rw [this]
  have h1 : (1 : ℚ) ≤ 2 ^ 1024 := one_le_pow₀ (by norm_num)
  generalize (2 : ℚ) ^ 1024 = T at h1 ⊢
  linarith

section
variable {rnd : Rounding} (L : Lawful rnd) (S : Sharp L) (p : Nat → Nat → FV)
include L S

/-- the left side is the exponent stage of `fillBuf` -/
theorem expPart_shape (ops : Ops) (we : Bool) (e : ℤ) (he : e.natAbs ≤ 999) :
    ∃ ex : List Char,
      (if we then (do
        let (ep, b) ← expLoop (arithP rnd p) cfgNow ops.upper (if cfgNow.repaired then max cfgNow.expMax 1 else cfgNow.size + 1) (epv e) {}
        let b ← (if cstrlen b.post = 1 then putPost cfgNow b '0' else pure b)
        let b ← putPost cfgNow b (if (arithP rnd p).signbit ep then '-' else '+')
        let b ← putPost cfgNow b (if ops.upper then 'E' else 'e')
        if b.used < cfgNow.size then pure { b with sep := true } else throw Err.fault : M Buf) else pure {}) =
          .ok { post := ex, sep := we, body := [] } ∧
      ex.length ≤ 5 ∧ (we = false → ex = []) ∧
      (we = true → ∃ ds, ex = (if ops.upper then 'E' else 'e') :: (if decide (e < 0) then '-' else '+') :: ds ∧
          ds.all isDig = true ∧ 2 ≤ ds.length ∧ (ds.length = 2 ∨ ds.head? ≠ some '0') ∧ digVal ds = e.natAbs) := by
  cases we
  · exact ⟨[], rfl, by simp, fun _ => rfl, fun h => absurd h (by simp)⟩
  have hsm : L.small ((e.natAbs : ℕ) : ℚ) :=
    L.small_down (small_nat L 999 (by norm_num)) (by
      have : ((e.natAbs : ℕ) : ℚ) ≤ 999 := by exact_mod_cast he
      push_cast; linarith)
  obtain ⟨ds, b', hrun, hpost, hbody, hsep, hne, hall, hlen, hval, hlead, h9, _⟩ :=
    expLoop_shape L S p cfgNow ops.upper (decide (e < 0)) 3 5 e.natAbs {} (by norm_num) (by norm_num)
      (by norm_num; omega) he hsm (by simp [cfgNow]) (by simp [cfgNow, Buf.used])
  obtain rfl := Buf.eq_post hpost hbody hsep
  have hlen1 : 1 ≤ ds.length := List.length_pos_iff.mpr hne
  have hput : ∀ (q : List Char) (c : Char), q.length ≤ 10 →
      putPost cfgNow { post := q, sep := false, body := [] } c = .ok { post := c :: q, sep := false, body := [] } :=
    fun q c hq => putPost_ok c (by simp [Buf.used, cfgNow]; omega)
  have hsb : (arithP rnd p).signbit (.fin (decide (e < 0)) 0) = decide (e < 0) := rfl
  simp only [if_true, show (if cfgNow.repaired then max cfgNow.expMax 1 else cfgNow.size + 1) = 5 from rfl,
    show epv e = .fin (decide (e < 0)) ((e.natAbs : ℕ) : ℚ) from rfl, hrun, bind, Except.bind, hsb, List.append_nil,
    cstrlen_digits ds hall]
  by_cases h1 : ds.length = 1
  · simp only [h1, if_true, hput ds '0' (by omega), hput ('0' :: ds) _ (by simp; omega), hput (_ :: '0' :: ds) _ (by simp; omega)]
    rw [if_pos (by simp [Buf.used, cfgNow]; omega)]
    refine ⟨_, rfl, by simp; omega, fun h => absurd h (by simp), fun _ => ⟨'0' :: ds, rfl, ?_, by simp; omega, Or.inl (by simp [h1]), ?_⟩⟩
    · simp [hall]; decide
    · -- a leading zero does not change the value
      rw [← hval]; unfold digVal; rfl
  · simp only [h1, if_false, pure, Except.pure, hput ds _ (by omega), hput (_ :: ds) _ (by simp; omega)]
    rw [if_pos (by simp [Buf.used, cfgNow]; omega)]
    exact ⟨_, rfl, by simp; omega, fun h => absurd h (by simp),
      fun _ => ⟨ds, rfl, hall, by omega, hlead.imp_left (fun h => absurd h h1), hval⟩⟩

/-- **the buffer after `fillBuf`** (%f, %e): integer digits without a superfluous zero, the point, the
generated fraction digits; for %e the exponent text -/
theorem fillBuf_shape_fe (ops : Ops) (d : Digits FV) (a b : ℚ) (e : ℤ)
    (hip : d.ip = .fin false a) (hfp : d.fp = .fin false b) (hep : d.ep = epv e)
    (ha0 : 0 ≤ a) (has : L.small a) (hb0 : 0 ≤ b) (hbs : L.small b) (he : e.natAbs ≤ 999) (hsc : d.signCount ≤ 340)
    (hE : d.withExp = true → ∃ i : ℕ, a = i ∧ i ≤ 9)
    (hF : d.withExp = false → a < 2 ^ 1024 + 1 ∧ (0 < d.signCount → a ≤ 1 ∨ (d.signCount ≤ 35 ∧ a ≤ 2 ^ 52 + 1))) :
    ∃ (bf : Buf) (intds fracds : List Char),
      fillBuf (arithP rnd p) cfgNow ops false d = .ok bf ∧
      bf.body = intds ++ (if (decide (d.precision ≠ 0) || decide (d.signCount ≠ 0) || ops.spec) then ['.'] else []) ++ fracds ∧
      intds ≠ [] ∧ intds.all isDig = true ∧ (intds.length = 1 ∨ intds.head? ≠ some '0') ∧
      (∀ j : ℕ, a = j → 1 ≤ j → intds.head? ≠ some '0') ∧ (a = 0 → intds = ['0']) ∧
      fracds.length = d.signCount ∧ fracds.all isDig = true ∧
      intLoop (arithP rnd p) { cfgNow with repaired := false } ops.upper (cfgNow.size + 1) d.ip
        { post := bf.post, sep := bf.sep,
          body := (if (decide (d.precision ≠ 0) || decide (d.signCount ≠ 0) || ops.spec) then ['.'] else []) ++ fracds } = .ok bf ∧
      (d.withExp = false → bf.post.take (cstrlen bf.post) = []) ∧
      (d.withExp = true → intds.length = 1 ∧ ∃ ds, bf.post.take (cstrlen bf.post) =
          (if ops.upper then 'E' else 'e') :: (if decide (e < 0) then '-' else '+') :: ds ∧
          ds.all isDig = true ∧ 2 ≤ ds.length ∧ (ds.length = 2 ∨ ds.head? ≠ some '0') ∧ digVal ds = e.natAbs) := by
  -- `print_f` fills the buffer from its end: exponent text, fraction digits, point, integer digits
  obtain ⟨ex, hrun1, hexlen, hexF, hexE⟩ := expPart_shape L S p ops d.withExp e he
  have hsep : (if d.withExp then 1 else 0 : ℕ) ≤ 1 := by split <;> omega
  obtain ⟨fracds, b2, hrun2, h2b, h2p, h2s, hflen, hfall, _⟩ :=
    fracLoop_shape L S p cfgNow ops.upper d.signCount b { post := ex, sep := d.withExp, body := [] } hb0 hbs
      (by simp only [Buf.used, cfgNow, List.length_nil]; omega)
  obtain rfl := Buf.eq_body h2b h2p h2s
  generalize hdotc : (decide (d.precision ≠ 0) || decide (d.signCount ≠ 0) || ops.spec) = dotc
  have hrun3 : (if dotc then putBody cfgNow { post := ex, sep := d.withExp, body := fracds ++ [] } '.'
        else pure { post := ex, sep := d.withExp, body := fracds ++ [] } : M Buf) =
      .ok { post := ex, sep := d.withExp, body := (if dotc then ['.'] else []) ++ fracds } := by
    cases dotc
    · simp [pure, Except.pure]
    · simp only [if_true]
      rw [putBody_ok '.' (by simp only [Buf.used, cfgNow, List.length_append, List.length_nil, hflen]; omega)]
      simp
  have hdl : (if dotc then ['.'] else [] : List Char).length ≤ 1 := by cases dotc <;> simp
  -- the integer digits fit: the value is below `8^k` and `k` bytes are free
  obtain ⟨k, hk1, hak, hkroom⟩ : ∃ k : ℕ, 1 ≤ k ∧ a < 8 ^ k ∧ d.signCount + k ≤ 343 ∧ (d.withExp = true → k ≤ 2) := by
    cases hw : d.withExp
    · obtain ⟨htop, hsc'⟩ := hF hw
      rcases Nat.eq_zero_or_pos d.signCount with h0 | hpos
      · exact ⟨342, by norm_num, lt_of_lt_of_le htop pow8_342, by omega, by simp⟩
      · rcases hsc' hpos with h1 | ⟨h35, h52⟩
        · exact ⟨1, le_refl _, by linarith, by omega, by simp⟩
        · refine ⟨18, by norm_num, ?_, by omega, by simp⟩
          have : (8 : ℚ) ^ 18 = 2 ^ 52 * 4 := by
            rw [show (8 : ℚ) = 2 ^ 3 by norm_num, ← pow_mul]; norm_num
          rw [this]
          have : (1 : ℚ) ≤ 2 ^ 52 := one_le_pow₀ (by norm_num)
          linarith
    · obtain ⟨i, hi, hi9⟩ := hE hw
      refine ⟨2, by norm_num, ?_, by omega, fun _ => le_refl _⟩
      have : (i : ℚ) ≤ 9 := by exact_mod_cast hi9
      rw [hi]; norm_num; linarith
  obtain ⟨intds, bf, hrun4, hung, h4b, h4p, h4s, hine, hiall, _, hihead, hilead, hi9, hi0⟩ :=
    intLoop_run L S p cfgNow ops.upper k (cfgNow.size + 1) a
      { post := ex, sep := d.withExp, body := (if dotc then ['.'] else []) ++ fracds } hk1 (by simp [cfgNow]; omega) ha0 has hak
      (by simp only [Buf.used, cfgNow, List.length_append, hflen]; omega)
  obtain rfl := Buf.eq_body h4b h4p h4s
  dsimp only at hrun4 hung
  have hnul : ∀ c ∈ ex, c ≠ NUL := by
    cases hw : d.withExp
    · rw [hexF hw]; simp
    · obtain ⟨ds, rfl, hd1, _⟩ := hexE hw
      intro c hc
      simp only [List.mem_cons] at hc
      rcases hc with rfl | rfl | hc
      · cases ops.upper <;> decide
      · cases decide (e < 0) <;> decide
      · exact isDig_ne_nul (List.all_eq_true.mp hd1 c hc)
  refine ⟨{ post := ex, sep := d.withExp, body := intds ++ ((if dotc then ['.'] else []) ++ fracds) }, intds, fracds, ?_,
    by simp, hine, hiall, hilead, fun j hj hj1 => hihead ⟨j, hj, hj1⟩, hi0, hflen, hfall,
    by rw [hip]; exact hung, fun hw => by rw [cstrlen_full _ hnul]; exact hexF hw, fun hw => ?_⟩
  · unfold fillBuf
    simp only [show ¬ cfgNow.size = 0 by simp [cfgNow], if_false, bind, Except.bind, hep] at hrun1 ⊢
    rw [hrun1]
    simp only [hfp, hrun2, hip, ne_eq, Bool.not_false, Bool.and_true, hdotc, hrun3]
    exact hrun4
  · obtain ⟨i, hi, hi9'⟩ := hE hw
    rw [cstrlen_full _ hnul]
    exact ⟨hi9 (by rw [hi]; exact_mod_cast hi9'), hexE hw⟩

/-- **ISO shape of %f / %e** for a sharp lawful rounding: the text `print_f` emits for a finite argument
satisfies the independent predicate `isoShape` -/
theorem printF_shape_fe (N fuel : ℕ) (neg : Bool) (x0 : ℚ) (nanNeg : Bool) (width precision : ℤ) (ops : Ops)
    (withExp : Bool) (hx : rnd x0 = some x0) (h0 : 0 ≤ x0) (hN : x0 < 10 * 8 ^ N) (hN' : x0 = 0 ∨ 1 ≤ x0 * 8 ^ N)
    (hf : N ≤ fuel) (hNb : N + 2 ≤ 2 ^ 30) (hN999 : N + 1 ≤ 999) (hp0 : 0 ≤ precision) (hp1 : precision ≤ 2147483647) :
    ∃ out pc, printF (arithP rnd p) cfgNow fuel (.fin neg x0) nanNeg width precision ops withExp false = .ok (out, pc) ∧
      isoShape (if withExp then .e else .f) ops width precision neg out = true := by
  obtain ⟨d, a, b, e, hd, hip, hfp, hep, hwe, hprec, ha0, has, hb0, hbs, he, hsc, hscP, hE, hF⟩ :=
    digitsOf_shape_fe L S p N fuel x0 precision ops withExp hx h0 hN hN' hf hNb hp0 hp1
  obtain ⟨bf, intds, fracds, hb, hbody, hine, hiall, hilead, hihead, hi0, hflen, hfall, _, hpostF, hpostE⟩ :=
    fillBuf_shape_fe L S p ops d a b e hip hfp hep ha0 has hb0 hbs (by omega) hsc
      (fun h => by obtain ⟨i, hi, hi9, _⟩ := hE (by rw [← hwe]; exact h); exact ⟨i, hi, hi9⟩)
      (fun h => hF (by rw [← hwe]; exact h))
  rw [printF_fin rnd p rfl, hd]
  simp only [bind, Except.bind, hb, Bool.false_and, Bool.false_eq_true, if_false]
  rw [layout_eq rfl, if_pos (by omega)]
  refine ⟨_, _, rfl, ?_⟩
  apply isoShape_of_layout
  have hPeq : ((effPrec ops precision : ℕ) : ℤ) = d.precision := by
    rw [hprec]; unfold effPrec; split
    · simp [Int.toNat_of_nonneg hp0]
    · rfl
  have hPnat : effPrec ops precision = d.precision.toNat := by rw [← hPeq]; simp
  have hfraclen : (fracds ++ List.replicate (d.precision - (d.signCount : ℤ)).toNat '0').length = effPrec ops precision := by
    rw [List.length_append, List.length_replicate, hflen, hPnat]; omega
  have hfracall : (fracds ++ List.replicate (d.precision - (d.signCount : ℤ)).toNat '0').all isDig = true :=
    all_dig_append_zeros fracds _ hfall
  have hdot : (decide (d.precision ≠ 0) || decide (d.signCount ≠ 0) || ops.spec) =
      (decide (0 < effPrec ops precision) || ops.spec) := by
    have h1 : decide (d.signCount ≠ 0) = true → decide (d.precision ≠ 0) = true := by
      intro h; simp at h ⊢; omega
    have h2 : decide (d.precision ≠ 0) = decide (0 < effPrec ops precision) := by
      rw [hPnat]; apply decide_eq_decide.mpr; omega
    rw [← h2]
    exact or_absorb _ _ _ h1
  have e1 : ∀ expo : List Char,
      intds ++ (if (decide (d.precision ≠ 0) || decide (d.signCount ≠ 0) || ops.spec) = true then ['.'] else []) ++ fracds ++
        List.replicate (d.precision - (d.signCount : ℤ)).toNat '0' ++ expo =
      intds ++ (if (decide (d.precision ≠ 0) || decide (d.signCount ≠ 0) || ops.spec) = true then ['.'] else []) ++
        (fracds ++ List.replicate (d.precision - (d.signCount : ℤ)).toNat '0') ++ expo := fun _ => by simp
  cases hw : withExp
  · -- %f
    have hpost := hpostF (by rw [hwe]; exact hw)
    rw [hpost, hbody]
    simp only [Bool.false_eq_true, if_false]
    rw [e1, List.append_nil]
    exact numShape_f ops.spec ops.upper _ intds _ hiall hine hilead hfracall hfraclen _ hdot
  · -- %e
    obtain ⟨hi1, ds, hpost, hd1, hd2, hd3, hd4⟩ := hpostE (by rw [hwe]; exact hw)
    obtain ⟨i, hi, hi9, hiz⟩ := hE hw
    obtain ⟨c, hc⟩ : ∃ c, intds = [c] := by
      cases intds with
      | nil => exact absurd rfl hine
      | cons c t =>
        cases t with
        | nil => exact ⟨c, rfl⟩
        | cons _ _ => simp at hi1
    subst hc
    rw [hpost, hbody]
    simp only [if_true]
    rw [e1]
    refine numShape_e ops.spec ops.upper _ c _ (by simpa using hiall) hfracall hfraclen _ hdot (decide (e < 0)) ds hd1 hd2 hd3
      (fun hneg => by rw [hd4]; simp at hneg; omega) (fun hc0 => ?_)
    -- a zero leading digit: the argument is zero
    have hi00 : i = 0 := by
      by_contra hne
      have := hihead i hi (by omega)
      simp [hc0] at this
    obtain ⟨hsc0, he0⟩ := hiz hi00
    have : fracds = [] := List.eq_nil_of_length_eq_zero (by rw [hflen, hsc0])
    refine ⟨?_, by rw [hd4, he0]; rfl⟩
    rw [this]; simp

/-- **the integer-digit guard never truncates** (%f, %e): the buffer `fillBuf` returns is the one the UNGUARDED
integer-digit loop (the loop without `&& (str > &buff[0])`) produces after the fraction digits and the point: with
the constants of the repaired code every integer part is printed completely, for every precision -/
theorem printF_int_unguarded (N fuel : ℕ) (x0 : ℚ) (precision : ℤ) (ops : Ops)
    (withExp : Bool) (hx : rnd x0 = some x0) (h0 : 0 ≤ x0) (hN : x0 < 10 * 8 ^ N) (hN' : x0 = 0 ∨ 1 ≤ x0 * 8 ^ N)
    (hf : N ≤ fuel) (hNb : N + 2 ≤ 2 ^ 30) (hN999 : N + 1 ≤ 999) (hp0 : 0 ≤ precision) (hp1 : precision ≤ 2147483647) :
    ∃ (d : Digits FV) (bf : Buf) (dotfrac : List Char),
      digitsOf (arithP rnd p) cfgNow fuel (.fin false x0) precision ops withExp false = .ok d ∧
      fillBuf (arithP rnd p) cfgNow ops false d = .ok bf ∧
      intLoop (arithP rnd p) { cfgNow with repaired := false } ops.upper (cfgNow.size + 1) d.ip
        { post := bf.post, sep := bf.sep, body := dotfrac } = .ok bf := by
  obtain ⟨d, a, b, e, hd, hip, hfp, hep, hwe, hprec, ha0, has, hb0, hbs, he, hsc, hscP, hE, hF⟩ :=
    digitsOf_shape_fe L S p N fuel x0 precision ops withExp hx h0 hN hN' hf hNb hp0 hp1
  obtain ⟨bf, intds, fracds, hb, _, _, _, _, _, _, _, _, hung, _, _⟩ :=
    fillBuf_shape_fe L S p ops d a b e hip hfp hep ha0 has hb0 hbs (by omega) hsc
      (fun h => by obtain ⟨i, hi, hi9, _⟩ := hE (by rw [← hwe]; exact h); exact ⟨i, hi, hi9⟩)
      (fun h => hF (by rw [← hwe]; exact h))
  exact ⟨d, bf, _, hd, hb, hung⟩

end
end Igris.C13
