/-
  C13 — property theorems for `print_f` (%f %F %e %E %g %G of igris/util/printf_impl.c).

  `printF A cfg fuel r nanNeg width precision ops withExp isShort` is the model of
  print_f over an arbitrary arithmetic instance `A : Arith α`; `cfgNow` are the constants
  of the repaired code, `cfgOrig` the original code.  Theorems quantified over `A` hold
  for exact arithmetic, for the software binary64 the driver runs, and for any other
  implementation of the interface.

  What is and is not proved is listed in notes/C13.md and checks/C13.json (level_text).  In short:
  safety / count / layout for EVERY arithmetic instance; for binary64 (and every rounding with the
  laws `Lawful`, resp. `Lawful` + `Sharp`): totality, the ISO shape of the %f/%e text against the
  independent predicate `isoShape`, that the buffer guard never truncates, and the accumulated
  rounding error of the digit generation (half a unit + 2*K*u*x).  NOT proved: `print_f_buffer_iff` of
  notes/C13.md, i.e. exactly when the unguarded original overruns its buffer (only the two directions that are used:
  the repaired code never does, the original does on the witnesses), the shape of %g (finding C13-g-style-carry; witness
  `print_f_iso_shape_g_witness`), that the digit emission loops print exactly the decimal expansion
  of the numbers handed to them, the error bound for denormals / precision > 22 over binary64 / %g,
  the tight pass counts 308 / 324.
-/
import IgrisModel.C13.Lemmas
import IgrisModel.C13.Total2
import IgrisModel.C13.ShapeMain
import IgrisModel.C13.ErrBound
import IgrisModel.C13.TieRule
import IgrisModel.C13.Pre
namespace Igris.C13
open Igris.C06 (Ops NUL)

/-- **print_f_safe**, for any choice of the three constants that satisfies
`max EXP_MAX 1 + FRAC_MAX + 7 ≤ BUFF_SZ` (the relation the repaired macro encodes): the repaired print_f never
stores a byte outside `buff`. -/
theorem print_f_safe_cfg {α : Type} (A : Arith α) (cfg : Cfg) (hr : cfg.repaired = true) (hfit : cfg.Fits)
    (fuel : Nat) (r : α) (nanNeg : Bool) (width precision : Int) (ops : Ops) (withExp isShort : Bool) :
    printF A cfg fuel r nanNeg width precision ops withExp isShort ≠ .error .fault := by
  have := good_printF A cfg hr hfit fuel r nanNeg width precision ops withExp isShort
  intro h
  rw [h] at this
  simp at this

/-- **print_f_safe** — with the constants of the repaired code (352, 340, 5) print_f never stores a byte outside
`buff`: for every arithmetic instance (exact, binary64, anything else), every argument (NaN and infinities
included), every width/precision/flag combination and each of f/e/g. -/
theorem print_f_safe {α : Type} (A : Arith α) (fuel : Nat) (r : α) (nanNeg : Bool) (width precision : Int)
    (ops : Ops) (withExp isShort : Bool) :
    printF A cfgNow fuel r nanNeg width precision ops withExp isShort ≠ .error .fault :=
  print_f_safe_cfg A cfgNow rfl cfgNow_fits fuel r nanNeg width precision ops withExp isShort

/-- **print_f_count** — the value print_f returns is the number of characters it handed to
the callback (all instances, all arguments). -/
theorem print_f_count {α : Type} (A : Arith α) (fuel : Nat) (r : α) (nanNeg : Bool) (width precision : Int)
    (ops : Ops) (withExp isShort : Bool) (out : List Char) (pc : Int)
    (h : printF A cfgNow fuel r nanNeg width precision ops withExp isShort = .ok (out, pc)) :
    pc = out.length := by
  cases hfin : (A.isnan r || A.isinf r) with
  | false =>
    obtain ⟨d, b, _, _, hl⟩ := printF_finite_ok (cfg := cfgNow) rfl hfin h
    exact (layout_spec rfl hl).2.2
  | true =>
    rw [printF_nonfinite rfl (by decide) hfin] at h
    injection h with h
    injection h with h1 h2
    subst h1 h2
    cases ops.left <;>
      simp only [if_true, if_false, Bool.false_eq_true, List.length_append, List.length_replicate] <;> omega

/-- **print_f_layout** — for a finite argument the emitted text is
`specLayout`: sign by the minus / plus / space rule, then the buffered digits (integer digits, point,
generated fraction digits), then `precision - generated` zeros (none for %g without #),
then the exponent text, padded to `width` on the right (`-`), with zeros after the sign (`0`)
or with blanks on the left. -/
theorem print_f_layout {α : Type} (A : Arith α) (fuel : Nat) (r : α) (nanNeg : Bool) (width precision : Int)
    (ops : Ops) (withExp isShort : Bool) (out : List Char) (pc : Int)
    (hfin : (A.isnan r || A.isinf r) = false)
    (h : printF A cfgNow fuel r nanNeg width precision ops withExp isShort = .ok (out, pc)) :
    ∃ (d : Digits α) (b : Buf),
      digitsOf A cfgNow fuel (if A.signbit r then A.neg r else r) precision ops withExp isShort = .ok d ∧
      fillBuf A cfgNow ops isShort d = .ok b ∧
      ((d.signCount : Int) ≤ d.precision ∨ (isShort && !ops.spec) = true) ∧
      out = specLayout ops width (signText (A.signbit r) ops) b.body
              (if isShort && !ops.spec then 0 else d.precision - d.signCount).toNat
              (b.post.take (cstrlen b.post)) ∧
      (out.length : Int) = max width ((signText (A.signbit r) ops).length + b.body.length +
              (if isShort && !ops.spec then 0 else d.precision - d.signCount).toNat + cstrlen b.post : Nat) := by
  obtain ⟨d, b, hd, hb, hl⟩ := printF_finite_ok (cfg := cfgNow) rfl hfin h
  obtain ⟨hz, ho, _⟩ := layout_spec rfl hl
  refine ⟨d, b, hd, hb, ?_, ho, ?_⟩
  · by_cases hs : (isShort && !ops.spec) = true
    · exact Or.inr hs
    · left; simp only [hs] at hz; simp at hz; omega
  · rw [ho, specLayout_length]
    have hc := cstrlen_le b.post
    simp [List.length_take, Nat.min_eq_left hc]

/-- **print_f_terminates (non-finite arguments)** — for NaN and both infinities the repaired
print_f returns (no loop is entered), whatever the fuel, flags, width, precision and conversion. -/
theorem print_f_nonfinite_total {α : Type} (A : Arith α) (fuel : Nat) (r : α) (nanNeg : Bool) (width precision : Int)
    (ops : Ops) (withExp isShort : Bool) (h : (A.isnan r || A.isinf r) = true) :
    ∃ out pc, printF A cfgNow fuel r nanNeg width precision ops withExp isShort = .ok (out, pc) :=
  ⟨_, _, printF_nonfinite rfl (by decide) h⟩

/-- what the repaired code prints for +inf with `%e` and for a negative NaN with `%+10F` -/
example : resOf (printF exactA cfgNow 0 (.inf false) false 0 0 {} true false) = .done "inf".toList 3 := by decide +kernel
example : resOf (printF exactA cfgNow 0 .nan true 10 0 { sign := true, upper := true } false false)
    = .done "      -NAN".toList 10 := by decide +kernel

/-- **witness on the original code** — the original `%e` of +inf never leaves `while (ip >= base)`:
the model diverges for EVERY fuel. -/
theorem print_f_inf_diverges_orig (fuel : Nat) (width precision : Int) :
    printF exactA cfgOrig fuel (.inf false) false width precision {} true false = .error .diverged := by
  have h := normDown_inf fuel exactA.zero
  unfold printF
  have e1 : cfgOrig.repaired = false := rfl
  have e2 : exactA.isnan (.inf false) = false := rfl
  have e3 : exactA.signbit (.inf false) = false := rfl
  have e4 : exactA.modf (.inf false) = (.fin false 0, .inf false) := rfl
  simp only [e1, e2, e3, Bool.false_and, Bool.false_eq_true, if_false, Bool.not_false, Bool.and_false]
  unfold digitsOf
  simp [e4, h, bind, Except.bind]

/-- **witnesses on the original code** (kernel-evaluated on the model of the ORIGINAL code, exact arithmetic):
`%f` of 10^70 runs off the 65-byte buffer; the repaired code prints all 71 digits -/
theorem print_f_safe_orig_witness :
    resOf (printF exactA cfgOrig 0 (.fin false ((10 : Rat) ^ 70)) false 0 0 {} false false) = .fault := by
  decide +kernel

theorem print_f_1e70_now :
    resOf (printF exactA cfgNow 0 (.fin false ((10 : Rat) ^ 70)) false 0 0 {} false false)
      = .done ("1".toList ++ List.replicate 70 '0' ++ ".000000".toList) 78 := by
  decide +kernel

/-- `%.100f` of 10^-80 ran off the buffer as well (fraction digits) -/
theorem print_f_safe_orig_witness_frac :
    resOf (printF exactA cfgOrig 0 (.fin false (1 / (10 : Rat) ^ 80)) false 0 100 { prec := true } false false) = .fault := by
  decide +kernel

/-- the original code printed NaN as 0.000000 -/
theorem print_f_nan_orig_witness :
    resOf (printF exactA cfgOrig 0 .nan false 0 0 {} false false) = .done "0.000000".toList 8 := by
  decide +kernel

/-- the original code with both `-` and `0`: `while (pad_count--)` started from -1 -/
theorem print_f_minus_zero_orig_witness :
    resOf (printF exactA cfgOrig 0 (.fin false 0) false 0 0 { left := true, zero := true } false false) = .diverged := by
  decide +kernel

/-- **finding C13-g-style-carry, on the model**: `%g` of 999999.5 prints 1000000 (ISO: 1e+06) -/
theorem print_f_g_style_carry_witness :
    resOf (printF exactA cfgNow 50 (.fin false (1999999 / 2)) false 0 0 {} false true) = .done "1000000".toList 7 := by
  decide +kernel

-- samples of correct rounding over exact arithmetic (`print_f_exact_Q` of notes/C13.md; for %e it is the theorem
-- `print_f_exact_e`)
example : resOf (printF exactA cfgNow 50 (.fin true (314159 / 100000)) false 10 3 { prec := true } false false)
    = .done "    -3.142".toList 10 := by decide +kernel
example : resOf (printF exactA cfgNow 50 (.fin false (12345678 / 1000)) false 0 0 {} true false)
    = .done "1.234568e+04".toList 12 := by decide +kernel
example : resOf (printF exactA cfgNow 50 (.fin false (1 / 8)) false 8 2 { prec := true, zero := true, sign := true } false false)
    = .done "+0000.13".toList 8 := by decide +kernel
example : resOf (printF exactA cfgNow 50 (.fin false (1 / 10000)) false 0 0 {} false true) = .done "0.0001".toList 6 := by decide +kernel
example : resOf (printF exactA cfgNow 50 (.fin false (99999 / 100000)) false 0 2 { prec := true } true false)
    = .done "1.00e+00".toList 8 := by decide +kernel

/-- a non-negative magnitude is a binary64 value: it is a fixed point of round-to-nearest-even -/
def IsB64 (x : ℚ) : Prop := 0 ≤ x ∧ rnd64 x = some x

/-- **b64_rounding_half_ulp** — every finite result of the model's binary64 rounding lies within
half a unit of the last place of the exact value (the unit is 2^(⌊log₂ q⌋-52), at least 2^-1074). -/
theorem b64_rounding_half_ulp {q v : ℚ} (hq : 0 < q) (h : rnd64 q = some v) :
    |v - q| ≤ pow2 (max (ilog2 q - 52) (-1074)) / 2 := rnd64_err hq h

/-- **b64_one_plus_delta** — the standard model of floating-point arithmetic: in the normal range
`rnd(q) = q (1 + δ)` with `|δ| ≤ 2^-53`.  Every `+ * /` of `b64A` is `rnd64` of the exact result
(`b64_ops_are_rounded_exact`), so this is the error of one operation of `print_f`. -/
theorem b64_one_plus_delta {q v : ℚ} (hq : pow2 (-1022) ≤ q) (h : rnd64 q = some v) :
    |v - q| ≤ q * pow2 (-53) := rnd64_rel hq h
example : rnd64 (1 / 10) = some (3602879701896397 / 36028797018963968) := by decide +kernel

/-- **b64_ops_are_rounded_exact** — multiplication, division and (for a non-zero sum) addition of
finite values in the model are the exact rational result, rounded once. -/
theorem b64_ops_are_rounded_exact (na nb : Bool) (a b : ℚ) :
    b64A.mul (.fin na a) (.fin nb b) = FV.mk rnd64 (na != nb) (a * b) ∧
    (b ≠ 0 → b64A.div (.fin na a) (.fin nb b) = FV.mk rnd64 (na != nb) (a / b)) ∧
    (0 < FV.sval na a + FV.sval nb b →
      b64A.add (.fin na a) (.fin nb b) = FV.mk rnd64 false (FV.sval na a + FV.sval nb b)) := by
  rw [b64A_eq]
  refine ⟨rfl, fun hb => ?_, fun hs => ?_⟩
  · simp only [arithP_div]
    simp [FV.div, hb]
  · simp only [arithP_add, FV.add]
    rw [if_neg (ne_of_gt hs), if_neg (not_lt.mpr (le_of_lt hs))]

/-- **b64_representable** — `k·2^E` with `k ≤ 2^53`, `E ≥ -1074`, below 2^1024 is a binary64 value
(in particular every value `ofBits` decodes), and every result of the rounding has this form. -/
theorem b64_representable {k : ℕ} {E : ℤ} (hk : k ≤ 2 ^ 53) (hE : -1074 ≤ E) (hlt : (k : ℚ) * pow2 E < pow2 1024) :
    IsB64 ((k : ℚ) * pow2 E) :=
  And.intro (mul_nonneg (Nat.cast_nonneg k) (le_of_lt (pow2_pos E))) (rnd64_fix hk hE hlt)

theorem b64_result_form {q v : ℚ} (hq : 0 < q) (h : rnd64 q = some v) :
    ∃ k : ℕ, k ≤ 2 ^ 53 ∧ v = (k : ℚ) * pow2 (max (ilog2 q - 52) (-1074)) ∧ v < pow2 1024 := rnd64_form hq h

/-- **print_f_total_lawful** (termination and totality) — for every arithmetic built from a rounding that satisfies the
laws of `Lawful` (stated as hypotheses: exactness on small integers, error ≤ max(q·u, d) with
u, d ≤ 1/8, no overflow below representable values, fractions of representable values representable,
non-integers small) and any `pow`: a representable argument in `[8^-N, 10·8^N)` or zero needs at
most `N` passes of each loop.  `lawfulExact` and `lawful64` are the two instances. -/
theorem print_f_total_lawful {rnd : Rounding} (L : Lawful rnd) (pw : Nat → Nat → FV) (N fuel : ℕ) (hfuel : N ≤ fuel)
    (hN : N + 2 ≤ 2 ^ 30) (neg : Bool) (x : ℚ) (hx : rnd x = some x) (h0 : 0 ≤ x) (hhi : x < 10 * 8 ^ N)
    (hlo : x = 0 ∨ 1 ≤ x * 8 ^ N) (nanNeg : Bool) (width precision : ℤ) (hp0 : 0 ≤ precision)
    (hp1 : precision ≤ 2147483647) (ops : Ops) (withExp isShort : Bool) :
    ∃ out pc, printF (arithP rnd pw) cfgNow fuel (.fin neg x) nanNeg width precision ops withExp isShort = .ok (out, pc) := by
  have hgood := good_printF (arithP rnd pw) cfgNow rfl cfgNow_fits fuel (.fin neg x) nanNeg width precision ops withExp isShort
  suffices hfine : Fine (fun _ => True)
      (printF (arithP rnd pw) cfgNow fuel (.fin neg x) nanNeg width precision ops withExp isShort) by
    obtain ⟨v, hv, _, _⟩ := fine_good hfine hgood
    exact ⟨v.1, v.2, hv⟩
  rw [printF_fin rnd pw rfl]
  obtain ⟨d, hd, d1, d2, d3, d4⟩ := digitsOf_total L pw cfgNow rfl N fuel x precision ops withExp isShort hx h0 hhi hlo hfuel hN
    hp0 hp1
  have hgd := good_digitsOf (arithP rnd pw) cfgNow rfl fuel (.fin false x) precision ops withExp isShort
  rw [hd] at hgd ⊢
  simp only [good_ok] at hgd
  simp only [bind, Except.bind]
  have hfb := fillBuf_fine L pw cfgNow ops isShort d d1 d2 d3
  cases hb : fillBuf (arithP rnd pw) cfgNow ops isShort d with
  | error err => rw [hb] at hfb; simpa using hfb
  | ok b =>
    simp only []
    apply layout_fine _ rfl
    split
    · exact le_refl _
    · have := hgd.2; omega

/-- the magnitude range of binary64 in the form the termination measure uses -/
theorem b64_range {x : ℚ} (h : IsB64 x) : x < 10 * 8 ^ 358 ∧ (x = 0 ∨ 1 ≤ x * 8 ^ 358) := by
  obtain ⟨h0, hx⟩ := h
  have e8 : (8 : ℚ) ^ 358 = pow2 1074 := by
    rw [show (8 : ℚ) = 2 ^ 3 by norm_num, ← pow_mul, show (1074 : ℤ) = ((3 * 358 : ℕ) : ℤ) by norm_num, pow2_nat]
  constructor
  · rcases lt_or_eq_of_le h0 with hp | hz
    · obtain ⟨_, _, _, hlt⟩ := rnd64_form hp hx
      have h1 : pow2 1024 ≤ pow2 1074 := pow2_mono (by norm_num)
      have h2 : (0 : ℚ) < pow2 1074 := pow2_pos 1074
      rw [e8]
      calc x < pow2 1024 := hlt
        _ ≤ pow2 1074 := h1
        _ ≤ 10 * pow2 1074 := le_mul_of_one_le_left (le_of_lt h2) (by norm_num)
    · rw [← hz]; positivity
  · rcases lawful64.rep_tiny h0 hx with hz | ht
    · exact Or.inl hz
    · right
      have h2 : 2 * lawful64.d = pow2 (-1074) := by
        show 2 * pow2 (-1075) = _
        have : (-1074 : ℤ) = -1075 + 1 := by norm_num
        rw [this, pow2_succ]
      rw [h2] at ht
      have : pow2 (-1074) * pow2 1074 = 1 := by rw [← pow2_add]; exact pow2_zero
      rw [e8]
      have hp := pow2_pos 1074
      calc (1 : ℚ) = pow2 (-1074) * pow2 1074 := this.symm
        _ ≤ x * pow2 1074 := mul_le_mul_of_nonneg_right ht (le_of_lt hp)

/-- **print_f_total_b64** (termination and totality, binary64) — for EVERY finite binary64 argument
(either sign, zero, denormals, DBL_MAX), every flag set, width, precision in `0..INT_MAX` and each of
f/e/g, the repaired print_f over the software binary64 returns: with fuel ≥ 358 neither of the two
decimal normalisation loops runs out (`while (ip >= base)` makes at most 341 passes because each pass
divides the value by more than 8 — 2^1024 < 10·8^341; `while (ip == 0)` at most 358 because each
pass multiplies it by at least 8 — 2^-1074 = 8^-358), no `(int)x` conversion is undefined (the
digits `fmod(x,10)` of finite values, and the decimal exponent of `%g`), no repeat count is negative,
and (by `print_f_safe`) no store leaves the buffer. -/
theorem print_f_total_b64 (fuel : ℕ) (hfuel : 358 ≤ fuel) (neg : Bool) (x : ℚ) (hx : IsB64 x) (nanNeg : Bool)
    (width precision : ℤ) (hp0 : 0 ≤ precision) (hp1 : precision ≤ 2147483647) (ops : Ops) (withExp isShort : Bool) :
    ∃ out pc, printF b64A cfgNow fuel (.fin neg x) nanNeg width precision ops withExp isShort = .ok (out, pc) := by
  rw [b64A_eq]
  obtain ⟨r1, r2⟩ := b64_range hx
  exact print_f_total_lawful lawful64 powHost 358 fuel hfuel (by norm_num) neg x hx.2 hx.1 r1 r2 nanNeg width precision
    hp0 hp1 ops withExp isShort
example : IsB64 (1 / 8) ∧ IsB64 0 := by
  constructor
  · have := b64_representable (k := 1) (E := -3) (by norm_num) (by norm_num)
      (by rw [Nat.cast_one, one_mul]; exact pow2_lt (by norm_num))
    have e : pow2 (-3) = 1 / 8 := by rw [pow2_eq]; norm_num
    simpa [e] using this
  · exact ⟨le_refl _, by decide +kernel⟩

/-- the driver's fuel (`FUEL` = 1200) is therefore never exhausted -/
theorem print_f_total_b64_driver (neg : Bool) (x : ℚ) (hx : IsB64 x) (nanNeg : Bool) (width precision : ℤ)
    (hp0 : 0 ≤ precision) (hp1 : precision ≤ 2147483647) (ops : Ops) (withExp isShort : Bool) :
    ∃ out pc, printF b64A cfgNow FUEL (.fin neg x) nanNeg width precision ops withExp isShort = .ok (out, pc) :=
  print_f_total_b64 FUEL (by decide) neg x hx nanNeg width precision hp0 hp1 ops withExp isShort

/-- every bit pattern with an exponent field below 2047 decodes to a binary64 value in the sense of `IsB64` -/
theorem ofBits_isB64 (b : ℕ) (hfin : (b >>> 52) % 2048 ≠ 2047) : ∃ neg x, ofBits b = .fin neg x ∧ IsB64 x := by
  unfold ofBits
  simp only [hfin, if_false]
  have hf : b % 2 ^ 52 < 2 ^ 52 := Nat.mod_lt _ (by norm_num)
  have he : (b >>> 52) % 2048 < 2048 := Nat.mod_lt _ (by norm_num)
  have hlt : ∀ (k : ℕ) (E : ℤ), k < 2 ^ 53 → 53 + E ≤ 1024 → (k : ℚ) * pow2 E < pow2 1024 := fun k E hk hE =>
    calc (k : ℚ) * pow2 E < (2 : ℚ) ^ 53 * pow2 E := mul_lt_mul_of_pos_right (by exact_mod_cast hk) (pow2_pos _)
      _ = pow2 ((53 : ℤ) + E) := by rw [pow2_add, pow2_53]
      _ ≤ pow2 1024 := pow2_mono hE
  split
  · exact ⟨_, _, rfl, b64_representable (by omega) (by norm_num) (hlt _ _ (by omega) (by norm_num))⟩
  · rename_i he0
    exact ⟨_, _, rfl, b64_representable (by omega) (by omega) (hlt _ _ (by omega) (by omega))⟩

/-- **print_f_total_bits** — the statement of the property's quantifier: for EVERY 64-bit pattern that
is not an infinity or NaN (and by `print_f_nonfinite_total` for those too), print_f returns. -/
theorem print_f_total_bits (b : ℕ) (hfin : (b >>> 52) % 2048 ≠ 2047) (nanNeg : Bool) (width precision : ℤ)
    (hp0 : 0 ≤ precision) (hp1 : precision ≤ 2147483647) (ops : Ops) (withExp isShort : Bool) :
    ∃ out pc, printF b64A cfgNow FUEL (ofBits b) nanNeg width precision ops withExp isShort = .ok (out, pc) := by
  obtain ⟨neg, x, hb, hx⟩ := ofBits_isB64 b hfin
  rw [hb]
  exact print_f_total_b64_driver neg x hx nanNeg width precision hp0 hp1 ops withExp isShort

/-- exact arithmetic: `%e` of 12345 needs 4 passes; with less fuel the model reports `diverged`
(`print_f_fuel_witness`), with 4 it returns — the bound of `print_f_total_lawful` is the real one -/
example : ∃ out pc, printF exactA cfgNow 4 (.fin false 12345) false 0 0 {} true false = .ok (out, pc) := by
  rw [exactA_eq]
  exact print_f_total_lawful lawfulExact _ 4 4 (le_refl _) (by norm_num) false 12345 rfl (by norm_num) (by norm_num)
    (Or.inr (by norm_num)) false 0 0 (le_refl _) (by norm_num) {} true false
theorem print_f_fuel_witness :
    resOf (printF exactA cfgNow 3 (.fin false 12345) false 0 0 {} true false) = .diverged := by decide +kernel

/-- **witness for the repaired defect C13-long-double-overflow**: a long double beyond DBL_MAX
(sign+exponent 0x4530, significand 0xed7fbd2d2e1d1d00, about 2.17e400: the input `pfL 254c65 4530 ed7fbd2d2e1d1d00`
of corpus/C13/fixed-defects.ops) narrows to +inf, and on +inf the loop
`while (ip >= base)` of the finite path — which the code entered before the fix, because it
tested isinf on the long double — never ends: `diverged` for EVERY fuel, over binary64. -/
theorem print_f_L_overflow_witness (fuel : Nat) (ep : FV) :
    cvt64 (ofBits80 0x4530 0xed7fbd2d2e1d1d00) = .inf false ∧
    normDown b64A fuel (b64A.modf (.inf false)).2 (b64A.modf (.inf false)).1 ep = .error .diverged :=
  ⟨by decide +kernel,
    normDown_stuck b64A (ip := .inf false) (fp := .fin false 0) (by decide +kernel) (by decide +kernel) fuel ep⟩

/-- **print_f_iso_shape_b64** (ISO C 7.21.6.1, %f %F %e %E) — for EVERY finite binary64 argument (either sign,
zero, denormals, DBL_MAX), every flag set, width and precision 0..INT_MAX, the text the repaired print_f emits
over the software binary64 satisfies the INDEPENDENT shape predicate `isoShape` of `Shape.lean` (which only
parses the text): sign by the `-`/`+`/space rule; %f: at least one integer digit and no superfluous leading
zero (in particular the guard `str > &buff[0]` never cuts the number short), the point iff precision > 0 or `#`,
exactly `precision` fraction digits; %e: exactly one integer digit, nonzero unless the value is zero (then all
digits are 0 and the exponent is +00), the point rule, exactly `precision` fraction digits, `e`/`E`, a sign, at
least two exponent digits and a third only if needed (no leading zero, never `-00`); padded to the width on
the right with blanks (`-`), with zeros after the sign (`0` without `-`) or with blanks on the left; total
length max(width, length without padding). -/
theorem print_f_iso_shape_b64 (fuel : ℕ) (hfuel : 358 ≤ fuel) (neg : Bool) (x : ℚ) (hx : IsB64 x) (nanNeg : Bool)
    (width precision : ℤ) (hp0 : 0 ≤ precision) (hp1 : precision ≤ 2147483647) (ops : Ops) (withExp : Bool) :
    ∃ out pc, printF b64A cfgNow fuel (.fin neg x) nanNeg width precision ops withExp false = .ok (out, pc) ∧
      isoShape (if withExp then .e else .f) ops width precision neg out = true := by
  rw [b64A_eq]
  obtain ⟨r1, r2⟩ := b64_range hx
  exact printF_shape_fe lawful64 sharp64 powHost 358 fuel neg x nanNeg width precision ops withExp hx.2 hx.1 r1 r2 hfuel
    (by norm_num) (by norm_num) hp0 hp1
example : isoShape .e {} 0 0 false "1.500000e+00".toList = true ∧ isoShape .e {} 0 0 false "1.500000e+0".toList = false ∧
    isoShape .f { prec := true, spec := true } 0 0 false "2.".toList = true ∧
    isoShape .f { prec := true, spec := true } 0 0 false "2".toList = false ∧
    isoShape .e {} 0 0 false "1.000000e+100".toList = true ∧ isoShape .e {} 0 0 false "1.000000e+0100".toList = false := by
  decide +kernel

/-- the same for every 64-bit pattern that is not an infinity or NaN, at the driver's fuel -/
theorem print_f_iso_shape_bits (b : ℕ) (hfin : (b >>> 52) % 2048 ≠ 2047) (nanNeg : Bool) (width precision : ℤ)
    (hp0 : 0 ≤ precision) (hp1 : precision ≤ 2147483647) (ops : Ops) (withExp : Bool) :
    ∃ neg x out pc, ofBits b = .fin neg x ∧
      printF b64A cfgNow FUEL (ofBits b) nanNeg width precision ops withExp false = .ok (out, pc) ∧
      isoShape (if withExp then .e else .f) ops width precision neg out = true := by
  obtain ⟨neg, x, hb, hx⟩ := ofBits_isB64 b hfin
  obtain ⟨out, pc, h1, h2⟩ := print_f_iso_shape_b64 FUEL (by decide) neg x hx nanNeg width precision hp0 hp1 ops withExp
  exact ⟨neg, x, out, pc, hb, by rw [hb]; exact h1, h2⟩

/-- **print_f_iso_shape_lawful** — the same for every rounding that satisfies `Lawful` and `Sharp` (rounding does
not cross a natural number, 10·x < 10 for x < 1, non-integers are below 2^52, the fraction of a value ≥ 1 is
zero or ≥ 2^-52, results below 2^1024, u, d ≤ 2^-10) and any `pow`; `sharp64` is the instance for binary64.
(Exact rational arithmetic is NOT sharp: there the buffer guard can cut an integer part short.) -/
theorem print_f_iso_shape_lawful {rnd : Rounding} (L : Lawful rnd) (S : Sharp L) (pw : Nat → Nat → FV) (N fuel : ℕ)
    (hfuel : N ≤ fuel) (hN : N ≤ 998) (neg : Bool) (x : ℚ) (hx : rnd x = some x) (h0 : 0 ≤ x) (hhi : x < 10 * 8 ^ N)
    (hlo : x = 0 ∨ 1 ≤ x * 8 ^ N) (nanNeg : Bool) (width precision : ℤ) (hp0 : 0 ≤ precision)
    (hp1 : precision ≤ 2147483647) (ops : Ops) (withExp : Bool) :
    ∃ out pc, printF (arithP rnd pw) cfgNow fuel (.fin neg x) nanNeg width precision ops withExp false = .ok (out, pc) ∧
      isoShape (if withExp then .e else .f) ops width precision neg out = true :=
  printF_shape_fe L S pw N fuel neg x nanNeg width precision ops withExp hx h0 hhi hlo hfuel (by omega) (by omega) hp0 hp1
example : Sharp lawful64 := sharp64

/-- **print_f_guard_never_truncates_b64** (`%.340f` of 1e308 and everything else) — for EVERY finite
binary64 argument and EVERY precision 0..INT_MAX (in particular ≤ PRINT_F_FRAC_MAX) of %f / %e: the buffer that
`fillBuf` returns is exactly what the UNGUARDED integer-digit loop (the original loop, without
`&& (str > &buff[0])`) produces after the fraction digits and the point — the guard never fires, the integer part
is printed completely.  The constants suffice because (a) with no generated fraction digit at most 2 bytes are in
use and an integer part below 2^1024 + 1 < 8^342 takes at most 342 passes (each pass divides by more than 8):
344 ≤ 352; (b) if fraction digits were generated the argument is a non-integer double, hence below 2^52, and
either it is below 1 (one integer digit, ≤ 343 bytes) or its fraction is at least 2^-52, so the fraction loop
stops after at most 35 passes (each multiplies by at least 8; values ≥ 2^52 are integers): 37 + 18 bytes.
Over exact rationals this is FALSE (`%.340f` of 1e308+7+1/3 prints `0000000007.333…`: the 340 generated fraction digits
leave 10 bytes for 309 integer digits; the integer 1e308+7 itself generates no fraction digit and is printed
completely): `Sharp` is needed. -/
theorem print_f_guard_never_truncates_b64 (fuel : ℕ) (hfuel : 358 ≤ fuel) (x : ℚ) (hx : IsB64 x)
    (precision : ℤ) (hp0 : 0 ≤ precision) (hp1 : precision ≤ 2147483647) (ops : Ops) (withExp : Bool) :
    ∃ (d : Digits FV) (bf : Buf) (dotfrac : List Char),
      digitsOf b64A cfgNow fuel (.fin false x) precision ops withExp false = .ok d ∧
      fillBuf b64A cfgNow ops false d = .ok bf ∧
      intLoop b64A { cfgNow with repaired := false } ops.upper (cfgNow.size + 1) d.ip
        { post := bf.post, sep := bf.sep, body := dotfrac } = .ok bf := by
  rw [b64A_eq]
  obtain ⟨r1, r2⟩ := b64_range hx
  exact printF_int_unguarded lawful64 sharp64 powHost 358 fuel x precision ops withExp hx.2 hx.1 r1 r2 hfuel
    (by norm_num) (by norm_num) hp0 hp1

/-- **finding C13-g-style-carry against the shape predicate**: the text the model prints for `%g` of 999999.5
(`print_f_g_style_carry_witness`) is REJECTED by `isoShape` (style f with X = 6 = P), the ISO text is accepted.
The shape of `%g` is not proved: outside this class it is carried by the harness (the same predicate, in C++). -/
theorem print_f_iso_shape_g_witness :
    resOf (printF exactA cfgNow 50 (.fin false (1999999 / 2)) false 0 0 {} false true) = .done "1000000".toList 7 ∧
    isoShape .g {} 0 0 false "1000000".toList = false ∧ isoShape .g {} 0 0 false "1e+06".toList = true := by
  decide +kernel

/-- **print_f_digits_error_e_partial** (accumulated rounding error of the digit generation, %e; `_partial`: restricted
to arguments in the normal range `d ≤ x·u`, i.e. denormals are excluded, and to precision ≤ PRINT_F_FRAC_MAX) — for ANY lawful rounding
with unit roundoff `u`: the decimal number `(a + b/10^sc)·10^e` whose digits `digitsOf` hands to the emission loops
(`a` = integer digit, `b` = the `sc` generated fraction digits as an integer, `e` = decimal exponent) differs from
the argument by at most HALF A UNIT of the last printed digit plus `2·K·u·|x|`, `K = |e| + 2 + sc` = the number of
rounded scaling operations (|e| + 2 passes of the two normalisation loops at most, one multiplication per generated
fraction digit), whenever `K·u ≤ 1/2`.  Proved by induction over normDown / normUp / the fraction loop with the
(1+δ) lemma (`Within`), the only half unit comes from `roundl`.  Hypotheses: the argument is representable and in
the normal range (`d ≤ x·u`), fractions of values ≥ 1 are not tiny, 10·v < 10 for v < 1 (`TenOk`; needed: without it
the code's renormalisation adds the already scaled fraction), `POW(10, n) = 10^n` up to the precision, precision ≤
PRINT_F_FRAC_MAX. -/
theorem print_f_digits_error_e_partial {rnd : Rounding} (L : Lawful rnd) (pw : Nat → Nat → FV) (N fuel : ℕ) (x : ℚ)
    (precision : ℤ) (ops : Ops)
    (hx : rnd x = some x) (h0 : 0 < x) (hN : x < 10 * 8 ^ N) (hN' : 1 ≤ x * 8 ^ N) (hf : N ≤ fuel)
    (hNb : N + 2 ≤ 2 ^ 30) (hp0 : 0 ≤ precision) (hp1 : precision ≤ 340)
    (hdu : L.d ≤ L.u) (hdn : L.d ≤ x * L.u)
    (hfr : ∀ v, rnd v = some v → 1 ≤ v → v - FV.flr v = 0 ∨ L.d ≤ (v - FV.flr v) * L.u)
    (hten : TenOk rnd)
    (hpw : ∀ n : ℕ, (n : ℤ) ≤ (if ops.prec then precision else 6) → pw 10 n = .fin false ((10 : ℚ) ^ n)) :
    ∃ (d : Digits FV) (a b : ℚ) (e : ℤ),
      digitsOf (arithP rnd pw) cfgNow fuel (.fin false x) precision ops true false = .ok d ∧
      d.ip = .fin false a ∧ d.fp = .fin false b ∧ d.ep = epv e ∧ d.withExp = true ∧
      d.precision = (if ops.prec then precision else 6) ∧ (d.signCount : ℤ) ≤ d.precision ∧
      e.natAbs ≤ N + 1 ∧
      ∀ K : ℕ, e.natAbs + 2 + d.signCount ≤ K → (K : ℚ) * L.u ≤ 1 / 2 →
        |(a + b / 10 ^ d.signCount) * (10 : ℚ) ^ e - x|
          ≤ 1 / 2 * (10 : ℚ) ^ (e - d.precision) + 2 * K * L.u * x :=
  digits_error_e L pw N fuel x precision ops hx h0 hN hN' hf hNb hp0 hp1 hdu hdn hfr hten hpw

/-- **print_f_digits_error_f_partial** (%f): no normalisation; `|a + b/10^sc − x| ≤ ½·10^-precision + 2·K·u·x`,
`K = sc + 1` (one multiplication per generated fraction digit, one rounded `ip + 1.0` on a carry). -/
theorem print_f_digits_error_f_partial {rnd : Rounding} (L : Lawful rnd) (pw : Nat → Nat → FV) (fuel : ℕ) (x : ℚ)
    (precision : ℤ) (ops : Ops)
    (hx : rnd x = some x) (h0 : 0 < x) (hp0 : 0 ≤ precision) (hp1 : precision ≤ 340)
    (hdu : L.d ≤ L.u) (hdn : L.d ≤ x * L.u)
    (hfr : ∀ v, rnd v = some v → 1 ≤ v → v - FV.flr v = 0 ∨ L.d ≤ (v - FV.flr v) * L.u)
    (hpw : ∀ n : ℕ, (n : ℤ) ≤ (if ops.prec then precision else 6) → pw 10 n = .fin false ((10 : ℚ) ^ n))
    (hint : (if ops.prec then precision else 6) = 0 → ∀ (n : ℕ) (v : ℚ), rnd (n : ℚ) = some v → FV.flr v = v) :
    ∃ (d : Digits FV) (a b : ℚ),
      digitsOf (arithP rnd pw) cfgNow fuel (.fin false x) precision ops false false = .ok d ∧
      d.ip = .fin false a ∧ d.fp = .fin false b ∧ d.ep = epv 0 ∧ d.withExp = false ∧
      d.precision = (if ops.prec then precision else 6) ∧ (d.signCount : ℤ) ≤ d.precision ∧
      ∀ K : ℕ, d.signCount + 1 ≤ K → (K : ℚ) * L.u ≤ 1 / 2 →
        |a + b / 10 ^ d.signCount - x| ≤ 1 / 2 * (10 : ℚ) ^ (-d.precision) + 2 * K * L.u * x :=
  digits_error_f L pw fuel x precision ops hx h0 hp0 hp1 hdu hdn hfr hpw hint
example : TenOk (some : Rounding) ∧ TenOk rnd64 := ⟨tenOk_exact, tenOk64⟩

/-- **print_f_digits_error_e_b64_partial** — the instance for binary64 (`u = 2^-53`), every hypothesis on the
arithmetic discharged.  RESTRICTED (hence `_partial`) to arguments in the normal range (x ≥ 2^-1022; for denormals
the law `error ≤ max(q·u, d)` is too weak although the operations are in fact exact) and to precision ≤ 22 (the
carry test compares with the host's `pow(10, n)`, which is 10^n exactly only for n ≤ 22).
COROLLARY in the same statement ("correctly rounded up to one unit"): whenever `2·K·2^-53·x ≤ ½` unit of the last
digit — e.g. |e| + p + 2 ≤ 2^(52 − 3.33·(p+1)), i.e. p ≤ 15 − log10 K — the printed decimal is within ONE unit of the
last printed digit of x, i.e. it is one of the two decimals of that precision that enclose x or their neighbour on the
rounding boundary; beyond that the recorded input of C13-ulp-drift (`%.17e` of 1.9093183950992952e+230: 17 ulps
over half a unit) shows that the K·u term is real. -/
theorem print_f_digits_error_e_b64_partial (N fuel : ℕ) (x : ℚ) (precision : ℤ) (ops : Ops)
    (hx : rnd64 x = some x) (hnorm : pow2 (-1022) ≤ x) (hN : x < 10 * 8 ^ N) (hN' : 1 ≤ x * 8 ^ N) (hf : N ≤ fuel)
    (hNb : N + 2 ≤ 2 ^ 30) (hp0 : 0 ≤ precision) (hp1 : precision ≤ 22) :
    ∃ (d : Digits FV) (a b : ℚ) (e : ℤ),
      digitsOf b64A cfgNow fuel (.fin false x) precision ops true false = .ok d ∧
      d.ip = .fin false a ∧ d.fp = .fin false b ∧ d.ep = epv e ∧ d.withExp = true ∧
      d.precision = (if ops.prec then precision else 6) ∧ (d.signCount : ℤ) ≤ d.precision ∧ e.natAbs ≤ N + 1 ∧
      ∀ K : ℕ, e.natAbs + 2 + d.signCount ≤ K → (K : ℚ) * pow2 (-53) ≤ 1 / 2 →
        |(a + b / 10 ^ d.signCount) * (10 : ℚ) ^ e - x|
            ≤ 1 / 2 * (10 : ℚ) ^ (e - d.precision) + 2 * K * pow2 (-53) * x ∧
        (2 * K * pow2 (-53) * x ≤ 1 / 2 * (10 : ℚ) ^ (e - d.precision) →
          |(a + b / 10 ^ d.signCount) * (10 : ℚ) ^ e - x| ≤ (10 : ℚ) ^ (e - d.precision)) := by
  obtain ⟨d, a, b, e, h1, h2, h3, h4, h5, h6, h7, h8, h9⟩ :=
    digits_error_e_b64 N fuel x precision ops hx hnorm hN hN' hf hNb hp0 hp1
  refine ⟨d, a, b, e, h1, h2, h3, h4, h5, h6, h7, h8, fun K hK hKu => ?_⟩
  have := h9 K hK hKu
  exact ⟨this, fun hsmall => by linarith⟩

/-- the same for %f (K = generated fraction digits + 1) -/
theorem print_f_digits_error_f_b64_partial (fuel : ℕ) (x : ℚ) (precision : ℤ) (ops : Ops)
    (hx : rnd64 x = some x) (hnorm : pow2 (-1022) ≤ x) (hp0 : 0 ≤ precision) (hp1 : precision ≤ 22) :
    ∃ (d : Digits FV) (a b : ℚ),
      digitsOf b64A cfgNow fuel (.fin false x) precision ops false false = .ok d ∧
      d.ip = .fin false a ∧ d.fp = .fin false b ∧ d.ep = epv 0 ∧ d.withExp = false ∧
      d.precision = (if ops.prec then precision else 6) ∧ (d.signCount : ℤ) ≤ d.precision ∧
      ∀ K : ℕ, d.signCount + 1 ≤ K → (K : ℚ) * pow2 (-53) ≤ 1 / 2 →
        |a + b / 10 ^ d.signCount - x| ≤ 1 / 2 * (10 : ℚ) ^ (-d.precision) + 2 * K * pow2 (-53) * x ∧
        (2 * K * pow2 (-53) * x ≤ 1 / 2 * (10 : ℚ) ^ (-d.precision) →
          |a + b / 10 ^ d.signCount - x| ≤ (10 : ℚ) ^ (-d.precision)) := by
  obtain ⟨d, a, b, h1, h2, h3, h4, h5, h6, h7, h9⟩ := digits_error_f_b64 fuel x precision ops hx hnorm hp0 hp1
  refine ⟨d, a, b, h1, h2, h3, h4, h5, h6, h7, fun K hK hKu => ?_⟩
  have := h9 K hK hKu
  exact ⟨this, fun hsmall => by linarith⟩

/-- exact arithmetic (u = 0): the digits are the correctly rounded ones — half a unit, nothing else
(the kernel-evaluated `example`s over `exactA` above are samples of it) -/
theorem print_f_exact_e (N fuel : ℕ) (x : ℚ) (precision : ℤ) (ops : Ops) (h0 : 0 < x) (hN : x < 10 * 8 ^ N)
    (hN' : 1 ≤ x * 8 ^ N) (hf : N ≤ fuel) (hNb : N + 2 ≤ 2 ^ 30) (hp0 : 0 ≤ precision) (hp1 : precision ≤ 340) :
    ∃ (d : Digits FV) (a b : ℚ) (e : ℤ),
      digitsOf exactA cfgNow fuel (.fin false x) precision ops true false = .ok d ∧
      d.ip = .fin false a ∧ d.fp = .fin false b ∧ d.ep = epv e ∧
      |(a + b / 10 ^ d.signCount) * (10 : ℚ) ^ e - x| ≤ 1 / 2 * (10 : ℚ) ^ (e - d.precision) := by
  obtain ⟨d, a, b, e, h1, h2, h3, h4, _, h9⟩ := digits_error_e_exact N fuel x precision ops h0 hN hN' hf hNb hp0 hp1
  exact ⟨d, a, b, e, h1, h2, h3, h4, h9⟩

/-- **round_any_tie_rule_off_tie** — the rounding step of print_f is `roundl` (half away from zero) in the model;
the property leaves the direction of a tie open.  OFF a tie every rounding to a nearest integer (half-even,
half-down, anything with |k - w| ≤ 1/2) returns exactly what `roundl` returns, so every theorem about the model
holds verbatim for an engine with another tie rule on every input whose scaled value is not a tie. -/
theorem round_any_tie_rule_off_tie (w : ℚ) (k : ℤ) (hk : |(k : ℚ) - w| ≤ 1 / 2) (hnt : w - FV.flr w ≠ 1 / 2) :
    FV.round (.fin false w) = .fin false (k : ℚ) := by
  rw [round_fin, nearest_off_tie w k hk hnt]

example : |((3 : ℤ) : ℚ) - 27 / 10| ≤ 1 / 2 ∧ (27 / 10 : ℚ) - FV.flr (27 / 10) ≠ 1 / 2 := by
  refine ⟨by norm_num [abs_le], ?_⟩
  rw [show FV.flr (27 / 10 : ℚ) = ((2 : ℕ) : ℚ) from flr_eq_nat (by norm_num) (by norm_num)]
  norm_num

/-- **round_any_tie_rule_on_tie** — ON a tie the two admissible results are the two neighbours `⌊w⌋` and `⌊w⌋ + 1`
(the model takes the upper one); both are exactly half a unit from the scaled value, which is all the error
theorems use (`flr_half_err`: they are stated for "within half a unit", not for half-away). -/
theorem round_any_tie_rule_on_tie (w : ℚ) (k : ℤ) (hk : |(k : ℚ) - w| ≤ 1 / 2) (ht : w - FV.flr w = 1 / 2) :
    ((k : ℚ) = FV.flr w ∨ (k : ℚ) = FV.flr w + 1) ∧ FV.round (.fin false w) = .fin false (FV.flr w + 1) := by
  refine ⟨nearest_on_tie w k hk ht, ?_⟩
  rw [round_fin]
  congr 1
  have h0 := flr_le w
  have hw : w = FV.flr w + 1 / 2 := by linarith
  have e : w + 1 / 2 = FV.flr w + 1 := by linarith
  rw [e]
  unfold FV.flr
  rw [ratFloor_eq, ratFloor_eq]
  have : ⌊((⌊w⌋ : ℤ) : ℚ) + 1⌋ = ⌊w⌋ + 1 := by
    rw [Int.floor_add_one]; simp
  rw [this]; push_cast; ring

example : |((2 : ℤ) : ℚ) - 5 / 2| ≤ 1 / 2 ∧ (5 / 2 : ℚ) - FV.flr (5 / 2) = 1 / 2 := by
  refine ⟨by norm_num [abs_le], ?_⟩
  rw [show FV.flr (5 / 2 : ℚ) = ((2 : ℕ) : ℚ) from flr_eq_nat (by norm_num) (by norm_num)]
  norm_num

/-- **runNested_spec** — the callback experiment of the `pfn` ops (Nested.lean): when the characters of an outer
conversion go through a callback that runs a nested conversion right after character number `k`, the outer sink
receives exactly the outer text, and the nested conversion ran (once, with the result of the independent call)
iff the outer text has a character number `k`. -/
theorem runNested_spec {ρ : Type} (k : Nat) (inner : Unit → ρ) (out : List Char) :
    (runNested k inner out).out = out ∧
    (runNested k inner out).inner = if k < out.length then some (inner ()) else none := by
  have := foldl_nestCb k inner out ({} : NestSt ρ) (by simp)
  simpa [runNested] using this

/-- **print_f_reentrant** — print_f's result depends on its arguments only (the model has no static state): a
floating conversion nested inside the callback of another one at ANY character position yields the text and the
count of the independent call and leaves the outer text untouched.  That the C code has this property (it would
not with a `static` digit buffer) is what the `pfn` ops check on every run. -/
theorem print_f_reentrant {α : Type} (A : Arith α) (cfg : Cfg) (fuel : Nat)
    (rA : α) (nA : Bool) (wA pA : Int) (oA : Ops) (eA sA : Bool) (outA : List Char) (pcA : Int)
    (rB : α) (nB : Bool) (wB pB : Int) (oB : Ops) (eB sB : Bool) (k : Nat)
    (h : printF A cfg fuel rA nA wA pA oA eA sA = .ok (outA, pcA)) :
    let st := runNested k (fun _ => printF A cfg fuel rB nB wB pB oB eB sB) outA
    (printF A cfg fuel rA nA wA pA oA eA sA = .ok (st.out, pcA)) ∧
    st.inner = if k < outA.length then some (printF A cfg fuel rB nB wB pB oB eB sB) else none := by
  intro st
  obtain ⟨h1, h2⟩ := runNested_spec k (fun _ => printF A cfg fuel rB nB wB pB oB eB sB) outA
  exact ⟨by rw [h]; show Except.ok (outA, pcA) = Except.ok (st.out, pcA); rw [show st.out = outA from h1], h2⟩

example : (runNested 1 (fun _ => (7 : Nat)) "ab".toList).inner = some 7 ∧ (runNested 2 (fun _ => (7 : Nat)) "ab".toList).inner = none := by
  decide

/-- **layoutC_eq_layout** — `int` arithmetic of the emission part: with the width and the number of
trailing zeros (precision - generated digits) non-negative and `width + zeros ≤ INT_MAX - 1647` no `int` expression
of the emission part of print_f overflows - `layoutC` (every intermediate `int` checked, C's evaluation order)
returns what the unbounded `layout` returns.  The buffer regions of a run of print_f are at most 352 bytes
(`good_fillBuf_used`); `print_f_no_int_overflow` discharges these hypotheses. -/
theorem layoutC_eq_layout (cfg : Cfg) (ops : Ops) (width : Int) (pfx : List Char) (b : Buf) (zeroLeft : Int)
    (hw : 0 ≤ width) (hz : 0 ≤ zeroLeft) (hsum : width + zeroLeft ≤ 2147482000)
    (hp : pfx.length ≤ 3) (hb : b.body.length ≤ 352) (hq : b.post.length ≤ 352) :
    layoutC cfg ops width pfx b zeroLeft = layout cfg ops width pfx b zeroLeft := by
  have hc := cstrlen_le b.post
  unfold layoutC
  simp only []
  have hlen : 0 ≤ (b.body.length : Int) ∧ (b.body.length : Int) ≤ 352 := by omega
  have hplen : 0 ≤ (cstrlen b.post : Int) ∧ (cstrlen b.post : Int) ≤ 352 := by omega
  have hxlen : 0 ≤ (pfx.length : Int) ∧ (pfx.length : Int) ≤ 3 := by omega
  clear hp hb hq hc
  generalize (b.body.length : Int) = len at *
  generalize (cstrlen b.post : Int) = plen at *
  generalize (pfx.length : Int) = xlen at *
  rw [ckInt_bind _ (by omega), ckInt_bind _ (by omega), ckInt_bind _ (by omega), ckInt_bind _ (by omega)]
  have hpad : 0 ≤ max (width - xlen - len - zeroLeft - plen) 0 ∧
      max (width - xlen - len - zeroLeft - plen) 0 + xlen + len + zeroLeft + plen ≤
        max width (xlen + len + zeroLeft + plen) := by omega
  generalize max (width - xlen - len - zeroLeft - plen) 0 = pad at *
  -- blanks on the left, zeros after the sign, blanks on the right: only one of the three is emitted, so the
  -- count grows by `pad` at most once (after the zeros the C variable is left at -1)
  have eadd : ∀ (c : Bool) (pc x : Int), (if c = true then pc + x else pc) = pc + (if c = true then x else 0) := by
    intro c pc x; cases c <;> simp only [if_true, if_false, Bool.false_eq_true, Int.add_zero]
  simp only [eadd]
  have hex : 0 ≤ (if (!(ops.zero || ops.left)) = true then pad else 0) ∧
      0 ≤ (if (ops.zero && !(cfg.repaired && ops.left)) = true then pad else 0) ∧
      -1 ≤ (if ops.left = true then (if (ops.zero && !(cfg.repaired && ops.left)) = true then -1 else pad) else 0) ∧
      (if (!(ops.zero || ops.left)) = true then pad else 0) +
        (if (ops.zero && !(cfg.repaired && ops.left)) = true then pad else 0) +
        (if ops.left = true then (if (ops.zero && !(cfg.repaired && ops.left)) = true then -1 else pad) else 0) ≤ pad := by
    cases ops.zero <;> cases ops.left <;> cases cfg.repaired <;>
      simp only [Bool.or_false, Bool.or_true, Bool.and_true, Bool.and_false, Bool.not_true, Bool.not_false, Bool.or_self,
        Bool.and_self, if_true, if_false, Bool.false_eq_true] <;> omega
  generalize (if (!(ops.zero || ops.left)) = true then pad else 0) = pL at *
  generalize (if ops.left = true then (if (ops.zero && !(cfg.repaired && ops.left)) = true then -1 else pad) else 0) = pR at *
  generalize (if (ops.zero && !(cfg.repaired && ops.left)) = true then pad else 0) = pZ at *
  rw [ckInt_bind _ (by omega), ckInt_bind _ (by omega), ckInt_bind _ (by omega), ckInt_bind _ (by omega),
    ckInt_bind _ (by omega), ckInt_bind _ (by omega), ckInt_bind _ (by omega)]

example : layoutC cfgNow {} 12 ['-'] { body := "1.5".toList } 3 = layout cfgNow {} 12 ['-'] { body := "1.5".toList } 3 := by decide

/-- **print_f_int_overflow_witness** — beyond the bound it does overflow: `%.2147483647f` of 1.5 (body `1.5`,
zero_left = INT_MAX - 1): `pc += zero_left` leaves `int` (undefined behaviour in C) - after the code has already
been asked for 2^31 - 2 zeros one callback at a time.  print_f neither clamps nor allocates: the text is
produced character by character, so "terminates" holds, "returns the number of characters" cannot. -/
theorem print_f_int_overflow_witness :
    layoutC cfgNow { prec := true } 0 [] { body := "1.5".toList } 2147483646 = .error .undef ∧
    layoutC cfgNow { prec := true } 0 [] { body := "1.5".toList } 2147483644 ≠ .error .undef := by
  decide

/-- **print_f_nonfinite_text** — the complete text for NaN and the infinities, every flag set, width, precision and
each of f/e/g (ISO C 7.21.6.1 p8): `[sign]inf` / `[sign]nan` (`INF` / `NAN` for F E G), sign by the - / + / space
rule (the sign bit of a NaN is honoured), padded to `width` with BLANKS only - on the right with `-`, on the left
otherwise: the `0` flag does not zero-pad a non-finite value, `#` and the precision have no effect; returned count
= max(width, length of the text). -/
theorem print_f_nonfinite_text {α : Type} (A : Arith α) (fuel : Nat) (r : α) (nanNeg : Bool) (width precision : Int)
    (ops : Ops) (withExp isShort : Bool) (h : (A.isnan r || A.isinf r) = true) :
    let s := nfText (A.isnan r) (if A.isnan r then nanNeg else A.signbit r) ops
    let pad := List.replicate (width - s.length).toNat ' '
    printF A cfgNow fuel r nanNeg width precision ops withExp isShort =
      .ok (if ops.left then s ++ pad else pad ++ s, max width s.length) :=
  printF_nonfinite rfl (by decide) h

example : printF exactA cfgNow 0 (.inf true) false 8 3 { zero := true, prec := true, upper := true } true false =
    .ok ("    -INF".toList, 8) := by decide +kernel

/-- **tie_canon_neighbours_agree** — the canonical form of the correspondence (Tie.lean, `tieLower` = the arithmetic
core of `tieCanon`): for an argument strictly between two neighbouring printable values `lo` and `lo + u`, both
neighbours have the same canonical form (in the class: `lo`; outside: none), whatever the window. -/
theorem tie_canon_neighbours_agree (w u x lo : ℚ) (h1 : lo < x) (h2 : x < lo + u) :
    tieLower w u x lo = tieLower w u x (lo + u) := by
  unfold tieLower
  simp only [absQ_eq]
  have e1 : |lo - x| = x - lo := by rw [abs_of_neg (by linarith)]; ring
  have e2 : |lo + u - x| = lo + u - x := abs_of_pos (by linarith)
  have e3 : |x - lo - u / 2| = |lo + u - x - u / 2| := by
    rw [← abs_neg]; congr 1; ring
  rw [e1, e2, e3]
  have g1 : ¬ (lo > x) := by linarith
  have g2 : lo + u > x := by linarith
  simp only [g1, g2, if_true, if_false]
  congr 2
  all_goals first | rfl | ring_nf

example : tieLower (1 / 1000) 1 (5 / 2) 2 = some 2 ∧ tieLower (1 / 1000) 1 (5 / 2) 3 = some 2 ∧ tieLower (1 / 1000) 1 (27 / 10) 3 = none := by
  decide +kernel

/-- **tie_canon_exact_tie** — an exact tie (x = lo + u/2) with a coarse unit (window ≤ u/4) is in the class, and the
form of either neighbour is the lower neighbour. -/
theorem tie_canon_exact_tie (w u lo : ℚ) (hw : 0 ≤ w) (hpos : 0 < u) (hu : w ≤ u / 4) :
    tieLower w u (lo + u / 2) lo = some lo ∧ tieLower w u (lo + u / 2) (lo + u) = some lo := by
  unfold tieLower
  simp only [absQ_eq]
  have a1 : |lo - (lo + u / 2)| = u / 2 := by
    rw [show lo - (lo + u / 2) = -(u / 2) by ring, abs_neg, abs_of_nonneg (by linarith)]
  have a2 : |lo + u - (lo + u / 2)| = u / 2 := by
    rw [show lo + u - (lo + u / 2) = u / 2 by ring, abs_of_nonneg (by linarith)]
  rw [a1, a2]
  simp only [sub_self, abs_zero]
  have g1 : ¬ (lo > lo + u / 2) := by linarith
  have g2 : lo + u > lo + u / 2 := by linarith
  simp [hu, hw, g1, g2]

/-- **digitsOf_eq_pre** — `digitsOf` is its first half `digitsPre` (the lines of print_f up to and including the
fraction scaling loop, the only part that can diverge or be undefined) followed by the pure second half `digitsPost`
(roundl, carry, trailing-zero removal, renormalisation). -/
theorem digitsOf_eq_pre {α : Type} (A : Arith α) (cfg : Cfg) (fuel : Nat) (r : α) (precision : Int) (ops : Ops)
    (withExp isShort : Bool) :
    digitsOf A cfg fuel r precision ops withExp isShort =
      (digitsPre A cfg fuel r precision ops withExp isShort).map (digitsPost A cfg ops isShort) :=
  digitsOf_eq_pre_aux A cfg fuel r precision ops withExp isShort

/-- **tieSeen_eq_pre** — the question the tie observable asks (`tieSeen`, Tie.lean: "did the engine see a tie") is a
question about the SAME state: `tieSeen` = "`digitsPre` returns a state p and the value p.fp it hands to `roundl` has the
fractional part exactly 1/2".  Together with `digitsOf_eq_pre`: the value `tieSeen` tests is the value `digitsOf`
rounds; `tieSeen` is not a second copy of the first half of `digitsOf` that only the `Tf` fields of the stream tie
to the model. -/
theorem tieSeen_eq_pre {α : Type} (A : Arith α) (cfg : Cfg) (fuel : Nat) (r : α) (precision : Int) (ops : Ops)
    (withExp isShort : Bool) :
    tieSeen A cfg fuel r precision ops withExp isShort =
      (match digitsPre A cfg fuel r precision ops withExp isShort with
       | .ok p => A.eq (A.fmod p.fp A.one) (A.div A.one (A.ofInt 2))
       | .error _ => false) := by
  unfold tieSeen digitsPre
  simp only [bind, Except.bind, pure, Except.pure]
  split
  · rename_i h; simp only [h]
  · rename_i h; simp only [h]
    split
    · rename_i h2; simp only [h2]
    · rename_i h2; simp only [h2]
      rename_i we _ _
      cases we <;> rfl

/-- **tieSeen_of_digitsOf** — the two facts combined: whenever print_f's digit generation returns (`digitsOf = ok d`),
there is ONE pre-rounding state p with `d = digitsPost p` and `tieSeen = (frac p.fp = 1/2)`; when it does not return,
`tieSeen` is false (the result field is then `diverged`/`undef`, never `Tf`). -/
theorem tieSeen_of_digitsOf {α : Type} (A : Arith α) (cfg : Cfg) (fuel : Nat) (r : α) (precision : Int) (ops : Ops)
    (withExp isShort : Bool) :
    (∃ p, digitsPre A cfg fuel r precision ops withExp isShort = .ok p ∧
          digitsOf A cfg fuel r precision ops withExp isShort = .ok (digitsPost A cfg ops isShort p) ∧
          tieSeen A cfg fuel r precision ops withExp isShort = A.eq (A.fmod p.fp A.one) (A.div A.one (A.ofInt 2))) ∨
    (∃ e, digitsOf A cfg fuel r precision ops withExp isShort = .error e ∧
          tieSeen A cfg fuel r precision ops withExp isShort = false) := by
  rw [digitsOf_eq_pre, tieSeen_eq_pre]
  cases h : digitsPre A cfg fuel r precision ops withExp isShort with
  | ok p => exact Or.inl ⟨p, rfl, rfl, rfl⟩
  | error e => exact Or.inr ⟨e, rfl, rfl⟩

-- non-vacuity: `%.2f` of 1/8 (scaled fraction 12.5: a tie), `%.2f` of 1/4 (25: no tie), exact arithmetic
example : tieSeen exactA cfgNow 10 (.fin false (1 / 8)) 2 { prec := true } false false = true ∧
    tieSeen exactA cfgNow 10 (.fin false (1 / 4)) 2 { prec := true } false false = false := by
  decide +kernel

/-- **print_f_no_int_overflow** — `layoutC_eq_layout` has the sizes of the buffer regions and of the trailing zeros as
HYPOTHESES; here they are derived from `printF` itself (`emit_sizes`, Pre.lean): for every arithmetic instance, every argument (finite or not),
fuel, flag set, 0 ≤ width, 0 ≤ precision with width + precision ≤ 2 147 481 000 (INT_MAX − 2 647) and each of %f %e, and
%g without `#`: the evaluation with every `int` expression of the emission part checked (`printFC`) IS `printF` - no
signed overflow anywhere in `pad_count`, `pc`, `zero_left`.  Ingredients: the buffer `fillBuf` returns uses ≤ 352 bytes
(`good_fillBuf_used`, from the guards of the code), the precision field is the requested precision (6 by default) for
%f/%e (`digitsOf_precision_fe`), generated digits ≤ precision (`good_digitsOf`).  `%#g` is excluded: there
zero_left = P − ((int)ep + 1) − generated and an abstract arithmetic instance may return any `int` for `(int)ep`
(for binary64 it lies in −4..P, `Total2.lean`; not combined here - open). -/
theorem print_f_no_int_overflow {α : Type} (A : Arith α) (fuel : Nat) (r : α) (nanNeg : Bool) (width precision : Int)
    (ops : Ops) (withExp isShort : Bool)
    (hw : 0 ≤ width) (hp : 0 ≤ precision) (hsum : width + precision ≤ 2147481000)
    (hg : isShort = false ∨ ops.spec = false) :
    printFC A cfgNow fuel r nanNeg width precision ops withExp isShort =
      printF A cfgNow fuel r nanNeg width precision ops withExp isShort := by
  have key : ∀ (r0 : α) (pfx : List Char), pfx.length ≤ 3 →
      (do
        let d ← digitsOf A cfgNow fuel r0 precision ops withExp isShort
        let b ← fillBuf A cfgNow ops isShort d
        layoutC cfgNow ops width pfx b (if isShort && !ops.spec then 0 else d.precision - d.signCount) :
          M (List Char × Int)) =
      (do
        let d ← digitsOf A cfgNow fuel r0 precision ops withExp isShort
        let b ← fillBuf A cfgNow ops isShort d
        layout cfgNow ops width pfx b (if isShort && !ops.spec then 0 else d.precision - d.signCount)) := by
    intro r0 pfx hpf
    cases hd : digitsOf A cfgNow fuel r0 precision ops withExp isShort with
    | error e => rfl
    | ok d =>
      cases hb : fillBuf A cfgNow ops isShort d with
      | error e => simp only [bind, Except.bind, hb]
      | ok b =>
        obtain ⟨hu, hz0, hz1⟩ := emit_sizes A fuel r0 precision ops withExp isShort hp hg hd hb
        simp only [Buf.used] at hu
        simp only [bind, Except.bind, hb]
        exact layoutC_eq_layout cfgNow ops width pfx b _ hw hz0 (by omega) hpf (by omega) (by omega)
  by_cases hnf : (A.isnan r || A.isinf r) = true
  · have e : ∀ {β : Type} (x y : M β), (if (cfgNow.repaired && (A.isnan r || A.isinf r)) = true then x else y) = x := by
      intro β x y; rw [hnf]; rfl
    unfold printFC printF
    rw [e, e]
  · have e : ∀ {β : Type} (x y z : M β), (if (cfgNow.repaired && (A.isnan r || A.isinf r)) = true then x
        else if (!cfgNow.repaired && isShort) = true then y else z) = z := by
      intro β x y z; rw [Bool.not_eq_true] at hnf; rw [hnf]; rfl
    unfold printFC printF
    rw [e, e]
    -- the prefix is `signText`: at most one character
    exact key _ (signText _ ops) (Nat.le_trans (nfText_spec false _ ops).2.2 (by decide))

example : printFC exactA cfgNow 10 (.fin true (355 / 113)) false 12 3 { prec := true, zero := true } false false =
    printF exactA cfgNow 10 (.fin true (355 / 113)) false 12 3 { prec := true, zero := true } false false :=
  print_f_no_int_overflow _ _ _ _ _ _ _ _ _ (by decide) (by decide) (by decide) (Or.inl rfl)

/-- **print_f_count_bound** — the number print_f returns for a finite argument is at most
max(width, max(precision, 6) + 352): one sign, at most 351 bytes of the 352-byte buffer (integer digits, point,
generated fraction digits, exponent text), and the trailing zeros that complete the precision.  Every arithmetic
instance; %f %e, and %g without `#`.  (`precision + 359` would be the bound read off the buffer size; this one is slightly
tighter.) -/
theorem print_f_count_bound {α : Type} (A : Arith α) (fuel : Nat) (r : α) (nanNeg : Bool) (width precision : Int)
    (ops : Ops) (withExp isShort : Bool) (out : List Char) (pc : Int)
    (hp : 0 ≤ precision) (hg : isShort = false ∨ ops.spec = false)
    (hfin : (A.isnan r || A.isinf r) = false)
    (h : printF A cfgNow fuel r nanNeg width precision ops withExp isShort = .ok (out, pc)) :
    pc ≤ max width (max precision 6 + 352) := by
  have hc := print_f_count A fuel r nanNeg width precision ops withExp isShort out pc h
  obtain ⟨d, b, hd, hb, _, _, hlen⟩ := print_f_layout A fuel r nanNeg width precision ops withExp isShort out pc hfin h
  obtain ⟨hu, _, hz⟩ := emit_sizes A fuel _ precision ops withExp isShort hp hg hd hb
  simp only [Buf.used] at hu
  have hcs := cstrlen_le b.post
  have hsg : (signText (A.signbit r) ops).length ≤ 1 := (nfText_spec false (A.signbit r) ops).2.2
  rw [hc, hlen]
  omega

example : printF exactA cfgNow 10 (.fin true (355 / 113)) false 12 3 { prec := true, zero := true } false false =
    .ok ("-0000003.142".toList, 12) ∧ (12 : Int) ≤ max 12 (max 3 6 + 352) := by
  decide +kernel

end Igris.C13
