/-
  C13 — the laws of a rounding as the fields of a structure (`Lawful`), its two instances (exact
  arithmetic; the software binary64 `rnd64`), and what one rounding costs under the laws
  (`rnd_near`, `rnd_rel`).
-/
import IgrisModel.C13.Round
namespace Igris.C13

/-- what `print_f` needs from a rounding of non-negative magnitudes -/
structure Lawful (rnd : Rounding) where
  /-- magnitudes that do not overflow -/
  small : ℚ → Prop
  /-- relative / absolute error of one rounding -/
  u : ℚ
  d : ℚ
  hu0 : 0 ≤ u
  hu : u ≤ 1 / 8
  hd0 : 0 ≤ d
  hd : d ≤ 1 / 8
  nonneg : ∀ {q v}, 0 ≤ q → rnd q = some v → 0 ≤ v
  nat_exact : ∀ n : ℕ, n ≤ 2 ^ 53 → rnd (n : ℚ) = some (n : ℚ)
  small_down : ∀ {q q'}, small q → q' ≤ q → small q'
  rnd_small : ∀ {q}, small q → ∃ v, rnd q = some v
  rep_succ_small : ∀ {q v}, rnd q = some v → small (v + 1)
  nonint_small : ∀ {v}, rnd v = some v → ((v.floor : ℤ) : ℚ) ≠ v → small (12 * v + 32)
  idem : ∀ {q v}, rnd q = some v → rnd v = some v
  rep_frac : ∀ {v}, 0 ≤ v → rnd v = some v → rnd (v - ((v.floor : ℤ) : ℚ)) = some (v - ((v.floor : ℤ) : ℚ))
  rel : ∀ {q v}, 0 < q → rnd q = some v → |v - q| ≤ max (q * u) d
  rep_tiny : ∀ {v}, 0 ≤ v → rnd v = some v → v = 0 ∨ 2 * d ≤ v

section
variable {rnd : Rounding} (L : Lawful rnd)
include L

theorem rnd_zero : rnd 0 = some 0 := by simpa using L.nat_exact 0 (by norm_num)

theorem rnd_nat {n : ℕ} {v : ℚ} (hn : n ≤ 2 ^ 53) (h : rnd (n : ℚ) = some v) : v = n := by
  rw [L.nat_exact n hn] at h; injection h with h; exact h.symm

/-- `c` is any common bound of `u` and `d`: `1/8` from `Lawful`, `1/1024` from `Sharp` -/
theorem rnd_near {c q v : ℚ} (hu : L.u ≤ c) (hd : L.d ≤ c) (hq : 0 ≤ q) (h : rnd q = some v) : |v - q| ≤ (q + 1) * c := by
  rcases lt_or_eq_of_le hq with hp | hz
  · refine le_trans (L.rel hp h) (max_le ?_ ?_)
    · have := mul_le_mul_of_nonneg_left hu hq
      linarith only [this, le_trans L.hu0 hu]
    · have := mul_nonneg hq (le_trans L.hu0 hu)
      linarith only [this, hd]
  · subst hz
    rw [rnd_zero L] at h; injection h with h; subst h
    simpa using le_trans L.hu0 hu

theorem rnd_rel {c q v : ℚ} (hu : L.u ≤ c) (hq : 0 < q) (hd : L.d ≤ q * c) (h : rnd q = some v) : |v - q| ≤ q * c :=
  le_trans (L.rel hq h) (max_le (mul_le_mul_of_nonneg_left hu (le_of_lt hq)) hd)

end

def lawfulExact : Lawful (some : Rounding) where
  small := fun _ => True
  u := 0
  d := 0
  hu0 := le_refl _
  hu := by norm_num
  hd0 := le_refl _
  hd := by norm_num
  nonneg := by intro q v hq h; simp at h; subst h; exact hq
  nat_exact := fun _ _ => rfl
  small_down := fun _ _ => trivial
  rnd_small := fun _ => ⟨_, rfl⟩
  rep_succ_small := fun _ => trivial
  nonint_small := fun _ _ => trivial
  idem := fun _ => rfl
  rep_frac := fun _ _ => rfl
  rel := by intro q v _ h; simp at h; subst h; simp
  rep_tiny := by intro v hv _; right; linarith

/-- the software binary64 rounding is lawful: error ≤ max(q·2^-53, 2^-1075) -/
def lawful64 : Lawful rnd64 where
  small := fun q => q < pow2 1024 - pow2 970
  u := pow2 (-53)
  d := pow2 (-1075)
  hu0 := le_of_lt (pow2_pos _)
  hu := by
    have : pow2 (-53) ≤ pow2 (-3) := pow2_mono (by norm_num)
    have e : pow2 (-3) = 1 / 8 := by rw [pow2_eq]; norm_num
    linarith
  hd0 := le_of_lt (pow2_pos _)
  hd := by
    have : pow2 (-1075) ≤ pow2 (-3) := pow2_mono (by norm_num)
    have e : pow2 (-3) = 1 / 8 := by rw [pow2_eq]; norm_num
    linarith
  nonneg := fun _ h => rnd64_nonneg h
  nat_exact := by
    intro n hn
    have := rnd64_fix (k := n) (E := 0) hn (by norm_num) (by
      rw [pow2_zero, mul_one]
      have h1 : (n : ℚ) ≤ 2 ^ 53 := by exact_mod_cast hn
      have h2 : pow2 53 < pow2 1024 := pow2_lt (by norm_num)
      rw [pow2_53] at h2
      linarith)
    simpa [pow2_zero] using this
  small_down := fun h h' => lt_of_le_of_lt h' h
  rnd_small := by
    intro q hs
    by_cases hq : 0 < q
    · rw [rnd64_eq hq]
      have hlt : ¬ (sig64 q : ℚ) * pow2 (ulpExp q) ≥ pow2 1024 := by
        intro hge
        obtain ⟨a, b⟩ := ilog2_spec hq
        have h970 : (0:ℚ) < pow2 970 := pow2_pos _
        have hlog : ilog2 q ≤ 1023 := by
          by_contra hc
          have : pow2 1024 ≤ pow2 (ilog2 q) := pow2_mono (by omega)
          linarith
        have hE : pow2 (ulpExp q) ≤ pow2 971 := pow2_mono (by unfold ulpExp; omega)
        have h971 : pow2 971 = 2 * pow2 970 := by
          have : (971 : ℤ) = 970 + 1 := by norm_num
          rw [this, pow2_succ]
        have hn := sig64_near q
        rw [abs_le] at hn
        have hp := pow2_pos (ulpExp q)
        have : (sig64 q : ℚ) * pow2 (ulpExp q) ≤ q + pow2 (ulpExp q) / 2 := by
          have h1 : (sig64 q : ℚ) ≤ q / pow2 (ulpExp q) + 1 / 2 := by linarith [hn.2]
          calc (sig64 q : ℚ) * pow2 (ulpExp q) ≤ (q / pow2 (ulpExp q) + 1 / 2) * pow2 (ulpExp q) :=
                mul_le_mul_of_nonneg_right h1 (le_of_lt hp)
            _ = q + pow2 (ulpExp q) / 2 := by field_simp
        linarith
      simp only [hlt, if_false]
      exact ⟨_, rfl⟩
    · exact ⟨0, by unfold rnd64; simp [not_lt.mp hq]⟩
  rep_succ_small := by
    intro q v h
    show v + 1 < pow2 1024 - pow2 970
    by_cases hq : 0 < q
    · obtain ⟨k, hk, hv, hlt⟩ := rnd64_form hq h
      have h970 : (1 : ℚ) < pow2 970 := by
        have : pow2 0 < pow2 970 := pow2_lt (by norm_num)
        rwa [pow2_zero] at this
      have h971 : pow2 971 = 2 * pow2 970 := by
        have : (971 : ℤ) = 970 + 1 := by norm_num
        rw [this, pow2_succ]
      by_cases hE : ulpExp q ≤ 970
      · have : v ≤ pow2 1023 := by
          rw [hv]
          have h1 : (k : ℚ) ≤ 2 ^ 53 := by exact_mod_cast hk
          have h2 : pow2 (ulpExp q) ≤ pow2 970 := pow2_mono hE
          have h3 : pow2 1023 = 2 ^ 53 * pow2 970 := by
            have : (1023 : ℤ) = 53 + 970 := by norm_num
            rw [this, pow2_add, pow2_53]
          rw [h3]
          exact mul_le_mul h1 h2 (le_of_lt (pow2_pos _)) (by positivity)
        have h4 : pow2 1024 = 2 * pow2 1023 := by
          have : (1024 : ℤ) = 1023 + 1 := by norm_num
          rw [this, pow2_succ]
        have h5 : pow2 971 ≤ pow2 1023 := pow2_mono (by norm_num)
        linarith
      · -- v is a multiple of 2^971 below 2^1024
        obtain ⟨dd, hdd⟩ := Int.eq_ofNat_of_zero_le (show 0 ≤ ulpExp q - 971 by omega)
        have hsplit : pow2 (ulpExp q) = pow2 971 * 2 ^ dd := by
          have : ulpExp q = 971 + (dd : ℤ) := by omega
          rw [this, pow2_add, pow2_nat]
        have hv' : v = ((k * 2 ^ dd : ℕ) : ℚ) * pow2 971 := by rw [hv, hsplit]; push_cast; ring
        have h1024 : pow2 1024 = 2 ^ 53 * pow2 971 := by
          have : (1024 : ℤ) = 53 + 971 := by norm_num
          rw [this, pow2_add, pow2_53]
        have hj : ((k * 2 ^ dd : ℕ) : ℚ) < 2 ^ 53 := by
          rw [hv', h1024] at hlt
          exact lt_of_mul_lt_mul_right hlt (le_of_lt (pow2_pos _))
        have hj' : k * 2 ^ dd < 2 ^ 53 := by exact_mod_cast hj
        have hj'' : ((k * 2 ^ dd : ℕ) : ℚ) ≤ 2 ^ 53 - 1 := by
          have : k * 2 ^ dd + 1 ≤ 2 ^ 53 := hj'
          have : ((k * 2 ^ dd + 1 : ℕ) : ℚ) ≤ ((2 ^ 53 : ℕ) : ℚ) := by exact_mod_cast this
          push_cast at this ⊢
          linarith
        have : v ≤ (2 ^ 53 - 1) * pow2 971 := by
          rw [hv']; exact mul_le_mul_of_nonneg_right hj'' (le_of_lt (pow2_pos _))
        rw [h1024]
        nlinarith [pow2_pos 970]
    · unfold rnd64 at h
      simp only [not_lt.mp hq, if_true] at h
      simp at h; subst h
      have h1 : pow2 971 < pow2 1024 := pow2_lt (by norm_num)
      have h971 : pow2 971 = 2 * pow2 970 := by
        have : (971 : ℤ) = 970 + 1 := by norm_num
        rw [this, pow2_succ]
      have h970 : (1 : ℚ) < pow2 970 := by
        have : pow2 0 < pow2 970 := pow2_lt (by norm_num)
        rwa [pow2_zero] at this
      linarith
  nonint_small := by
    intro v h hni
    show 12 * v + 32 < pow2 1024 - pow2 970
    have hv0 : 0 ≤ v := by
      by_contra hc
      unfold rnd64 at h
      simp only [le_of_lt (not_le.mp hc), if_true] at h
      simp at h
      rw [← h] at hc; exact hc (le_refl _)
    have hvp : 0 < v := by
      rcases lt_or_eq_of_le hv0 with h' | h'
      · exact h'
      · exfalso; apply hni; rw [← h']
        have : (0 : ℚ).floor = 0 := by exact_mod_cast Rat.floor_intCast 0
        rw [this]; simp
    obtain ⟨k, hk, hv, _⟩ := rnd64_form hvp h
    have hEneg : ulpExp v < 0 := by
      by_contra hc
      obtain ⟨n, hn⟩ := Int.eq_ofNat_of_zero_le (not_lt.mp hc)
      apply hni
      have : v = ((k * 2 ^ n : ℕ) : ℚ) := by rw [hv, hn, pow2_nat]; push_cast; ring
      rw [this]
      exact_mod_cast Rat.floor_intCast ((k * 2 ^ n : ℕ) : ℤ)
    obtain ⟨a, b⟩ := ilog2_spec hvp
    have hlog : ilog2 v + 1 ≤ 52 := by unfold ulpExp at hEneg; omega
    have h52 : v < pow2 52 := lt_of_lt_of_le b (pow2_mono hlog)
    have h56 : pow2 56 = 16 * pow2 52 := by
      have : (56 : ℤ) = 4 + 52 := by norm_num
      have h4 : pow2 4 = 16 := by rw [pow2_eq]; norm_num
      rw [this, pow2_add, h4]
    have h1 : pow2 57 ≤ pow2 970 := pow2_mono (by norm_num)
    have h2 : pow2 57 = 2 * pow2 56 := by
      have : (57 : ℤ) = 56 + 1 := by norm_num
      rw [this, pow2_succ]
    have h3 : pow2 1024 = 2 * pow2 1023 := by
      have : (1024 : ℤ) = 1023 + 1 := by norm_num
      rw [this, pow2_succ]
    have h4 : pow2 970 < pow2 1023 := pow2_lt (by norm_num)
    have h52' : (32 : ℚ) ≤ pow2 52 := by
      have : pow2 5 ≤ pow2 52 := pow2_mono (by norm_num)
      have h4 : pow2 5 = 32 := by rw [pow2_eq]; norm_num
      linarith
    linarith
  idem := by
    intro q v h
    by_cases hq : 0 < q
    · obtain ⟨k, hk, hv, hlt⟩ := rnd64_form hq h
      rw [hv]
      exact rnd64_fix hk (by unfold ulpExp; omega) (by rw [← hv]; exact hlt)
    · unfold rnd64 at h
      simp only [not_lt.mp hq, if_true] at h
      simp at h; subst h; simp [rnd64]
  rep_frac := by
    intro v hv0 h
    rcases lt_or_eq_of_le hv0 with hvp | h0
    · obtain ⟨k, hk, hv, hlt⟩ := rnd64_form hvp h
      by_cases hE : 0 ≤ ulpExp v
      · obtain ⟨n, hn⟩ := Int.eq_ofNat_of_zero_le hE
        have hvi : v = ((k * 2 ^ n : ℕ) : ℚ) := by rw [hv, hn, pow2_nat]; push_cast; ring
        have : ((v.floor : ℤ) : ℚ) = v := by
          rw [hvi]; exact_mod_cast Rat.floor_intCast ((k * 2 ^ n : ℕ) : ℤ)
        rw [this, sub_self]; simp [rnd64]
      · obtain ⟨n, hn⟩ := Int.eq_ofNat_of_zero_le (show 0 ≤ -ulpExp v by omega)
        have hE' : ulpExp v = -(n : ℤ) := by omega
        have hp2 : pow2 (ulpExp v) = 1 / ((2 ^ n : ℕ) : ℚ) := by
          rw [hE', pow2_eq, zpow_neg]; simp
        have hvd : v = (k : ℚ) / ((2 ^ n : ℕ) : ℚ) := by rw [hv, hp2]; ring
        have hfl : v.floor = ((k / 2 ^ n : ℕ) : ℤ) := by
          rw [hvd, ratFloor_eq, Rat.floor_natCast_div_natCast]; norm_cast
        have hflq : ((v.floor : ℤ) : ℚ) = ((k / 2 ^ n : ℕ) : ℚ) := by rw [hfl, Int.cast_natCast]
        have hpos : (0 : ℚ) < ((2 ^ n : ℕ) : ℚ) := by positivity
        have hfrac : v - ((v.floor : ℤ) : ℚ) = ((k % 2 ^ n : ℕ) : ℚ) * pow2 (ulpExp v) := by
          rw [hflq, hp2]
          have hdm := Nat.div_add_mod k (2 ^ n)
          have hk' : (k : ℚ) = ((2 ^ n : ℕ) : ℚ) * ((k / 2 ^ n : ℕ) : ℚ) + ((k % 2 ^ n : ℕ) : ℚ) := by
            exact_mod_cast hdm.symm
          generalize ((k / 2 ^ n : ℕ) : ℚ) = a at hk' ⊢
          generalize ((k % 2 ^ n : ℕ) : ℚ) = b at hk' ⊢
          generalize ((2 ^ n : ℕ) : ℚ) = D at hk' hpos hvd ⊢
          rw [hvd, hk']
          field_simp
          ring
        rw [hfrac]
        refine rnd64_fix (le_trans (Nat.mod_le _ _) hk) (by unfold ulpExp; omega) ?_
        rw [← hfrac]
        have : ((v.floor : ℤ) : ℚ) ≥ 0 := by
          have : (0 : ℤ) ≤ v.floor := Rat.le_floor_iff.mpr (by exact_mod_cast hv0)
          exact_mod_cast this
        linarith
    · rw [← h0]
      have : (0 : ℚ).floor = 0 := by exact_mod_cast Rat.floor_intCast 0
      rw [this]; simp [rnd64]
  rel := fun hq h => rnd64_abs hq h
  rep_tiny := by
    intro v hv0 h
    rcases lt_or_eq_of_le hv0 with hvp | h0
    · right
      obtain ⟨k, hk, hv, _⟩ := rnd64_form hvp h
      have hk0 : k ≠ 0 := by intro hk0; rw [hk0] at hv; simp at hv; linarith
      have hk1 : (1 : ℚ) ≤ k := by exact_mod_cast Nat.one_le_iff_ne_zero.mpr hk0
      have hE : pow2 (-1074) ≤ pow2 (ulpExp v) := pow2_mono (by unfold ulpExp; omega)
      have h2 : 2 * pow2 (-1075) = pow2 (-1074) := by
        have : (-1074 : ℤ) = -1075 + 1 := by norm_num
        rw [this, pow2_succ]
      rw [h2, hv]
      have hp := pow2_pos (ulpExp v)
      nlinarith
    · left; exact h0.symm

end Igris.C13
