/-
  C13 — what the property says about the text, as plain list functions
  (independent of the model's control flow).
-/
import IgrisModel.C06.Model
namespace Igris.C13
open Igris.C06 (Ops)

/-- the sign rule shared with the integer conversions: `-` for a negative value, else `+`
with the + flag, else a blank with the space flag -/
def signText (neg : Bool) (ops : Ops) : List Char :=
  if neg then ['-'] else if ops.sign then ['+'] else if ops.space then [' '] else []

/-- ISO C field layout of a numeric conversion: `digits` = integer digits, point and
generated fraction digits; `zeros` = trailing zeros that complete the precision;
`expo` = exponent text.  Padding to `width`: blanks on the right with `-`, else zeros
between sign and digits with `0`, else blanks on the left. -/
def specLayout (ops : Ops) (width : Int) (sign digits : List Char) (zeros : Nat) (expo : List Char) : List Char :=
  let core : Nat := sign.length + digits.length + zeros + expo.length
  let pad : Nat := (width - (core : Int)).toNat
  if ops.left then sign ++ digits ++ List.replicate zeros '0' ++ expo ++ List.replicate pad ' '
  else if ops.zero then sign ++ List.replicate pad '0' ++ digits ++ List.replicate zeros '0' ++ expo
  else List.replicate pad ' ' ++ sign ++ digits ++ List.replicate zeros '0' ++ expo

/-- the ISO text of a non-finite value: sign by the minus / plus / space rule, `inf` or `nan`, upper case for F E G -/
def nfText (isNan neg : Bool) (ops : Ops) : List Char :=
  signText neg ops ++ (if isNan then (if ops.upper then "NAN".toList else "nan".toList)
                       else (if ops.upper then "INF".toList else "inf".toList))

theorem specLayout_length (ops : Ops) (width : Int) (sign digits : List Char) (zeros : Nat) (expo : List Char) :
    ((specLayout ops width sign digits zeros expo).length : Int) =
      max width ((sign.length + digits.length + zeros + expo.length : Nat) : Int) := by
  unfold specLayout
  split
  · simp; omega
  · split <;> (simp; omega)

end Igris.C13
