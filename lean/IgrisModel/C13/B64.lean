/-
  C13 — beyond the laws of `Lawful`: what the shape and error theorems need from `rnd64` and from the host's
  `pow(10, n)`; `TenOk` and `Sharp L` state it for an arbitrary rounding.  `Sharp` holds for binary64 (`sharp64`), not for
  exact rationals: a non-integer value is small, a fraction of a value ≥ 1 is not tiny.  The facts about fractions and
  integers rest on the dyadic form of a binary64 value (`rnd64_rep`, Round.lean).
-/
import IgrisModel.C13.Laws
namespace Igris.C13

/-- the rounding never lifts `10·v` (`v < 1` representable) to 10 or above (`tenOk_exact`, `tenOk64`).  Without it
the renormalisation `if (with_exp && ip >= base)` of the code would be applied to a value whose fraction
has already been scaled, which is wrong. -/
def TenOk (rnd : Rounding) : Prop := ∀ v w, rnd v = some v → v < 1 → rnd (v * 10) = some w → w < 10

theorem tenOk_exact : TenOk (some : Rounding) := by
  intro v w _ h1 hw
  simp at hw; linarith

theorem sig64_ge_nat {q : ℚ} {M : ℕ} (h : (M : ℚ) ≤ q / pow2 (ulpExp q)) : (M : ℚ) ≤ sig64 q := by
  have hfl : (q / pow2 (ulpExp q)).floor ≤ sig64 q := by
    unfold sig64
    dsimp only
    split_ifs <;> omega
  have : (M : ℤ) ≤ (q / pow2 (ulpExp q)).floor := Rat.le_floor_iff.mpr (by exact_mod_cast h)
  exact_mod_cast le_trans this hfl

theorem rnd64_mono_nat {q v : ℚ} (m : ℕ) (hm : m ≤ 2 ^ 53) (hq1 : (m : ℚ) ≤ q) (h : rnd64 q = some v) : (m : ℚ) ≤ v := by
  rcases Nat.eq_zero_or_pos m with hm0 | hmp
  · subst hm0; simpa using rnd64_nonneg h
  have hm1 : (1 : ℚ) ≤ m := by exact_mod_cast hmp
  have hq : 0 < q := by linarith
  obtain ⟨a, b⟩ := ilog2_spec hq
  obtain ⟨rfl, _⟩ := rnd64_some hq h
  have hp := pow2_pos (ulpExp q)
  by_cases hE : ulpExp q ≤ 0
  · -- m = (m * 2^(-E)) * 2^E
    obtain ⟨n, hn⟩ := Int.eq_ofNat_of_zero_le (show 0 ≤ -ulpExp q by omega)
    have h1 : pow2 (ulpExp q) * (2 : ℚ) ^ n = 1 := by
      rw [← pow2_nat, ← hn, ← pow2_add]; simp [pow2_zero]
    have hs : ((m * 2 ^ n : ℕ) : ℚ) ≤ q / pow2 (ulpExp q) := by
      rw [le_div_iff₀ hp]; push_cast
      calc (m : ℚ) * 2 ^ n * pow2 (ulpExp q) = m * (pow2 (ulpExp q) * 2 ^ n) := by ring
        _ = m := by rw [h1, mul_one]
        _ ≤ q := hq1
    have h3 : ((m : ℚ) * 2 ^ n) ≤ (sig64 q : ℚ) := by exact_mod_cast sig64_ge_nat hs
    calc (m : ℚ) = (m : ℚ) * 2 ^ n * pow2 (ulpExp q) := by
          rw [mul_assoc, mul_comm ((2 : ℚ) ^ n), h1, mul_one]
      _ ≤ (sig64 q : ℚ) * pow2 (ulpExp q) := mul_le_mul_of_nonneg_right h3 (le_of_lt hp)
  · have hE' : ulpExp q = ilog2 q - 52 := by unfold ulpExp at hE ⊢; omega
    have hs : ((2 ^ 52 : ℕ) : ℚ) ≤ q / pow2 (ulpExp q) := by
      rw [le_div_iff₀ hp]
      have : pow2 (ilog2 q) = pow2 52 * pow2 (ulpExp q) := by rw [← pow2_add, hE']; congr 1; ring
      rw [this, pow2_52] at a; push_cast; exact a
    have h3 : ((2 : ℚ) ^ 52) ≤ (sig64 q : ℚ) := by exact_mod_cast sig64_ge_nat hs
    have h4 : (2 : ℚ) ≤ pow2 (ulpExp q) := by
      have : pow2 1 ≤ pow2 (ulpExp q) := pow2_mono (by omega)
      have e : pow2 1 = 2 := by rw [pow2_eq]; norm_num
      rwa [e] at this
    have hm' : (m : ℚ) ≤ 2 ^ 53 := by exact_mod_cast hm
    calc (m : ℚ) ≤ (2 : ℚ) ^ 52 * 2 := by linarith
      _ ≤ (sig64 q : ℚ) * pow2 (ulpExp q) := mul_le_mul h3 h4 (by norm_num) (by linarith)

theorem rnd64_frac_ge {v : ℚ} (h : rnd64 v = some v) (h1 : 1 ≤ v) :
    v - FV.flr v = 0 ∨ 1 ≤ (v - FV.flr v) * 2 ^ 52 := by
  rcases rnd64_rep (by linarith) h with ⟨m, rfl⟩ | ⟨k, n, _, _, _, hv, _, hn52⟩
  · left; rw [flr_natCast, sub_self]
  · obtain ⟨e1, e2⟩ := dyadic_floor k n
    rw [hv, e1, e2]
    rcases Nat.eq_zero_or_pos (k % 2 ^ n) with h0 | hpos
    · left; rw [h0]; simp
    · right
      have hm1 : (1 : ℚ) ≤ ((k % 2 ^ n : ℕ) : ℚ) := by exact_mod_cast hpos
      have hp : (1 : ℚ) ≤ pow2 (-(n : ℤ)) * 2 ^ 52 := by
        rw [← pow2_52, ← pow2_add, ← pow2_zero]
        exact pow2_mono (by have := hn52 h1; omega)
      rw [mul_assoc]
      exact one_le_mul_of_one_le_of_one_le hm1 hp

/- the hypotheses `hdu`, `hdn`, `hfr` of the error bounds (head of ErrBound.lean), for binary64 -/

theorem hdu64 : lawful64.d ≤ lawful64.u := by
  show pow2 (-1075) ≤ pow2 (-53)
  exact pow2_mono (by norm_num)

theorem hdn64 {x : ℚ} (hx : pow2 (-1022) ≤ x) : lawful64.d ≤ x * lawful64.u := by
  show pow2 (-1075) ≤ x * pow2 (-53)
  have e : pow2 (-1075) = pow2 (-1022) * pow2 (-53) := by
    rw [← pow2_add]; norm_num
  rw [e]
  exact mul_le_mul_of_nonneg_right hx (le_of_lt (pow2_pos _))

theorem hfr64 : ∀ v, rnd64 v = some v → 1 ≤ v → v - FV.flr v = 0 ∨ lawful64.d ≤ (v - FV.flr v) * lawful64.u := by
  intro v h h1
  rcases rnd64_frac_ge h h1 with hz | hg
  · exact Or.inl hz
  · right
    show pow2 (-1075) ≤ (v - FV.flr v) * pow2 (-53)
    have e : pow2 (-53) = pow2 (-105) * 2 ^ 52 := by rw [← pow2_52, ← pow2_add]; norm_num
    calc pow2 (-1075) ≤ pow2 (-105) * 1 := by rw [mul_one]; exact pow2_mono (by norm_num)
      _ ≤ pow2 (-105) * ((v - FV.flr v) * 2 ^ 52) := mul_le_mul_of_nonneg_left hg (le_of_lt (pow2_pos _))
      _ = (v - FV.flr v) * pow2 (-53) := by rw [e]; ring

/-- `TenOk` for binary64: the largest double below 1 is `1 - 2^-53`, and `10·(1 - 2^-53)·(1 + 2^-53) < 10` -/
theorem tenOk64 : TenOk rnd64 := by
  intro v w hv h1 hw
  by_cases hvp : 0 < v
  swap
  · have := rnd64_zero_of_nonpos (not_lt.mpr (by linarith only [not_lt.mp hvp] : v * 10 ≤ 0)) hw
    linarith only [this]
  have hq : 0 < v * 10 := by linarith only [hvp]
  have hup : 0 < pow2 (-53) := pow2_pos _
  by_cases hhalf : v < 1 / 2
  · linarith only [(abs_le.mp (rnd_near lawful64 lawful64.hu lawful64.hd (le_of_lt hq) hw)).2, hhalf]
  · have hhalf' : 1 / 2 ≤ v := not_lt.mp hhalf
    have hl : ilog2 v = -1 := by
      apply ilog2_unique
      · rw [pow2_eq]; norm_num; linarith only [hhalf']
      · rw [show (-1 : ℤ) + 1 = 0 by norm_num, pow2_zero]; exact h1
    obtain ⟨k, hk, hvk, _⟩ := rnd64_form hvp hv
    have hE : ulpExp v = -53 := by unfold ulpExp; rw [hl]; norm_num
    rw [hE] at hvk
    have h53 : pow2 (-53) * 2 ^ 53 = 1 := by
      rw [← pow2_53, ← pow2_add]; norm_num [pow2_zero]
    have hklt : (k : ℚ) < 2 ^ 53 := by
      by_contra hc
      have : 2 ^ 53 * pow2 (-53) ≤ (k : ℚ) * pow2 (-53) :=
        mul_le_mul_of_nonneg_right (not_lt.mp hc) (le_of_lt hup)
      linarith only [this, hvk, h1, h53]
    have hk' : k < 2 ^ 53 := by exact_mod_cast hklt
    have hk'' : (k : ℚ) ≤ 2 ^ 53 - 1 := by
      have : k + 1 ≤ 2 ^ 53 := hk'
      have : ((k + 1 : ℕ) : ℚ) ≤ ((2 ^ 53 : ℕ) : ℚ) := by exact_mod_cast this
      push_cast at this; linarith only [this]
    have hvle : v ≤ 1 - pow2 (-53) := by
      rw [hvk]
      have : (k : ℚ) * pow2 (-53) ≤ (2 ^ 53 - 1) * pow2 (-53) := mul_le_mul_of_nonneg_right hk'' (le_of_lt hup)
      linarith only [this, h53]
    have hw' : w ≤ v * 10 * (1 + pow2 (-53)) := by
      have h1 : pow2 (-1075) ≤ pow2 (-53) := pow2_mono (by norm_num)
      have h2 : 1 * pow2 (-53) ≤ v * 10 * pow2 (-53) := mul_le_mul_of_nonneg_right (by linarith only [hhalf']) (le_of_lt hup)
      have := (abs_le.mp (rnd_rel lawful64 (c := pow2 (-53)) (le_refl _) hq
        (show pow2 (-1075) ≤ _ by linarith only [h1, h2]) hw)).2
      linarith only [this]
    have hv' : v * 10 * (1 + pow2 (-53)) ≤ (1 - pow2 (-53)) * 10 * (1 + pow2 (-53)) :=
      mul_le_mul_of_nonneg_right (by linarith only [hvle]) (by linarith only [hup])
    have e : (1 - pow2 (-53)) * 10 * (1 + pow2 (-53)) = 10 - 10 * (pow2 (-53) * pow2 (-53)) := by ring
    have hpp := mul_pos hup hup
    linarith only [hw', hv', e, hpp]

/-- binary64 rounds an integer to an integer (needed by `%f` with precision 0 only): up to 2^53 exactly, and a
value of 2^53 or more has no fraction bits -/
theorem hint64 : ∀ (n : ℕ) (v : ℚ), rnd64 (n : ℚ) = some v → FV.flr v = v := by
  intro n v h
  by_cases hn : n ≤ 2 ^ 53
  · rw [rnd_nat lawful64 hn h]; exact flr_natCast n
  · have hge : ((2 ^ 53 : ℕ) : ℚ) ≤ v :=
      rnd64_mono_nat (2 ^ 53) (le_refl _) (by exact_mod_cast le_of_lt (not_le.mp hn)) h
    by_contra hni
    have hlt := rnd64_nonint_lt (lawful64.idem h) hni
    have : (2 : ℚ) ^ 52 < 2 ^ 53 := by norm_num
    push_cast at hge; linarith

/-- the host's `pow(10, n)` is exact up to `10^22 = 5^22·2^22` (`5^22 < 2^53`) -/
theorem powHost_small (n : ℕ) (hn : n ≤ 22) : powHost 10 n = .fin false ((10 : ℚ) ^ n) := by
  unfold powHost
  rw [if_neg (by omega), if_neg (by omega)]
  simp only [Nat.cast_ofNat]
  have e : (10 : ℚ) ^ n = ((5 ^ n : ℕ) : ℚ) * pow2 (n : ℤ) := by
    rw [pow2_nat]; push_cast; rw [← mul_pow]; norm_num
  have h5 : 5 ^ n ≤ 2 ^ 53 := le_trans (Nat.pow_le_pow_right (by norm_num) hn) (by norm_num)
  have hlt : ((5 ^ n : ℕ) : ℚ) * pow2 (n : ℤ) < pow2 1024 := by
    rw [← e]
    have h3 : (10 : ℚ) ^ n ≤ 10 ^ 22 := pow_le_pow_right₀ (by norm_num) hn
    have h4 : pow2 1024 = (2 : ℚ) ^ 1024 := pow2_nat 1024
    rw [h4]
    have h6 : (10 : ℚ) ^ 22 < 2 ^ 74 := by norm_num
    have h7 : (2 : ℚ) ^ 74 ≤ 2 ^ 1024 := pow_le_pow_right₀ (by norm_num) (by norm_num)
    exact lt_of_le_of_lt h3 (lt_of_lt_of_le h6 h7)
  have := rnd64_fix h5 (by omega : (-1074 : ℤ) ≤ n) hlt
  rw [← e] at this
  simp only [FV.mk, this]

structure Sharp {rnd : Rounding} (L : Lawful rnd) : Prop where
  u10 : L.u ≤ 1 / 1024
  d10 : L.d ≤ 1 / 1024
  /-- rounding does not cross a (representable) natural number downwards -/
  mono_nat : ∀ {q v : ℚ} (n : ℕ), n ≤ 2 ^ 53 → (n : ℚ) ≤ q → rnd q = some v → (n : ℚ) ≤ v
  mul10_lt : ∀ {x w : ℚ}, rnd x = some x → 0 ≤ x → x < 1 → rnd (x * 10) = some w → w < 10
  nonint_lt : ∀ {v : ℚ}, rnd v = some v → FV.flr v ≠ v → v < 2 ^ 52
  frac_ge : ∀ {v : ℚ}, rnd v = some v → 1 ≤ v → v - FV.flr v = 0 ∨ 1 ≤ (v - FV.flr v) * 2 ^ 52
  /-- the largest magnitude -/
  top : ∀ {q v : ℚ}, rnd q = some v → v < 2 ^ 1024

theorem pow2_le_inv_1024 {e : ℤ} (h : e ≤ -10) : pow2 e ≤ 1 / 1024 := by
  have : pow2 e ≤ pow2 (-10) := pow2_mono h
  have e : pow2 (-10) = 1 / 1024 := by rw [pow2_eq]; norm_num
  linarith

theorem sharp64 : Sharp lawful64 where
  u10 := pow2_le_inv_1024 (e := -53) (by norm_num)
  d10 := pow2_le_inv_1024 (e := -1075) (by norm_num)
  mono_nat := fun n hn h1 h => rnd64_mono_nat n hn h1 h
  mul10_lt := fun hx _ h1 hw => tenOk64 _ _ hx h1 hw
  nonint_lt := fun h hni => rnd64_nonint_lt h hni
  frac_ge := fun h h1 => rnd64_frac_ge h h1
  top := by
    intro q v h
    by_cases hq : 0 < q
    · obtain ⟨_, _, _, hlt⟩ := rnd64_form hq h
      have : pow2 1024 = (2 : ℚ) ^ 1024 := pow2_nat 1024
      rw [this] at hlt; exact hlt
    · rw [rnd64_zero_of_nonpos hq h]; positivity

end Igris.C13
