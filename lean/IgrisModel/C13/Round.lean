/-
  C13 — first-class facts about the rounding of the software binary64 (`rnd64`):
  `ilog2` is the binary exponent, the result is within half a unit of the last place
  (the (1+δ) lemma, |δ| ≤ 2^-53 in the normal range, absolute 2^-1075 below), numbers
  `k * 2^E` with k ≤ 2^53, E ≥ -1074 below 2^1024 are fixed points, results are such numbers.
  (Mathlib comes in here, for its arithmetic tactics, `zpow` and the floor lemmas; the model files, which the
  driver runs, are core Lean.)
-/
import IgrisModel.C13.Model
import Mathlib.Tactic.Linarith
import Mathlib.Tactic.Positivity
import Mathlib.Tactic.Ring
import Mathlib.Tactic.FieldSimp
import Mathlib.Tactic.NormNum
import Mathlib.Tactic.SplitIfs
import Mathlib.Data.Rat.Floor
import Mathlib.Algebra.Order.Floor.Ring
namespace Igris.C13

theorem ratFloor_eq (q : ℚ) : q.floor = ⌊q⌋ := rfl

theorem flr_nonneg {m : ℚ} (h : 0 ≤ m) : 0 ≤ FV.flr m := by
  unfold FV.flr
  have : (0 : ℤ) ≤ m.floor := Rat.le_floor_iff.mpr (by exact_mod_cast h)
  exact_mod_cast this

theorem flr_le (m : ℚ) : FV.flr m ≤ m := Rat.floor_le m

theorem lt_flr_add_one (m : ℚ) : m < FV.flr m + 1 := by
  have := Rat.lt_floor_add_one m; unfold FV.flr; push_cast at this; exact this

theorem flr_natCast (i : ℕ) : FV.flr (i : ℚ) = i := by
  unfold FV.flr
  have := Rat.floor_intCast (i : ℤ)
  rw [Int.cast_natCast] at this
  rw [this, Int.cast_natCast]

theorem flr_eq_nat {x : ℚ} {k : ℕ} (h1 : (k : ℚ) ≤ x) (h2 : x < k + 1) : FV.flr x = k := by
  unfold FV.flr
  rw [ratFloor_eq]
  have : ⌊x⌋ = (k : ℤ) := by
    rw [Int.floor_eq_iff]; push_cast; exact ⟨h1, h2⟩
  rw [this]; simp

theorem flr_nat_exists {x : ℚ} (h0 : 0 ≤ x) : ∃ k : ℕ, FV.flr x = k := by
  have := flr_nonneg h0
  unfold FV.flr at *
  have h : (0 : ℤ) ≤ x.floor := by exact_mod_cast this
  obtain ⟨n, hn⟩ := Int.eq_ofNat_of_zero_le h
  exact ⟨n, by rw [hn]; simp⟩

theorem flr_nat_lt {x : ℚ} (h0 : 0 ≤ x) {n : ℕ} (h : x < n) : ∃ k : ℕ, FV.flr x = k ∧ k < n := by
  obtain ⟨k, hk⟩ := flr_nat_exists h0
  have : (k : ℚ) < n := by rw [← hk]; exact lt_of_le_of_lt (flr_le x) h
  exact ⟨k, hk, by exact_mod_cast this⟩

theorem flr_ge_iff (x : ℚ) (k : ℕ) : FV.flr x ≥ (k : ℚ) ↔ (k : ℚ) ≤ x := by
  unfold FV.flr
  constructor
  · intro h; exact le_trans h (Rat.floor_le x)
  · intro h
    have : (k : ℤ) ≤ x.floor := Rat.le_floor_iff.mpr (by exact_mod_cast h)
    exact_mod_cast this

theorem flr_eq_zero_iff {x : ℚ} (h0 : 0 ≤ x) : FV.flr x = 0 ↔ x < 1 := by
  constructor
  · intro h; have := lt_flr_add_one x; rw [h] at this; linarith
  · intro h
    have := flr_eq_nat (k := 0) (by exact_mod_cast h0) (by push_cast; linarith only [h])
    exact_mod_cast this

theorem flr_zero : FV.flr 0 = 0 := (flr_eq_zero_iff (le_refl 0)).mpr (by norm_num)

theorem pow2_eq (e : ℤ) : pow2 e = (2 : ℚ) ^ e := by
  unfold pow2
  split
  · rename_i h
    obtain ⟨n, rfl⟩ := Int.eq_ofNat_of_zero_le h
    simp
  · rename_i h
    have h' : e < 0 := by omega
    obtain ⟨n, hn⟩ := Int.exists_eq_neg_ofNat (le_of_lt h')
    subst hn
    simp

theorem pow2_pos (e : ℤ) : 0 < pow2 e := by rw [pow2_eq]; exact zpow_pos (by norm_num) e

theorem pow2_add (a b : ℤ) : pow2 (a + b) = pow2 a * pow2 b := by
  simp only [pow2_eq]; exact zpow_add₀ (by norm_num) a b

theorem pow2_succ (a : ℤ) : pow2 (a + 1) = 2 * pow2 a := by
  rw [pow2_add, mul_comm]; congr 1

theorem pow2_mono {a b : ℤ} (h : a ≤ b) : pow2 a ≤ pow2 b := by
  simp only [pow2_eq]; exact zpow_le_zpow_right₀ (by norm_num) h

theorem pow2_lt {a b : ℤ} (h : a < b) : pow2 a < pow2 b := by
  simp only [pow2_eq]; exact zpow_lt_zpow_right₀ (by norm_num) h

theorem pow2_nat (n : ℕ) : pow2 (n : ℤ) = (2 : ℚ) ^ n := by rw [pow2_eq]; simp

theorem pow2_53 : pow2 53 = (2 : ℚ) ^ 53 := pow2_nat 53

theorem pow2_52 : pow2 52 = (2 : ℚ) ^ 52 := pow2_nat 52

theorem pow2_zero : pow2 0 = 1 := by rw [pow2_eq]; simp

theorem ilog2_spec {q : ℚ} (hq : 0 < q) : pow2 (ilog2 q) ≤ q ∧ q < pow2 (ilog2 q + 1) := by
  have hnum : 0 < q.num := Rat.num_pos.mpr hq
  obtain ⟨n, hn⟩ := Int.eq_ofNat_of_zero_le (le_of_lt hnum)
  have hn0 : n ≠ 0 := by
    intro h; rw [h] at hn
    have : q.num = 0 := by exact_mod_cast hn
    omega
  have hd0 : q.den ≠ 0 := q.den_nz
  have h1 := Nat.log2_self_le hn0
  have h2 := Nat.lt_log2_self (n := n)
  have h3 := Nat.log2_self_le hd0
  have h4 := Nat.lt_log2_self (n := q.den)
  have hmul : q * (q.den : ℚ) = (n : ℚ) := by
    have := Rat.mul_den_eq_num q
    rw [this, hn, Int.cast_natCast]
  have hdp : (0 : ℚ) < q.den := by exact_mod_cast Nat.pos_of_ne_zero hd0
  have b1 : (2 : ℚ) ^ n.log2 ≤ n := by exact_mod_cast h1
  have b2 : (n : ℚ) < 2 ^ (n.log2 + 1) := by exact_mod_cast h2
  have b3 : (2 : ℚ) ^ q.den.log2 ≤ q.den := by exact_mod_cast h3
  have b4 : (q.den : ℚ) < 2 ^ (q.den.log2 + 1) := by exact_mod_cast h4
  have hlow : pow2 ((n.log2 : ℤ) - (q.den.log2 : ℤ) - 1) ≤ q := by
    have e1 : pow2 ((n.log2 : ℤ) - (q.den.log2 : ℤ) - 1) * (2 : ℚ) ^ (q.den.log2 + 1) = 2 ^ n.log2 := by
      rw [← pow2_nat, ← pow2_nat, ← pow2_add]; congr 1; push_cast; ring
    have hp : 0 < pow2 ((n.log2 : ℤ) - (q.den.log2 : ℤ) - 1) := pow2_pos _
    refine le_of_mul_le_mul_right ?_ hdp
    rw [hmul]
    calc pow2 ((n.log2 : ℤ) - (q.den.log2 : ℤ) - 1) * (q.den : ℚ)
        ≤ pow2 ((n.log2 : ℤ) - (q.den.log2 : ℤ) - 1) * 2 ^ (q.den.log2 + 1) :=
          mul_le_mul_of_nonneg_left (le_of_lt b4) (le_of_lt hp)
      _ = 2 ^ n.log2 := e1
      _ ≤ n := b1
  have hhigh : q < pow2 ((n.log2 : ℤ) - (q.den.log2 : ℤ) + 1) := by
    have e1 : pow2 ((n.log2 : ℤ) - (q.den.log2 : ℤ) + 1) * (2 : ℚ) ^ q.den.log2 = 2 ^ (n.log2 + 1) := by
      rw [← pow2_nat, ← pow2_nat, ← pow2_add]; congr 1; push_cast; ring
    have hp : 0 < pow2 ((n.log2 : ℤ) - (q.den.log2 : ℤ) + 1) := pow2_pos _
    refine lt_of_mul_lt_mul_right ?_ (le_of_lt hdp)
    rw [hmul]
    calc (n : ℚ) < 2 ^ (n.log2 + 1) := b2
      _ = pow2 ((n.log2 : ℤ) - (q.den.log2 : ℤ) + 1) * 2 ^ q.den.log2 := e1.symm
      _ ≤ pow2 ((n.log2 : ℤ) - (q.den.log2 : ℤ) + 1) * (q.den : ℚ) :=
          mul_le_mul_of_nonneg_left b3 (le_of_lt hp)
  unfold ilog2
  have hnn : q.num.toNat = n := by rw [hn]; simp
  simp only [hnn]
  split
  · rename_i h
    exact ⟨h, hhigh⟩
  · rename_i h
    refine ⟨hlow, ?_⟩
    have : (n.log2 : ℤ) - (q.den.log2 : ℤ) - 1 + 1 = (n.log2 : ℤ) - (q.den.log2 : ℤ) := by ring
    rw [this]
    exact lt_of_not_ge h

theorem ilog2_unique {q : ℚ} {e : ℤ} (h1 : pow2 e ≤ q) (h2 : q < pow2 (e + 1)) : ilog2 q = e := by
  have hq : 0 < q := lt_of_lt_of_le (pow2_pos e) h1
  obtain ⟨a, b⟩ := ilog2_spec hq
  by_contra hne
  rcases lt_or_gt_of_ne hne with h | h
  · have : pow2 (ilog2 q + 1) ≤ pow2 e := pow2_mono (by omega)
    linarith
  · have : pow2 (e + 1) ≤ pow2 (ilog2 q) := pow2_mono (by omega)
    linarith

/-- exponent of the last place: 53-bit significand, smallest denormal `2^-1074` -/
def ulpExp (q : ℚ) : ℤ := max (ilog2 q - 52) (-1074)

/-- the integer significand chosen by `rnd64` (round half to even of q / 2^E) -/
def sig64 (q : ℚ) : ℤ :=
  let s := q / pow2 (ulpExp q)
  let f : ℤ := s.floor
  let r := s - (f : ℚ)
  if r < 1 / 2 then f else if r > 1 / 2 then f + 1 else if f % 2 = 0 then f else f + 1

theorem rnd64_eq {q : ℚ} (hq : 0 < q) :
    rnd64 q = if (sig64 q : ℚ) * pow2 (ulpExp q) ≥ pow2 1024 then none else some ((sig64 q : ℚ) * pow2 (ulpExp q)) := by
  unfold rnd64 sig64 ulpExp
  simp only [not_le.mpr hq, if_false]

theorem rnd64_some {q v : ℚ} (hq : 0 < q) (h : rnd64 q = some v) :
    v = (sig64 q : ℚ) * pow2 (ulpExp q) ∧ v < pow2 1024 := by
  rw [rnd64_eq hq] at h
  split at h
  · simp at h
  · rename_i hlt
    simp at h
    exact ⟨h.symm, by rw [← h]; exact lt_of_not_ge hlt⟩

theorem sig64_near (q : ℚ) : |(sig64 q : ℚ) - q / pow2 (ulpExp q)| ≤ 1 / 2 := by
  unfold sig64
  generalize q / pow2 (ulpExp q) = s
  have h1 : ((s.floor : ℤ) : ℚ) ≤ s := Rat.floor_le s
  have h2 : s < (s.floor : ℚ) + 1 := by have := Rat.lt_floor_add_one s; push_cast at this; exact this
  have hlo : s - (s.floor : ℚ) ≤ 1 / 2 → |((s.floor : ℤ) : ℚ) - s| ≤ 1 / 2 := fun h => by
    rw [abs_le]; constructor <;> linarith
  have hhi : 1 / 2 ≤ s - (s.floor : ℚ) → |((s.floor + 1 : ℤ) : ℚ) - s| ≤ 1 / 2 := fun h => by
    push_cast; rw [abs_le]; constructor <;> linarith
  by_cases c1 : s - (s.floor : ℚ) < 1 / 2
  · simp only [c1, if_true]; exact hlo (le_of_lt c1)
  · simp only [c1, if_false]
    by_cases c2 : s - (s.floor : ℚ) > 1 / 2
    · simp only [c2, if_true]; exact hhi (le_of_lt c2)
    · simp only [c2, if_false]
      by_cases c3 : s.floor % 2 = 0
      · simp only [c3, if_true]; exact hlo (not_lt.mp c2)
      · simp only [c3, if_false]; exact hhi (not_lt.mp c1)

theorem sig64_nonneg {q : ℚ} (hq : 0 ≤ q) : 0 ≤ sig64 q := by
  have hs0 : 0 ≤ q / pow2 (ulpExp q) := div_nonneg hq (le_of_lt (pow2_pos _))
  have hf : (0 : ℤ) ≤ (q / pow2 (ulpExp q)).floor := Rat.le_floor_iff.mpr (by exact_mod_cast hs0)
  unfold sig64
  dsimp only
  split_ifs <;> omega

theorem rnd64_err {q v : ℚ} (hq : 0 < q) (h : rnd64 q = some v) :
    |v - q| ≤ pow2 (ulpExp q) / 2 := by
  obtain ⟨rfl, _⟩ := rnd64_some hq h
  have hp := pow2_pos (ulpExp q)
  have := sig64_near q
  have e : (sig64 q : ℚ) * pow2 (ulpExp q) - q = ((sig64 q : ℚ) - q / pow2 (ulpExp q)) * pow2 (ulpExp q) := by
    field_simp
  rw [e, abs_mul, abs_of_pos hp]
  calc |(sig64 q : ℚ) - q / pow2 (ulpExp q)| * pow2 (ulpExp q) ≤ 1 / 2 * pow2 (ulpExp q) :=
        mul_le_mul_of_nonneg_right this (le_of_lt hp)
    _ = pow2 (ulpExp q) / 2 := by ring

theorem rnd64_rel {q v : ℚ} (hq : pow2 (-1022) ≤ q) (h : rnd64 q = some v) :
    |v - q| ≤ q * pow2 (-53) := by
  have hq0 : 0 < q := lt_of_lt_of_le (pow2_pos _) hq
  have he := rnd64_err hq0 h
  obtain ⟨a, b⟩ := ilog2_spec hq0
  have hlog : -1022 ≤ ilog2 q := by
    by_contra hc
    have : pow2 (ilog2 q + 1) ≤ pow2 (-1022) := pow2_mono (by omega)
    linarith
  have hE : ulpExp q = ilog2 q - 52 := by unfold ulpExp; omega
  rw [hE] at he
  have : pow2 (ilog2 q - 52) / 2 = pow2 (ilog2 q) * pow2 (-53) := by
    have : ilog2 q - 52 = ilog2 q + (-53) + 1 := by ring
    rw [this, pow2_succ, pow2_add]; ring
  rw [this] at he
  have hp := pow2_pos (-53)
  calc |v - q| ≤ pow2 (ilog2 q) * pow2 (-53) := he
    _ ≤ q * pow2 (-53) := mul_le_mul_of_nonneg_right a (le_of_lt hp)

theorem rnd64_abs {q v : ℚ} (hq : 0 < q) (h : rnd64 q = some v) :
    |v - q| ≤ max (q * pow2 (-53)) (pow2 (-1075)) := by
  by_cases hn : pow2 (-1022) ≤ q
  · exact le_trans (rnd64_rel hn h) (le_max_left _ _)
  · have he := rnd64_err hq h
    obtain ⟨a, b⟩ := ilog2_spec hq
    have hlog : ilog2 q < -1022 := by
      by_contra hc
      have : pow2 (-1022) ≤ pow2 (ilog2 q) := pow2_mono (by omega)
      linarith
    have hE : ulpExp q = -1074 := by unfold ulpExp; omega
    rw [hE] at he
    have : pow2 (-1074) / 2 = pow2 (-1075) := by
      have : (-1074 : ℤ) = -1075 + 1 := by ring
      rw [this, pow2_succ]; ring
    rw [this] at he
    exact le_trans he (le_max_right _ _)

theorem rnd64_zero_of_nonpos {q v : ℚ} (hq : ¬ 0 < q) (h : rnd64 q = some v) : v = 0 := by
  unfold rnd64 at h
  simp only [not_lt.mp hq, if_true] at h
  simp at h; exact h.symm

theorem rnd64_nonneg {q v : ℚ} (h : rnd64 q = some v) : 0 ≤ v := by
  by_cases hq : 0 < q
  · obtain ⟨rfl, _⟩ := rnd64_some hq h
    have hp := pow2_pos (ulpExp q)
    have hs : (0 : ℚ) ≤ sig64 q := by exact_mod_cast sig64_nonneg (le_of_lt hq)
    positivity
  · exact (rnd64_zero_of_nonpos hq h).ge

theorem rnd64_fix {k : ℕ} {E : ℤ} (hk : k ≤ 2 ^ 53) (hE : -1074 ≤ E) (hlt : (k : ℚ) * pow2 E < pow2 1024) :
    rnd64 ((k : ℚ) * pow2 E) = some ((k : ℚ) * pow2 E) := by
  by_cases hk0 : k = 0
  · subst hk0; simp [rnd64]
  have hkp : (0 : ℚ) < k := by exact_mod_cast Nat.pos_of_ne_zero hk0
  have hq : 0 < (k : ℚ) * pow2 E := mul_pos hkp (pow2_pos E)
  generalize hqd' : (k : ℚ) * pow2 E = q at hlt hq ⊢
  have hqd := hqd'.symm
  obtain ⟨a, b⟩ := ilog2_spec hq
  -- `q` is an integer multiple of its own last place `2^(ulpExp q)` (`hint`), so the significand `rnd64` rounds is
  -- an integer already: `ilog2 q ≤ 52 + E` and the place is at most `E`, or `k = 2^53`, `ilog2 q = 53 + E` and it is `E + 1`
  have hkle : (k : ℚ) ≤ 2 ^ 53 := by exact_mod_cast hk
  have hle : ilog2 q ≤ 53 + E := by
    by_contra hc
    have h1 : pow2 (53 + E + 1) ≤ pow2 (ilog2 q) := pow2_mono (by omega)
    have h2 : q ≤ pow2 (53 + E) := by
      rw [pow2_add, hqd, pow2_53]
      exact mul_le_mul_of_nonneg_right hkle (le_of_lt (pow2_pos E))
    have h3 : pow2 (53 + E) < pow2 (53 + E + 1) := pow2_lt (by omega)
    linarith
  have hcase : ulpExp q ≤ E ∨ (ulpExp q = E + 1 ∧ k = 2 ^ 53) := by
    by_cases h53 : ilog2 q = 53 + E
    · right
      constructor
      · unfold ulpExp; omega
      · -- q ≥ 2^(53+E) forces k ≥ 2^53
        rw [h53, pow2_add, hqd] at a
        have : pow2 53 ≤ (k : ℚ) := le_of_mul_le_mul_right a (pow2_pos E)
        rw [pow2_53] at this
        have : 2 ^ 53 ≤ k := by exact_mod_cast this
        omega
    · left; unfold ulpExp; omega
  have hint : ∃ m : ℕ, q / pow2 (ulpExp q) = (m : ℚ) := by
    rcases hcase with h | ⟨h, hk2⟩
    · obtain ⟨d, hd⟩ := Int.eq_ofNat_of_zero_le (show 0 ≤ E - ulpExp q by omega)
      refine ⟨k * 2 ^ d, ?_⟩
      have : pow2 E = pow2 (ulpExp q) * pow2 (E - ulpExp q) := by rw [← pow2_add]; congr 1; ring
      have hp := pow2_pos (ulpExp q)
      rw [div_eq_iff (ne_of_gt hp)]
      calc q = (k : ℚ) * pow2 E := hqd
        _ = (k : ℚ) * (pow2 (ulpExp q) * pow2 (E - ulpExp q)) := by rw [← this]
        _ = ((k * 2 ^ d : ℕ) : ℚ) * pow2 (ulpExp q) := by rw [hd, pow2_nat]; push_cast; ring
    · refine ⟨2 ^ 52, ?_⟩
      have hp := pow2_pos E
      rw [h, pow2_succ, div_eq_iff (by positivity)]
      calc q = (k : ℚ) * pow2 E := hqd
        _ = ((2 ^ 52 : ℕ) : ℚ) * (2 * pow2 E) := by rw [hk2]; push_cast; ring
  obtain ⟨m, hm⟩ := hint
  have hsig : sig64 q = (m : ℤ) := by
    have hf : ((m : ℚ)).floor = (m : ℤ) := by exact_mod_cast Rat.floor_intCast (m : ℤ)
    unfold sig64
    simp only [hm, hf]
    simp
  rw [rnd64_eq hq, hsig]
  have hv : ((m : ℤ) : ℚ) * pow2 (ulpExp q) = q := by
    have hp := pow2_pos (ulpExp q)
    have : (m : ℚ) = q / pow2 (ulpExp q) := hm.symm
    push_cast
    rw [this]; field_simp
  rw [hv]
  simp only [ge_iff_le, not_le.mpr hlt, if_false]

theorem rnd64_form {q v : ℚ} (hq : 0 < q) (h : rnd64 q = some v) :
    ∃ k : ℕ, k ≤ 2 ^ 53 ∧ v = (k : ℚ) * pow2 (ulpExp q) ∧ v < pow2 1024 := by
  obtain ⟨hv, hlt⟩ := rnd64_some hq h
  obtain ⟨a, b⟩ := ilog2_spec hq
  have hp := pow2_pos (ulpExp q)
  have hs : q / pow2 (ulpExp q) < 2 ^ 53 := by
    rw [div_lt_iff₀ hp]
    have h1 : pow2 (ilog2 q + 1) ≤ pow2 (53 + ulpExp q) := pow2_mono (by unfold ulpExp; omega)
    have h2 : pow2 (53 + ulpExp q) = 2 ^ 53 * pow2 (ulpExp q) := by rw [pow2_add, pow2_53]
    linarith
  have hn := sig64_near q
  rw [abs_le] at hn
  have hsig : (sig64 q : ℚ) < 2 ^ 53 + 1 := by linarith [hn.2]
  have hsig' : sig64 q < 2 ^ 53 + 1 := by exact_mod_cast hsig
  obtain ⟨k, hk⟩ := Int.eq_ofNat_of_zero_le (sig64_nonneg (le_of_lt hq))
  exact ⟨k, by omega, by rw [hv, hk]; simp, hlt⟩

theorem dyadic_nat (k : ℕ) {E : ℤ} (hE : 0 ≤ E) : ∃ m : ℕ, (k : ℚ) * pow2 E = m := by
  obtain ⟨n, rfl⟩ := Int.eq_ofNat_of_zero_le hE
  exact ⟨k * 2 ^ n, by rw [pow2_nat]; push_cast; ring⟩

theorem dyadic_floor (k n : ℕ) :
    FV.flr ((k : ℚ) * pow2 (-(n : ℤ))) = ((k / 2 ^ n : ℕ) : ℚ) ∧
    (k : ℚ) * pow2 (-(n : ℤ)) - ((k / 2 ^ n : ℕ) : ℚ) = ((k % 2 ^ n : ℕ) : ℚ) * pow2 (-(n : ℤ)) := by
  have hp2 : pow2 (-(n : ℤ)) = 1 / ((2 ^ n : ℕ) : ℚ) := by rw [pow2_eq, zpow_neg]; simp
  have hpos : (0 : ℚ) < ((2 ^ n : ℕ) : ℚ) := by positivity
  have hk : (k : ℚ) = ((2 ^ n : ℕ) : ℚ) * ((k / 2 ^ n : ℕ) : ℚ) + ((k % 2 ^ n : ℕ) : ℚ) := by
    exact_mod_cast (Nat.div_add_mod k (2 ^ n)).symm
  constructor
  · unfold FV.flr
    rw [hp2, mul_one_div, ratFloor_eq, Rat.floor_natCast_div_natCast]; norm_cast
  · rw [hp2]
    generalize ((k / 2 ^ n : ℕ) : ℚ) = a at hk ⊢
    generalize ((k % 2 ^ n : ℕ) : ℚ) = b at hk ⊢
    generalize ((2 ^ n : ℕ) : ℚ) = D at hk hpos ⊢
    rw [hk]; field_simp; ring

theorem ilog2_nonneg_of_one_le {v : ℚ} (h : 1 ≤ v) : 0 ≤ ilog2 v := by
  obtain ⟨_, b⟩ := ilog2_spec (lt_of_lt_of_le one_pos h)
  by_contra hc
  have : pow2 (ilog2 v + 1) ≤ pow2 0 := pow2_mono (by omega)
  rw [pow2_zero] at this
  linarith

/-- a positive binary64 value is a natural number, or its last place is below the units and then it is below `2^52` -/
theorem rnd64_rep {v : ℚ} (hvp : 0 < v) (h : rnd64 v = some v) :
    (∃ m : ℕ, v = m) ∨ ∃ k n : ℕ, 1 ≤ n ∧ n ≤ 1074 ∧ k ≤ 2 ^ 53 ∧ v = (k : ℚ) * pow2 (-(n : ℤ)) ∧ v < pow2 52 ∧
      (1 ≤ v → n ≤ 52) := by
  obtain ⟨k, hk, hv, _⟩ := rnd64_form hvp h
  by_cases hE : 0 ≤ ulpExp v
  · obtain ⟨m, hm⟩ := dyadic_nat k hE
    exact Or.inl ⟨m, by rw [hv, hm]⟩
  · right
    obtain ⟨n, hn⟩ := Int.eq_ofNat_of_zero_le (show 0 ≤ -ulpExp v by omega)
    have hE' : ulpExp v = -(n : ℤ) := by omega
    obtain ⟨_, b⟩ := ilog2_spec hvp
    refine ⟨k, n, by omega, by unfold ulpExp at hE'; omega, hk, by rw [← hE']; exact hv, ?_, fun h1 => ?_⟩
    · exact lt_of_lt_of_le b (pow2_mono (by unfold ulpExp at hE'; omega))
    · have := ilog2_nonneg_of_one_le h1
      unfold ulpExp at hE'; omega

theorem rnd64_nonint_lt {v : ℚ} (h : rnd64 v = some v) (hni : FV.flr v ≠ v) : v < 2 ^ 52 := by
  have hvp : 0 < v := by
    by_contra hc
    apply hni; rw [rnd64_zero_of_nonpos hc h]; exact flr_natCast 0
  rcases rnd64_rep hvp h with ⟨m, rfl⟩ | ⟨k, n, _, _, _, _, hlt, _⟩
  · exact absurd (flr_natCast m) hni
  · rwa [pow2_52] at hlt

end Igris.C13
